import Hertz.Proofs.PathSpec
import Hertz.Proofs.Bytesconv
/-!
# `normalizePath = Spec.normalize`

Every phase of `normalizePath` acts on the list of slash-free segments (`Hertz/Proofs/PathSpec.lean`) in a way that
the stack machine `Spec.resolve` cannot see, and the last phase lands exactly on the stack machine's answer.  The
containment facts about `normalizePath` follow from the equality, since the reference is contained.
-/
namespace Hertz.PathSeg
open Hertz Hertz.Spec

theorem copies_sf {f : Bytes → Bytes} (hf : ∀ c t, c ≠ 47 → f (c :: t) = c :: f t) :
    ∀ (s y : Bytes), 47 ∉ s → f (s ++ y) = s ++ f y
  | [], _, _ => rfl
  | c :: s', y, h => by
    rw [List.cons_append, hf c _ (fun e => h (by simp [e])), copies_sf hf s' y (fun hm => h (by simp [hm]))]
    rfl

theorem copies_sf_self {f : Bytes → Bytes} (hf : ∀ c t, c ≠ 47 → f (c :: t) = c :: f t) (h0 : f [] = [])
    (s : Bytes) (h : 47 ∉ s) : f s = s := by
  have := copies_sf hf s [] h
  rwa [h0, List.append_nil] at this

theorem not_prefix_of_sf {p s : Bytes} (hp : 47 ∈ p) (hs : 47 ∉ s) : ¬ p <+: s :=
  fun h => hs (h.subset hp)

/-! ### phases 1 and 2: `//` and `/./` -/

/-- segment view of the first two loops: the segments equal to `d` (empty, then `.`) go, except the last one -/
def dropSeg (d : Bytes) : List Bytes → List Bytes
  | [] => []
  | [l] => [l]
  | s :: s2 :: rest => if s = d then dropSeg d (s2 :: rest) else s :: dropSeg d (s2 :: rest)

theorem dropSeg_ne_nil (d : Bytes) (segs : List Bytes) (h : segs ≠ []) : dropSeg d segs ≠ [] := by
  fun_induction dropSeg d segs with
  | case1 => exact h
  | case2 | case4 => nofun
  | case3 _ _ ih => exact ih nofun

theorem dropSeg_sub {d : Bytes} {segs : List Bytes} {x : Bytes} (h : x ∈ dropSeg d segs) : x ∈ segs := by
  fun_induction dropSeg d segs with
  | case1 | case2 => exact h
  | case3 _ _ ih => exact List.mem_cons_of_mem _ (ih h)
  | case4 _ _ _ _ ih =>
    exact (List.mem_cons.mp h).elim (fun e => e ▸ List.mem_cons_self) fun e => List.mem_cons_of_mem _ (ih e)

theorem dropSeg_inner (d : Bytes) (segs : List Bytes) (x : Bytes) (h : x ∈ (dropSeg d segs).dropLast) :
    x ≠ d ∧ x ∈ segs.dropLast := by
  fun_induction dropSeg d segs with
  | case1 | case2 => cases h
  | case3 s2 rest ih => exact ⟨(ih h).1, List.mem_cons_of_mem _ (ih h).2⟩
  | case4 s s2 rest he ih =>
    rw [List.dropLast_cons_of_ne_nil (dropSeg_ne_nil d _ (List.cons_ne_nil _ _))] at h
    rcases List.mem_cons.mp h with e | e
    · rw [e]; exact ⟨he, List.mem_cons_self⟩
    · exact ⟨(ih e).1, List.mem_cons_of_mem _ (ih e).2⟩

/-- a pass that copies its input, except that it deletes `/d` in front of a slash, acts as `dropSeg d` on segments -/
theorem pass_render {f : Bytes → Bytes} {d : Bytes} (hd : 47 ∉ d)
    (hcopy : ∀ c t, c ≠ 47 → f (c :: t) = c :: f t) (h0 : f [] = [])
    (hcut : ∀ y, f (47 :: d ++ 47 :: y) = f (47 :: y))
    (hkeep : ∀ t, ¬ (d ++ [47]) <+: t → f (47 :: t) = 47 :: f t)
    (segs : List Bytes) (hne : segs ≠ []) (hsf : SF segs) : f (render segs) = render (dropSeg d segs) := by
  fun_induction dropSeg d segs with
  | case1 => exact absurd rfl hne
  | case2 l =>
    have hl := (SF_cons hsf).1
    rw [render_single, hkeep _ (not_prefix_of_sf (by simp) hl), copies_sf_self hcopy h0 _ hl]
  | case3 s2 rest ih =>
    obtain ⟨y, hy⟩ := render_head s2 rest
    rw [render_cons, ← ih nofun (SF_cons hsf).2, hy, hcut]
  | case4 s s2 rest he ih =>
    have hs := (SF_cons hsf).1
    obtain ⟨y, hy⟩ := render_head s2 rest
    rw [render_cons s, render_cons s, ← ih nofun (SF_cons hsf).2, List.cons_append, hkeep, copies_sf hcopy _ _ hs]
    · rfl
    · rw [hy]; exact fun hp => he (eq_of_prefix_slash hd hs hp)

theorem collapse_cons_ne (c : UInt8) (t : Bytes) (hc : c ≠ 47) :
    collapseSlashes (c :: t) = c :: collapseSlashes t := by
  match t with
  | [] => simp [collapseSlashes]
  | d :: t' => simp [collapseSlashes, hc]

theorem collapse_render (segs : List Bytes) (hne : segs ≠ []) (hsf : SF segs) :
    collapseSlashes (render segs) = render (dropSeg [] segs) :=
  pass_render (by simp) collapse_cons_ne rfl (fun y => by simp [collapseSlashes])
    (fun t ht => by
      match t with
      | [] => rfl
      | x :: t' => simp only [collapseSlashes]; rw [if_neg]; rintro ⟨_, rfl⟩; exact ht ⟨t', rfl⟩)
    segs hne hsf

theorem cutDot_cons_ne (c : UInt8) (t : Bytes) (hc : c ≠ 47) :
    cutDotSlash (c :: t) = c :: cutDotSlash t := by
  match t with
  | [] => simp [cutDotSlash]
  | [d] => simp [cutDotSlash]
  | d :: e :: t' => simp [cutDotSlash, hc]

theorem cutDot_slash (t : Bytes) (h : ¬ [46, 47] <+: t) : cutDotSlash (47 :: t) = 47 :: cutDotSlash t := by
  match t with
  | [] => simp [cutDotSlash]
  | [d] => simp [cutDotSlash]
  | d :: e :: t' =>
    simp only [cutDotSlash]
    rw [if_neg]
    intro hm
    apply h
    rw [hm.2.1, hm.2.2]
    exact ⟨t', rfl⟩

theorem cutDot_render (segs : List Bytes) (hne : segs ≠ []) (hsf : SF segs) :
    cutDotSlash (render segs) = render (dropSeg dot segs) :=
  pass_render (by decide) cutDot_cons_ne rfl (fun y => by simp [cutDotSlash, dot]) cutDot_slash segs hne hsf

theorem resolve_dropSeg {d : Bytes} (hd : d.isEmpty ∨ d = dot) (st segs : List Bytes) :
    resolve st (dropSeg d segs) = resolve st segs := by
  fun_induction dropSeg d segs generalizing st with
  | case1 | case2 => rfl
  | case3 s2 rest ih => rw [ih, resolve_cons st d _ (List.cons_ne_nil _ _), if_pos hd]
  | case4 s s2 rest _ ih =>
    rw [resolve_cons st s _ (dropSeg_ne_nil d _ (List.cons_ne_nil _ _)),
      resolve_cons st s (s2 :: rest) (List.cons_ne_nil _ _), ih, ih, ih]

/-- what the first two phases establish: no empty and no `.` segment except possibly the last -/
def Inv (segs : List Bytes) : Prop := ∀ s ∈ segs.dropLast, s ≠ [] ∧ s ≠ dot

theorem phases12_inv (segs : List Bytes) : Inv (dropSeg dot (dropSeg [] segs)) := by
  intro x hx
  obtain ⟨h1, h2⟩ := dropSeg_inner dot _ x hx
  exact ⟨(dropSeg_inner [] segs x h2).1, h1⟩

/-! ### phase 3: `/../` -/

theorem beforeLastSlash_render (pre : List Bytes) (hsf : SF pre) :
    beforeLastSlash (render pre) = render pre.dropLast := by
  rcases List.eq_nil_or_concat pre with rfl | ⟨p', s, rfl⟩
  · rfl
  · rw [List.concat_eq_append] at hsf ⊢
    rw [List.dropLast_concat, beforeLastSlash, render_concat, dropWhile_reverse_sf _ s (hsf s (by simp))]
    simp

/-- one iteration of the third loop at the first `..` segment that is not the last: that segment goes, and the one
before it -/
theorem stepDDS_render {pre after : List Bytes} (hsf : SF (pre ++ dotdot :: after)) (hne : after ≠ [])
    (hdd : dotdot ∉ pre) : stepDDS (render (pre ++ dotdot :: after)) = some (render (pre.dropLast ++ after)) := by
  obtain ⟨s2, rest, rfl⟩ := List.exists_cons_of_ne_nil hne
  obtain ⟨y, hy⟩ := render_head s2 rest
  have hpre : SF pre := fun x hx => hsf x (by simp [hx])
  -- no `/../` before this one: it would be a `..` segment in `pre`
  have hleft : ¬ DDS <:+: render pre ++ [47, 46, 46] := fun hi => by
    have := (infix_render_iff (mid := dotdot) (by decide) (pre ++ [dotdot])
      (fun x hx => hsf x (by simp at hx ⊢; exact hx.imp id Or.inl))).mp (by rw [render_concat]; exact hi)
    rw [List.dropLast_concat] at this
    exact hdd this
  rw [render_append, render_cons, hy, stepDDS, show render pre ++ (47 :: dotdot ++ 47 :: y) =
    render pre ++ 47 :: 46 :: 46 :: 47 :: y from rfl, splitDDS_leftmost _ _ hleft, Option.map_some,
    beforeLastSlash_render pre hpre, render_append, hy]

theorem dotdot_split {segs : List Bytes} (hm : dotdot ∈ segs.dropLast) :
    ∃ pre after, segs = pre ++ dotdot :: after ∧ after ≠ [] ∧ dotdot ∉ pre := by
  have hne : segs ≠ [] := by rintro rfl; cases hm
  obtain ⟨pre, rest, e, hdd⟩ := List.eq_append_cons_of_mem hm
  refine ⟨pre, rest ++ [segs.getLast hne], ?_, by simp, hdd⟩
  rw [← List.cons_append, ← List.append_assoc, ← e, List.dropLast_concat_getLast]

theorem dotdot_of_stepDDS {segs : List Bytes} {b' : Bytes} (hsf : SF segs) (h : stepDDS (render segs) = some b') :
    dotdot ∈ segs.dropLast := by
  obtain ⟨⟨p, r⟩, hs, _⟩ := Option.map_eq_some_iff.mp h
  exact (infix_render_iff (mid := dotdot) (by decide) segs hsf).mp (splitDDS_infix hs)

theorem resolve_push_all : ∀ (pre st x : List Bytes), (∀ s ∈ pre, Plain s) → x ≠ [] →
    resolve st (pre ++ x) = resolve (pre.reverse ++ st) x
  | [], _, _, _, _ => by simp
  | s :: pre', st, x, hg, hx => by
    obtain ⟨h1, h2, h3⟩ := hg s (by simp)
    rw [List.cons_append, resolve_cons st s _ (by simp [hx]), if_neg (by simp [h1, h2]), if_neg h3,
      resolve_push_all pre' (s :: st) x (fun y hy => hg y (by simp [hy])) hx]
    simp

/-- in front of a later segment, what `Inv` leaves to exclude is `..` -/
theorem plain_of_inv {pre x : List Bytes} (hx : x ≠ []) (hinv : Inv (pre ++ x)) (hdd : dotdot ∉ pre) :
    ∀ s ∈ pre, Plain s := fun s hs =>
  have ⟨a, b⟩ := hinv s (by rw [List.dropLast_append_of_ne_nil hx]; exact List.mem_append_left _ hs)
  ⟨a, b, fun e => hdd (e ▸ hs)⟩

theorem step_facts {pre after : List Bytes} (hne : after ≠ []) (hdd : dotdot ∉ pre)
    (hsf : SF (pre ++ dotdot :: after)) (hinv : Inv (pre ++ dotdot :: after)) :
    SF (pre.dropLast ++ after) ∧ Inv (pre.dropLast ++ after) ∧
      resolve [] (pre.dropLast ++ after) = resolve [] (pre ++ dotdot :: after) := by
  have hdl : (pre ++ dotdot :: after).dropLast = pre ++ dotdot :: after.dropLast := by
    rw [List.dropLast_append_of_ne_nil (by simp), List.dropLast_cons_of_ne_nil hne]
  have hpre := plain_of_inv (List.cons_ne_nil _ _) hinv hdd
  refine ⟨?_, ?_, ?_⟩
  · intro x hx
    apply hsf x
    rcases List.mem_append.mp hx with m | m
    · exact List.mem_append_left _ (List.dropLast_subset _ m)
    · simp [m]
  · intro x hx
    rw [List.dropLast_append_of_ne_nil hne] at hx
    apply hinv x
    rw [hdl]
    rcases List.mem_append.mp hx with m | m
    · exact List.mem_append_left _ (List.dropLast_subset _ m)
    · simp [m]
  · rw [resolve_push_all _ [] after (fun s hs => hpre s (List.dropLast_subset _ hs)) hne,
      resolve_push_all pre [] _ hpre (by simp), resolve_cons _ _ _ hne,
      if_neg (by simp [dotdot, dot]), if_pos rfl]
    simp

theorem loop_segs : ∀ (fuel : Nat) (segs : List Bytes), segs ≠ [] → SF segs → Inv segs →
    ∃ segs', loopDDS fuel (render segs) = render segs' ∧ segs' ≠ [] ∧ SF segs' ∧ Inv segs' ∧
      resolve [] segs' = resolve [] segs
  | 0, segs, h1, h2, h3 => ⟨segs, rfl, h1, h2, h3, rfl⟩
  | f + 1, segs, h1, h2, h3 => by
    unfold loopDDS
    cases hs : stepDDS (render segs) with
    | none => exact ⟨segs, rfl, h1, h2, h3, rfl⟩
    | some b' =>
      obtain ⟨pre, after, rfl, hne, hdd⟩ := dotdot_split (dotdot_of_stepDDS h2 hs)
      rw [stepDDS_render h2 hne hdd] at hs
      cases hs
      obtain ⟨b, c, d⟩ := step_facts hne hdd h2 h3
      obtain ⟨segs', e1, e2, e3, e4, e5⟩ := loop_segs f (pre.dropLast ++ after) (by simp [hne]) b c
      exact ⟨segs', e1, e2, e3, e4, e5.trans d⟩

/-! ### last phase: trailing `/..` -/

theorem cutTrailing_render (segs : List Bytes) (hne : segs ≠ []) (hsf : SF segs) (hinv : Inv segs)
    (hdd : dotdot ∉ segs.dropLast) : cutTrailingDD (render segs) = render (resolve [] segs) := by
  rcases List.eq_nil_or_concat segs with rfl | ⟨pre, last, rfl⟩
  · exact absurd rfl hne
  rw [List.concat_eq_append] at *
  rw [List.dropLast_concat] at hdd
  have hpre := plain_of_inv (List.cons_ne_nil _ _) hinv hdd
  rw [resolve_push_all pre [] [last] hpre (by simp)]
  simp only [List.append_nil, resolve]
  by_cases hl : last = dotdot
  · subst hl
    rw [if_pos rfl, render_concat]
    unfold cutTrailingDD
    simp only [dotdot, List.reverse_append, List.reverse_cons, List.reverse_nil, List.nil_append, List.cons_append]
    rcases List.eq_nil_or_concat pre with rfl | ⟨p', s, rfl⟩
    · simp [render]
    · rw [List.concat_eq_append] at hsf ⊢
      rw [render_concat, dropWhile_reverse_sf _ s (hsf s (by simp))]
      simp [render_append, render_single]
  · rw [if_neg hl, List.reverse_reverse]
    refine cutTrailingDD_id _ fun h => hl ?_
    have := (suffix_render_iff (mid := dotdot) (by decide) _ hsf).mp h
    rwa [List.getLast?_concat, Option.some.injEq] at this

theorem resolve_strip (d : Bytes) :
    resolve [] (splitSlash (stripSlash d)) = resolve [] (splitSlash d) := by
  unfold stripSlash
  split
  · rename_i b
    simp only [splitSlash, if_true]
    rw [resolve_cons _ _ _ (splitSlash_ne_nil b)]
    simp
  · rfl

theorem slashDecode_body (src : Bytes) : ∃ body0, slashDecode src = 47 :: body0 ∧
    resolve [] (splitSlash body0) = resolve [] (splitSlash (stripSlash (decodeArgNoPlus src))) := by
  match src with
  | [] => exact ⟨[], by simp [slashDecode, decodeArgNoPlus], by simp [decodeArgNoPlus, stripSlash]⟩
  | c :: t =>
    by_cases hc : c = 47
    · subst hc
      have hd : decodeArgNoPlus (47 :: t) = 47 :: decodeSlow false t := by
        rw [decodeArgNoPlus_eq_slow, decodeSlow_plain _ _ _ (by decide) (by decide)]
      refine ⟨decodeSlow false t, by simp [slashDecode, hd], ?_⟩
      rw [hd]; rfl
    · refine ⟨decodeArgNoPlus (c :: t), by simp [slashDecode, hc], ?_⟩
      rw [resolve_strip]

theorem normalizePath_eq_reference (src : Bytes) : normalizePath src = Spec.normalize src := by
  rw [spec_normalize_eq]
  obtain ⟨body0, hb, hres⟩ := slashDecode_body src
  rw [← hres]
  have hr0 : slashDecode src = render (splitSlash body0) := by rw [hb, render_splitSlash]
  have hne0 := splitSlash_ne_nil body0
  have hsf0 := splitSlash_SF body0
  generalize splitSlash body0 = segs0 at *
  have hsf1 : SF (dropSeg [] segs0) := fun x hx => hsf0 x (dropSeg_sub hx)
  have hne1 := dropSeg_ne_nil [] segs0 hne0
  have hsf2 : SF (dropSeg dot (dropSeg [] segs0)) := fun x hx => hsf1 x (dropSeg_sub hx)
  have hne2 := dropSeg_ne_nil dot _ hne1
  have hb2 : cutDotSlash (collapseSlashes (slashDecode src)) = render (dropSeg dot (dropSeg [] segs0)) := by
    rw [hr0, collapse_render _ hne0 hsf0, cutDot_render _ hne1 hsf1]
  have hres2 : resolve [] (dropSeg dot (dropSeg [] segs0)) = resolve [] segs0 := by
    rw [resolve_dropSeg (Or.inr rfl), resolve_dropSeg (Or.inl rfl)]
  unfold normalizePath
  simp only
  rw [hb2]
  obtain ⟨segs3, e1, hne3, hsf3, hinv3, hres3⟩ :=
    loop_segs (render (dropSeg dot (dropSeg [] segs0))).length _ hne2 hsf2 (phases12_inv segs0)
  have hfix := loopDDS_fixed _ (render (dropSeg dot (dropSeg [] segs0))) (Nat.le_refl _)
  rw [e1] at hfix ⊢
  -- the loop has stopped, so no `..` is left but possibly the last segment
  have hdd3 : dotdot ∉ segs3.dropLast := fun hm => by
    obtain ⟨pre, after, rfl, hne, hdd⟩ := dotdot_split hm
    rw [stepDDS_render hsf3 hne hdd] at hfix
    cases hfix
  rw [cutTrailing_render segs3 hne3 hsf3 hinv3 hdd3, hres3, hres2]


end Hertz.PathSeg

namespace Hertz
open Hertz.Spec

/-- All five byte-level containment facts about `normalizePath`, for every input: it is the reference, the reference
is contained, and containment read on the bytes is `Good`. -/
theorem normalizePath_contained (src : Bytes) : Good (normalizePath src) := by
  rw [PathSeg.good_iff_contained, PathSeg.normalizePath_eq_reference]; exact PathSeg.spec_normalize_contained src

theorem normalizePath_head (src : Bytes) : (normalizePath src).head? = some 47 := (normalizePath_contained src).1

end Hertz
