import Hertz.Model.GroupPath
/-!
C06, `RouterGroup` paths: registrations through nested `RouterGroup`s are registrations of the flat list of
their absolute patterns; `joinPaths` / `groupBase` / `absPattern` never fault (`lastChar` is only
applied to non-empty strings); one `joinPaths` call is `path.Clean` of `abs + "/" + rel` plus the
trailing-slash rule.
-/
namespace Hertz.Route.GroupPath
open Hertz.Route

theorem pathClean_ne_nil (p : Bytes) : pathClean p ≠ [] := by
  unfold pathClean
  cases p with
  | nil => simp
  | cons c r =>
    simp only
    generalize (List.foldl (cleanStep (c == 47)) (if (c == 47) = true then ({ rout := [47], dd := 1 } : CS) else { rout := [], dd := 0 })
      (elems (c :: r))) = st
    cases hr : st.rout with
    | nil => simp
    | cons a b => simp

theorem lastChar_ok (s : Bytes) (h : s ≠ []) : ∃ c, lastChar s = .ok c ∧ s.getLast? = some c := by
  unfold lastChar
  cases hl : s.getLast? with
  | none => simp at hl; exact absurd hl h
  | some c => exact ⟨c, rfl, rfl⟩

/-- `path.Join(abs, rel)` for a non-empty `abs` -/
theorem pathJoin2_ne (abs rel : Bytes) (ha : abs ≠ []) :
    pathJoin2 abs rel = pathClean (abs ++ 47 :: rel) := by
  simp [pathJoin2, ha, List.length_pos_iff.2 ha]

/-- **one `joinPaths` call**: the base unchanged for an empty relative path, else `path.Clean(abs + "/" + rel)`
with one `/` appended iff `rel` ends in `/` and the cleaned path does not; never a fault. -/
theorem joinPaths_spec (abs rel : Bytes) (ha : abs ≠ []) :
    joinPaths abs rel = .ok (if rel = [] then abs else
      if rel.getLast? = some 47 ∧ (pathClean (abs ++ 47 :: rel)).getLast? ≠ some 47
      then pathClean (abs ++ 47 :: rel) ++ [47] else pathClean (abs ++ 47 :: rel)) := by
  unfold joinPaths
  by_cases hr : rel = []
  · simp [hr]
  · simp only [hr, if_false]
    rw [pathJoin2_ne abs rel ha]
    obtain ⟨a, ha1, ha2⟩ := lastChar_ok rel hr
    obtain ⟨b, hb1, hb2⟩ := lastChar_ok _ (pathClean_ne_nil (abs ++ 47 :: rel))
    rw [ha1, hb1, ha2, hb2]
    simp only [Option.some.injEq]
    by_cases h1 : a = 47 <;> by_cases h2 : b = 47 <;> simp [h1, h2]

theorem popGo_last : ∀ (r : Bytes) (dd : Nat) (last : UInt8), r ≠ [] → 1 ≤ dd →
    popGo r dd last ≠ [] ∧ (popGo r dd last).getLast? = r.getLast?
  | [], _, _, h, _ => absurd rfl h
  | c :: r', dd, last, _, hdd => by
    simp only [popGo]
    by_cases hc : ((c :: r').length > dd && last != 47) = true
    · rw [if_pos hc]
      simp only [Bool.and_eq_true, decide_eq_true_eq] at hc
      have hne : r' ≠ [] := by
        intro h; subst h; simp at hc; omega
      obtain ⟨h1, h2⟩ := popGo_last r' dd c hne hdd
      refine ⟨h1, ?_⟩
      rw [h2]
      cases r' with
      | nil => exact absurd rfl hne
      | cons a b => simp [List.getLast?_cons_cons]
    · rw [if_neg hc]
      exact ⟨by simp, rfl⟩

/-- invariant of the `path.Clean` loop on a rooted path: `out` starts with `/` (`rout` is `out` reversed), `dotdot = 1` -/
def Rooted (st : CS) : Prop := st.dd = 1 ∧ st.rout.getLast? = some 47

theorem getLast_append_ne (a b : Bytes) (hb : b ≠ []) : (a ++ b).getLast? = b.getLast? := by
  rw [List.getLast?_append]
  cases h : b.getLast? with
  | none => exact absurd (List.getLast?_eq_none_iff.1 h) hb
  | some c => rfl

theorem cleanStep_rooted (st : CS) (e : Bytes) (h : Rooted st) : Rooted (cleanStep true st e) := by
  obtain ⟨hdd, hl⟩ := h
  have hne : st.rout ≠ [] := by intro h0; rw [h0] at hl; simp at hl
  unfold cleanStep
  by_cases h1 : e = [46]
  · rw [if_pos h1]; exact ⟨hdd, hl⟩
  · rw [if_neg h1]
    by_cases h2 : e = [46, 46]
    · rw [if_pos h2]
      by_cases h3 : st.rout.length > st.dd
      · rw [if_pos h3]
        refine ⟨hdd, ?_⟩
        cases hr : st.rout with
        | nil => exact absurd hr hne
        | cons c r =>
          have hr' : r ≠ [] := by
            intro h0; rw [hr, h0, hdd] at h3; simp at h3
          simp only [pop]
          rw [(popGo_last r st.dd c hr' (by omega)).2]
          rw [hr] at hl
          cases r with
          | nil => exact absurd rfl hr'
          | cons a b => simpa [List.getLast?_cons_cons] using hl
      · rw [if_neg h3]
        simp
        exact ⟨hdd, hl⟩
    · rw [if_neg h2]
      refine ⟨hdd, ?_⟩
      simp only
      split
      · rw [getLast_append_ne _ _ (by simp)]
        exact (getLast_append_ne [47] st.rout hne).trans hl
      · rw [getLast_append_ne _ _ hne]; exact hl

theorem foldl_rooted : ∀ (es : List Bytes) (st : CS), Rooted st → Rooted (es.foldl (cleanStep true) st)
  | [], _, h => h
  | e :: r, st, h => foldl_rooted r _ (cleanStep_rooted st e h)

theorem pathClean_rooted (p : Bytes) : (pathClean (47 :: p)).head? = some 47 := by
  unfold pathClean
  simp only [beq_self_eq_true, if_true]
  have h := foldl_rooted (elems (47 :: p)) ⟨[47], 1⟩ ⟨rfl, rfl⟩
  generalize (List.foldl (cleanStep true) ({ rout := [47], dd := 1 } : CS) (elems (47 :: p))) = st at h
  obtain ⟨_, hl⟩ := h
  cases hr : st.rout with
  | nil => rw [hr] at hl; simp at hl
  | cons a b =>
    rw [hr] at hl
    simp only [List.isEmpty_cons, Bool.false_eq_true, if_false]
    rw [List.head?_reverse]
    exact hl

/-- one nesting step on a rooted base: no fault, and the result is rooted (hence not empty, so `lastChar` of the
next step is safe) -/
theorem joinPaths_rooted (abs rel : Bytes) (ha : abs.head? = some 47) : ∃ p, joinPaths abs rel = .ok p ∧ p.head? = some 47 := by
  have hne : abs ≠ [] := by intro h0; rw [h0] at ha; simp at ha
  refine ⟨_, joinPaths_spec abs rel hne, ?_⟩
  obtain ⟨a', rfl⟩ : ∃ a', abs = 47 :: a' := by
    cases abs with
    | nil => exact absurd rfl hne
    | cons c r => simp at ha; exact ⟨r, by rw [ha]⟩
  have hc := pathClean_rooted (a' ++ 47 :: rel)
  simp only [List.cons_append]
  by_cases hr : rel = []
  · simp [hr]
  · simp only [hr, if_false]
    split
    · cases hpc : pathClean (47 :: (a' ++ 47 :: rel)) with
      | nil => exact absurd hpc (pathClean_ne_nil _)
      | cons x y =>
        rw [hpc] at hc
        simpa using hc
    · exact hc

theorem groupBase_rooted : ∀ (pre : List Bytes) (base : Bytes), base.head? = some 47 →
    ∃ b, groupBase base pre = .ok b ∧ b.head? = some 47
  | [], base, hb => ⟨base, rfl, hb⟩
  | p :: r, base, hb => by
    obtain ⟨b', hj, hb'⟩ := joinPaths_rooted base p hb
    simp only [groupBase, hj]
    exact groupBase_rooted r b' hb'

theorem absPattern_rooted_ok (pre : List Bytes) (rel : Bytes) : ∃ p, absPattern pre rel = .ok p ∧ p.head? = some 47 := by
  obtain ⟨b, hb, hr⟩ := groupBase_rooted pre [47] rfl
  obtain ⟨p, hp, hpr⟩ := joinPaths_rooted b rel hr
  exact ⟨p, by simp only [absPattern, hb, hp], hpr⟩

/-- `RouterGroup.handle` never panics while computing the absolute path (`lastChar` never sees "") -/
theorem absPattern_ok (pre : List Bytes) (rel : Bytes) : ∃ p, absPattern pre rel = .ok p ∧ p ≠ [] :=
  let ⟨p, h, hr⟩ := absPattern_rooted_ok pre rel
  ⟨p, h, fun h0 => by rw [h0] at hr; cases hr⟩

theorem flatten_some : ∀ rs, ∃ l, flatten rs = some l
  | [] => ⟨[], rfl⟩
  | (pre, m, rel, h) :: r => by
    obtain ⟨p, hp, _⟩ := absPattern_ok pre rel
    obtain ⟨l, hl⟩ := flatten_some r
    exact ⟨(m, p, h) :: l, by simp [flatten, hp, hl]⟩

theorem addGroupRoutes_flat : ∀ (rs : List (List Bytes × Bytes × Bytes × Nat)) (e : Engine) (l : List (Bytes × Bytes × Nat)),
    flatten rs = some l → addGroupRoutes e rs = Engine.addRoutes e l
  | [], e, l, h => by simp [flatten] at h; subst h; rfl
  | (pre, m, rel, hh) :: r, e, l, h => by
    obtain ⟨p, hp, _⟩ := absPattern_ok pre rel
    obtain ⟨l', hl'⟩ := flatten_some r
    simp only [flatten, hp, hl'] at h
    injection h with h
    subst h
    simp only [addGroupRoutes, hp, Engine.addRoutes]
    cases ha : e.addRoute m p hh with
    | error f => rfl
    | ok e' => exact addGroupRoutes_flat r e' l' hl'

end Hertz.Route.GroupPath
