import Hertz.Model.Args
import Hertz.Spec.UrlQuery
import Hertz.Proofs.Bytesconv
import Hertz.Proofs.Args
/-!
Lemmas for `C17.args_agree_std`: hertz's `Args.ParseBytes` (`Model/Args.lean`) against the reference model of
`net/url` (`Spec/UrlQuery.lean`).  `url.QueryUnescape` is hertz's decoder behind the check `escapesOk` (`unescape_eq`), so one
turn of the loop of `parseQuery` reads the entry hertz reads, behind `stdAccepts` (`parseSegment_eq`); the two theorems about
the loop follow it along its cuts at `&`.
-/
namespace Hertz
open Hertz.Spec.UrlQuery

/-! ### hex digits: hertz's `Hex2intTable` against `ishex`/`unhex` of net/url -/

/-- one sweep over the bytes: at a hex digit the table holds `unhex`'s value, anywhere else its mark 16 -/
theorem hex2int_std (c : UInt8) :
    (ishex c = true → hex2int c ≠ 16 ∧ hex2int c = unhex c) ∧ (ishex c = false → hex2int c = 16) := by
  simp only [hex2int_eq]
  revert c; exact forall_byte (by decide +kernel)

theorem hex2int_eq16_iff (c : UInt8) : hex2int c = 16 ↔ ishex c = false :=
  ⟨fun e => Bool.eq_false_iff.2 fun h => ((hex2int_std c).1 h).1 e, (hex2int_std c).2⟩

/-! ### `QueryUnescape`

One unfolding per scanner and kind of head byte (`unescapeScan_ne`, `unescapeScan_pct`, `unescapeScan_short`, `unescapeBuild_ne`;
`decodeSlow_cons`, `decodeSlow_pct` for hertz's decoder), and the induction that walks a string as all of them do. -/

theorem unescapeScan_ne (c : UInt8) (t : Bytes) (h : c ≠ 37) :
    unescapeScan (c :: t) = (unescapeScan t).map (fun r => (r.1, r.2 || c == 43)) := by
  match t with
  | [] => simp [unescapeScan, h]
  | [d] => simp [unescapeScan, h]
  | d :: e :: r => simp [unescapeScan, h]

theorem unescapeBuild_ne (c : UInt8) (t : Bytes) (h : c ≠ 37) :
    unescapeBuild (c :: t) = (unescapeBuild t).map ((if c = 43 then 32 else c) :: ·) := by
  match t with
  | [] => simp [unescapeBuild, h]
  | [d] => simp [unescapeBuild, h]
  | d :: e :: r => simp [unescapeBuild, h]

theorem unescapeScan_pct (a b : UInt8) (r : Bytes) : unescapeScan (37 :: a :: b :: r) =
    if ishex a && ishex b then (unescapeScan r).map (fun x => (x.1 + 1, x.2)) else none := by
  cases ha : ishex a <;> cases hb : ishex b <;> simp [unescapeScan, ha, hb]

theorem unescapeScan_short (t : Bytes) (h : t.length < 2) : unescapeScan (37 :: t) = none := by
  match t, h with
  | [], _ => rfl
  | [_], _ => rfl

/-- walking along a byte string the way the escape scanners do -/
theorem esc_induction {P : Bytes → Prop} (nil : P []) (short : ∀ t, t.length < 2 → P (37 :: t))
    (pct : ∀ a b r, P r → P (37 :: a :: b :: r)) (other : ∀ c t, c ≠ 37 → P t → P (c :: t)) : ∀ s, P s
  | [] => nil
  | [c] => if h : c = 37 then h ▸ short [] (by decide) else other c [] h nil
  | [c, d] =>
    if h : c = 37 then h ▸ short [d] (Nat.lt_succ_self 1)
    else other c [d] h (esc_induction nil short pct other [d])
  | c :: a :: b :: r =>
    if h : c = 37 then h ▸ pct a b r (esc_induction nil short pct other r)
    else other c _ h (esc_induction nil short pct other (a :: b :: r))

/-- On a string that passes the first loop of `unescape`, the second loop does not run out of the string and
writes exactly what hertz's slow decoder writes. -/
theorem unescapeBuild_of_scan (s : Bytes) : ∀ r, unescapeScan s = some r → unescapeBuild s = some (decodeSlow true s) := by
  induction s using esc_induction with
  | nil => intro _ _; rfl
  | short t ht => intro r h; rw [unescapeScan_short t ht] at h; cases h
  | pct a b r ih =>
    intro x h
    rw [unescapeScan_pct] at h
    split at h
    · rename_i hab
      simp only [Bool.and_eq_true] at hab
      obtain ⟨y, hy, _⟩ := Option.map_eq_some_iff.1 h
      obtain ⟨ha, hau⟩ := (hex2int_std a).1 hab.1
      obtain ⟨hb, hbu⟩ := (hex2int_std b).1 hab.2
      rw [decodeSlow_pct true a b r ha hb]
      simp [unescapeBuild, ih y hy, hau, hbu]
    · cases h
  | other c t hc ih =>
    intro x h
    rw [unescapeScan_ne c t hc] at h
    obtain ⟨y, hy, _⟩ := Option.map_eq_some_iff.1 h
    rw [unescapeBuild_ne c t hc, ih y hy, decodeSlow_cons true c t hc]
    by_cases hp : c = 43 <;> simp [hp]

/-- Go's second loop cannot index out of range after the first loop has accepted the string. -/
theorem unescapeBuild_isSome_of_scan (s : Bytes) (r : Nat × Bool) (h : unescapeScan s = some r) :
    (unescapeBuild s).isSome = true := by
  rw [unescapeBuild_of_scan s r h]; rfl

/-! ### which strings `url.ParseQuery` accepts, spelled out -/

def twoHex : Bytes → Bool
  | a :: b :: _ => ishex a && ishex b
  | _ => false

/-- Every `%` in the string is followed by two hex digits. -/
def escapesOk : Bytes → Bool
  | [] => true
  | c :: t => (c != 37 || twoHex t) && escapesOk t

/-- What `url.ParseQuery` accepts (`stdParse_isSome_iff`): no `;` anywhere and no malformed escape. -/
def stdAccepts (s : Bytes) : Bool := !s.contains 59 && escapesOk s

theorem escapesOk_cons_ne (c : UInt8) (t : Bytes) (h : c ≠ 37) : escapesOk (c :: t) = escapesOk t := by
  simp [escapesOk, h]

theorem escapesOk_pct (t : Bytes) : escapesOk (37 :: t) = (twoHex t && escapesOk t) := by
  simp [escapesOk]

/-- the first loop of `unescape` in closed form -/
theorem unescapeScan_eq (s : Bytes) :
    unescapeScan s = if escapesOk s then some (s.count 37, s.contains 43) else none := by
  induction s using esc_induction with
  | nil => rfl
  | short t ht =>
    rw [unescapeScan_short t ht, escapesOk_pct]
    match t, ht with
    | [], _ => rfl
    | [_], _ => rfl
  | pct a b r ih =>
    rw [unescapeScan_pct, escapesOk_pct]
    cases ha : ishex a with
    | false => simp [twoHex, ha]
    | true =>
      cases hb : ishex b with
      | false => simp [twoHex, ha, hb]
      | true =>
        have a37 : a ≠ 37 := ne_of_class ha rfl
        have b37 : b ≠ 37 := ne_of_class hb rfl
        have a43 : a ≠ 43 := ne_of_class ha rfl
        have b43 : b ≠ 43 := ne_of_class hb rfl
        rw [ih, escapesOk_cons_ne a _ a37, escapesOk_cons_ne b _ b37]
        cases escapesOk r <;> simp [twoHex, ha, hb, a37, b37, Ne.symm a43, Ne.symm b43]
  | other c t hc ih =>
    rw [unescapeScan_ne c t hc, ih, escapesOk_cons_ne c t hc, List.count_cons_of_ne hc, List.contains_cons, Bool.or_comm, BEq.comm]
    cases escapesOk t <;> rfl

/-- `url.QueryUnescape` is hertz's `decodeArgAppend` behind the check of the escapes. -/
theorem unescape_eq (s : Bytes) : unescape s = if escapesOk s then some (decodeArg s) else none := by
  unfold unescape
  rw [unescapeScan_eq, decodeArg_eq_slow]
  cases hs : escapesOk s with
  | false => rfl
  | true =>
    simp only [if_true]
    split
    · rename_i hz
      simp only [Bool.and_eq_true, beq_iff_eq, Bool.not_eq_true'] at hz
      rw [decodeSlow_id true s (by simpa using List.count_eq_zero.1 hz.1) (fun _ => hz.2)]
    · exact unescapeBuild_of_scan s _ (by rw [unescapeScan_eq, hs]; rfl)

/-! ### `strings.Cut` -/

/-- hertz's scanner cuts where `strings.Cut` does; without a separator the one says so, the other returns `""` -/
theorem cut1_cutByte (sep : UInt8) (s : Bytes) :
    (cut1 sep s).1 = (cutByte sep s).1 ∧ (cut1 sep s).2.getD [] = (cutByte sep s).2.1 := by
  induction s with
  | nil => exact ⟨rfl, rfl⟩
  | cons c t ih =>
    by_cases hc : c = sep
    · simp [cut1, cutByte, hc]
    · simpa only [cut1, cutByte, hc, if_false, List.cons.injEq, true_and] using ih

theorem cutByte_rest_length (sep : UInt8) (s : Bytes) (h : s ≠ []) : (cutByte sep s).2.1.length < s.length := by
  induction s with
  | nil => exact absurd rfl h
  | cons c t ih =>
    by_cases hc : c = sep
    · simp [cutByte, hc]
    · simp only [cutByte, hc, if_false, List.length_cons]
      match t, ih with
      | [], _ => simp [cutByte]
      | d :: r, ih => have := ih (by simp); omega

/-- The `key`s that the loop of `parseQuery` cuts off are the segments hertz's scanner visits. -/
theorem argSegs_cutByte (q : Bytes) (h : q ≠ []) :
    argSegs q = (cutByte 38 q).1 :: argSegs (cutByte 38 q).2.1 := by
  induction q with
  | nil => exact absurd rfl h
  | cons c t ih =>
    by_cases hc : c = 38
    · simp [argSegs, cutByte, hc]
    · simp only [argSegs, cutByte, hc, if_false]
      match t, ih with
      | [], _ => simp [argSegs, cutByte]
      | d :: r, ih => rw [ih (by simp)]

theorem twoHex_cutByte (sep : UInt8) (hs : ishex sep = false) (t : Bytes) : twoHex (cutByte sep t).1 = twoHex t := by
  match t with
  | [] => rfl
  | [a] => by_cases ha : a = sep <;> simp [cutByte, twoHex, ha]
  | a :: b :: r =>
    by_cases ha : a = sep
    · simp [cutByte, twoHex, ha, hs]
    · by_cases hb : b = sep
      · simp [cutByte, twoHex, ha, hb, hs]
      · simp [cutByte, twoHex, ha, hb]

/-- A separator that is neither `%` nor a hex digit splits the check. -/
theorem escapesOk_cutByte (sep : UInt8) (hs : ishex sep = false) (h37 : sep ≠ 37) (q : Bytes) :
    escapesOk q = (escapesOk (cutByte sep q).1 && escapesOk (cutByte sep q).2.1) := by
  induction q with
  | nil => rfl
  | cons c t ih =>
    by_cases hc : c = sep
    · subst hc; simp [cutByte, escapesOk, h37]
    · simp only [cutByte, hc, if_false, escapesOk, twoHex_cutByte sep hs t, ih, Bool.and_assoc]

theorem contains_cutByte (x sep : UInt8) (hx : sep ≠ x) (q : Bytes) :
    q.contains x = ((cutByte sep q).1.contains x || (cutByte sep q).2.1.contains x) := by
  induction q with
  | nil => rfl
  | cons c t ih =>
    by_cases hc : c = sep
    · subst hc
      simp only [cutByte, if_true, List.contains_cons, List.contains_nil, Bool.false_or]
      have : (x == c) = false := by simpa using hx.symm
      rw [this, Bool.false_or]
    · simp only [cutByte, hc, if_false, List.contains_cons, ih, Bool.or_assoc]

/-- key and value of an entry, as `VisitAll` hands them out -/
def ArgKV.pair (kv : ArgKV) : Bytes × Bytes := (kv.key, kv.value)

/-- "not both key and value empty": the entries hertz keeps (`ArgKV.bothEmpty` on pairs). -/
def pairNonEmpty (p : Bytes × Bytes) : Bool := !(p.1.isEmpty && p.2.isEmpty)

/-- the entry hertz reads from a segment, in the terms of `parseSegment` -/
theorem parseSeg_pair (seg : Bytes) :
    (parseSeg seg).pair = (decodeArg (cutByte 61 seg).1, decodeArg (cutByte 61 seg).2.1) := by
  rw [← (cut1_cutByte 61 seg).1, ← (cut1_cutByte 61 seg).2]
  unfold parseSeg
  rcases cut1 61 seg with ⟨k, _ | v⟩ <;> rfl

/-- One turn of the loop of `parseQuery` in hertz's terms: an error outside `stdAccepts`; otherwise the entry hertz reads,
unless the segment is empty. -/
theorem parseSegment_eq (seg : Bytes) : parseSegment seg =
    if stdAccepts seg then (if seg.isEmpty then .skip else .pair (parseSeg seg).pair.1 (parseSeg seg).pair.2) else .err := by
  unfold parseSegment stdAccepts
  cases seg.contains 59 with
  | true => rfl
  | false =>
    by_cases he : seg.isEmpty = true
    · rw [List.isEmpty_iff.1 he]; rfl
    · rw [parseSeg_pair, escapesOk_cutByte 61 (by decide) (by decide) seg]
      simp only [unescape_eq, he]
      cases escapesOk (cutByte 61 seg).1 <;> cases escapesOk (cutByte 61 seg).2.1 <;> rfl

theorem pairNonEmpty_pair (kv : ArgKV) : pairNonEmpty kv.pair = !kv.bothEmpty := rfl

/-- hertz's entries, as pairs, along the cuts the loop of `parseQuery` makes -/
theorem parseArgs_cutByte (q : Bytes) (h : q ≠ []) : (parseArgs q).map ArgKV.pair =
    [(parseSeg (cutByte 38 q).1).pair].filter pairNonEmpty ++ (parseArgs (cutByte 38 q).2.1).map ArgKV.pair := by
  unfold parseArgs
  rw [argSegs_cutByte q h, List.map_cons, List.filter_cons, List.filter_cons, pairNonEmpty_pair]
  cases (parseSeg (cutByte 38 q).1).bothEmpty <;> rfl

/-- If the loop of `parseQuery` ends without an error, the pairs it appended - those with both key and value empty
excepted - are hertz's entries, in the same order. -/
theorem parseQueryLoop_agree : ∀ (fuel : Nat) (q : Bytes), q.length ≤ fuel → (parseQueryLoop fuel q).2 = false →
    (parseArgs q).map ArgKV.pair = (parseQueryLoop fuel q).1.filter pairNonEmpty
  | 0, q, hl, _ => by
    rw [List.eq_nil_of_length_eq_zero (Nat.le_zero.1 hl)]; rfl
  | fuel + 1, q, hl, herr => by
    by_cases hq : q = []
    · subst hq; rfl
    · have hlen := cutByte_rest_length 38 q hq
      have ih := parseQueryLoop_agree fuel (cutByte 38 q).2.1 (by omega)
      have hne : q.isEmpty = false := by cases q <;> simp_all
      rw [parseArgs_cutByte q hq]
      simp only [parseQueryLoop, hne, Bool.false_eq_true, if_false, parseSegment_eq] at herr ⊢
      by_cases ha : stdAccepts (cutByte 38 q).1 = true
      · rw [if_pos ha] at herr ⊢
        by_cases he : (cutByte 38 q).1.isEmpty = true
        · rw [if_pos he] at herr ⊢
          rw [List.isEmpty_iff.1 he]
          exact ih herr
        · rw [if_neg he] at herr ⊢
          rw [ih herr]
          exact (List.filter_append ..).symm
      · rw [if_neg ha] at herr; cases herr

/-- `args_agree_std`, lemma form. -/
theorem parseArgs_agree_stdParse (s : Bytes) (l : List (Bytes × Bytes)) (h : stdParse s = some l) :
    (parseArgs s).map ArgKV.pair = l.filter pairNonEmpty := by
  unfold stdParse at h
  simp only at h
  split at h
  · cases h
  · rename_i he
    cases h
    exact parseQueryLoop_agree s.length s (Nat.le_refl _) (by simpa using he)

/-- The loop of `parseQuery` ends with an error exactly on the strings outside `stdAccepts`. -/
theorem parseQueryLoop_err : ∀ (fuel : Nat) (q : Bytes), q.length ≤ fuel →
    (parseQueryLoop fuel q).2 = !stdAccepts q
  | 0, q, hl => by
    rw [List.eq_nil_of_length_eq_zero (Nat.le_zero.1 hl)]; rfl
  | fuel + 1, q, hl => by
    by_cases hq : q = []
    · subst hq; rfl
    · have hlen := cutByte_rest_length 38 q hq
      have ih := parseQueryLoop_err fuel (cutByte 38 q).2.1 (by omega)
      have hne : q.isEmpty = false := by cases q <;> simp_all
      have hacc : stdAccepts q = (stdAccepts (cutByte 38 q).1 && stdAccepts (cutByte 38 q).2.1) := by
        unfold stdAccepts
        rw [contains_cutByte 59 38 (by decide) q, escapesOk_cutByte 38 (by decide) (by decide) q]
        cases (cutByte 38 q).1.contains 59 <;> cases (cutByte 38 q).2.1.contains 59 <;>
          cases escapesOk (cutByte 38 q).1 <;> rfl
      simp only [parseQueryLoop, hne, Bool.false_eq_true, if_false, parseSegment_eq]
      rw [hacc]
      cases stdAccepts (cutByte 38 q).1 with
      | false => rfl
      | true => rw [if_pos rfl, Bool.true_and, ← ih]; cases (cutByte 38 q).1.isEmpty <;> rfl

/-- `url.ParseQuery(s)` returns no error iff `s` contains no `;` and every `%` in it is followed by two hex digits. -/
theorem stdParse_isSome_iff (s : Bytes) : (stdParse s).isSome = stdAccepts s := by
  unfold stdParse
  simp only [parseQueryLoop_err s.length s (Nat.le_refl _)]
  cases stdAccepts s <;> rfl

end Hertz
