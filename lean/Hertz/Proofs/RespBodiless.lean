import Hertz.Proofs.RespRoundtrip
/-!
C11 `response_roundtrip`, the cases without a length-delimited body: (1) a status that forbids a body (1xx other than the
interim 100 / 102 / 103, 204, 304): head only, what follows untouched; (2) answers to HEAD: the head as for GET
(`Content-Length` of the body that was not sent, resp. `Transfer-Encoding: chunked`), no body bytes, and the client, with
`resp.SkipBody` set, stops behind the head; (3) read-until-close framing (no `Content-Length`, no chunking): the body is
everything up to EOF.  The writer side is, as in `RespRoundtrip`, the C05 header model on the header object after the
`SetContentLength` call that `resp.Write` makes for the framing `Resp.frame` decides (`WResp.hdrFor`; none for a bodiless
status or an empty HEAD answer), followed by `Resp.frame … .wire`.
-/
namespace Hertz.H1.RT
open Hertz Hertz.H1 Hertz.H1.Resp Hertz.H1.RespRead Hertz.Gen.Str

/-- all bytes `resp.Write` puts on the wire for `r`, answering a HEAD request or not -/
def respWireH (r : WResp) (isHead : Bool) : Bytes :=
  (r.hdrFor (frame r.prog isHead).framing).bytes ++ (frame r.prog isHead).wire

/-! ### well-formedness of everything but status class and body -/

def wfHeadB (dn : Bool) (r : WResp) : Bool :=
  decide (r.status < 2 ^ 63) &&
  r.reason.all (fun c => c != 13 && c != 10) &&
  cleanVal r.server && cleanVal r.contentType && cleanVal r.contentEncoding &&
  (match r.date with | some d => cleanVal d | none => true) &&
  r.h.all (fun kv => wfField dn kv && kindOf kv.1 == .other) &&
  r.cookies.all cleanVal

theorem wfHeadB_parts {dn : Bool} {r : WResp} (h : wfHeadB dn r = true) : HeadParts dn r := by
  simp only [wfHeadB, Bool.and_eq_true, decide_eq_true_eq, List.all_eq_true, beq_iff_eq] at h
  obtain ⟨⟨⟨⟨⟨⟨⟨h2, h3⟩, h4⟩, h5⟩, h6⟩, h7⟩, h8⟩, h9⟩ := h
  refine ⟨h2, ?_, h4, h5, h6, ?_, ?_, h9⟩
  · intro x hx; have := h3 x hx; simpa [and_comm] using this
  · intro d hd; rw [hd] at h7; exact h7
  · intro kv hkv; exact h8 kv hkv

/-! ### (1) statuses that forbid a body: 1xx other than the interim ones, 204, 304 -/

/-- well-formed bodiless response: a status for which `MustSkipContentLength` holds, other than the
interim `100` / `102` / `103` (which `ReadHeaders` skips), and a well-formed head; the body the handler may have set
is arbitrary - it is not sent -/
def wfBodiless (dn : Bool) (r : WResp) : Bool :=
  RespRead.mustSkipCL r.status && !isInterim r.status && wfHeadB dn r

theorem frame_bodiless (r : WResp) (isHead : Bool) (hs : RespRead.mustSkipCL r.status = true) :
    frame r.prog isHead = { framing := .none, wire := [] } := by
  cases hb : r.body <;> simp [frame, WResp.prog, hb, mustSkip_same, hs]

/-- the header object the client ends up with for a bodiless response -/
def WResp.seenHeadBodiless (r : WResp) : RespHead := headOf r (-2) [] r.connClose r.seenFields

/-- **Round trip, bodiless statuses, whatever framing the head announces** (the handler called `SetBodyStream` and
changed the status to 1xx/204/304 afterwards: the header keeps `Content-Length: n` resp. `Transfer-Encoding:
chunked`, `resp.Write` sends no body): the reader returns the head and an empty body and ignores the
announcement - no body byte is consumed. -/
theorem response_roundtrip_bodiless_declared (dn : Bool) (maxBody : Nat) (e : End) (r : WResp) (f : Framing) (rest : Bytes)
    (hw : wfBodiless dn r = true) (hn : ∀ n, f = .cl n → n < 2 ^ 63) :
    readResponse dn maxBody e ((r.hdrFor f).bytes ++ rest) =
      .ok { head := r.seenHeadFor f, body := [], trailers := [], rest := rest } := by
  simp only [wfBodiless, Bool.and_eq_true, Bool.not_eq_true'] at hw
  obtain ⟨⟨hs, h100⟩, hh⟩ := hw
  have p := wfHeadB_parts hh
  rw [readResponse_of_head (readHeaders_hdrFor dn e r f rest p h100 hn),
    readBodyPart_skip dn maxBody e _ rest (seenHeadFor_status r f ▸ hs), seenHeadFor_trailer]
  rfl

/-- **Round trip, bodiless statuses**: whatever body the handler set, whether the request was HEAD or
not, the reader returns the head, an empty body, and leaves the bytes that follow untouched. -/
theorem response_roundtrip_bodiless (dn : Bool) (maxBody : Nat) (e : End) (r : WResp) (isHead : Bool) (rest : Bytes)
    (hw : wfBodiless dn r = true) :
    readResponse dn maxBody e (respWireH r isHead ++ rest) =
      .ok { head := r.seenHeadBodiless, body := [], trailers := [], rest := rest } := by
  have hs : RespRead.mustSkipCL r.status = true := by
    simp only [wfBodiless, Bool.and_eq_true] at hw; exact hw.1.1
  rw [respWireH, frame_bodiless r isHead hs, List.append_nil,
    response_roundtrip_bodiless_declared dn maxBody e r .none rest hw (by intro n hn; cases hn)]
  simp only [WResp.seenHeadFor, hs, if_true, WResp.seenHeadBodiless]

/-! ### (2) answers to HEAD -/

/-- for a status that forbids a body the flag changes nothing -/
theorem readResponseSkip_bodiless (skipBody : Bool) (dn : Bool) (maxBody : Nat) (e : End) (s : Bytes) (hd : RespHead) (s1 : Bytes)
    (hr : readHeaders dn e s = .ok (hd, s1)) (hs : RespRead.mustSkipCL hd.status = true) :
    readResponseSkip skipBody dn maxBody e s = readResponse dn maxBody e s := by
  unfold readResponseSkip readResponse
  rw [hr]
  cases skipBody with
  | false => rfl
  | true => simp only [if_true, readBodyPart, hs]

/-- the framing `resp.Write` announces in the answer to a HEAD request: that of the body the handler
set (the `Content-Length` of a non-empty body, `chunked` for a stream of unknown length), nothing for an
empty body or a status that forbids one -/
def WResp.headFraming (r : WResp) : Framing :=
  if RespRead.mustSkipCL r.status then .none else
  match r.body with
  | .fixed b => if b.isEmpty then .none else .cl b.length
  | .chunked _ => .chunked

theorem frame_head (r : WResp) : frame r.prog true = { framing := r.headFraming, wire := [] } := by
  cases hs : RespRead.mustSkipCL r.status with
  | true => rw [frame_bodiless _ true hs]; simp [WResp.headFraming, hs]
  | false =>
    cases hb : r.body with
    | fixed b => cases b <;> simp [frame, WResp.prog, hb, mustSkip_same, hs, WResp.headFraming]
    | chunked rs => simp [frame, WResp.prog, hb, mustSkip_same, hs, WResp.headFraming]

/-- well-formed answer to HEAD: any status but the interim `100` / `102` / `103`, a well-formed head, a body length
that fits an `int` (sizes of stream pieces do not matter: nothing of the body is sent) -/
def wfRespH (dn : Bool) (r : WResp) : Bool :=
  !isInterim r.status && wfHeadB dn r &&
  (match r.body with
   | .fixed b => decide (b.length < 2 ^ 63)
   | .chunked _ => true)

theorem headFraming_bound {dn : Bool} {r : WResp} (hw : wfRespH dn r = true) : ∀ n, r.headFraming = .cl n → n < 2 ^ 63 := by
  intro n hn
  simp only [wfRespH, Bool.and_eq_true] at hw
  unfold WResp.headFraming at hn
  -- only a non-empty byte body announces a length: its own
  split at hn
  · cases hn
  · split at hn
    · rename_i b hb
      split at hn <;> cases hn
      rw [hb] at hw; simpa using hw.2
    · cases hn

/-- **Head of an answer to HEAD**: `ReadHeaders` returns the head - with the framing fields of the body
that was not sent - and stops exactly at its end: no body byte is on the wire, what follows is untouched. -/
theorem response_head_HEAD (dn : Bool) (e : End) (r : WResp) (rest : Bytes) (hw : wfRespH dn r = true) :
    readHeaders dn e (respWireH r true ++ rest) = .ok (r.seenHeadFor r.headFraming, rest) := by
  have hb := headFraming_bound hw
  simp only [wfRespH, Bool.and_eq_true, Bool.not_eq_true'] at hw
  have p := wfHeadB_parts hw.1.2
  rw [respWireH, frame_head r, List.append_nil]
  exact readHeaders_hdrFor dn e r r.headFraming rest p hw.1.1 hb

/-- **Round trip, answer to HEAD** (reader with `SkipBody`): the head, no body, the rest untouched. -/
theorem response_roundtrip_HEAD (dn : Bool) (maxBody : Nat) (e : End) (r : WResp) (rest : Bytes) (hw : wfRespH dn r = true) :
    readResponseSkip true dn maxBody e (respWireH r true ++ rest) =
      .ok { head := r.seenHeadFor r.headFraming, body := [], trailers := [], rest := rest } := by
  unfold readResponseSkip
  rw [response_head_HEAD dn e r rest hw]
  simp only [if_true, seenHeadFor_trailer, List.map_nil]

/-! ### (3) read-until-close framing -/

/-- a response framed by closing the connection: the head without `Content-Length` and without
`Transfer-Encoding`, then the body, then EOF (hertz's own server never writes this; other servers and
HTTP/1.0 peers do) -/
def closeWire (r : WResp) : Bytes := r.hdrNone.bytes ++ r.body.content

/-- well-formed for that framing: a status that may carry a body, a well-formed head -/
def wfRespC (dn : Bool) (r : WResp) : Bool := !RespRead.mustSkipCL r.status && wfHeadB dn r

/-- **Round trip, read until close**: at EOF the body is every byte after the head; the reader records
`Connection: close` and, as `ReadRespBody` does, the length it found (`SetContentLength(len(body))`, which
also removes the `Transfer-Encoding: identity` marker again). -/
theorem response_roundtrip_until_close (dn : Bool) (maxBody : Nat) (e : End) (r : WResp) (hw : wfRespC dn r = true)
    (hmax : maxBody = 0 ∨ r.body.content.length ≤ maxBody) :
    readResponse dn maxBody e (closeWire r) =
      .ok { head := { r.seenHead with connClose := true }, body := r.body.content, trailers := [], rest := [] } := by
  simp only [wfRespC, Bool.and_eq_true, Bool.not_eq_true'] at hw
  obtain ⟨hs, hh⟩ := hw
  have p := wfHeadB_parts hh
  rw [closeWire, show r.hdrNone = r.hdrFor .none from rfl, readResponse_of_head
      (readHeaders_hdrFor dn e r .none _ p (notInterim_of_notSkip r.status hs) (by intro n hn; cases hn)),
    readBodyPart_identity dn maxBody e _ _ (seenHeadFor_status r _ ▸ hs)
      (by simp only [WResp.seenHeadFor, hs, Bool.false_eq_true, if_false, headOf]) hmax,
    seenHeadFor_trailer, ← seenHeadFor_eta, setCL_seenHeadFor p hs]
  simp only [WResp.seenHeadFor, hs, Bool.false_eq_true, if_false, headOf, WResp.seenHead]
  rfl

/-- `204 No Content`, Server `hz`, `X-Id: 7`, a cookie; the handler also set a body `hello`, which must not be sent -/
def exNoContent : WResp :=
  { status := 204, reason := [78, 111, 32, 67, 111, 110, 116, 101, 110, 116], server := [104, 122],
    h := [([88, 45, 73, 100], [55])], cookies := [[97, 61, 98]], body := .fixed [104, 101, 108, 108, 111] }

/-- `304 Not Modified` with an `Etag`, body stream of unknown length set by the handler -/
def exNotModified : WResp :=
  { status := 304, reason := [78, 77], h := [([69, 116, 97, 103], [34, 120, 34])], body := .chunked [[104, 105]] }

/-- a close-delimited `200 OK` (HTTP/1.0 style peer): `X-Id: 7`, body `hello` up to EOF -/
def exUntilClose : WResp :=
  { status := 200, reason := [79, 75], h := [([88, 45, 73, 100], [55])], body := .fixed [104, 101, 108, 108, 111] }

end Hertz.H1.RT
