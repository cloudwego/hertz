import Hertz.Proofs.NoFaultPath
import Hertz.Model.NoFaultLine
/-! C03: `utils.NextLine`, the request-line parser and the response status-line parser never reach a fault, for every buffer. -/
namespace Hertz.NF
open Hertz Hertz.Gen.Str

theorem nextLine_ok (b : Bytes) : Ok (nextLine b) fun r => ∀ lr, r = some lr → len lr.2 < len b := by
  unfold nextLine
  dsimp only
  have h1 := indexByte_lt 10 b
  refine .ite (fun _ => .pure fun lr h => by cases h) fun hn => Ok.bind (P := fun n => 0 ≤ n ∧ n ≤ indexByte 10 b)
    (.ite (fun _ => (ix_ok (by omega) (by omega)).bind fun c _ => .pure (by split <;> omega)) fun _ => .pure (by omega))
    fun n hn' => (slTo_ok hn'.1 (by omega)).bind fun line _ => (slFrom_ok (by omega) (by omega)).bind fun rest hr =>
      .pure fun lr h => by cases h; show len rest < len b; omega

theorem firstLineLoop_ok : ∀ (f : Nat) (b : Bytes), b.length < f → Ok (firstLineLoop f b) fun _ => True
  | 0, _, h => by omega
  | f + 1, b, hf => by
    unfold firstLineLoop
    refine (nextLine_ok b).bind fun r hlt => ?_
    cases r with
    | none => exact .pure trivial
    | some lr =>
      have := hlt lr rfl
      exact .ite (fun _ => firstLineLoop_ok f lr.2 (by unfold len at *; omega)) fun _ => .pure trivial

theorem parseFirstLine_ok (buf : Bytes) : Ok (parseFirstLine buf) fun _ => True := by
  unfold parseFirstLine
  refine (firstLineLoop_ok (buf.length + 1) buf (by omega)).bind fun r _ => ?_
  cases r with
  | none => exact .pure trivial
  | some lr =>
    dsimp only
    have h1 := indexByte_lt 32 lr.1
    refine .ite (fun _ => .pure trivial) fun hn => sepAt_ok (by omega) h1 fun method b => ?_
    have hl := lastIndexByte_bounds 32 b
    exact .ite (fun _ => (slTo_ok (len_nonneg b) (Int.le_refl _)).bind fun _ _ => .pure trivial) fun _ =>
      .ite (fun _ => .pure trivial) fun _ =>
        (slFrom_ok (by omega) (by omega)).bind fun _ _ => (slTo_ok (by omega) (by omega)).bind fun _ _ => .pure trivial

theorem parseStatusLine_ok (buf : Bytes) : Ok (parseStatusLine buf) fun _ => True := by
  unfold parseStatusLine
  refine (firstLineLoop_ok (buf.length + 1) buf (by omega)).bind fun r _ => ?_
  cases r with
  | none => exact .pure trivial
  | some lr =>
    dsimp only
    have h1 := indexByte_lt 32 lr.1
    exact .ite (fun _ => .pure trivial) fun hn => sepAt_ok (by omega) h1 fun proto b =>
      .ite (fun _ => .pure trivial) fun _ => .ite
        (fun hgt => (ix_ok (by omega) hgt).bind fun _ _ => .ite (fun _ => .pure trivial) fun _ => .pure trivial)
        fun _ => .pure trivial

end Hertz.NF
