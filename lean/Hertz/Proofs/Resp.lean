import Hertz.Model.Http1.Resp
import Hertz.Spec.Resp
import Hertz.Proofs.HeaderWrite
import Hertz.Proofs.ChunkedWire
/-!
The body bytes of the response writer (`Model/Http1/Resp.lean`) under the strict reader `Spec.Resp`: `WriteHexInt` against
`parseHex`, `WriteChunk` / the terminating chunk with its trailer block against `chunks` (`chunks_encode`), and
`MustSkipContentLength` as the reader's `noBodyStatus`; at the end, the same writer under `Spec.Http.parseHex` and as chunks
of the general encoding of `ChunkedWire` (`writer_chunks`, `chunkedWire_append`), for both round trips.
-/
namespace Hertz.H1.Resp
open Hertz Hertz.Gen.Str Hertz.Spec.Resp Hertz.Spec.Head

theorem hexVal_lowerhex : ∀ d : Nat, d < 16 → Spec.Resp.hexVal (lowerhex d.toUInt8) = some d := by
  decide

/-- the digits `WriteHexInt` writes for `n`, read on top of the accumulator `a` -/
theorem foldlM_hexDigits : ∀ (fuel n a : Nat), n < 16 ^ fuel →
    (hexDigits fuel n).foldlM (fun n c => (Spec.Resp.hexVal c).map (fun d => n * 16 + d)) a =
      some (a * 16 ^ (hexDigits fuel n).length + n)
  | 0, n, a, h => by
    have : n = 0 := by simpa using h
    subst this; simp [hexDigits]
  | fuel + 1, n, a, h => by
    unfold hexDigits
    split
    · rename_i hn
      simp [hexVal_lowerhex n hn]
    · rename_i hn
      have hq : n / 16 < 16 ^ fuel := by
        rw [Nat.div_lt_iff_lt_mul (by decide)]
        rw [Nat.pow_succ] at h; exact h
      have hr : n % 16 < 16 := Nat.mod_lt _ (by decide)
      rw [List.foldlM_append, foldlM_hexDigits fuel (n / 16) a hq]
      simp only [Option.bind_eq_bind, Option.bind_some, List.foldlM_cons, List.foldlM_nil, hexVal_lowerhex _ hr, Option.map_some,
        List.length_append, List.length_cons, List.length_nil, Nat.zero_add]
      congr 1
      rw [Nat.pow_succ, ← Nat.mul_assoc, Nat.add_mul]
      have := Nat.div_add_mod n 16
      omega

theorem hexDigits_ne_nil : ∀ (fuel n : Nat), 0 < fuel → hexDigits fuel n ≠ []
  | fuel + 1, n, _ => by
    unfold hexDigits
    split <;> simp

/-- A reader of hex chunk sizes gets back the number `WriteHexInt` wrote (for every size that fits 64 bits). -/
theorem parseHex_writeHexInt (n : Nat) (h : n < 16 ^ 16) : parseHex (writeHexInt n) = some n := by
  unfold parseHex writeHexInt
  have hne := hexDigits_ne_nil 16 n (by decide)
  simp only [List.isEmpty_iff, hne, if_false]
  rw [foldlM_hexDigits 16 n 0 h]
  simp

/-- hex digits: no CR or LF among them (`Spec.Resp.parseHex` and `Spec.Http.parseHex` are the same text, so the fact about
the one passes for the other by unfolding) -/
theorem writeHexInt_clean (n : Nat) (h : n < 16 ^ 16) : ∀ x ∈ writeHexInt n, x ≠ 13 ∧ x ≠ 10 := fun x hx =>
  have c := Spec.Http.hexDigitVal_clean x (Spec.Http.parseHex_digits _ n (parseHex_writeHexInt n h) x hx)
  ⟨c.1, c.2.1⟩

theorem writeChunk_nil : writeChunk [] = [48, 13, 10] := by decide

theorem chunks_chunk (fuel : Nat) (c rest acc : Bytes) (hne : c ≠ []) (hlen : c.length < 16 ^ 16) :
    chunks (fuel + 1) (writeChunk c ++ rest) acc = chunks fuel rest (acc ++ c) := by
  have e : writeChunk c ++ rest = writeHexInt c.length ++ 13 :: 10 :: (c ++ 13 :: 10 :: rest) := by
    simp [writeChunk, hne, HW.strCRLF_eq, List.append_assoc]
  rw [e, chunks, HW.crlfLine_append (writeHexInt c.length) _ (writeHexInt_clean _ hlen)]
  simp only [parseHex_writeHexInt _ hlen]
  obtain ⟨k, hk⟩ : ∃ k, c.length = k + 1 := ⟨c.length - 1, by have := List.length_pos_iff.mpr hne; omega⟩
  have hd : (c ++ 13 :: 10 :: rest).drop (k + 1) = 13 :: 10 :: rest := by rw [← hk]; simp
  have ht : (c ++ 13 :: 10 :: rest).take (k + 1) = c := by rw [← hk]; simp
  have hl : ¬ (c ++ 13 :: 10 :: rest).length < k + 1 + 2 := by simp [hk]
  rw [hk]
  simp only [hl, if_false, hd, ht, List.take, bne_self_eq_false, Bool.false_eq_true, ← List.drop_drop, List.drop]

theorem chunks_last (fuel : Nat) (tr : List (Bytes × Bytes)) (rest acc : Bytes) :
    chunks (fuel + 1) (writeChunk [] ++ trailerBlock tr ++ rest) acc = some (acc, HW.kept tr, rest) := by
  have e : writeChunk [] ++ trailerBlock tr ++ rest = [48] ++ 13 :: 10 :: (HW.block tr ++ rest) := by
    rw [writeChunk_nil]; rfl
  rw [e, chunks, HW.crlfLine_append [48] _ (by decide)]
  simp only [show parseHex [48] = some 0 by decide]
  have hk := HW.kept_len_le_block tr
  rw [HW.fields_block tr rest _ (by simp only [List.length_append]; omega)]
  rfl

/-- The strict chunk reader returns exactly the payloads the chunk encoder was given, then the
trailer fields, then whatever followed — provided no chunk is empty (an empty chunk is the terminator). -/
theorem chunks_encode : ∀ (cs : List Bytes) (tr : List (Bytes × Bytes)) (rest acc : Bytes) (fuel : Nat),
    (∀ c ∈ cs, c ≠ [] ∧ c.length < 16 ^ 16) → cs.length < fuel →
    chunks fuel (encodeChunks cs ++ writeChunk [] ++ trailerBlock tr ++ rest) acc =
      some (acc ++ cs.flatten, HW.kept tr, rest)
  | [], tr, rest, acc, fuel, _, hf => by
    obtain ⟨f, rfl⟩ : ∃ f, fuel = f + 1 := ⟨fuel - 1, by omega⟩
    simpa [encodeChunks] using chunks_last f tr rest acc
  | c :: cs, tr, rest, acc, fuel, hc, hf => by
    obtain ⟨f, rfl⟩ : ∃ f, fuel = f + 1 := ⟨fuel - 1, by omega⟩
    obtain ⟨hne, hlen⟩ := hc c (by simp)
    have ih := chunks_encode cs tr rest (acc ++ c) f (fun x hx => hc x (by simp [hx])) (by simp at hf; omega)
    have e : encodeChunks (c :: cs) ++ writeChunk [] ++ trailerBlock tr ++ rest =
        writeChunk c ++ (encodeChunks cs ++ writeChunk [] ++ trailerBlock tr ++ rest) := by
      simp [encodeChunks, List.append_assoc]
    rw [e, chunks_chunk f c _ acc hne hlen, ih]
    simp [List.append_assoc]

theorem writeChunk_length_pos (c : Bytes) : 0 < (writeChunk c).length := by
  have := List.length_pos_iff.mpr (hexDigits_ne_nil 16 c.length (by decide))
  simp only [writeChunk, writeHexInt, List.length_append] at this ⊢
  omega

/-- the fuel `length + 1` of the chunk readers covers the chunks -/
theorem encodeChunks_length (cs : List Bytes) : cs.length ≤ (encodeChunks cs).length :=
  length_le_flatMap _ writeChunk_length_pos cs

/-- the chunks of a body stream: its non-empty reads -/
theorem filter_nonempty_bound {n : Nat} (reads : List Bytes) (h : ∀ r ∈ reads, r.length < n) :
    ∀ c ∈ reads.filter (fun r => !r.isEmpty), c ≠ [] ∧ c.length < n := by
  intro c hc
  simp only [List.mem_filter] at hc
  exact ⟨by intro e; simp [e] at hc, h c hc.1⟩

theorem mustSkipCL_eq (st : Nat) : mustSkipCL st = noBodyStatus st := by
  unfold mustSkipCL noBodyStatus
  by_cases h1 : st < 100
  · have : ¬ (100 ≤ st) := by omega
    have h2 : st ≠ 204 := by omega
    have h3 : st ≠ 304 := by omega
    simp [h1, this, h2, h3]
  · by_cases h2 : st = 200
    · subst h2; decide
    · by_cases h5 : st < 200
      · have : 100 ≤ st := by omega
        simp [h1, h2, h5, this]
      · have a : ¬ (st < 100) := h1
        simp [h1, h2, h5, Bool.or_comm]

end Hertz.H1.Resp

namespace Hertz.ReqDecodes
open Hertz Hertz.Gen.Str Hertz.Spec.Http

theorem parseHex_eq : Spec.Http.parseHex = Spec.Resp.parseHex := rfl

theorem parseHex_writeHexInt (n : Nat) (h : n < 16 ^ 16) : Spec.Http.parseHex (H1.Resp.writeHexInt n) = some n := by
  rw [parseHex_eq]; exact H1.Resp.parseHex_writeHexInt n h

theorem hexDigits_length_le : ∀ (fuel n k : Nat), n < 16 ^ (k + 1) → (H1.Resp.hexDigits fuel n).length ≤ k + 1
  | 0, _, _, _ => by simp [H1.Resp.hexDigits]
  | fuel + 1, n, k, h => by
    unfold H1.Resp.hexDigits
    split
    · simp
    · rename_i hn
      match k, h with
      | 0, h => exact absurd (by simpa using h) hn
      | k + 1, h =>
        have hq : n / 16 < 16 ^ (k + 1) := by
          rw [Nat.div_lt_iff_lt_mul (by decide)]
          rw [Nat.pow_succ] at h; exact h
        have := hexDigits_length_le fuel (n / 16) k hq
        simp only [List.length_append, List.length_cons, List.length_nil]
        omega

/-- sizes below 16^15 are written with at most 15 hex digits (what the strict reader accepts) -/
theorem writeHexInt_length_le (n : Nat) (h : n < 16 ^ 15) : (H1.Resp.writeHexInt n).length ≤ 15 :=
  hexDigits_length_le 16 n 14 h

/-- the chunks `WriteBodyChunked` writes, as chunks of the general encoding: size by `WriteHexInt`, no padding -/
theorem writer_chunks (cs : List Bytes) (hc : ∀ c ∈ cs, c ≠ [] ∧ c.length < 16 ^ 15) :
    H1.Stream.encChunks (cs.map fun c => ⟨H1.Resp.writeHexInt c.length, 0, c⟩) = H1.Resp.encodeChunks cs ∧
    H1.Stream.bodyOf (cs.map fun c => ⟨H1.Resp.writeHexInt c.length, 0, c⟩) = cs.flatten ∧
    ∀ k ∈ cs.map (fun c => (⟨H1.Resp.writeHexInt c.length, 0, c⟩ : H1.Stream.WChunk)), k.Wf := by
  obtain ⟨h1, h2⟩ := H1.Stream.plain_chunks (fun c : Bytes => H1.Resp.writeHexInt c.length) (fun c => c) cs
  refine ⟨?_, by simpa using h2, ?_⟩
  · rw [h1]
    unfold H1.Resp.encodeChunks
    rw [List.flatMap_def, List.flatMap_def]
    exact congrArg _ (List.map_congr_left fun c hcm => by simp [H1.Resp.writeChunk, (hc c hcm).1, HW.strCRLF_eq])
  · intro k hk
    obtain ⟨c, hcm, rfl⟩ := List.mem_map.mp hk
    exact ⟨writeHexInt_length_le _ (hc c hcm).2, parseHex_writeHexInt _ (Nat.lt_of_lt_of_le (hc c hcm).2 (by decide)),
      (hc c hcm).1⟩

theorem chunkedWire_append (reads : List Bytes) (tr : List (Bytes × Bytes)) (rest : Bytes) :
    H1.Resp.chunkedWire reads tr ++ rest =
      H1.Resp.encodeChunks (reads.filter (fun r => !r.isEmpty)) ++ H1.Resp.writeChunk [] ++ (HW.block tr ++ rest) := by
  simp [H1.Resp.chunkedWire, H1.Resp.trailerBlock, List.append_assoc]

end Hertz.ReqDecodes
