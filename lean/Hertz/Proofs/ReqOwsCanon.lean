import Hertz.Proofs.ReqOwsLine
import Hertz.Proofs.ReqRoundtrip
import Hertz.Driver.H1Spec
/-!
The value canonicalisation of the per-case check (`Driver.H1Spec.canonVal`: runs of SP / HTAB collapsed to one SP,
both ends trimmed), restated as `canon` through `spWords` (the words of a value, each preceded by one SP: that form commutes
with append, trimming and unfolding), and the link between the handler's and the strict decoder's reading of a spelled
field line: `canon (hval f) = canon (sval f)`; then: a value without blanks in either reading is the same in both.
-/
namespace Hertz.H1.RT
open Hertz Hertz.H1 Hertz.Spec.Http

/-- every maximal run of non-blank bytes, preceded by one SP if `sp` (a blank was passed since the last run, or at
the start) -/
def canonGo : Bytes → Bool → Bytes
  | [], _ => []
  | c :: t, sp => if c = 32 ∨ c = 9 then canonGo t true else (if sp then [32, c] else [c]) ++ canonGo t false

/-- the words of `v`, each preceded by one SP -/
def spWords (v : Bytes) : Bytes := canonGo v true

/-- whitespace runs collapsed to one SP, both ends trimmed -/
def canon (v : Bytes) : Bytes := (spWords v).drop 1

theorem canonGo_eq : ∀ (v : Bytes) (sp : Bool), canonGo v sp = Driver.H1Spec.canonVal.go v sp
  | [], _ => by simp [canonGo, Driver.H1Spec.canonVal.go]
  | c :: t, sp => by
    simp only [canonGo, Driver.H1Spec.canonVal.go, canonGo_eq t true, canonGo_eq t false]

theorem spWords_head : ∀ v : Bytes, spWords v = [] ∨ ∃ r, spWords v = 32 :: r
  | [] => Or.inl rfl
  | c :: t => by
    by_cases hc : c = 32 ∨ c = 9
    · have := spWords_head t
      simpa [spWords, canonGo, hc] using this
    · exact Or.inr ⟨c :: canonGo t false, by simp [spWords, canonGo, hc]⟩

theorem canon_eq_canonVal (v : Bytes) : canon v = Driver.H1Spec.canonVal v := by
  unfold Driver.H1Spec.canonVal canon spWords
  cases v with
  | nil => simp [canonGo, Driver.H1Spec.canonVal.go]
  | cons c t =>
    by_cases hc : c = 32 ∨ c = 9
    · have hgo : Driver.H1Spec.canonVal.go (c :: t) false = canonGo t true := by
        simp [Driver.H1Spec.canonVal.go, hc, canonGo_eq]
      have hgo' : canonGo (c :: t) true = canonGo t true := by simp [canonGo, hc]
      have hh : ((c :: t).head? == some 32 || (c :: t).head? == some 9) = true := by
        rcases hc with h | h <;> subst h <;> simp
      rw [hgo, hgo']
      rcases spWords_head t with h | ⟨r, h⟩
      · unfold spWords at h; rw [h]; rfl
      · unfold spWords at h; rw [h]
        simp only [hh, if_true, List.drop_succ_cons, List.drop_zero]
    · have hgo : Driver.H1Spec.canonVal.go (c :: t) false = c :: canonGo t false := by
        simp [Driver.H1Spec.canonVal.go, hc, canonGo_eq]
      have hgo' : canonGo (c :: t) true = 32 :: c :: canonGo t false := by simp [canonGo, hc]
      rw [hgo, hgo']
      have h32 : c ≠ 32 := fun h => hc (Or.inl h)
      split
      · rename_i r heq
        simp only [List.cons.injEq] at heq
        exact absurd heq.1 h32
      · rfl

theorem canonGo_app_blank : ∀ (a b : Bytes) (sp : Bool), (b = [] ∨ ∃ x t, b = x :: t ∧ (x = 32 ∨ x = 9)) →
    canonGo (a ++ b) sp = canonGo a sp ++ canonGo b true
  | [], b, sp, h => by
    rcases h with h | ⟨x, t, h, hx⟩
    · subst h; simp [canonGo]
    · subst h; simp [canonGo, hx]
  | c :: t, b, sp, h => by
    simp only [List.cons_append, canonGo]
    split
    · exact canonGo_app_blank t b true h
    · rw [canonGo_app_blank t b false h]; simp

theorem spWords_app (a b : Bytes) (h : b = [] ∨ ∃ x t, b = x :: t ∧ (x = 32 ∨ x = 9)) :
    spWords (a ++ b) = spWords a ++ spWords b := canonGo_app_blank a b true h

theorem spWords_blank (x : UInt8) (t : Bytes) (hx : x = 32 ∨ x = 9) : spWords (x :: t) = spWords t := by
  simp [spWords, canonGo, hx]

theorem spWords_all_blank : ∀ s : Bytes, (∀ x ∈ s, x = 32 ∨ x = 9) → spWords s = []
  | [], _ => rfl
  | x :: t, h => by
    rw [spWords_blank x t (h x (by simp))]
    exact spWords_all_blank t (fun y hy => h y (by simp [hy]))

theorem spWords_app_blanks (a s : Bytes) (hs : ∀ x ∈ s, x = 32 ∨ x = 9) : spWords (a ++ s) = spWords a := by
  have h : s = [] ∨ ∃ x t, s = x :: t ∧ (x = 32 ∨ x = 9) := by
    cases s with
    | nil => exact Or.inl rfl
    | cons x t => exact Or.inr ⟨x, t, rfl, hs x (by simp)⟩
  rw [spWords_app a s h, spWords_all_blank s hs, List.append_nil]

theorem spWords_dropWhile (p : UInt8 → Bool) (hp : ∀ x, p x = true → x = 32 ∨ x = 9) :
    ∀ z : Bytes, spWords (z.dropWhile p) = spWords z
  | [] => rfl
  | c :: t => by
    by_cases hc : p c = true
    · rw [List.dropWhile_cons_of_pos hc, spWords_dropWhile p hp t, spWords_blank c t (hp c hc)]
    · rw [List.dropWhile_cons_of_neg hc]

theorem spWords_rstrip (p : UInt8 → Bool) (hp : ∀ x, p x = true → x = 32 ∨ x = 9) (w : Bytes) :
    spWords (w.reverse.dropWhile p).reverse = spWords w := by
  obtain ⟨s, hs, hall, _⟩ := strip_split p w
  show spWords (strip p w) = _
  conv => rhs; rw [hs]
  rw [spWords_app_blanks _ s (fun x hx => hp x (hall x hx))]

theorem spWords_trimOWS (z : Bytes) : spWords (trimOWS z) = spWords z := by
  have hp : ∀ x : UInt8, (x == 32 || x == 9) = true → x = 32 ∨ x = 9 := by
    intro x hx; simpa using hx
  unfold trimOWS
  rw [spWords_rstrip _ hp, spWords_dropWhile _ hp]

theorem spWords_stripSpace (z : Bytes) : spWords (stripSpace z) = spWords z := by
  have hp : ∀ x : UInt8, (x == 32) = true → x = 32 ∨ x = 9 := by
    intro x hx; left; simpa using hx
  unfold stripSpace
  rw [spWords_rstrip _ hp, spWords_dropWhile _ hp]

theorem spWords_tabsToSp : ∀ c : Bytes, spWords (tabsToSp c) = spWords c
  | [] => rfl
  | x :: t => by
    by_cases hx : x = 9
    · subst hx
      simp only [tabsToSp, if_true]
      rw [spWords_blank 32 _ (Or.inl rfl), spWords_blank 9 _ (Or.inr rfl), spWords_tabsToSp t]
    · simp [tabsToSp, hx]

/-- the words of the continuation lines -/
def spWordsL : List Bytes → Bytes
  | [] => []
  | c :: t => spWords c ++ spWordsL t

theorem unfoldH_head : ∀ cs : List Bytes, (∀ c ∈ cs, ContFacts c) →
    unfoldH cs = [] ∨ ∃ x t, unfoldH cs = x :: t ∧ (x = 32 ∨ x = 9)
  | [], _ => Or.inl rfl
  | c :: cs, h => by
    have hc := h c (by simp)
    obtain ⟨a, c', rfl⟩ := List.exists_cons_of_ne_nil hc.ne_nil
    have ha := hc.head a rfl
    refine Or.inr ?_
    rcases ha with ha | ha
    · subst ha; exact ⟨32, c' ++ unfoldH cs, by simp [unfoldH, tabsToSp], Or.inl rfl⟩
    · subst ha; exact ⟨32, tabsToSp c' ++ unfoldH cs, by simp [unfoldH, tabsToSp], Or.inl rfl⟩

theorem spWords_unfoldH : ∀ cs : List Bytes, (∀ c ∈ cs, ContFacts c) → spWords (unfoldH cs) = spWordsL cs
  | [], _ => rfl
  | c :: cs, h => by
    have hrest : ∀ c ∈ cs, ContFacts c := fun x hx => h x (by simp [hx])
    simp only [unfoldH, spWordsL]
    rw [spWords_app _ _ (unfoldH_head cs hrest), spWords_tabsToSp, spWords_unfoldH cs hrest]

theorem spWords_foldl : ∀ (cs : List Bytes) (v : Bytes),
    spWords (cs.foldl (fun v c => trimOWS (v ++ 32 :: trimOWS c)) v) = spWords v ++ spWordsL cs
  | [], v => by simp [spWordsL]
  | c :: cs, v => by
    simp only [List.foldl_cons, spWordsL]
    rw [spWords_foldl cs, spWords_trimOWS, spWords_app v _ (Or.inr ⟨32, _, rfl, Or.inl rfl⟩),
      spWords_blank 32 _ (Or.inl rfl), spWords_trimOWS, List.append_assoc]

/-- The handler's value and the strict decoder's value of a spelled field consist of the same words. -/
theorem spWords_hval_sval (f : FLine) (hf : wfFLine f = true) : spWords (hval f) = spWords (sval f) := by
  have F := wfFLine_facts f hf
  unfold hval sval
  rw [spWords_trimOWS, spWords_app _ _ (unfoldH_head f.conts F.conts), spWords_unfoldH f.conts F.conts,
    spWords_foldl, spWords_trimOWS]

theorem canon_hval_sval (f : FLine) (hf : wfFLine f = true) : canon (hval f) = canon (sval f) := by
  unfold canon; rw [spWords_hval_sval f hf]

/-! ### a value without blanks reads the same to the handler and to the strict decoder -/

theorem canonGo_nb : ∀ x : Bytes, (∀ c ∈ x, c ≠ 32 ∧ c ≠ 9) → canonGo x false = x
  | [], _ => rfl
  | c :: t, h => by
    have hc := h c (by simp)
    have : ¬ (c = 32 ∨ c = 9) := not_or.mpr hc
    simp [canonGo, this, canonGo_nb t (fun x hx => h x (by simp [hx]))]

theorem spWords_nil_all_blank : ∀ t : Bytes, spWords t = [] → ∀ x ∈ t, x = 32 ∨ x = 9
  | [], _ => by simp
  | c :: t, h => by
    by_cases hc : c = 32 ∨ c = 9
    · rw [spWords_blank c t hc] at h
      intro x hx
      simp only [List.mem_cons] at hx
      rcases hx with hx | hx
      · subst hx; exact hc
      · exact spWords_nil_all_blank t h x hx
    · simp [spWords, canonGo, hc] at h

/-- a text that ends in a non-blank and whose words come out without any SP is one word -/
theorem canonGo_one_word : ∀ t : Bytes, (∀ c ∈ canonGo t false, c ≠ 32 ∧ c ≠ 9) →
    (∀ c, t.getLast? = some c → c ≠ 32 ∧ c ≠ 9) → canonGo t false = t
  | [], _, _ => rfl
  | d :: t, h, hl => by
    by_cases hd : d = 32 ∨ d = 9
    · -- a blank in front: either more words follow (an SP comes out) or the text ends in a blank
      exfalso
      have e : canonGo (d :: t) false = spWords t := by simp [canonGo, hd, spWords]
      rw [e] at h
      rcases spWords_head t with h0 | ⟨r, hr⟩
      · obtain ⟨x, hx⟩ : ∃ x, (d :: t).getLast? = some x := ⟨_, List.getLast?_eq_some_getLast (List.cons_ne_nil d t)⟩
        rcases List.mem_cons.mp (List.mem_of_getLast? hx) with rfl | hm
        · exact absurd hd (not_or.mpr (hl x hx))
        · exact absurd (spWords_nil_all_blank t h0 x hm) (not_or.mpr (hl x hx))
      · exact (h 32 (by simp [hr])).1 rfl
    · have e : canonGo (d :: t) false = d :: canonGo t false := by simp [canonGo, hd]
      rw [e] at h ⊢
      rw [canonGo_one_word t (fun c hc => h c (by simp [hc])) fun c hc => hl c (by
        rw [List.getLast?_cons, hc]; rfl)]

theorem noBlankEnds_trimOWS (z : Bytes) : noBlankEnds (trimOWS z) = true := by
  have hp : ∀ c : UInt8, (c == 32 || c == 9) = false → c ≠ 32 ∧ c ≠ 9 := fun c hc => by simpa using hc
  obtain ⟨s, hs, _, hlast⟩ := strip_split (fun c => c == 32 || c == 9) (z.dropWhile (fun c => c == 32 || c == 9))
  change _ = trimOWS z ++ s at hs
  refine (noBlankEnds_iff _).mpr ⟨fun c hc => ?_, fun c hc => ?_⟩
  · -- the first byte of `trimOWS z` is the first byte of `z` that is not a blank
    refine hp c (head_dropWhile_not (fun c => c == 32 || c == 9) z c ?_)
    rw [hs, List.head?_append, hc]; rfl
  · exact hp c (hlast c hc)

theorem foldl_trimmed : ∀ (cs : List Bytes) (v : Bytes), (∃ z, v = trimOWS z) →
    ∃ z, cs.foldl (fun v c => trimOWS (v ++ 32 :: trimOWS c)) v = trimOWS z
  | [], _, h => h
  | _ :: cs, _, _ => foldl_trimmed cs _ ⟨_, rfl⟩

/-- a text `y` with trimmed ends that has the words of a blank-free text `h` is `h`: one word, or none -/
theorem eq_of_spWords_nb (y h : Bytes) (hE : noBlankEnds y = true) (hnb : ∀ c ∈ h, c ≠ 32 ∧ c ≠ 9)
    (hw : spWords y = spWords h) : y = h := by
  obtain ⟨hhead, hlast⟩ := (noBlankEnds_iff _).mp hE
  have hsp : ∀ h : Bytes, (∀ c ∈ h, c ≠ 32 ∧ c ≠ 9) → spWords h = if h = [] then [] else 32 :: h := by
    intro h hnb
    cases h with
    | nil => rfl
    | cons a h' =>
      have ha := hnb a (by simp)
      have : ¬ (a = 32 ∨ a = 9) := not_or.mpr ha
      simp [spWords, canonGo, this, canonGo_nb h' (fun x hx => hnb x (by simp [hx]))]
  rw [hsp h hnb] at hw
  cases y with
  | nil =>
    by_cases h0 : h = []
    · exact h0.symm
    · simp [h0, spWords, canonGo] at hw
  | cons c t =>
    have hcb : ¬ (c = 32 ∨ c = 9) := not_or.mpr (hhead c rfl)
    have e : spWords (c :: t) = 32 :: c :: canonGo t false := by simp [spWords, canonGo, hcb]
    rw [e] at hw
    by_cases h0 : h = []
    · simp [h0] at hw
    · simp only [h0, if_false, List.cons.injEq, true_and] at hw
      rw [← hw, canonGo_one_word t (fun x hx => hnb x (by rw [← hw]; simp [hx])) fun x hx => hlast x (by
        rw [List.getLast?_cons, hx]; rfl)]
theorem sval_eq_hval_of_nb (f : FLine) (hf : wfFLine f = true) (hnb : ∀ c ∈ hval f, c ≠ 32 ∧ c ≠ 9) :
    sval f = hval f := by
  obtain ⟨z, hz⟩ : ∃ z, sval f = trimOWS z := foldl_trimmed f.conts _ ⟨_, rfl⟩
  have hE := noBlankEnds_trimOWS z
  rw [← hz] at hE
  exact eq_of_spWords_nb _ _ hE hnb (spWords_hval_sval f hf).symm

theorem hval_eq_sval_of_nb (f : FLine) (hf : wfFLine f = true)
    (hnb : ∀ c ∈ sval f, c ≠ 32 ∧ c ≠ 9) : hval f = sval f :=
  eq_of_spWords_nb _ _ (noBlankEnds_trimOWS _) hnb (spWords_hval_sval f hf)

theorem hval_nofold (k raw : Bytes) : hval { name := k, raw := raw, conts := [] } = trimOWS raw := by
  simp [hval, unfoldH]

theorem sval_nofold (k raw : Bytes) : sval { name := k, raw := raw, conts := [] } = trimOWS raw := rfl

theorem hval_eq_sval_nofold (f : FLine) (h : f.conts = []) : hval f = sval f := by
  obtain ⟨k, raw, cs⟩ := f
  simp only at h; subst h
  rw [hval_nofold, sval_nofold]

end Hertz.H1.RT
