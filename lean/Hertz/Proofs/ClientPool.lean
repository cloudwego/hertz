/-
C10 — invariants of the pool model (`Hertz.Pool.step`) proved for every schedule (every list of
events accepted by `step`, of any length, from the empty pool), and the decision logic of
`doNonNilReqResp` / `Do`.  `Step` lists the accepting branches of `step` with their guards; each invariant is
shown to survive branch by branch, the branches that do not touch its fields by the hypothesis itself.
-/
import Hertz.Model.ClientPool
import Hertz.Gen.ClientPaths
namespace Hertz.Pool

theorem length_dropLast_succ {l : List Nat} {c : Nat} (h : l.getLast? = some c) : l.dropLast.length + 1 = l.length := by
  obtain ⟨ys, rfl⟩ := List.getLast?_eq_some_iff.mp h
  simp

theorem count_dropLast_add (x : Nat) {l : List Nat} {c : Nat} (h : l.getLast? = some c) :
    l.dropLast.count x + (if c = x then 1 else 0) = l.count x := by
  obtain ⟨ys, rfl⟩ := List.getLast?_eq_some_iff.mp h
  simp [List.count_singleton]

theorem len_erase {a : Nat} {l : List Nat} (h : a ∈ l) : (l.erase a).length + 1 = l.length := by
  rw [List.length_erase_of_mem h, Nat.sub_add_cancel (List.length_pos_of_mem h)]

theorem count_erase_mem (x : Nat) {a : Nat} {l : List Nat} (h : a ∈ l) :
    (l.erase a).count x + (if a = x then 1 else 0) = l.count x := by
  rw [List.count_erase]
  by_cases hax : a = x
  · subst hax
    have := List.count_pos_iff.mpr h
    simp; omega
  · simp [hax]

theorem count_take_drop (x n : Nat) (l : List Nat) : (l.take n).count x + (l.drop n).count x = l.count x := by
  rw [← List.count_append, List.take_append_drop]

/-- `step cfg s e = some s'`, one constructor per accepting branch of `step`, each with the guards on the way to it -/
inductive Step (cfg : Cfg) (s : State) : Ev → State → Prop
  | begin {a id} : a < auxBase ∧ a ∉ s.inDo →
      Step cfg s (.begin a id) { s with inDo := a :: s.inDo, pending := s.pending + 1 }
  | endd {a id early} : a ∈ s.inDo ∧ ownsNothing s a = true →
      Step cfg s (.endd a id early) { s with inDo := s.inDo.erase a, pending := s.pending - 1 }
  | acqIdle {a c} : a ∈ s.inDo ∧ s.idle.getLast? = some c →
      Step cfg s (.acqIdle a c) { s with idle := s.idle.dropLast, held := c :: s.held, holder := upd s.holder c a }
  | acqCreate {a} : a ∈ s.inDo ∧ s.idle = [] ∧ s.count < cfg.maxConns →
      Step cfg s (.acqCreate a) { s with count := s.count + 1, slots := a :: s.slots }
  | acqFull {a} : a ∈ s.inDo ∧ s.idle = [] ∧ ¬ s.count < cfg.maxConns → Step cfg s (.acqFull a) s
  | dialOk {a c} : fresh s c = true ∧ a < auxBase ∧ a ∈ s.slots →
      Step cfg s (.dialOk a c) { s with slots := s.slots.erase a, held := c :: s.held, holder := upd s.holder c a }
  | dialOkHelper {a c} : fresh s c = true ∧ auxBase ≤ a ∧ 0 < s.helperSlots →
      Step cfg s (.dialOk a c)
        { s with helperSlots := s.helperSlots - 1, held := c :: s.held, holder := upd s.holder c a }
  | dialFail {a} : a < auxBase ∧ a ∈ s.slots →
      Step cfg s (.dialFail a) { s with slots := s.slots.erase a, owed := a :: s.owed }
  | dialFailHelper {a} : auxBase ≤ a ∧ 0 < s.helperSlots →
      Step cfg s (.dialFail a) { s with helperSlots := s.helperSlots - 1, owed := a :: s.owed }
  | enq {a w popped} : cfg.wait = true ∧ a ∈ s.inDo ∧ w ∉ s.seenW ∧ popped ≤ s.queue.length ∧
        (s.queue.take popped).all (fun w => !s.live.contains w) = true →
      Step cfg s (.enq a w popped) { s with queue := s.queue.drop popped ++ [w], live := w :: s.live,
                                            wowner := upd s.wowner w a, seenW := w :: s.seenW }
  | deliver {a w c} : w ∈ s.live ∧ c ∈ s.held ∧ s.holder c = a →
      Step cfg s (.tryd a w (some c) true)
        { s with live := s.live.erase w, held := s.held.erase c, boxed := c :: s.boxed, boxOf := upd s.boxOf c w }
  | deliverErr {a w} : w ∈ s.live ∧ a ∈ s.owed → Step cfg s (.tryd a w none true) { s with live := s.live.erase w }
  | deliverDead {a w c} : w ∉ s.live → Step cfg s (.tryd a w c false) s
  | wake {a w c} : s.wowner w = a ∧ w ∉ s.live ∧ c ∈ s.boxed ∧ s.boxOf c = w →
      Step cfg s (.wake a w (some c))
        { s with boxed := s.boxed.erase c, held := c :: s.held, holder := upd s.holder c a }
  | wakeErr {a w} : s.wowner w = a ∧ w ∉ s.live ∧ noBox s w = true → Step cfg s (.wake a w none) s
  | cancelLate {a w c} : s.wowner w = a ∧ w ∉ s.live ∧ c ∈ s.boxed ∧ s.boxOf c = w →
      Step cfg s (.cancel a w (some c))
        { s with boxed := s.boxed.erase c, held := c :: s.held, holder := upd s.holder c a }
  | cancel {a w} : s.wowner w = a ∧ noBox s w = true → Step cfg s (.cancel a w none) { s with live := s.live.erase w }
  | rel {a c popped target delivered} : cfg.wait = false →
      c ∈ s.held ∧ s.holder c = a ∧ popped = 0 ∧ target = none ∧ delivered = false →
      Step cfg s (.rel a c popped target delivered) { s with held := s.held.erase c, idle := s.idle ++ [c] }
  | relDelivered {a c popped w} : ¬ cfg.wait = false → popOk s popped (some w) = true →
      w ∉ s.live ∧ ¬ (c ∈ s.held ∧ s.holder c = a) →
      Step cfg s (.rel a c popped (some w) true) { s with queue := s.queue.drop popped }
  | relWait {a c popped target delivered} : ¬ cfg.wait = false → popOk s popped target = true → ¬ delivered = true →
      c ∈ s.held ∧ s.holder c = a ∧ (∀ w, target = some w → w ∉ s.live) →
      Step cfg s (.rel a c popped target delivered)
        { s with queue := s.queue.drop popped, held := s.held.erase c, idle := s.idle ++ [c] }
  | close {a c} : c ∈ s.held ∧ s.holder c = a →
      Step cfg s (.close a c) { s with held := s.held.erase c, closed := c :: s.closed, owed := a :: s.owed }
  | dec {a popped target} : a ∈ s.owed → cfg.wait = false → popped = 0 ∧ target = none →
      Step cfg s (.dec a popped target) { s with owed := s.owed.erase a, count := s.count - 1 }
  | decDial {a popped w} : a ∈ s.owed → ¬ cfg.wait = false → popOk s popped (some w) = true →
      Step cfg s (.dec a popped (some w))
        { s with owed := s.owed.erase a, queue := s.queue.drop popped, helperSlots := s.helperSlots + 1 }
  | decWait {a popped} : a ∈ s.owed → ¬ cfg.wait = false → popOk s popped none = true →
      Step cfg s (.dec a popped none)
        { s with owed := s.owed.erase a, queue := s.queue.drop popped, count := s.count - 1 }
  | reap {a n} : auxBase ≤ a ∧ n ≤ s.idle.length →
      Step cfg s (.reap a n) { s with idle := s.idle.drop n, held := s.idle.take n ++ s.held,
                                      holder := fun c => if c ∈ s.idle.take n then a else s.holder c }
  | reapChk {a stop} : auxBase ≤ a ∧ (stop = true ↔ s.count = 0) → Step cfg s (.reapChk a stop) s

theorem Step.of_step {cfg : Cfg} {s s' : State} {e : Ev} : step cfg s e = some s' → Step cfg s e s' := by
  fun_cases step cfg s e <;> intro h <;> cases h <;> constructor <;> assumption

theorem Step.to_step {cfg : Cfg} {s s' : State} {e : Ev} (h : Step cfg s e s') : step cfg s e = some s' := by
  cases h
  case dialOkHelper hg => exact (if_neg fun h => Nat.not_lt.mpr hg.2.1 h.2.1).trans (if_pos hg)
  case dialFailHelper hg => exact (if_neg fun h => Nat.not_lt.mpr hg.1 h.1).trans (if_pos hg)
  case deliverDead c hg => cases c <;> exact if_pos hg
  case rel hw hg => exact (if_pos hw).trans (if_pos hg)
  case relDelivered hw hp hg => exact (if_neg hw).trans ((if_pos hp).trans ((if_pos rfl).trans (if_pos hg)))
  case relWait hw hp hd hg => exact (if_neg hw).trans ((if_pos hp).trans ((if_neg hd).trans (if_pos hg)))
  case dec ho hw hg => exact (if_pos ho).trans ((if_pos hw).trans (if_pos hg))
  case decDial ho hw hp | decWait ho hw hp => exact (if_pos ho).trans ((if_neg hw).trans (if_pos hp))
  all_goals exact if_pos ‹_›

/-! ### conservation of `connsCount` -/

/-- `connsCount` counts exactly: idle connections, connections in somebody's hands, connections
delivered to a waiter and not yet picked up, dial slots (callers and `dialConnFor` goroutines),
and connections already closed whose `decConnsCount` has not run yet. -/
def Cons (s : State) : Prop :=
  s.count = s.idle.length + s.held.length + s.boxed.length + s.slots.length + s.helperSlots + s.owed.length

/-- the right-hand side of `Cons` is, by computation, the cast of a natural number -/
theorem Cons.nonneg {s : State} (h : Cons s) : 0 ≤ s.count := h ▸ Int.natCast_nonneg _

theorem step_cons {cfg : Cfg} {s s' : State} {e : Ev} (hc : Cons s) (h : Step cfg s e s') : Cons s' := by
  cases h <;>
    simp only [Cons, List.length_cons, List.length_nil, List.length_append, List.length_take, List.length_drop] at hc ⊢
  case acqIdle hg => have := length_dropLast_succ hg.2; omega
  case dialOk hg => have := len_erase hg.2.2; omega
  case dialFail hg => have := len_erase hg.2; omega
  case deliver hg => have := len_erase hg.2.1; omega
  case wake hg | cancelLate hg => have := len_erase hg.2.2.1; omega
  case rel hg | relWait hg | close hg => have := len_erase hg.1; omega
  case dec ho _ _ | decDial ho _ _ | decWait ho _ _ => have := len_erase ho; omega
  case acqCreate | dialOkHelper | dialFailHelper | reap => omega
  all_goals exact hc

/-! ### `connsCount ≤ MaxConns` -/

theorem step_le {cfg : Cfg} {s s' : State} {e : Ev} (hc : s.count ≤ cfg.maxConns) (h : Step cfg s e s') :
    s'.count ≤ cfg.maxConns := by
  cases h
  case acqCreate hg => exact Int.add_one_le_of_lt hg.2.2
  case dec | decWait => exact Int.le_trans (Int.sub_le_self _ (by decide)) hc
  all_goals exact hc

/-! ### exclusivity: a connection is in at most one place -/

def Excl (s : State) : Prop :=
  ∀ x, s.idle.count x + s.held.count x + s.boxed.count x + s.closed.count x ≤ 1

theorem fresh_spec {s : State} {c : Nat} :
    fresh s c = true ↔ c ∉ s.idle ∧ c ∉ s.held ∧ c ∉ s.boxed ∧ c ∉ s.closed := by
  simp only [fresh, Bool.and_eq_true, Bool.not_eq_true', List.contains_eq_mem, decide_eq_false_iff_not, and_assoc]

theorem fresh_excl {s : State} {c : Nat} (hx : Excl s) (h : fresh s c = true) (x : Nat) :
    s.idle.count x + s.held.count x + s.boxed.count x + s.closed.count x + (if c = x then 1 else 0) ≤ 1 := by
  have := hx x
  split
  · subst c
    obtain ⟨h1, h2, h3, h4⟩ := fresh_spec.mp h
    rw [List.count_eq_zero.mpr h1, List.count_eq_zero.mpr h2, List.count_eq_zero.mpr h3, List.count_eq_zero.mpr h4]
    exact Nat.le_refl 1
  · omega

theorem step_excl {cfg : Cfg} {s s' : State} {e : Ev} (hc : Excl s) (h : Step cfg s e s') : Excl s' := by
  intro x
  have hx := hc x
  cases h <;> simp -failIfUnchanged only [List.count_cons, List.count_append, List.count_nil, beq_iff_eq]
  case acqIdle hg => have := count_dropLast_add x hg.2; omega
  case dialOk hg | dialOkHelper hg => have := fresh_excl hc hg.1 x; omega
  case deliver hg => have := count_erase_mem x hg.2.1; omega
  case wake hg | cancelLate hg => have := count_erase_mem x hg.2.2.1; omega
  case rel hg | relWait hg | close hg => have := count_erase_mem x hg.1; omega
  case reap n _ => have := count_take_drop x n s.idle; omega
  all_goals exact hx

/-! ### whatever a caller owns, it owns while inside `Do` -/

structure Own (s : State) : Prop where
  held : ∀ c ∈ s.held, s.holder c < auxBase → s.holder c ∈ s.inDo
  slots : ∀ a ∈ s.slots, a ∈ s.inDo
  owed : ∀ a ∈ s.owed, a < auxBase → a ∈ s.inDo
  live : ∀ w ∈ s.live, s.wowner w ∈ s.inDo
  boxed : ∀ c ∈ s.boxed, s.wowner (s.boxOf c) ∈ s.inDo

theorem ownsNothing_spec {s : State} {a : Nat} (h : ownsNothing s a = true) :
    (∀ c ∈ s.held, s.holder c ≠ a) ∧ a ∉ s.slots ∧ a ∉ s.owed ∧ (∀ w ∈ s.live, s.wowner w ≠ a) ∧
    (∀ c ∈ s.boxed, s.wowner (s.boxOf c) ≠ a) := by
  simp [ownsNothing, List.all_eq_true] at h
  obtain ⟨⟨⟨⟨h1, h2⟩, h3⟩, h4⟩, h5⟩ := h
  exact ⟨h1, h2, h3, h4, h5⟩

theorem upd_cases {P : Nat → Prop} {f : Nat → Nat} {k v x : Nat} (hv : P v) (hx : x ≠ k → P (f x)) :
    P (upd f k v x) := by
  unfold upd
  split
  · exact hv
  · exact hx ‹_›

theorem upd_of_ne {f : Nat → Nat} {k v x : Nat} (h : x ≠ k) : upd f k v x = f x := if_neg h

theorem Own.acquire {s : State} (ho : Own s) {a c : Nat} (ha : a < auxBase → a ∈ s.inDo) :
    ∀ c' ∈ c :: s.held, upd s.holder c a c' < auxBase → upd s.holder c a c' ∈ s.inDo := fun c' hc' =>
  upd_cases (P := fun b => b < auxBase → b ∈ s.inDo) ha fun hne =>
    ho.held c' ((List.mem_cons.mp hc').resolve_left hne)

theorem step_own {cfg : Cfg} {s s' : State} {e : Ev} (ho : Own s) (h : Step cfg s e s') : Own s' := by
  have sub {l : List Nat} {b x : Nat} (hx : x ∈ l.erase b) : x ∈ l := List.mem_of_mem_erase hx
  cases h
  case begin =>
    exact ⟨fun c hc hl => .tail _ (ho.held c hc hl), fun a ha => .tail _ (ho.slots a ha),
      fun a ha hl => .tail _ (ho.owed a ha hl), fun w hw => .tail _ (ho.live w hw),
      fun c hc => .tail _ (ho.boxed c hc)⟩
  case endd hg =>
    obtain ⟨n1, n2, n3, n4, n5⟩ := ownsNothing_spec hg.2
    exact ⟨fun c hc hl => (List.mem_erase_of_ne (n1 c hc)).mpr (ho.held c hc hl),
      fun a ha => (List.mem_erase_of_ne (ne_of_mem_of_not_mem ha n2)).mpr (ho.slots a ha),
      fun a ha hl => (List.mem_erase_of_ne (ne_of_mem_of_not_mem ha n3)).mpr (ho.owed a ha hl),
      fun w hw => (List.mem_erase_of_ne (n4 w hw)).mpr (ho.live w hw),
      fun c hc => (List.mem_erase_of_ne (n5 c hc)).mpr (ho.boxed c hc)⟩
  case acqIdle hg => exact { ho with held := ho.acquire fun _ => hg.1 }
  case acqCreate hg => exact { ho with slots := List.forall_mem_cons.mpr ⟨hg.1, ho.slots⟩ }
  case dialOk a _ hg =>
    exact { ho with held := ho.acquire fun _ => ho.slots a hg.2.2, slots := fun b hb => ho.slots b (sub hb) }
  case dialOkHelper hg => exact { ho with held := ho.acquire fun hl => absurd hl (Nat.not_lt.mpr hg.2.1) }
  case dialFail a hg =>
    exact { ho with slots := fun b hb => ho.slots b (sub hb),
                    owed := List.forall_mem_cons.mpr ⟨fun _ => ho.slots a hg.2, ho.owed⟩ }
  case dialFailHelper hg =>
    exact { ho with owed := List.forall_mem_cons.mpr ⟨fun hl => absurd hl (Nat.not_lt.mpr hg.1), ho.owed⟩ }
  case enq hg =>
    exact { ho with
      live := fun w' hw' => upd_cases (P := (· ∈ s.inDo)) hg.2.1 fun hne =>
        ho.live w' ((List.mem_cons.mp hw').resolve_left hne)
      boxed := fun c hc => upd_cases (P := (· ∈ s.inDo)) hg.2.1 fun _ => ho.boxed c hc }
  case deliver w _ hg =>
    exact { ho with
      held := fun c' hc' => ho.held c' (sub hc'), live := fun w' hw' => ho.live w' (sub hw')
      boxed := fun c' hc' => upd_cases (P := fun v => s.wowner v ∈ s.inDo) (ho.live w hg.1) fun hne =>
        ho.boxed c' ((List.mem_cons.mp hc').resolve_left hne) }
  case deliverErr | cancel => exact { ho with live := fun w' hw' => ho.live w' (sub hw') }
  case wake c hg | cancelLate c hg =>
    exact { ho with held := ho.acquire fun _ => hg.1 ▸ hg.2.2.2 ▸ ho.boxed c hg.2.2.1
                    boxed := fun c' hc' => ho.boxed c' (sub hc') }
  case relDelivered => exact { ho with }
  case rel | relWait => exact { ho with held := fun c' hc' => ho.held c' (sub hc') }
  case close c hg =>
    exact { ho with held := fun c' hc' => ho.held c' (sub hc')
                    owed := List.forall_mem_cons.mpr ⟨fun hl => hg.2 ▸ ho.held c hg.1 (hg.2 ▸ hl), ho.owed⟩ }
  case dec | decDial | decWait => exact { ho with owed := fun b hb => ho.owed b (sub hb) }
  case reap a n hg =>
    refine { ho with held := fun c hc => ?_ }
    dsimp only
    split
    · exact fun hl => absurd hl (Nat.not_lt.mpr hg.1)
    · exact ho.held c ((List.mem_append.mp hc).resolve_left ‹_›)
  all_goals exact ho

/-! ### the pending-request gauge -/

def Pend (s : State) : Prop := s.pending = s.inDo.length

theorem step_pend {cfg : Cfg} {s s' : State} {e : Ev} (hc : Pend s) (h : Step cfg s e s') : Pend s' := by
  unfold Pend at *
  cases h
  case begin => exact congrArg (· + 1) hc
  case endd hg => have := len_erase hg.1; simp only []; omega
  all_goals exact hc

/-! ### All invariants, for every schedule -/

structure Inv (cfg : Cfg) (s : State) : Prop where
  cons : Cons s
  le : s.count ≤ cfg.maxConns
  excl : Excl s
  own : Own s
  pend : Pend s

theorem inv_init (cfg : Cfg) : Inv cfg init := by
  refine ⟨?_, ?_, ?_, ⟨?_, ?_, ?_, ?_, ?_⟩, ?_⟩ <;> simp [init, Cons, Excl, Pend]

theorem step_inv {cfg : Cfg} {s s' : State} {e : Ev} (h : Inv cfg s) (hs : step cfg s e = some s') : Inv cfg s' :=
  have hs := Step.of_step hs
  ⟨step_cons h.cons hs, step_le h.le hs, step_excl h.excl hs, step_own h.own hs, step_pend h.pend hs⟩

theorem run_cons {cfg : Cfg} {s s' : State} {e : Ev} {es : List Ev} :
    run cfg s (e :: es) = some s' ↔ ∃ s1, step cfg s e = some s1 ∧ run cfg s1 es = some s' := by
  rw [run]
  cases step cfg s e <;> simp

theorem run_inv {cfg : Cfg} : ∀ {evs : List Ev} {s s' : State}, Inv cfg s → run cfg s evs = some s' → Inv cfg s'
  | [], _, _, h, hr => Option.some.inj hr ▸ h
  | _ :: _, _, _, h, hr =>
    let ⟨_, hs1, hr⟩ := run_cons.mp hr
    run_inv (step_inv h hs1) hr

theorem reach_inv {cfg : Cfg} {evs : List Ev} {s : State} (hr : run cfg init evs = some s) : Inv cfg s :=
  run_inv (inv_init cfg) hr

/-! ### Quiescence -/

theorem quiet_rest {cfg : Cfg} {s : State} (h : Inv cfg s) (hq : Quiet s) :
    s.held = [] ∧ s.slots = [] ∧ s.owed = [] ∧ s.live = [] ∧ s.boxed = [] ∧ s.count = s.idle.length := by
  obtain ⟨hd, hh, hheld, howed⟩ := hq
  have o := h.own
  have nobody {x : Nat} : x ∉ s.inDo := hd ▸ List.not_mem_nil
  have e1 : s.held = [] := List.eq_nil_iff_forall_not_mem.mpr fun c hc => nobody (o.held c hc (hheld c hc))
  have e2 : s.slots = [] := List.eq_nil_iff_forall_not_mem.mpr fun a ha => nobody (o.slots a ha)
  have e3 : s.owed = [] := List.eq_nil_iff_forall_not_mem.mpr fun a ha => nobody (o.owed a ha (howed a ha))
  have e4 : s.live = [] := List.eq_nil_iff_forall_not_mem.mpr fun w hw => nobody (o.live w hw)
  have e5 : s.boxed = [] := List.eq_nil_iff_forall_not_mem.mpr fun c hc => nobody (o.boxed c hc)
  refine ⟨e1, e2, e3, e4, e5, ?_⟩
  have := h.cons
  unfold Cons at this
  rw [e1, e2, e3, e5, hh] at this
  simpa using this

/-! ### Decision logic of `doNonNilReqResp` and `Do` -/

theorem verdict_release_iff (inPool : Bool) (ex : Exch) :
    (verdict inPool ex).act = .release ↔ ex.clean = true := by
  cases ex <;> simp [verdict, Exch.clean]
  · split <;> simp
  · rename_i a b c; cases a <;> cases b <;> cases c <;> simp

theorem verdict_badPool {inPool : Bool} {ex : Exch} (h : (verdict inPool ex).err = .badPool) :
    inPool = true ∧ (verdict inPool ex).canRetry = true ∧ (verdict inPool ex).act = .close := by
  cases ex <;> cases inPool <;> cases h <;> exact ⟨rfl, rfl, rfl⟩

theorem doLoop_nonidem (l : List Attempt) : (doLoop false l).length ≤ 1 := by
  cases l with
  | nil => simp [doLoop]
  | cons t r => simp only [doLoop]; split <;> simp

theorem sentCount_le_length (l : List Attempt) : sentCount l ≤ l.length := by
  unfold sentCount; exact List.length_filter_le _ _

/-- every attempt that `Do` follows by another one failed with `ErrBadPoolConn` on a request the
default policy may repeat -/
theorem doLoop_retried (idem : Bool) : ∀ (l : List Attempt) (i : Nat), i + 1 < (doLoop idem l).length →
    ∃ t, (doLoop idem l)[i]? = some t ∧ t.err = .badPool ∧ t.canRetry = true ∧ idem = true
  | [], i, h => by simp [doLoop] at h
  | t :: r, i, h => by
    simp only [doLoop] at h ⊢
    split at h
    · simp at h
    · split at h
      · rename_i h1 h2
        simp only [h1, h2, if_false, if_true]
        cases i with
        | zero =>
          refine ⟨t, by simp, ?_⟩
          simp at h2
          exact ⟨h2.2, h2.1.1, h2.1.2⟩
        | succ j =>
          have := doLoop_retried idem r j (by simpa using h)
          simpa using this
      · simp at h

/-! ### The tie to the source: facts regenerated from /repo on every run -/

/-- Every `return` of `doNonNilReqResp` after `acquireConn` — its `canIdempotentRetry` value,
whether it returns an error, and whether it closes, releases or keeps the connection — is what
`verdict` says.  Breaks when a `closeConn`/`releaseConn` is dropped, added, swapped, or a retry flag
changes in the Go source. -/
theorem model_matches_gen : modelPaths = Hertz.Gen.Client.doPaths := rfl

theorem retry_cond_matches_gen : doRetryCond = Hertz.Gen.Client.doRetryCond := rfl

theorem consts_match_gen : defaultMaxConnsPerHost = Hertz.Gen.Client.defaultMaxConnsPerHost ∧
    idempotentMethods = Hertz.Gen.Client.idempotentMethods := ⟨rfl, rfl⟩

/-- Every `return` of `HostClient.Do` is preceded by the decrement of `pendingRequests` (the model's
`endd` decrements on both exits).  Breaks when the decrement of the `ctx.Done()` arm is removed. -/
theorem pending_decrement_matches_gen : doReturnsDecrement = Hertz.Gen.Client.doReturnsDecrement := rfl

end Hertz.Pool
