import Hertz.Spec.Http
import Hertz.Proofs.SpecHex
import Hertz.Proofs.Http1
import Hertz.Proofs.Tables
/-!
The most general chunked encoding the proofs speak of (`Stream.WChunk`: hex digits as read by `Spec.Http.parseHex`, padding
blanks, payload) under the readers that take whole chunks: `parseChunkSize` on a size line, `readBodyChunked`, the strict
`Spec.Http.chunksAux`.  The request round trip's chunks (any spelling of the size, no padding; `RT.wchunks_eq`) and the
response writer's chunks (`WriteHexInt`, no padding; `plain_chunks`) are read back through it; the streamed reader is in
`StreamChunked` (which shares the namespace `Stream`: nothing in this file is about streaming).
-/
namespace Hertz.H1.Stream
open Hertz Hertz.H1 Hertz.Gen.Str

/-! ### the size line -/

/-- a size line as written on the wire: digits, blanks, CRLF -/
def sizeLine (digits : Bytes) (pad : Nat) : Bytes := digits ++ (List.replicate pad 32 ++ [13, 10])

theorem chunkSizeTail_pad (e : End) (t : Bytes) : ∀ pad : Nat,
    chunkSizeTail e (List.replicate pad 32 ++ 13 :: 10 :: t) = .ok t
  | 0 => by simp [chunkSizeTail]
  | pad + 1 => by
    simp only [List.replicate_succ, List.cons_append, chunkSizeTail, if_true]
    exact chunkSizeTail_pad e t pad

theorem parseChunkSize_sizeLine (e : End) (digits : Bytes) (pad n : Nat) (t : Bytes)
    (hlen : digits.length ≤ 15) (hn : Spec.Http.parseHex digits = some n) :
    parseChunkSize e (sizeLine digits pad ++ t) = .ok (n, t) := by
  -- the byte behind the digits is a blank or CR: not a hex digit
  obtain ⟨c, r, hr, hc⟩ : ∃ c r, List.replicate pad 32 ++ 13 :: 10 :: t = c :: r ∧ hex2int c = 16 := by
    cases pad with
    | zero => exact ⟨13, _, rfl, hex2int_cr⟩
    | succ p => exact ⟨32, _, rfl, hex2int_sp⟩
  have hd := readHexInt_parseHex e c r hc digits n hn hlen
  have hs : sizeLine digits pad ++ t = digits ++ c :: r := by simp [sizeLine, ← hr]
  rw [parseChunkSize, hs, hd]
  simp only [← hr, chunkSizeTail_pad]


/-! ### well-formed chunked encodings -/

/-- one chunk as written: size digits, blanks after them, payload -/
structure WChunk where
  digits : Bytes
  pad : Nat
  data : Bytes

/-- the digits are a hex numeral (`Spec.Http.parseHex`) of at most 15 digits (`maxHexIntChars`: `ReadHexInt` refuses
more) for the payload length; the payload is not empty (size 0 is the last chunk) -/
def WChunk.Wf (k : WChunk) : Prop :=
  k.digits.length ≤ 15 ∧ Spec.Http.parseHex k.digits = some k.data.length ∧ k.data ≠ []

def encChunks : List WChunk → Bytes
  | [] => []
  | k :: ks => sizeLine k.digits k.pad ++ (k.data ++ 13 :: 10 :: encChunks ks)

def bodyOf : List WChunk → Bytes
  | [] => []
  | k :: ks => k.data ++ bodyOf ks

/-- one chunk on the wire -/
def WChunk.enc (k : WChunk) : Bytes := sizeLine k.digits k.pad ++ (k.data ++ [13, 10])

theorem encChunks_eq_flatMap : ∀ cs : List WChunk, encChunks cs = cs.flatMap WChunk.enc
  | [] => rfl
  | k :: cs => by simp [encChunks, WChunk.enc, encChunks_eq_flatMap cs]

theorem bodyOf_eq_flatMap : ∀ cs : List WChunk, bodyOf cs = cs.flatMap (·.data)
  | [] => rfl
  | k :: cs => by simp [bodyOf, bodyOf_eq_flatMap cs]

theorem length_le_encChunks (cs : List WChunk) : cs.length ≤ (encChunks cs).length := by
  rw [encChunks_eq_flatMap]
  exact length_le_flatMap _ (fun k => by simp only [WChunk.enc, sizeLine, List.length_append, List.length_cons]; omega) cs


/-! ### the encoding against the independent strict decoder `Spec.Http.chunksAux` -/

theorem trimOWS_sizeLine (ds : Bytes) (pad : Nat) (hne : ds ≠ []) (h : ∀ c ∈ ds, c ≠ 32 ∧ c ≠ 9) :
    Spec.Http.trimOWS (ds ++ List.replicate pad 32) = ds := by
  have hws : ∀ c ∈ ds, (c == 32 || c == 9) = false := fun c hc => by simp [h c hc]
  -- in front stands a digit; from behind the blanks go and the last digit stops the trimming
  show strip _ ((ds ++ List.replicate pad 32).dropWhile _) = ds
  rw [dropWhile_id (ds ++ List.replicate pad 32), strip_append_of_pos ds _ fun x hx => by rw [List.eq_of_mem_replicate hx]; rfl,
    strip_of_last ds fun c hc => hws c (List.mem_of_getLast? hc)]
  intro c hc
  obtain ⟨a, ds', rfl⟩ := List.exists_cons_of_ne_nil hne
  exact Option.some.inj hc ▸ hws a List.mem_cons_self

theorem spec_sizeLine (ds : Bytes) (pad n : Nat) (t : Bytes) (h : Spec.Http.parseHex ds = some n) :
    Spec.Http.crlfLine (sizeLine ds pad ++ t) = some (ds ++ List.replicate pad 32, t) ∧
      Spec.Http.trimOWS (ds ++ List.replicate pad 32) = ds := by
  have hd := fun c hc => Spec.Http.hexDigitVal_clean c (Spec.Http.parseHex_digits ds n h c hc)
  refine ⟨?_, trimOWS_sizeLine ds pad (Spec.Http.parseHex_fold ds n h).1 (fun c hc => (hd c hc).2.2)⟩
  have hs : sizeLine ds pad ++ t = (ds ++ List.replicate pad 32) ++ 13 :: 10 :: t := by simp [sizeLine]
  rw [hs]
  apply Spec.Http.crlfLine_append
  intro c hc
  rcases List.mem_append.mp hc with hc | hc
  · exact ⟨(hd c hc).1, (hd c hc).2.1⟩
  · rw [List.eq_of_mem_replicate hc]; decide

/-- the independent strict decoder accepts every well-formed encoding and assigns it the same body and
the same end.  `zd`, `zp`: digits (any spelling of 0) and padding of the last chunk's size line, here and below. -/
theorem spec_decodes (zd : Bytes) (zp : Nat) (t : Bytes) (hzl : zd.length ≤ 15)
    (hz0 : Spec.Http.parseHex zd = some 0) : ∀ (cs : List WChunk) (fuel : Nat) (acc : Bytes),
    (∀ k ∈ cs, WChunk.Wf k) → cs.length + 1 ≤ fuel →
    Spec.Http.chunksAux fuel (encChunks cs ++ (sizeLine zd zp ++ t)) acc = some (acc ++ bodyOf cs, t)
  | _, 0, _, _, hf => by omega
  | [], fuel + 1, acc, _, _ => by
    obtain ⟨hl, htrim⟩ := spec_sizeLine zd zp 0 t hz0
    have h15 : ¬ zd.length > 15 := by omega
    have hhb := Spec.Http.head_not_blank_padded zd zp 0 hz0
    have hnt := Spec.Http.no_tab_padded zd zp 0 hz0
    simp only [encChunks, List.nil_append, Spec.Http.chunksAux, hl, hhb, hnt, Bool.false_eq_true, htrim, h15, if_false, hz0]
    simp [bodyOf]
  | k :: cs, fuel + 1, acc, hcs, hf => by
    obtain ⟨hl15, hh, hdne⟩ := hcs k (by simp)
    -- `chunksAux` matches the size against `some 0`: the payload length is shown as a successor so that the match reduces
    obtain ⟨n, hn⟩ := Nat.exists_eq_add_one_of_ne_zero (mt List.eq_nil_of_length_eq_zero hdne)
    obtain ⟨hline, htrim⟩ := spec_sizeLine k.digits k.pad _ (k.data ++ 13 :: 10 :: (encChunks cs ++ (sizeLine zd zp ++ t))) hh
    have hs : encChunks (k :: cs) ++ (sizeLine zd zp ++ t) =
        sizeLine k.digits k.pad ++ (k.data ++ 13 :: 10 :: (encChunks cs ++ (sizeLine zd zp ++ t))) := by
      simp [encChunks]
    have h15 : ¬ k.digits.length > 15 := by omega
    have ih := spec_decodes zd zp t hzl hz0 cs fuel (acc ++ k.data) (fun x hx => hcs x (by simp [hx])) (by simp at hf; omega)
    have hhb := Spec.Http.head_not_blank_padded k.digits k.pad _ hh
    have hnt := Spec.Http.no_tab_padded k.digits k.pad _ hh
    rw [hn] at hh
    simp only [hs, Spec.Http.chunksAux, hline, hhb, hnt, Bool.false_eq_true, htrim, h15, if_false, hh]
    -- behind the size line: the payload, its CRLF, the remaining chunks
    rw [← hn]
    simp [ih, bodyOf]


/-! ### the non-streamed reader -/

theorem readBodyChunked_wchunks (e : End) (maxBody : Nat) (zd : Bytes) (zp : Nat) (rest : Bytes)
    (hzl : zd.length ≤ 15) (hz0 : Spec.Http.parseHex zd = some 0) :
    ∀ (cs : List WChunk) (dst : Bytes) (fuel : Nat), cs.length < fuel → (∀ k ∈ cs, k.Wf) →
    (maxBody = 0 ∨ dst.length + (bodyOf cs).length ≤ maxBody) →
    readBodyChunked e maxBody fuel dst (encChunks cs ++ (sizeLine zd zp ++ rest)) = .ok (dst ++ bodyOf cs, rest)
  | [], dst, fuel, hf, _, _ => by
    obtain ⟨f, rfl⟩ : ∃ f, fuel = f + 1 := ⟨fuel - 1, by omega⟩
    simp [readBodyChunked, encChunks, bodyOf, parseChunkSize_sizeLine e zd zp 0 rest hzl hz0, bind, Except.bind]
  | k :: cs, dst, fuel, hf, hw, hmax => by
    obtain ⟨f, rfl⟩ : ∃ f, fuel = f + 1 := ⟨fuel - 1, by omega⟩
    obtain ⟨h15, hsz, hd0⟩ := hw k (by simp)
    have hlen0 : k.data.length ≠ 0 := fun h0 => hd0 (List.length_eq_zero_iff.mp h0)
    have hnot : ¬ (maxBody > 0 ∧ dst.length + k.data.length > maxBody) := by
      simp only [bodyOf, List.length_append] at hmax
      omega
    have ih := readBodyChunked_wchunks e maxBody zd zp rest hzl hz0 cs (dst ++ k.data) f (by simp at hf; omega)
      (fun x hx => hw x (by simp [hx])) (by
        simp only [bodyOf, List.length_append] at hmax ⊢
        omega)
    rw [encChunks, List.append_assoc, List.append_assoc]
    simp only [readBodyChunked, parseChunkSize_sizeLine e k.digits k.pad _ _ h15 hsz, bind, Except.bind, hlen0, if_false,
      hnot, List.cons_append, takeBody_enc]
    simp only [List.drop_left, List.take_left, strCRLF, ne_eq, not_true_eq_false, if_false, ih, bodyOf,
      List.append_assoc]

/-- chunks given by their size line and payload, written without padding -/
theorem plain_chunks {α : Type} (size data : α → Bytes) : ∀ cs : List α,
    encChunks (cs.map fun c => ⟨size c, 0, data c⟩) = cs.flatMap (fun c => size c ++ 13 :: 10 :: (data c ++ [13, 10])) ∧
    bodyOf (cs.map fun c => ⟨size c, 0, data c⟩) = (cs.map data).flatten :=
  fun cs => ⟨by simp [encChunks_eq_flatMap, List.flatMap_map, WChunk.enc, sizeLine],
    by rw [bodyOf_eq_flatMap, List.flatMap_def, List.map_map]; rfl⟩

end Hertz.H1.Stream
