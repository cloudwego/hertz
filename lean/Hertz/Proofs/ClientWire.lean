/-
C10 — `response_belongs_to_caller`.

A refinement layered on the pool machine `Hertz.Pool.step` (Model/ClientPool.lean is not changed):
the state gets, per connection, the wire between client and peer

  `out c`   requests written on `c` that the peer has not answered yet (head = oldest),
  `left c`  answers that have arrived on `c` and have not been read yet (the buffered leftovers of
            the connection's reader; head = next to be read),

and ghost fields that describe the exchange of the present holder of `c`
(`req` the request it wrote, `ph` how far the exchange got, `outc` the outcome it reported to the
decision logic `verdict`).  A message is a pair `(actor, request number)`; the answer to a request
is tagged with the request it answers.

Assumption about the peer (the `answer` event is the only way anything gets into `left`):
  (P1) one response per request, and only to a request that was written on that connection;
  (P2) responses come back on the connection the request was written on, in the order of the requests;
  (P3) nothing unsolicited: no bytes beyond the responses (event `inject` is disabled when
       `unsol = false`; `Props.C10.peer_assumption_needed` shows the theorem fails without P3).
Assumptions about the client program (guards of `wstep`, read off the code by hand: TODO-OPEN of Props/C10.lean): a holder
writes at most one request per acquisition (`doNonNilReqResp` has a single `reqI.Write`), and it reports `Exch.done` to `verdict`
only after it wrote the request and read one complete response (`exchOk`); hand-back to the pool
(`releaseConn`, directly or through `tryDeliver`) happens only for a connection nothing was written
on, or when `verdict … = release` (Gen/ClientPaths ties this to the source, `reuse_only_if_clean`
says that is exactly a clean exchange).
-/
import Hertz.Proofs.ClientPool
namespace Hertz.Pool

/-- a request on the wire: who wrote it and its number; its answer carries the same tag -/
abbrev Msg := Nat × Nat

/-- how far the present holder's exchange on a connection got -/
inductive XPh where
  | fresh      -- nothing written
  | wrote      -- request written, nothing read
  | readDone   -- request written, then one complete response read
  | dirty      -- anything else (failed write, partial read, second read …)
deriving Repr, DecidableEq

structure WState where
  pool : State := {}
  out : Nat → List Msg := fun _ => []
  left : Nat → List Msg := fun _ => []
  req : Nat → Option Msg := fun _ => none
  ph : Nat → XPh := fun _ => .fresh
  outc : Nat → Option (Bool × Exch) := fun _ => none

def winit : WState := {}

inductive WEv where
  /-- a lock region of the pool -/
  | pool (e : Ev)
  /-- holder `a` writes request number `r` on `c`; `reached`: the bytes got to the peer; `ok`: no error -/
  | write (a c r : Nat) (reached ok : Bool)
  /-- the peer answers the oldest unanswered request on `c` -/
  | answer (c : Nat)
  /-- the peer pushes something nobody asked for (only when `unsol = true`) -/
  | inject (c : Nat) (x : Msg)
  /-- holder `a` reads one complete response from `c`; it is the answer to `x` -/
  | read (a c : Nat) (x : Msg)
  /-- a failed read of holder `a` that consumed `n` buffered answers -/
  | skip (a c n : Nat)
  /-- holder `a` reports how the exchange went (the argument of `verdict`) -/
  | outcome (a c : Nat) (inPool : Bool) (ex : Exch)

/-- connections the pool event puts into somebody's hands -/
def acquired (s : State) : Ev → List Nat
  | .acqIdle _ c => [c]
  | .dialOk _ c => [c]
  | .wake _ _ (some c) => [c]
  | .cancel _ _ (some c) => [c]
  | .reap _ n => s.idle.take n
  | _ => []

/-- the connection the pool event hands back for reuse (into `conns`, or into a `wantConn`) -/
def handedBack : Ev → Option Nat
  | .rel _ c _ _ false => some c
  | .tryd _ _ (some c) true => some c
  | _ => none

/-- the pool event acquires, hands back or closes connection `c` -/
def touchPool (c : Nat) : Ev → Bool
  | .acqIdle _ c' => c' == c
  | .dialOk _ c' => c' == c
  | .wake _ _ (some c') => c' == c
  | .cancel _ _ (some c') => c' == c
  | .rel _ c' _ _ false => c' == c
  | .tryd _ _ (some c') true => c' == c
  | .close _ c' => c' == c
  | _ => false

/-- what `Exch.done` means on the wire: the request was written and one complete response read -/
def exchOk : Exch → XPh → Bool
  | .done _ _ _, p => p == .readDone
  | _, _ => true

/-- guard of handing `c` back: nothing was written on it, or the decision logic said `release` -/
def releasable (ws : WState) (c : Nat) : Bool :=
  ws.ph c == .fresh ||
  match ws.outc c with
  | some (inPool, ex) => (verdict inPool ex).act == .release
  | none => false

/-- the wire guard of a pool event: what it hands back must be `releasable` -/
def backOk (ws : WState) (e : Ev) : Bool :=
  match handedBack e with
  | some c => releasable ws c
  | none => true

/-- a new holder starts with a blank exchange record -/
def resetOn (ws : WState) (l : List Nat) : WState :=
  { ws with req := fun c => if c ∈ l then none else ws.req c,
            ph := fun c => if c ∈ l then .fresh else ws.ph c,
            outc := fun c => if c ∈ l then none else ws.outc c }

def wupd {α : Type} (f : Nat → α) (k : Nat) (v : α) : Nat → α := fun x => if x = k then v else f x

theorem wupd_self {α : Type} (f : Nat → α) (k : Nat) (v : α) : wupd f k v k = v := if_pos rfl

def holds (s : State) (a c : Nat) : Prop := c ∈ s.held ∧ s.holder c = a

instance (s : State) (a c : Nat) : Decidable (holds s a c) := by unfold holds; exact inferInstance

def wstep (cfg : Cfg) (unsol : Bool) (ws : WState) : WEv → Option WState
  | .pool e =>
    if backOk ws e = true then
      match step cfg ws.pool e with
      | some s' => some (resetOn { ws with pool := s' } (acquired ws.pool e))
      | none => none
    else none
  | .write a c r reached ok =>
    if holds ws.pool a c ∧ ws.ph c = .fresh then
      some { ws with out := if reached then wupd ws.out c (ws.out c ++ [(a, r)]) else ws.out,
                     req := wupd ws.req c (some (a, r)),
                     ph := wupd ws.ph c (if ok then .wrote else .dirty),
                     outc := wupd ws.outc c none }
    else none
  | .answer c =>
    match ws.out c with
    | x :: rest => some { ws with out := wupd ws.out c rest, left := wupd ws.left c (ws.left c ++ [x]) }
    | [] => none
  | .inject c x =>
    if unsol = true then some { ws with left := wupd ws.left c (ws.left c ++ [x]) } else none
  | .read a c x =>
    if holds ws.pool a c ∧ (ws.left c).head? = some x then
      some { ws with left := wupd ws.left c (ws.left c).tail,
                     ph := wupd ws.ph c (if ws.ph c = .wrote then .readDone else .dirty),
                     outc := wupd ws.outc c none }
    else none
  | .skip a c n =>
    if holds ws.pool a c then
      some { ws with left := wupd ws.left c ((ws.left c).drop n), ph := wupd ws.ph c .dirty,
                     outc := wupd ws.outc c none }
    else none
  | .outcome a c inPool ex =>
    if holds ws.pool a c ∧ exchOk ex (ws.ph c) = true then
      some { ws with outc := wupd ws.outc c (some (inPool, ex)) }
    else none

def wrun (cfg : Cfg) (unsol : Bool) : WState → List WEv → Option WState
  | ws, [] => some ws
  | ws, e :: es => match wstep cfg unsol ws e with
    | some ws' => wrun cfg unsol ws' es
    | none => none

inductive WStep (cfg : Cfg) (unsol : Bool) (ws : WState) : WEv → WState → Prop
  | pool {e s'} : backOk ws e = true → step cfg ws.pool e = some s' →
      WStep cfg unsol ws (.pool e) (resetOn { ws with pool := s' } (acquired ws.pool e))
  | write {a c r reached ok} : holds ws.pool a c ∧ ws.ph c = .fresh →
      WStep cfg unsol ws (.write a c r reached ok)
        { ws with out := if reached then wupd ws.out c (ws.out c ++ [(a, r)]) else ws.out,
                  req := wupd ws.req c (some (a, r)),
                  ph := wupd ws.ph c (if ok then .wrote else .dirty),
                  outc := wupd ws.outc c none }
  | answer {c x rest} : ws.out c = x :: rest →
      WStep cfg unsol ws (.answer c) { ws with out := wupd ws.out c rest, left := wupd ws.left c (ws.left c ++ [x]) }
  | inject {c x} : unsol = true → WStep cfg unsol ws (.inject c x) { ws with left := wupd ws.left c (ws.left c ++ [x]) }
  | read {a c x} : holds ws.pool a c ∧ (ws.left c).head? = some x →
      WStep cfg unsol ws (.read a c x)
        { ws with left := wupd ws.left c (ws.left c).tail,
                  ph := wupd ws.ph c (if ws.ph c = .wrote then .readDone else .dirty),
                  outc := wupd ws.outc c none }
  | skip {a c n} : holds ws.pool a c →
      WStep cfg unsol ws (.skip a c n)
        { ws with left := wupd ws.left c ((ws.left c).drop n), ph := wupd ws.ph c .dirty, outc := wupd ws.outc c none }
  | outcome {a c inPool ex} : holds ws.pool a c ∧ exchOk ex (ws.ph c) = true →
      WStep cfg unsol ws (.outcome a c inPool ex) { ws with outc := wupd ws.outc c (some (inPool, ex)) }

theorem WStep.of_wstep {cfg : Cfg} {unsol : Bool} {ws ws' : WState} {ev : WEv} :
    wstep cfg unsol ws ev = some ws' → WStep cfg unsol ws ev ws' := by
  fun_cases wstep cfg unsol ws ev <;> intro h <;> cases h <;> constructor <;> assumption

theorem wrun_cons {cfg : Cfg} {unsol : Bool} {ws ws' : WState} {e : WEv} {es : List WEv} :
    wrun cfg unsol ws (e :: es) = some ws' ↔ ∃ ws1, wstep cfg unsol ws e = some ws1 ∧ wrun cfg unsol ws1 es = some ws' := by
  rw [wrun]
  cases wstep cfg unsol ws e <;> simp

theorem excl_of_pooled {s : State} (h : Excl s) {c : Nat} (hc : c ∈ s.idle ∨ c ∈ s.boxed) :
    c ∉ s.held ∧ c ∉ s.closed := by
  have := h c
  have p := hc.imp List.count_pos_iff.mpr List.count_pos_iff.mpr
  have : s.held.count c = 0 ∧ s.closed.count c = 0 := by omega
  exact ⟨List.count_eq_zero.mp this.1, List.count_eq_zero.mp this.2⟩

theorem not_mem_erase_self {s : State} (hx : Excl s) (c : Nat) : c ∉ s.held.erase c := by
  have := hx c
  rw [← List.count_eq_zero, List.count_erase_self]; omega

/-- What a pool step does to one connection `c`, as far as the wire layer can tell: nothing; `c` comes into somebody's hands
out of the pool or from the dialer; `c` is handed back for reuse; `c` is closed. -/
inductive ConnMove (s s' : State) (e : Ev) (c : Nat) : Prop
  | same : (c ∈ s'.held ↔ c ∈ s.held) → (c ∈ s'.closed ↔ c ∈ s.closed) → s'.holder c = s.holder c →
      c ∉ acquired s e → touchPool c e = false → ConnMove s s' e c
  | acquire : c ∈ acquired s e → c ∉ s.held → c ∉ s.closed → ConnMove s s' e c
  | back : c ∉ acquired s e → handedBack e = some c → c ∈ s.held → c ∉ s'.held → ConnMove s s' e c
  | close : c ∉ acquired s e → c ∉ s'.held → c ∈ s'.closed → ConnMove s s' e c

/-- an event that puts the one connection `c'` into the hands of `a` -/
theorem ConnMove.take {s s' : State} {e : Ev} {c c' a : Nat} (hq : c' ∉ s.held ∧ c' ∉ s.closed)
    (hacq : acquired s e = [c']) (ht : touchPool c e = (c' == c)) (hh : s'.held = c' :: s.held)
    (hc : s'.closed = s.closed) (ho : s'.holder = upd s.holder c' a) : ConnMove s s' e c := by
  by_cases hne : c = c'
  · exact hne ▸ .acquire (hacq ▸ .head _) hq.1 hq.2
  · refine .same ?_ (hc ▸ Iff.rfl) (ho ▸ upd_of_ne hne) (hacq ▸ fun h => hne (List.mem_singleton.mp h))
      (ht.trans (beq_false_of_ne (Ne.symm hne)))
    rw [hh]; exact ⟨fun h => (List.mem_cons.mp h).resolve_left hne, .tail _⟩

/-- an event by which the one connection `c'` leaves its holder's hands, back for reuse or closed -/
theorem ConnMove.give {s s' : State} {e : Ev} {c c' : Nat} (hx : Excl s) (hm : c' ∈ s.held)
    (hacq : acquired s e = []) (ht : touchPool c e = (c' == c)) (hh : s'.held = s.held.erase c')
    (hho : s'.holder = s.holder)
    (hb : handedBack e = some c' ∧ s'.closed = s.closed ∨ s'.closed = c' :: s.closed) : ConnMove s s' e c := by
  have hna : c ∉ acquired s e := hacq ▸ List.not_mem_nil
  by_cases hne : c = c'
  · subst hne
    have gone : c ∉ s'.held := hh ▸ not_mem_erase_self hx c
    exact hb.elim (fun h => .back hna h.1 hm gone) fun h => .close hna gone (h ▸ .head _)
  · refine .same ?_ ?_ (hho ▸ rfl) hna (ht.trans (beq_false_of_ne (Ne.symm hne)))
    · rw [hh]; exact List.mem_erase_of_ne hne
    · rcases hb with h | h
      · rw [h.2]
      · rw [h]; exact ⟨fun h => (List.mem_cons.mp h).resolve_left hne, .tail _⟩

theorem Step.conn {cfg : Cfg} {s s' : State} {e : Ev} (hx : Excl s) (h : Step cfg s e s') (c : Nat) :
    ConnMove s s' e c := by
  cases h
  case acqIdle hg => exact .take (excl_of_pooled hx (.inl (List.mem_of_getLast? hg.2))) rfl rfl rfl rfl rfl
  case dialOk hg | dialOkHelper hg =>
    exact .take ⟨(fresh_spec.mp hg.1).2.1, (fresh_spec.mp hg.1).2.2.2⟩ rfl rfl rfl rfl rfl
  case wake hg | cancelLate hg => exact .take (excl_of_pooled hx (.inr hg.2.2.1)) rfl rfl rfl rfl rfl
  case deliver hg => exact .give hx hg.2.1 rfl rfl rfl rfl (.inl ⟨rfl, rfl⟩)
  case rel hg => obtain ⟨hc, _, _, _, rfl⟩ := hg; exact .give hx hc rfl rfl rfl rfl (.inl ⟨rfl, rfl⟩)
  case relWait hd hg => cases Bool.eq_false_iff.mpr hd; exact .give hx hg.1 rfl rfl rfl rfl (.inl ⟨rfl, rfl⟩)
  case close hg => exact .give hx hg.1 rfl rfl rfl rfl (.inr rfl)
  case reap n _ =>
    by_cases hm : c ∈ s.idle.take n
    · have hq := excl_of_pooled hx (.inl (List.mem_of_mem_take hm))
      exact .acquire hm hq.1 hq.2
    · exact .same ⟨fun h => (List.mem_append.mp h).resolve_left hm, List.mem_append_right _⟩ Iff.rfl (if_neg hm) hm rfl
  case deliverDead c' _ => cases c' <;> exact .same Iff.rfl Iff.rfl rfl List.not_mem_nil rfl
  all_goals exact .same Iff.rfl Iff.rfl rfl List.not_mem_nil rfl

/-- what the invariant says of one connection `c`: its wire `o`, `l` and the exchange record `r`, `p`, `oc` of its holder -/
structure ConnOk (s : State) (c : Nat) (o l : List Msg) (r : Option Msg) (p : XPh) (oc : Option (Bool × Exch)) :
    Prop where
  /-- the wire of a connection that is in nobody's hands (idle, parked in a `wantConn`, or not yet
  dialled) is empty in both directions -/
  quiet : c ∉ s.held → c ∉ s.closed → o = [] ∧ l = []
  /-- the wire of a connection in somebody's hands carries at most one message, the request its holder wrote,
  and nothing before the write or after the complete read -/
  heldW : c ∈ s.held →
    (o ++ l).length ≤ 1 ∧ (∀ x ∈ o ++ l, r = some x) ∧ (p = .fresh ∨ p = .readDone → o ++ l = [])
  owner : c ∈ s.held → ∀ x, r = some x → x.1 = s.holder c
  outcOk : ∀ ip ex, oc = some (ip, ex) → exchOk ex p = true

structure WInv (cfg : Cfg) (ws : WState) : Prop where
  pool : Inv cfg ws.pool
  conn : ∀ c, ConnOk ws.pool c (ws.out c) (ws.left c) (ws.req c) (ws.ph c) (ws.outc c)

theorem winv_init (cfg : Cfg) : WInv cfg winit := by
  refine ⟨inv_init cfg, fun c => ⟨?_, ?_, ?_, ?_⟩⟩ <;> simp [winit]

theorem clean_done {ex : Exch} (h : ex.clean = true) : ∃ a b c, ex = .done a b c := by
  cases ex <;> simp [Exch.clean] at h ⊢

/-- here `reuse_only_if_clean` enters: `verdict … = release` means a clean exchange, a clean exchange
is `Exch.done`, and the holder reports `Exch.done` only after writing the request and reading one
complete response -/
theorem releasable_clean {cfg : Cfg} {ws : WState} (hi : WInv cfg ws) {c : Nat} (hc : c ∈ ws.pool.held)
    (hr : releasable ws c = true) : ws.out c = [] ∧ ws.left c = [] := by
  have hph : ws.ph c = .fresh ∨ ws.ph c = .readDone := by
    unfold releasable at hr
    simp only [Bool.or_eq_true, beq_iff_eq] at hr
    rcases hr with hr | hr
    · exact Or.inl hr
    · right
      split at hr
      · rename_i ip ex ho
        have hcl := (verdict_release_iff ip ex).mp (by simpa using hr)
        obtain ⟨x, y, z, rfl⟩ := clean_done hcl
        have := (hi.conn c).outcOk ip _ ho
        simpa [exchOk] using this
      · cases hr
  exact List.append_eq_nil_iff.mp (((hi.conn c).heldW hc).2.2 hph)

theorem winv_pool {cfg : Cfg} {ws : WState} {e : Ev} {s' : State} (hi : WInv cfg ws)
    (hg : ∀ c, handedBack e = some c → releasable ws c = true) (hs : step cfg ws.pool e = some s') :
    WInv cfg (resetOn { ws with pool := s' } (acquired ws.pool e)) := by
  refine ⟨step_inv hi.pool hs, fun c => ?_⟩
  have old := hi.conn c
  simp only [resetOn]
  cases Step.conn hi.pool.excl (.of_step hs) c
  case acquire ha h1 h2 =>
    -- a new holder: the record is blank, and the wire was quiet
    obtain ⟨ho, hl⟩ := old.quiet h1 h2
    simp only [ha, if_true, ho, hl]
    exact ⟨fun _ _ => ⟨rfl, rfl⟩, fun _ => ⟨Nat.zero_le 1, fun _ h => (nomatch h), fun _ => rfl⟩,
      fun _ _ h => (nomatch h), fun _ _ h => (nomatch h)⟩
  case same hh hc ho ha _ =>
    simp only [ha, if_false]
    exact ⟨fun h1 h2 => old.quiet (mt hh.mpr h1) (mt hc.mpr h2), fun h => old.heldW (hh.mp h),
      fun h => ho ▸ old.owner (hh.mp h), old.outcOk⟩
  case back ha hb hc gone =>
    simp only [ha, if_false]
    exact ⟨fun _ _ => releasable_clean hi hc (hg c hb), fun h => (gone h).elim, fun h => (gone h).elim, old.outcOk⟩
  case close ha gone hcl =>
    simp only [ha, if_false]
    exact ⟨fun _ h => (h hcl).elim, fun h => (gone h).elim, fun h => (gone h).elim, old.outcOk⟩

/-- an event that only touches the wire record of one connection `c` -/
theorem winv_wire {cfg : Cfg} {ws ws' : WState} (hi : WInv cfg ws) (c : Nat) (hp : ws'.pool = ws.pool)
    (hframe : ∀ c', c' ≠ c → ws'.out c' = ws.out c' ∧ ws'.left c' = ws.left c' ∧ ws'.req c' = ws.req c' ∧
      ws'.ph c' = ws.ph c' ∧ ws'.outc c' = ws.outc c')
    (hc : ConnOk ws.pool c (ws'.out c) (ws'.left c) (ws'.req c) (ws'.ph c) (ws'.outc c)) : WInv cfg ws' := by
  refine ⟨hp ▸ hi.pool, fun c' => ?_⟩
  rw [hp]
  by_cases e : c' = c
  · exact e ▸ hc
  · obtain ⟨f1, f2, f3, f4, f5⟩ := hframe c' e
    rw [f1, f2, f3, f4, f5]
    exact hi.conn c'

theorem alone_of_length_le_one {α : Type} {o t : List α} {x : α} (h : (o ++ x :: t).length ≤ 1) : o = [] ∧ t = [] := by
  cases o with
  | nil => exact ⟨rfl, List.length_eq_zero_iff.mp (Nat.le_zero.mp (Nat.le_of_succ_le_succ h))⟩
  | cons y o => simp at h

theorem wstep_inv {cfg : Cfg} {ws ws' : WState} {ev : WEv} (hi : WInv cfg ws)
    (h : wstep cfg false ws ev = some ws') : WInv cfg ws' := by
  cases WStep.of_wstep h
  case pool hg hs => exact winv_pool hi (fun c hb => by simpa [backOk, hb] using hg) hs
  case write a c r reached ok hg =>
    obtain ⟨⟨hheld, hhold⟩, hph⟩ := hg
    have hempty := List.append_eq_nil_iff.mp (((hi.conn c).heldW hheld).2.2 (Or.inl hph))
    refine winv_wire hi c rfl ?_
      ⟨fun h1 => (h1 hheld).elim, fun _ => ⟨?_, ?_, ?_⟩, fun _ x hx => ?_, fun ip ex ho => ?_⟩
    · intro c' hne
      cases reached <;> simp [wupd, hne]
    · cases reached <;> simp [wupd, hempty.1, hempty.2]
    · cases reached <;> simp [wupd, hempty.1, hempty.2]
    · cases ok <;> simp [wupd]
    · simp [wupd] at hx
      rw [← hx]; exact hhold.symm
    · simp [wupd] at ho
  case answer c x rest hout =>
    refine winv_wire hi c rfl ?_ ⟨fun h1 h2 => ?_, fun hheld => ?_, (hi.conn c).owner, (hi.conn c).outcOk⟩
    · intro c' hne; simp [wupd, hne]
    · have := ((hi.conn c).quiet h1 h2).1
      rw [hout] at this; cases this
    · -- the request being answered is the only message on the wire: it moves from `out` to `left`
      have hw := (hi.conn c).heldW hheld
      rw [hout] at hw
      obtain ⟨rfl, hl⟩ := List.append_eq_nil_iff.mp (alone_of_length_le_one (o := []) hw.1).2
      simp only [wupd_self, hl]
      exact ⟨Nat.le_refl 1, fun y hy => List.mem_singleton.mp hy ▸ hw.2.1 x (.head _), fun hp => nomatch hw.2.2 hp⟩
  case inject hu => cases hu
  case read a c x hg =>
    obtain ⟨⟨hheld, hhold⟩, hhead⟩ := hg
    -- the response read was the only message on the wire
    obtain ⟨t, hl⟩ := List.head?_eq_some_iff.mp hhead
    obtain ⟨ho, rfl⟩ := alone_of_length_le_one (hl ▸ ((hi.conn c).heldW hheld).1)
    refine winv_wire hi c rfl ?_
      ⟨fun h1 => (h1 hheld).elim, fun _ => ?_, (hi.conn c).owner, fun ip ex ho => ?_⟩
    · intro c' hne; simp [wupd, hne]
    · simp only [wupd_self, ho, hl, List.tail_cons, List.append_nil]
      exact ⟨Nat.zero_le 1, fun _ h => (nomatch h), fun _ => trivial⟩
    · simp [wupd] at ho
  case skip a c n hg =>
    obtain ⟨hheld, hhold⟩ := hg
    have hw := (hi.conn c).heldW hheld
    have hsub : (ws.out c ++ (ws.left c).drop n).Sublist (ws.out c ++ ws.left c) :=
      (List.Sublist.refl _).append (List.drop_sublist n _)
    refine winv_wire hi c rfl ?_
      ⟨fun h1 => (h1 hheld).elim, fun _ => ⟨?_, ?_, ?_⟩, (hi.conn c).owner, fun ip ex ho => ?_⟩
    · intro c' hne; simp [wupd, hne]
    · simp only [wupd_self]; exact Nat.le_trans hsub.length_le hw.1
    · simp only [wupd_self]; exact fun y hy => hw.2.1 y (hsub.subset hy)
    · simp [wupd_self]
    · simp [wupd] at ho
  case outcome a c ip ex hg =>
    obtain ⟨⟨hheld, hhold⟩, hok⟩ := hg
    refine winv_wire hi c rfl ?_ ⟨(hi.conn c).quiet, (hi.conn c).heldW, (hi.conn c).owner, fun ip' ex' ho => ?_⟩
    · intro c' hne; simp [wupd, hne]
    · simp [wupd] at ho
      obtain ⟨rfl, rfl⟩ := ho
      exact hok

theorem wrun_inv {cfg : Cfg} : ∀ {evs : List WEv} {ws ws' : WState}, WInv cfg ws →
    wrun cfg false ws evs = some ws' → WInv cfg ws'
  | [], _, _, h, hr => Option.some.inj hr ▸ h
  | _ :: _, _, _, h, hr =>
    let ⟨_, hs1, hr⟩ := wrun_cons.mp hr
    wrun_inv (wstep_inv h hs1) hr

theorem wreach_inv {cfg : Cfg} {evs : List WEv} {ws : WState} (hr : wrun cfg false winit evs = some ws) :
    WInv cfg ws := wrun_inv (winv_init cfg) hr

/-- the pool events of an extended trace (`wrun_pool`: of an accepted one they are an accepted schedule of the pool machine) -/
def poolEvents : List WEv → List Ev
  | [] => []
  | .pool e :: t => e :: poolEvents t
  | _ :: t => poolEvents t

theorem wrun_pool {cfg : Cfg} {unsol : Bool} : ∀ {evs : List WEv} {ws ws' : WState},
    wrun cfg unsol ws evs = some ws' → run cfg ws.pool (poolEvents evs) = some ws'.pool
  | [], _, _, hr => by cases hr; rfl
  | e :: es, ws, ws', hr => by
    obtain ⟨ws1, hs1, hr1⟩ := wrun_cons.mp hr
    have h2 := wrun_pool hr1
    clear hr
    cases WStep.of_wstep hs1
    case pool hs => rw [poolEvents, run, hs]; exact h2
    all_goals exact h2

/-! ### the response read is the answer to the reader's own request -/

/-- State form.  In any state that satisfies `WInv` (every one an honest peer's traces reach), if actor `a` can read a
complete response from connection `c`, and that response is the answer to request `x`, then `x` is
the request that `a` itself wrote on `c` during its present hold of the connection. -/
theorem read_own {cfg : Cfg} {ws ws' : WState} {a c : Nat} {x : Msg} (hi : WInv cfg ws)
    (h : wstep cfg false ws (.read a c x) = some ws') :
    holds ws.pool a c ∧ ws.req c = some x ∧ x.1 = a := by
  cases WStep.of_wstep h with | read hg =>
  obtain ⟨⟨hheld, hhold⟩, hhead⟩ := hg
  have hreq := ((hi.conn c).heldW hheld).2.1 x (List.mem_append_right _ (List.mem_of_mem_head? hhead))
  exact ⟨⟨hheld, hhold⟩, hreq, ((hi.conn c).owner hheld x hreq).trans hhold⟩

/-- the event acquires, hands back or closes connection `c`, or writes a request on it -/
def touch (c : Nat) : WEv → Bool
  | .pool e => touchPool c e
  | .write _ c' _ _ _ => c' == c
  | _ => false

/-- case analysis on an event, down to the patterns `step`, `acquired` and `handedBack` match on -/
macro "ev_cases" e:ident : tactic => `(tactic|
  rcases $e:ident with ⟨a, id⟩ | ⟨a, id, x⟩ | ⟨a, c⟩ | ⟨a⟩ | ⟨a⟩ | ⟨a, c⟩ | ⟨a⟩ | ⟨a, w, k⟩ |
    ⟨a, w, (_ | c), (_ | _)⟩ | ⟨a, w, (_ | c)⟩ | ⟨a, w, (_ | c)⟩ | ⟨a, c, k, t, (_ | _)⟩ | ⟨a, c⟩ |
    ⟨a, k, t⟩ | ⟨a, n⟩ | ⟨a, stop⟩)

/-- one step backwards: the request recorded for a held connection was written by this very event,
or was recorded before and the event does not touch the connection -/
theorem req_step {cfg : Cfg} {ws ws1 : WState} {ev : WEv} (hi : WInv cfg ws)
    (h : wstep cfg false ws ev = some ws1) (c : Nat) (x : Msg) (hc : c ∈ ws1.pool.held)
    (hx : ws1.req c = some x) :
    (∃ reached ok, ev = .write x.1 c x.2 reached ok) ∨
    (c ∈ ws.pool.held ∧ ws.req c = some x ∧ touch c ev = false) := by
  cases WStep.of_wstep h
  case pool e s' hg hs =>
    right
    simp only [resetOn] at hc hx
    cases Step.conn hi.pool.excl (.of_step hs) c
    case same hh _ _ ha ht => exact ⟨hh.mp hc, by simpa only [ha, if_false] using hx, ht⟩
    case acquire ha _ _ => simp [ha] at hx
    case back gone | close gone _ => exact (gone hc).elim
  case write a c' r reached ok hg =>
    by_cases e : c' = c
    · subst e
      left
      simp [wupd] at hx
      subst hx
      exact ⟨reached, ok, rfl⟩
    · right
      have e' : ¬ c = c' := fun h => e h.symm
      simp [wupd, e'] at hx
      exact ⟨hc, hx, by simp [touch, e]⟩
  case inject hu => cases hu
  all_goals exact Or.inr ⟨hc, hx, rfl⟩

theorem req_trace {cfg : Cfg} : ∀ (evs : List WEv) (ws ws' : WState), WInv cfg ws →
    wrun cfg false ws evs = some ws' → ∀ (c : Nat) (x : Msg), c ∈ ws'.pool.held → ws'.req c = some x →
    (∃ pre post reached ok, evs = pre ++ .write x.1 c x.2 reached ok :: post ∧ ∀ e ∈ post, touch c e = false) ∨
    (c ∈ ws.pool.held ∧ ws.req c = some x ∧ ∀ e ∈ evs, touch c e = false)
  | [], ws, ws', hi, hr, c, x, hc, hx => by
    cases hr
    exact Or.inr ⟨hc, hx, by simp⟩
  | e :: es, ws, ws', hi, hr, c, x, hc, hx => by
    obtain ⟨ws1, hs1, hr⟩ := wrun_cons.mp hr
    rcases req_trace es ws1 ws' (wstep_inv hi hs1) hr c x hc hx with
      ⟨pre, post, reached, ok, he, hp⟩ | ⟨hc1, hx1, hp⟩
    · exact Or.inl ⟨e :: pre, post, reached, ok, by simp [he], hp⟩
    · rcases req_step hi hs1 c x hc1 hx1 with ⟨reached, ok, he⟩ | ⟨hc0, hx0, ht⟩
      · exact Or.inl ⟨[], es, reached, ok, by simp [he], hp⟩
      · exact Or.inr ⟨hc0, hx0, List.forall_mem_cons.mpr ⟨ht, hp⟩⟩

/-- a connection waiting in the pool (idle, or parked in a `wantConn`) has an empty wire: no
request outstanding, no leftover buffered -/
theorem pooled_wire_empty {cfg : Cfg} {ws : WState} (hi : WInv cfg ws) {c : Nat}
    (hc : c ∈ ws.pool.idle ∨ c ∈ ws.pool.boxed) : ws.out c = [] ∧ ws.left c = [] := by
  have := excl_of_pooled hi.pool.excl hc
  exact (hi.conn c).quiet this.1 this.2

/-! ### the client-side guards allow the caller's program, whatever the exchange -/

/-- the wire events of one attempt of `doNonNilReqResp` whose outcome is `ex`, for holder `a` of `c`
sending request number `r` -/
def attemptWire (a c r : Nat) : Exch → List WEv
  | .writeTimeoutElapsed => []
  | .setTimeoutErr => []
  | .writeErrOther => [.write a c r false false]
  | .writeClosedRespOk => [.write a c r true false, .answer c, .read a c (a, r)]
  | .writeClosedNoResp => [.write a c r false false]
  | .peekEOF => [.write a c r false true]
  | .peekErr => [.write a c r true true]
  | .headerErr => [.write a c r true true, .answer c, .skip a c 1]
  | .bodyErr _ => [.write a c r true true, .answer c, .skip a c 1]
  | .upgrade => [.write a c r true true, .answer c, .read a c (a, r)]
  | .streamOpen => [.write a c r true true, .answer c, .skip a c 0]
  | .done _ _ _ => [.write a c r true true, .answer c, .read a c (a, r)]

theorem wrun_append {cfg : Cfg} {unsol : Bool} : ∀ (l1 l2 : List WEv) (ws : WState),
    wrun cfg unsol ws (l1 ++ l2) = (wrun cfg unsol ws l1).bind fun ws' => wrun cfg unsol ws' l2
  | [], _, _ => rfl
  | e :: l1, l2, ws => by
    simp only [List.cons_append, wrun]
    cases wstep cfg unsol ws e with
    | none => rfl
    | some ws1 => exact wrun_append l1 l2 ws1

/-- on a blank connection the wire events of an attempt are accepted, whatever its outcome `ex`, and end in a phase in
which `ex` may be reported -/
theorem attemptWire_run {cfg : Cfg} {ws : WState} (a c r : Nat) (ex : Exch) (hh : holds ws.pool a c)
    (hf : ws.ph c = .fresh) (ho : ws.out c = []) (hl : ws.left c = []) :
    ∃ ws1, wrun cfg false ws (attemptWire a c r ex) = some ws1 ∧ ws1.pool = ws.pool ∧ exchOk ex (ws1.ph c) = true := by
  cases ex <;> simp [attemptWire, wrun, wstep, hh, hf, ho, hl, wupd, exchOk]

/-- From any reachable state in which `a` holds `c` with a blank exchange record, the wire events of
an attempt with outcome `ex` followed by the report of `ex` are accepted, for every `ex`; the pool
state is untouched; and whenever `verdict` says `release`, the hand-back guard is open.  So the
guards `exchOk` / `releasable` / one-write-per-hold never block the modelled caller. -/
theorem attempt_wire_accepted {cfg : Cfg} {ws : WState} (hi : WInv cfg ws) (a c r : Nat) (inPool : Bool)
    (ex : Exch) (hh : holds ws.pool a c) (hf : ws.ph c = .fresh) :
    ∃ ws1, wrun cfg false ws (attemptWire a c r ex ++ [.outcome a c inPool ex]) = some ws1 ∧
      ws1.pool = ws.pool ∧ ((verdict inPool ex).act = .release → releasable ws1 c = true) := by
  have he := List.append_eq_nil_iff.mp (((hi.conn c).heldW hh.1).2.2 (Or.inl hf))
  obtain ⟨ws1, hr, hp, hk⟩ := attemptWire_run (cfg := cfg) a c r ex hh hf he.1 he.2
  have hs : wstep cfg false ws1 (.outcome a c inPool ex) = some _ := if_pos ⟨hp ▸ hh, hk⟩
  refine ⟨{ ws1 with outc := wupd ws1.outc c (some (inPool, ex)) }, ?_, hp, fun hv => ?_⟩
  · rw [wrun_append, hr, Option.bind_some, wrun, hs]
    rfl
  · simp [releasable, wupd, hv]

theorem wstep_pool_of_step {cfg : Cfg} {unsol : Bool} {ws : WState} {e : Ev} {s' : State}
    (hg : backOk ws e = true) (hs : step cfg ws.pool e = some s') :
    wstep cfg unsol ws (.pool e) = some (resetOn { ws with pool := s' } (acquired ws.pool e)) := by
  simp [wstep, hg, hs]

end Hertz.Pool
