import Hertz.Basic
/-!
The bytes of `toString n` are the decimal digits `decD n`; digit strings read back as their value.
Free of any model: the HTTP/1 and the URI/cookie proofs (each with an `appendUintDec` of its own) and those about
`bytesconv.AppendUint` (`FS.decDigits`) all reduce their writer to `decD`; the fixed-width fields of `Model/HttpDate.lean`
(`pad2`, `pad4`) are read back digit by digit in `Proofs/HttpDate.lean` instead.
-/
namespace Hertz.H1.Dec
open Hertz

/-- decimal digits, most significant first -/
def decD (n : Nat) : Bytes :=
  if n < 10 then [48 + n.toUInt8] else decD (n / 10) ++ [48 + (n % 10).toUInt8]
termination_by n
decreasing_by omega

theorem decD_lt (n : Nat) (h : n < 10) : decD n = [48 + n.toUInt8] := by
  rw [decD, if_pos h]

theorem decD_ge (n : Nat) (h : 10 ≤ n) : decD n = decD (n / 10) ++ [48 + (n % 10).toUInt8] := by
  rw [decD, if_neg (by omega)]

theorem byteArray_toList_loop (bs : ByteArray) (i : Nat) (r : List UInt8) :
    ByteArray.toList.loop bs i r = r.reverse ++ bs.data.toList.drop i := by
  fun_induction ByteArray.toList.loop bs i r with
  | case1 i r h ih =>
    have hi : i < bs.data.toList.length := by simpa using h
    have hg : bs.get! i = bs.data.toList[i] := by
      simp [ByteArray.get!, getElem!_pos bs.data i h]
    rw [ih, List.drop_eq_getElem_cons hi, hg, List.reverse_cons, List.append_assoc, List.singleton_append]
  | case2 i r h => rw [List.drop_eq_nil_of_le (by simpa using h), List.append_nil]

theorem byteArray_toList (bs : ByteArray) : bs.toList = bs.data.toList :=
  byteArray_toList_loop bs 0 []

theorem encode_digitChar (d : Nat) (h : d < 10) :
    String.utf8EncodeChar d.digitChar = [48 + d.toUInt8] := by
  match d, h with
  | 0, _ | 1, _ | 2, _ | 3, _ | 4, _ | 5, _ | 6, _ | 7, _ | 8, _ | 9, _ => decide

theorem flatMap_toDigits (n : Nat) :
    (Nat.toDigits 10 n).flatMap String.utf8EncodeChar = decD n := by
  induction n using Nat.strongRecOn with
  | _ n ih =>
    by_cases h : n < 10
    · rw [Nat.toDigits_of_lt_base h, decD_lt n h]
      simp [encode_digitChar n h]
    · rw [Nat.toDigits_of_base_le (by omega) (by omega), decD_ge n (by omega),
        List.flatMap_append, ih (n / 10) (by omega)]
      simp [encode_digitChar (n % 10) (by omega)]

/-- the bytes of a string, read off its characters -/
theorem toUTF8_ofList (cs : List Char) : (String.ofList cs).toUTF8.toList = cs.flatMap String.utf8EncodeChar := by
  rw [byteArray_toList]
  show (String.ofList cs).toByteArray.data.toList = _
  rw [String.toByteArray_ofList, List.utf8Encode, List.toList_data_toByteArray]

theorem toString_toUTF8 (n : Nat) : (toString n).toUTF8.toList = decD n := by
  rw [Nat.toString_eq_ofList_toDigits, toUTF8_ofList, flatMap_toDigits]

theorem digit_facts (d : Nat) (h : d < 10) :
    (48 : UInt8) ≤ 48 + d.toUInt8 ∧ 48 + d.toUInt8 ≤ 57 ∧ ((48 + d.toUInt8) - 48 : UInt8).toNat = d := by
  match d, h with
  | 0, _ | 1, _ | 2, _ | 3, _ | 4, _ | 5, _ | 6, _ | 7, _ | 8, _ | 9, _ => decide

theorem decD_digits (n : Nat) : ∀ c ∈ decD n, 48 ≤ c ∧ c ≤ 57 := by
  induction n using Nat.strongRecOn with
  | _ n ih =>
    intro c hc
    by_cases h : n < 10
    · rw [decD_lt n h] at hc
      simp at hc; subst hc
      exact ⟨(digit_facts n h).1, (digit_facts n h).2.1⟩
    · rw [decD_ge n (by omega), List.mem_append] at hc
      rcases hc with hc | hc
      · exact ih (n / 10) (by omega) c hc
      · simp at hc; subst hc
        have := digit_facts (n % 10) (by omega)
        exact ⟨this.1, this.2.1⟩

theorem decD_ne_nil (n : Nat) : decD n ≠ [] := by
  by_cases h : n < 10
  · rw [decD_lt n h]; simp
  · rw [decD_ge n (by omega)]; simp

theorem decD_three (n : Nat) (h1 : 100 ≤ n) (h2 : n ≤ 999) : ∃ a b c, decD n = [a, b, c] := by
  rw [decD_ge n (by omega), decD_ge (n / 10) (by omega), decD_lt (n / 10 / 10) (by omega)]
  exact ⟨_, _, _, rfl⟩

theorem decD_head_ne_zero (n : Nat) (h : 0 < n) : (decD n).head? ≠ some 48 := by
  induction n using Nat.strongRecOn with
  | _ n ih =>
    by_cases hlt : n < 10
    · rw [decD_lt n hlt]
      -- the digit `48` has value 0, this one has value `n`
      intro e
      have hv := (digit_facts n hlt).2.2
      rw [List.head?_cons, Option.some.injEq] at e
      rw [e] at hv
      exact absurd hv (by simp; omega)
    · rw [decD_ge n (by omega)]
      have hne := decD_ne_nil (n / 10)
      have := ih (n / 10) (by omega) (by omega)
      cases hd : decD (n / 10) with
      | nil => exact absurd hd hne
      | cons a t => rw [hd] at this; exact this

/-- left-to-right decimal value with accumulator, in the shape `parseUintAux` uses -/
def val (v : Nat) (l : Bytes) : Nat := l.foldl (fun a c => 10 * a + (c - 48 : UInt8).toNat) v

theorem val_nil (v : Nat) : val v [] = v := rfl
theorem val_cons (v : Nat) (c : UInt8) (l : Bytes) :
    val v (c :: l) = val (10 * v + (c - 48 : UInt8).toNat) l := rfl
theorem val_snoc (v : Nat) (c : UInt8) (l : Bytes) :
    val v (l ++ [c]) = 10 * val v l + (c - 48 : UInt8).toNat := by
  simp [val, List.foldl_append]

theorem le_val (v : Nat) (l : Bytes) : v ≤ val v l := by
  induction l generalizing v with
  | nil => exact Nat.le_refl _
  | cons c l ih =>
    rw [val_cons]
    exact Nat.le_trans (by omega) (ih _)

theorem val_decD (n : Nat) : val 0 (decD n) = n := by
  induction n using Nat.strongRecOn with
  | _ n ih =>
    by_cases h : n < 10
    · rw [decD_lt n h, val_cons, val_nil, (digit_facts n h).2.2]
      omega
    · rw [decD_ge n (by omega), val_snoc, ih (n / 10) (by omega),
        (digit_facts (n % 10) (by omega)).2.2]
      omega

theorem foldl_eq_val (l : Bytes) (v : Nat) :
    l.foldl (fun n c => n * 10 + (c - 48 : UInt8).toNat) v = val v l := by
  unfold val
  congr 1
  funext a c
  rw [Nat.mul_comm]

theorem parseDec_guard (l : Bytes) (hne : l ≠ []) (hd : ∀ c ∈ l, 48 ≤ c ∧ c ≤ 57) :
    (l.isEmpty || !l.all (fun c => 48 ≤ c && c ≤ 57)) = false := by
  have h2 : l.all (fun c => decide (48 ≤ c) && decide (c ≤ 57)) = true :=
    List.all_eq_true.mpr (fun c hc => by simp [hd c hc])
  rw [List.isEmpty_eq_false_iff.mpr hne, h2]; rfl

/-- the body of `Spec.Http.parseDec` and of `Spec.Resp.parseDec` at `decD n`, so it proves both by unfolding (`Uri.parseUintDec`
shares the guard: `parseDec_guard`) -/
theorem parseDec_decD (n : Nat) :
    (if (decD n).isEmpty || !(decD n).all (fun c => 48 ≤ c && c ≤ 57) then none
      else some ((decD n).foldl (fun n c => n * 10 + (c - 48 : UInt8).toNat) 0)) = some n := by
  rw [parseDec_guard (decD n) (decD_ne_nil n) (decD_digits n)]
  simp only [Bool.false_eq_true, if_false]
  rw [foldl_eq_val, val_decD]

end Hertz.H1.Dec
