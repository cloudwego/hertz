import Hertz.Model.CookieExp
import Hertz.Proofs.CookieRt
import Hertz.Proofs.HttpDate
import Hertz.Proofs.Tables
/-!
Round trip of `Cookie.AppendBytes` / `Cookie.ParseBytes` with all ten attributes (`Model/CookieExp.lean`), on the lemmas of
`Proofs/CookieRt.lean` and `Proofs/HttpDate.lean`.  What `AppendBytes` writes after the first segment is a list of attributes
(`attrs x : List Attr`); for each attribute two facts: its (key, value) pair is held to what a request cookie is held to
(`Attr.wf`), so the scanner finds it in its segment and the segment has no `;`, and `ParseBytes` applies it (`Attr.apply`).
So for every valid cookie `ParseBytes(AppendBytes(x)) = canonE x`
(`parseCookieE_appendCookieE`): every attribute comes back, the expiry as whole seconds and not at all next to a positive
max-age (`canonE_eq_iff`: when that is `x`).  What the parser with `expires` accepts, the nine-field parser of `Model/Uri.lean`
accepts with the same nine fields (`parseCookie_of_E`), so with `appendCookieE_noExpire` the nine-field round trip
(`parseCookie_appendCookie`) is the ten-field one at "no expiry".
-/
namespace Hertz.Uri
open Hertz Hertz.Gen.Str Hertz.HttpDate

/-- not one of `;` `=` `"`, the bytes the cookie scanner gives a meaning to -/
def dateByte (c : UInt8) : Bool := c != 59 && c != 61 && c != 34

theorem tab_bytes :
    (dayTab.all (fun e => dateByte e.1 && dateByte e.2.1 && dateByte e.2.2 && e.1 != 32) &&
     monthTab.all (fun e => dateByte e.1 && dateByte e.2.1 && dateByte e.2.2)) = true := by decide

theorem isDig_dateByte (c : UInt8) (h : isDig c = true) : dateByte c = true := by
  revert c; exact forall_byte (by decide +kernel)

/-- the formatted date passes through the cookie scanner unchanged: no `;`, and trimming / unquoting leave it alone -/
theorem date_plain (t : Int) (h1 : minSec ≤ t) (h2 : t < maxSec) : plainArg (formatHTTPDate t) = true := by
  obtain ⟨wa, wb, wc, d1, d2, ma, mb, mc, y1, y2, y3, y4, g1, g2, m1, m2, s1, s2, hf, hw, hm, hd⟩ := format_shape t h1 h2
  have T := tab_bytes
  rw [Bool.and_eq_true, List.all_eq_true, List.all_eq_true] at T
  have hw' := T.1 _ hw
  have hm' := T.2 _ hm
  simp only [Bool.and_eq_true] at hw' hm' hd
  obtain ⟨⟨⟨⟨⟨⟨⟨⟨⟨⟨⟨e1, e2⟩, e3⟩, e4⟩, e5⟩, e6⟩, e7⟩, e8⟩, e9⟩, e10⟩, e11⟩, e12⟩ := hd
  obtain ⟨⟨⟨w1, w2⟩, w3⟩, w4⟩ := hw'
  obtain ⟨⟨n1, n2⟩, n3⟩ := hm'
  have D := isDig_dateByte
  -- byte by byte along `Www, DD Mmm YYYY HH:MM:SS GMT`
  have hall : (formatHTTPDate t).all dateByte = true := by
    rw [hf]
    simp only [List.all_cons, List.all_nil, Bool.and_true, Bool.and_eq_true]
    exact ⟨w1, w2, w3, rfl, rfl, D _ e1, D _ e2, rfl, n1, n2, n3, rfl, D _ e3, D _ e4, D _ e5, D _ e6, rfl, D _ e7, D _ e8,
      rfl, D _ e9, D _ e10, rfl, D _ e11, D _ e12, rfl, rfl, rfl, rfl⟩
  refine (plainArg_iff _).2 ⟨fun x hx e => ?_, ?_⟩
  · have := List.all_eq_true.1 hall x hx
    rw [e] at this
    cases this
  · have h34 : wa ≠ 34 := fun e => by rw [e] at w1; cases w1
    rw [hf]
    exact decodeCookieArg_ends _ _ (fun e => by simp at e w4; exact w4 e) (by simp) (fun _ e => by simp at e; exact h34 e)

/-- the expiry that `AppendBytes` writes has a four-digit year (or nothing is written) -/
def expireWritable (x : CookieE) : Bool :=
  decide (x.c.maxAge > 0) || x.expire.isZero || (decide (minSec ≤ x.expire.sec) && decide (x.expire.sec < maxSec))

/-- `wfCookie` on the nine fields, and the expiry, if it is written, has a four-digit year -/
def wfCookieE (x : CookieE) : Bool := wfCookie x.c && expireWritable x

/-- one attribute as `AppendBytes` writes it after `; ` -/
inductive Attr
  | maxAge (n : Nat) | expires (t : Int) | domain (v : Bytes) | path (v : Bytes)
  | httpOnly | secure | sameSite (s : SameSite) | partitioned

/-- the (key, value) pair the scanner is to find in the attribute's segment -/
def Attr.kv : Attr → Bytes × Bytes
  | .maxAge n => (strCookieMaxAge, appendUintDec n)
  | .expires t => (strCookieExpires, formatHTTPDate t)
  | .domain v => (strCookieDomain, v)
  | .path v => (strCookiePath, v)
  | .httpOnly => ([], strCookieHTTPOnly)
  | .secure => ([], strCookieSecure)
  | .sameSite .lax => (strCookieSameSite, strCookieSameSiteLax)
  | .sameSite .strict => (strCookieSameSite, strCookieSameSiteStrict)
  | .sameSite .none => (strCookieSameSite, strCookieSameSiteNone)
  | .sameSite _ => ([], strCookieSameSite)      -- `.default`; `.disabled` is never written (`Attr.ok`, `sameSiteAttr`)
  | .partitioned => ([], strCookiePartitioned)

/-- what `ParseBytes` is to do with it -/
def Attr.set (x : CookieE) : Attr → CookieE
  | .maxAge n => { x with c := { x.c with maxAge := n } }
  | .expires t => { x with expire := ⟨t, 0⟩ }
  | .domain v => { x with c := { x.c with domain := v } }
  | .path v => { x with c := { x.c with path := v } }
  | .httpOnly => { x with c := { x.c with httpOnly := true } }
  | .secure => { x with c := { x.c with secure := true } }
  | .sameSite s => { x with c := { x.c with sameSite := s } }
  | .partitioned => { x with c := { x.c with partitioned := true } }

/-- the attributes whose text survives the scanner -/
def Attr.ok : Attr → Prop
  | .maxAge n => n < 2 ^ 63
  | .expires t => minSec ≤ t ∧ t < maxSec
  | .domain v | .path v => plainArg v = true
  | .sameSite s => s ≠ .disabled
  | _ => True

def sameSiteAttr : SameSite → List Attr
  | .disabled => []
  | s => [.sameSite s]

theorem sameSiteAttr_ok (s : SameSite) : ∀ a ∈ sameSiteAttr s, a.ok := by
  cases s
  case disabled => exact fun a ha => nomatch ha
  all_goals exact fun a ha => List.mem_singleton.1 ha ▸ fun e => nomatch e

theorem sameSiteAttr_eq_nil (s : SameSite) : sameSiteAttr s = [] ↔ (s != .disabled) = false := by
  cases s <;> simp [sameSiteAttr]

/-- the attributes `AppendBytes` writes, in its order and under its conditions -/
def attrs (x : CookieE) : List Attr :=
  (if x.c.maxAge > 0 then [.maxAge x.c.maxAge] else if !x.expire.isZero then [.expires x.expire.sec] else []) ++
  ((if x.c.domain.isEmpty then [] else [.domain x.c.domain]) ++ ((if x.c.path.isEmpty then [] else [.path x.c.path]) ++
  ((if x.c.httpOnly then [.httpOnly] else []) ++ ((if x.c.secure then [.secure] else []) ++
  (sameSiteAttr x.c.sameSite ++ (if x.c.partitioned then [.partitioned] else []))))))

theorem appendCookieE_attrs (x : CookieE) :
    appendCookieE x = reqCookieSeg (x.c.key, x.c.value) ++ semi ((attrs x).map fun a => 32 :: reqCookieSeg a.kv) := by
  unfold appendCookieE attrs
  rw [reqCookieSeg]
  simp only [List.map_append, semi_append, apply_ite (List.map fun a : Attr => 32 :: reqCookieSeg a.kv), apply_ite semi, List.map_cons,
    List.map_nil, semi_cons, semi_nil, List.append_nil, List.append_assoc]
  cases x.c.sameSite <;> rfl

/-- under any other key the parser with `expires` does what the nine-field parser does -/
theorem applyAttrE_other (x : CookieE) {kv : Bytes × Bytes} {c : Cookie} (h : isExpiresKey kv.1 = false)
    (hc : applyAttr x.c kv = some c) : applyAttrE x kv = some { x with c := c } := by
  unfold applyAttrE; rw [h, hc]; rfl

theorem isExpiresKey_expires : isExpiresKey strCookieExpires = true := by decide +kernel

/-- the names `AppendBytes` writes in front of a value that is not one of its own constants -/
def namesE : List Bytes := [strCookieExpires, strCookieMaxAge, strCookieDomain, strCookiePath]

theorem wfReq_named {name v : Bytes} (hn : name ∈ namesE) (hv : plainArg v = true) : wfReqCookie (name, v) = true := by
  obtain ⟨h1, h2⟩ := (by decide : ∀ n ∈ namesE,
    (!n.contains 59 && !n.contains 61 && n == decodeCookieArg n false) = true ∧ n.isEmpty = false) name hn
  simp only [plainArg, Bool.and_eq_true] at hv
  simp only [wfReqCookie, h2, Bool.false_and, Bool.not_false, Bool.and_true, Bool.and_eq_true] at h1 ⊢
  exact ⟨⟨h1, hv.1⟩, hv.2⟩

theorem Attr.wf (a : Attr) (h : a.ok) : wfReqCookie a.kv = true := by
  cases a with
  | maxAge n => exact wfReq_named (by decide) (plainArg_uint n)
  | expires t => exact wfReq_named (by decide) (date_plain t h.1 h.2)
  | domain v => exact wfReq_named (by decide) h
  | path v => exact wfReq_named (by decide) h
  | sameSite s =>
    cases s with
    | disabled => exact absurd rfl h
    | _ => decide
  | _ => decide

theorem Attr.apply (x : CookieE) (a : Attr) (h : a.ok) : applyAttrE x a.kv = some (a.set x) := by
  cases a with
  | maxAge n =>
    exact applyAttrE_other x (kv := (strCookieMaxAge, _)) rfl (by rw [applyAttr_maxAge, parseUintDec_appendUintDec _ h]; rfl)
  | expires t =>
    show applyAttrE x (strCookieExpires, formatHTTPDate t) = _
    unfold applyAttrE
    simp only [isExpiresKey_expires, if_true, parseCookieDate_format _ h.1 h.2, Option.map_some]; rfl
  | domain v => exact applyAttrE_other x rfl (applyAttr_domain _ v)
  | path v => exact applyAttrE_other x rfl (applyAttr_path _ v)
  | httpOnly => exact applyAttrE_other x rfl (applyAttr_httpOnly _)
  | secure => exact applyAttrE_other x rfl (applyAttr_secure _)
  | partitioned => exact applyAttrE_other x rfl (applyAttr_partitioned _)
  | sameSite s =>
    cases s with
    | disabled => exact absurd rfl h
    | default => exact applyAttrE_other x rfl (applyAttr_sameSiteDefault _)
    | lax => exact applyAttrE_other x (by decide) (applyAttr_lax _)
    | strict => exact applyAttrE_other x (by decide) (applyAttr_strict _)
    | none => exact applyAttrE_other x (by decide) (applyAttr_none _)

theorem Attr.step (x : CookieE) (a : Attr) (h : a.ok) :
    applyAttrE x (cookieKV (32 :: reqCookieSeg a.kv)) = some (a.set x) ∧ GoodSeg (32 :: reqCookieSeg a.kv) := by
  rw [cookieKV_sp_reqSeg _ (a.wf h)]
  exact ⟨a.apply x h, goodSeg_sp_reqSeg _ (a.wf h)⟩

/-- a fold whose every step succeeds with a known result -/
theorem foldlM_map_some {α β γ : Type} {f : β → γ → Option β} {g : α → γ} {s : β → α → β} :
    ∀ (l : List α) (y : β), (∀ a ∈ l, ∀ y, f y (g a) = some (s y a)) → (l.map g).foldlM f y = some (l.foldl s y)
  | [], _, _ => rfl
  | a :: l, y, h => by
    rw [List.map_cons, List.foldlM_cons, h a (by simp) y]
    exact foldlM_map_some l _ (fun b hb => h b (by simp [hb]))

/-- one group of `attrs`: written or not, the state afterwards holds the field of the cookie -/
theorem foldl_group {p : Prop} [Decidable p] {l1 l2 l : List Attr} {y : CookieE} (y' : CookieE) (h1 : p → l1.foldl Attr.set y = y')
    (h2 : ¬ p → l2.foldl Attr.set y = y') : ((if p then l1 else l2) ++ l).foldl Attr.set y = l.foldl Attr.set y' := by
  rw [List.foldl_append]
  split
  · rename_i h; rw [h1 h]
  · rename_i h; rw [h2 h]

/-- applying what `attrs x` lists to the bare key and value gives `x` back, in canonical form: an attribute that is left
out has its zero value -/
theorem attrs_foldl (x : CookieE) :
    (attrs x).foldl Attr.set { c := { key := x.c.key, value := x.c.value } } = canonE x := by
  obtain ⟨⟨k, v, m, d, p, ho, s, ss, pt⟩, e⟩ := x
  let y0 : Cookie := { key := k, value := v, maxAge := m }
  unfold attrs canonE
  rw [foldl_group ⟨y0, if m > 0 then zeroInstant else ⟨e.sec, 0⟩⟩
      (fun h => by simp only [h, if_true]; rfl)
      (fun h => by
        have hm : m = 0 := Nat.eq_zero_of_not_pos h
        subst hm
        simp only [Nat.lt_irrefl, if_false]
        split
        · rfl
        · rename_i hz
          rw [show e = zeroInstant by simpa [Instant.isZero] using hz]; rfl),
    foldl_group ⟨{ y0 with domain := d }, _⟩
      (fun h => by rw [(List.isEmpty_iff.1 h : d = [])]; rfl) (fun _ => rfl),
    foldl_group ⟨{ y0 with domain := d, path := p }, _⟩
      (fun h => by rw [(List.isEmpty_iff.1 h : p = [])]; rfl) (fun _ => rfl),
    foldl_group ⟨{ y0 with domain := d, path := p, httpOnly := ho }, _⟩
      (fun h => by cases (h : ho = true); rfl) (fun h => by cases (eq_false_of_ne_true h : ho = false); rfl),
    foldl_group ⟨{ y0 with domain := d, path := p, httpOnly := ho, secure := s }, _⟩
      (fun h => by cases (h : s = true); rfl) (fun h => by cases (eq_false_of_ne_true h : s = false); rfl)]
  cases ss <;> cases pt <;> rfl

/-- a property of the one attribute a group may contribute holds of all it contributes -/
theorem forall_mem_opt {α : Type} {p : Prop} [Decidable p] {P : α → Prop} {a : α} (h : P a) :
    (∀ s ∈ (if p then [a] else []), P s) ∧ (∀ s ∈ (if p then [] else [a]), P s) := by
  by_cases hp : p <;> simp [hp, h]

theorem attrs_ok (x : CookieE) (h : wfCookieE x = true) : ∀ a ∈ attrs x, a.ok := by
  simp only [wfCookieE, Bool.and_eq_true] at h
  obtain ⟨_, hd, hp, hm⟩ := wfCookie_spec x.c h.1
  intro a ha
  simp only [attrs, List.mem_append] at ha
  rcases ha with ha | ha | ha | ha | ha | ha | ha
  · split at ha
    · rw [List.mem_singleton.1 ha]; exact hm
    · rename_i h0
      split at ha
      · rename_i hz
        have hnz : x.expire.isZero = false := by simpa using hz
        rw [List.mem_singleton.1 ha]
        show minSec ≤ x.expire.sec ∧ x.expire.sec < maxSec
        simpa [expireWritable, h0, hnz] using h.2
      · cases ha
  · exact (forall_mem_opt (P := Attr.ok) (a := .domain _) hd).2 a ha
  · exact (forall_mem_opt (P := Attr.ok) (a := .path _) hp).2 a ha
  · exact (forall_mem_opt (P := Attr.ok) (a := .httpOnly) trivial).1 a ha
  · exact (forall_mem_opt (P := Attr.ok) (a := .secure) trivial).1 a ha
  · exact sameSiteAttr_ok _ a ha
  · exact (forall_mem_opt (P := Attr.ok) (a := .partitioned) trivial).1 a ha

/-- The round trip with all ten attributes: `ParseBytes(AppendBytes(x))` is the canonical form of `x`. -/
theorem parseCookieE_appendCookieE (x : CookieE) (h : wfCookieE x = true) (hne : appendCookieE x ≠ []) :
    parseCookieE (appendCookieE x) = some (canonE x) := by
  have hok := attrs_ok x h
  simp only [wfCookieE, Bool.and_eq_true] at h
  have hkv := (wfCookie_spec x.c h.1).1
  have hseg : cookieSegs (appendCookieE x) = reqCookieSeg (x.c.key, x.c.value) :: (attrs x).map fun a => 32 :: reqCookieSeg a.kv := by
    rw [appendCookieE_attrs]
    apply cookieSegs_join _ _ (reqSeg_no_semi _ hkv)
      (fun s hs => by obtain ⟨a, ha, rfl⟩ := List.mem_map.1 hs; exact (Attr.step x a (hok a ha)).2)
    intro he hf
    rw [appendCookieE_attrs, he, hf] at hne
    exact hne rfl
  unfold parseCookieE
  rw [hseg]
  simp only [cookieKV_reqSeg _ hkv]
  rw [← attrs_foldl]
  exact foldlM_map_some (f := fun y seg => applyAttrE y (cookieKV seg)) (attrs x) _
    (fun a ha y => (Attr.step y a (hok a ha)).1)

theorem canonE_idem (x : CookieE) : canonE (canonE x) = canonE x := by
  unfold canonE
  by_cases h : x.c.maxAge > 0 <;> simp [h]

/-- nothing is lost iff the expiry has whole seconds and is unset next to a positive max-age -/
theorem canonE_eq_iff (x : CookieE) :
    canonE x = x ↔ x.expire.nsec = 0 ∧ (x.c.maxAge > 0 → x.expire = zeroInstant) := by
  obtain ⟨c, ⟨s, n⟩⟩ := x
  unfold canonE
  by_cases h : c.maxAge > 0
  · simp only [h, if_true, CookieE.mk.injEq, true_and, forall_const]
    constructor
    · intro e
      unfold zeroInstant at e ⊢
      injection e with e1 e2
      subst e1 e2
      exact ⟨rfl, rfl⟩
    · intro e; exact e.2.symm
  · simp only [h, if_false, CookieE.mk.injEq, true_and, Instant.mk.injEq, false_imp_iff, and_true]
    constructor
    · intro e; exact e.symm
    · intro e; exact e.symm

/-- `appendCookieE x ≠ []` (`appendCookieE_eq_nil_iff`), field by field -/
def cookieNonEmptyE (x : CookieE) : Bool := cookieNonEmpty x.c || (x.c.maxAge == 0 && !x.expire.isZero)

theorem opt_eq_nil {α : Type} {p : Prop} [Decidable p] (a : α) :
    ((if p then [a] else []) = [] ↔ ¬ p) ∧ ((if p then [] else [a]) = [] ↔ p) := by
  by_cases hp : p <;> simp [hp]

theorem appendCookieE_eq_nil_iff (x : CookieE) : appendCookieE x = [] ↔ cookieNonEmptyE x = false := by
  have h1 : (if x.c.maxAge > 0 then [Attr.maxAge x.c.maxAge] else if !x.expire.isZero then [.expires x.expire.sec] else []) = [] ↔
      (x.c.maxAge == 0 && !x.expire.isZero) = false ∧ decide (x.c.maxAge > 0) = false := by
    by_cases hm : x.c.maxAge > 0
    · simp [hm]
    · simp [Nat.eq_zero_of_not_pos hm, (opt_eq_nil _).1]
  rw [appendCookieE_attrs]
  simp only [List.append_eq_nil_iff, semi_eq_nil, List.map_eq_nil_iff, reqCookieSeg_eq_nil, attrs, h1, sameSiteAttr_eq_nil,
    (opt_eq_nil _).1, (opt_eq_nil _).2, cookieNonEmptyE, cookieNonEmpty, Bool.or_eq_false_iff, Bool.not_eq_false',
    Bool.not_eq_true, and_assoc]
  -- the same conjuncts in two orders
  constructor
  · intro h; simp only [h, and_self]
  · intro h; simp only [h, and_self]

theorem parseCookieE_appendCookieE_of_nonEmpty (x : CookieE) (h : wfCookieE x = true) (hne : cookieNonEmptyE x = true) :
    parseCookieE (appendCookieE x) = some (canonE x) :=
  parseCookieE_appendCookieE x h (fun he => by rw [(appendCookieE_eq_nil_iff x).mp he] at hne; cases hne)

/-! ### the nine-field codec of `Model/Uri.lean` as the case "no expiry" -/

theorem appendCookieE_noExpire (c : Cookie) : appendCookieE { c := c } = appendCookie c := by
  unfold appendCookieE appendCookie
  rw [if_neg (show ¬ (!zeroInstant.isZero) = true by decide)]
  rfl

/-- the nine-field parser ignores `expires`; on everything else the two parsers do the same -/
theorem applyAttrE_c (x x' : CookieE) (kv : Bytes × Bytes) (h : applyAttrE x kv = some x') :
    applyAttr x.c kv = some x'.c := by
  unfold applyAttrE at h
  split at h
  · rename_i hk
    obtain ⟨y, _, rfl⟩ := Option.map_eq_some_iff.1 h
    obtain ⟨k, v⟩ := kv
    cases k with
    | nil => cases hk
    | cons k0 t =>
      have hd : k0 ||| 0x20 = 101 := by
        simp only [isExpiresKey, Bool.and_eq_true, beq_iff_eq] at hk
        exact hk.1
      simp [applyAttr, hd]
  · obtain ⟨c, hc, rfl⟩ := Option.map_eq_some_iff.1 h
    exact hc

theorem foldlM_c (l : List Bytes) : ∀ (x y : CookieE), l.foldlM (fun x seg => applyAttrE x (cookieKV seg)) x = some y →
    l.foldlM (fun c seg => applyAttr c (cookieKV seg)) x.c = some y.c := by
  induction l with
  | nil => intro x y h; cases h; rfl
  | cons s r ih =>
    intro x y h
    rw [List.foldlM_cons] at h ⊢
    cases h1 : applyAttrE x (cookieKV s) with
    | none => rw [h1] at h; cases h
    | some x1 =>
      rw [h1] at h
      rw [applyAttrE_c x x1 _ h1]
      exact ih x1 y h

/-- whatever `ParseBytes` with `expires` accepts, `ParseBytes` without it accepts, with the same nine fields -/
theorem parseCookie_of_E (s : Bytes) (y : CookieE) (h : parseCookieE s = some y) : parseCookie s = some y.c := by
  unfold parseCookieE at h
  unfold parseCookie
  split at h
  · cases h
  · rename_i first rest hs
    rw [hs]
    exact foldlM_c rest _ y h

theorem parseCookie_appendCookie (c : Cookie) (h : wfCookie c = true) (hne : appendCookie c ≠ []) :
    parseCookie (appendCookie c) = some c := by
  rw [← appendCookieE_noExpire] at hne ⊢
  exact parseCookie_of_E _ (canonE { c := c })
    (parseCookieE_appendCookieE { c := c } (by simp [wfCookieE, expireWritable, h, Instant.isZero]) hne)

theorem appendCookie_eq_nil_iff (c : Cookie) : appendCookie c = [] ↔ cookieNonEmpty c = false := by
  rw [← appendCookieE_noExpire, appendCookieE_eq_nil_iff]
  simp [cookieNonEmptyE, Instant.isZero]

theorem parseCookie_appendCookie_of_nonEmpty (c : Cookie) (h : wfCookie c = true) (hne : cookieNonEmpty c = true) :
    parseCookie (appendCookie c) = some c :=
  parseCookie_appendCookie c h (fun he => by rw [(appendCookie_eq_nil_iff c).mp he] at hne; cases hne)

/-- `parseCookie_appendCookie` for cookies without max-age -/
theorem parseCookie_appendCookie_noMaxAge (c : Cookie) (h : wfCookie c = true) (_h0 : c.maxAge = 0)
    (hne : appendCookie c ≠ []) : parseCookie (appendCookie c) = some c :=
  parseCookie_appendCookie c h hne

theorem exCookie_roundtrip : parseCookie (appendCookie exCookie) = some exCookie :=
  parseCookie_appendCookie_of_nonEmpty exCookie exCookie_wf.1 exCookie_wf.2

end Hertz.Uri
