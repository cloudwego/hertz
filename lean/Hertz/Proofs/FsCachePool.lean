import Hertz.Proofs.FsCache
/-!
Second invariant of the cache model: the identities of the `bigFileReader` objects.  Every reader object is in at most
one place — held by a response (`live`), in the pool of one `fsFile` (`ff.bigFiles`), or in the hand of the request that
is being handled — and at most once.
-/

namespace Hertz.FsCache
open Hertz

def cntLive (rid : Nat) : List Reader → Nat
  | [] => 0
  | r :: t => (if r.rid = rid then 1 else 0) + cntLive rid t

def cntPool (rid : Nat) : List Pooled → Nat
  | [] => 0
  | p :: t => (if p.rid = rid then 1 else 0) + cntPool rid t

def sumPools (rid : Nat) : List Obj → Nat
  | [] => 0
  | o :: t => cntPool rid o.pool + sumPools rid t

/-- number of places the reader object `rid` is in -/
def occ (rid : Nat) (s : State) : Nat := cntLive rid s.live + sumPools rid s.objs

def handOf (hand : Option Nat) (rid : Nat) : Nat := if hand = some rid then 1 else 0

@[simp] theorem handOf_none (rid : Nat) : handOf none rid = 0 := by simp [handOf]

/-- places: every reader object is in at most one of `live`, a pool and the hand, and its id is below `next` -/
structure P (s : State) (hand : Option Nat) : Prop where
  one : ∀ rid, occ rid s + handOf hand rid ≤ 1
  lt : ∀ rid, 0 < occ rid s + handOf hand rid → rid < s.next
  nd : s.objs.Pairwise (fun a b => a.id ≠ b.id)

theorem P_init : P {} none := ⟨by simp [occ, cntLive, sumPools], by simp [occ, cntLive, sumPools], by simp⟩

theorem cntLive_eq (rid : Nat) (l : List Reader) : cntLive rid l = l.countP (·.rid = rid) := by
  induction l with
  | nil => rfl
  | cons r t ih => rw [cntLive, ih, List.countP_cons]; simp only [decide_eq_true_eq]; omega

theorem cntPool_eq (rid : Nat) (l : List Pooled) : cntPool rid l = l.countP (·.rid = rid) := by
  induction l with
  | nil => rfl
  | cons r t ih => rw [cntPool, ih, List.countP_cons]; simp only [decide_eq_true_eq]; omega

theorem cntLive_pos {r : Reader} {l : List Reader} (h : r ∈ l) : 0 < cntLive r.rid l := by
  rw [cntLive_eq]; exact List.countP_pos_iff.2 ⟨r, h, by simp⟩

theorem cntPool_pos {p : Pooled} {l : List Pooled} (h : p ∈ l) : 0 < cntPool p.rid l := by
  rw [cntPool_eq]; exact List.countP_pos_iff.2 ⟨p, h, by simp⟩

theorem sumPools_ge {rid : Nat} {o : Obj} {l : List Obj} (h : o ∈ l) : cntPool rid o.pool ≤ sumPools rid l := by
  induction l with
  | nil => cases h
  | cons a t ih =>
    cases List.mem_cons.1 h with
    | inl e => subst e; simp [sumPools]
    | inr m => have := ih m; simp [sumPools]; omega

theorem P_pooled_not_live {s : State} (h : P s none) {o : Obj} (ho : o ∈ s.objs) {p : Pooled} (hp : p ∈ o.pool)
    {r : Reader} (hr : r ∈ s.live) : p.rid ≠ r.rid := by
  intro e
  have a := cntLive_pos hr
  have b := cntPool_pos hp
  have c := sumPools_ge (rid := p.rid) ho
  have d := h.one p.rid
  rw [← e] at a
  simp [occ] at d; omega

/-- `P` survives a step that puts no reader object in a new place, lowers no bound and keeps the identities apart -/
theorem P_of_le {s s' : State} {hand hand' : Option Nat} (h : P s hand)
    (e : ∀ x, occ x s' + handOf hand' x ≤ occ x s + handOf hand x) (hn : s.next ≤ s'.next)
    (nd : s'.objs.Pairwise (fun a b => a.id ≠ b.id)) : P s' hand' :=
  ⟨fun x => Nat.le_trans (e x) (h.one x), fun x hh => Nat.lt_of_lt_of_le (h.lt x (Nat.lt_of_lt_of_le hh (e x))) hn, nd⟩

theorem sumPools_map_le (rid : Nat) (g : Obj → Obj) (hg : ∀ o, cntPool rid (g o).pool ≤ cntPool rid o.pool) (l : List Obj) :
    sumPools rid (l.map g) ≤ sumPools rid l := by
  induction l with
  | nil => simp [sumPools]
  | cons a t ih => simp only [List.map_cons, sumPools]; have := hg a; omega

theorem pairwise_map_id {l : List Obj} (g : Obj → Obj) (hid : ∀ o, (g o).id = o.id)
    (h : l.Pairwise (fun a b => a.id ≠ b.id)) : (l.map g).Pairwise (fun a b => a.id ≠ b.id) := by
  rw [List.pairwise_map]
  simpa [hid] using h

/-- an update of every `fsFile` that keeps its identity and puts nothing into a pool -/
theorem P_map {s : State} {hand : Option Nat} (g : Obj → Obj) (hid : ∀ o, (g o).id = o.id)
    (hp : ∀ rid o, cntPool rid (g o).pool ≤ cntPool rid o.pool) (h : P s hand) : P { s with objs := s.objs.map g } hand := by
  refine P_of_le h (fun rid => ?_) (Nat.le_refl _) (pairwise_map_id g hid h.nd)
  have := sumPools_map_le rid g (hp rid) s.objs
  simp only [occ]; omega

/-- changes that keep every pool (counts, flags) -/
theorem P_mapSame {s : State} {hand : Option Nat} (g : Obj → Obj) (hid : ∀ o, (g o).id = o.id)
    (hp : ∀ o, (g o).pool = o.pool) (h : P s hand) : P { s with objs := s.objs.map g } hand :=
  P_map g hid (fun _ o => Nat.le_of_eq (by rw [hp])) h

/-- a change of the count of one `fsFile` -/
theorem P_setRc {s : State} {hand : Option Nat} (id : Nat) (r : Obj → Int) (h : P s hand) :
    P (modObj id (fun o => { o with rc := r o }) s) hand := by
  refine P_mapSame _ (modObj_keep Obj.id ?_ id) (modObj_keep Obj.pool ?_ id) h <;> exact fun _ => rfl

theorem P_incRc {s : State} {hand : Option Nat} (id : Nat) (h : P s hand) : P (incRc id s) hand :=
  P_setRc id _ h

theorem P_dec {s s' : State} {hand : Option Nat} {id : Nat} (h : P s hand) (hd : decReadersCount id s = .ok s') : P s' hand :=
  decReadersCount_ok hd ▸ P_setRc id _ h

theorem P_expire {s : State} (h : P s none) : P (expireAll s) none := by
  unfold expireAll
  exact P_mapSame _ (fun _ => rfl) (fun _ => rfl) h

theorem P_disk {s : State} {hand : Option Nat} (d : Disk) (h : P s hand) : P { s with disk := d } hand :=
  ⟨h.one, h.lt, h.nd⟩

theorem P_fresh {s : State} (h : P s none) : P { s with next := s.next + 1 } (some s.next) := by
  have z : occ s.next s = 0 := by
    cases hz : occ s.next s with
    | zero => rfl
    | succ n => have := h.lt s.next (by simp [hz]); omega
  refine ⟨?_, ?_, h.nd⟩
  · intro rid
    show occ rid s + handOf (some s.next) rid ≤ 1
    by_cases e : s.next = rid
    · subst e; simp [handOf, z]
    · have := h.one rid; simp [handOf, e] at this ⊢; exact this
  · intro rid hh
    show rid < s.next + 1
    change 0 < occ rid s + handOf (some s.next) rid at hh
    by_cases e : s.next = rid
    · omega
    · have := h.lt rid (by simp [handOf, e] at hh ⊢; exact hh); omega

theorem P_next {s : State} (h : P s none) : P { s with next := s.next + 1 } none :=
  ⟨h.one, fun rid hh => Nat.lt_succ_of_lt (h.lt rid hh), h.nd⟩

/-- the reader in the hand goes to the response -/
theorem P_addLive {s : State} (r : Reader) (h : P s (some r.rid)) : P { s with live := r :: s.live } none := by
  refine P_of_le h (fun rid => Nat.le_of_eq ?_) (Nat.le_refl _) h.nd
  by_cases x : r.rid = rid <;> simp [occ, cntLive, handOf, x] <;> omega

/-- the reader in the hand is dropped (a small-file reader goes back to the `sync.Pool`) -/
theorem P_drop {s : State} {x : Nat} (h : P s (some x)) : P s none :=
  P_of_le h (fun rid => by simp) (Nat.le_refl _) h.nd

theorem cntLive_take {rid : Nat} {l rest : List Reader} {r : Reader} (h : takeReader rid l = some (r, rest)) (x : Nat) :
    cntLive x l = cntLive x rest + (if r.rid = x then 1 else 0) := by
  rw [cntLive_eq, cntLive_eq, (takeReader_perm h).countP_eq, List.countP_cons]; simp only [decide_eq_true_eq]

theorem P_take {s : State} {rid : Nat} {r : Reader} {rest : List Reader} (h : P s none)
    (ht : takeReader rid s.live = some (r, rest)) : P { s with live := rest } (some r.rid) := by
  refine P_of_le h (fun x => Nat.le_of_eq ?_) (Nat.le_refl _) h.nd
  have := cntLive_take ht x
  by_cases y : r.rid = x <;> simp [occ, handOf, y] at this ⊢ <;> omega

/-! one `fsFile` changes its pool: the identities are pairwise different, so exactly one term of the sum moves -/

theorem map_mod_noop {id : Nat} (f : Obj → Obj) {l : List Obj} (h : ∀ o ∈ l, o.id ≠ id) :
    l.map (fun o => if o.id = id then f o else o) = l := by
  induction l with
  | nil => rfl
  | cons a t ih =>
    have ha := h a (by simp)
    simp [ha, ih (fun o ho => h o (List.mem_cons_of_mem _ ho))]

theorem sumPools_mod_eq (rid id : Nat) (f : Obj → Obj) {l : List Obj} (nd : l.Pairwise (fun a b => a.id ≠ b.id))
    {o₀ : Obj} (h0 : o₀ ∈ l) (hid : o₀.id = id) :
    sumPools rid (l.map fun o => if o.id = id then f o else o) + cntPool rid o₀.pool = sumPools rid l + cntPool rid (f o₀).pool := by
  induction l with
  | nil => cases h0
  | cons a t ih =>
    obtain ⟨h1, h2⟩ := List.pairwise_cons.1 nd
    cases List.mem_cons.1 h0 with
    | inl e =>
      subst e
      have : ∀ o ∈ t, o.id ≠ id := fun o ho x => h1 o ho (by rw [hid, x])
      simp only [List.map_cons, hid, if_true, sumPools, map_mod_noop f this]
      omega
    | inr m =>
      have e : a.id ≠ id := fun x => h1 o₀ m (by rw [x, hid])
      simp only [List.map_cons, e, if_false, sumPools]
      have := ih h2 m; omega

/-- what leaves or enters the pool of the one `fsFile` `id` is what enters or leaves the hand -/
theorem P_modPool {s : State} {hand hand' : Option Nat} {id : Nat} {o : Obj} (f : Obj → Obj) (hid : ∀ o, (f o).id = o.id)
    (h : P s hand) (ho : o ∈ s.objs) (hoid : o.id = id)
    (e : ∀ x, cntPool x (f o).pool + handOf hand' x = cntPool x o.pool + handOf hand x) : P (modObj id f s) hand' := by
  refine P_of_le h (fun x => Nat.le_of_eq ?_) (Nat.le_refl _) (pairwise_map_id _ (modObj_keep Obj.id hid id) h.nd)
  have := sumPools_mod_eq x id f h.nd ho hoid
  have := e x
  simp only [occ, modObj]; omega

/-- `bigFileReader`: the last pooled reader is taken out -/
theorem P_pop {s : State} {id : Nat} {o : Obj} {p : Pooled} {rest : List Pooled} (h : P s none)
    (ho : o ∈ s.objs) (hid : o.id = id) (hp : o.pool = p :: rest) :
    P (modObj id (fun o => { o with pool := rest }) s) (some p.rid) :=
  P_modPool _ (fun _ => rfl) h ho hid fun x => by
    by_cases y : p.rid = x <;> simp [hp, handOf, cntPool, y] <;> omega

/-- `bigFileReader.Close`: the reader in the hand goes into the pool of its file -/
theorem P_push {s : State} {id x : Nat} {o : Obj} (src : Src) (h : P s (some x)) (ho : o ∈ s.objs) (hid : o.id = id) :
    P (modObj id (fun o => { o with pool := { rid := x, src := src } :: o.pool }) s) none :=
  P_modPool _ (fun _ => rfl) h ho hid fun y => by
    by_cases z : x = y <;> simp [handOf, cntPool, z] <;> omega

theorem tickObj_pool_le (rid : Nat) (o : Obj) : cntPool rid (tickObj o).pool ≤ cntPool rid o.pool := by
  rw [cntPool_eq, cntPool_eq]; exact (tickObj_pool o).countP_le

theorem P_tick {s : State} (h : P s none) : P (tick s) none :=
  P_map tickObj tickObj_id tickObj_pool_le h

theorem P_newObj {s : State} (h : P s none) (hl : ∀ o ∈ s.objs, o.id < s.next) (o : Obj) (hid : o.id = s.next) (hp : o.pool = []) :
    P { s with objs := o :: s.objs, next := s.next + 1 } none := by
  refine P_of_le h (fun x => by simp [occ, sumPools, hp, cntPool]) (Nat.le_succ _)
    (List.pairwise_cons.2 ⟨fun b hb => ?_, h.nd⟩)
  have := hl b hb; omega

end Hertz.FsCache
