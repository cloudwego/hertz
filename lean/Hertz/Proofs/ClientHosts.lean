/-
C10, Client level — proofs about the host-client map and its janitor (`Model/ClientHosts.lean`),
on top of the pool invariants of `Proofs/ClientPool.lean`.
-/
import Hertz.Proofs.ClientPool
import Hertz.Model.ClientHosts
import Hertz.Gen.ClientPaths
namespace Hertz.Pool

/-- invariant of a host entry: the HostClient in the map satisfies the pool invariants, every
HostClient the janitor dropped satisfies them too and counts no connection -/
structure CInv (cfg : Cfg) (h : HostEntry) : Prop where
  cur : ∀ s, h.cur = some s → Inv cfg s
  dropped : ∀ s ∈ h.dropped, Inv cfg s ∧ s.count = 0

theorem cinv_init (cfg : Cfg) : CInv cfg {} := ⟨fun _ h => (nomatch h), fun _ h => (nomatch h)⟩

/-- for any janitor that only evicts a HostClient counting no connection (`janitor_must_count_busy_connections`: for no other) -/
theorem cstep_cinv {evict : State → Bool} (hev : ∀ s, evict s = true → s.count = 0) {cfg : Cfg} {h h' : HostEntry}
    {e : CEv} (hi : CInv cfg h) (hs : cstepWith evict cfg h e = some h') : CInv cfg h' := by
  cases e <;> simp only [cstepWith] at hs <;> split at hs <;> try contradiction
  next =>  -- `create`
    cases hs; exact ⟨fun s hs => by cases hs; exact inv_init cfg, hi.dropped⟩
  next s hcur =>  -- `pool e`, accepted by `step`
    obtain ⟨s', hst, rfl⟩ := Option.map_eq_some_iff.mp hs
    exact ⟨fun t ht => by cases ht; exact step_inv (hi.cur s hcur) hst, hi.dropped⟩
  next s hcur =>  -- `tick` on an entry: dropped if it counts no connection
    split at hs <;> cases hs
    · exact ⟨fun _ h => (nomatch h), List.forall_mem_cons.mpr ⟨⟨hi.cur s hcur, hev s ‹_›⟩, hi.dropped⟩⟩
    · exact hi
  next => cases hs; exact hi

theorem crun_cinv {evict : State → Bool} (hev : ∀ s, evict s = true → s.count = 0) {cfg : Cfg} :
    ∀ {evs : List CEv} {h h' : HostEntry}, CInv cfg h → crunWith evict cfg h evs = some h' → CInv cfg h'
  | [], h, h', hi, hr => by cases hr; exact hi
  | e :: es, h, h', hi, hr => by
    simp only [crunWith] at hr
    split at hr
    · rename_i h1 hs1
      exact crun_cinv hev (cstep_cinv hev hi hs1) hr
    · contradiction

theorem creach_cinv {cfg : Cfg} {evs : List CEv} {h : HostEntry} (hr : crun cfg {} evs = some h) : CInv cfg h :=
  crun_cinv (fun _ h => by simpa [shouldRemove] using h) (cinv_init cfg) hr

theorem sumCounts_zero : ∀ {l : List State}, (∀ s ∈ l, s.count = 0) → sumCounts l = 0
  | [], _ => rfl
  | s :: l, h => by
    simp only [sumCounts]
    have h1 := h s (List.mem_cons_self ..)
    have h2 := sumCounts_zero (l := l) (fun t ht => h t (List.mem_cons_of_mem _ ht))
    omega

theorem hostCounted_bounds {cfg : Cfg} {h : HostEntry} (hi : CInv cfg h) :
    0 ≤ hostCounted h ∧ hostCounted h ≤ cfg.maxConns := by
  unfold hostCounted
  rw [sumCounts_zero fun s hs => (hi.dropped s hs).2, Int.add_zero]
  cases hc : h.cur with
  | none => exact ⟨Int.le_refl 0, Int.natCast_nonneg _⟩
  | some s => exact ⟨(hi.cur s hc).cons.nonneg, (hi.cur s hc).le⟩

/-- a HostClient that counts no connection has none: nothing idle, in use, parked in a waiter,
being dialled or awaiting its decrement -/
theorem count_zero_empty {cfg : Cfg} {s : State} (i : Inv cfg s) (hz : s.count = 0) :
    s.idle = [] ∧ s.held = [] ∧ s.boxed = [] ∧ s.slots = [] ∧ s.helperSlots = 0 ∧ s.owed = [] := by
  have c := i.cons
  rw [Cons, hz] at c
  have := Int.natCast_eq_zero.mp c.symm
  simp only [Nat.add_eq_zero_iff, List.length_eq_zero_iff] at this
  obtain ⟨⟨⟨⟨⟨h1, h2⟩, h3⟩, h4⟩, h5⟩, h6⟩ := this
  exact ⟨h1, h2, h3, h4, h5, h6⟩

theorem should_remove_matches_gen : shouldRemoveSrc = Hertz.Gen.Client.shouldRemoveBody := rfl
theorem janitor_delete_matches_gen : janitorDeleteSrc = Hertz.Gen.Client.janitorDelete := rfl
theorem close_decision_matches_gen : closeDecisionSrc = Hertz.Gen.Client.closeDecision := rfl
theorem retire_old_conn_matches_gen : retireOldConnSrc = Hertz.Gen.Client.retireOldConn := rfl

end Hertz.Pool
