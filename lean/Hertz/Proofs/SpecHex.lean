import Hertz.Spec.Http
import Hertz.Model.Http1.Body
import Hertz.Proofs.Tables
/-!
Small facts about the strict decoder: how it cuts a text at a CRLF or at a separator, and its chunk-size line
(`Spec.Http.chunksAux`).  A line that parses as a hex number consists of hex digits, so it contains no CR, LF or
blank and the decoder's guards ("no blank in front of the size", "no HTAB in the size line") never fire on an
encoding produced by a writer; and the model's `ReadHexInt` reads such a line as the same number.
-/
namespace Hertz.Spec.Http

theorem crlfLine_append : ∀ (l rest : Bytes), (∀ x ∈ l, x ≠ 13 ∧ x ≠ 10) →
    crlfLine (l ++ 13 :: 10 :: rest) = some (l, rest)
  | [], rest, _ => by simp [crlfLine]
  | [c], rest, h => by
    have hc := h c (by simp)
    simp [crlfLine, hc.1, hc.2]
  | c :: d :: t, rest, h => by
    have hc := h c (by simp)
    have ih := crlfLine_append (d :: t) rest (fun x hx => h x (by simp [hx]))
    simp only [List.cons_append] at ih ⊢
    simp [crlfLine, hc.1, hc.2, ih]

theorem splitAt1_append (c : UInt8) : ∀ (a b : Bytes), (∀ x ∈ a, x ≠ c) →
    splitAt1 c (a ++ c :: b) = some (a, b)
  | [], b, _ => by simp [splitAt1]
  | x :: t, b, h => by
    have hx := h x (by simp)
    have ih := splitAt1_append c t b (fun y hy => h y (by simp [hy]))
    simp [splitAt1, hx, ih]

/-- `hex2int` reads the digits that `hexDigitVal` reads, with 16 for every other byte -/
theorem hexDigitVal_hex2int (c : UInt8) : hexDigitVal c = if hex2int c = 16 then none else some (hex2int c).toNat := by
  simp only [hex2int_eq, hexDigitVal]
  revert c; exact forall_byte (by decide +kernel)

theorem parseHex_fold (ds : Bytes) (n : Nat) (h : parseHex ds = some n) :
    ds ≠ [] ∧ ds.foldlM (fun n c => (hexDigitVal c).map (fun d => n * 16 + d)) 0 = some n := by
  cases ds with
  | nil => simp [parseHex] at h
  | cons d ds => exact ⟨List.cons_ne_nil _ _, by simpa [parseHex] using h⟩

theorem hexDigitVal_clean (c : UInt8) (h : (hexDigitVal c).isSome) : c ≠ 13 ∧ c ≠ 10 ∧ c ≠ 32 ∧ c ≠ 9 := by
  refine ⟨?_, ?_, ?_, ?_⟩ <;> (rintro rfl; cases h)

theorem foldlM_hex_digits : ∀ (hx : Bytes) (n v : Nat),
    hx.foldlM (fun n c => (hexDigitVal c).map (fun d => n * 16 + d)) n = some v → ∀ c ∈ hx, (hexDigitVal c).isSome
  | [], _, _, _ => by simp
  | c :: t, n, v, h => by
    simp only [List.foldlM_cons] at h
    cases hd : hexDigitVal c with
    | none => simp [hd] at h
    | some d =>
      simp only [hd, Option.map_some] at h
      simpa [hd] using foldlM_hex_digits t _ v h

theorem parseHex_digits (hx : Bytes) (v : Nat) (h : parseHex hx = some v) : ∀ c ∈ hx, (hexDigitVal c).isSome :=
  foldlM_hex_digits hx 0 v (parseHex_fold hx v h).2

theorem head_not_blank_of_parseHex (hx : Bytes) (v : Nat) (h : parseHex hx = some v) :
    hx.head?.any (fun c => c == 32 || c == 9) = false := by
  cases hx with
  | nil => rfl
  | cons c t =>
    have := hexDigitVal_clean c (parseHex_digits _ v h c (by simp))
    simp [this]

/-- the same for a size line padded with blanks behind the digits -/
theorem head_not_blank_padded (ds : Bytes) (pad : Nat) (v : Nat) (h : parseHex ds = some v) :
    (ds ++ List.replicate pad 32).head?.any (fun c => c == 32 || c == 9) = false := by
  cases ds with
  | nil => simp [parseHex] at h
  | cons c t => simpa using head_not_blank_of_parseHex (c :: t) v h

theorem no_tab_of_parseHex (hx : Bytes) (v : Nat) (h : parseHex hx = some v) : hx.any (fun c => c == 9) = false := by
  rw [List.any_eq_false]
  intro c hc
  simpa using (hexDigitVal_clean c (parseHex_digits hx v h c hc)).2.2.2

theorem no_tab_padded (ds : Bytes) (pad : Nat) (v : Nat) (h : parseHex ds = some v) :
    (ds ++ List.replicate pad 32).any (fun c => c == 9) = false := by
  simp [List.any_append, no_tab_of_parseHex ds v h]

end Hertz.Spec.Http

namespace Hertz.H1
open Hertz.Spec.Http

/-- digits `ds` (value `m` on top of the accumulator `n`), then a byte `c` that is no hex digit: `ReadHexInt` stops at `c` -/
theorem readHexIntAux_digits (e : End) (c : UInt8) (t : Bytes) (hc : hex2int c = 16) :
    ∀ (ds : Bytes) (n i m : Nat),
      ds.foldlM (fun n c => (hexDigitVal c).map (fun d => n * 16 + d)) n = some m →
      i + ds.length ≤ 15 → 0 < i + ds.length →
      readHexIntAux e n i (ds ++ c :: t) = .ok (m, c :: t)
  | [], n, i, m, h, _, hpos => by
    have hi : ¬ i = 0 := Nat.pos_iff_ne_zero.mp hpos
    simp only [List.foldlM_nil, pure, Option.some.injEq] at h
    simp only [List.nil_append, readHexIntAux, hc, hi, if_true, if_false, h]
  | d :: ds, n, i, m, h, hlen, _ => by
    simp only [List.length_cons] at hlen
    have hi : ¬ i ≥ Gen.maxHexIntChars.toNat := by
      have : Gen.maxHexIntChars.toNat = 15 := by decide
      omega
    rw [List.foldlM_cons, hexDigitVal_hex2int] at h
    by_cases h16 : hex2int d = 16
    · simp [h16] at h
    · simp only [h16, if_false, Option.map_some, Option.bind_eq_bind, Option.bind_some] at h
      simp only [List.cons_append, readHexIntAux, h16, if_false, hi]
      exact readHexIntAux_digits e c t hc ds _ (i + 1) m h (by omega) (by omega)

/-- a numeral of at most 15 hex digits, as the strict decoder reads it, is read by `ReadHexInt` as the same number -/
theorem readHexInt_parseHex (e : End) (c : UInt8) (t : Bytes) (hc : hex2int c = 16) (ds : Bytes) (n : Nat)
    (h : parseHex ds = some n) (hlen : ds.length ≤ 15) : readHexInt e (ds ++ c :: t) = .ok (n, c :: t) := by
  obtain ⟨hne, hfold⟩ := parseHex_fold ds n h
  exact readHexIntAux_digits e c t hc ds 0 0 n hfold (by omega) (by simpa using List.length_pos_iff.mpr hne)

end Hertz.H1
