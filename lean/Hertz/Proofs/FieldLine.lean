import Hertz.Proofs.PrefixStable
import Hertz.Spec.Http
import Hertz.Model.HeaderWrite
/-!
`HeaderScanner.Next` on a field as the encoders spell it, with its obs-fold continuation lines (`scanNext_fold`, from
`FieldAt.scan` of Proofs/Scanner), on one line (`scanNext_plain`), and on a block of such lines (`readBlock_flines`).
The request reader, the response reader and the trailer reader are run on their encoders' lines through these; a block
`appendHeaderLine` writes is such a block (`block_spell_of`).
Namespace `RT` holds the round trips: the encoders and what the readers make of their output.
-/
namespace Hertz.H1.RT
open Hertz Hertz.H1 Hertz.Spec.Http

/-- a field as it is spelled on the wire -/
structure FLine where
  name : Bytes
  /-- the text between the colon and the first CRLF (leading / trailing blanks included) -/
  raw : Bytes
  /-- obs-fold continuation lines (without their CRLF) -/
  conts : List Bytes := []
deriving Repr, DecidableEq

def encConts : List Bytes → Bytes
  | [] => []
  | c :: t => c ++ 13 :: 10 :: encConts t

def encFLine (f : FLine) : Bytes := f.name ++ 58 :: (f.raw ++ 13 :: 10 :: encConts f.conts)

def encFLines : List FLine → Bytes
  | [] => []
  | f :: t => encFLine f ++ encFLines t

/-- the leading HTABs of a continuation line become SPs -/
def tabsToSp : Bytes → Bytes
  | [] => []
  | c :: t => if c = 9 then 32 :: tabsToSp t else c :: t

def unfoldH : List Bytes → Bytes
  | [] => []
  | c :: t => tabsToSp c ++ unfoldH t

/-- what the handler is handed as the value: the lines joined (CRLF dropped,
leading HTABs of a continuation line turned into SPs, nothing compacted), SP / HTAB trimmed at both ends.  Without
continuation lines this is `trimOWS raw`. -/
def hval (f : FLine) : Bytes := trimOWS (f.raw ++ unfoldH f.conts)

theorem trimOWS_eq (b : Bytes) : trimOWS b = strip isOWS (b.dropWhile isOWS) := rfl

/-- the next thing in the buffer is not a continuation line -/
def headOk (rest : Bytes) : Prop := ∀ c, rest.head? = some c → c ≠ 32 ∧ c ≠ 9

/-- an obs-fold continuation line as far as the scanner is concerned: it starts with SP / HTAB and has no CR, LF or colon -/
structure ContOk (c : Bytes) : Prop where
  ne_nil : c ≠ []
  head : ∀ x, c.head? = some x → x = 32 ∨ x = 9
  clean : ∀ x ∈ c, x ≠ 10 ∧ x ≠ 13 ∧ x ≠ 58

/-- `ContOk` without "no CR": all the look-ahead (`Conts`) asks of a continuation line; the trailer lines of the streamed
reader satisfy this one only -/
def ContPos (c : Bytes) : Prop := 10 ∉ c ∧ 58 ∉ c ∧ ∃ b t, c = b :: t ∧ (b = 32 ∨ b = 9)

theorem ContOk.pos {c : Bytes} (h : ContOk c) : ContPos c := by
  obtain ⟨a, t, rfl⟩ := List.exists_cons_of_ne_nil h.ne_nil
  exact ⟨fun hm => (h.clean 10 hm).1 rfl, fun hm => (h.clean 58 hm).2.2 rfl, a, t, rfl, h.head a rfl⟩

theorem conts_split : ∀ cs : List Bytes, ∃ Q, 13 :: 10 :: encConts cs = Q ++ [13, 10]
  | [] => ⟨[], rfl⟩
  | c :: t => by
    obtain ⟨Q', hQ'⟩ := conts_split t
    refine ⟨13 :: 10 :: (c ++ Q'), ?_⟩
    simp [encConts, hQ']

theorem encConts_conts : ∀ (cs : List Bytes), (∀ c ∈ cs, ContPos c) → Conts (encConts cs)
  | [], _ => .nil
  | c :: t, h => by
    obtain ⟨h10, h58, a, c', rfl, ha⟩ := h c (by simp)
    have e : encConts ((a :: c') :: t) = a :: ((c' ++ [13]) ++ 10 :: encConts t) := by simp [encConts]
    rw [e]
    refine .line ha (fun x hx => ?_) (encConts_conts t fun x hx => h x (by simp [hx]))
    rcases List.mem_append.mp hx with hx | hx
    · exact ⟨fun e => h58 (by simp [← e, hx]), fun e => h10 (by simp [← e, hx])⟩
    · rw [List.mem_singleton.mp hx]; decide

theorem headOk.stop {rest : Bytes} (hr : headOk rest) : contExtra rest = 0 := by
  cases rest with
  | nil => rfl
  | cons c t => exact contExtra_of_nonblank c t fun h => h.elim (hr c rfl).1 (hr c rfl).2

theorem normValAux_crlf (w : Bytes) (ls : Bool) : normValAux ls (w ++ [13, 10]) = normValAux ls w := by
  fun_induction normValAux ls w <;> simp [normValAux, *]

theorem normValAux_clean_app : ∀ (w X : Bytes), (∀ x ∈ w, x ≠ 10 ∧ x ≠ 13) →
    normValAux false (w ++ 13 :: 10 :: X) = w ++ normValAux true X
  | [], X, _ => by simp [normValAux]
  | c :: t, X, h => by
    have hc := h c (by simp)
    simp [normValAux, hc.1, hc.2, normValAux_clean_app t X (fun x hx => h x (by simp [hx]))]

theorem normValAux_clean : ∀ (w : Bytes), (∀ x ∈ w, x ≠ 10 ∧ x ≠ 13) → normValAux false w = w :=
  fun w h => by rw [← normValAux_crlf w false, normValAux_clean_app w [] h]; simp [normValAux]

theorem normValAux_line : ∀ (c X : Bytes), (∀ x ∈ c, x ≠ 10 ∧ x ≠ 13) →
    normValAux true (c ++ 13 :: 10 :: X) = tabsToSp c ++ normValAux true X
  | [], X, _ => by simp [normValAux, tabsToSp]
  | y :: t, X, h => by
    have hy := h y (by simp)
    by_cases h9 : y = 9
    · subst h9
      simp [normValAux, tabsToSp, normValAux_line t X (fun x hx => h x (by simp [hx]))]
    · simp [normValAux, tabsToSp, h9, hy.1, hy.2, normValAux_clean_app t X (fun x hx => h x (by simp [hx]))]

theorem normValAux_conts : ∀ (cs : List Bytes), (∀ c ∈ cs, ContOk c) → normValAux true (encConts cs) = unfoldH cs
  | [], _ => by simp [encConts, normValAux, unfoldH]
  | c :: t, h => by
    have hc := h c (by simp)
    simp only [encConts, unfoldH]
    rw [normValAux_line c _ (fun x hx => ⟨(hc.clean x hx).1, (hc.clean x hx).2.1⟩),
      normValAux_conts t (fun x hx => h x (by simp [hx]))]

theorem dropWhileOWS_app_blanks : ∀ (w s : Bytes), (∀ x ∈ s, isOWS x = true) →
    ∃ s', (w ++ s).dropWhile isOWS = w.dropWhile isOWS ++ s' ∧ ∀ x ∈ s', isOWS x = true
  | [], s, hs => ⟨s.dropWhile isOWS, by simp, fun x hx => hs x ((List.dropWhile_sublist _).mem hx)⟩
  | c :: t, s, hs => by
    by_cases hc : isOWS c = true
    · obtain ⟨s', h1, h2⟩ := dropWhileOWS_app_blanks t s hs
      exact ⟨s', by rw [List.cons_append, List.dropWhile_cons_of_pos hc, List.dropWhile_cons_of_pos hc]; exact h1, h2⟩
    · exact ⟨s, by rw [List.cons_append, List.dropWhile_cons_of_neg hc, List.dropWhile_cons_of_neg hc]; rfl, hs⟩

theorem normValAux_blanks : ∀ (s : Bytes) (ls : Bool), (∀ x ∈ s, isOWS x = true) → ∀ x ∈ normValAux ls s, isOWS x = true
  | [], _, _ => by simp [normValAux]
  | c :: t, ls, h => by
    have hc := h c (by simp)
    have ht : ∀ x ∈ t, isOWS x = true := fun x hx => h x (by simp [hx])
    have h13 : c ≠ 13 := by intro e; subst e; simp [isOWS] at hc
    have h10 : c ≠ 10 := by intro e; subst e; simp [isOWS] at hc
    intro x hx
    simp only [normValAux, h13, h10, if_false] at hx
    split at hx
    · simp only [List.mem_cons] at hx
      rcases hx with hx | hx
      · subst hx; rfl
      · exact normValAux_blanks t true ht x hx
    · simp only [List.mem_cons] at hx
      rcases hx with hx | hx
      · subst hx; exact hc
      · exact normValAux_blanks t false ht x hx

theorem normValAux_app_blanks (s : Bytes) (hs : ∀ x ∈ s, isOWS x = true) (w : Bytes) (ls : Bool) :
    ∃ s', normValAux ls (w ++ s) = normValAux ls w ++ s' ∧ ∀ x ∈ s', isOWS x = true := by
  fun_induction normValAux ls w
  case case1 ls => exact ⟨normValAux ls s, by simp, normValAux_blanks s ls hs⟩
  -- every other case passes the blanks found behind the tail on
  all_goals
    obtain ⟨s', h1, h2⟩ := ‹∃ s', _›
    exact ⟨s', by simp [normValAux, *], h2⟩

/-- trailing blanks of the region do not matter once the compacted value is trimmed -/
theorem foldedValue_strip (w : Bytes) : foldedValue (strip isOWS w) = trimOWS (normValAux false w) := by
  obtain ⟨s, hs, hall, _⟩ := strip_split isOWS w
  have hs' : w = strip isOWS w ++ s := hs
  obtain ⟨s1, h1, hall1⟩ := normValAux_app_blanks s hall (strip isOWS w) false
  obtain ⟨s2, h2, hall2⟩ := dropWhileOWS_app_blanks (normValAux false (strip isOWS w)) s1 hall1
  show strip isOWS ((normValAux false (strip isOWS w)).dropWhile isOWS) = _
  conv => rhs; rw [trimOWS_eq, hs', h1, h2, strip_append_of_pos _ s2 hall2]

theorem dropWhileOWS_idem (l : Bytes) : (l.dropWhile isOWS).dropWhile isOWS = l.dropWhile isOWS := by
  apply dropWhile_id
  intro c hc
  exact head_dropWhile_not isOWS l c hc

theorem trimOWS_dropWhile_app : ∀ (raw M : Bytes), trimOWS (raw.dropWhile isOWS ++ M) = trimOWS (raw ++ M)
  | [], M => rfl
  | c :: t, M => by
    by_cases hc : isOWS c = true
    · rw [List.dropWhile_cons_of_pos hc, trimOWS_dropWhile_app t M, trimOWS_eq, trimOWS_eq, List.cons_append,
        List.dropWhile_cons_of_pos hc]
    · rw [List.dropWhile_cons_of_neg hc]

theorem encConts_nil_of_length (cs : List Bytes) (h : (encConts cs).length = 0) : cs = [] := by
  cases cs with
  | nil => rfl
  | cons c t => simp [encConts] at h


/-- what the scanner needs of a spelled field: no LF or colon in the name, no CR / LF in the first line -/
structure LineOk (f : FLine) : Prop where
  name : ∀ x ∈ f.name, x ≠ 10 ∧ x ≠ 58
  raw : ∀ x ∈ f.raw, x ≠ 10 ∧ x ≠ 13
  conts : ∀ c ∈ f.conts, ContOk c

/-- what the scanner makes of the value lines of a spelled field is what the handler is handed -/
theorem fieldValue_fline (f : FLine) (F : LineOk f) : fieldValue (f.raw ++ [13]) (encConts f.conts) = hval f := by
  obtain ⟨Q, hQ⟩ := conts_split f.conts
  have hQlen : Q.length = (encConts f.conts).length := by
    have := congrArg List.length hQ
    simp at this; omega
  generalize hraw' : f.raw.dropWhile isOWS = raw'
  generalize hE : (encConts f.conts).length = E at hQlen
  have hraw'c : ∀ x ∈ raw', x ≠ 10 ∧ x ≠ 13 := fun x hx => F.raw x ((List.dropWhile_sublist _).mem (hraw' ▸ hx))
  -- the region: the first line without its blanks in front, the continuation lines, the last CR
  have hreg : (f.raw ++ [13]).dropWhile isOWS ++ (10 :: encConts f.conts).take E = raw' ++ Q ++ [13] := by
    rw [dropWhile_app_stop isOWS f.raw 13 [] (by decide), hraw', List.append_assoc, List.append_assoc]
    congr 1
    have h2 := congrArg (List.take (E + 1)) hQ
    rw [show Q ++ [13, 10] = (Q ++ [13]) ++ [10] by simp, List.take_left' (by simp; omega)] at h2
    simpa using h2
  unfold fieldValue valueRegion
  simp only [hE, hreg, trimValue_line]
  by_cases hE0 : E > 0
  · rw [if_pos hE0, foldedValue_strip]
    have h1 : normValAux false (raw' ++ Q) = raw' ++ unfoldH f.conts := by
      rw [← normValAux_crlf (raw' ++ Q) false]
      have : raw' ++ Q ++ [13, 10] = raw' ++ 13 :: 10 :: encConts f.conts := by
        rw [List.append_assoc, ← hQ]
      rw [this, normValAux_clean_app raw' _ hraw'c, normValAux_conts f.conts F.conts]
    rw [h1, ← hraw', trimOWS_dropWhile_app]
    rfl
  · have hc0 : f.conts = [] := encConts_nil_of_length f.conts (by omega)
    have hQ0 : Q = [] := List.length_eq_zero_iff.mp (by omega)
    rw [if_neg hE0, hQ0, List.append_nil]
    unfold hval
    rw [hc0, ← hraw']
    simp [unfoldH, trimOWS_eq]

/-- `HeaderScanner.Next` on a field with its continuation lines, followed by something that is not one -/
theorem scanNext_fold (dn : Bool) (f : FLine) (rest : Bytes) (F : LineOk f) (hr : headOk rest) :
    scanNext dn (encFLine f ++ rest) = .kv (normalizeKey dn f.name) (hval f) rest (encFLine f).length := by
  have A : FieldAt (encFLine f ++ rest) f.name (f.raw ++ [13]) (encConts f.conts) rest :=
    ⟨by simp [encFLine], F.name, fun x hx => (List.mem_append.mp hx).elim (fun h => (F.raw x h).1)
        (fun h => by rw [List.mem_singleton.mp h]; decide),
      encConts_conts f.conts fun c hc => (F.conts c hc).pos, hr.stop⟩
  rw [A.scan dn, fieldValue_fline f F]
  congr 1
  simp [encFLine]
  omega

/-- the same for a field on one line: the value is what stands between the blanks -/
theorem scanNext_plain (dn : Bool) (k raw more : Bytes) (hk : ∀ x ∈ k, x ≠ 10 ∧ x ≠ 58) (hv : ∀ x ∈ raw, x ≠ 10 ∧ x ≠ 13)
    (hm : headOk more) :
    scanNext dn (k ++ 58 :: (raw ++ 13 :: 10 :: more)) = .kv (normalizeKey dn k) (trimOWS raw) more (k.length + raw.length + 3) := by
  have := scanNext_fold dn ⟨k, raw, []⟩ more ⟨hk, hv, by simp⟩ hm
  simpa [encFLine, encConts, hval, unfoldH, Nat.add_assoc] using this

/-! ### a block of field lines: what `for s.Next() { … }` hands out -/

/-- the spelling `name ": " value` of the writers -/
def spell (kv : Bytes × Bytes) : FLine := { name := kv.1, raw := 32 :: kv.2, conts := [] }

/-- what the scanner needs of a block: every line is scannable and none looks like a continuation of the one before -/
def BlockOk (fs : List FLine) : Prop := ∀ f ∈ fs, LineOk f ∧ headOk f.name

theorem BlockOk.headOk {fs : List FLine} (h : BlockOk fs) (rest : Bytes) : headOk (encFLines fs ++ 13 :: 10 :: rest) := by
  intro c hc
  cases fs with
  | nil => simp [encFLines] at hc; subst hc; decide
  | cons f t =>
    cases hn : f.name with
    | nil => simp [encFLines, encFLine, hn] at hc; subst hc; decide
    | cons a k => simp [encFLines, encFLine, hn] at hc; exact (h f (by simp)).2 c (by simp [hn, hc])

/-- the header scanner run over a block of spelled field lines and the empty line: it hands out every field, name
normalised, value as `hval` says, and stops behind the empty line.  Every header loop is a fold over this reading. -/
theorem readBlock_flines (dn : Bool) (rest : Bytes) : ∀ (fs : List FLine) (fuel : Nat), BlockOk fs → fs.length < fuel →
    ScanEdit.readBlock dn fuel (encFLines fs ++ 13 :: 10 :: rest) =
      (fs.map (fun f => (normalizeKey dn f.name, hval f)), .fin ((encFLines fs).length + 2))
  | [], fuel, _, hf => by
    obtain ⟨f, rfl⟩ : ∃ f, fuel = f + 1 := ⟨fuel - 1, by omega⟩
    simp [encFLines, ScanEdit.readBlock, scanNext]
  | fl :: fs, fuel, h, hf => by
    obtain ⟨f, rfl⟩ : ∃ f, fuel = f + 1 := ⟨fuel - 1, by omega⟩
    have hfs : BlockOk fs := fun x hx => h x (by simp [hx])
    have ih := readBlock_flines dn rest fs f hfs (by simp at hf; omega)
    rw [encFLines, List.append_assoc, ScanEdit.readBlock, scanNext_fold dn fl _ (h fl (by simp)).1 (hfs.headOk rest)]
    simp only [ih, List.map_cons, List.length_append, Nat.add_assoc]


end Hertz.H1.RT

/-! ### a block `appendHeaderLine` writes -/
namespace Hertz.ReqDecodes
open Hertz

/-- a block whose lines `appendHeaderLine` writes as they are is the spelling `name ": " value` of its fields -/
theorem block_spell_of : ∀ (F : List (Bytes × Bytes)) (rest : Bytes),
    (∀ kv ∈ F, HW.headerLine kv = kv.1 ++ 58 :: 32 :: (kv.2 ++ [13, 10])) →
    HW.block F ++ rest = H1.RT.encFLines (F.map H1.RT.spell) ++ 13 :: 10 :: rest
  | [], rest, _ => rfl
  | kv :: F, rest, h => by
    have ih := block_spell_of F rest (fun x hx => h x (by simp [hx]))
    simp only [HW.block, List.flatMap_cons, List.append_assoc] at ih ⊢
    rw [h kv (by simp), ih]
    simp [H1.RT.encFLines, H1.RT.encFLine, H1.RT.spell, H1.RT.encConts]

end Hertz.ReqDecodes
