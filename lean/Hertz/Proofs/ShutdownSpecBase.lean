import Hertz.Proofs.Shutdown
import Hertz.Spec.Shutdown
/-!
The two sides of "the trace specification holds of every run" before they meet.  Spec side (`Hertz.ShutdownSpec`): the
clauses of `Hertz.ShutdownSpec.violations` as statements about positions of the event LIST (`holdsAt`; one lemma `<clause>_nil`
per clause, so that the Array/Bool text of the specification is unfolded once; `connsWaited_nil` stands with its proof in
`ShutdownSpecFull`, `prompt_nil` in `ShutdownSpecPrompt`).  Model side (`Hertz.Shutdown`): the observable projection
`obsRun` of a run, the discipline `allOk ok` on its steps, the run cut at the step behind an observed event (`SplitAt`,
`obsRun_split`), and induction along a run for invariants over (state, events so far) (`run_traceInv`).
-/
namespace Hertz.ShutdownSpec

def holdsAt (l : List TEv) (p : Ev → Bool) (j : Nat) : Prop := ∃ e, l[j]? = some e ∧ p e.ev = true

theorem evAt_list (l : List TEv) (i : Nat) : evAt l.toArray i = l[i]? := by simp [evAt]

theorem matchP_iff (l : List TEv) (p : Ev → Bool) (j : Nat) :
    (match evAt l.toArray j with | some e => p e.ev | none => false) = true ↔ holdsAt l p j := by
  rw [evAt_list]
  unfold holdsAt
  cases l[j]? <;> simp

theorem holdsAt_lt {l : List TEv} {p : Ev → Bool} {j : Nat} (h : holdsAt l p j) : j < l.length :=
  let ⟨_, he, _⟩ := h
  Shutdown.getElem?_lt he

theorem existsFrom_iff (l : List TEv) (i : Nat) (p : Ev → Bool) :
    existsFrom l.toArray i p = true ↔ ∃ j, i < j ∧ holdsAt l p j := by
  unfold existsFrom
  simp only [List.any_eq_true, List.mem_range, Bool.and_eq_true, decide_eq_true_eq]
  constructor
  · rintro ⟨j, _, h1, h2⟩; exact ⟨j, h1, (matchP_iff l p j).1 h2⟩
  · rintro ⟨j, h1, h2⟩; exact ⟨j, by simpa using holdsAt_lt h2, h1, (matchP_iff l p j).2 h2⟩

theorem existsBefore_iff (l : List TEv) (i : Nat) (p : Ev → Bool) :
    existsBefore l.toArray i p = true ↔ ∃ j, j < i ∧ holdsAt l p j := by
  unfold existsBefore
  simp only [List.any_eq_true, List.mem_range, Bool.and_eq_true, decide_eq_true_eq]
  constructor
  · rintro ⟨j, _, h1, h2⟩; exact ⟨j, h1, (matchP_iff l p j).1 h2⟩
  · rintro ⟨j, h1, h2⟩; exact ⟨j, by simpa using holdsAt_lt h2, h1, (matchP_iff l p j).2 h2⟩

theorem idxOf?_eq_some {l : List TEv} {p : Ev → Bool} {f : Nat} :
    idxOf? l.toArray p = some f ↔ holdsAt l p f ∧ ∀ j, j < f → ¬ holdsAt l p j := by
  have m := matchP_iff l p
  unfold idxOf?
  rw [List.find?_range_eq_some]
  constructor
  · rintro ⟨h1, _, h3⟩
    exact ⟨(m f).1 h1, fun j hj hh => Bool.false_ne_true (((Bool.not_eq_true' _).mp (h3 j hj)).symm.trans ((m j).2 hh))⟩
  · rintro ⟨h1, h2⟩
    exact ⟨(m f).2 h1, by simpa using holdsAt_lt h1,
      fun j hj => (Bool.not_eq_true' _).mpr (Bool.eq_false_iff.2 fun h => h2 j hj ((m j).1 h))⟩

theorem idxOf?_none {l : List TEv} {p : Ev → Bool} (h : idxOf? l.toArray p = none) (j : Nat) : ¬ holdsAt l p j := by
  unfold idxOf? at h
  rw [List.find?_eq_none] at h
  intro hh
  exact h j (by simpa using holdsAt_lt hh) ((matchP_iff l p j).2 hh)

theorem lastIdxOf?_some {l : List TEv} {p : Ev → Bool} {f : Nat} (h : lastIdxOf? l.toArray p = some f) :
    holdsAt l p f := by
  unfold lastIdxOf? at h
  have := List.find?_some h
  exact (matchP_iff l p f).1 this

/-- `==` on events decides equality; by the match of the derived `beq` itself (same constructor, then argument by argument) -/
instance : LawfulBEq Ev where
  eq_of_beq {a b} h := by
    change instBEqEv.beq a b = true at h
    unfold instBEqEv.beq at h
    split at h
    · split at h <;> simp at h <;> simp [h]
    · cases h
  rfl {a} := by cases a <;> simp [BEq.beq, instBEqEv.beq] <;> rfl

theorem holdsAt_congr {l : List TEv} {p q : Ev → Bool} (h : ∀ e, p e = q e) {j : Nat} : holdsAt l p j ↔ holdsAt l q j := by
  unfold holdsAt; simp [h]

theorem holdsAt_eq {l : List TEv} {x : Ev} {j : Nat} : holdsAt l (· == x) j ↔ ∃ t, l[j]? = some ⟨x, t⟩ := by
  unfold holdsAt
  constructor
  · rintro ⟨⟨ev, t⟩, he, hp⟩
    simp at hp; subst hp; exact ⟨t, he⟩
  · rintro ⟨t, he⟩; exact ⟨_, he, by simp⟩

theorem isTnil_iff (e : Ev) : isTnil e = true ↔ ∃ k, e = .T k "nil" := by
  cases e <;> simp [isTnil]
  rename_i k err
  constructor
  · intro h
    split at h <;> simp_all
  · rintro rfl; rfl

theorem holdsAt_isTnil {l : List TEv} {j : Nat} : holdsAt l isTnil j ↔ ∃ k t, l[j]? = some (TEv.mk (.T k "nil") t) := by
  unfold holdsAt
  constructor
  · rintro ⟨⟨ev, t⟩, he, hp⟩
    obtain ⟨k, rfl⟩ := (isTnil_iff _).1 hp
    exact ⟨k, t, he⟩
  · rintro ⟨k, t, he⟩; exact ⟨_, he, rfl⟩

/-! ### each clause of the spec, as a statement about positions of the event list -/

theorem inflightComplete_nil (l : List TEv)
    (hQ : ∀ (i c k : Nat) rc t, l[i]? = some (TEv.mk (.Q c k rc) t) → ∃ (j : Nat) (cl : Bool) (t' : Nat), i < j ∧ l[j]? = some (TEv.mk (.R c k cl true) t'))
    (hR : ∀ (i c k : Nat) cl t, l[i]? ≠ some (TEv.mk (.R c k cl false) t)) : inflightComplete l.toArray = [] := by
  unfold inflightComplete
  simp only
  rw [List.filterMap_eq_nil_iff]
  intro i _
  split
  · rename_i c k rc t heq
    rw [evAt_list] at heq
    split
    · split
      · rfl
      · rename_i hne
        exfalso; apply hne
        rw [existsFrom_iff]
        obtain ⟨j, cl, t', hj, he⟩ := hQ i c k rc t heq
        refine ⟨j, hj, _, he, ?_⟩
        cases cl <;> simp
    · rfl
  · rename_i c k cl t heq
    rw [evAt_list] at heq
    exact absurd heq (hR i c k cl t)
  · rfl

theorem retFlipAt_isT {l : List TEv} {i : Nat} (h : retFlipAt l.toArray i = true) : holdsAt l isT i := by
  unfold retFlipAt at h
  rw [evAt_list] at h
  split at h
  · rename_i k err t heq; exact ⟨_, heq, rfl⟩
  · simp at h

theorem flipAt_isFlipWitness {l : List TEv} {i : Nat} (h : flipAt l.toArray i = true) : holdsAt l isFlipWitness i := by
  unfold flipAt at h
  rw [Bool.or_eq_true] at h
  rcases h with h | h
  · rw [evAt_list] at h
    split at h
    · rename_i j t heq; exact ⟨_, heq, rfl⟩
    · simp at h
  · obtain ⟨e, he, hp⟩ := retFlipAt_isT h
    refine ⟨e, he, ?_⟩
    cases hev : e.ev <;> simp [hev, isT] at hp
    rfl

theorem closeAfterShutdown_nil (l : List TEv)
    (h : ∀ (f i j c k : Nat) b t t', f < i → i < j → flipAt l.toArray f = true → l[i]? = some (TEv.mk (.X c k b) t) →
      l[j]? = some (TEv.mk (.R c k false true) t') → False) : closeAfterShutdown l.toArray = [] := by
  unfold closeAfterShutdown
  simp only
  split
  · rfl
  · rename_i f hf
    have hf' := List.find?_some hf
    split
    · rfl
    · rw [List.filterMap_eq_nil_iff]
      intro i _
      split
      · rename_i c k b t heq
        rw [evAt_list] at heq
        split
        · rename_i hc
          simp only [Bool.and_eq_true, decide_eq_true_eq] at hc
          obtain ⟨hfi, hex⟩ := hc
          rw [existsFrom_iff] at hex
          obtain ⟨j, hij, hj⟩ := hex
          obtain ⟨t', hj⟩ := holdsAt_eq.1 hj
          exact (h f i j c k b t t' hfi hij hf' heq hj).elim
        · rfl
      · rfl

theorem lt_firstIdx {l : List TEv} {p : Ev → Bool} {i : Nat} (h : i < (idxOf? l.toArray p).getD l.toArray.size) :
    ∀ j, j < i → ¬ holdsAt l p j := by
  intro j hj hh
  cases hidx : idxOf? l.toArray p with
  | none => exact idxOf?_none hidx j hh
  | some f =>
    rw [hidx] at h
    simp at h
    exact (idxOf?_eq_some.1 hidx).2 j (by omega) hh

theorem noSpuriousClose_nil (l : List TEv)
    (h : ∀ (i c k : Nat) co t, l[i]? = some (TEv.mk (.R c k true co) t) → (∀ j, j < i → ¬ holdsAt l isS j) →
      ∃ (j t' : Nat), j < i ∧ (l[j]? = some (TEv.mk (.Q c k true) t') ∨ l[j]? = some (TEv.mk (.X c k true) t'))) :
    noSpuriousClose l.toArray = [] := by
  unfold noSpuriousClose
  simp only
  rw [List.filterMap_eq_nil_iff]
  intro i hi
  split
  · rename_i c k co t heq
    rw [evAt_list] at heq
    split
    · rename_i hc
      exfalso
      simp only [Bool.and_eq_true, decide_eq_true_eq, Bool.not_eq_true', Bool.or_eq_false_iff] at hc
      obtain ⟨hlt, hnq, hnx⟩ := hc
      have hnoS : ∀ j, j < i → ¬ holdsAt l isS j := fun j hj hh =>
        lt_firstIdx hlt j hj ((holdsAt_congr (fun e => by cases e <;> rfl)).1 hh)
      obtain ⟨j, t', hj, hor⟩ := h i c k co t heq hnoS
      rcases hor with hq | hx
      · have : existsBefore l.toArray i (fun e => e == .Q c k true) = true := by
          rw [existsBefore_iff]; exact ⟨j, hj, holdsAt_eq.2 ⟨t', hq⟩⟩
        simp [this] at hnq
      · have : existsBefore l.toArray i (fun e => e == .X c k true) = true := by
          rw [existsBefore_iff]; exact ⟨j, hj, holdsAt_eq.2 ⟨t', hx⟩⟩
        simp [this] at hnx
    · rfl
  · rfl

theorem existsBefore_getD_false {l : List TEv} {p q : Ev → Bool}
    (h : existsBefore l.toArray ((idxOf? l.toArray p).getD l.toArray.size) q = false) {r : Nat}
    (hr : holdsAt l p r) (hmin : ∀ j, j < r → ¬ holdsAt l p j) : ∀ j, j < r → ¬ holdsAt l q j := by
  intro j hj hh
  rw [idxOf?_eq_some.2 ⟨hr, hmin⟩] at h
  have : existsBefore l.toArray r q = true := (existsBefore_iff l r q).2 ⟨j, hj, hh⟩
  simp [this] at h

theorem noAcceptAfter_nil (l : List TEv)
    (hA : ∀ (w i c : Nat) t, w < i → holdsAt l isTnil w → l[i]? = some (TEv.mk (.A c) t) → False)
    (hD : ∀ (w s i d : Nat) t t', holdsAt l isTnil w → w < s → s < i → l[s]? = some (TEv.mk (.Ds d) t') →
      l[i]? = some (TEv.mk (.De d true) t) → False) : noAcceptAfter l.toArray = [] := by
  unfold noAcceptAfter
  simp only
  split
  · rfl
  · rename_i w hw
    have hw' := (idxOf?_eq_some.1 hw).1
    split
    · rfl
    · rw [List.filterMap_eq_nil_iff]
      intro i _
      split
      · rename_i c t heq
        rw [evAt_list] at heq
        split
        · rename_i hwi; exact (hA w i c t hwi hw' heq).elim
        · rfl
      · rename_i d t heq
        rw [evAt_list] at heq
        split
        · rename_i s hs
          split
          · rename_i hc
            exfalso
            simp only [Bool.and_eq_true, decide_eq_true_eq] at hc
            obtain ⟨hex, hm⟩ := hc
            rw [existsBefore_iff] at hex
            obtain ⟨j, hji, hj⟩ := hex
            obtain ⟨hs1, hs2⟩ := idxOf?_eq_some.1 hs
            obtain ⟨t', hs1⟩ := holdsAt_eq.1 hs1
            have hsj : s ≤ j := by
              rcases Nat.lt_or_ge j s with h | h
              · exact absurd hj (hs2 j h)
              · exact h
            exact hD w s i d t t' hw' hm (by omega) hs1 heq
          · rfl
        · simp
      · rfl

theorem bounded_nil (p : Params) (l : List TEv)
    (h : ∀ (i k ts : Nat), l[i]? = some (TEv.mk (.S k) ts) →
      (∃ (j : Nat) (err : String) (tt : Nat), i < j ∧ l[j]? = some (TEv.mk (.T k err) tt)) ∧
      (∀ (j : Nat) (err : String) (tt : Nat), i < j → l[j]? = some (TEv.mk (.T k err) tt) →
        err ≠ "hang" ∧ tt - ts ≤ p.exitWait + p.tick + p.slack)) : bounded p l.toArray = [] := by
  unfold bounded
  rw [List.filterMap_eq_nil_iff]
  intro i _
  split
  · rename_i k ts heq
    rw [evAt_list] at heq
    obtain ⟨⟨j0, err0, tt0, hij0, hj0⟩, hall⟩ := h i k ts heq
    split
    · rename_i hnone
      exfalso
      rw [List.find?_eq_none] at hnone
      have hlt : j0 < l.length := Shutdown.getElem?_lt hj0
      apply hnone j0 (by simpa using hlt)
      simp [evAt_list, hj0, hij0]
    · rename_i j hsome
      have hpj := List.find?_some hsome
      simp only [Bool.and_eq_true, decide_eq_true_eq] at hpj
      obtain ⟨hij, hm⟩ := hpj
      split
      · rename_i k' err tt heq2
        rw [heq2] at hm
        simp only [beq_iff_eq] at hm
        subst hm
        rw [evAt_list] at heq2
        obtain ⟨h1, h2⟩ := hall j err tt hij heq2
        simp [h1]
        omega
      · rfl
  · rfl

theorem errOf_some {l : List TEv} {k : Nat} {err : String} (h : errOf l.toArray k = some err) :
    ∃ (r t : Nat), l[r]? = some (TEv.mk (.T k err) t) ∧ (∀ (j : Nat) e t', j < r → l[j]? ≠ some (TEv.mk (.T k e) t')) := by
  unfold errOf at h
  rw [List.findSome?_eq_some_iff] at h
  obtain ⟨l1, a, l2, rfl, ha, hl1⟩ := h
  obtain ⟨ev, t⟩ := a
  cases ev <;> simp at ha
  rename_i k' err'
  obtain ⟨rfl, rfl⟩ := ha
  refine ⟨l1.length, t, by simp, ?_⟩
  intro j e t' hj hh
  rw [List.getElem?_append_left hj] at hh
  have := hl1 _ (List.mem_of_getElem? hh)
  simp at this

theorem timeAt_list {l : List TEv} {i : Nat} {e : TEv} (h : l[i]? = some e) : timeAt l.toArray i = e.t := by
  simp [timeAt, evAt_list, h]

theorem anyRange_iff (n : Nat) (f : Nat → Bool) : (List.range n).any f = true ↔ ∃ j, j < n ∧ f j = true := by
  simp [List.any_eq_true]

theorem errorsReported_nil (p : Params) (l : List TEv)
    (h : ∀ (i k ts : Nat), l[i]? = some (TEv.mk (.S k) ts) → ∀ (r : Nat) (err : String) (tr' : Nat),
      l[r]? = some (TEv.mk (.T k err) tr') → (∀ (j : Nat) e t, j < r → l[j]? ≠ some (TEv.mk (.T k e) t)) →
      ((¬ (∃ j, j < r ∧ holdsAt l (· == .L) j) ∨ (∃ j, j < i ∧ retFlipAt l.toArray j = true)) → err = "notrunning") ∧
      ((∃ j, j < i ∧ holdsAt l (· == .L) j) → (¬ ∃ j, j < i ∧ retFlipAt l.toArray j = true) →
         (¬ ∃ (j k' t : Nat), j < r ∧ k' ≠ k ∧ l[j]? = some (TEv.mk (.S k') t)) →
         err = "nil" ∨ (err = "timeout" ∧ p.maxWait < tr' - ts))) :
    errorsReported p l.toArray = [] := by
  unfold errorsReported
  rw [List.filterMap_eq_nil_iff]
  intro i _
  split
  · rename_i k ts heq
    rw [evAt_list] at heq
    simp only
    split
    · rfl
    · rename_i err herr
      obtain ⟨r, t, hr, hmin⟩ := errOf_some herr
      obtain ⟨h1, h2⟩ := h i k ts heq r err t hr hmin
      have hidx : ∀ q : Ev → Bool, (∀ e, q e = true ↔ ∃ err, e = .T k err) → idxOf? l.toArray q = some r := by
        intro q hq
        refine idxOf?_eq_some.2 ⟨⟨_, hr, (hq _).2 ⟨_, rfl⟩⟩, ?_⟩
        rintro j hj ⟨⟨ev, t'⟩, he, hp⟩
        obtain ⟨e', rfl⟩ := (hq _).1 hp
        exact hmin j _ t' hj he
      split
      · rename_i hc
        exfalso
        rw [hidx _ (fun e => ?hq)] at hc
        case hq => cases e <;> simp
        simp only [Option.getD_some, Bool.and_eq_true, Bool.or_eq_true, Bool.not_eq_true', bne_iff_ne, ne_eq] at hc
        obtain ⟨hc1, hc2⟩ := hc
        apply hc2
        apply h1
        rcases hc1 with hc1 | hc1
        · left
          rw [← existsBefore_iff]
          simp [hc1]
        · right
          exact (anyRange_iff _ _).1 hc1
      · split
        · rename_i hc
          exfalso
          rw [hidx _ (fun e => ?hq)] at hc
          case hq => cases e <;> simp
          simp only [Option.getD_some, timeAt_list hr, Bool.and_eq_true, Bool.not_eq_true', bne_iff_ne, ne_eq] at hc
          obtain ⟨⟨⟨⟨hc1, hc2⟩, hc3⟩, hc4⟩, hc5⟩ := hc
          have := h2 ((existsBefore_iff _ _ _).1 hc1)
            (by intro hh; rw [(anyRange_iff _ _).2 hh] at hc2; simp at hc2)
            (by
              rintro ⟨j, k', t', hj, hk, he⟩
              rw [Bool.eq_false_iff] at hc3
              exact hc3 ((existsBefore_iff _ _ _).2 ⟨j, hj, _, he, by simpa using hk⟩))
          rcases this with h | ⟨h, h'⟩
          · exact hc4 h
          · subst h
            simp at hc5
            omega
        · rfl
  · rfl

/-- the return of the call that did the work and that call, as `hooksRun`, `connsWaited` and `prompt` find them -/
theorem winner_positions {l : List TEv} {w s : Nat} (hw : winnerRet l.toArray = some w) (hs : winnerCall l.toArray w = some s) :
    ∃ k tw ts, l[w]? = some (TEv.mk (.T k "nil") tw) ∧ l[s]? = some (TEv.mk (.S k) ts) ∧
      timeAt l.toArray w = tw ∧ timeAt l.toArray s = ts := by
  obtain ⟨k, tw, hwk⟩ := holdsAt_isTnil.1 (lastIdxOf?_some hw)
  unfold winnerCall at hs
  rw [evAt_list, hwk] at hs
  obtain ⟨ts, hsk⟩ := holdsAt_eq.1 (idxOf?_eq_some.1 hs).1
  exact ⟨k, tw, ts, hwk, hsk, timeAt_list hwk, timeAt_list hsk⟩

theorem hooksRun_nil (p : Params) (l : List TEv)
    (hA : ∀ w, holdsAt l isTnil w → ∀ j, j < p.nHooks → ∃ i, holdsAt l (· == .HS j) i)
    (hB : ∀ (w k tw s ts : Nat), l[w]? = some (TEv.mk (.T k "nil") tw) → l[s]? = some (TEv.mk (.S k) ts) →
      tw - ts + 2000 < p.exitWait →
      (∀ j, j < p.nHooks → ∃ i, i < w ∧ holdsAt l (· == .HE j) i) ∧
      (∀ (i c q : Nat) rc t, i < w → l[i]? = some (TEv.mk (.Q c q rc) t) →
        ∃ (i' : Nat) (b : Bool) (t' : Nat), i' < w ∧ l[i']? = some (TEv.mk (.X c q b) t'))) :
    hooksRun p l.toArray = [] := by
  unfold hooksRun
  simp only
  split
  · rfl
  · rename_i w hw
    have hw' := lastIdxOf?_some hw
    split
    · rfl
    · have hmiss : (List.range p.nHooks).filter (fun j => !existsBefore l.toArray l.toArray.size (· == .HS j)) = [] := by
        rw [List.filter_eq_nil_iff]
        intro j hj
        obtain ⟨i, hi⟩ := hA w hw' j (by simpa using hj)
        have : existsBefore l.toArray l.toArray.size (· == .HS j) = true :=
          (existsBefore_iff _ _ _).2 ⟨i, by simpa using holdsAt_lt hi, hi⟩
        simpa using this
      rw [hmiss]
      split
      · rfl
      · rename_i s hs
        obtain ⟨k, tw, ts, hwk, hsk, e1, e2⟩ := winner_positions hw hs
        rw [e1, e2]
        simp only [List.map_nil, List.nil_append]
        split
        · rfl
        · rename_i hearly
          have hearly : tw - ts + 2000 < p.exitWait := by simpa using hearly
          obtain ⟨hb, hc⟩ := hB w k tw s ts hwk hsk hearly
          have e1 : (List.range p.nHooks).filterMap (fun j =>
              if existsBefore l.toArray w (· == .HE j) then none
              else some s!"hooks_waited: Shutdown returned before the deadline while hook {j} was still running") = [] := by
            rw [List.filterMap_eq_nil_iff]
            intro j hj
            obtain ⟨i, hi, hh⟩ := hb j (by simpa using hj)
            have : existsBefore l.toArray w (· == .HE j) = true := (existsBefore_iff _ _ _).2 ⟨i, hi, hh⟩
            simp [this]
          rw [e1]
          simp only [List.nil_append]
          rw [List.filterMap_eq_nil_iff]
          intro i hi
          split
          · rename_i c q rc t heq
            rw [evAt_list] at heq
            obtain ⟨i', b, t', hi', hx⟩ := hc i c q rc t (by simpa using hi) heq
            have : existsBefore l.toArray w (fun e => e == .X c q true || e == .X c q false) = true := by
              rw [existsBefore_iff]
              refine ⟨i', hi', _, hx, ?_⟩
              cases b <;> simp
            simp [this]
          · rfl

end Hertz.ShutdownSpec

/-! ## the observable projection of a run of the interleaving model -/
namespace Hertz.Shutdown
open Hertz.ShutdownSpec (Ev TEv)

def errStr : Err → String
  | .nil => "nil"
  | .notRunning => "notrunning"
  | .timeout => "timeout"

/-- what the test harness records when the model takes step `a` in state `s`; every other step is unobservable.
`Hertz.Driver.C18.obsActs` goes the other way (there `L` stands for `init`, `markRunning`, `listen` together) -/
def obsAct (s : State) : Act → Option Ev
  | .listen => some .L
  | .dialStart => some (.Ds s.dials.length)
  | .dialEnd i ok => some (.De i ok)
  | .accept => some (.A s.conns.length)
  | .reqArrive c rc => (s.conns[c]?).map fun cn => .Q c cn.started rc
  | .handlerRet c b => (s.conns[c]?).map fun cn => .X c (cn.started - 1) b
  | .clientRead c cl => (s.conns[c]?).map fun cn => .R c cn.acked cl true
  | .badReq c => some (.B c)
  | .peerClose c => some (.C c)
  | .clientEof c => some (.E c)
  | .shutCall => some (.S s.callers.length)
  | .callerRet k e => some (.T k (errStr e))
  | .hookStart j => some (.HS j)
  | .hookEnd j => some (.HE j)
  | _ => none

def obsStep (s : State) (a : Act) : List TEv :=
  match obsAct s a with
  | some e => [⟨e, s.now⟩]
  | none => []

theorem obsStep_none {s : State} {a : Act} (h : obsAct s a = none) : obsStep s a = [] := by simp [obsStep, h]

theorem obsStep_some {s : State} {a : Act} {ev : Ev} (h : obsAct s a = some ev) : obsStep s a = [⟨ev, s.now⟩] := by
  simp [obsStep, h]

/-- the observed event sequence of a run (time stamp = model clock at the step) -/
def obsRun (cfg : Cfg) : State → List Act → List TEv
  | _, [] => []
  | s, a :: t =>
    match step cfg s a with
    | none => []
    | some s' => obsStep s a ++ obsRun cfg s' t

/-- every step taken by the run satisfies the scheduling / environment discipline `ok` -/
def allOk (ok : State → Act → Bool) (cfg : Cfg) : State → List Act → Bool
  | _, [] => true
  | s, a :: t => ok s a && match step cfg s a with
    | none => true
    | some s' => allOk ok cfg s' t

theorem allOk_true (cfg : Cfg) : ∀ (acts : List Act) (s : State), allOk (fun _ _ => true) cfg s acts = true
  | [], _ => rfl
  | a :: t, s => by simp only [allOk, Bool.true_and]; split <;> simp [allOk_true cfg t]

theorem allOk_mono {ok ok' : State → Act → Bool} (h : ∀ s a, ok s a = true → ok' s a = true) (cfg : Cfg) :
    ∀ (acts : List Act) (s : State), allOk ok cfg s acts = true → allOk ok' cfg s acts = true
  | [], _, _ => rfl
  | a :: t, s, hok => by
    simp only [allOk, Bool.and_eq_true] at hok ⊢
    refine ⟨h s a hok.1, ?_⟩
    cases hs : step cfg s a with
    | none => rfl
    | some s' => simp only [hs] at hok; exact allOk_mono h cfg t s' hok.2

/-! ### runs: splitting at an observed event -/

/-- the run, cut at the step that produced the observed event number `i` -/
structure SplitAt (cfg : Cfg) (ok : State → Act → Bool) (s sF : State) (acts : List Act) (i : Nat) (e : TEv)
    (acts1 : List Act) (a : Act) (acts2 : List Act) (s1 s1' : State) : Prop where
  eq : acts = acts1 ++ a :: acts2
  run1 : run cfg s acts1 = some s1
  ok1 : allOk ok cfg s acts1 = true
  oka : ok s1 a = true
  st : step cfg s1 a = some s1'
  run2 : run cfg s1' acts2 = some sF
  ok2 : allOk ok cfg s1' acts2 = true
  ev : obsAct s1 a = some e.ev
  tm : e.t = s1.now
  len : (obsRun cfg s acts1).length = i
  tr : obsRun cfg s acts = obsRun cfg s acts1 ++ e :: obsRun cfg s1' acts2

theorem obsStep_length_le (s : State) (a : Act) : (obsStep s a).length ≤ 1 := by
  unfold obsStep; split <;> simp

theorem obsRun_split (cfg : Cfg) (ok : State → Act → Bool) : ∀ (acts : List Act) {s sF : State} {i : Nat} {e : TEv},
    run cfg s acts = some sF → allOk ok cfg s acts = true → (obsRun cfg s acts)[i]? = some e →
    ∃ acts1 a acts2 s1 s1', SplitAt cfg ok s sF acts i e acts1 a acts2 s1 s1'
  | [], s, sF, i, e, _, _, h => by simp [obsRun] at h
  | a :: t, s, sF, i, e, hr, hok, h => by
    simp only [run] at hr
    simp only [allOk, Bool.and_eq_true] at hok
    cases hs : step cfg s a with
    | none => simp [hs] at hr
    | some s' =>
      simp only [hs] at hr hok
      have htr : obsRun cfg s (a :: t) = obsStep s a ++ obsRun cfg s' t := by simp [obsRun, hs]
      rw [htr] at h
      by_cases hi : i < (obsStep s a).length
      · -- the event is the one of this step
        rw [List.getElem?_append_left hi] at h
        unfold obsStep at h hi
        cases ho : obsAct s a with
        | none => simp [ho] at hi
        | some ev =>
          simp only [ho] at h hi
          have hi0 : i = 0 := by simpa using hi
          subst hi0
          simp at h
          subst h
          refine ⟨[], a, t, s, s', ⟨rfl, rfl, rfl, hok.1, hs, hr, hok.2, ho, rfl, rfl, ?_⟩⟩
          simp [obsRun, hs, obsStep, ho]
      · have hi' : (obsStep s a).length ≤ i := Nat.le_of_not_lt hi
        rw [List.getElem?_append_right hi'] at h
        obtain ⟨acts1, a', acts2, s1, s1', sp⟩ := obsRun_split cfg ok t hr hok.2 h
        refine ⟨a :: acts1, a', acts2, s1, s1', ⟨by simp [sp.eq], by simp [run, hs, sp.run1], ?_, sp.oka, sp.st, sp.run2, sp.ok2,
          sp.ev, sp.tm, ?_, ?_⟩⟩
        · simp [allOk, hs, hok.1, sp.ok1]
        · simp only [obsRun, hs, List.length_append, sp.len]; omega
        · rw [htr, sp.tr]; simp [obsRun, hs]

theorem run_traceInv (cfg : Cfg) (ok : State → Act → Bool) (J : State → List TEv → Prop)
    (hstep : ∀ s tr a s', J s tr → ok s a = true → step cfg s a = some s' → J s' (tr ++ obsStep s a)) :
    ∀ (acts : List Act) {s sF : State} {tr : List TEv}, J s tr → run cfg s acts = some sF → allOk ok cfg s acts = true →
      J sF (tr ++ obsRun cfg s acts)
  | [], s, sF, tr, hJ, hr, _ => by simp [run] at hr; subst hr; simpa [obsRun] using hJ
  | a :: t, s, sF, tr, hJ, hr, hok => by
    simp only [run] at hr
    simp only [allOk, Bool.and_eq_true] at hok
    cases hs : step cfg s a with
    | none => simp [hs] at hr
    | some s' =>
      simp only [hs] at hr hok
      have := run_traceInv cfg ok J hstep t (hstep s tr a s' hJ hok.1 hs) hr hok.2
      simpa [obsRun, hs, List.append_assoc] using this

end Hertz.Shutdown
