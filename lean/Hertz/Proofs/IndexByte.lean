import Hertz.Model.Uri
import Hertz.Model.Fs
import Hertz.GoSem
import Hertz.Proofs.Http1
/-!
The position of the first `c` in a byte string is defined once per modelled package: `H1.indexByte`, `Uri.indexOf`,
`FS.indexByte` and `Go.indexByteNat` (under `bytes.IndexByte` of the target language).  They are one function
(`H1.indexByte_unique`).  Its facts are proved for `H1.indexByte`, in `Proofs/Http1.lean` and here; the other three are
rewritten to it (`Proofs/Fs.lean` keeps two facts about `FS.indexByte` and its `splitAt1`).
-/
namespace Hertz

theorem H1.indexByte_unique (f : UInt8 → Bytes → Option Nat) (h0 : ∀ c, f c [] = none)
    (h1 : ∀ c x t, f c (x :: t) = if x = c then some 0 else (f c t).map (· + 1)) : f = H1.indexByte := by
  funext c b
  induction b with
  | nil => exact h0 c
  | cons x t ih => rw [h1, ih]; rfl

theorem Uri.indexOf_eq : Uri.indexOf = H1.indexByte := H1.indexByte_unique _ (fun _ => rfl) (fun _ _ _ => rfl)

theorem FS.indexByte_eq : FS.indexByte = H1.indexByte := H1.indexByte_unique _ (fun _ => rfl) (fun _ _ _ => rfl)

theorem Go.indexByteNat_eq : Go.indexByteNat = H1.indexByte := H1.indexByte_unique _ (fun _ => rfl) (fun _ _ _ => rfl)

/-- The ascription stands outside the `match`: written on `n`, the `match` is elaborated late and keeps an annotation
that `omega` does not look through. -/
theorem Go.indexByte_eq (b : Bytes) (c : UInt8) :
    Go.indexByte b c = (match H1.indexByte c b with | some n => n | none => -1 : Int) := by
  unfold Go.indexByte; rw [Go.indexByteNat_eq]; rfl

theorem H1.indexByte_isSome (c : UInt8) (b : Bytes) : (H1.indexByte c b).isSome = b.contains c := by
  cases h : H1.indexByte c b with
  | some n => have := List.mem_of_getElem? (H1.indexByte_get c b n h); simp [this]
  | none =>
    cases hc : b.contains c with
    | false => rfl
    | true => obtain ⟨i, hi⟩ := H1.indexByte_of_mem c b (by simpa using hc); rw [h] at hi; cases hi

end Hertz
