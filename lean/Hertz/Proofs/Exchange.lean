import Hertz.Model.Http1.Exchange
/-!
The exchange-sequence model (`Hertz.H1.Exchange`).  `attempt_pooled`: what `attempt` puts back stands behind the response
it returned; `attempt_clean`: on a pooled connection without unread bytes it is `ErrBadPoolConn` or the attempt on a new
connection; hence `exchange_eq_alone` (one `Do`) and, by induction over the sequence, `run_eq_alone`.
-/
namespace Hertz.H1.Exchange
open Hertz Hertz.H1 Hertz.H1.RespRead

/-- `attempt` puts a connection back only behind a response it returns, read from what was in front of the reader,
when neither side asked to close and no body was left unread; the connection then stands behind that response -/
theorem attempt_pooled (cfg : Cfg) (rq : Req) (sv : Srv) (c : Conn) (inPool : Bool) (c' : Conn)
    (h : (attempt cfg rq sv c inPool).1 = some c') :
    ∃ r, (attempt cfg rq sv c inPool).2 = .ok r ∧
      readResponseSkip (rq.skipBody || rq.appSkip) cfg.disableNorm cfg.maxBody (endOf (serve c sv)) (serve c sv).pending = .ok r ∧
      (rq.connClose || r.head.connClose || bodyUnread rq r.head) = false ∧ c'.pending = r.rest := by
  unfold attempt at h ⊢
  simp only at h ⊢
  split at h
  · split at h <;> cases h
  · rename_i b s hp
    rw [hp]
    split at h
    · cases h
    · rename_i r hr
      simp only [hr]
      split at h
      · cases h
      · rename_i hcc
        simp only [Option.some.injEq] at h
        exact ⟨r, by simp [hcc], rfl, by simpa using hcc, by rw [← h]⟩

theorem attempt_idle_of_not_ok (cfg : Cfg) (rq : Req) (sv : Srv) (c : Conn) (inPool : Bool)
    (h : (attempt cfg rq sv c inPool).2.isOk = false) : (attempt cfg rq sv c inPool).1 = none := by
  cases h1 : (attempt cfg rq sv c inPool).1 with
  | none => rfl
  | some c' =>
    obtain ⟨r, hr, _⟩ := attempt_pooled cfg rq sv c inPool c' h1
    rw [hr] at h
    cases h

theorem exchange_idle_of_not_ok (cfg : Cfg) (st : St) (rq : Req) (sv : Srv)
    (h : (exchange cfg st rq sv).2.isOk = false) : (exchange cfg st rq sv).1.idle = none := by
  unfold exchange at h ⊢
  cases hi : st.idle with
  | none =>
    simp only [hi] at h ⊢
    exact attempt_idle_of_not_ok cfg rq sv {} false h
  | some c0 =>
    simp only [hi] at h ⊢
    split
    · rename_i x hb
      simp only [hb] at h
      by_cases hr : rq.retryable = true
      · simp only [hr, if_true] at h ⊢
        exact attempt_idle_of_not_ok cfg rq sv {} false h
      · simp [hr]
    · rename_i c o hne hb
      simp only [hb] at h ⊢
      have := attempt_idle_of_not_ok cfg rq sv c0 true (by rw [hb]; exact h)
      rw [hb] at this
      exact this

theorem attempt_ne_badPool (cfg : Cfg) (rq : Req) (sv : Srv) (c : Conn) : (attempt cfg rq sv c false).2 ≠ .badPool := by
  unfold attempt
  simp only
  split
  · split <;> nofun
  · split
    · nofun
    · split <;> nofun

/-- the pooled attempt on a connection without unread bytes: `ErrBadPoolConn` when the peer has gone, or sends nothing
and goes; else what a new connection gives -/
theorem attempt_clean (cfg : Cfg) (rq : Req) (sv : Srv) (c : Conn) (hp : c.pending = []) :
    (attempt cfg rq sv c true = (none, .badPool) ∧ (c.peerClosed = true ∨ sv.resp = [])) ∨
    attempt cfg rq sv c true = attempt cfg rq sv {} false := by
  cases ha : c.peerClosed with
  | true => exact .inl ⟨by simp [attempt, serve, ha, hp], .inl rfl⟩
  | false =>
    unfold attempt
    rw [show serve c sv = serve {} sv by simp [serve, hp, ha]]
    cases hr : sv.resp with
    | nil => cases hk : sv.closeAfter <;> simp [serve, hr, hk]
    | cons b s => exact .inr (by simp [serve, hr])

/-- a skipped body that is no body (bodiless status, or `Content-Length: 0`): skipping leaves what reading leaves -/
theorem skip_rest_eq (dn : Bool) (maxBody : Nat) (e : End) (s : Bytes) (r : Result)
    (h : readResponseSkip true dn maxBody e s = .ok r)
    (hb : mustSkipCL r.head.status = true ∨ r.head.cl = 0) :
    ∃ r', readResponseSkip false dn maxBody e s = .ok r' ∧ r'.rest = r.rest := by
  unfold readResponseSkip at h ⊢
  cases hh : readHeaders dn e s with
  | error x => simp [hh] at h
  | ok p =>
    obtain ⟨hd, s1⟩ := p
    simp only [hh, if_true, Except.ok.injEq] at h
    subst h
    simp only at hb ⊢
    simp only [Bool.false_eq_true, if_false]
    unfold readBodyPart
    simp only
    rcases hb with hb | hb
    · simp [hb]
    · by_cases hm : mustSkipCL hd.status = true
      · simp [hm]
      · simp only [hm, hb]
        simp [takeBody, takeN]

/-- the response bytes of an exchange are one message: reading them (as the client does when the application has
not asked to skip the body) leaves nothing -/
def SelfDelimited (cfg : Cfg) (rq : Req) (sv : Srv) : Prop :=
  ∀ r, readResponseSkip rq.skipBody cfg.disableNorm cfg.maxBody (endOf (serve {} sv)) sv.resp = .ok r → r.rest = []

theorem attempt_fresh_clean (cfg : Cfg) (rq : Req) (sv : Srv) (inPool : Bool) (hs : SelfDelimited cfg rq sv) :
    ∀ c, (attempt cfg rq sv {} inPool).1 = some c → c.pending = [] := by
  intro c hc
  obtain ⟨r, _, hr, hcl, hpend⟩ := attempt_pooled cfg rq sv {} inPool c hc
  rw [show (serve {} sv).pending = sv.resp by simp [serve]] at hr
  rw [hpend]
  by_cases hk : (rq.skipBody || rq.appSkip) = rq.skipBody
  · rw [hk] at hr
    exact hs r hr
  · -- the application alone asked to skip the body, and the connection was pooled: there was no body
    obtain ⟨hk, ha⟩ : rq.skipBody = false ∧ rq.appSkip = true := by
      revert hk; cases rq.skipBody <;> cases rq.appSkip <;> decide
    rw [hk, ha] at hr
    have hnb : mustSkipCL r.head.status = true ∨ r.head.cl = 0 := by
      simp only [bodyUnread, ha, hk, Bool.not_false, Bool.true_and, Bool.or_eq_false_iff, Bool.and_eq_false_iff,
        Bool.not_eq_false', bne_eq_false_iff_eq] at hcl
      exact hcl.2
    obtain ⟨r', hr', hrest⟩ := skip_rest_eq _ _ _ _ r hr hnb
    rw [← hrest]
    unfold SelfDelimited at hs
    rw [hk] at hs
    exact hs r' hr'

/-- one `Do` from a pool without unread bytes returns what the response bytes give on a new connection, and a response
that is one message leaves the pool so.  `h`: should the pooled attempt end in `ErrBadPoolConn` the request is repeated —
it may be, or that end is excluded (the pooled connection is alive and an answer arrives) -/
theorem exchange_eq_alone (cfg : Cfg) (st : St) (rq : Req) (sv : Srv) (hc : Clean st)
    (h : rq.retryable = true ∨ (sv.resp ≠ [] ∧ ∀ c, st.idle = some c → c.peerClosed = false)) :
    (exchange cfg st rq sv).2 = alone cfg rq sv ∧
    (SelfDelimited cfg rq sv → Clean (exchange cfg st rq sv).1) := by
  unfold exchange
  cases hi : st.idle with
  | none => exact ⟨rfl, fun hs c => attempt_fresh_clean cfg rq sv false hs c⟩
  | some c0 =>
    simp only
    rcases attempt_clean cfg rq sv c0 (hc c0 hi) with ⟨hb, hd⟩ | he
    · -- `ErrBadPoolConn`: the peer had gone or sends nothing, which the second alternative of `h` excludes: `h` is the first
      have hr : rq.retryable = true := h.resolve_right fun ⟨hne, hal⟩ => hd.elim (by rw [hal c0 hi]; nofun) hne
      rw [hb]
      simp only [hr, if_true]
      exact ⟨rfl, fun hs c => attempt_fresh_clean cfg rq sv false hs c⟩
    · rw [he]
      split
      · rename_i hbad; exact absurd (congrArg Prod.snd hbad) (attempt_ne_badPool cfg rq sv {})
      · rename_i hco
        exact ⟨congrArg Prod.snd hco.symm, fun hs c hcc => attempt_fresh_clean cfg rq sv false hs c (by rw [hco]; exact hcc)⟩

theorem run_eq_alone (cfg : Cfg) : ∀ (xs : List (Req × Srv)) (st : St), Clean st →
    (∀ x ∈ xs, x.1.retryable = true ∧ SelfDelimited cfg x.1 x.2) →
    (run cfg st xs).map (·.2) = xs.map (fun x => alone cfg x.1 x.2)
  | [], _, _, _ => rfl
  | (rq, sv) :: t, st, hc, hx => by
    have hh := hx (rq, sv) (List.mem_cons_self ..)
    have h1 := exchange_eq_alone cfg st rq sv hc (Or.inl hh.1)
    simp only [run, List.map_cons]
    rw [h1.1, run_eq_alone cfg t _ (h1.2 hh.2) (fun x hm => hx x (List.mem_cons_of_mem _ hm))]

/-- after `Do`, `resp.SkipBody` is what `Do` found, i.e. what the application set: `skipAfterPass` gives back the saved
value whatever the pass did (the deferred assignment), so this holds by unfolding -/
theorem skipAfterDo_eq (cfg : Cfg) (st : St) (rq : Req) (sv : Srv) : skipAfterDo cfg st rq sv = rq.appSkip := by
  unfold skipAfterDo
  cases st.idle with
  | none => rfl
  | some c0 =>
    simp only [skipAfterPass]
    split <;> rfl

/-- one Response object for a whole sequence: each call finds exactly what the application has set so far - never
a mark of the client, whatever the methods (HEAD included), the outcomes and the retries were -/
theorem foundFlags_eq (cfg : Cfg) : ∀ (xs : List (Bool × Req × Srv)) (st : St) (flag : Bool),
    foundFlags cfg st flag xs = setSoFar flag (xs.map (·.1))
  | [], _, _ => rfl
  | (set, rq, sv) :: t, st, flag => by
    simp only [foundFlags, List.map_cons, setSoFar]
    rw [skipAfterDo_eq, foundFlags_eq cfg t]

theorem clean_init : Clean {} := by
  intro c h; simp at h

end Hertz.H1.Exchange
