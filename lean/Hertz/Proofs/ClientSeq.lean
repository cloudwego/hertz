/-
C10 — `seq_program_accepted`: the caller's program of Model/ClientSim.lean (`simDo`, run
sequentially by `simSeq`) only ever emits events that `Pool.step` accepts, for every script, every
configuration and every caller id below `auxBase`; the fuel of `simLoop` never runs out; and the
state it ends in is reachable by an accepted schedule (so every theorem of Proofs/ClientPool.lean
applies to it).

`Ph cfg a inDo held slots owed sim` describes the simulator between two events of the one
running caller `a` (who is in `Do`, what it holds, that nobody waits, that connection and waiter
numbers handed out so far are below `nextConn` / `nextW`).
-/
import Hertz.Model.ClientSim
import Hertz.Proofs.ClientPool
namespace Hertz.Pool

def Reach (cfg : Cfg) (s : State) : Prop := ∃ evs, run cfg init evs = some s

theorem run_snoc {cfg : Cfg} : ∀ {evs : List Ev} {s s1 s2 : State} {e : Ev},
    run cfg s evs = some s1 → step cfg s1 e = some s2 → run cfg s (evs ++ [e]) = some s2
  | [], s, s1, s2, e, h1, h2 => by
    cases h1
    simp [run, h2]
  | e' :: es, s, s1, s2, e, h1, h2 => by
    obtain ⟨s', hs', h1⟩ := run_cons.mp h1
    exact run_cons.mpr ⟨s', hs', run_snoc h1 h2⟩

theorem Reach.init (cfg : Cfg) : Reach cfg init := ⟨[], rfl⟩

theorem Reach.step {cfg : Cfg} {s s' : State} {e : Ev} (h : Reach cfg s) (hs : Step cfg s e s') : Reach cfg s' := by
  obtain ⟨evs, he⟩ := h
  exact ⟨evs ++ [e], run_snoc he hs.to_step⟩

theorem emit_of_step {cfg : Cfg} {sim : Sim} {e : Ev} {s' : State} (h : Step cfg sim.st e s') :
    emit cfg sim e = { sim with st := s', trace := tok e s' :: sim.trace } := by
  simp [emit, h.to_step]

/-! ### the invariant between two events of a sequential run -/

/-- `D`, `H`, `S`, `O`: who is in `Do`, what `a` holds, its dial slots, its owed decrements; the `…B` fields say that
the connection and waiter numbers in use are below the next ones the simulator hands out -/
structure Ph (cfg : Cfg) (a : Nat) (D H S O : List Nat) (sim : Sim) : Prop where
  ok : sim.ok = true
  reach : Reach cfg sim.st
  lt : a < auxBase
  inDo : sim.st.inDo = D
  held : sim.st.held = H
  holder : ∀ c ∈ H, sim.st.holder c = a
  slots : sim.st.slots = S
  owed : sim.st.owed = O
  live : sim.st.live = []
  boxed : sim.st.boxed = []
  idleB : ∀ c ∈ sim.st.idle, c < sim.nextConn
  heldB : ∀ c ∈ H, c < sim.nextConn
  closedB : ∀ c ∈ sim.st.closed, c < sim.nextConn
  seenB : ∀ w ∈ sim.st.seenW, w < sim.nextW

theorem planPop_nil : ∀ (q : List Nat), planPop [] q = (q.length, none)
  | [] => rfl
  | w :: q => by simp [planPop, planPop_nil q]

theorem deadPrefix_nil : ∀ (q : List Nat), deadPrefix [] q = q.length
  | [] => rfl
  | w :: q => by simp [deadPrefix, deadPrefix_nil q]

theorem popOk_all {s : State} (h : s.live = []) : popOk s s.queue.length none = true := by
  simp [popOk, h]

theorem emit_nextConn (cfg : Cfg) (sim : Sim) (e : Ev) : (emit cfg sim e).nextConn = sim.nextConn := by
  unfold emit; split <;> rfl

theorem emit_nextW (cfg : Cfg) (sim : Sim) (e : Ev) : (emit cfg sim e).nextW = sim.nextW := by
  unfold emit; split <;> rfl

theorem emit_peer (cfg : Cfg) (sim : Sim) (e : Ev) : (emit cfg sim e).peer = sim.peer := by
  unfold emit; split <;> rfl

theorem emit_dialTok (cfg : Cfg) (sim : Sim) (e : Ev) : (emit cfg sim e).dialTok = sim.dialTok := by
  unfold emit; split <;> rfl

/-! ### `decConnsCount`, `closeConn`, `releaseConn` -/

theorem simDec_ph {cfg : Cfg} {a : Nat} {D : List Nat} {sim : Sim} (h : Ph cfg a D [] [] [a] sim) :
    Ph cfg a D [] [] [] (simDec cfg sim a) ∧ (simDec cfg sim a).st.idle = sim.st.idle := by
  unfold simDec
  have ho : a ∈ sim.st.owed := h.owed ▸ List.mem_singleton_self a
  have hO : sim.st.owed.erase a = [] := by simp [h.owed]
  cases hw : cfg.wait
  · have hs := Step.dec ho hw ⟨rfl, rfl⟩
    simp only [Bool.false_eq_true, if_false]
    rw [emit_of_step hs]
    exact ⟨{ h with reach := h.reach.step hs, owed := hO }, rfl⟩
  · have hs := Step.decWait ho (ne_false_of_eq_true hw) (popOk_all h.live)
    simp only [if_true, h.live, planPop_nil]
    rw [emit_of_step hs]
    exact ⟨{ h with reach := h.reach.step hs, owed := hO }, rfl⟩

theorem simClose_ph {cfg : Cfg} {a c : Nat} {D : List Nat} {sim : Sim} (h : Ph cfg a D [c] [] [] sim) :
    Ph cfg a D [] [] [] (simClose cfg sim a c) ∧ (simClose cfg sim a c).st.idle = sim.st.idle := by
  unfold simClose
  have hs : Step cfg _ (.close a c) _ := .close ⟨h.held ▸ .head _, h.holder c (.head _)⟩
  rw [emit_of_step hs]
  exact simDec_ph { h with
    reach := h.reach.step hs
    held := by simp [h.held]
    holder := nofun
    heldB := nofun
    owed := by simp [h.owed]
    closedB := List.forall_mem_cons.mpr ⟨h.heldB c (.head _), h.closedB⟩ }

theorem simRelease_ph {cfg : Cfg} {a c : Nat} {D : List Nat} {sim : Sim} (h : Ph cfg a D [c] [] [] sim) :
    Ph cfg a D [] [] [] (simRelease cfg sim a c) := by
  unfold simRelease
  have hidle : ∀ x ∈ sim.st.idle ++ [c], x < sim.nextConn :=
    List.forall_mem_append.mpr ⟨h.idleB, List.forall_mem_singleton.mpr (h.heldB c (.head _))⟩
  have hc : c ∈ sim.st.held := h.held ▸ List.mem_singleton_self c
  have hh : sim.st.holder c = a := h.holder c (List.mem_singleton_self c)
  have hH : sim.st.held.erase c = [] := by simp [h.held]
  cases hw : cfg.wait
  · have hs := Step.rel hw ⟨hc, hh, rfl, rfl, rfl⟩
    simp only [Bool.false_eq_true, if_false]
    rw [emit_of_step hs]
    exact { h with reach := h.reach.step hs, held := hH, holder := nofun, idleB := hidle, heldB := nofun }
  · have hs := Step.relWait (ne_false_of_eq_true hw) (popOk_all h.live) Bool.false_ne_true ⟨hc, hh, nofun⟩
    simp only [if_true, h.live, planPop_nil]
    rw [emit_of_step hs]
    exact { h with reach := h.reach.step hs, held := hH, holder := nofun, idleB := hidle, heldB := nofun }

/-! ### `acquireConn` -/

/-- the state after `queueForIdle` when nobody is alive in the queue -/
def enqSt (s : State) (w a : Nat) : State :=
  { s with queue := s.queue.drop s.queue.length ++ [w], live := w :: s.live,
           wowner := upd s.wowner w a, seenW := w :: s.seenW }

theorem simAcquire_ph {cfg : Cfg} {a : Nat} {D : List Nat} {sim : Sim} (h : Ph cfg a D [] [] [] sim)
    (ha : a ∈ D) :
    (∃ sim' c inPool, simAcquire cfg sim a = (sim', .ok (c, inPool)) ∧ Ph cfg a D [c] [] [] sim' ∧
        (inPool = true → sim'.st.idle.length + 1 = sim.st.idle.length)) ∨
    (∃ sim' e, simAcquire cfg sim a = (sim', .error e) ∧ Ph cfg a D [] [] [] sim') := by
  unfold simAcquire
  have hin : a ∈ sim.st.inDo := h.inDo ▸ ha
  cases hg : sim.st.idle.getLast? with
  | some c =>
    left
    have hs : Step cfg _ (.acqIdle a c) _ := .acqIdle ⟨hin, hg⟩
    have hcm : c ∈ sim.st.idle := List.mem_of_getLast? hg
    refine ⟨_, c, true, rfl, ?_, fun _ => ?_⟩ <;> rw [emit_of_step hs]
    · exact { h with
        reach := h.reach.step hs
        held := by simp [h.held]
        holder := by simp [upd]
        idleB := fun x hx => h.idleB x (List.dropLast_subset _ hx)
        heldB := List.forall_mem_singleton.mpr (h.idleB c hcm) }
    · exact length_dropLast_succ hg
  | none =>
    have hidle : sim.st.idle = [] := List.getLast?_eq_none_iff.mp hg
    simp only []
    by_cases hlt : sim.st.count < (cfg.maxConns : Int)
    · simp only [hlt, if_true]
      have hs1 := Step.acqCreate ⟨hin, hidle, hlt⟩
      have h1 : Ph cfg a D [] [a] [] (emit cfg sim (.acqCreate a)) := by
        rw [emit_of_step hs1]
        exact { h with reach := h.reach.step hs1, slots := by simp [h.slots] }
      generalize emit cfg sim (.acqCreate a) = sim1 at h1 ⊢
      by_cases hd : sim1.dialTok > 0
      · right
        simp only [hd, if_true]
        have h1' : Ph cfg a D [] [a] [] { sim1 with dialTok := sim1.dialTok - 1 } := { h1 with }
        generalize ({ sim1 with dialTok := sim1.dialTok - 1 } : Sim) = sim2 at h1' ⊢
        have hs2 : Step cfg _ (.dialFail a) _ := .dialFail ⟨h1'.lt, h1'.slots ▸ List.mem_singleton_self a⟩
        have h2 : Ph cfg a D [] [] [a] (emit cfg sim2 (.dialFail a)) := by
          rw [emit_of_step hs2]
          exact { h1' with reach := h1'.reach.step hs2, slots := by simp [h1'.slots], owed := by simp [h1'.owed] }
        exact ⟨_, _, rfl, (simDec_ph h2).1⟩
      · left
        simp only [hd, if_false]
        have h1' : Ph cfg a D [] [a] [] { sim1 with nextConn := sim1.nextConn + 1 } :=
          { h1 with idleB := fun c hc => Nat.lt_succ_of_lt (h1.idleB c hc), heldB := nofun,
                    closedB := fun c hc => Nat.lt_succ_of_lt (h1.closedB c hc) }
        have hfresh : fresh sim1.st sim1.nextConn = true :=
          fresh_spec.mpr ⟨fun hx => Nat.lt_irrefl _ (h1.idleB _ hx), h1.held ▸ List.not_mem_nil,
            h1.boxed ▸ List.not_mem_nil, fun hx => Nat.lt_irrefl _ (h1.closedB _ hx)⟩
        have hs2 : Step cfg _ (.dialOk a sim1.nextConn) _ :=
          .dialOk ⟨hfresh, h1.lt, h1.slots ▸ List.mem_singleton_self a⟩
        refine ⟨_, sim1.nextConn, false, rfl, ?_, by simp⟩
        rw [emit_of_step (sim := { sim1 with nextConn := sim1.nextConn + 1 }) hs2]
        exact { h1' with
          reach := h1.reach.step hs2
          held := by simp [h1.held]
          holder := by simp [upd]
          slots := by simp [h1.slots]
          heldB := List.forall_mem_singleton.mpr (Nat.lt_succ_self _) }
    · right
      simp only [hlt, if_false]
      have hs1 := Step.acqFull ⟨hin, hidle, hlt⟩
      have h1 : Ph cfg a D [] [] [] (emit cfg sim (.acqFull a)) := by
        rw [emit_of_step hs1]
        exact { h with reach := h.reach.step hs1 }
      generalize emit cfg sim (.acqFull a) = sim1 at h1 ⊢
      cases hw : cfg.wait
      · exact ⟨_, _, rfl, h1⟩
      · simp only [if_true]
        have hnew : sim1.nextW ∉ sim1.st.seenW := fun hx => Nat.lt_irrefl _ (h1.seenB _ hx)
        rw [h1.live, deadPrefix_nil]
        have hs2 : Step cfg sim1.st (.enq a sim1.nextW sim1.st.queue.length) (enqSt sim1.st sim1.nextW a) :=
          .enq ⟨hw, h1.inDo ▸ ha, hnew, Nat.le_refl _, by simp [h1.live]⟩
        rw [emit_of_step (sim := { sim1 with nextW := sim1.nextW + 1 }) hs2]
        have hs3 : Step cfg (enqSt sim1.st sim1.nextW a) (.cancel a sim1.nextW none) _ :=
          .cancel ⟨if_pos rfl, by simp [noBox, enqSt, h1.boxed]⟩
        refine ⟨_, "nofree", rfl, ?_⟩
        rw [emit_of_step hs3]
        exact { h1 with
          reach := (h1.reach.step hs2).step hs3
          live := by simp [enqSt, h1.live]
          seenB := List.forall_mem_cons.mpr ⟨Nat.lt_succ_self _, fun x hx => Nat.lt_succ_of_lt (h1.seenB x hx)⟩ }

/-! ### one attempt (`doNonNilReqResp`) -/

/-- the exchanges the scripted peer can produce never leave the connection with the caller (`keep`),
and its error token is never `badpool` -/
theorem peerFault_facts (f : Nat) (inPool : Bool) :
    (verdict inPool (peerFault f).1).act ≠ .keep ∧ (peerFault f).2.2 ≠ "badpool" := by
  unfold peerFault
  split <;> cases inPool <;> decide

/-- what `doNonNilReqResp` does with the connection it holds, once it has decided -/
theorem connAct_ph {cfg : Cfg} {a c : Nat} {D : List Nat} {sim : Sim} (h : Ph cfg a D [c] [] [] sim) : ∀ act : ConnAct,
    act ≠ .keep → Ph cfg a D [] [] [] (match act with
      | .close => simClose cfg sim a c
      | .release => simRelease cfg sim a c
      | .keep => sim) ∧
    (act = .close → (match act with
      | .close => simClose cfg sim a c
      | .release => simRelease cfg sim a c
      | .keep => sim).st.idle = sim.st.idle)
  | .keep, hk => (hk rfl).elim
  | .close, _ => ⟨(simClose_ph h).1, fun _ => (simClose_ph h).2⟩
  | .release, _ => ⟨simRelease_ph h, nofun⟩

theorem simAttempt_ph {cfg : Cfg} {a : Nat} {D : List Nat} {sim : Sim} (h : Ph cfg a D [] [] [] sim)
    (ha : a ∈ D) (q : Req) :
    Ph cfg a D [] [] [] (simAttempt cfg sim a q).sim ∧
    ((simAttempt cfg sim a q).canRetry = true → (simAttempt cfg sim a q).cls = "badpool" →
      (simAttempt cfg sim a q).sim.st.idle.length + 1 = sim.st.idle.length) := by
  unfold simAttempt
  rcases simAcquire_ph h ha with ⟨sim', c, inPool, he, hp, hlen⟩ | ⟨sim', e, he, hp⟩
  · rw [he]; dsimp only
    -- `r`: what the scripted peer and the wire make of the attempt, the tuple `simAttempt` takes apart
    generalize hr : (ite (sim'.peer c = 2) _ _ : Exch × Nat × String × Bool) = r
    have hx : (verdict inPool r.1).act ≠ .keep ∧ r.2.2.1 ≠ "badpool" := by
      subst hr
      split
      · cases inPool <;> dsimp only <;> decide
      · split
        · cases inPool <;> dsimp only <;> decide
        · exact peerFault_facts _ _
    have ht := connAct_ph (sim := { sim' with peer := upd sim'.peer c r.2.1 }) { hp with } (verdict inPool r.1).act hx.1
    refine ⟨ht.1, fun _ hcls => ?_⟩
    have hb : (verdict inPool r.1).err = .badPool := by
      split at hcls
      · exact absurd hcls (by decide)
      · split at hcls
        · assumption
        · exact absurd hcls hx.2
    obtain ⟨hin, _, hcl⟩ := verdict_badPool hb
    exact (congrArg (·.length + 1) (ht.2 hcl)).trans (hlen hin)
  · rw [he]
    exact ⟨hp, nofun⟩

/-! ### `HostClient.Do` -/

theorem endd_ph {cfg : Cfg} {a : Nat} {sim : Sim} (h : Ph cfg a [a] [] [] [] sim) (id : Nat) (early : Bool) :
    Ph cfg a [] [] [] [] (emit cfg sim (.endd a id early)) := by
  have hs : Step cfg _ (.endd a id early) _ :=
    .endd ⟨h.inDo ▸ List.mem_singleton_self a, by simp [ownsNothing, h.held, h.slots, h.owed, h.live, h.boxed]⟩
  rw [emit_of_step hs]
  exact { h with reach := h.reach.step hs, inDo := by simp [h.inDo] }

/-- the fuel `simDo` gives to `simLoop` (`idle.length + 3`) is enough: every further round follows an attempt that
took a connection out of the idle list and closed it, so `idle.length + 1` rounds suffice -/
theorem simLoop_ph {cfg : Cfg} {a id : Nat} {q : Req} : ∀ (fuel : Nat) (sim : Sim) (cancelled : Bool) (sends : Nat),
    Ph cfg a [a] [] [] [] sim → sim.st.idle.length + 1 ≤ fuel →
    Ph cfg a [] [] [] [] (simLoop cfg a id q fuel sim cancelled sends).1
  | 0, sim, _, _, _, hf => by omega
  | fuel + 1, sim, cancelled, sends, h, hf => by
    unfold simLoop
    cases cancelled with
    | true => simp only [if_true]; exact endd_ph h id true
    | false =>
      simp only [Bool.false_eq_true, if_false]
      have hat := simAttempt_ph h (.head _) q
      generalize simAttempt cfg sim a q = r at hat ⊢
      by_cases h1 : (r.cls == "ok") = true
      · simp only [h1, if_true]; exact endd_ph hat.1 id false
      · simp only [h1]
        by_cases hr : (r.canRetry && isIdem (if q.post then "POST" else "GET") && r.cls == "badpool") = true
        · simp only [hr, if_true]
          simp only [Bool.and_eq_true, beq_iff_eq] at hr
          have hl := hat.2 hr.1.1 hr.2
          exact simLoop_ph fuel _ _ _ hat.1 (by omega)
        · simp only [hr]; exact endd_ph hat.1 id false

theorem Ph.rest_any {cfg : Cfg} {a b : Nat} {sim : Sim} (h : Ph cfg a [] [] [] [] sim) (hb : b < auxBase) :
    Ph cfg b [] [] [] [] sim :=
  ⟨h.ok, h.reach, hb, h.inDo, h.held, by simp, h.slots, h.owed, h.live, h.boxed, h.idleB, by simp, h.closedB, h.seenB⟩

theorem simDo_ph {cfg : Cfg} {a : Nat} {sim : Sim} (h : Ph cfg a [] [] [] [] sim) (id : Nat) (q : Req) :
    Ph cfg a [] [] [] [] (simDo cfg sim a id q).1 := by
  unfold simDo
  have h0 : Ph cfg a [] [] [] [] { sim with dialTok := if q.dialFail then sim.dialTok + 1 else sim.dialTok } :=
    { h with }
  generalize ({ sim with dialTok := if q.dialFail then sim.dialTok + 1 else sim.dialTok } : Sim) = sim0 at h0 ⊢
  have hs : Step cfg _ (.begin a id) _ := .begin ⟨h0.lt, h0.inDo ▸ List.not_mem_nil⟩
  have h1 : Ph cfg a [a] [] [] [] (emit cfg sim0 (.begin a id)) := by
    rw [emit_of_step hs]
    exact { h0 with reach := h0.reach.step hs, inDo := by simp [h0.inDo] }
  exact simLoop_ph _ _ _ _ h1 (by omega)

theorem ph_init (cfg : Cfg) : Ph cfg 0 [] [] [] [] ({} : Sim) :=
  ⟨rfl, Reach.init cfg, by decide, rfl, rfl, by simp, rfl, rfl, rfl, rfl, by simp [init], by simp,
   by simp [init], by simp [init]⟩

theorem simSeq_ph {cfg : Cfg} : ∀ (qs : List Req) (sim : Sim) (id : Nat) (acc : List String),
    Ph cfg 0 [] [] [] [] sim → Ph cfg 0 [] [] [] [] (simSeq cfg sim id qs acc).1
  | [], sim, id, acc, h => by simpa [simSeq] using h
  | q :: qs, sim, id, acc, h => by
    simp only [simSeq]
    exact simSeq_ph qs _ _ _ (simDo_ph h id q)

end Hertz.Pool
