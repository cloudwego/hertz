import Hertz.Proofs.ConnMemSys
/-!
`Release` and `Read` keep the ownership invariant `Good` (they do not keep peeked slices: that is the contract), so
`Good` holds in every state a connection can reach.  Names: `mstep_ok` / `cstep_ok` / `crun_ok` under `Legal` give `Good` and
the frame for the non-releasing operations; `mstep_good` / `cstep_good` / `crun_good` under `LegalAny` give `Good` for all.
-/
namespace Hertz.ConnMem
open Hertz Hertz.Conn

/-- handing back blocks one after the other: each joins the free list at most once, the counter stays -/
theorem foldl_release_spec {α : Type} (f : Mem → α → Mem) (blk : α → Nat)
    (hf : ∀ m a x, ((f m a).free.map (·.1)).count x ≤ (m.free.map (·.1)).count x + (if blk a = x then 1 else 0))
    (hn : ∀ m a, (f m a).nextBlk = m.nextBlk) (l : List α) (m : Mem) :
    (∀ x, ((l.foldl f m).free.map (·.1)).count x ≤ (m.free.map (·.1)).count x + (l.map blk).count x) ∧
    (l.foldl f m).nextBlk = m.nextBlk := by
  induction l generalizing m with
  | nil => exact ⟨fun _ => Nat.le_refl _, rfl⟩
  | cons h t ih =>
    refine ⟨fun x => ?_, by rw [List.foldl_cons, (ih _).2, hn]⟩
    have a := (ih (f m h)).1 x
    have b := hf m h x
    simp only [List.foldl_cons, List.map_cons, List.count_cons, beq_iff_eq] at a ⊢
    omega

/-- `MNode.release_spec` without the distinction by `readOnly`: whatever the node, at most its own block joins the free
list -/
theorem MNode.release_le (m : Mem) (h : MNode) (x : Nat) :
    ((h.release m).free.map (·.1)).count x ≤ (m.free.map (·.1)).count x + (if h.blk = x then 1 else 0) :=
  Nat.le_trans (MNode.release_spec m h x) (Nat.add_le_add_left (by split <;> simp [List.count_singleton]) _)

theorem releaseNodes_spec (l : List MNode) (m : Mem) :
    (∀ x, ((releaseNodes m l).free.map (·.1)).count x ≤ (m.free.map (·.1)).count x + (l.map (·.blk)).count x) ∧
    (releaseNodes m l).nextBlk = m.nextBlk :=
  foldl_release_spec MNode.release (·.blk) MNode.release_le MNode.release_next l m

theorem releaseCaches_spec (l : List (Nat × Nat × Nat)) (m : Mem) :
    (∀ x, ((releaseCaches m l).free.map (·.1)).count x ≤ (m.free.map (·.1)).count x + (l.map (·.2.1)).count x) ∧
    (releaseCaches m l).nextBlk = m.nextBlk :=
  foldl_release_spec (fun m (c : Nat × Nat × Nat) => m.release c.2.1 c.2.2) (·.2.1) (fun m c => release_count m c.2.1 c.2.2)
    (fun m c => Mem.release_next m c.2.1 c.2.2) l m

theorem mreleaseGeneral_good (m : Mem) (s : MReader) (L : List Nat) (hG : RGood m s L) :
    RGood (mreleaseGeneral m s).1 (mreleaseGeneral m s).2 L := by
  have a := releaseNodes_spec s.done m
  have b := releaseCaches_spec s.caches (releaseNodes m s.done)
  refine books_of_le hG (fun x => ?_) (by simp only [mreleaseGeneral]; rw [b.2, a.2])
  have a1 := a.1 x
  have b1 := b.1 x
  simp only [mreleaseGeneral, MReader.blocks, MReader.cores, MReader.nodes, List.map_append, List.map_map,
    List.count_append, List.map_cons, List.map_nil, List.nil_append, List.count_nil, Function.comp_def,
    MNode.core, List.count_cons, beq_iff_eq] at a1 b1 ⊢
  omega

/-- the reader's blocks when the chain is `head → write` -/
theorem blocks_two (s : MReader) (h : MNode) (hs : (s.done = [h] ∧ s.mid = []) ∨ (s.done = [] ∧ s.mid = [h])) (x : Nat) :
    s.blocks.count x = (if h.blk = x then 1 else 0) + (if s.w.blk = x then 1 else 0) +
      (s.caches.map (·.2.1)).count x + s.priv.count x := by
  rcases hs with ⟨h1, h2⟩ | ⟨h1, h2⟩ <;>
    simp only [MReader.blocks, MReader.cores, MReader.nodes, h1, h2, MNode.core, List.count_append, List.count_cons,
      List.map_cons, List.map_nil, List.nil_append, beq_iff_eq, List.append_nil, List.cons_append] <;> omega

theorem mreleaseTwo_good (m : Mem) (s : MReader) (h : MNode) (ch : Nat) (L : List Nat) (hG : RGood m s L)
    (hs : (s.done = [h] ∧ s.mid = []) ∨ (s.done = [] ∧ s.mid = [h])) :
    RGood (mreleaseTwo m s h ch).1 (mreleaseTwo m s h ch).2 L := by
  have hb := blocks_two s h hs
  have r1 := MNode.release_le m h
  have n1 := MNode.release_next m h
  by_cases hc : s.w.cap > mallocMax
  · -- the books after `head.Release()`, seen from the allocator: everything but `head` is still in use
    have hbk := books_of_le hG (B' := s.priv ++ [s.w.blk] ++ s.caches.map (·.2.1) ++ L) (m' := h.release m) (fun x => by
      have r := r1 x
      simp only [List.count_append, hb x, List.count_cons, List.count_nil, beq_iff_eq]
      omega) n1
    have ha := alloc_ok (h.release m) (clampMax s.maxSize (h.malloc + s.w.malloc)) ch _ hbk.1 hbk.2
    generalize hA : (h.release m).alloc (clampMax s.maxSize (h.malloc + s.w.malloc)) ch = a at ha
    have w1 := MNode.release_le a.2 s.w
    have c1 := releaseCaches_spec s.caches (s.w.release a.2)
    have hcount : ∀ x, ((mreleaseTwo m s h ch).2.blocks ++ L ++ (mreleaseTwo m s h ch).1.free.map (·.1)).count x ≤
        (s.priv ++ [s.w.blk] ++ s.caches.map (·.2.1) ++ L ++ a.2.free.map (·.1)).count x + (if a.1 = x then 1 else 0) := by
      intro x
      have b := w1 x
      have c := c1.1 x
      simp only [mreleaseTwo, hc, if_true, hA, MReader.blocks, MReader.cores, MReader.nodes, List.count_append,
        List.map_cons, List.map_nil, List.nil_append, List.count_nil, List.count_cons, MNode.core, beq_iff_eq] at c ⊢
      omega
    have hnext : (mreleaseTwo m s h ch).1.nextBlk = a.2.nextBlk := by
      simp only [mreleaseTwo, hc, if_true, hA]; rw [c1.2, MNode.release_next]
    have := ha.le hcount
    exact ⟨this.1, fun x hx => hnext ▸ this.2 x hx⟩
  · simp only [mreleaseTwo, hc, if_false]
    have c1 := releaseCaches_spec s.caches (h.release m)
    refine books_of_le hG (fun x => ?_) (by rw [c1.2, n1])
    have c := c1.1 x
    have r := r1 x
    have hbx := hb x
    simp only [List.count_append]
    rw [hbx]
    simp only [MReader.blocks, MReader.cores, MReader.nodes, MNode.reset, List.count_append, List.map_cons,
      List.map_nil, List.nil_append, List.count_nil, List.count_cons, MNode.core, beq_iff_eq]
    omega

theorem mrelease_good (m : Mem) (s : MReader) (ch : Nat) (L : List Nat) (hG : RGood m s L) :
    RGood (mrelease m s ch).1 (mrelease m s ch).2 L := by
  unfold mrelease
  split
  · split
    · rename_i h1 h2
      refine books_of_le hG (fun x => ?_) rfl
      simp [MReader.blocks, MReader.cores, MReader.nodes, MNode.core, MNode.reset, h1, h2]
    · rename_i h1 h2; exact mreleaseTwo_good m s _ ch L hG (Or.inl ⟨h1, h2⟩)
    · rename_i h1 h2; exact mreleaseTwo_good m s _ ch L hG (Or.inr ⟨h1, h2⟩)
    · exact mreleaseGeneral_good m s L hG
  · exact mreleaseGeneral_good m s L hG

theorem mnext_good {m : Mem} {s : MReader} {l ch : Nat} {L : List Nat} (hG : RGood m s L)
    {p : Bytes} {e : Option Err} {m' : Mem} {s' : MReader} (h : mnext m s l ch = .ok (p, e, m', s')) :
    RGood m' s' L := by
  unfold mnext at h
  obtain ⟨pb, _, h⟩ := bind_eq_ok h
  obtain ⟨⟨e1, s1⟩, hs, h⟩ := bind_eq_ok h
  have h1 := (mskip_ok hG hs).1
  cases e1 with
  | some e1 => cases h; exact h1
  | none => cases h; exact mrelease_good m s1 ch L h1

theorem mstep_good {m : Mem} {s : MReader} {wire : Wire} {ch1 ch2 : Nat} {op : Op} {L : List Nat} (hG : RGood m s L)
    {o : MOut} {m' : Mem} {s' : MReader} {w' : Wire} (h : mstep m s wire ch1 ch2 op = .ok (o, m', s', w')) :
    RGood m' s' L := by
  by_cases hk : op.keeps = true
  · exact (mstep_ok hG hk h).1
  · cases op with
    | read k =>
      simp only [mstep] at h
      split at h
      · obtain ⟨⟨p, e, m1, s1⟩, hn, h⟩ := bind_eq_ok h
        have := mnext_good hG hn
        cases h; exact this
      · split at h
        · obtain ⟨⟨e, m1, s1, w1⟩, hf, h⟩ := bind_eq_ok h
          have h1 := (mfill_ok hG hf).1
          cases e with
          | some e => cases h; exact h1
          | none =>
            obtain ⟨⟨p, e2, m2, s2⟩, hn, h⟩ := bind_eq_ok h
            have := mnext_good h1 hn
            cases h; exact this
        · cases h; exact hG
    | release => cases h; exact mrelease_good m s ch1 L hG
    | _ => exact absurd rfl hk

/-- what the caller must respect, releasing reader operations included -/
def CStep.legalAny (c : MConn) : CStep → Prop
  | .rd _ _ _ => True
  | st => st.legal c

theorem cstep_good {c wire sc st} (hG : Good c) (hl : st.legalAny c) {o c' w' sc'}
    (h : cstep c wire sc st = .ok (o, c', w', sc')) : Good c' := by
  cases st with
  | rd op ch1 ch2 =>
    obtain ⟨⟨mo, m1, r1, w1⟩, hs, h⟩ := bind_eq_ok h
    have := mstep_good hG.1 hs
    cases h; exact ⟨this, hG.2⟩
  -- every other step is legal in the strict sense
  | _ => exact (cstep_ok hG (by exact hl) h).1

def LegalAny (c : MConn) (wire : Wire) (sc : WScript) : List CStep → Prop
  | [] => True
  | st :: rest => st.legalAny c ∧ ∀ o c1 w1 sc1, cstep c wire sc st = .ok (o, c1, w1, sc1) → LegalAny c1 w1 sc1 rest

theorem crun_good {c wire sc steps} (hG : Good c) (hl : LegalAny c wire sc steps) {outs c' w' sc'}
    (h : crun c wire sc steps = .ok (outs, c', w', sc')) : Good c' :=
  (crun_inv (J := fun c wire sc steps => Good c ∧ LegalAny c wire sc steps)
    (fun ⟨hG, hl⟩ hs => ⟨cstep_good hG hl.1 hs, hl.2 _ _ _ _ hs⟩) ⟨hG, hl⟩ h).1

end Hertz.ConnMem
