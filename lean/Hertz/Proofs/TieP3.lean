import Hertz.Proofs.Tie
import Hertz.Proofs.IndexByte
/-!
`Hertz.Props.Tie`, part 3: `AppendQuotedPath`, `NormalizeHeaderKey`, `decodeArgAppend`, `decodeArgAppendNoPlus`.
-/
open Hertz

namespace Hertz.Tie

/-! ### `bytesconv.AppendQuotedPath` -/

theorem appendQuotedPath_eq (dst src : Bytes) :
    Gen.Funcs.appendQuotedPath dst src = .ok (dst ++ quotePath src) := by
  unfold Gen.Funcs.appendQuotedPath
  rw [rangeLoop_append _ encPath, ← quotePathBody_eq]
  · match src with
    | [] => simp [Go.len, Except.bind, quotePath]
    | [c] =>
      by_cases h : c = 42
      · subst h; simp [Go.len, Go.idx, Except.bind, quotePath]
      · simp [Go.len, Go.idx, Except.bind, quotePath, h]
    | c :: d :: t =>
      have : ¬ ((t.length : Int) + 1 + 1 = 1) := by omega
      simp [Go.len, Except.bind, quotePath, this]
  · intro c dst
    have he : (tget Gen.quotedPathShouldEscapeTable c != 0) = !pathPlain c := pathShouldEscape_eq c
    simp only [hexHi, hexLo, Except.bind, encPath, pctEnc, he]
    cases pathPlain c <;> simp

example : Gen.Funcs.appendQuotedPath [1] [47, 97, 32, 98, 37, 255] = .ok [1, 47, 97, 37, 50, 48, 98, 37, 50, 53, 37, 70, 70] := by
  decide +kernel
example : Gen.Funcs.appendQuotedPath [1] [42] = .ok [1, 42] := by decide +kernel

/-! ### `utils.NormalizeHeaderKey` -/

/-- The bound is `len(b) ≤ maxInt - 1` (not `maxInt`): for a key of `maxInt` bytes ending in `-` the Go loop counter
is incremented twice past `n - 1` and wraps. -/
theorem normalizeHeaderKey_eq (b : Bytes) (disable : Bool) (hlen : b.length + 1 < 2^63) :
    Gen.Funcs.normalizeHeaderKey b disable = .ok (H1.normalizeKey disable b) := by
  unfold Gen.Funcs.normalizeHeaderKey H1.normalizeKey
  cases disable with
  | true => simp
  | false =>
    cases b with
    | nil => simp [Go.len, H1.normKeyAux]
    | cons c0 t0 =>
      have hne : ((Go.len (c0 :: t0)) == (0 : Int)) = false := by simp [Go.len]; omega
      have h0 : Go.idx (c0 :: t0) 0 = .ok c0 := by simp [Go.idx]
      have h1 : Go.setIdx (c0 :: t0) 0 (tget Gen.toUpperTable c0) = .ok ([toUpper c0] ++ t0) := by simp [Go.setIdx, toUpper]
      simp only [hne, Bool.false_eq_true, if_false, h0, h1, bind_ok, H1.normKeyAux]
      generalize hN : Go.len (c0 :: t0) = n
      -- cursor `(p, t)`; the counter `j` is at the cursor or, after a final `-`, one past the end
      refine forLoop_sim _ _ _ _ (fun a : Bytes × Bytes × Int => (a.1 ++ a.2.1, a.2.2))
        (fun a => ((a.1 ++ a.2.1).length : Int) = n ∧ (a.2.2 = a.1.length ∨ a.2.1 = [] ∧ a.2.2 = a.1.length + 1))
        (fun a => a.2.1.length) (fun a => a.1 ++ H1.normKeyAux false a.2.1) (fun ⟨p, t, j⟩ ⟨hn, hj⟩ => ?_)
        _ ([toUpper c0], t0, 1) ⟨by simp [← hN, Go.len], .inl rfl⟩ (by simp [Go.fuelOf, ← hN, Go.len])
      have hl : n + 1 < 9223372036854775808 := by rw [← hN]; simp [Go.len] at hlen ⊢; omega
      dsimp only at hn hj ⊢
      rcases hj with rfl | ⟨rfl, rfl⟩
      · rcases t with _ | ⟨c, t⟩
        · exact .exit (by simp at hn; simp [hn]) (by simp [H1.normKeyAux])
        · simp at hn
          have hc : (Except.ok (decide ((p.length : Int) < n)) : Go.G Bool) = .ok true := by simp; omega
          have ha : Go.add (p.length : Int) 1 = (p.length : Int) + 1 := add_id (by omega) (by omega)
          have ha2 : Go.add ((p.length : Int) + 1) 1 = (p.length : Int) + 1 + 1 := add_id (by omega) (by omega)
          by_cases h45 : c = 45
          · subst h45
            rcases t with _ | ⟨d, t⟩
            · refine .next (p ++ [45], (p.length : Int) + 1) (p ++ [45], [], (p.length : Int) + 1 + 1) hc ?_ (by simp [ha2])
                ⟨by simpa using hn, .inr ⟨rfl, by simp⟩⟩ (by simp) (by simp [H1.normKeyAux])
              -- the `Go.add` facts first: otherwise `Go.wrap` is evaluated on an open term
              simp only [ha, idx_append, bind_ok]
              have : ¬ ((p.length : Int) + 1 < n) := by simp at hn; omega
              simp [this]
            · refine .next (p ++ 45 :: toUpper d :: t, (p.length : Int) + 1) (p ++ [45, toUpper d], t, (p.length : Int) + 1 + 1) hc ?_
                (by simp [ha2]) ⟨by simp at hn ⊢; omega, .inl (by simp; omega)⟩ (by simp; omega) (by simp [H1.normKeyAux])
              simp only [ha, idx_append, idx_append1, setIdx_append1, bind_ok]
              have : ((p.length : Int) + 1 < n) := by simp at hn; omega
              simp [this, toUpper]
          · refine .next (p ++ toLower c :: t, (p.length : Int)) (p ++ [toLower c], t, (p.length : Int) + 1) hc ?_ (by simp [ha])
              ⟨by simp; omega, .inl (by simp)⟩ (by simp) (by simp [H1.normKeyAux, h45])
            simp only [idx_append, setIdx_append, bind_ok]
            simp [h45, toLower]
      · exact .exit (by simp at hn; simp [hn]; omega) (by simp [H1.normKeyAux])

example : Gen.Funcs.normalizeHeaderKey (str "cONTENT--tYPE-x-") false = .ok (str "Content--type-X-") := by decide +kernel
example : Gen.Funcs.normalizeHeaderKey (str "cONTENT-tYPE") true = .ok (str "cONTENT-tYPE") := by decide +kernel

/-! ### `decodeArgAppend`, `decodeArgAppendNoPlus` -/

/-- The loop of both decoders.  Their bodies share the text of the `%` branch, which is why it is quoted here (`hb`);
their branch for the other bytes (`other`, described by `ho`) is found by unification.  From index `i` the loop appends
`decodeSlow plus (src.drop i)`. -/
theorem dec_loop (src : Bytes) (plus : Bool) (cond : Bytes × Int → Go.G Bool)
    (body : Bytes × Int → Go.G (Go.Ctl (Bytes × Int) Bytes)) (post : Bytes × Int → Go.G (Bytes × Int))
    (other : UInt8 → Bytes → Int → Go.G (Go.Ctl (Bytes × Int) Bytes))
    (K : Go.Ctl (Bytes × Int) Bytes → Go.G Bytes)
    (hc : ∀ dst i, cond (dst, i) = .ok (decide (i < Go.len src)))
    (hb : ∀ dst i, body (dst, i) =
      Except.bind (Go.idx src i) (fun t_1 =>
        let c : UInt8 := t_1
        (if (c == (37 : UInt8)) then
          (if (decide ((Go.add i (2 : Int)) ≥ (Go.len src))) then
            Except.bind (Go.sliceFrom src i) (fun t_4 =>
              (Except.ok (Go.Ctl.ret (dst ++ t_4))))
            else
            Except.bind (Go.idx src (Go.add i (2 : Int))) (fun t_2 =>
              let x2 : UInt8 := (tget Gen.hex2intTable t_2)
              Except.bind (Go.idx src (Go.add i (1 : Int))) (fun t_3 =>
                let x1 : UInt8 := (tget Gen.hex2intTable t_3)
                (if ((x1 == (16 : UInt8)) || (x2 == (16 : UInt8))) then
                  let dst : Bytes := (dst ++ [(37 : UInt8)])
                  (Except.ok (Go.Ctl.next (dst, i)))
                  else
                  let dst : Bytes := (dst ++ [((x1 <<< (4 : UInt8)) ||| x2)])
                  let i : Int := (Go.add i (2 : Int))
                  (Except.ok (Go.Ctl.next (dst, i)))))))
          else other c dst i)))
    (hp : ∀ dst i, post (dst, i) = .ok (dst, Go.add i 1))
    (ho : ∀ c dst i, c ≠ 37 → other c dst i = .ok (.next (dst ++ [if plus && c == 43 then 32 else c], i)))
    (hKr : ∀ v, K (.ret v) = .ok v)
    (hKn : ∀ d j, K (.next (d, j)) = .ok d)
    (hlen : src.length + 1 < 9223372036854775808) (fuel : Nat) (dst : Bytes) (hf : src.length < fuel) :
    Except.bind (Go.forLoop cond body post fuel (dst, 0)) K = .ok (dst ++ decodeSlow plus src) := by
  refine forLoop_sim cond body post K (fun a : Bytes × Nat => (a.1, (a.2 : Int))) (fun a => a.2 ≤ src.length)
    (fun a => src.length - a.2) (fun a => a.1 ++ decodeSlow plus (src.drop a.2)) (fun ⟨dst, i⟩ hi => ?_)
    fuel (dst, 0) (Nat.zero_le _) hf
  by_cases hlt : i < src.length
  · have h1 : cond (dst, (i : Int)) = .ok true := (hc _ _).trans (cond_lt hlt)
    have ha1 : Go.add (i : Int) 1 = ((i + 1 : Nat) : Int) := add_nat i 1 (by omega)
    have hb0 := hb dst i
    rw [idx_ok src i hlt, bind_ok] at hb0
    by_cases h37 : src[i] = 37
    · have ha2 : Go.add (i : Int) 2 = ((i + 2 : Nat) : Int) := add_nat i 2 (by omega)
      simp only [h37, beq_self_eq_true, if_true, ha1, ha2] at hb0
      by_cases hr : src.length ≤ i + 2
      · have hge : decide (((i + 2 : Nat) : Int) ≥ Go.len src) = true := decide_eq_true (Int.ofNat_le.mpr hr)
        rw [if_pos hge, sliceFrom_ok src i hi, bind_ok] at hb0
        exact .ret _ h1 hb0 ((hKr _).trans (by rw [decodeSlow_drop_short plus src i hlt h37 hr]))
      · have hge : ¬ decide (((i + 2 : Nat) : Int) ≥ Go.len src) = true := fun h => hr (Int.ofNat_le.mp (of_decide_eq_true h))
        have hl1 : i + 1 < src.length := by omega
        have hl2 : i + 2 < src.length := by omega
        rw [if_neg hge, idx_ok src (i + 2) hl2, bind_ok, idx_ok src (i + 1) hl1, bind_ok] at hb0
        have hd := decodeSlow_drop_pct plus src i hl1 hl2 h37
        by_cases h16 : hex2int src[i + 1] = 16 ∨ hex2int src[i + 2] = 16
        · rw [if_pos (by simpa [hex2int] using h16)] at hb0
          exact .next _ (dst ++ [37], i + 1) h1 hb0 ((hp _ _).trans (by rw [ha1])) hlt (by simp; omega)
            (by simp [hd, h16])
        · rw [if_neg (by simpa [hex2int] using h16)] at hb0
          have ha3 : Go.add ((i + 2 : Nat) : Int) 1 = ((i + 3 : Nat) : Int) := add_nat (i + 2) 1 (by omega)
          exact .next _ (dst ++ [hex2int src[i + 1] <<< 4 ||| hex2int src[i + 2]], i + 3) h1 hb0
            ((hp _ _).trans (by rw [ha3]; rfl)) (by simp; omega) (by simp; omega) (by simp [hd, h16])
    · rw [if_neg (by simpa using h37), ho _ _ _ h37] at hb0
      exact .next _ (dst ++ [_], i + 1) h1 hb0 ((hp _ _).trans (by rw [ha1])) hlt (by simp; omega)
        (by simp [decodeSlow_drop_ne plus src i hlt h37])
  · exact .exit ((hc _ _).trans (cond_ge hlt)) ((hKn _ _).trans (by simp [List.drop_eq_nil_of_le (Nat.le_of_not_lt hlt), decodeSlow]))

theorem indexByte_neg (c : UInt8) (b : Bytes) : decide (Go.indexByte b c < 0) = !b.contains c := by
  rw [Go.indexByte_eq, ← H1.indexByte_isSome]
  cases H1.indexByte c b <;> simp

/-- The bound is `len(src) ≤ maxInt - 1`: for `maxInt` bytes ending in `%` the test `i+2 >= len(src)` wraps. -/
theorem decodeArgAppend_eq (dst src : Bytes) (hlen : src.length + 1 < 2^63) :
    Gen.Funcs.decodeArgAppend dst src = .ok (dst ++ decodeArg src) := by
  unfold Gen.Funcs.decodeArgAppend decodeArg
  rw [indexByte_neg, indexByte_neg]
  by_cases h : (!src.contains 37 && !src.contains 43) = true
  · simp only [h, if_true]
  · simp only [h]
    refine Eq.trans (dec_loop src true _ _ _ _ _ (fun _ _ => rfl) (fun _ _ => rfl) (fun _ _ => rfl) ?_
      (fun _ => rfl) (fun _ _ => rfl) (by simpa using hlen) _ dst (by simp [Go.fuelOf, Go.len])) rfl
    intro c dst i _; by_cases h43 : c = 43 <;> simp [h43]

theorem decodeArgAppendNoPlus_eq (dst src : Bytes) (hlen : src.length + 1 < 2^63) :
    Gen.Funcs.decodeArgAppendNoPlus dst src = .ok (dst ++ decodeArgNoPlus src) := by
  unfold Gen.Funcs.decodeArgAppendNoPlus decodeArgNoPlus
  rw [indexByte_neg]
  by_cases h : (!src.contains 37) = true
  · simp only [h, if_true]
  · simp only [h]
    refine Eq.trans (dec_loop src false _ _ _ _ _ (fun _ _ => rfl) (fun _ _ => rfl) (fun _ _ => rfl) ?_
      (fun _ => rfl) (fun _ _ => rfl) (by simpa using hlen) _ dst (by simp [Go.fuelOf, Go.len])) rfl
    intro c dst i _; simp

example : Gen.Funcs.decodeArgAppend [1] (str "a+b%41%4g%") = .ok (1 :: str "a bA%4g%") := by decide +kernel
example : Gen.Funcs.decodeArgAppend [1] (str "%zz%2") = .ok (1 :: str "%zz%2") := by decide +kernel
example : Gen.Funcs.decodeArgAppendNoPlus [1] (str "a+b%41%4g%") = .ok (1 :: str "a+bA%4g%") := by decide +kernel
example : Gen.Funcs.decodeArgAppendNoPlus [1] (str "a+b") = .ok (1 :: str "a+b") := by decide +kernel

end Hertz.Tie
