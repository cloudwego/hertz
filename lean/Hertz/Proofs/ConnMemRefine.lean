import Hertz.Proofs.ConnMemInv
/-!
The refinement "erasing the heap of the memory-level reader gives the list-level reader of `Model/Conn.lean`"
(`mem_refines_list_model`, see TODO-OPEN in `Props/C13.lean`) is not proved.  This file holds what exists towards it, none of it
used elsewhere: the length invariant of blocks `LInv` (not shown to be kept; `fillLoop_le_room`: what `fill` stores fits the
tail block) and "a frame-respecting step leaves the view of every chain node unchanged" (`view_of_frame`; `view_data_length`:
under `LInv` a node's view has `malloc` bytes).
-/
namespace Hertz.ConnMem
open Hertz Hertz.Conn

/-- block lengths: a block is as long as the capacity recorded for it, wherever it is -/
def LInv (m : Mem) (s : MReader) : Prop :=
  (∀ nd ∈ s.nodes, nd.base = 0 ∧ (m.heap.get nd.blk).length = nd.cap ∧ nd.malloc ≤ nd.cap) ∧
  (∀ c ∈ s.caches, (m.heap.get c.2.1).length = c.2.2) ∧
  (∀ e ∈ m.free, (m.heap.get e.1).length = e.2)

theorem fillLoop_le_room (w : Wire) (need room : Nat) : (fillLoop w need room).1.length ≤ room := by
  fun_induction fillLoop w need room <;> simp_all [prependBytes] <;> omega

theorem view_of_frame {m m' : Mem} {s s' : MReader} {L : List Nat} (hF : Frame m s L m' s') (nd : MNode) (hnd : nd ∈ s.nodes) :
    nd.view m'.heap = nd.view m.heap := by
  simp only [MNode.view]
  congr 1
  apply slice_congr
  intro k _ h2
  exact (hF.1 nd.blk k (Or.inl ⟨nd.core, List.mem_map_of_mem hnd, rfl, h2⟩)).2

theorem view_data_length (h : Heap) (nd : MNode) (hb : nd.base = 0) (hl : (h.get nd.blk).length = nd.cap) (hm : nd.malloc ≤ nd.cap) :
    (nd.view h).data.length = nd.malloc := by
  simp [MNode.view, slice_length, hb, hl]; omega

end Hertz.ConnMem
