import Hertz.Proofs.ReqRoundtripOws
/-!
Empty lines (CRLF) in front of a request line (RFC 7230 §3.5: a server SHOULD ignore at least one): `parseFirstLine`
skips any number of them, counting their bytes; the round trip (`Proofs/ReqAny.lean`) is proved with any number
of empty lines in front of every request.  (The strict decoder `Spec/Http.lean` does not accept them, so the per-case
check makes no claim about such streams; this is a statement about the server model only.)
-/
namespace Hertz.H1.RT
open Hertz Hertz.H1 Hertz.Gen.Str Hertz.Spec.Http

/-- `k` empty lines -/
def crlfs : Nat → Bytes
  | 0 => []
  | k + 1 => 13 :: 10 :: crlfs k

theorem crlfs_length : ∀ k, (crlfs k).length = 2 * k
  | 0 => rfl
  | k + 1 => by simp [crlfs, crlfs_length k]; omega

theorem drop_crlfs (n k : Nat) (X : Bytes) : List.drop (n + 2 * k) (crlfs k ++ X) = List.drop n X := by
  rw [Nat.add_comm, ← crlfs_length k, List.drop_length_add_append]

theorem nextLine_crlf_nil (X : Bytes) : nextLine (13 :: 10 :: X) = some ([], X) := by
  simp [nextLine, indexByte]

theorem parseFirstLineAux_skip (X : Bytes) : ∀ (k fuel c0 : Nat),
    parseFirstLineAux (fuel + k) (crlfs k ++ X) c0 = parseFirstLineAux fuel X (c0 + 2 * k)
  | 0, fuel, c0 => by simp [crlfs]
  | k + 1, fuel, c0 => by
    have ih := parseFirstLineAux_skip X k fuel (c0 + 2)
    rw [show fuel + (k + 1) = (fuel + k) + 1 by omega]
    simp only [crlfs, List.cons_append, parseFirstLineAux, nextLine_crlf_nil, List.isEmpty_nil, if_true,
      List.length_cons]
    rw [show c0 + ((crlfs k ++ X).length + 1 + 1 - (crlfs k ++ X).length) = c0 + 2 by omega, ih]
    congr 1; omega

theorem line_nonempty (c : UInt8) (T : Bytes) (h13 : c ≠ 13) :
    (if (c :: T).getLast? = some 13 then (c :: T).dropLast else c :: T).isEmpty = false := by
  cases T with
  | nil => simp [h13]
  | cons y t =>
    split
    · simp [List.dropLast]
    · simp

/-- a line that starts with neither CR nor LF is not empty: one step decides, whatever the fuel -/
theorem parseFirstLineAux_line (c : UInt8) (X : Bytes) (h13 : c ≠ 13) (h10 : c ≠ 10) (fuel c0 : Nat) :
    parseFirstLineAux (fuel + 1) (c :: X) c0 =
      match nextLine (c :: X) with
      | none => .error .needMore
      | some (line, rest) => .ok (line, c0 + ((c :: X).length - rest.length)) := by
  simp only [parseFirstLineAux]
  cases hn : nextLine (c :: X) with
  | none => rfl
  | some p =>
    obtain ⟨line, rest⟩ := p
    have hne : line.isEmpty = false := by
      unfold nextLine at hn
      cases hi : indexByte 10 (c :: X) with
      | none => simp [hi] at hn
      | some n =>
        simp only [hi, Option.some.injEq, Prod.mk.injEq] at hn
        obtain ⟨hl, _⟩ := hn
        cases n with
        | zero => simp [indexByte, h10] at hi
        | succ n =>
          rw [← hl]
          simp only [List.take_succ_cons]
          exact line_nonempty c (List.take n X) h13
    simp [hne]

theorem parseFirstLine_skip (k : Nat) (c : UInt8) (X : Bytes) (h13 : c ≠ 13) (h10 : c ≠ 10) :
    parseFirstLine (crlfs k ++ c :: X) =
      (match parseFirstLine (c :: X) with
       | .ok (hd, n) => .ok (hd, n + 2 * k)
       | .error x => .error x) := by
  unfold parseFirstLine
  have hlen : (crlfs k ++ c :: X).length + 1 = ((c :: X).length + k) + 1 + k := by
    simp [crlfs_length]; omega
  rw [hlen, parseFirstLineAux_skip (c :: X) k _ 0, parseFirstLineAux_line c X h13 h10,
    show (c :: X).length + 1 = (c :: X).length + 1 from rfl, parseFirstLineAux_line c X h13 h10]
  cases hn : nextLine (c :: X) with
  | none => rfl
  | some p =>
    obtain ⟨line, rest⟩ := p
    simp only [bind, Except.bind, Nat.zero_add]
    cases indexByte 32 line with
    | none => rfl
    | some n =>
      cases n with
      | zero => rfl
      | succ n =>
        simp only
        cases lastIndexByte 32 (List.drop (n + 1 + 1) line) with
        | none => simp; omega
        | some m =>
          cases m with
          | zero => rfl
          | succ m => simp; omega

theorem parseReqHead_skip (dn : Bool) (k : Nat) (c : UInt8) (X : Bytes) (h13 : c ≠ 13) (h10 : c ≠ 10) :
    parseReqHead dn (crlfs k ++ c :: X) =
      (match parseReqHead dn (c :: X) with
       | .ok (hd, n) => .ok (hd, n + 2 * k)
       | .error x => .error x) := by
  unfold parseReqHead
  rw [parseFirstLine_skip k c X h13 h10]
  cases hp : parseFirstLine (c :: X) with
  | error x => rfl
  | ok p =>
    obtain ⟨hd, m⟩ := p
    simp only [bind, Except.bind]
    rw [drop_crlfs]
    cases rawHeadersLen (List.drop m (c :: X)) with
    | none => rfl
    | some _ =>
      simp only
      cases parseHeaders dn hd (List.drop m (c :: X)) with
      | error x => rfl
      | ok q => obtain ⟨hd2, n⟩ := q; simp; omega

/-- The server loop ignores any number of empty lines in front of a request line (a buffer whose first byte after them
is neither CR nor LF; at least four bytes, which is what the loop waits for between requests). -/
theorem serveLoop_skip (cfg : Cfg) (e : End) (fuel : Nat) (first : Bool) (k : Nat) (c : UInt8) (X : Bytes)
    (h13 : c ≠ 13) (h10 : c ≠ 10) (hlen : 4 ≤ (c :: X).length) :
    serveLoop cfg e (fuel + 1) first (crlfs k ++ c :: X) = serveLoop cfg e (fuel + 1) first (c :: X) := by
  have hl1 : ¬ ((crlfs k ++ c :: X).length < 4) := by
    simp only [List.length_append]; omega
  have hl2 : ¬ ((c :: X).length < 4) := by omega
  simp only [serveLoop, hl1, hl2, Bool.and_false, Bool.false_eq_true, if_false, decide_false]
  rw [parseReqHead_skip cfg.disableNorm k c X h13 h10]
  cases hp : parseReqHead cfg.disableNorm (c :: X) with
  | error x =>
    cases x with
    | bad => rfl
    | needMore =>
      have : (crlfs k ++ c :: X).isEmpty = false := by simp
      simp [this]
  | ok p =>
    obtain ⟨hd, n⟩ := p
    simp only [drop_crlfs]

/-! ### pipelined requests, each preceded by any number of empty lines -/

def encAllB : List (Nat × OReq) → Bytes
  | [] => []
  | p :: t => crlfs p.1 ++ (encReqO p.2 ++ encAllB t)

theorem encReqO_head (r : OReq) (hm : isToken r.method = true) (rest : Bytes) :
    ∃ c X, encReqO r ++ rest = c :: X ∧ c ≠ 13 ∧ c ≠ 10 := by
  obtain ⟨hm0, hmf⟩ := token_facts r.method hm
  obtain ⟨a, m', hk⟩ := List.exists_cons_of_ne_nil hm0
  have ha := hmf a (by simp [hk])
  exact ⟨a, _, by simp [encReqO, encHeadOfO, encHeadO, hk]; rfl, ha.ne13, ha.ne10⟩

theorem encAllB_length_ge : ∀ rs : List (Nat × OReq), rs.length ≤ (encAllB rs).length
  | [] => by simp
  | p :: t => by
    have := encAllB_length_ge t
    have := encReqO_length_pos p.2
    simp [encAllB]; omega

/-- the strict decoder does not accept an empty line in front of a request line (so the per-case comparison makes no
claim about such streams) -/
theorem decodeAll_blank (X : Bytes) : decodeAll (13 :: 10 :: X) = none := by
  have h0 : crlfLine (13 :: 10 :: X) = some ([], X) := by simp [crlfLine]
  -- the request line is empty: there is no method to split off
  have h1 : decodeOne (13 :: 10 :: X) = none := by
    unfold decodeOne
    rw [h0]
    rfl
  simp [decodeAll, decodeAllAux, h1]

end Hertz.H1.RT
