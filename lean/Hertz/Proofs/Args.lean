import Hertz.Model.Args
import Hertz.Proofs.Bytesconv
import Hertz.Proofs.Cut
/-!
The query-string codec of `Hertz/Model/Args.lean` (`Args.ParseBytes`, `Args.AppendBytes`): parsing what
`appendArgs` wrote gives the entries back, apart from those with empty key and empty value
(`parseArgs_appendArgs`), for every list whose "no value" entries have an empty value (`ArgsInv`).
The splitting argument (`splitOn`, `joinSep`, `scan_joinSep`) is generic in the separator and the reader: the response and
request cookie proofs (`Proofs/CookieRt.lean`, `Proofs/ArgsProg.lean`) use it at `;`.
-/
namespace Hertz

/-- the args scanner's cut on a text whose first part has no separator: the first occurrence is where that part ends (`Cut`) -/
theorem cut1_none (sep : UInt8) (a : Bytes) (h : ∀ x ∈ a, x ≠ sep) : cut1 sep a = (a, none) := by
  rw [Uri.cut1_eq_indexOf, Uri.indexOf_none sep a h]

theorem cut1_some (sep : UInt8) (a b : Bytes) (h : ∀ x ∈ a, x ≠ sep) :
    cut1 sep (a ++ sep :: b) = (a, some b) := by
  rw [Uri.cut1_eq_indexOf, Uri.indexOf_append sep a b h]
  simp

/-! ### splitting at a separator

`argSegs` and `Uri.cookieSegs` are `splitOn` at `&` and at `;`.  A writer that joins segments free of the separator
(`joinSep`) is undone by it, except that an empty last segment is not seen (`splitOn_joinSep`); for a scanner that drops what it
reads from an empty segment this makes no difference (`scan_joinSep`). -/

/-- the pieces between occurrences of `sep`; nothing follows a trailing `sep` -/
def splitOn (sep : UInt8) : Bytes → List Bytes
  | [] => []
  | c :: t =>
    if c = sep then [] :: splitOn sep t
    else match splitOn sep t with
      | [] => [[c]]
      | s :: r => (c :: s) :: r

/-- the segments one after the other with `sep` between them -/
def joinSep (sep : UInt8) : List Bytes → Bytes
  | [] => []
  | [s] => s
  | s :: t => s ++ sep :: joinSep sep t

theorem argSegs_eq (b : Bytes) : argSegs b = splitOn 38 b := by
  induction b with
  | nil => rfl
  | cons c t ih => simp only [argSegs, splitOn, ih]; rfl

theorem joinSep_cons_cons (sep : UInt8) (s s2 : Bytes) (r : List Bytes) :
    joinSep sep (s :: s2 :: r) = s ++ sep :: joinSep sep (s2 :: r) := rfl

theorem splitOn_append (sep : UInt8) (s rest : Bytes) (h : ∀ x ∈ s, x ≠ sep) :
    splitOn sep (s ++ sep :: rest) = s :: splitOn sep rest := by
  induction s with
  | nil => simp [splitOn]
  | cons c t ih =>
    have hc : c ≠ sep := h c (by simp)
    simp [splitOn, hc, ih (fun x hx => h x (by simp [hx]))]

theorem splitOn_single (sep : UInt8) (s : Bytes) (h : ∀ x ∈ s, x ≠ sep) (hne : s ≠ []) : splitOn sep s = [s] := by
  induction s with
  | nil => exact absurd rfl hne
  | cons c t ih =>
    have hc : c ≠ sep := h c (by simp)
    cases t with
    | nil => simp [splitOn, hc]
    | cons d r => rw [splitOn, if_neg hc, ih (fun x hx => h x (by simp [hx])) (by simp)]

theorem splitOn_joinSep (sep : UInt8) : ∀ (l : List Bytes), (∀ s ∈ l, ∀ x ∈ s, x ≠ sep) →
    splitOn sep (joinSep sep l) = if l.getLast? = some [] then l.dropLast else l
  | [], _ => rfl
  | [s], h => by
    by_cases hs : s = []
    · subst hs; rfl
    · rw [joinSep, splitOn_single sep s (h s (by simp)) hs, if_neg (by simpa using hs)]
  | s :: s2 :: r, h => by
    rw [joinSep_cons_cons, splitOn_append sep s _ (h s (by simp)),
      splitOn_joinSep sep (s2 :: r) (fun t ht => h t (by simp [ht])), List.getLast?_cons_cons, List.dropLast_cons_cons]
    split <;> rfl

/-- the scanner's view of a joined text, for a reader `dec` whose result on the empty segment `keep` drops -/
theorem scan_joinSep {β : Type} (sep : UInt8) (dec : Bytes → β) (keep : β → Bool) (hnil : keep (dec []) = false)
    (l : List Bytes) (h : ∀ s ∈ l, ∀ x ∈ s, x ≠ sep) :
    ((splitOn sep (joinSep sep l)).map dec).filter keep = (l.map dec).filter keep := by
  rw [splitOn_joinSep sep l h]
  split
  · rename_i hl
    obtain ⟨ys, rfl⟩ := List.getLast?_eq_some_iff.1 hl
    simp [hnil]
  · rfl

theorem appendArgs_eq_join : ∀ l : List ArgKV, appendArgs l = joinSep 38 (l.map appendArg)
  | [] => rfl
  | [_] => rfl
  | kv :: k2 :: t => by
    show appendArg kv ++ 38 :: appendArgs (k2 :: t) = _
    rw [appendArgs_eq_join (k2 :: t)]; rfl

/-- an entry flagged "no value" has an empty value: `Args.AppendBytes` writes such an entry as its key alone, so a value
would be lost; every list the public mutators build has it (`runArgOps_inv`) -/
def ArgsInv (l : List ArgKV) : Prop := ∀ kv ∈ l, kv.noValue = true → kv.value = []

/-- the alphabet of `appendArg`: that of `quoteArg`, and `=` -/
theorem appendArg_all {P : UInt8 → Prop} (h : ∀ x, argPlain x = true ∨ x = 43 ∨ x = 37 → P x) (h61 : P 61) (kv : ArgKV) :
    ∀ x ∈ appendArg kv, P x := by
  unfold appendArg
  rw [List.forall_mem_append]
  refine ⟨quoteArg_all h _, ?_⟩
  split
  · exact fun x hx => nomatch hx
  · exact List.forall_mem_cons.2 ⟨h61, quoteArg_all h _⟩

/-- … and of `appendArgs`, which puts `&` between the entries -/
theorem appendArgs_all {P : UInt8 → Prop} (h : ∀ x, argPlain x = true ∨ x = 43 ∨ x = 37 → P x) (h61 : P 61) (h38 : P 38) :
    ∀ (l : List ArgKV), ∀ x ∈ appendArgs l, P x
  | [] => fun x hx => nomatch hx
  | [kv] => appendArg_all h h61 kv
  | kv :: k2 :: t => by
    show ∀ x ∈ appendArg kv ++ 38 :: appendArgs (k2 :: t), P x
    rw [List.forall_mem_append, List.forall_mem_cons]
    exact ⟨appendArg_all h h61 kv, h38, appendArgs_all h h61 h38 (k2 :: t)⟩

theorem appendArg_no_amp (kv : ArgKV) : ∀ x ∈ appendArg kv, x ≠ 38 :=
  appendArg_all (fun x hx => (quoted_no_special x hx).1) (by decide) kv

theorem parseSeg_appendArg (kv : ArgKV) (h : kv.noValue = true → kv.value = []) : parseSeg (appendArg kv) = kv := by
  have hk : ∀ x ∈ quoteArg kv.key, x ≠ 61 := fun x hx => (quoteArg_no_special _ x hx).2.1
  unfold parseSeg appendArg
  cases hn : kv.noValue with
  | true =>
    simp only [if_true, List.append_nil]
    rw [cut1_none 61 _ hk]
    simp only [decode_quoteArg]
    cases kv; simp_all
  | false =>
    simp only [Bool.false_eq_true, if_false]
    rw [cut1_some 61 _ _ hk]
    simp only [decode_quoteArg]
    cases kv; simp_all

theorem parseArgs_appendArgs (l : List ArgKV) (h : ArgsInv l) :
    parseArgs (appendArgs l) = l.filter (fun kv => !kv.bothEmpty) := by
  unfold parseArgs
  rw [argSegs_eq, appendArgs_eq_join,
    scan_joinSep 38 parseSeg _ (by decide) _ (by simpa using fun kv _ => appendArg_no_amp kv), List.map_map]
  congr 1
  exact (List.map_congr_left fun kv hkv => parseSeg_appendArg kv (h kv hkv)).trans (List.map_id' l)

theorem parseArgs_wf (s : Bytes) : ArgsInv (parseArgs s) := by
  intro kv hkv hn
  unfold parseArgs at hkv
  simp only [List.mem_filter, List.mem_map] at hkv
  obtain ⟨⟨seg, _, rfl⟩, _⟩ := hkv
  unfold parseSeg at hn ⊢
  split at hn <;> simp_all

theorem parseArgs_noBothEmpty (b : Bytes) : (parseArgs b).filter (fun kv => !kv.bothEmpty) = parseArgs b := by
  unfold parseArgs
  rw [List.filter_filter]
  congr 1
  funext kv
  simp

end Hertz
