import Hertz.Proofs.NoFaultCodec
import Hertz.Model.NoFaultPath
/-!
C03: the checked re-statements of `normalizePath` (its four loops terminate) and, on top of it, of the path / query /
fragment cut and `URI.parse` itself (`Model/NoFaultPath.lean`) never reach a fault, for every input.
-/
namespace Hertz.NF
open Hertz Hertz.Gen.Str

theorem indexSub_bounds (pat : Bytes) : ∀ b : Bytes,
    -1 ≤ indexSub pat b ∧ (0 ≤ indexSub pat b → indexSub pat b + len pat ≤ len b)
  | [] => by
    unfold indexSub
    by_cases h : pat.isEmpty = true
    · rw [if_pos h]
      have : pat = [] := List.isEmpty_iff.mp h
      subst this; exact ⟨by omega, fun _ => by simp [len]⟩
    · rw [if_neg h]; exact ⟨by omega, fun h => by omega⟩
  | c :: t => by
    have ih := indexSub_bounds pat t
    have hl := len_cons c t
    unfold indexSub
    by_cases h : pat.isPrefixOf (c :: t) = true
    · rw [if_pos h]
      have := isPrefixOf_len h
      exact ⟨by omega, fun _ => by omega⟩
    · rw [if_neg h]
      by_cases h2 : indexSub pat t < 0
      · rw [if_pos h2]; exact ⟨by omega, fun h => by omega⟩
      · rw [if_neg h2]; exact ⟨by omega, fun _ => by omega⟩

/-- a match found by `bytes.Index` lies inside `b` -/
theorem indexSub_le (pat b : Bytes) (h : ¬ indexSub pat b < 0) : indexSub pat b + len pat ≤ len b :=
  (indexSub_bounds pat b).2 (by omega)

theorem lastIndexByte_bounds (c : UInt8) (b : Bytes) : -1 ≤ lastIndexByte c b ∧ lastIndexByte c b < len b := by
  unfold lastIndexByte
  split
  · rename_i n hn
    have := indexOf_lt c b.reverse n hn
    rw [List.length_reverse] at this
    unfold len; omega
  · have := len_nonneg b; omega

theorem lastIndexSub_bounds (pat b : Bytes) :
    -1 ≤ lastIndexSub pat b ∧ (0 ≤ lastIndexSub pat b → lastIndexSub pat b + len pat ≤ len b) := by
  unfold lastIndexSub
  have h := indexSub_bounds pat.reverse b.reverse
  have e1 : len pat.reverse = len pat := by simp [len]
  have e2 : len b.reverse = len b := by simp [len]
  rw [e1, e2] at h
  by_cases h2 : indexSub pat.reverse b.reverse < 0
  · rw [if_pos h2]; exact ⟨by omega, fun h => by omega⟩
  · rw [if_neg h2]; exact ⟨by omega, fun _ => by omega⟩

theorem npSlashes_ok (cap : Int) : ∀ (f : Nat) (pre b : Bytes) (bSize : Int), b.length < f →
    bSize = len pre + len b → bSize ≤ cap → Ok (npSlashes cap f pre b bSize) fun _ => True
  | 0, _, _, _, h, _, _ => by omega
  | f + 1, pre, b, bSize, hf, hs, hc => by
    have hp := len_nonneg pre
    have hbn := len_nonneg b
    unfold npSlashes
    refine .ite (fun _ => .ite (fun _ => .pure trivial) fun h => absurd ⟨by omega, hc⟩ h) fun hn => ?_
    have hb : indexSub strSlashSlash b + 2 ≤ len b := indexSub_le _ b hn
    refine (slFrom_ok (by omega) (by omega)).bind fun w hw => (slFrom_ok (by omega) (by omega)).bind fun w1 hw1 =>
      (slTo_ok (by omega) (by omega)).bind fun _ _ => ?_
    have ht := len_take b (indexSub strSlashSlash b) (by omega) (by omega)
    exact npSlashes_ok cap f _ w1 (bSize - 1) (by unfold len at *; omega) (by rw [len_append, ht]; omega) (by omega)

/-- `b = append(b[:nn], b[n':]...)` as the two "remove" loops write it, `copy(b[nn:], b[n':])` and `b[:len(b)-n'+nn]`,
for `nn < n' ≤ len(b)`: all three slice expressions are in range and the buffer gets shorter -/
theorem cut_ok {β : Type} {b : Bytes} {nn n' : Int} {f : Bytes → Option β} {Q : β → Prop} (h0 : 0 ≤ nn) (h1 : nn < n')
    (h2 : n' ≤ len b) (hf : ∀ src, (b.take nn.toNat ++ src).length < b.length → Ok (f src) Q) :
    Ok ((slFrom b nn).bind fun _ => (slFrom b n').bind fun src => (slTo b (len b - n' + nn)).bind fun _ => f src) Q :=
  (slFrom_ok h0 (by omega)).bind fun _ _ => (slFrom_ok (by omega) h2).bind fun src hs =>
    (slTo_ok (by omega) (by omega)).bind fun _ _ => hf src (by
      have ht := len_take b nn h0 (by omega)
      have := len_append (List.take nn.toNat b) src
      unfold len at *
      omega)

theorem npDotSlash_ok : ∀ (f : Nat) (b : Bytes), b.length < f → Ok (npDotSlash f b) fun _ => True
  | 0, _, h => by omega
  | f + 1, b, hf => by
    have h3 : len strSlashDotSlash = 3 := rfl
    unfold npDotSlash
    refine .ite (fun _ => .pure trivial) fun hn => ?_
    have hb := indexSub_le _ b hn
    exact cut_ok (by omega) (by omega) (by omega) fun src hlt => npDotSlash_ok f _ (by omega)

theorem npDotDot_ok : ∀ (f : Nat) (b : Bytes), b.length < f → Ok (npDotDot f b) fun _ => True
  | 0, _, h => by omega
  | f + 1, b, hf => by
    have h4 : len strSlashDotDotSlash = 4 := rfl
    unfold npDotDot
    refine .ite (fun _ => .pure trivial) fun hn => ?_
    have hb := indexSub_le _ b hn
    refine (slTo_ok (by omega) (by omega)).bind fun head hh => ?_
    have hl := lastIndexByte_bounds 47 head
    have hnn : 0 ≤ (if lastIndexByte 47 head < 0 then 0 else lastIndexByte 47 head) ∧
        (if lastIndexByte 47 head < 0 then 0 else lastIndexByte 47 head) ≤ indexSub strSlashDotDotSlash b := by
      split <;> omega
    exact cut_ok hnn.1 (by omega) (by omega) fun src hlt => npDotDot_ok f _ (by omega)

theorem npTail_ok (b : Bytes) : Ok (npTail b) fun _ => True := by
  have h3 := len_nonneg strSlashDotDot
  unfold npTail
  refine .ite (fun h => (slTo_ok h.1 (by omega)).bind fun head hh => ?_) fun _ => .pure trivial
  have hl := lastIndexByte_bounds 47 head
  exact .ite (fun _ => .pure trivial) fun _ => (slTo_ok (by omega) (by omega)).mono fun _ _ => trivial

/-- `normalizePath` (leading slash, percent decoding, `//`, `/./`, `/../`, trailing `/..`) never indexes or slices
out of range and all its loops end, for every byte string. -/
theorem normalizePathC_ok (src : Bytes) : Ok (normalizePathC src) fun _ => True := by
  unfold normalizePathC
  refine Ok.bind (P := fun _ => True) (.ite (fun _ => .pure trivial) fun h =>
      (ix_ok (Int.le_refl 0) (by have := len_nonneg src; omega)).bind fun _ _ => .ite (fun _ => .pure trivial) fun _ => .pure trivial)
    fun lead _ => (decodeArg_ok false src).bind fun d _ => ?_
  exact (npSlashes_ok (len (lead ++ d)) ((lead ++ d).length + 1) [] (lead ++ d) (len (lead ++ d))
      (by omega) (by simp [len]) (Int.le_refl _)).bind fun b1 _ =>
    (npDotSlash_ok (b1.length + 1) b1 (by omega)).bind fun b2 _ =>
    (npDotDot_ok (b2.length + 1) b2 (by omega)).bind fun b3 _ => npTail_ok b3

/-- the cut never faults for indices with the properties `bytes.IndexByte` guarantees -/
theorem cutAt_ok (base : Uri.URI) (b : Bytes) (q fi : Int) (hq1 : q < len b) (hf1 : fi < len b)
    (hqf : q ≥ 0 → fi ≥ 0 → q < fi) : Ok (cutAt base b q fi) fun _ => True := by
  unfold cutAt
  exact .ite (fun _ => (normalizePathC_ok b).bind fun _ _ => .pure trivial) fun _ => .ite
    (fun hq0 => (slTo_ok hq0 (by omega)).bind fun po _ => (normalizePathC_ok po).bind fun _ _ => .ite
      (fun _ => (slFrom_ok (by omega) (by omega)).bind fun _ _ => .pure trivial)
      fun hf0 => (sl_ok (by omega) (by have := hqf hq0 (by omega); omega) (by omega)).bind fun _ _ =>
        (slFrom_ok (by omega) (by omega)).bind fun _ _ => .pure trivial)
    fun _ => (slTo_ok (by omega) (by omega)).bind fun po _ => (normalizePathC_ok po).bind fun _ _ =>
      (slFrom_ok (by omega) (by omega)).bind fun _ _ => .pure trivial

theorem ix_indexByte (c : UInt8) (b : Bytes) (h : 0 ≤ indexByte c b) : ix b (indexByte c b) = some c := by
  unfold indexByte at *
  split at h
  · rename_i n hn
    unfold ix
    have : ¬ ((n : Int) < 0) := by omega
    simp only [this, if_false, Int.toNat_natCast]
    exact H1.indexByte_get c b n (Uri.indexOf_eq ▸ hn)
  · omega

theorem cutPath_ok (base : Uri.URI) (b : Bytes) : Ok (cutPath base b) fun _ => True := by
  unfold cutPath
  dsimp only
  have hq1 := indexByte_lt 63 b
  have hf1 := indexByte_lt 35 b
  apply cutAt_ok
  · split <;> omega
  · exact hf1
  · intro hq hf
    split at hq
    · omega
    · rename_i hc
      rw [if_neg hc]
      -- the two indices hold different bytes
      have hne : indexByte 63 b ≠ indexByte 35 b := by
        intro he
        have h1 := ix_indexByte 63 b (by omega)
        have h2 := ix_indexByte 35 b hf
        rw [he, h2] at h1
        cases h1
      omega

/-- `URI.parse` (scheme/host split, user-info cut, query and fragment cut) never reaches a fault. -/
theorem parse_ok (host uri : Bytes) : Ok (parse host uri) fun _ => True := by
  unfold parse
  exact .ite (fun _ => .pure trivial) fun _ => Ok.bind (P := fun _ => True)
    (.ite (fun _ => (Ok.of_eq (splitHostURI_eq host uri)).bind fun _ _ => .pure trivial) fun _ => .pure trivial)
    fun r _ => (userInfo_ok r.2.1).bind fun a _ => cutPath_ok _ _

end Hertz.NF
