import Hertz.Proofs.Scanner
import Hertz.Model.Http1.ScanEdit
/-!
Prefix stability of the request side (C02).  The first line looks at what it consumes only; the header block is read
through `readBlock` (Model/Http1/ScanEdit), whose answers stand under appended bytes unless the scan stopped for want of
bytes (`readBlock_stable`; `readBlock_blank` behind the completeness pre-check of `req.parse`), and the header loops are
folds over that reading (`reqFold`, `trailerFold`).  Behind the pre-check `req.parse` keeps its answer on every
extension or goes from "need more" to a rejection (`parseReqHead_settled`): prefix stability and "need more is never
accepted later" are both read off that.  Then the body readers (a completed read and "too large" stand; a chunk-size line
cut short is `bad`, not "need more", so nothing is claimed of the other errors), the trailer section, `ContinueReadBody`
and the keep-alive loop (an extension keeps its trace up to a replaceable tail: `Keeps`).
-/
namespace Hertz.H1
open Hertz

theorem parseFirstLineAux_err (fuel : Nat) (b : Bytes) (c : Nat) (e : HeadErr)
    (h : parseFirstLineAux fuel b c = .error e) : e = .needMore := by
  fun_induction parseFirstLineAux fuel b c with
  | case1 | case2 => exact (Except.error.inj h).symm
  | case3 _ _ _ _ _ _ _ _ ih => exact ih h
  | case4 => cases h

/-- `utils.NextLine` looks at the line and its line feed only: these bytes `P` decide the answer, whatever follows -/
theorem nextLine_local (b line rest : Bytes) (h : nextLine b = some (line, rest)) :
    ∃ P, b = P ++ rest ∧ P ≠ [] ∧ ∀ Z, nextLine (P ++ Z) = some (line, Z) := by
  cases hi : indexByte 10 b with
  | none => simp [nextLine, hi] at h
  | some n =>
    obtain ⟨Q, R, rfl, hQ, rfl⟩ := indexByte_some 10 b n hi
    have key : ∀ Z, nextLine (Q ++ 10 :: Z) = some (if Q.getLast? = some 13 then Q.dropLast else Q, Z) := fun Z => by
      simp [nextLine, indexByte_skip 10 Q Z hQ]
    rw [key R] at h
    obtain ⟨rfl, rfl⟩ := Prod.mk.inj (Option.some.inj h)
    exact ⟨Q ++ [10], by simp, by simp, fun Z => by simpa using key Z⟩

/-- the line loop of `parseFirstLine` looks at the bytes it consumes only: they decide the answer whatever follows
them, with any larger fuel -/
theorem parseFirstLineAux_local (fuel : Nat) (b : Bytes) (c : Nat) (line : Bytes) (m : Nat)
    (h : parseFirstLineAux fuel b c = .ok (line, m)) :
    ∃ P R, b = P ++ R ∧ P ≠ [] ∧ m = c + P.length ∧
      ∀ fuel' Z, fuel ≤ fuel' → parseFirstLineAux fuel' (P ++ Z) c = .ok (line, m) := by
  fun_induction parseFirstLineAux fuel b c with
  | case1 | case2 => cases h
  | case3 fuel b c l rest hn c' he ih =>
    obtain ⟨P, rfl, hP, hloc⟩ := nextLine_local b l rest hn
    obtain ⟨P', R, rfl, _, rfl, ih⟩ := ih h
    refine ⟨P ++ P', R, by simp, by simp [hP], by simp [c']; omega, fun fuel' Z hf => ?_⟩
    obtain ⟨f, rfl⟩ : ∃ f, fuel' = f + 1 := ⟨fuel' - 1, by omega⟩
    rw [List.append_assoc, parseFirstLineAux, hloc]
    simp only [he, if_true]
    simpa [c'] using ih f Z (by omega)
  | case4 fuel b c l rest hn c' he =>
    obtain ⟨P, rfl, hP, hloc⟩ := nextLine_local b l rest hn
    obtain ⟨rfl, rfl⟩ := Prod.mk.inj (Except.ok.inj h)
    refine ⟨P, rest, rfl, hP, by simp [c'], fun fuel' Z hf => ?_⟩
    obtain ⟨f, rfl⟩ : ∃ f, fuel' = f + 1 := ⟨fuel' - 1, by omega⟩
    rw [parseFirstLineAux, hloc]
    simp [he, c']

theorem parseFirstLineAux_bounds (fuel : Nat) (b : Bytes) (c : Nat) (line : Bytes) (m : Nat)
    (h : parseFirstLineAux fuel b c = .ok (line, m)) : c < m ∧ m ≤ c + b.length := by
  obtain ⟨P, R, rfl, hP, rfl, _⟩ := parseFirstLineAux_local fuel b c line m h
  have := List.length_pos_iff.mpr hP
  simp only [List.length_append]
  omega

theorem firstLineThen_append {α : Type} (g : Bytes × Nat → Except HeadErr α) (b x : Bytes) (r : Except HeadErr α)
    (h : parseFirstLineAux (b.length + 1) b 0 >>= g = r) (hr : r ≠ .error .needMore) :
    parseFirstLineAux ((b ++ x).length + 1) (b ++ x) 0 >>= g = r := by
  cases ha : parseFirstLineAux (b.length + 1) b 0 with
  | error e =>
    cases parseFirstLineAux_err _ _ _ e ha
    rw [ha] at h
    exact absurd h.symm hr
  | ok p =>
    obtain ⟨P, R, rfl, _, _, hl⟩ := parseFirstLineAux_local _ _ 0 p.1 p.2 ha
    rw [List.append_assoc, hl _ (R ++ x) (by simp), ← ha]
    exact h

theorem parseFirstLine_append (b x : Bytes) (r : Except HeadErr (ReqHead × Nat))
    (h : parseFirstLine b = r) (hr : r ≠ .error .needMore) : parseFirstLine (b ++ x) = r :=
  firstLineThen_append _ b x r h hr

theorem bind_eq_ok {ε α β : Type} {x : Except ε α} {f : α → Except ε β} {b : β} (h : x >>= f = .ok b) :
    ∃ a, x = .ok a ∧ f a = .ok b := by
  cases x with
  | error e => cases h
  | ok a => exact ⟨a, rfl, h⟩

theorem parseFirstLine_le (b : Bytes) (hd : ReqHead) (m : Nat) (h : parseFirstLine b = .ok (hd, m)) :
    m ≤ b.length := by
  obtain ⟨⟨line, c⟩, ha, h⟩ := bind_eq_ok h
  have hle := (parseFirstLineAux_bounds _ _ _ _ _ ha).2
  simp only at h
  split at h
  · cases h
  · cases h
  · split at h
    · cases h; omega
    · cases h
    · cases h; omega

/-! ### the block reading, and the header loops as folds over it

`readBlock` is what `for s.Next() {…}` sees of a buffer: the fields and how the scan stopped.  The three header loops
(`req.parseHeaders`, `resp.parseHeaders`, `ext.parseTrailer`) are folds over it, so what is proved of readings holds of them. -/

namespace ScanEdit

theorem readBlock_stable (dn : Bool) (x : Bytes) : ∀ (f f' : Nat) (B : Bytes), f ≤ f' →
    (readBlock dn f B).2 ≠ .needMore → readBlock dn f' (B ++ x) = readBlock dn f B
  | 0, _, B, _, h => by simp [readBlock] at h
  | f + 1, f', B, hle, h => by
    obtain ⟨f'', rfl⟩ : ∃ f'', f' = f'' + 1 := ⟨f' - 1, by omega⟩
    have hne : scanNext dn B ≠ .needMore := by
      intro hn; simp [readBlock, hn] at h
    rcases scanNext_append_or_dry dn B hne with hst | ⟨k, v, rest, m, hk, hd⟩
    · cases hk : scanNext dn B with
      | needMore => exact absurd hk hne
      | fin n => simp [readBlock, hst x, hk, Scan.app]
      | invalidName => simp [readBlock, hst x, hk, Scan.app]
      | kv k v rest m =>
        have h2 : (readBlock dn f rest).2 ≠ .needMore := by
          intro hn; simp [readBlock, hk, hn] at h
        have ih := readBlock_stable dn x f f'' rest (by omega) h2
        simp [readBlock, hst x, hk, Scan.app, ih]
    · exfalso
      have hn := scanNext_no_lf dn rest hd
      cases f with
      | zero => simp [readBlock, hk] at h
      | succ f0 => simp [readBlock, hk, hn] at h

theorem readBlock_fin_le (dn : Bool) : ∀ (f : Nat) (B : Bytes) (h : Nat), (readBlock dn f B).2 = .fin h → h ≤ B.length
  | 0, _, _, e => by simp [readBlock] at e
  | f + 1, B, h, e => by
    cases hs : scanNext dn B with
    | fin n => simp only [readBlock, hs, Stop.fin.injEq] at e; exact e ▸ (scanNext_fin dn B n hs).2
    | needMore => simp [readBlock, hs] at e
    | invalidName => simp [readBlock, hs] at e
    | kv k v rest n =>
      have hl := (scanNext_rest dn B k v rest n hs).2.2.2
      simp only [readBlock, hs] at e
      cases hr : (readBlock dn f rest).2 with
      | fin h' =>
        have := readBlock_fin_le dn f rest h' hr
        simp only [hr, Stop.fin.injEq] at e
        omega
      | needMore => simp [hr] at e
      | invalidName => simp [hr] at e

/-- request side (the blank line is ahead): a reading that stopped for want of bytes keeps its fields on every
extension, and goes on wanting bytes or meets a line whose colon comes too late -/
theorem readBlock_blank (dn : Bool) (x : Bytes) : ∀ (f f' : Nat) (B : Bytes), B.length < f → f ≤ f' → HasBlank B →
    (readBlock dn f B).2 = .needMore →
    ∃ s, (s = .needMore ∨ s = .invalidName) ∧ readBlock dn f' (B ++ x) = ((readBlock dn f B).1, s)
  | 0, _, _, hf, _, _, _ => by omega
  | f + 1, f', B, hf, hle, hb, h => by
    obtain ⟨f'', rfl⟩ : ∃ f'', f' = f'' + 1 := ⟨f' - 1, by omega⟩
    cases hs : scanNext dn B with
    | fin n => simp [readBlock, hs] at h
    | invalidName => simp [readBlock, hs] at h
    | needMore =>
      rcases scanNext_needMore_append dn B x hb hs with h' | h'
      · exact ⟨_, Or.inl rfl, by simp [readBlock, hs, h']⟩
      · exact ⟨_, Or.inr rfl, by simp [readBlock, hs, h']⟩
    | kv k v rest n =>
      obtain ⟨_, hlen, hb', _⟩ := scanNext_rest dn B k v rest n hs
      have h2 : (readBlock dn f rest).2 = .needMore := by
        simp only [readBlock, hs] at h
        cases hr : (readBlock dn f rest).2 <;> simp [hr] at h ⊢
      obtain ⟨s, hs', e⟩ := readBlock_blank dn x f f'' rest (by omega) (by omega) (hb' hb) h2
      have hx : scanNext dn (B ++ x) = .kv k v (rest ++ x) n := by
        rw [scanNext_append dn B x hb (by rw [hs]; simp), hs]; rfl
      refine ⟨s, hs', ?_⟩
      simp only [readBlock, hs, hx, e]
      rcases hs' with rfl | rfl <;> rfl

end ScanEdit

open ScanEdit

/-- `req.parseHeaders`' loop as a function of the block reading: a field `applyHeader` rejects ends it at once, the
recorded error is looked at when the scan stops -/
def reqFold (dn : Bool) (st : HdrState) (hl : Nat) (r : List (Bytes × Bytes) × Stop) : Except HeadErr (HdrState × Nat) :=
  match r.1.foldlM (fun s kv => applyHeader dn s kv.1 kv.2) st with
  | none => .error .bad
  | some st' =>
    match r.2 with
    | .fin h => if st'.err then .error .bad else .ok (st', hl + h)
    | .needMore => if st'.err then .error .bad else .error .needMore
    | .invalidName => .error .bad

theorem parseHeadersLoop_eq_fold (dn : Bool) : ∀ (f : Nat) (X : Bytes) (st : HdrState) (hl : Nat), X.length < f →
    parseHeadersLoop dn f X st hl = reqFold dn st hl (readBlock dn f X)
  | 0, _, _, _, hf => by omega
  | f + 1, X, st, hl, hf => by
    cases hs : scanNext dn X with
    | fin n => simp [parseHeadersLoop, readBlock, reqFold, hs]
    | needMore => simp [parseHeadersLoop, readBlock, reqFold, hs]
    | invalidName => simp [parseHeadersLoop, readBlock, reqFold, hs]
    | kv k v rest n =>
      have hlen := (scanNext_rest dn X k v rest n hs).2.1
      simp only [parseHeadersLoop, readBlock, hs, reqFold, List.foldlM_cons]
      cases ha : applyHeader dn st k v with
      | none => rfl
      | some st' =>
        show parseHeadersLoop dn f rest st' (hl + n) = _
        rw [parseHeadersLoop_eq_fold dn f rest st' (hl + n) (by omega)]
        simp only [reqFold, bind, Option.bind]
        cases List.foldlM (fun s kv => applyHeader dn s kv.1 kv.2) st' (readBlock dn f rest).1 with
        | none => rfl
        | some s2 => cases (readBlock dn f rest).2 <;> simp [Nat.add_assoc]

/-- while the reading waits for bytes (or has met a late colon) the loop's answer is what it is on "need more", or that
was "need more" and has become a rejection -/
theorem reqFold_wait (dn : Bool) (st : HdrState) (hl : Nat) (fs : List (Bytes × Bytes)) (s : Stop)
    (hs : s = .needMore ∨ s = .invalidName) :
    reqFold dn st hl (fs, s) = reqFold dn st hl (fs, .needMore) ∨
      (reqFold dn st hl (fs, .needMore) = .error .needMore ∧ reqFold dn st hl (fs, s) = .error .bad) := by
  unfold reqFold
  cases List.foldlM (fun s kv => applyHeader dn s kv.1 kv.2) st fs with
  | none => exact Or.inl rfl
  | some s2 =>
    rcases hs with rfl | rfl
    · exact Or.inl rfl
    · cases he : s2.err
      · exact Or.inr ⟨by simp [he], rfl⟩
      · exact Or.inl (by simp [he])

/-- with the blank line ahead, appended bytes leave the answer of the loop as it is, or turn "need more" (a line without a
colon) into a rejection (the colon came, behind the line feed) -/
theorem parseHeadersLoop_settled (dn : Bool) (x B : Bytes) (st : HdrState) (hl : Nat) (hb : HasBlank B) :
    parseHeadersLoop dn ((B ++ x).length + 1) (B ++ x) st hl = parseHeadersLoop dn (B.length + 1) B st hl ∨
      (parseHeadersLoop dn (B.length + 1) B st hl = .error .needMore ∧
        parseHeadersLoop dn ((B ++ x).length + 1) (B ++ x) st hl = .error .bad) := by
  rw [parseHeadersLoop_eq_fold dn _ _ _ _ (by omega), parseHeadersLoop_eq_fold dn _ _ _ _ (by omega)]
  by_cases hn : (readBlock dn (B.length + 1) B).2 = .needMore
  · obtain ⟨s, hs, e⟩ := readBlock_blank dn x _ ((B ++ x).length + 1) B (by omega) (by simp) hb hn
    rw [e, show readBlock dn (B.length + 1) B = (_, .needMore) from Prod.ext rfl hn]
    exact reqFold_wait dn st hl _ s hs
  · exact Or.inl (by rw [readBlock_stable dn x _ _ B (by simp) hn])

theorem parseHeaders_settled (dn : Bool) (hd : ReqHead) (B x : Bytes) (hb : HasBlank B) :
    parseHeaders dn hd (B ++ x) = parseHeaders dn hd B ∨
      (parseHeaders dn hd B = .error .needMore ∧ parseHeaders dn hd (B ++ x) = .error .bad) := by
  unfold parseHeaders
  rcases parseHeadersLoop_settled dn x B { head := { hd with cl := -2 } } 0 hb with h | ⟨h, h'⟩
  · exact Or.inl (by rw [h])
  · exact Or.inr ⟨by rw [h]; rfl, by rw [h']; rfl⟩

/-- **Behind the completeness pre-check** appended bytes leave the answer of `req.parse` as it is, or turn "need more"
into a rejection. -/
theorem parseReqHead_settled (dn : Bool) (b x : Bytes) (hd0 : ReqHead) (m k : Nat)
    (h1 : parseFirstLine b = .ok (hd0, m)) (h2 : rawHeadersLen (b.drop m) = some k) :
    parseReqHead dn (b ++ x) = parseReqHead dn b ∨
      (parseReqHead dn b = .error .needMore ∧ parseReqHead dn (b ++ x) = .error .bad) := by
  unfold parseReqHead
  rw [parseFirstLine_append b x _ h1 (by simp), h1]
  simp only [bind, Except.bind]
  rw [List.drop_append_of_le_length (parseFirstLine_le b hd0 m h1), rawHeadersLen_append _ x k h2]
  simp only [h2]
  rcases parseHeaders_settled dn hd0 _ x (hasBlank_of_rawHeadersLen h2) with h | ⟨h, h'⟩
  · exact Or.inl (by rw [h])
  · exact Or.inr ⟨by rw [h], by rw [h']⟩

/-- **Prefix stability of `req.parse`.**  Whatever the parser answers on the bytes received so far —
a complete head or a rejection — it answers on every extension of those bytes, unless the answer was
"need more". -/
theorem parseReqHead_append (dn : Bool) (b x : Bytes) (r : Except HeadErr (ReqHead × Nat))
    (h : parseReqHead dn b = r) (hr : r ≠ .error .needMore) : parseReqHead dn (b ++ x) = r := by
  cases h1 : parseFirstLine b with
  | error e =>
    have hb : ∀ b, parseFirstLine b = .error e → parseReqHead dn b = .error e := fun b hb => by
      simp only [parseReqHead, hb]; rfl
    rw [hb b h1] at h
    rw [← h, hb _ (parseFirstLine_append b x _ h1 fun he => hr (h ▸ he))]
  | ok p =>
    cases h2 : rawHeadersLen (b.drop p.2) with
    | none =>
      simp only [parseReqHead, h1, bind, Except.bind, h2] at h
      exact absurd h.symm hr
    | some k =>
      rcases parseReqHead_settled dn b x p.1 p.2 k h1 h2 with h' | ⟨h', -⟩
      · exact h'.trans h
      · exact absurd (h.symm.trans h') hr

/-- "need more" behind the pre-check never turns into an accepted head -/
theorem parseReqHead_needMore_never_ok (dn : Bool) (b x : Bytes) (hd0 : ReqHead) (m k : Nat)
    (h1 : parseFirstLine b = .ok (hd0, m)) (h2 : rawHeadersLen (b.drop m) = some k)
    (h3 : parseReqHead dn b = .error .needMore) (hd : ReqHead) (n : Nat) :
    parseReqHead dn (b ++ x) ≠ .ok (hd, n) := by
  rcases parseReqHead_settled dn b x hd0 m k h1 h2 with h | ⟨-, h⟩ <;> rw [h]
  · rw [h3]; nofun
  · nofun

/-! ### the consumed count lies inside the received bytes -/

theorem parseHeadersLoop_le (dn : Bool) (B : Bytes) (st st' : HdrState) (hl n : Nat)
    (h : parseHeadersLoop dn (B.length + 1) B st hl = .ok (st', n)) : n ≤ hl + B.length := by
  rw [parseHeadersLoop_eq_fold dn _ _ _ _ (by omega)] at h
  unfold reqFold at h
  split at h
  · cases h
  · split at h
    · rename_i hh hfin
      have := readBlock_fin_le dn _ B hh hfin
      split at h
      · cases h
      · cases h; omega
    · split at h <;> cases h
    · cases h

theorem parseHeaders_le (dn : Bool) (hd hd' : ReqHead) (B : Bytes) (n : Nat)
    (h : parseHeaders dn hd B = .ok (hd', n)) : n ≤ B.length := by
  obtain ⟨⟨st, k⟩, hl, h⟩ := bind_eq_ok h
  have := parseHeadersLoop_le dn _ _ _ _ _ hl
  cases h
  omega

theorem parseReqHead_le (dn : Bool) (b : Bytes) (hd : ReqHead) (n : Nat)
    (h : parseReqHead dn b = .ok (hd, n)) : n ≤ b.length := by
  obtain ⟨⟨hd0, m⟩, hf, h⟩ := bind_eq_ok h
  have hm := parseFirstLine_le b hd0 m hf
  simp only at h
  split at h
  · cases h
  · obtain ⟨⟨hd1, k1⟩, hp, h⟩ := bind_eq_ok h
    have := parseHeaders_le dn hd0 hd1 _ k1 hp
    cases h
    simp only [List.length_drop] at this
    omega

/-! ### retrying with more bytes -/

/-- what the server does with the segments `segs` still to arrive: parse what is buffered; on "need
more" take the next segment into the buffer and parse again from the start -/
def retryParse (dn : Bool) : Bytes → List Bytes → Except HeadErr (ReqHead × Nat)
  | buf, [] => parseReqHead dn buf
  | buf, seg :: segs =>
    match parseReqHead dn buf with
    | .error .needMore => retryParse dn (buf ++ seg) segs
    | r => r

theorem retryParse_eq (dn : Bool) : ∀ (segs : List Bytes) (buf : Bytes),
    retryParse dn buf segs = parseReqHead dn (buf ++ segs.flatten)
  | [], buf => by simp [retryParse]
  | seg :: segs, buf => by
    unfold retryParse
    split
    · rw [retryParse_eq dn segs (buf ++ seg)]; simp
    · rename_i r hr
      simp only [List.flatten_cons]
      exact (parseReqHead_append dn buf _ _ rfl (fun h => hr h)).symm

/-! ### body readers: a completed read does not depend on the bytes after it -/

theorem takeN_append (e e' : End) (n : Nat) (s x b rest : Bytes) (h : takeN e n s = .ok (b, rest)) :
    takeN e' n (s ++ x) = .ok (b, rest ++ x) := by
  obtain ⟨hn, rfl, rfl⟩ := takeN_ok.mp h
  exact takeN_ok.mpr ⟨by simp; omega, (List.take_append_of_le_length hn).symm, (List.drop_append_of_le_length hn).symm⟩

theorem takeBody_append (e e' : End) (n : Nat) (s x b rest : Bytes) (h : takeBody e n s = .ok (b, rest)) :
    takeBody e' n (s ++ x) = .ok (b, rest ++ x) :=
  takeBody_ok.mpr (takeN_ok.mp (takeN_append e e' n s x b rest (takeN_ok.mpr (takeBody_ok.mp h))))

theorem readHexIntAux_append (e e' : End) (x : Bytes) (v : Nat) (c : UInt8) (r : Bytes) :
    ∀ (s : Bytes) (n i : Nat),
    readHexIntAux e n i s = .ok (v, c :: r) → readHexIntAux e' n i (s ++ x) = .ok (v, c :: r ++ x) := by
  intro s n i h
  fun_induction readHexIntAux e n i s with
  | case1 | case2 | case3 | case5 => simp at h
  | case4 n i d t k hk hi =>
    obtain ⟨rfl, rfl, rfl⟩ : n = v ∧ d = c ∧ t = r := by simpa using h
    rw [List.cons_append, readHexIntAux]
    simp only [k, hk, hi, if_true, if_false]
  | case6 n i d t k hk hi ih =>
    rw [List.cons_append, readHexIntAux]
    simp only [k, hk, hi, if_false] at ih ⊢
    exact ih h

theorem chunkSizeTail_append (e e' : End) (x s rest : Bytes) (h : chunkSizeTail e s = .ok rest) :
    chunkSizeTail e' (s ++ x) = .ok (rest ++ x) := by
  fun_induction chunkSizeTail e s with
  | case1 | case3 | case5 | case6 => cases h
  | case2 t ih => simpa [chunkSizeTail] using ih h
  | case4 t' => cases h; simp [chunkSizeTail]

/-- `utils.ParseChunkSize`: a chunk-size line that was read completely is read the same way whatever
follows and however the stream ends -/
theorem parseChunkSize_append (e e' : End) (s x : Bytes) (n : Nat) (rest : Bytes)
    (h : parseChunkSize e s = .ok (n, rest)) : parseChunkSize e' (s ++ x) = .ok (n, rest ++ x) := by
  revert h
  fun_cases parseChunkSize e s <;> intro h <;> cases h
  case case4 r hh ht =>
    -- the digits ended at a byte that is there: what is appended comes behind it
    match r, ht with
    | c :: r0, ht =>
      unfold parseChunkSize
      rw [show readHexInt e' (s ++ x) = .ok (n, c :: r0 ++ x) from readHexIntAux_append e e' x n c r0 s 0 0 hh]
      simp only [chunkSizeTail_append e e' x _ _ ht]

/-- a verdict of `readBodyChunked` that the end of the stream cannot have caused — a body read to its last chunk, or
"too large" — is the verdict on every extension, however the stream ends, and with any larger fuel -/
theorem readBodyChunked_stable (e e' : End) (mb : Nat) (x : Bytes) : ∀ (fuel fuel' : Nat) (dst s : Bytes)
    (r : Except RdErr (Bytes × Bytes)), readBodyChunked e mb fuel dst s = r →
    (∀ err, r = .error err → err = .tooLarge) → fuel ≤ fuel' →
    readBodyChunked e' mb fuel' dst (s ++ x) = r.map (fun p => (p.1, p.2 ++ x))
  | 0, _, _, _, _, h, hr, _ => by cases hr _ h.symm
  | _ + 1, 0, _, _, _, _, _, hf => by omega
  | fuel + 1, fuel' + 1, dst, s, r, h, hr, hf => by
    unfold readBodyChunked at h ⊢
    cases hp : parseChunkSize e s with
    | error err =>
      rw [hp] at h
      cases hr err h.symm
      exact absurd rfl (wireErr_ne (parseChunkSize_err hp)).1
    | ok p =>
      obtain ⟨size, r1⟩ := p
      rw [parseChunkSize_append e e' s x size r1 hp]
      rw [hp] at h
      simp only [bind, Except.bind] at h ⊢
      by_cases h0 : size = 0
      · rw [if_pos h0] at h ⊢; subst h; rfl
      · rw [if_neg h0] at h ⊢
        by_cases hl : mb > 0 ∧ dst.length + size > mb
        · rw [if_pos hl] at h ⊢; subst h; rfl
        · rw [if_neg hl] at h ⊢
          cases ht : takeBody e (size + 2) r1 with
          | error err =>
            rw [ht] at h
            cases hr err h.symm
            exact absurd rfl (wireErr_ne (.inr (takeBody_err ht))).1
          | ok q =>
            obtain ⟨chunk, r2⟩ := q
            rw [takeBody_append e e' (size + 2) r1 x chunk r2 ht]
            rw [ht] at h
            simp only at h ⊢
            by_cases hc : chunk.drop size ≠ Gen.Str.strCRLF
            · rw [if_pos hc] at h; cases hr _ h.symm
            · rw [if_neg hc] at h ⊢
              exact readBodyChunked_stable e e' mb x fuel fuel' _ r2 r h hr (by omega)

theorem readBodyChunked_append (e e' : End) (mb : Nat) (x : Bytes) (fuel fuel' : Nat) (dst s body rest : Bytes)
    (h : readBodyChunked e mb fuel dst s = .ok (body, rest)) (hf : fuel ≤ fuel') :
    readBodyChunked e' mb fuel' dst (s ++ x) = .ok (body, rest ++ x) :=
  readBodyChunked_stable e e' mb x fuel fuel' dst s _ h (fun _ he => nomatch he) hf

theorem readBodyChunked_tooLarge_append (e e' : End) (mb : Nat) (x : Bytes) (fuel fuel' : Nat) (dst s : Bytes)
    (h : readBodyChunked e mb fuel dst s = .error .tooLarge) (hf : fuel ≤ fuel') :
    readBodyChunked e' mb fuel' dst (s ++ x) = .error .tooLarge :=
  readBodyChunked_stable e e' mb x fuel fuel' dst s _ h (fun _ he => (Except.error.inj he).symm) hf

/-- what `parseTrailer` does with one scanned field: the declared names so far, and its `err` -/
def trailerStep (acc : List (Bytes × Option Bytes) × Bool) (kv : Bytes × Bytes) : List (Bytes × Option Bytes) × Bool :=
  if kv.1.isEmpty then acc
  else if kv.1.contains 32 || kv.1.contains 9 then (acc.1, true)
  else if isBadTrailer kv.1 then (acc.1, true)
  else (updateTrailer acc.1 kv.1 kv.2, false)

/-- `ext.parseTrailer`'s loop as a function of the block reading -/
def trailerFold (tr : List (Bytes × Option Bytes)) (err : Bool) (hl : Nat) (r : List (Bytes × Bytes) × ScanEdit.Stop) :
    Except TrErr (List (Bytes × Option Bytes) × Nat) :=
  match r.2 with
  | .fin h => if (r.1.foldl trailerStep (tr, err)).2 then .error .bad else .ok ((r.1.foldl trailerStep (tr, err)).1, hl + h)
  | .needMore => .error .needMore
  | .invalidName => .error .bad

theorem parseTrailerLoop_eq_fold (dn : Bool) : ∀ (f : Nat) (B : Bytes) (tr : List (Bytes × Option Bytes)) (err : Bool) (hl : Nat),
    parseTrailerLoop dn f B tr err hl = trailerFold tr err hl (ScanEdit.readBlock dn f B)
  | 0, B, tr, err, hl => by simp [parseTrailerLoop, ScanEdit.readBlock, trailerFold]
  | f + 1, B, tr, err, hl => by
    cases hs : scanNext dn B with
    | fin n => simp [parseTrailerLoop, ScanEdit.readBlock, trailerFold, hs]
    | needMore => simp [parseTrailerLoop, ScanEdit.readBlock, trailerFold, hs]
    | invalidName => simp [parseTrailerLoop, ScanEdit.readBlock, trailerFold, hs]
    | kv k v rest n =>
      -- the loop goes on with what `trailerStep` makes of the field
      have step : parseTrailerLoop dn (f + 1) B tr err hl =
          parseTrailerLoop dn f rest (trailerStep (tr, err) (k, v)).1 (trailerStep (tr, err) (k, v)).2 (hl + n) := by
        rw [parseTrailerLoop, hs, trailerStep]
        by_cases h1 : k.isEmpty = true
        · simp only [if_pos h1]
        · by_cases h2 : (k.contains 32 || k.contains 9) = true
          · simp only [if_neg h1, if_pos h2]
          · by_cases h3 : isBadTrailer k = true
            · simp only [if_neg h1, if_neg h2, if_pos h3]
            · simp only [if_neg h1, if_neg h2, if_neg h3]
      rw [step, parseTrailerLoop_eq_fold dn f rest]
      simp only [ScanEdit.readBlock, hs, trailerFold, List.foldl_cons]
      cases (ScanEdit.readBlock dn f rest).2 <;> simp [Nat.add_assoc]

theorem parseTrailerLoop_append (dn : Bool) (x : Bytes) (fuel fuel' : Nat) (B : Bytes)
    (tr : List (Bytes × Option Bytes)) (err : Bool) (hl : Nat) (p : List (Bytes × Option Bytes) × Nat)
    (h : parseTrailerLoop dn fuel B tr err hl = .ok p) (hf : fuel ≤ fuel') :
    parseTrailerLoop dn fuel' (B ++ x) tr err hl = .ok p ∧ p.2 ≤ hl + B.length := by
  rw [parseTrailerLoop_eq_fold] at h ⊢
  cases hs : (readBlock dn fuel B).2 with
  | needMore => simp [trailerFold, hs] at h
  | invalidName => simp [trailerFold, hs] at h
  | fin n =>
    rw [readBlock_stable dn x fuel fuel' B hf (by rw [hs]; simp)]
    refine ⟨h, ?_⟩
    have := readBlock_fin_le dn fuel B n hs
    simp only [trailerFold, hs] at h
    split at h
    · cases h
    · cases h; simp; omega

/-! ### `ext.parseTrailer`, by the three ways a buffer can begin -/

/-- neither of `parseTrailer`'s tests for a repeated `0\r\n` line fires: the buffer does not begin with `0`, or is long
enough to tell and goes on otherwise -/
def NoZeroLine (buf : Bytes) : Prop := ∀ rest, buf = 48 :: rest → ¬ buf.length < 3 ∧ ¬ rest.take 2 = Gen.Str.strCRLF

theorem trailer_begin (buf : Bytes) :
    ((∃ r, buf = 48 :: r) ∧ buf.length < 3) ∨ (∃ S, buf = 48 :: 13 :: 10 :: S) ∨ NoZeroLine buf := by
  by_cases h1 : (∃ r, buf = 48 :: r) ∧ buf.length < 3
  · exact Or.inl h1
  by_cases h2 : ∃ S, buf = 48 :: 13 :: 10 :: S
  · exact Or.inr (Or.inl h2)
  refine Or.inr (Or.inr fun rest e => ⟨fun hl => h1 ⟨⟨rest, e⟩, hl⟩, fun hcr => h2 ?_⟩)
  match rest, hcr with
  | a :: b :: S, hcr =>
    obtain ⟨rfl, rfl⟩ : a = 13 ∧ b = 10 := by simpa [Gen.Str.strCRLF] using hcr
    exact ⟨S, e⟩

theorem NoZeroLine.append {buf : Bytes} (h : NoZeroLine buf) (hne : buf ≠ []) (x : Bytes) : NoZeroLine (buf ++ x) := by
  obtain ⟨c, t, rfl⟩ := List.exists_cons_of_ne_nil hne
  intro rest e
  rw [List.cons_append] at e
  obtain ⟨rfl, rfl⟩ := List.cons.inj e
  obtain ⟨h1, h2⟩ := h t rfl
  have ht : 2 ≤ t.length := by simp only [List.length_cons] at h1; omega
  exact ⟨by simp only [List.length_cons, List.length_append]; omega, by rwa [List.take_append_of_le_length ht]⟩

theorem parseTrailer_short (dn : Bool) (tr : List (Bytes × Option Bytes)) (buf : Bytes)
    (h : (∃ r, buf = 48 :: r) ∧ buf.length < 3) : parseTrailer dn tr buf = .error .needMore := by
  obtain ⟨⟨r, rfl⟩, hl⟩ := h
  simp only [parseTrailer, hl, if_true]

theorem parseTrailer_crlf (dn : Bool) (tr : List (Bytes × Option Bytes)) (S : Bytes) :
    parseTrailer dn tr (48 :: 13 :: 10 :: S) =
      match parseTrailerLoop dn (S.length + 4) S tr false 0 with
      | .ok (t, n) => .ok (t, n + 3)
      | .error x => .error x := by
  have h1 : ¬ ((48 :: 13 :: 10 :: S : Bytes).length < 3) := by simp
  have h3 : (13 :: 10 :: S : Bytes).take 2 = Gen.Str.strCRLF := rfl
  simp only [parseTrailer, if_neg h1, if_pos h3]
  rfl

theorem parseTrailer_plain (dn : Bool) (tr : List (Bytes × Option Bytes)) (buf : Bytes) (h : NoZeroLine buf) :
    parseTrailer dn tr buf = parseTrailerLoop dn (buf.length + 1) buf tr false 0 := by
  unfold parseTrailer
  split
  · rw [if_neg (h _ rfl).1, if_neg (h _ rfl).2]
  · rfl

/-- a section that begins with a field line does not begin with a `0\r\n` line, whatever follows the line: behind a
leading `0` comes the colon, or a second byte of the name and then a byte that is no line feed -/
theorem noZeroLine_field (name raw T : Bytes) (hn : ∀ x ∈ name, x ≠ 10 ∧ x ≠ 58) :
    NoZeroLine (name ++ 58 :: (raw ++ 10 :: T)) := by
  intro rest e
  refine ⟨?_, fun hcr => ?_⟩
  · match name, e with
    | _ :: _, _ => simp only [List.cons_append, List.length_cons, List.length_append]; omega
  · match name, hn, e with
    | [_], _, e => rw [← (List.cons.inj e).2] at hcr; cases hcr
    | [_, _], _, e => rw [← (List.cons.inj e).2] at hcr; cases hcr
    | _ :: _ :: c :: _, hn, e =>
      rw [← (List.cons.inj e).2] at hcr
      exact (hn c (by simp)).1 (List.cons.inj (List.cons.inj hcr).2).1

theorem FieldAt.noZeroLine {B name raw C rest : Bytes} (F : FieldAt B name raw C rest) : NoZeroLine B :=
  F.eq ▸ noZeroLine_field name raw (C ++ rest) F.name

theorem parseTrailer_append (dn : Bool) (tr : List (Bytes × Option Bytes)) (buf x : Bytes)
    (p : List (Bytes × Option Bytes) × Nat) (h : parseTrailer dn tr buf = .ok p) :
    parseTrailer dn tr (buf ++ x) = .ok p ∧ p.2 ≤ buf.length := by
  rcases trailer_begin buf with hs | ⟨S, rfl⟩ | hp
  · rw [parseTrailer_short dn tr buf hs] at h; cases h
  · rw [parseTrailer_crlf] at h
    rw [show 48 :: 13 :: 10 :: S ++ x = 48 :: 13 :: 10 :: (S ++ x) from rfl, parseTrailer_crlf]
    cases hq : parseTrailerLoop dn (S.length + 4) S tr false 0 with
    | error e => rw [hq] at h; cases h
    | ok q =>
      obtain ⟨h1, h2⟩ := parseTrailerLoop_append dn x _ ((S ++ x).length + 4) S tr false 0 q hq (by simp)
      rw [hq] at h
      rw [h1]
      cases h
      exact ⟨rfl, by simp at h2 ⊢; omega⟩
  · rw [parseTrailer_plain dn tr buf hp] at h
    have hne : buf ≠ [] := by
      rintro rfl; simp [parseTrailerLoop, scanNext_nil] at h
    rw [parseTrailer_plain dn tr _ (hp.append hne x)]
    obtain ⟨h1, h2⟩ := parseTrailerLoop_append dn x _ ((buf ++ x).length + 1) _ tr false 0 p h (by simp)
    exact ⟨h1, by omega⟩

/-- `ext.ReadTrailer` as used for requests: if it completes while the stream merely stalls afterwards, it
completes the same way on every extension and under either way the stream can end -/
theorem readTrailerReq_append (cfg : Cfg) (e : End) (names : List Bytes) (s x : Bytes)
    (tr : Option (List (Bytes × Bytes))) (rest : Bytes)
    (h : readTrailerReq cfg .stall names s = .ok (tr, rest)) :
    readTrailerReq cfg e names (s ++ x) = .ok (tr, rest ++ x) := by
  unfold readTrailerReq at h ⊢
  simp only at h ⊢
  cases s with
  | nil => simp at h
  | cons c t =>
    simp only [List.isEmpty_cons, Bool.false_eq_true, if_false, List.cons_append] at h ⊢
    cases hp : parseTrailer cfg.disableNorm (names.map (fun k => (k, none))) (c :: t) with
    | error err => rw [hp] at h; cases err <;> simp at h
    | ok p =>
      obtain ⟨h1, h2⟩ := parseTrailer_append cfg.disableNorm _ (c :: t) x p hp
      rw [List.cons_append] at h1
      rw [h1]
      rw [hp] at h
      simp only [Except.ok.injEq, Prod.mk.injEq] at h ⊢
      refine ⟨h.1, ?_⟩
      rw [← h.2, ← List.cons_append, List.drop_append_of_le_length h2]

/-- **`req.ContinueReadBody`**: if the body (fixed length, chunked with trailers, or none) is read
completely from `s` when the stream merely stalls after `s`, then on every extension `s ++ x`, and under
either way the stream can end, the same head, body and trailers are delivered and exactly `x` more is left. -/
theorem continueReadBody_append (cfg : Cfg) (e : End) (hd : ReqHead) (s x : Bytes)
    (hd' : ReqHead) (body : Bytes) (tr : List (Bytes × Bytes)) (rest : Bytes)
    (h : continueReadBody cfg .stall hd s = .ok hd' body tr rest) :
    continueReadBody cfg e hd (s ++ x) = .ok hd' body tr (rest ++ x) := by
  revert h
  -- by the cases of the definition: the head alone decides which readers are called, and a reader that fails gives no `ok`
  fun_cases continueReadBody cfg .stall hd s <;> intro h <;> cases h <;> unfold continueReadBody
  case case3 c1 _ c2 c3 ht => rw [if_pos c1, if_neg c2, if_neg c3, takeN_append .stall e _ s x _ _ ht]
  case case5 c1 c2 => rw [if_neg c1, if_pos c2]
  case case8 c1 c2 c3 _ hb hr | case9 c1 c2 c3 _ hb hr =>
    rw [if_neg c1, if_neg c2, if_pos c3, readBodyChunked_append .stall e _ x _ _ [] s _ _ hb (by simp)]
    simp only [readTrailerReq_append cfg e hd.trailer _ x _ _ hr]
  case case10 c1 c2 c3 => rw [if_neg c1, if_neg c2, if_neg c3]

/-! ### the keep-alive loop: what has been emitted is not undone by later bytes -/

/-- the only thing at the end of a trace that later bytes may replace: nothing, the hand-over marker, or
one closing error response -/
def TailOK (t : List Ev) : Prop := t = [] ∨ t = [.unmodelled] ∨ ∃ st, st ≠ 200 ∧ t = [.resp st true]

theorem serveLoop_of_head (cfg : Cfg) (e : End) (fuel : Nat) (first : Bool) (s : Bytes) (hd : ReqHead) (n : Nat)
    (hg : (!first && decide (s.length < 4)) = false) (hp : parseReqHead cfg.disableNorm s = .ok (hd, n)) :
    serveLoop cfg e (fuel + 1) first s = (if mayContinue hd then [Ev.continue100] else []) ++
      match continueReadBody cfg e hd (s.drop n) with
      | .err .unmodelled => [.unmodelled]
      | .err x =>
        (match errStatus x with
         | some st => [.resp st true]
         | none => if mayContinue hd then [.resp 400 true] else [])
      | .ok hd' body tr rest =>
        [.req { head := hd', body := body, trailers := tr }, .resp 200 (cfg.disableKeepalive || hd'.connClose)] ++
          (if (cfg.disableKeepalive || hd'.connClose) then [] else serveLoop cfg e fuel false rest) := by
  simp only [serveLoop, hg, Bool.false_eq_true, if_false, hp]
  cases continueReadBody cfg e hd (List.drop n s) with
  | err x => cases x <;> rfl
  | ok hd' body tr rest => exact List.append_assoc _ _ _

/-- `b` keeps the events of `a`, except possibly a tail of `a` that later bytes may replace -/
def Keeps (a b : List Ev) : Prop := ∃ pre tail more, a = pre ++ tail ∧ TailOK tail ∧ b = pre ++ more

theorem Keeps.tail {t b : List Ev} (h : TailOK t) : Keeps t b := ⟨[], t, b, rfl, h, rfl⟩

theorem Keeps.append (p : List Ev) {a b : List Ev} (h : Keeps a b) : Keeps (p ++ a) (p ++ b) := by
  obtain ⟨pre, tail, more, rfl, h, rfl⟩ := h
  exact ⟨p ++ pre, tail, more, (List.append_assoc ..).symm, h, (List.append_assoc ..).symm⟩

theorem serveLoop_extension (cfg : Cfg) (e : End) (x : Bytes) : ∀ (fuel fuel' : Nat) (first : Bool) (s : Bytes),
    fuel ≤ fuel' → Keeps (serveLoop cfg .stall fuel first s) (serveLoop cfg e fuel' first (s ++ x))
  | 0, _, _, _, _ => .tail (Or.inl rfl)
  | _ + 1, 0, _, _, hf => by omega
  | fuel + 1, fuel' + 1, first, s, hf => by
    cases hg : (!first && decide (s.length < 4)) with
    | true =>
      rw [show serveLoop cfg .stall (fuel + 1) first s = [] by simp only [serveLoop, hg]; rfl]
      exact .tail (Or.inl rfl)
    | false =>
      have hg' : (!first && decide ((s ++ x).length < 4)) = false := by
        cases first <;> simp at hg ⊢; omega
      cases hp : parseReqHead cfg.disableNorm s with
      | error err =>
        refine .tail ?_
        cases err with
        | bad =>
          refine Or.inr (Or.inr ⟨400, by decide, ?_⟩)
          simp only [serveLoop, hg, hp, Bool.false_eq_true, if_false]
        | needMore =>
          refine Or.inr (Or.inr ⟨408, by decide, ?_⟩)
          simp only [serveLoop, hg, hp, Bool.false_eq_true, if_false, ite_self]
      | ok q =>
        obtain ⟨hd, n⟩ := q
        rw [serveLoop_of_head cfg .stall fuel first s hd n hg hp, serveLoop_of_head cfg e fuel' first (s ++ x) hd n hg'
          (parseReqHead_append cfg.disableNorm s x _ hp (by simp)),
          List.drop_append_of_le_length (parseReqHead_le cfg.disableNorm s hd n hp)]
        refine .append _ ?_
        cases hb : continueReadBody cfg .stall hd (s.drop n) with
        | err err =>
          -- what the failed body read adds is the replaceable tail
          refine .tail ?_
          cases err with
          | unmodelled => exact Or.inr (Or.inl rfl)
          | eof =>
            cases mayContinue hd
            · exact Or.inl rfl
            · exact Or.inr (Or.inr ⟨400, by decide, rfl⟩)
          | timeout => exact Or.inr (Or.inr ⟨408, by decide, rfl⟩)
          | hzTimeout | unexpectedEOF | bad => exact Or.inr (Or.inr ⟨400, by decide, rfl⟩)
          | tooLarge => exact Or.inr (Or.inr ⟨413, by decide, rfl⟩)
        | ok hd' body tr rest =>
          rw [continueReadBody_append cfg e hd (s.drop n) x hd' body tr rest hb]
          refine .append _ ?_
          cases hc : (cfg.disableKeepalive || hd'.connClose) with
          | true => exact .tail (Or.inl rfl)
          | false => exact serveLoop_extension cfg e x fuel fuel' false rest (by omega)

end Hertz.H1
