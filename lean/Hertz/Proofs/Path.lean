import Hertz.Model.Path
/-!
Byte-level facts about the passes of `normalizePath` (`Hertz/Model/Path.lean`): the patterns `//`, `/./`, `/../`, `/..`
and the normal form `Good` they define; what `splitDDS` finds (the leftmost `/../`); that the `/../` loop (`loopDDS`)
with `length` fuel stops because no `/../` is left; that each pass is the identity where its pattern does not occur.
That `normalizePath` only returns `Good` paths follows from its equality with `Spec.normalize`
(`Hertz/Proofs/PathRef.lean`).
-/
namespace Hertz

abbrev DDS : Bytes := [47, 46, 46, 47]   -- "/../"
abbrev SDD : Bytes := [47, 46, 46]       -- "/.."
abbrev SS : Bytes := [47, 47]            -- "//"
abbrev SDS : Bytes := [47, 46, 47]       -- "/./"

/-- the normal form of `normalizePath`, on bytes: leading slash; no `//`, `/./`, `/../` inside; no trailing `/..` -/
def Good (q : Bytes) : Prop :=
  q.head? = some 47 ∧ ¬ SS <:+: q ∧ ¬ SDS <:+: q ∧ ¬ DDS <:+: q ∧ ¬ SDD <:+ q

theorem not_infix_of_length_lt {a b : Bytes} (h : b.length < a.length) : ¬ a <:+: b :=
  fun hi => Nat.not_le.mpr h hi.length_le

/-- `splitDDS` reads a byte in one of two ways: `/../` starts here, or the search goes on behind it -/
theorem splitDDS_here (r : Bytes) : splitDDS (47 :: 46 :: 46 :: 47 :: r) = some ([], 47 :: r) := by
  simp [splitDDS]

theorem splitDDS_cons (c : UInt8) (t : Bytes) (h : ¬ DDS <+: c :: t) :
    splitDDS (c :: t) = (splitDDS t).map (fun pr => (c :: pr.1, pr.2)) := by
  match t with
  | [] => simp [splitDDS]
  | [_] => simp [splitDDS]
  | [_, _] => simp [splitDDS]
  | d :: e :: f :: t' =>
    simp only [splitDDS]
    rw [if_neg]
    rintro ⟨rfl, rfl, rfl, rfl⟩
    exact h ⟨t', rfl⟩

theorem splitDDS_some : ∀ (b p r : Bytes), splitDDS b = some (p, r) →
    b = p ++ 47 :: 46 :: 46 :: r ∧ r.head? = some 47
  | [], _, _, h => by simp [splitDDS] at h
  | c :: t, p, r, h => by
    by_cases hp : DDS <+: c :: t
    · obtain ⟨r', e⟩ := hp
      rw [← e] at h ⊢
      cases (splitDDS_here r').symm.trans h
      exact ⟨rfl, rfl⟩
    · rw [splitDDS_cons c t hp] at h
      obtain ⟨⟨p', r'⟩, hs, e⟩ := Option.map_eq_some_iff.mp h
      cases e
      obtain ⟨e1, e2⟩ := splitDDS_some t p' r' hs
      exact ⟨by rw [e1]; rfl, e2⟩

/-- the hypothesis speaks of `p ++ "/.."`: an earlier `/../` may end inside the one found (`/../../`) -/
theorem splitDDS_leftmost : ∀ (p r : Bytes), ¬ DDS <:+: p ++ [47, 46, 46] →
    splitDDS (p ++ 47 :: 46 :: 46 :: 47 :: r) = some (p, 47 :: r)
  | [], r, _ => splitDDS_here r
  | c :: p', r, h => by
    rw [List.cons_append, splitDDS_cons, splitDDS_leftmost p' r (fun hi => h (List.infix_cons hi))]
    · rfl
    · intro h1
      have h2 : (c :: p' ++ [47, 46, 46]) <+: c :: (p' ++ 47 :: 46 :: 46 :: 47 :: r) := ⟨47 :: r, by simp⟩
      exact h (List.prefix_of_prefix_length_le h1 h2 (by simp)).isInfix

theorem splitDDS_infix {b p r : Bytes} (h : splitDDS b = some (p, r)) : DDS <:+: b := by
  obtain ⟨e, hr⟩ := splitDDS_some b p r h
  cases r with
  | nil => cases hr
  | cons x r' =>
    cases (Option.some.inj hr : x = 47)
    exact ⟨p, r', by rw [e]; simp⟩

theorem splitDDS_none : ∀ {b : Bytes}, splitDDS b = none → ¬ DDS <:+: b
  | [], _ => not_infix_of_length_lt (by simp)
  | c :: t, h => fun hi => by
    by_cases hp : DDS <+: c :: t
    · obtain ⟨r', e⟩ := hp
      rw [← e] at h
      cases (splitDDS_here r').symm.trans h
    · rw [splitDDS_cons c t hp, Option.map_eq_none_iff] at h
      exact (List.infix_cons_iff.mp hi).elim hp (splitDDS_none h)

theorem beforeLastSlash_prefix (p : Bytes) : beforeLastSlash p <+: p := by
  unfold beforeLastSlash
  rw [← List.reverse_suffix, List.reverse_reverse]
  exact (List.drop_suffix _ _).trans (List.dropWhile_suffix _)

theorem stepDDS_length {b b' : Bytes} (h : stepDDS b = some b') : b'.length < b.length := by
  unfold stepDDS at h
  cases hs : splitDDS b with
  | none => simp [hs] at h
  | some pr =>
    obtain ⟨p, r⟩ := pr
    simp only [hs, Option.map_some, Option.some.injEq] at h
    obtain ⟨e1, _⟩ := splitDDS_some _ _ _ hs
    have := (beforeLastSlash_prefix p).length_le
    subst h
    rw [e1]
    simp
    omega

/-- with `length` fuel the third loop ends because no `/../` is left, not because fuel ran out -/
theorem loopDDS_fixed (fuel : Nat) (b : Bytes) (h : b.length ≤ fuel) : stepDDS (loopDDS fuel b) = none := by
  fun_induction loopDDS fuel b with
  | case1 b => cases List.eq_nil_of_length_eq_zero (Nat.le_zero.mp h); rfl
  | case2 f b hs => exact hs
  | case3 f b b' hs ih => exact ih (Nat.le_of_lt_succ (Nat.lt_of_lt_of_le (stepDDS_length hs) h))

theorem loopDDS_fuel (fuel : Nat) (b : Bytes) (h : b.length ≤ fuel) : ¬ DDS <:+: loopDDS fuel b :=
  splitDDS_none (by simpa [stepDDS] using loopDDS_fixed fuel b h)

/-! ### every pass is the identity on a path that has none of its pattern (for the URI round trip, `UriRt`) -/

theorem not_infix_tail {p : Bytes} {c : UInt8} {t : Bytes} (h : ¬ p <:+: c :: t) : ¬ p <:+: t :=
  fun hi => h (List.infix_cons hi)

theorem collapseSlashes_id (b : Bytes) (h : ¬ SS <:+: b) : collapseSlashes b = b := by
  fun_induction collapseSlashes b with
  | case1 | case2 => rfl
  | case3 c d t hm => exact absurd ⟨[], t, by rw [hm.1, hm.2]; rfl⟩ h
  | case4 c d t _ ih => rw [ih (not_infix_tail h)]

theorem cutDotSlash_id (b : Bytes) (h : ¬ SDS <:+: b) : cutDotSlash b = b := by
  fun_induction cutDotSlash b with
  | case1 c d e t hm => exact absurd ⟨[], t, by rw [hm.1, hm.2.1, hm.2.2]; rfl⟩ h
  | case2 c d e t _ ih => rw [ih (not_infix_tail h)]
  | case3 => rfl

theorem splitDDS_none_of {b : Bytes} (h : ¬ DDS <:+: b) : splitDDS b = none := by
  cases hs : splitDDS b with
  | none => rfl
  | some pr => exact absurd (splitDDS_infix hs) h

theorem loopDDS_id (fuel : Nat) (b : Bytes) (h : ¬ DDS <:+: b) : loopDDS fuel b = b := by
  cases fuel with
  | zero => rfl
  | succ f => simp [loopDDS, stepDDS, splitDDS_none_of h]

theorem cutTrailingDD_id (b : Bytes) (h : ¬ SDD <:+ b) : cutTrailingDD b = b := by
  unfold cutTrailingDD
  split
  · rename_i revBefore hrev
    exfalso; apply h
    refine ⟨revBefore.reverse, ?_⟩
    have : b = (46 :: 46 :: 47 :: revBefore).reverse := by rw [← hrev, List.reverse_reverse]
    rw [this]; simp
  · rfl

end Hertz
