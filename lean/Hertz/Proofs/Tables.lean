import Hertz.Model.Bytesconv
/-!
The byte tables of `internal/bytesconv` (`Hertz.Gen.Tables`) in closed form.

A fact about a table is checked by walking the table once (`tableAll`), not by 256 separate look-ups: `t[i]` on an
array literal costs the kernel a pass over the literal, so `allBytes (fun c => … tget t c …)` is quadratic in the table.
Each table gets one closed form here; a fact about several look-ups is then a fact about arithmetic on one byte, which
`allBytes` decides cheaply after rewriting with the closed forms.
-/
namespace Hertz

/-- `p k v` for every entry `v` of the list, `k` its position counted from `i`, in one pass -/
def tableAll (p : UInt8 → UInt8 → Bool) : List UInt8 → Nat → Bool
  | [], _ => true
  | v :: t, i => p i.toUInt8 v && tableAll p t (i + 1)

theorem tableAll_get {p : UInt8 → UInt8 → Bool} : ∀ (l : List UInt8) (i : Nat), tableAll p l i = true →
    ∀ (j : Nat) (h : j < l.length), p (i + j).toUInt8 l[j] = true
  | [], _, _, _, h => absurd h (Nat.not_lt_zero _)
  | v :: t, i, hp, j, h => by
    simp only [tableAll, Bool.and_eq_true] at hp
    cases j with
    | zero => exact hp.1
    | succ j =>
      have := tableAll_get t (i + 1) hp.2 j (Nat.lt_of_succ_lt_succ h)
      rwa [Nat.add_assoc, Nat.add_comm 1 j] at this

theorem tget_of_tableAll {p : UInt8 → UInt8 → Bool} {t : Array UInt8} (hs : t.size = 256)
    (h : tableAll p t.toList 0 = true) (c : UInt8) : p c (tget t c) = true := by
  have hc : c.toNat < t.size := hs ▸ c.toNat_lt
  have := tableAll_get t.toList 0 h c.toNat (by simpa using hc)
  simpa [tget, getElem!_pos t c.toNat hc] using this

theorem forall_byte {P : UInt8 → Prop} [DecidablePred P] (h : allBytes (fun c => decide (P c)) = true) (c : UInt8) : P c :=
  of_decide_eq_true (allBytes_spec h c)

/-! ### closed forms -/

theorem hex2int_eq (c : UInt8) : hex2int c =
    if 48 ≤ c ∧ c ≤ 57 then c - 48 else if 65 ≤ c ∧ c ≤ 70 then c - 55 else if 97 ≤ c ∧ c ≤ 102 then c - 87 else 16 :=
  eq_of_beq (tget_of_tableAll (p := fun c v => v ==
    if 48 ≤ c ∧ c ≤ 57 then c - 48 else if 65 ≤ c ∧ c ≤ 70 then c - 55 else if 97 ≤ c ∧ c ≤ 102 then c - 87 else 16)
    (by decide +kernel) (by decide +kernel) c)

theorem hex2int_cr : hex2int 13 = 16 := by rw [hex2int_eq]; decide
theorem hex2int_sp : hex2int 32 = 16 := by rw [hex2int_eq]; decide

theorem toLower_eq_arith (c : UInt8) : toLower c = if 65 ≤ c ∧ c ≤ 90 then c + 32 else c :=
  eq_of_beq (tget_of_tableAll (p := fun c v => v == if 65 ≤ c ∧ c ≤ 90 then c + 32 else c)
    (by decide +kernel) (by decide +kernel) c)

theorem toUpper_eq_arith (c : UInt8) : toUpper c = if 97 ≤ c ∧ c ≤ 122 then c - 32 else c :=
  eq_of_beq (tget_of_tableAll (p := fun c v => v == if 97 ≤ c ∧ c ≤ 122 then c - 32 else c)
    (by decide +kernel) (by decide +kernel) c)

theorem toLower_toUpper (c : UInt8) : toLower (toUpper c) = toLower c := by
  simp only [toLower_eq_arith, toUpper_eq_arith]
  revert c; exact forall_byte (by decide +kernel)

theorem toUpper_toLower (c : UInt8) : toUpper (toLower c) = toUpper c := by
  simp only [toLower_eq_arith, toUpper_eq_arith]
  revert c; exact forall_byte (by decide +kernel)

theorem toLower_toLower (c : UInt8) : toLower (toLower c) = toLower c := by
  simp only [toLower_eq_arith]
  revert c; exact forall_byte (by decide +kernel)

theorem toUpper_toUpper (c : UInt8) : toUpper (toUpper c) = toUpper c := by
  simp only [toUpper_eq_arith]
  revert c; exact forall_byte (by decide +kernel)

/-- case mapping leaves a byte alone or makes a letter of it -/
theorem toUpper_eq_or_letter (x : UInt8) : toUpper x = x ∨ 65 ≤ toUpper x := by
  simp only [toUpper_eq_arith]
  revert x; exact forall_byte (by decide +kernel)

theorem toLower_eq_or_letter (x : UInt8) : toLower x = x ∨ 65 ≤ toLower x := by
  simp only [toLower_eq_arith]
  revert x; exact forall_byte (by decide +kernel)

/-- … so it makes no control character, dash or colon out of another byte -/
theorem case_keeps (c x : UInt8) (hc : c < 65) : (toUpper x = c → x = c) ∧ (toLower x = c → x = c) := by
  constructor
  · intro he
    rcases toUpper_eq_or_letter x with h | h
    · exact h.symm.trans he
    · rw [he] at h; exact absurd hc (UInt8.not_lt.mpr h)
  · intro he
    rcases toLower_eq_or_letter x with h | h
    · exact h.symm.trans he
    · rw [he] at h; exact absurd hc (UInt8.not_lt.mpr h)

/-- unreserved characters of `AppendQuotedArg`: ALPHA / DIGIT / `-` `.` `_` `~` -/
def argPlain (c : UInt8) : Bool :=
  (48 ≤ c && c ≤ 57) || (65 ≤ c && c ≤ 90) || (97 ≤ c && c ≤ 122) || c == 45 || c == 46 || c == 95 || c == 126

theorem argShouldEscape_eq (c : UInt8) : argShouldEscape c = !argPlain c :=
  eq_of_beq (tget_of_tableAll (p := fun c v => (v != 0) == !argPlain c) (by decide +kernel) (by decide +kernel) c)

/-- characters `AppendQuotedPath` leaves alone: ALPHA / DIGIT / `$ & + , - . / : ; = @ _ ~` -/
def pathPlain (c : UInt8) : Bool :=
  (43 ≤ c && c ≤ 59) || (64 ≤ c && c ≤ 90) || (97 ≤ c && c ≤ 122) || c == 36 || c == 38 || c == 61 || c == 95 || c == 126

theorem pathShouldEscape_eq (c : UInt8) : pathShouldEscape c = !pathPlain c :=
  eq_of_beq (tget_of_tableAll (p := fun c v => (v != 0) == !pathPlain c) (by decide +kernel) (by decide +kernel) c)

theorem newlineToSpaceTable_eq (c : UInt8) : tget Gen.newlineToSpaceTable c = if c = 10 ∨ c = 13 then 32 else c :=
  eq_of_beq (tget_of_tableAll (p := fun c v => v == if c = 10 ∨ c = 13 then 32 else c)
    (by decide +kernel) (by decide +kernel) c)

/-- `validHeaderFieldValueTable`: HTAB and everything from SP on except DEL -/
theorem validHeaderFieldValueTable_eq (c : UInt8) :
    (tget Gen.validHeaderFieldValueTable c != 0) = (c == 9 || (32 ≤ c && c != 127)) :=
  eq_of_beq (tget_of_tableAll (p := fun c v => (v != 0) == (c == 9 || (32 ≤ c && c != 127)))
    (by decide +kernel) (by decide +kernel) c)

/-- the `tchar`s of RFC 7230: visible ASCII without the delimiters `"(),/:;<=>?@[\]{}` -/
def nameChar (c : UInt8) : Bool :=
  33 ≤ c && c ≤ 126 && c != 34 && c != 40 && c != 41 && c != 44 && c != 47 && !(58 ≤ c && c ≤ 64) &&
    !(91 ≤ c && c ≤ 93) && c != 123 && c != 125

theorem validHeaderFieldNameTable_eq (c : UInt8) : (tget Gen.validHeaderFieldNameTable c != 0) = nameChar c :=
  eq_of_beq (tget_of_tableAll (p := fun c v => (v != 0) == nameChar c) (by decide +kernel) (by decide +kernel) c)

/-- cookie-octets: visible ASCII and SP without `"`, `;`, `\` -/
theorem validCookieValueTable_eq (c : UInt8) :
    (tget Gen.validCookieValueTable c != 0) = (32 ≤ c && c ≤ 126 && c != 34 && c != 59 && c != 92) :=
  eq_of_beq (tget_of_tableAll (p := fun c v => (v != 0) == (32 ≤ c && c ≤ 126 && c != 34 && c != 59 && c != 92))
    (by decide +kernel) (by decide +kernel) c)

/-- the hex digit of a nibble; both uses (`c >>> 4`, `c &&& 15`) stay below 16 -/
theorem upperhex_eq (n : UInt8) (h : n < 16) : upperhex n = if n < 10 then 48 + n else 55 + n := by
  have := allBytes_spec (p := fun n => !decide (n < 16) || upperhex n == if n < 10 then 48 + n else 55 + n)
    (by decide +kernel) n
  simpa [h] using this

end Hertz
