import Hertz.Model.HeaderApi
import Hertz.Proofs.HeaderWrite
import Hertz.Proofs.Args
/-!
The header mutators as programs (`Model/HeaderApi.lean`).  What one API call does to the stored fields is said once
(`Eff`, `stepReq_step`, `stepResp_step`: drop entries, then set or append at most one under a key of the call); where the
field names of a reachable state come from, how many fields there are and who touches the request line are read off it.
Then the request line and the request target: no SP, CR, LF (`Clean3`).
-/
namespace Hertz.HA
open Hertz Hertz.Gen.Str Hertz.HW

def AllKeys (P : Bytes → Prop) (l : List KV) : Prop := ∀ kv ∈ l, P kv.1

theorem allKeys_nil {P : Bytes → Prop} : AllKeys P [] := by intro kv h; cases h

theorem normalizeKey_mem (dn : Bool) (k : Bytes) : H1.normalizeKey dn k ∈ [k, H1.normalizeKey false k] := by
  cases dn <;> simp [H1.normalizeKey]

theorem foldl_inv {σ γ : Type} {step : σ → γ → σ} {Inv : σ → Prop} {ok : γ → Prop}
    (hstep : ∀ s c, ok c → Inv s → Inv (step s c)) :
    ∀ (q : List γ) (s : σ), (∀ c ∈ q, ok c) → Inv s → Inv (q.foldl step s)
  | [], _, _, hs => hs
  | c :: t, s, hq, hs =>
    foldl_inv hstep t _ (fun c' hc' => hq c' (List.mem_cons_of_mem _ hc')) (hstep s c (hq c List.mem_cons_self) hs)

theorem foldl_measure {σ γ : Type} {step : σ → γ → σ} (m : σ → Nat) (hstep : ∀ s c, m (step s c) ≤ m s + 1) :
    ∀ (q : List γ) (s : σ), m (q.foldl step s) ≤ m s + q.length
  | [], _ => Nat.le_refl _
  | c :: t, s => by
    have h1 := foldl_measure m hstep t (step s c)
    have h2 := hstep s c
    simp only [List.foldl_cons, List.length_cons]
    omega

theorem setArg_length (k v : Bytes) : ∀ (h : List KV), (setArg h k v).length ≤ h.length + 1
  | [] => by simp [setArg]
  | (k', v') :: t => by
    unfold setArg
    split
    · simp
    · have := setArg_length k v t
      simp only [List.length_cons]; omega

theorem appendArg_length (h : List KV) (k v : Bytes) : (appendArg h k v).length = h.length + 1 := by simp [appendArg]

/-- What one call may do to a list of fields: drop entries, then set or append at most one entry, under a key in `K`. -/
structure Eff (K : Bytes → Prop) (h h' : List KV) : Prop where
  mem : ∀ kv ∈ h', kv ∈ h ∨ K kv.1
  len : h'.length ≤ h.length + 1

theorem Eff.sub {K : Bytes → Prop} {h m : List KV} (hm : m.Sublist h) : Eff K h m :=
  ⟨fun _ hkv => .inl (hm.subset hkv), Nat.le_succ_of_le hm.length_le⟩

theorem mem_setArg : ∀ {h : List KV} {k v : Bytes} {kv : KV}, kv ∈ setArg h k v → kv ∈ h ∨ kv.1 = k
  | [], k, v, kv, hm => by simp only [setArg, List.mem_singleton] at hm; exact .inr (hm ▸ rfl)
  | (k', v') :: t, k, v, kv, hm => by
    unfold setArg at hm
    split at hm
    · next e =>
      rcases List.mem_cons.mp hm with rfl | hm
      · exact .inr e
      · exact .inl (List.mem_cons_of_mem _ hm)
    · rcases List.mem_cons.mp hm with rfl | hm
      · exact .inl List.mem_cons_self
      · exact (mem_setArg hm).imp_left (List.mem_cons_of_mem _)

theorem Eff.set {K : Bytes → Prop} {h m : List KV} {k : Bytes} (hm : m.Sublist h) (hk : K k) (v : Bytes) :
    Eff K h (setArg m k v) :=
  ⟨fun _ hkv => (mem_setArg hkv).elim (fun h1 => .inl (hm.subset h1)) (fun e => .inr (by rw [e]; exact hk)),
   Nat.le_trans (setArg_length k v m) (Nat.succ_le_succ hm.length_le)⟩

theorem Eff.app {K : Bytes → Prop} {h : List KV} {k : Bytes} (hk : K k) (v : Bytes) : Eff K h (appendArg h k v) :=
  ⟨fun kv hkv => (List.mem_append.mp hkv).imp_right (fun e => by rw [List.mem_singleton.mp e]; exact hk),
   Nat.le_of_eq (appendArg_length h k v)⟩

theorem Eff.keys {K P : Bytes → Prop} {h h' : List KV} (e : Eff K h h') (hK : ∀ k, K k → P k) (hh : AllKeys P h) :
    AllKeys P h' :=
  fun kv hkv => (e.mem kv hkv).elim (hh kv) (hK _)

theorem collectCookies_sub (s : ReqSt) : s.collectCookies.h.Sublist s.h := by
  unfold ReqSt.collectCookies
  split
  · exact .refl _
  · exact List.filter_sublist

theorem resetConnClose_sub (s : ReqSt) : s.resetConnClose.h.Sublist s.h := by
  unfold ReqSt.resetConnClose
  split
  · exact List.filter_sublist
  · exact .refl _

theorem collectCookies_line (s : ReqSt) : s.collectCookies.method = s.method ∧ s.collectCookies.uri = s.uri := by
  unfold ReqSt.collectCookies; split <;> exact ⟨rfl, rfl⟩

theorem resetConnClose_line (s : ReqSt) : s.resetConnClose.method = s.method ∧ s.resetConnClose.uri = s.uri := by
  unfold ReqSt.resetConnClose; split <;> exact ⟨rfl, rfl⟩

theorem del_line (s : ReqSt) (k : Bytes) : (s.del k).method = s.method ∧ (s.del k).uri = s.uri := by
  simp only [ReqSt.del, apply_ite ReqSt.method, apply_ite ReqSt.uri, ite_self, and_self]

/-- `setSpecialHeader` leaves `h` alone, deletes `Transfer-Encoding` from it, sets `key` in it after `ResetConnectionClose`,
or takes the cookies out of it, and touches method and URI in no other way: what holds in these four cases holds of
the new state.  (Read off the answer with `getD`, push `Q` to the leaves of the decision tree; equal leaves then merge.) -/
theorem setSpecial_h {Q : List KV → Bytes → Bytes → Prop} {s s' : ReqSt} {key v : Bytes} (h : s.setSpecial key v = some s')
    (q0 : Q s.h s.method s.uri) (q1 : Q (delAll s.h strTransferEncoding) s.method s.uri)
    (q2 : Q (setArg s.resetConnClose.h key v) s.resetConnClose.method s.resetConnClose.uri)
    (q3 : Q s.collectCookies.h s.collectCookies.method s.collectCookies.uri) : Q s'.h s'.method s'.uri := by
  have e : s' = (s.setSpecial key v).getD s := by rw [h]; rfl
  subst e
  cases key with
  | nil => exact q0
  | cons k0 t =>
    cases hp : parseContentLength v <;>
    simp only [ReqSt.setSpecial, hp, apply_ite (Option.getD · s), Option.getD_some, Option.getD_none,
      apply_ite (fun x : ReqSt => Q x.h x.method x.uri), q0, q1, q2, q3, ite_self]

theorem del_h (s : ReqSt) (k : Bytes) : (s.del k).h = delAll s.h k := by
  simp only [ReqSt.del, apply_ite ReqSt.h, ite_self]

/-- what the call `c` does to the generic fields `h`, the method `m` and the request URI `u` -/
structure LStep (K : Bytes → Prop) (c : ReqCall) (h : List KV) (m u : Bytes) (h' : List KV) (m' u' : Bytes) : Prop where
  h : Eff K h h'
  method : m' = m ∨ c = .setMethod m'
  uri : u' = u ∨ c = .setRequestURI u'

abbrev Step (K : Bytes → Prop) (c : ReqCall) (s s' : ReqSt) : Prop := LStep K c s.h s.method s.uri s'.h s'.method s'.uri

theorem LStep.keep {K : Bytes → Prop} {c : ReqCall} {h h' : List KV} {m u : Bytes} (e : Eff K h h') : LStep K c h m u h' m u :=
  ⟨e, .inl rfl, .inl rfl⟩

theorem Step.keep {K : Bytes → Prop} {c : ReqCall} {s s' : ReqSt} (e : Eff K s.h s'.h)
    (hl : s'.method = s.method ∧ s'.uri = s.uri) : Step K c s s' := ⟨e, .inl hl.1, .inl hl.2⟩

theorem setSpecial_step {K : Bytes → Prop} {c : ReqCall} {s s' : ReqSt} {key v : Bytes} (hk : K key)
    (h : s.setSpecial key v = some s') : Step K c s s' := by
  refine setSpecial_h (Q := LStep K c s.h s.method s.uri) h (.keep (.sub (.refl _))) (.keep (.sub List.filter_sublist)) ?_ ?_
  · rw [(resetConnClose_line s).1, (resetConnClose_line s).2]; exact .keep (.set (resetConnClose_sub s) hk v)
  · rw [(collectCookies_line s).1, (collectCookies_line s).2]; exact .keep (.sub (collectCookies_sub s))

theorem setCanonical_step {K : Bytes → Prop} {c : ReqCall} (s : ReqSt) {k : Bytes} (v : Bytes) (hk : K k) :
    Step K c s (s.setCanonical k v) := by
  unfold ReqSt.setCanonical
  split
  · next s' h => exact setSpecial_step hk h
  · exact .keep (.set (.refl _) hk v) ⟨rfl, rfl⟩

/-- Every call drops generic fields, then sets or appends at most one, under a key the call passed or `Transfer-Encoding`;
only `SetMethod` / `SetRequestURI` touch the method / the request URI. -/
theorem stepReq_step (s : ReqSt) (c : ReqCall) :
    Step (fun n => n = strTransferEncoding ∨ n ∈ reqCallKeys c) c s (stepReq s c) := by
  cases c with
  | set k v => exact setCanonical_step s v (.inr (normalizeKey_mem _ k))
  | add k v =>
    simp only [stepReq]
    split
    · next s' h => exact setSpecial_step (.inr (by simp [reqCallKeys])) h
    · exact .keep (.app (.inr (normalizeKey_mem _ k)) v) ⟨rfl, rfl⟩
  | setCanonical k v => exact setCanonical_step s v (.inr (by simp [reqCallKeys]))
  | del k => exact .keep (by simp only [stepReq, del_h]; exact .sub List.filter_sublist) (del_line s _)
  | setContentLength n =>
    simp only [stepReq]
    split
    · exact .keep (.sub List.filter_sublist) ⟨rfl, rfl⟩
    · exact .keep (.set (.refl _) (.inl rfl) _) ⟨rfl, rfl⟩
  | setCookie k v => exact .keep (.sub (collectCookies_sub s)) (collectCookies_line s)
  | delCookie k => exact .keep (.sub (collectCookies_sub s)) (collectCookies_line s)
  | delAllCookies => exact .keep (.sub (collectCookies_sub s)) (collectCookies_line s)
  | setArgBytes k v nv => exact .keep (.set (.refl _) (.inr (by simp [reqCallKeys])) _) ⟨rfl, rfl⟩
  | addArgBytes k v nv => exact .keep (.app (.inr (by simp [reqCallKeys])) _) ⟨rfl, rfl⟩
  | resetConnClose => exact .keep (.sub (resetConnClose_sub s)) (resetConnClose_line s)
  | setMethod v => exact ⟨.sub (.refl _), .inr rfl, .inl rfl⟩
  | setRequestURI v => exact ⟨.sub (.refl _), .inl rfl, .inr rfl⟩
  | _ => exact .keep (.sub (.refl _)) ⟨rfl, rfl⟩

theorem runReqFrom_keys {P : Bytes → Prop} (hfix : ∀ n ∈ reqFixedNames, P n) (q : List ReqCall) (s : ReqSt)
    (hq : ∀ c ∈ q, ∀ n ∈ reqCallKeys c, P n) (hs : AllKeys P s.h) : AllKeys P (runReqFrom s q).h :=
  foldl_inv (Inv := fun s => AllKeys P s.h)
    (fun s c hc hs => (stepReq_step s c).h.keys
      (fun _ hn => hn.elim (fun e => e ▸ hfix _ (by simp [reqFixedNames])) (hc _)) hs) q s hq hs

theorem runReqFrom_hlen (q : List ReqCall) (s : ReqSt) : (runReqFrom s q).h.length ≤ s.h.length + q.length :=
  foldl_measure (fun s => s.h.length) (fun s c => (stepReq_step s c).h.len) q s

/-- method and request URI come from `SetMethod` / `SetRequestURI` only (`p`: the whole program, `q`: the calls still to run) -/
theorem runReqFrom_line (p q : List ReqCall) (s : ReqSt) (hq : ∀ c ∈ q, c ∈ p)
    (hm : s.method = [] ∨ .setMethod s.method ∈ p) (hu : s.uri = [] ∨ .setRequestURI s.uri ∈ p) :
    ((runReqFrom s q).method = [] ∨ .setMethod (runReqFrom s q).method ∈ p) ∧
    ((runReqFrom s q).uri = [] ∨ .setRequestURI (runReqFrom s q).uri ∈ p) :=
  foldl_inv (Inv := fun s => (s.method = [] ∨ .setMethod s.method ∈ p) ∧ (s.uri = [] ∨ .setRequestURI s.uri ∈ p))
    (fun s c hc ⟨hm, hu⟩ =>
      ⟨(stepReq_step s c).method.elim (fun h => h ▸ hm) (fun h => Or.inr (h ▸ hc)),
       (stepReq_step s c).uri.elim (fun h => h ▸ hu) (fun h => Or.inr (h ▸ hc))⟩)
    q s hq ⟨hm, hu⟩

/-- the names `RequestHeader.AppendBytes` passes to `appendHeaderLine`: fixed ones and the keys of `h` -/
theorem reqFields_names (r : ReqHdr) : ∀ kv ∈ r.fields, kv.1 ∈ reqFixedNames ∨ ∃ kv' ∈ r.h, kv'.1 = kv.1 := by
  intro kv hkv
  simp only [ReqHdr.fields, List.mem_append] at hkv
  rcases hkv with ((((((h | h) | h) | h) | h) | h) | h) | h
  · exact .inl (name_ite_nil_single (by decide) h)
  · exact .inl (name_ite_nil_single (by decide) h)
  · exact .inl (name_ite_nil_single (by decide) h)
  · exact .inl (name_ite_nil_single (by decide) h)
  · exact .inr ⟨kv, h, rfl⟩
  · exact .inl (name_ite_nil_single (by decide) h)
  · exact .inl (name_ite_nil_single (by decide) h)
  · exact .inl (name_ite_single_nil (by decide) h)

/-- a property of the fixed names and of the keys of `h` holds of every name a strict reader finds, when the serialiser
takes its names from these two sources only -/
theorem kept_names {P : Bytes → Prop} {fs h : List KV} {fixed : List Bytes}
    (hfs : ∀ kv ∈ fs, kv.1 ∈ fixed ∨ ∃ kv' ∈ h, kv'.1 = kv.1) (hfix : ∀ n ∈ fixed, P n) (hh : AllKeys P h) :
    ∀ kv ∈ kept fs, P kv.1 := by
  intro kv hkv
  simp only [kept, List.mem_map, List.mem_filter] at hkv
  obtain ⟨a, ⟨ha, _⟩, rfl⟩ := hkv
  rcases hfs a ha with h | ⟨kv', hm, he⟩
  · exact hfix _ h
  · exact he ▸ hh kv' hm

theorem ite_nil_single_length {α} {c : Prop} [Decidable c] {x : α} : (if c then [] else [x]).length ≤ 1 := by split <;> simp
theorem ite_single_nil_length {α} {c : Prop} [Decidable c] {x : α} : (if c then [x] else []).length ≤ 1 := by split <;> simp

theorem reqFields_length (r : ReqHdr) : r.fields.length ≤ r.h.length + 7 := by
  simp only [ReqHdr.fields, List.length_append]
  have h1 := @ite_nil_single_length _ (r.userAgent.isEmpty = true) _ (strUserAgent, r.userAgent)
  have h2 := @ite_nil_single_length _ (r.host.isEmpty = true) _ (strHost, r.host)
  have h4 := @ite_nil_single_length _ (r.clBytes.isEmpty = true) _ (strContentLength, r.clBytes)
  have h5 := @ite_nil_single_length _ (r.trailer.isEmpty = true) _ (strTrailer, trailerNames r.trailer)
  have h6 := @ite_nil_single_length _ (r.cookies.isEmpty = true) _ (strCookie, requestCookieBytes r.cookies)
  have h7 := @ite_single_nil_length _ (r.connClose = true) _ (strConnection, strClose)
  generalize hct : (if (r.contentType.isEmpty && !r.ignoreBody && !r.noDefaultContentType) = true then mIMEPostForm else r.contentType) = ct
  have h3 := @ite_nil_single_length _ (ct.isEmpty = true) _ (strContentType, ct)
  omega

/-- the response counterpart of `setSpecial_h`, for `h` and the cookies together: besides the first three cases,
`Set-Cookie` appends to the cookies -/
theorem resp_setSpecial_hc {Q : List KV → List KV → Prop} {s s' : RespSt} {key v : Bytes} (h : s.setSpecial key v = some s')
    (q0 : Q s.h s.cookies) (q1 : Q (delAll s.h strTransferEncoding) s.cookies)
    (q2 : Q (setArg s.resetConnClose.h key v) s.resetConnClose.cookies)
    (q3 : Q s.h (appendArg s.cookies (getCookieKey v) v)) : Q s'.h s'.cookies := by
  have e : s' = (s.setSpecial key v).getD s := by rw [h]; rfl
  subst e
  cases key with
  | nil => exact q0
  | cons k0 t =>
    cases hp : parseContentLength v <;>
    simp only [RespSt.setSpecial, hp, apply_ite (Option.getD · s), Option.getD_some, Option.getD_none,
      apply_ite (fun x : RespSt => Q x.h x.cookies), q0, q1, q2, q3, ite_self]

theorem resp_del_h (s : RespSt) (k : Bytes) : (s.del k).h = delAll s.h k := by
  simp only [RespSt.del, apply_ite RespSt.h, ite_self]

/-- `SetContentLength` leaves `h` alone, deletes `Transfer-Encoding` from it or sets it there; the cookies stay -/
theorem resp_setContentLength_hc {Q : List KV → List KV → Prop} (s : RespSt) (n : Int) (q0 : Q s.h s.cookies)
    (q1 : Q (delAll s.h strTransferEncoding) s.cookies) (q2 : ∀ v, Q (setArg s.h strTransferEncoding v) s.cookies) :
    Q (s.setContentLength n).h (s.setContentLength n).cookies := by
  simp only [RespSt.setContentLength, apply_ite (fun x : RespSt => Q x.h x.cookies), q0, q1, q2, ite_self]

theorem resp_del_cookies (s : RespSt) (k : Bytes) : (s.del k).cookies = if k = strSetCookie then [] else s.cookies := by
  by_cases h : k = strSetCookie
  · subst h; rfl
  · simp only [RespSt.del, apply_ite RespSt.cookies, h, if_false, ite_self]

/-- one call on a response header: the generic fields as in `Eff`; fields and cookies together grow by at most one -/
structure REff (K : Bytes → Prop) (h c h' c' : List KV) : Prop where
  mem : ∀ kv ∈ h', kv ∈ h ∨ K kv.1
  size : h'.length + c'.length ≤ h.length + c.length + 1

theorem REff.ofH {K : Bytes → Prop} {h c h' c' : List KV} (e : Eff K h h') (hc : c'.Sublist c) : REff K h c h' c' :=
  ⟨e.mem, by have := e.len; have := hc.length_le; omega⟩

theorem REff.ofC {K : Bytes → Prop} {h c h' c' : List KV} (hh : h'.Sublist h) (hc : c'.length ≤ c.length + 1) :
    REff K h c h' c' :=
  ⟨fun _ hkv => .inl (hh.subset hkv), by have := hh.length_le; omega⟩

abbrev RStep (K : Bytes → Prop) (s s' : RespSt) : Prop := REff K s.h s.cookies s'.h s'.cookies

theorem resp_resetConnClose_sub (s : RespSt) : s.resetConnClose.h.Sublist s.h ∧ s.resetConnClose.cookies = s.cookies := by
  unfold RespSt.resetConnClose
  split
  · exact ⟨List.filter_sublist, rfl⟩
  · exact ⟨.refl _, rfl⟩

theorem resp_setSpecial_step {K : Bytes → Prop} {s s' : RespSt} {key v : Bytes} (hk : K key) (h : s.setSpecial key v = some s') :
    RStep K s s' :=
  have r := resp_resetConnClose_sub s
  resp_setSpecial_hc (Q := REff K s.h s.cookies) h
    (.ofH (.sub (.refl _)) (.refl _)) (.ofH (.sub List.filter_sublist) (.refl _))
    (.ofH (.set r.1 hk v) (r.2 ▸ .refl _)) (.ofC (.refl _) (Nat.le_of_eq (appendArg_length _ _ _)))

theorem resp_setCanonical_step {K : Bytes → Prop} (s : RespSt) {k : Bytes} (v : Bytes) (hk : K k) : RStep K s (s.setCanonical k v) := by
  unfold RespSt.setCanonical
  split
  · next s' h => exact resp_setSpecial_step hk h
  · exact .ofH (.set (.refl _) hk v) (.refl _)

theorem resp_del_step {K : Bytes → Prop} (s : RespSt) (k : Bytes) : RStep K s (s.del k) := by
  refine .ofH (by rw [resp_del_h]; exact .sub List.filter_sublist) ?_
  rw [resp_del_cookies]
  split
  · exact List.nil_sublist _
  · exact .refl _

theorem resp_setContentLength_step {K : Bytes → Prop} (s : RespSt) (n : Int) (hTE : K strTransferEncoding) :
    RStep K s (s.setContentLength n) :=
  resp_setContentLength_hc (Q := REff K s.h s.cookies) s n
    (.ofH (.sub (.refl _)) (.refl _)) (.ofH (.sub List.filter_sublist) (.refl _))
    (fun v => .ofH (.set (.refl _) hTE v) (.refl _))

theorem stepResp_step (s : RespSt) (c : RespCall) :
    RStep (fun n => n = strTransferEncoding ∨ n = strLocation ∨ n ∈ respCallKeys c) s (stepResp s c) := by
  cases c with
  | set k v => exact resp_setCanonical_step s v (.inr (.inr (normalizeKey_mem _ k)))
  | add k v =>
    simp only [stepResp]
    split
    · next s' h => exact resp_setSpecial_step (.inr (.inr (by simp [respCallKeys]))) h
    · exact .ofH (.app (.inr (.inr (normalizeKey_mem _ k))) v) (.refl _)
  | setCanonical k v => exact resp_setCanonical_step s v (.inr (.inr (by simp [respCallKeys])))
  | del k => exact resp_del_step s _
  | setContentLength n => exact resp_setContentLength_step s n (.inl rfl)
  | setCookie c => exact .ofC (.refl _) (setArg_length _ _ _)
  | delCookie k => exact .ofH (.sub (.refl _)) List.filter_sublist
  | delAllCookies => exact .ofH (.sub (.refl _)) (List.nil_sublist _)
  | setArgBytes k v nv => exact .ofH (.set (.refl _) (.inr (.inr (by simp [respCallKeys]))) _) (.refl _)
  | addArgBytes k v nv => exact .ofH (.app (.inr (.inr (by simp [respCallKeys]))) _) (.refl _)
  | resetConnClose => exact .ofH (.sub (resp_resetConnClose_sub s).1) ((resp_resetConnClose_sub s).2 ▸ .refl _)
  | ctxHeader k v =>
    simp only [stepResp]
    split
    · exact resp_del_step s _
    · exact resp_setCanonical_step s v (.inr (.inr (normalizeKey_mem _ k)))
  | ctxRedirect code uri => exact resp_setCanonical_step s uri (.inr (.inl rfl))
  | ctxSetCookie n v ma p d ss sec ho part => exact .ofC (.refl _) (setArg_length _ _ _)
  | _ => exact .ofH (.sub (.refl _)) (.refl _)

theorem runRespFrom_keys {P : Bytes → Prop} (hfix : ∀ n ∈ respFixedNames, P n) (q : List RespCall) (s : RespSt)
    (hq : ∀ c ∈ q, ∀ n ∈ respCallKeys c, P n) (hs : AllKeys P s.h) : AllKeys P (runRespFrom s q).h :=
  foldl_inv (Inv := fun s => AllKeys P s.h)
    (fun s c hc hs kv hkv => ((stepResp_step s c).mem kv hkv).elim (hs kv)
      (fun hn => hn.elim (fun e => e ▸ hfix _ (by simp [respFixedNames]))
        (fun hn => hn.elim (fun e => e ▸ hfix _ (by simp [respFixedNames])) (hc _)))) q s hq hs

theorem runRespFrom_size (q : List RespCall) (s : RespSt) :
    (runRespFrom s q).h.length + (runRespFrom s q).cookies.length ≤ s.h.length + s.cookies.length + q.length :=
  foldl_measure (fun s => s.h.length + s.cookies.length) (fun s c => (stepResp_step s c).size) q s

theorem respFields_names (r : RespHdr) : ∀ kv ∈ r.fields, kv.1 ∈ respFixedNames ∨ ∃ kv' ∈ r.h, kv'.1 = kv.1 := by
  intro kv hkv
  rw [fields_split] at hkv
  rcases List.mem_append.mp hkv with h | h
  · rcases frontFields_names r kv h with h | h
    · exact .inl ((by decide : ∀ n ∈ frontNames, n ∈ respFixedNames) _ h)
    · exact .inr ⟨kv, h, rfl⟩
  · exact .inl (name_ite_single_nil (by decide) h)

theorem respFields_length (r : RespHdr) : r.fields.length ≤ r.h.length + r.cookies.length + 7 := by
  have h1 := @ite_nil_single_length _ (r.server.isEmpty = true) _ (strServer, r.server)
  have h3 := @ite_single_nil_length _ (((r.contentLength != 0 || !r.contentType.isEmpty) && !r.contentType.isEmpty) = true) _ (strContentType, r.contentType)
  have h4 := @ite_nil_single_length _ (r.contentEncoding.isEmpty = true) _ (strContentEncoding, r.contentEncoding)
  have h5 := @ite_nil_single_length _ (r.clBytes.isEmpty = true) _ (strContentLength, r.clBytes)
  have h6 := List.length_filter_le (fun kv : Bytes × Bytes => r.date.isNone || kv.1 != strDate) r.h
  have h7 := @ite_nil_single_length _ (r.trailer.isEmpty = true) _ (strTrailer, trailerNames r.trailer)
  have h8 := @ite_single_nil_length _ (r.connClose = true) _ (strConnection, strClose)
  cases hd : r.date with
  | none => simp only [RespHdr.fields, hd, List.length_append, List.length_map, List.length_nil] at h6 ⊢; omega
  | some d => simp only [RespHdr.fields, hd, List.length_append, List.length_map, List.length_cons, List.length_nil] at h6 ⊢; omega

theorem resp_fields_count (sl : Int → Bytes) (date : Bytes) (p : List RespCall) :
    (expectedRespFields sl date p).length ≤ p.length + 7 := by
  have h1 := kept_length_le ((runResp p).toHdr sl date).fields
  have h2 := respFields_length ((runResp p).toHdr sl date)
  have h3 := runRespFrom_size p {}
  simp only [expectedRespFields]
  have e1 : ((runResp p).toHdr sl date).h = (runRespFrom {} p).h := rfl
  have e2 : ((runResp p).toHdr sl date).cookies.length = (runRespFrom {} p).cookies.length := by
    simp [RespSt.toHdr, runResp]
  rw [e1, e2] at h2
  have h0 : ({} : RespSt).h.length + ({} : RespSt).cookies.length = 0 := rfl
  omega

def Clean3 (b : Bytes) : Prop := ∀ x ∈ b, x ≠ 32 ∧ x ≠ 13 ∧ x ≠ 10

instance (b : Bytes) : Decidable (Clean3 b) := inferInstanceAs (Decidable (∀ x ∈ b, x ≠ 32 ∧ x ≠ 13 ∧ x ≠ 10))

theorem clean3_of_plain {b : Bytes} (h : ∀ x ∈ b, lineSpecial x = false) : Clean3 b := by
  intro x hx
  have := h x hx
  simpa [lineSpecial, and_assoc] using this

theorem clean3_append {a b : Bytes} (ha : Clean3 a) (hb : Clean3 b) : Clean3 (a ++ b) := by
  intro x hx
  rcases List.mem_append.mp hx with h | h
  · exact ha x h
  · exact hb x h

theorem count_clean3 {b : Bytes} (h : Clean3 b) : b.count 32 = 0 :=
  List.count_eq_zero.mpr (fun hm => (h 32 hm).1 rfl)

theorem clean3_orGet {m : Bytes} (h : Clean3 m) : Clean3 (if m.isEmpty then strGet else m) := by
  split
  · exact clean3_of_plain (by decide)
  · exact h

theorem clean3_orSlash {u : Bytes} (h : Clean3 u) : Clean3 (if u.isEmpty then strSlash else u) := by
  split
  · exact clean3_of_plain (by decide)
  · exact h

theorem requestLine_count (m u : Bytes) : (requestLine m u).count 32 = 2 := by
  have h11 : strHTTP11.count 32 = 0 := by decide
  simp only [requestLine, List.count_append, h11, count_clean3 (reqLinePart_clean _)]
  simp

theorem requestLine_single (m u : Bytes) :
    (requestLine m u).count 32 = 2 ∧ ∀ x ∈ requestLine m u, x ≠ 13 ∧ x ≠ 10 :=
  ⟨requestLine_count m u, reqLine_clean _ _⟩

/-- the alphabet of the path and query encoders (`quotePathBody_all`, `quoteArg_all`) has no SP, CR, LF -/
theorem written_plain (x : UInt8) (h : pathPlain x = true ∨ argPlain x = true ∨ x = 43 ∨ x = 37 ∨ x = 61 ∨ x = 38) :
    lineSpecial x = false := by
  rcases h with h | h | rfl | rfl | rfl | rfl
  · exact plain_line x (.inr h)
  · exact plain_line x (.inl h)
  all_goals decide

theorem quotePath_clean3 (p : Bytes) : Clean3 (quotePath p) := by
  apply clean3_of_plain
  unfold quotePath
  split
  · decide
  · exact quotePathBody_all (fun x h => written_plain x (h.elim .inl fun h => .inr (.inr (.inr (.inl h))))) p

theorem appendArgs_plain : ∀ (l : List ArgKV), ∀ x ∈ appendArgs l, lineSpecial x = false :=
  appendArgs_all (fun x h => written_plain x (.inr (h.imp_right fun h => h.imp_right .inl))) (by decide) (by decide)

theorem clean3_query {c : Prop} [Decidable c] {q : Bytes} (h : Clean3 q) : Clean3 (if c then [] else 63 :: q) := by
  split
  · intro x hx; cases hx
  · intro x hx
    rcases List.mem_cons.mp hx with rfl | hx
    · decide
    · exact h x hx

end Hertz.HA
