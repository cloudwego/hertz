import Hertz.Model.Http1.Trace
import Hertz.Proofs.Tracer
import Hertz.Proofs.Http1
/-!
C19 — `classify_refines_serve`: the history `H1.classify` (Model/Http1/Trace.lean) reads off a byte stream
and the event list of the keep-alive loop model `H1.serve` (Model/Http1/Serve.lean) tell the same story.

Neither alphabet embeds in the other (an `Ev.req` carries the whole parsed request and a `resp` its
status, which no `Tracer.Outcome` has; an `Outcome` tells a silent idle close from a silent
nothing-read close, which the — empty — event list does not).  So both are projected onto the part they
share, `Out`: *which request targets reached the handler, whether each was answered and whether the
connection goes on, and whether the connection ends with an error response.*

* `evOut : Ev → List Out`  (`projEv` on lists) forgets the parsed request except for its target, the
  status except for "is it 200", and the interim `100 Continue`;
* `iterOut : Bool → TIter → List Out` (`projIters` on histories) reads an iteration of the tracer model:
  an iteration cut short by the idle wait and a silently closed one (`ErrNothingRead`, `io.EOF`) show
  nothing, a read failure answered by `writeErrorResponse` shows `resp false true`, a handled request
  shows its target and the response.

Outside the common ground (`Common t = false`): the paths of `Server.Serve` that the echo handler of
`H1.serve` never takes — unwinding handler panic, hijack, failing `Flush`/write of the response or of the
interim `100 Continue` (`.handled .panic/.hijacked/.flushErr/.writeErr/.releaseErr/.hijackTimeoutErr`,
`.contWriteErr`), a handler that asks for `Connection: close` itself (`/close…` target), the
return-to-poller idle style (`poll`), and on the other side `Ev.unmodelled` (multipart pre-parse).
-/
namespace Hertz.H1
open Hertz Hertz.Tracer

inductive Out where
  /-- the request with this (shown) target reached the handler -/
  | req (uri : Bytes)
  /-- a response was written: `ok` ⇔ it is the handler's (status 200 in `H1.serve`), otherwise it is the
  error response of `writeErrorResponse`; `close` ⇔ the connection is closed after it -/
  | resp (ok : Bool) (close : Bool)
deriving DecidableEq, Repr

def evOut : Ev → List Out
  | .unmodelled => []
  | .continue100 => []
  | .req sn => [.req (shownURI sn.head)]
  | .resp st close => [.resp (st == 200) close]

def projEv : List Ev → List Out
  | [] => []
  | ev :: t => evOut ev ++ projEv t

/-- projection of one iteration of the tracer model's history; `first` ⇔ `connRequestNum == 1`
(the idle-wait answer is asked for only from the second iteration on, as in `Tracer.iter`) -/
def iterOut (first : Bool) (t : TIter) : List Out :=
  if !first && t.it.peekFails then [] else
  match t.it.outcome with
  | .headerErr .other => [.resp false true]
  | .headerErr _ => []
  | .bodyErr .other => [.resp false true]
  | .bodyErr _ => []
  | .contBodyErr => [.resp false true]
  | .contWriteErr => []
  | .handled .next => [.req (t.uri.getD []), .resp true false]
  | .handled .close => [.req (t.uri.getD []), .resp true true]
  | .handled _ => [.req (t.uri.getD [])]

def projIters : Bool → List TIter → List Out
  | _, [] => []
  | first, t :: rest => iterOut first t ++ projIters false rest

/-- the iteration takes a path that `H1.serve` has too -/
def Common (t : TIter) : Bool :=
  match t.it.outcome with
  | .contWriteErr => false
  | .handled .next => true
  | .handled .close => directive (t.uri.getD []) != .close
  | .handled _ => false
  | _ => true

theorem projEv_append (a b : List Ev) : projEv (a ++ b) = projEv a ++ projEv b := by
  induction a with
  | nil => rfl
  | cons x t ih => simp [projEv, ih]

theorem setContentLength_uri (hd : ReqHead) (n : Nat) : (setContentLength hd n).uri = hd.uri := rfl

theorem continueReadBody_uri {cfg : Cfg} {e : End} {hd hd' : ReqHead} {s body rest : Bytes}
    {tr : List (Bytes × Bytes)} (h : continueReadBody cfg e hd s = .ok hd' body tr rest) :
    hd'.uri = hd.uri := by
  revert h
  fun_cases continueReadBody cfg e hd s <;> intro h <;> cases h
  -- a request without body framing keeps its head, or gets `Content-Length: 0`
  case case5 => split <;> rfl
  all_goals rfl

theorem flushOK_none : flushOK none = (true, none) := rfl

theorem projEv_pre (b : Bool) (l : List Ev) : projEv ((if b = true then [Ev.continue100] else []) ++ l) = projEv l := by
  cases b <;> simp [projEv, evOut]

/-- By the cases of `classifyLoop`.  On the common ground `serveLoop` takes the same branch, and the request target is the
one `continueReadBody` was given; at the first iteration off it the common prefix ends, and what `serveLoop` goes on
with is the `tail`. -/
theorem classifyLoop_refines (c : TraceCfg) (hp : c.poll = false) (e : End) (fuel : Nat) (first : Bool)
    (wb : Option Nat) (s : Bytes) (hu : Ev.unmodelled ∉ serveLoop c.h1 e fuel first s) :
    ∃ tail, projEv (serveLoop c.h1 e fuel first s) =
        projIters first ((classifyLoop c e fuel first wb s).takeWhile (Common ·)) ++ tail ∧
      ((∀ t ∈ classifyLoop c e fuel first wb s, Common t = true) → tail = []) := by
  fun_induction classifyLoop c e fuel first wb s
  case case1 => exact ⟨[], rfl, fun _ => rfl⟩   -- no fuel
  case case2 h =>   -- the idle wait fails
    simp only [Bool.and_eq_true, Bool.not_eq_true'] at h
    refine ⟨[], ?_, fun _ => rfl⟩
    simp [serveLoop, h, projIters, iterOut, projEv, Common]
  case case3 h stop hph =>   -- malformed header
    refine ⟨[], ?_, fun _ => rfl⟩
    simp [serveLoop, h, hph, stop, projIters, iterOut, projEv, evOut, Common]
  case case4 h stop hph hs he =>   -- nothing read, end of stream
    refine ⟨[], ?_, fun _ => rfl⟩
    simp [serveLoop, h, hph, hs, he, stop, projIters, iterOut, projEv, Common]
  case case5 h stop hph hs he =>   -- nothing read, the peer stalls
    refine ⟨[], ?_, fun _ => rfl⟩
    simp [serveLoop, h, hph, hs, he, stop, projIters, iterOut, projEv, evOut, Common]
  case case6 h stop hph hs =>   -- incomplete header
    refine ⟨[], ?_, fun _ => rfl⟩
    cases e <;> simp [serveLoop, h, hph, hs, stop, projIters, iterOut, projEv, evOut, Common]
  case case8 =>   -- body error after `100 Continue`
    refine ⟨[], ?_, fun _ => rfl⟩
    cases ‹RdErr› <;> simp +zetaDelta [serveLoop, *, projIters, iterOut, projEv, evOut, errStatus, Common] at hu ⊢
  case case9 =>   -- body error
    refine ⟨[], ?_, fun _ => rfl⟩
    cases ‹RdErr› <;> simp +zetaDelta [serveLoop, *, projIters, iterOut, projEv, evOut, errStatus, Common] at hu ⊢
  case case13 =>   -- handled, the connection closes
    rename_i hcl
    have huri := continueReadBody_uri ‹continueReadBody _ _ _ _ = _›
    simp +zetaDelta only [List.takeWhile]
    split
    · rename_i hC
      refine ⟨[], ?_, fun _ => rfl⟩
      simp +zetaDelta [serveLoop, *, shownURI, projIters, iterOut, projEv, evOut, Common, projEv_pre] at hu hcl hC ⊢
      -- the handler did not ask for the close, so keep-alive is off or the request asked for it
      simp [hC] at hcl
      simp [hcl, projEv]
    · rename_i hC
      exact ⟨_, rfl, fun h => absurd (h _ (.head _)) (by simpa using hC)⟩
  case case14 =>   -- handled, on to the next request
    rename_i hcl _ ih
    have huri := continueReadBody_uri ‹continueReadBody _ _ _ _ = _›
    rw [List.takeWhile_cons_of_pos (by rfl)]
    simp +zetaDelta [serveLoop, *, shownURI, projIters, iterOut, projEv, evOut, projEv_pre] at hu hcl ⊢
    simp [hcl.1.2, hcl.2] at hu ⊢
    obtain ⟨tail, h1, h2⟩ := ih hu
    exact ⟨tail, h1, fun _ => h2⟩
  -- cases 7, 10, 11, 12 (`.contWriteErr`, `.handled .panic`, `.handled .flushErr`, `.handled .hijacked`): off the common ground
  all_goals
    refine ⟨_, by simp +zetaDelta [Common, projIters]; rfl, fun h => ?_⟩
    have := h _ (.head _)
    simp [Common] at this

/-- In-loop idle handling, every iteration on common ground, no hand-over
to `mime/multipart`: the history read off the stream and the event list of the loop model project onto
the same sequence of handled targets, responses and close decisions. -/
theorem classify_refines_serve (c : TraceCfg) (hp : c.poll = false) (e : End) (s : Bytes)
    (hc : ∀ t ∈ classify c e s, Common t = true) (hu : Ev.unmodelled ∉ serve c.h1 e s) :
    projIters true (classify c e s) = projEv (serve c.h1 e s) := by
  obtain ⟨tail, h, ht⟩ := classifyLoop_refines c hp e (s.length + 1) true none s hu
  have hall : (classify c e s).takeWhile (Common ·) = classify c e s := by
    simpa using List.takeWhile_append_of_pos (l₂ := []) hc
  rw [ht hc, List.append_nil] at h
  exact (h.trans (congrArg _ hall)).symm

/-! ### `Ev.unmodelled` only with multipart pre-parse -/

theorem readBodyChunked_ne (e : End) (maxBody : Nat) : ∀ (fuel : Nat) (dst s : Bytes),
    readBodyChunked e maxBody fuel dst s ≠ .error .unmodelled
  | 0, _, _ => by simp [readBodyChunked]
  | fuel + 1, dst, s => by
    simp only [readBodyChunked, bind, Except.bind]
    split
    · rename_i x hx; intro h; injection h with h; subst h; exact (wireErr_ne (parseChunkSize_err hx)).2 rfl
    · rename_i p hx
      obtain ⟨size, rest⟩ := p
      simp only
      split
      · simp
      · split
        · simp
        · split
          · rename_i x hx2; intro h; injection h with h; subst h; exact (wireErr_ne (.inr (takeBody_err hx2))).2 rfl
          · split
            · simp
            · exact readBodyChunked_ne e maxBody fuel _ _

theorem readTrailerReq_ne (cfg : Cfg) (e : End) (names : List Bytes) (s : Bytes) :
    readTrailerReq cfg e names s ≠ .error .unmodelled := by
  fun_cases readTrailerReq cfg e names s <;> simp_all

/-- without multipart pre-parse the body reader never hands over to `mime/multipart` -/
theorem continueReadBody_ne (cfg : Cfg) (hpp : cfg.preParse = false) (e : End) (hd : ReqHead) (s : Bytes) :
    continueReadBody cfg e hd s ≠ .err .unmodelled := by
  fun_cases continueReadBody cfg e hd s
  case case2 h => simp [hpp] at h
  -- an error handed on from a reader
  case case4 x hx => exact fun h => (wireErr_ne (.inr (.inl (takeN_err hx)))).2 (BodyRes.err.inj h)
  case case6 x hx =>
    exact fun h => readBodyChunked_ne e _ _ _ s (hx.trans (congrArg Except.error (BodyRes.err.inj h)))
  case case7 x hx =>
    exact fun h => readTrailerReq_ne cfg e _ _ (hx.trans (congrArg Except.error (BodyRes.err.inj h)))
  all_goals exact nofun

theorem serveLoop_no_unmodelled (cfg : Cfg) (hpp : cfg.preParse = false) (e : End) (fuel : Nat) (first : Bool)
    (s : Bytes) : Ev.unmodelled ∉ serveLoop cfg e fuel first s := by
  fun_induction serveLoop cfg e fuel first s
  case case8 hb => exact (continueReadBody_ne cfg hpp e _ _ hb).elim
  case case9 =>
    simp +zetaDelta only [List.mem_append, not_or]
    constructor
    · split <;> simp
    · repeat' split
      all_goals simp
  case case10 ih =>
    simp +zetaDelta only [List.mem_append, not_or]
    refine ⟨⟨?_, by simp⟩, ?_⟩
    · split <;> simp
    · split
      · simp
      · exact ih
  all_goals simp

theorem serve_no_unmodelled (cfg : Cfg) (hpp : cfg.preParse = false) (e : End) (s : Bytes) :
    Ev.unmodelled ∉ serve cfg e s := serveLoop_no_unmodelled cfg hpp e _ _ _

/-! ### handler runs and `Start` calls of a stream, counted against the refinement -/

theorem classifyLoop_loopShaped (c : TraceCfg) (hp : c.poll = false) (e : End) (fuel : Nat) (first : Bool)
    (wb : Option Nat) (s : Bytes) : loopShaped ((classifyLoop c e fuel first wb s).map (·.it)) = true := by
  fun_induction classifyLoop c e fuel first wb s
  -- the one branch that goes round the loop
  case case14 ih =>
    simp only [hp, Bool.false_eq_true, if_false, List.map_cons]
    exact loopShaped_cons _ ih
  all_goals rfl

def nReqOut : List Out → Nat
  | [] => 0
  | .req _ :: t => nReqOut t + 1
  | _ :: t => nReqOut t

def nReqs : List Ev → Nat
  | [] => 0
  | .req _ :: t => nReqs t + 1
  | _ :: t => nReqs t

theorem nReqOut_append (a b : List Out) : nReqOut (a ++ b) = nReqOut a + nReqOut b := by
  induction a with
  | nil => simp [nReqOut]
  | cons x t ih => cases x <;> simp [nReqOut, ih] <;> omega

theorem nReqOut_projEv (l : List Ev) : nReqOut (projEv l) = nReqs l := by
  induction l with
  | nil => rfl
  | cons x t ih => cases x <;> simp [projEv, evOut, nReqOut, nReqs, ih]

/-- a pass with a tracer runs the handler exactly when `iterOut` shows a request, and makes at most one `Start` call -/
theorem pass_counts (cfg : Tracer.Cfg) (hen : cfg.enableTrace = true) (first : Bool) (t : TIter) :
    (iterStep cfg first t.it).1.count .handle = nReqOut (iterOut first t) ∧
    (iterStep cfg first t.it).1.count .start ≤ 1 := by
  rw [iterStep_eq]
  simp only [passForm, iterOut, idles, hen, if_true]
  cases !first && t.it.peekFails
  · rw [if_neg Bool.false_ne_true, if_neg Bool.false_ne_true]
    generalize t.it.outcome = oc
    cases oc with
    | headerErr r => cases r <;> exact ⟨rfl, Nat.le_of_eq rfl⟩
    | bodyErr r => cases r <;> exact ⟨rfl, Nat.le_of_eq rfl⟩
    | contWriteErr => exact ⟨rfl, Nat.le_of_eq rfl⟩
    | contBodyErr => exact ⟨rfl, Nat.le_of_eq rfl⟩
    | handled tl => cases tl <;> exact ⟨rfl, Nat.le_of_eq rfl⟩
  · exact ⟨rfl, Nat.zero_le 1⟩

/-- The passes of one `Serve` call over a history as `classifyLoop` writes it, with a tracer: one handler run per request
that `projIters` shows, and at most one `Start` call more (only the last pass can end before the handler). -/
theorem serveLoop_counts (cfg : Tracer.Cfg) (hen : cfg.enableTrace = true) (hz : cfg.idleZero = false) :
    ∀ (its : List TIter) (first : Bool), loopShaped (its.map (·.it)) = true →
      (Tracer.serveLoop cfg first (its.map (·.it)) {}).count .handle = nReqOut (projIters first its) ∧
      (Tracer.serveLoop cfg first (its.map (·.it)) {}).count .start ≤ nReqOut (projIters first its) + 1
  | [], _, _ => by simp [Tracer.serveLoop, projIters, nReqOut]
  | [t], first, _ => by
    obtain ⟨h1, h2⟩ := pass_counts cfg hen first t
    have hl : Tracer.serveLoop cfg first [t.it] {} = (iterStep cfg first t.it).1 := by
      rw [serveLoop_cons]; cases (iterStep cfg first t.it).2 <;> simp [Tracer.serveLoop]
    simp only [List.map_cons, List.map_nil, hl, projIters, List.append_nil]
    omega
  | t :: t2 :: rest, first, h => by
    simp only [List.map_cons, loopShaped, Bool.and_eq_true, beq_iff_eq] at h
    obtain ⟨h1, -⟩ := pass_counts cfg hen first t
    obtain ⟨i1, i2⟩ := serveLoop_counts cfg hen hz (t2 :: rest) false h.2
    -- a keep-alive pass: one `Start`, one handler run, and the loop goes round
    have hs : iterStep cfg first t.it = (blockOf (.handled .next), some {}) := by
      rw [iterStep_eq, h.1]; simp [passForm, idles, goesRound, hen, hz]
    have hc : (blockOf (.handled .next)).count .start = 1 ∧ (blockOf (.handled .next)).count .handle = 1 := ⟨rfl, rfl⟩
    rw [hs, hc.2] at h1
    rw [List.map_cons, serveLoop_cons, hs, List.count_append, List.count_append, projIters, nReqOut_append, hc.1, hc.2]
    dsimp only
    omega

theorem traceActs_logOK (c : TraceCfg) (e : End) (s : Bytes) (lv : Level) :
    logOK lv (observe lv (traceActs c true e s)) = true :=
  connection_logOK _ rfl lv _

end Hertz.H1
