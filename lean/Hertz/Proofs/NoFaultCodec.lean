import Hertz.Proofs.NoFault
import Hertz.Proofs.Bytesconv
import Hertz.Model.NoFaultCodec
/-!
C03: the checked re-statements of the percent decoders, `Args.ParseBytes`, the cookie parsers, `splitHostURI` and the
user-info cut of `URI.parse` (`Model/NoFaultCodec.lean`) never reach a fault and their loops terminate, for every input; the
decoders, the cookie attribute step and `splitHostURI` equal their list models.
-/
namespace Hertz.NF
open Hertz Hertz.Gen.Str

/-! ### percent decoding -/

theorem hex2intTable_size : Gen.hex2intTable.size = 256 := by decide +kernel

theorem tbl_hex_eq (c : UInt8) : tbl Gen.hex2intTable c = some (hex2int c) := by
  unfold tbl hex2int tget
  have h : c.toNat < Gen.hex2intTable.size := by rw [hex2intTable_size]; exact c.toNat_lt
  rw [Array.getElem?_eq_getElem h, getElem!_pos Gen.hex2intTable c.toNat h]

theorem decLoop_eq (plus : Bool) (src : Bytes) : ∀ (f i : Nat) (dst : Bytes), i ≤ src.length → src.length - i < f →
    decLoop plus src f (i : Int) dst = some (dst ++ decodeSlow plus (src.drop i))
  | 0, _, _, _, h => by omega
  | f + 1, i, dst, hi, hf => by
    unfold decLoop
    by_cases hlt : i < src.length
    · have ih1 : ∀ d, decLoop plus src f ((i : Int) + 1) d = some (d ++ decodeSlow plus (src.drop (i + 1))) :=
        fun d => decLoop_eq plus src f (i + 1) d hlt (by omega)
      rw [if_pos (by unfold len; omega), ix_nat src i hlt, Option.bind_some]
      by_cases h37 : src[i] = 37
      · rw [if_pos h37]
        by_cases hr : src.length ≤ i + 2
        · rw [if_pos (by unfold len; omega), slFrom_drop src i i rfl hi, Option.bind_some,
            decodeSlow_drop_short plus src i hlt h37 hr]
        · have h1 : i + 1 < src.length := by omega
          have h2 : i + 2 < src.length := by omega
          have e1 : ix src ((i : Int) + 1) = some src[i + 1] := ix_nat src (i + 1) h1
          have e2 : ix src ((i : Int) + 2) = some src[i + 2] := ix_nat src (i + 2) h2
          rw [if_neg (by unfold len; omega), e2, Option.bind_some, tbl_hex_eq, Option.bind_some, e1, Option.bind_some,
            tbl_hex_eq, Option.bind_some, decodeSlow_drop_pct plus src i h1 h2 h37]
          by_cases hx : hex2int src[i + 1] = 16 ∨ hex2int src[i + 2] = 16
          · rw [if_pos hx, if_pos hx, ih1]; simp
          · rw [if_neg hx, if_neg hx]
            exact (decLoop_eq plus src f (i + 3) _ (by omega) (by omega)).trans (by simp)
      · rw [if_neg h37, decodeSlow_drop_ne plus src i hlt h37]
        by_cases hp : (plus && src[i] == 43) = true
        · rw [if_pos hp, if_pos hp, ih1]; simp
        · rw [if_neg hp, if_neg hp, ih1]; simp
    · rw [if_neg (by unfold len; omega), List.drop_eq_nil_of_le (by omega)]
      simp [decodeSlow]

theorem indexByte_neg (c : UInt8) (b : Bytes) : decide (indexByte c b < 0) = !b.contains c := by
  unfold indexByte
  rw [Uri.indexOf_eq, ← H1.indexByte_isSome]
  cases H1.indexByte c b <;> simp

/-- the checked percent decoders compute the list models of `Model/Bytesconv.lean` -/
theorem decodeArg_eq (plus : Bool) (src : Bytes) :
    decodeArg plus src =
      some (if !src.contains 37 && (!plus || !src.contains 43) then src else decodeSlow plus src) := by
  unfold decodeArg
  rw [indexByte_neg, indexByte_neg]
  have hl := decLoop_eq plus src (src.length + 1) 0 [] (by omega) (by omega)
  simp only [Int.natCast_zero, List.drop_zero, List.nil_append] at hl
  split
  · rfl
  · exact hl

theorem decodeArg_plus_eq (src : Bytes) : decodeArg true src = some (Hertz.decodeArg src) :=
  decodeArg_eq true src

theorem decodeArg_noplus_eq (src : Bytes) : decodeArg false src = some (Hertz.decodeArgNoPlus src) := by
  rw [decodeArg_eq]
  simp [Hertz.decodeArgNoPlus]

theorem decodeArg_ok (plus : Bool) (src : Bytes) : Ok (decodeArg plus src) fun _ => True :=
  .of_eq (decodeArg_eq plus src)

/-! ### `Args.ParseBytes` -/

theorem argNextLoop_ok (b : Bytes) (hb : len b > 0) : ∀ (t : Bytes) (i : Int) (isKey : Bool) (k : Int) (key : Bytes),
    i + len t = len b → 0 ≤ k → k ≤ i → Ok (argNextLoop b t i isKey k key) fun r => len r.2 < len b
  | [], i, isKey, k, key, hi, hk0, hk1 => by
    rw [len_nil] at hi
    unfold argNextLoop
    exact .ite
      (fun _ => kvCut_ok (V := some b) (P := fun _ => True) (.pure trivial) (decodeArg_ok true) hb (Int.le_refl _))
      fun _ => kvCut_ok (slFrom_ok hk0 (by omega)) (decodeArg_ok true) hb (Int.le_refl _)
  | c :: t, i, isKey, k, key, hi, hk0, hk1 => by
    rw [len_cons] at hi
    have hlt := len_nonneg t
    have next : ∀ isKey k key, 0 ≤ k → k ≤ i + 1 → Ok (argNextLoop b t (i + 1) isKey k key) fun r => len r.2 < len b :=
      fun isKey k key h0 h1 => argNextLoop_ok b hb t (i + 1) isKey k key (by omega) h0 h1
    have hp := slTo_ok (b := b) (hi := i) (by omega) (by omega)
    unfold argNextLoop
    exact .ite
      (fun _ => .ite (fun _ => hp.bind fun p _ => (decodeArg_ok true p).bind fun kk _ => next _ _ _ (by omega) (by omega))
        fun _ => next _ _ _ hk0 (by omega))
      fun _ => .ite
        (fun _ => .ite (fun _ => kvCut_ok hp (decodeArg_ok true) (by omega) (by omega))
          fun _ => kvCut_ok (sl_ok hk0 hk1 (by omega)) (decodeArg_ok true) (by omega) (by omega))
        fun _ => next _ _ _ hk0 (by omega)

theorem parseArgsLoop_ok : ∀ (f : Nat) (b : Bytes) (acc : List ArgKV), b.length < f →
    Ok (parseArgsLoop f b acc) fun _ => True
  | 0, _, _, h => by omega
  | f + 1, b, acc, h => by
    unfold parseArgsLoop
    exact .ite (fun _ => .pure trivial) fun hb =>
      (argNextLoop_ok b (by unfold len at *; omega) b 0 true 0 [] (by omega) (by omega) (by omega)).bind fun r hl =>
        parseArgsLoop_ok f r.2 _ (by unfold len at *; omega)

theorem parseArgs_ok (b : Bytes) : Ok (parseArgs b) fun _ => True :=
  parseArgsLoop_ok _ b [] (by omega)

/-! ### cookies -/

theorem trimL_ok : ∀ (f : Nat) (s : Bytes), s.length < f → Ok (trimL f s) fun _ => True
  | 0, _, h => by omega
  | f + 1, s, h => by
    unfold trimL
    exact .ite
      (fun _ => (ix_ok (Int.le_refl 0) (by omega)).bind fun c _ => .ite
        (fun _ => (slFrom_ok (by omega) (by omega)).bind fun s1 h1 => trimL_ok f s1 (by unfold len at *; omega))
        fun _ => .pure trivial)
      fun _ => .pure trivial

theorem trimR_ok : ∀ (f : Nat) (s : Bytes), s.length < f → Ok (trimR f s) fun _ => True
  | 0, _, h => by omega
  | f + 1, s, h => by
    unfold trimR
    exact .ite
      (fun _ => (ix_ok (by omega) (by omega)).bind fun c _ => .ite
        (fun _ => (slTo_ok (by omega) (by omega)).bind fun s1 h1 => trimR_ok f s1 (by unfold len at *; omega))
        fun _ => .pure trivial)
      fun _ => .pure trivial

theorem decodeCookieArg_ok (q : Bool) (src : Bytes) : Ok (decodeCookieArg src q) fun _ => True := by
  unfold decodeCookieArg
  exact (trimL_ok (src.length + 1) src (by omega)).bind fun s1 _ => (trimR_ok (s1.length + 1) s1 (by omega)).bind fun s2 _ =>
    .ite (fun _ => unquote_ok s2) fun _ => .pure trivial

theorem cookieNextLoop_ok (b : Bytes) (hb : len b > 0) : ∀ (t : Bytes) (i : Int) (isKey : Bool) (k : Int) (key : Bytes),
    i + len t = len b → 0 ≤ k → k ≤ i → Ok (cookieNextLoop b t i isKey k key) fun r => len r.2 < len b
  | [], i, isKey, k, key, hi, hk0, hk1 => by
    rw [len_nil] at hi
    unfold cookieNextLoop
    exact kvCut_ok (slFrom_ok hk0 (by omega)) (decodeCookieArg_ok true) hb (Int.le_refl _)
  | c :: t, i, isKey, k, key, hi, hk0, hk1 => by
    rw [len_cons] at hi
    have hlt := len_nonneg t
    have next : ∀ isKey k key, 0 ≤ k → k ≤ i + 1 → Ok (cookieNextLoop b t (i + 1) isKey k key) fun r => len r.2 < len b :=
      fun isKey k key h0 h1 => cookieNextLoop_ok b hb t (i + 1) isKey k key (by omega) h0 h1
    unfold cookieNextLoop
    exact .ite
      (fun _ => .ite
        (fun _ => (slTo_ok (by omega) (by omega)).bind fun p _ => (decodeCookieArg_ok false p).bind fun kk _ =>
          next _ _ _ (by omega) (by omega))
        fun _ => next _ _ _ hk0 (by omega))
      fun _ => .ite (fun _ => kvCut_ok (sl_ok hk0 hk1 (by omega)) (decodeCookieArg_ok true) (by omega) (by omega))
        fun _ => next _ _ _ hk0 (by omega)

theorem applyAttr_eq (c : Uri.Cookie) (k v : Bytes) : applyAttr c k v = some (Uri.applyAttr c (k, v)) := by
  cases k with
  | nil =>
    cases v with
    | nil => rfl
    | cons v0 vt =>
      have h1 : ¬ len ([] : Bytes) ≠ 0 := by simp [len]
      have h2 : len (v0 :: vt) ≠ 0 := by rw [len_cons]; have := len_nonneg vt; omega
      unfold applyAttr Uri.applyAttr
      rw [if_neg h1, if_pos h2, ix_zero_cons, Option.bind_some]
      dsimp only
      simp only [apply_ite (some : Option Uri.Cookie → Option (Option Uri.Cookie))]
  | cons k0 kt =>
    have h2 : len (k0 :: kt) ≠ 0 := by rw [len_cons]; have := len_nonneg kt; omega
    unfold applyAttr Uri.applyAttr
    rw [if_pos h2, ix_zero_cons, Option.bind_some]
    dsimp only
    cases v with
    | nil =>
      have h3 : ¬ len ([] : Bytes) > 0 := by simp [len]
      simp only [h3, and_false, if_false, List.isEmpty_nil, Bool.not_true, Bool.false_eq_true,
        apply_ite (some : Option Uri.Cookie → Option (Option Uri.Cookie))]
    | cons v0 vt =>
      have h3 : len (v0 :: vt) > 0 := by rw [len_cons]; have := len_nonneg vt; omega
      simp only [h3, and_true, ix_zero_cons, Option.bind_some, List.isEmpty_cons, Bool.not_false,
        apply_ite (some : Option Uri.Cookie → Option (Option Uri.Cookie))]
      rfl

/-- the first `s.next(kv)` of the three cookie loops, on a non-empty buffer -/
theorem cookieNext_ok (b : Bytes) (hb : ¬ len b = 0) : Ok (cookieNextLoop b b 0 true 0 []) fun r => r.2.length < b.length :=
  (cookieNextLoop_ok b (by unfold len at *; omega) b 0 true 0 [] (by omega) (by omega) (by omega)).mono fun r hr => by
    unfold len at hr; omega

theorem parseCookieLoop_ok : ∀ (f : Nat) (b : Bytes) (c : Uri.Cookie), b.length < f →
    Ok (parseCookieLoop f b c) fun _ => True
  | 0, _, _, h => by omega
  | f + 1, b, c, h => by
    unfold parseCookieLoop
    refine .ite (fun _ => .pure trivial) fun hb => (cookieNext_ok b hb).bind fun kv hl =>
      (Ok.of_eq (applyAttr_eq c kv.1.1 kv.1.2)).bind fun a _ => ?_
    cases a with
    | none => exact .pure trivial
    | some c' => exact parseCookieLoop_ok f kv.2 c' (by omega)

theorem parseCookie_ok (src : Bytes) : Ok (parseCookie src) fun _ => True := by
  unfold parseCookie
  exact .ite (fun _ => .pure trivial) fun hb => (cookieNext_ok src hb).bind fun kv _ =>
    parseCookieLoop_ok _ kv.2 _ (by omega)

theorem reqCookiesLoop_ok : ∀ (f : Nat) (b : Bytes) (acc : List (Bytes × Bytes)), b.length < f →
    Ok (reqCookiesLoop f b acc) fun _ => True
  | 0, _, _, h => by omega
  | f + 1, b, acc, h => by
    unfold reqCookiesLoop
    exact .ite (fun _ => .pure trivial) fun hb => (cookieNext_ok b hb).bind fun kv hl =>
      reqCookiesLoop_ok f kv.2 _ (by omega)

theorem parseReqCookies_ok (src : Bytes) : Ok (parseReqCookies src) fun _ => True :=
  reqCookiesLoop_ok _ src [] (by omega)

/-! ### URI -/

theorem userInfo_ok (host : Bytes) : Ok (userInfo host) fun _ => True := by
  unfold userInfo
  exact .ite (fun hn => sepAt_ok hn (indexByte_lt 64 host) fun auth _ =>
    .ite (fun hm => sepAt_ok hm (indexByte_lt 58 auth) fun _ _ => .pure trivial) fun _ => .pure trivial) fun _ => .pure trivial

/-! ### `splitHostURI` against the list model of C17 -/

theorem take_succ_of_drop {raw : Bytes} {i : Nat} {c : UInt8} {t : Bytes} (h : raw.drop i = c :: t) :
    i < raw.length ∧ raw.take (i + 1) = raw.take i ++ [c] ∧ raw.drop (i + 1) = t := by
  have hlt : i < raw.length := Nat.lt_of_not_le fun hle => by simp [List.drop_eq_nil_of_le hle] at h
  rw [List.drop_eq_getElem_cons hlt] at h
  exact ⟨hlt, by rw [List.take_succ_eq_append_getElem hlt, (List.cons.inj h).1], (List.cons.inj h).2⟩

theorem getSchemeLoop_eq (raw : Bytes) : ∀ (t : Bytes) (i : Nat), raw.drop i = t →
    getSchemeLoop raw t (i : Int) = some (Uri.getSchemeAux i (raw.take i) t)
  | [], i, _ => by simp [getSchemeLoop, Uri.getSchemeAux]
  | c :: t, i, h => by
    obtain ⟨hlen, h1, h2⟩ := take_succ_of_drop h
    have ih := getSchemeLoop_eq raw t (i + 1) h2
    unfold getSchemeLoop Uri.getSchemeAux
    rw [← h1]
    by_cases ha : Uri.isAlpha c = true
    · rw [if_pos ha, if_pos ha]; exact_mod_cast ih
    · rw [if_neg ha, if_neg ha]
      by_cases hd : ((48 ≤ c && c ≤ 57) || c == 43 || c == 45 || c == 46) = true
      · rw [if_pos hd, if_pos hd]
        by_cases h0 : i = 0
        · subst h0; simp
        · rw [if_neg (by omega), if_neg h0]; exact_mod_cast ih
      · rw [if_neg hd, if_neg hd]
        by_cases hc : c = 58
        · rw [if_pos hc, if_pos hc]
          by_cases h0 : i = 0
          · subst h0; simp
          · rw [if_neg (by omega), if_neg h0, slTo_take raw i _ rfl (by omega), Option.bind_some,
              slFrom_drop raw (i + 1) _ (by omega) hlen, Option.bind_some, h2]
        · rw [if_neg hc, if_neg hc]

theorem cut_at_index (scheme u : Bytes) (n : Nat) (hn : n < u.length) :
    ((slTo u (n : Int)).bind fun h => (slFrom u (n : Int)).bind fun r => some (scheme, h, r)) = some (scheme, u.take n, u.drop n) := by
  rw [slTo_take u n _ rfl (by omega), Option.bind_some, slFrom_drop u n _ rfl (by omega), Option.bind_some]

/-- the checked `splitHostURI` computes the list model of C17 -/
theorem splitHostURI_eq (host uri : Bytes) : splitHostURI host uri = some (Uri.splitHostURI host uri) := by
  unfold splitHostURI Uri.splitHostURI Uri.getScheme
  have hg := getSchemeLoop_eq uri uri 0 rfl
  simp only [List.take_zero, Int.natCast_zero] at hg
  rw [hg, Option.bind_some]
  cases Uri.getSchemeAux 0 [] uri with
  | none => rfl
  | some sp =>
    obtain ⟨scheme, path⟩ := sp
    dsimp only
    by_cases hp : (!strSlashSlash.isPrefixOf path) = true
    · rw [if_pos hp, if_pos hp]
    · rw [if_neg hp, if_neg hp]
      have hl : ((2 : Nat) : Int) ≤ len path := isPrefixOf_len (p := strSlashSlash) (by simpa using hp)
      rw [slFrom_drop path 2 (len strSlashSlash) rfl (Int.ofNat_le.mp hl), Option.bind_some]
      unfold indexByte
      cases h47 : Uri.indexOf 47 (List.drop 2 path) with
      | some n =>
        dsimp only
        rw [if_neg (by omega)]
        exact cut_at_index scheme _ n (indexOf_lt 47 _ n h47)
      | none =>
        dsimp only
        rw [if_pos (by omega)]
        cases h63 : Uri.indexOf 63 (List.drop 2 path) with
        | some n =>
          dsimp only
          rw [if_pos (by omega)]
          exact cut_at_index scheme _ n (indexOf_lt 63 _ n h63)
        | none =>
          dsimp only
          rw [if_neg (by omega)]

end Hertz.NF
