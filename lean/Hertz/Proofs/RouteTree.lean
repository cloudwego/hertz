import Hertz.Proofs.RouteDefs
/-!
Facts about the denotation (`routes`, `bounds`) and the invariants (`WF`, `PnOK`) of `RouteDefs` that the insertion
proofs and the search proofs share: each unfolded at a node, over appended child lists, and the first byte of every key
and boundary below a well-formed node (its label).  Byte codes here and in the other `Route*` files: 58 = `:`, 42 = `*`,
47 = `/`.
-/
namespace Hertz.Route

def hsPart (hs : Option Nat) (ppath : Bytes) (pnames : List Bytes) : List (Bytes × Val) :=
  match hs with | some h => [(([] : Bytes), Val.mk h ppath pnames)] | none => []

def pref (p : Bytes) (kv : Bytes × Val) : Bytes × Val := (p ++ kv.1, kv.2)

theorem routes_eq_body (n : Node) : routes n = (routesBody n).map (pref n.pfx) := by
  cases n; unfold routes; rfl

/-- `routes_eq_body` at a constructor, where `routesBody` is the four lists appended -/
theorem routes_mk (kind label pfx cs ppath pnames hs pc ac) :
    routes (.mk kind label pfx cs ppath pnames hs pc ac) =
      (hsPart hs ppath pnames ++ routesL cs ++ routesO pc ++ routesO ac).map (pref pfx) :=
  routes_eq_body _

theorem bounds_mk (kind label pfx cs ppath pnames hs pc ac) :
    bounds (.mk kind label pfx cs ppath pnames hs pc ac) =
      (([] : Bytes) :: (boundsL cs ++ boundsO pc ++ boundsO ac)).map (fun k => pfx ++ k) := by
  unfold bounds; rfl

theorem WF_mk (kind label pfx cs ppath pnames hs pc ac pos) :
    WF (.mk kind label pfx cs ppath pnames hs pc ac) pos ↔
    (kind = pos ∧ label = pfx.headD 0 ∧
    (match pos with
      | .skind => pfx ≠ [] ∧ Lit pfx
      | .pkind => pfx = [58]
      | .akind => pfx = [42] ∧ cs = [] ∧ pc = none ∧ ac = none ∧ hs.isSome = true) ∧
    WFL cs ∧ (cs.map Node.label).Nodup ∧ WFO pc .pkind ∧ WFO ac .akind) := by
  unfold WF; exact Iff.rfl

theorem PnOK_mk (kind label pfx cs ppath pnames hs pc ac j cap) :
    PnOK (.mk kind label pfx cs ppath pnames hs pc ac) j cap ↔
    (depthAt kind j ≤ cap ∧ (hs.isSome = true → pnames.length = depthAt kind j) ∧
    PnOKL cs (depthAt kind j) cap ∧ PnOKO pc (depthAt kind j) cap ∧ PnOKO ac (depthAt kind j) cap) := by
  unfold PnOK; exact Iff.rfl

theorem WF_any (c : Node) (h : WF c .akind) :
    ∃ label pp pn x, c = .mk .akind label [42] [] pp pn (some x) none none := by
  obtain ⟨kind, label, pfx, cs, pp, pn, hs, pc, ac⟩ := c
  rw [WF_mk] at h
  obtain ⟨rfl, -, ⟨rfl, rfl, rfl, rfl, hhs⟩, -⟩ := h
  cases hs with
  | none => cases hhs
  | some x => exact ⟨label, pp, pn, x, rfl⟩

theorem PnOK_any {label pp pn x j cap} (h : PnOK (.mk .akind label [42] [] pp pn (some x) none none) j cap) :
    j + 1 ≤ cap ∧ pn.length = j + 1 := by
  rw [PnOK_mk] at h
  exact ⟨h.1, h.2.1 rfl⟩

theorem routes_leaf (t l s pp pn h) : routes (.mk t l s [] pp pn h none none) = (hsPart h pp pn).map (pref s) := by
  simp only [routes_mk, routesL, routesO, List.append_nil]

theorem bounds_leaf (t l s pp pn h) : bounds (.mk t l s [] pp pn h none none) = [s] := by
  simp only [bounds_mk, boundsL, boundsO, List.append_nil, List.map_cons, List.map_nil]

theorem routesL_append : ∀ (a b : List Node), routesL (a ++ b) = routesL a ++ routesL b
  | [], b => by simp [routesL]
  | c :: a, b => by simp [routesL, routesL_append a b]

theorem boundsL_append : ∀ (a b : List Node), boundsL (a ++ b) = boundsL a ++ boundsL b
  | [], b => by simp [boundsL]
  | c :: a, b => by simp [boundsL, boundsL_append a b]

theorem WFL_append : ∀ (a b : List Node), WFL (a ++ b) ↔ WFL a ∧ WFL b
  | [], b => by simp [WFL]
  | c :: a, b => by simp [WFL, WFL_append a b, and_assoc]

theorem PnOKL_append : ∀ (a b : List Node) j cap, PnOKL (a ++ b) j cap ↔ PnOKL a j cap ∧ PnOKL b j cap
  | [], b, j, cap => by simp [PnOKL]
  | c :: a, b, j, cap => by simp [PnOKL, PnOKL_append a b, and_assoc]

theorem mem_boundsL : ∀ (cs : List Node) (k : Bytes), k ∈ boundsL cs → ∃ c, c ∈ cs ∧ k ∈ bounds c
  | [], k => by simp [boundsL]
  | c :: r, k => by
    simp only [boundsL, List.mem_append]
    rintro (h | h)
    · exact ⟨c, by simp, h⟩
    · obtain ⟨c', h1, h2⟩ := mem_boundsL r k h
      exact ⟨c', by simp [h1], h2⟩

theorem WFL_mem : ∀ (cs : List Node) (c : Node), WFL cs → c ∈ cs → WF c .skind
  | [], c => by simp
  | c' :: r, c => by
    simp only [WFL, List.mem_cons]
    rintro ⟨h1, h2⟩ (h | h)
    · exact h ▸ h1
    · exact WFL_mem r c h2 h

theorem WF_pfx (n : Node) (pos : Kind) (h : WF n pos) : n.pfx.head? = some n.label := by
  cases n with
  | mk kind label pfx cs ppath pnames hs pc ac =>
    rw [WF_mk] at h
    obtain ⟨-, hl, hp, -⟩ := h
    simp only [Node.pfx, Node.label]
    cases pos
    · cases pfx with
      | nil => exact absurd rfl hp.1
      | cons a p => simp [hl]
    · simp at hp; simp [hl, hp]
    · simp at hp; simp [hl, hp.1]

theorem WF_label (n : Node) (pos : Kind) (h : WF n pos) :
    match pos with
    | .skind => n.label ≠ 58 ∧ n.label ≠ 42
    | .pkind => n.label = 58
    | .akind => n.label = 42 := by
  cases n with
  | mk kind label pfx cs ppath pnames hs pc ac =>
    rw [WF_mk] at h
    obtain ⟨-, hl, hp, -⟩ := h
    simp only [Node.label]
    cases pos
    · cases pfx with
      | nil => exact absurd rfl hp.1
      | cons a p => simp at hl; subst hl; exact hp.2 _ (by simp)
    · simp at hp; simp [hl, hp]
    · simp at hp; simp [hl, hp.1]

theorem bounds_head (n : Node) (pos : Kind) (h : WF n pos) (k : Bytes) (hk : k ∈ bounds n) :
    k.head? = some n.label := by
  have := WF_pfx n pos h
  cases n with
  | mk kind label pfx cs ppath pnames hs pc ac =>
    rw [bounds_mk] at hk
    simp only [Node.pfx, Node.label] at this ⊢
    obtain ⟨x, -, rfl⟩ := List.mem_map.1 hk
    rw [List.head?_append, this, Option.some_or]

theorem boundsO_head (o : Option Node) (pos : Kind) (ho : WFO o pos) (k : Bytes) (hk : k ∈ boundsO o) :
    ∃ c, o = some c ∧ k ∈ bounds c ∧ k.head? = some c.label := by
  cases o with
  | none => simp [boundsO] at hk
  | some c => exact ⟨c, rfl, hk, bounds_head c _ ho k hk⟩

def keys (R : List (Bytes × Val)) : List Bytes := R.map (·.1)

theorem keys_pfx {kind label pfx cs ppath pnames hs pc ac} {k : Bytes}
    (hk : k ∈ keys (routes (.mk kind label pfx cs ppath pnames hs pc ac))) : ∃ x, k = pfx ++ x := by
  rw [routes_mk] at hk
  simp only [keys, List.map_map, List.mem_map, Function.comp, pref] at hk
  obtain ⟨kv, -, rfl⟩ := hk
  exact ⟨_, rfl⟩

theorem keys_head (n : Node) (pos : Kind) (h : WF n pos) (k : Bytes) (hk : k ∈ keys (routes n)) :
    k.head? = some n.label := by
  have := WF_pfx n pos h
  cases n with
  | mk kind label pfx cs ppath pnames hs pc ac =>
    obtain ⟨x, rfl⟩ := keys_pfx hk
    rw [List.head?_append, show pfx.head? = some label from this, Option.some_or]
    rfl

theorem keysL_head : ∀ (cs : List Node), WFL cs → ∀ k, k ∈ keys (routesL cs) → ∃ c, c ∈ cs ∧ k.head? = some c.label
  | [], _, k, hk => by simp [routesL, keys] at hk
  | c :: r, hcs, k, hk => by
    simp only [routesL, keys, List.map_append, List.mem_append] at hk
    rcases hk with h | h
    · exact ⟨c, List.mem_cons_self, keys_head c _ hcs.1 k h⟩
    · obtain ⟨c', hm, hh⟩ := keysL_head r hcs.2 k h
      exact ⟨c', List.mem_cons_of_mem _ hm, hh⟩

theorem keysO_head (o : Option Node) (pos : Kind) (ho : WFO o pos) (k : Bytes) (hk : k ∈ keys (routesO o)) :
    ∃ c, o = some c ∧ k.head? = some c.label := by
  cases o with
  | none => simp [routesO, keys] at hk
  | some c => exact ⟨c, rfl, keys_head c _ ho k hk⟩

end Hertz.Route
