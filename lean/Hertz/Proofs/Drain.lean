import Hertz.Model.Http1.Drain
/-!
The piecewise drain of an unread chunk (`skipLeft`) against the concatenation of what is buffered and the segments still to
come: `skipLeft_spec`, by induction over the rounds, each of which finds a non-empty buffer (`peek_spec`) or the peer gone.
-/
namespace Hertz.H1.Drain
open Hertz

/-- the next read: nothing will ever come, or a non-empty segment in front of those still to come -/
theorem fill_spec : ∀ (segs : List Bytes),
    match fill segs with
    | none => segs.flatten = []
    | some (b, t) => b ≠ [] ∧ b ++ t.flatten = segs.flatten
  | [] => rfl
  | x :: xs => by
    unfold fill
    cases x with
    | nil => exact fill_spec xs
    | cons c t => exact ⟨List.cons_ne_nil c t, rfl⟩

/-- `Peek(1)`: nothing will ever come, or there is a non-empty buffer in front of the segments still to come -/
theorem peek_spec (buf : Bytes) (segs : List Bytes) :
    match (if buf.isEmpty then fill segs else some (buf, segs)) with
    | none => buf ++ segs.flatten = []
    | some (b, t) => b ≠ [] ∧ b ++ t.flatten = buf ++ segs.flatten := by
  cases buf with
  | nil => exact fill_spec segs
  | cons c t => exact ⟨List.cons_ne_nil c t, rfl⟩

/-- for EVERY way the bytes arrive: `left` bytes are skipped exactly, or the peer is gone before they came -/
theorem skipLeft_spec : ∀ (fuel : Nat) (rd : Rd) (left : Nat), left ≤ fuel →
    (left ≤ rd.all.length → ∃ rd', skipLeft fuel rd left = some rd' ∧ rd'.all = rd.all.drop left) ∧
    (rd.all.length < left → skipLeft fuel rd left = none)
  | fuel, rd, 0, _ => by
    refine ⟨fun _ => ⟨rd, ?_, by simp⟩, fun h => by omega⟩
    cases fuel <;> rfl
  | 0, _, _ + 1, h => by omega
  | fuel + 1, rd, left + 1, hf => by
    unfold skipLeft
    have hp := peek_spec rd.buf rd.segs
    generalize (if rd.buf.isEmpty then fill rd.segs else some (rd.buf, rd.segs)) = o at hp ⊢
    match o, hp with
    | none, hp => exact ⟨fun h => by simp [Rd.all, hp] at h, fun _ => rfl⟩
    | some (b, segs), ⟨hb, (hall : _ = rd.all)⟩ =>
      have hpos : 0 < b.length := List.length_pos_iff.mpr hb
      simp only
      -- a round skips `k` bytes, at least one, out of the buffer
      generalize hk : min b.length (left + 1) = k
      have hk1 : k ≤ b.length := by omega
      have hk2 : k ≤ left + 1 := by omega
      have hk0 : 0 < k := by omega
      clear hk
      have ih := skipLeft_spec fuel ⟨b.drop k, segs⟩ (left + 1 - k) (by omega)
      have hall' : (⟨b.drop k, segs⟩ : Rd).all = rd.all.drop k := by
        rw [← hall, List.drop_append_of_le_length hk1]; rfl
      have hlen : rd.all.length = b.length + segs.flatten.length := by rw [← hall, List.length_append]
      rw [hall', List.length_drop, List.drop_drop, show k + (left + 1 - k) = left + 1 by omega] at ih
      exact ⟨fun h => ih.1 (by omega), fun h => ih.2 (by omega)⟩

end Hertz.H1.Drain
