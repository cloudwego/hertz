import Hertz.Proofs.FieldLine
import Hertz.Proofs.SpecHex
import Hertz.Proofs.Tables
import Hertz.Spec.Trailers
/-!
Field lines in every spelling that the strict decoder `Spec/Http.lean` accepts (C01: the round trip of the request
reader for all of them):

  `name ":" raw CRLF ( cont CRLF )*`

where `raw` is any run of field-vchars (so any optional whitespace — SP / HTAB, none, several — before
and after the value), and every `cont` is an obs-fold continuation line: it starts with SP / HTAB, consists
of field-vchars and contains no colon (hertz refuses folded lines with a colon; the strict decoder flags them
`foldedColon` and the comparison says nothing about them).

`hval f` is what the handler is handed for the field, `sval f` what the strict decoder returns; `canon` is the
value canonicalisation (`= Driver.H1Spec.canonVal`, the function the per-case check compares values with) and
`canon (hval f) = canon (sval f)` (`Proofs/ReqOwsCanon.lean`).

Each reader (the scanner, the completeness pre-check, the strict decoder's field reader) is followed over one line, then
over a block of lines up to the empty line; the last part follows `ext.ReadTrailer` over a whole trailer section.
Up to its last section (the request line) nothing here speaks of requests or responses: `Proofs/ReqRoundtrip.lean`,
`ReqDecodes.lean` and the response side (`RespRoundtrip.lean`) import it.
-/
namespace Hertz.H1.RT
open Hertz Hertz.H1 Hertz.Gen.Str Hertz.Spec.Http

/-! ### table facts -/

/-- what the readers need of a token byte: no line end, blank or colon, and `normalizeKey`'s case conversion does not
turn it into a blank (`applyHeader` refuses a key that contains one) -/
structure TcharFacts (c : UInt8) : Prop where
  ne10 : c ≠ 10
  ne13 : c ≠ 13
  ne32 : c ≠ 32
  ne9 : c ≠ 9
  ne58 : c ≠ 58
  up32 : toUpper c ≠ 32
  up9 : toUpper c ≠ 9
  lo32 : toLower c ≠ 32
  lo9 : toLower c ≠ 9

theorem tchar_facts (c : UInt8) (h : isTchar c = true) : TcharFacts c := by
  have ne : ∀ x : UInt8, isTchar x = false → c ≠ x := fun x hx hc => by rw [hc, hx] at h; cases h
  -- only the bytes that case conversion maps to a blank are tried against `isTchar`, not all 256
  have conv : ∀ c, (toUpper c = 32 ∨ toUpper c = 9) ∨ (toLower c = 32 ∨ toLower c = 9) → isTchar c = false := by
    simp only [toUpper_eq_arith, toLower_eq_arith]
    exact forall_byte (by decide +kernel)
  have nc : ∀ {p : Prop}, (p → isTchar c = false) → ¬ p := fun hp x => by rw [hp x] at h; cases h
  exact ⟨ne 10 (by decide), ne 13 (by decide), ne 32 (by decide), ne 9 (by decide), ne 58 (by decide),
    nc fun x => conv c (.inl (.inl x)), nc fun x => conv c (.inl (.inr x)),
    nc fun x => conv c (.inr (.inl x)), nc fun x => conv c (.inr (.inr x))⟩

/-- `validHeaderFieldValueTable` marks exactly the field-vchars -/
theorem vchar_facts (c : UInt8) (h : isFieldVchar c = true) :
    c ≠ 10 ∧ c ≠ 13 ∧ tget Gen.validHeaderFieldValueTable c ≠ 0 := by
  refine ⟨?_, ?_, ?_⟩
  · rintro rfl; exact absurd h (by decide)
  · rintro rfl; exact absurd h (by decide)
  · have := validHeaderFieldValueTable_eq c
    rw [show (c == 9 || (32 ≤ c && c != 127)) = isFieldVchar c from rfl, h] at this
    simpa using this

theorem token_facts (k : Bytes) (h : isToken k = true) : k ≠ [] ∧ ∀ x ∈ k, TcharFacts x := by
  simp only [isToken, Bool.and_eq_true, Bool.not_eq_true', List.isEmpty_eq_false_iff, List.all_eq_true] at h
  exact ⟨h.1, fun x hx => tchar_facts x (h.2 x hx)⟩

theorem normKeyAux_noblank (up : Bool) (k : Bytes) (h : ∀ x ∈ k, TcharFacts x) :
    ∀ x ∈ normKeyAux up k, x ≠ 32 ∧ x ≠ 9 := by
  fun_induction normKeyAux up k with
  | case1 => simp
  | case2 c t ih =>
    rw [List.forall_mem_cons] at h ⊢
    exact ⟨⟨h.1.up32, h.1.up9⟩, ih h.2⟩
  | case3 t ih =>
    rw [List.forall_mem_cons] at h ⊢
    exact ⟨by decide, ih h.2⟩
  | case4 c t hc ih =>
    rw [List.forall_mem_cons] at h ⊢
    exact ⟨⟨h.1.lo32, h.1.lo9⟩, ih h.2⟩

theorem normalizeKey_facts (dn : Bool) (k : Bytes) (hk : isToken k = true) :
    normalizeKey dn k ≠ [] ∧ (normalizeKey dn k).contains 32 = false ∧ (normalizeKey dn k).contains 9 = false := by
  obtain ⟨hk0, hkf⟩ := token_facts k hk
  have hnb : ∀ x ∈ normalizeKey dn k, x ≠ 32 ∧ x ≠ 9 := by
    unfold normalizeKey
    cases dn
    · simpa using normKeyAux_noblank true k hkf
    · intro x hx; simp at hx; exact ⟨(hkf x hx).ne32, (hkf x hx).ne9⟩
  refine ⟨?_, ?_, ?_⟩
  · intro h0
    have : (normalizeKey dn k).length = k.length := by
      unfold normalizeKey; cases dn <;> simp [normKeyAux_length]
    rw [h0] at this
    exact hk0 (List.length_eq_zero_iff.mp this.symm)
  · simpa using fun hc => (hnb 32 hc).1 rfl
  · simpa using fun hc => (hnb 9 hc).2 rfl

/-! ### spelled field lines -/

def isBlank (c : UInt8) : Bool := c == 32 || c == 9

/-- continuation line: starts with SP / HTAB, field-vchars only, no colon -/
def wfCont (c : Bytes) : Bool :=
  (match c with | x :: _ => isBlank x | [] => false) && c.all isFieldVchar && c.all (· != 58)

/-- the strict decoder's conditions on a field (token name, field-vchars), plus: no colon in a continuation line -/
def wfFLine (f : FLine) : Bool := isToken f.name && f.raw.all isFieldVchar && f.conts.all wfCont

/-- what the strict decoder returns: OWS-trimmed first line, every continuation line OWS-trimmed and joined by one SP -/
def sval (f : FLine) : Bytes := f.conts.foldl (fun v c => trimOWS (v ++ 32 :: trimOWS c)) (trimOWS f.raw)

def hField (f : FLine) : Bytes × Bytes := (f.name, hval f)
def sField (f : FLine) : Bytes × Bytes := (f.name, sval f)

/-! ### facts about well-formed lines -/

/-- a continuation line the scanner reads (`ContOk`) that the strict decoder accepts as well -/
structure ContFacts (c : Bytes) : Prop extends ContOk c where
  vchar : c.all isFieldVchar = true

theorem wfCont_facts (c : Bytes) (h : wfCont c = true) : ContFacts c := by
  simp only [wfCont, Bool.and_eq_true, List.all_eq_true, bne_iff_ne, ne_eq] at h
  obtain ⟨⟨h1, h2⟩, h3⟩ := h
  refine ⟨⟨?_, ?_, ?_⟩, ?_⟩
  · intro e; subst e; simp at h1
  · intro x hx
    cases c with
    | nil => simp at hx
    | cons y t =>
      simp at hx; subst hx
      simpa [isBlank] using h1
  · intro x hx
    have := vchar_facts x (h2 x hx)
    exact ⟨this.1, this.2.1, h3 x hx⟩
  · simpa [List.all_eq_true] using h2

structure FLineFacts (f : FLine) : Prop where
  tok : isToken f.name = true
  name_ne : f.name ≠ []
  name : ∀ x ∈ f.name, TcharFacts x
  raw : ∀ x ∈ f.raw, x ≠ 10 ∧ x ≠ 13
  rawv : f.raw.all isFieldVchar = true
  conts : ∀ c ∈ f.conts, ContFacts c

theorem wfFLine_facts (f : FLine) (h : wfFLine f = true) : FLineFacts f := by
  simp only [wfFLine, Bool.and_eq_true] at h
  obtain ⟨⟨h1, h2⟩, h3⟩ := h
  obtain ⟨hk0, hkf⟩ := token_facts f.name h1
  refine ⟨h1, hk0, hkf, ?_, h2, ?_⟩
  · intro x hx
    simp only [List.all_eq_true] at h2
    have := vchar_facts x (h2 x hx)
    exact ⟨this.1, this.2.1⟩
  · intro c hc
    simp only [List.all_eq_true] at h3
    exact wfCont_facts c (h3 c hc)

/-- the first line of a field, up to its CRLF -/
theorem FLineFacts.line_clean {f : FLine} (F : FLineFacts f) : ∀ x ∈ f.name ++ 58 :: f.raw, x ≠ 13 ∧ x ≠ 10 := by
  intro x hx
  simp only [List.mem_append, List.mem_cons] at hx
  rcases hx with hx | hx | hx
  · exact ⟨(F.name x hx).ne13, (F.name x hx).ne10⟩
  · subst hx; decide
  · exact ⟨(F.raw x hx).2, (F.raw x hx).1⟩

/-! ### the strict decoder on a spelled field -/

theorem fieldsAux_conts (k : Bytes) (rest : Bytes) (acc : List (Bytes × Bytes)) (fuel : Nat) :
    ∀ (cs : List Bytes) (v : Bytes), (∀ c ∈ cs, ContFacts c) →
    fieldsAux (fuel + cs.length) (encConts cs ++ rest) ((k, v) :: acc) =
      fieldsAux fuel rest ((k, cs.foldl (fun v c => trimOWS (v ++ 32 :: trimOWS c)) v) :: acc)
  | [], v, _ => by simp [encConts]
  | c :: t, v, h => by
    have hc := h c (by simp)
    have ih := fieldsAux_conts k rest acc fuel t (trimOWS (v ++ 32 :: trimOWS c)) (fun x hx => h x (by simp [hx]))
    have e : encConts (c :: t) ++ rest = c ++ 13 :: 10 :: (encConts t ++ rest) := by simp [encConts]
    have hcl : ∀ x ∈ c, x ≠ 13 ∧ x ≠ 10 := fun x hx => ⟨(hc.clean x hx).2.1, (hc.clean x hx).1⟩
    rw [e, show fuel + (c :: t).length = (fuel + t.length) + 1 by simp; omega]
    simp only [fieldsAux, crlfLine_append _ _ hcl]
    obtain ⟨a, c', rfl⟩ := List.exists_cons_of_ne_nil hc.ne_nil
    have ha := hc.head a rfl
    have hv := hc.vchar
    simp only [List.isEmpty_cons, Bool.false_eq_true, if_false, ha, if_true, hv, Bool.not_true, List.foldl_cons]
    exact ih

theorem fieldsAux_fline (f : FLine) (rest : Bytes) (acc : List (Bytes × Bytes)) (fuel : Nat) (hf : wfFLine f = true) :
    fieldsAux (fuel + (f.conts.length + 1)) (encFLine f ++ rest) acc = fieldsAux fuel rest (sField f :: acc) := by
  have F := wfFLine_facts f hf
  have e : encFLine f ++ rest = (f.name ++ 58 :: f.raw) ++ 13 :: 10 :: (encConts f.conts ++ rest) := by
    simp [encFLine]
  have hsplit := splitAt1_append 58 f.name f.raw (fun x hx => (F.name x hx).ne58)
  rw [e, show fuel + (f.conts.length + 1) = (fuel + f.conts.length) + 1 by omega]
  simp only [fieldsAux, crlfLine_append _ _ F.line_clean]
  obtain ⟨a, k', hk⟩ := List.exists_cons_of_ne_nil F.name_ne
  have ha := F.name a (by simp [hk])
  rw [hk] at hsplit ⊢
  simp only [List.cons_append, List.isEmpty_cons, Bool.false_eq_true, if_false, ha.ne32, ha.ne9, or_self]
  simp only [← List.cons_append, hsplit]
  rw [← hk]
  simp only [F.tok, F.rawv, Bool.not_true, Bool.or_self, Bool.false_eq_true, if_false]
  rw [fieldsAux_conts f.name rest acc fuel f.conts (trimOWS f.raw) F.conts]
  rfl

/-! ### no folded line with a colon -/

theorem hasFoldedColon_conts (rest : Bytes) (hrest : ∀ fuel, hasFoldedColon fuel rest = false) :
    ∀ (cs : List Bytes), (∀ c ∈ cs, ContFacts c) → ∀ fuel, hasFoldedColon fuel (encConts cs ++ rest) = false
  | [], _, fuel => by simpa [encConts] using hrest fuel
  | c :: t, h, fuel => by
    cases fuel with
    | zero => rfl
    | succ fuel =>
      have hc := h c (by simp)
      have ih := hasFoldedColon_conts rest hrest t (fun x hx => h x (by simp [hx])) fuel
      have e : encConts (c :: t) ++ rest = c ++ 13 :: 10 :: (encConts t ++ rest) := by simp [encConts]
      have hcl : ∀ x ∈ c, x ≠ 13 ∧ x ≠ 10 := fun x hx => ⟨(hc.clean x hx).2.1, (hc.clean x hx).1⟩
      have h58 : c.contains 58 = false := by
        rw [Bool.eq_false_iff]; intro hcon
        simp only [List.contains_iff_mem] at hcon
        exact (hc.clean 58 hcon).2.2 rfl
      rw [e]
      simp only [hasFoldedColon, crlfLine_append _ _ hcl, ih, h58]
      cases c with
      | nil => exact absurd rfl hc.ne_nil
      | cons _ _ => simp

theorem hasFoldedColon_fline (f : FLine) (rest : Bytes) (hf : wfFLine f = true)
    (hrest : ∀ fuel, hasFoldedColon fuel rest = false) : ∀ fuel, hasFoldedColon fuel (encFLine f ++ rest) = false := by
  intro fuel
  cases fuel with
  | zero => rfl
  | succ fuel =>
    have F := wfFLine_facts f hf
    have e : encFLine f ++ rest = (f.name ++ 58 :: f.raw) ++ 13 :: 10 :: (encConts f.conts ++ rest) := by
      simp [encFLine]
    have ih := hasFoldedColon_conts rest hrest f.conts F.conts fuel
    rw [e]
    simp only [hasFoldedColon, crlfLine_append _ _ F.line_clean, ih]
    obtain ⟨a, k', hk⟩ := List.exists_cons_of_ne_nil F.name_ne
    have ha := F.name a (by simp [hk])
    rw [hk]
    simp [ha.ne32, ha.ne9]

/-! ### the handler's value consists of field-vchars -/

theorem tabsToSp_vchar : ∀ c : Bytes, c.all isFieldVchar = true → (tabsToSp c).all isFieldVchar = true
  | [], _ => rfl
  | x :: t, h => by
    simp only [List.all_cons, Bool.and_eq_true] at h
    by_cases hx : x = 9
    · subst hx
      simp only [tabsToSp, if_true, List.all_cons, Bool.and_eq_true]
      exact ⟨by decide, tabsToSp_vchar t h.2⟩
    · simp only [tabsToSp, hx, if_false, List.all_cons, Bool.and_eq_true]
      exact h

theorem unfoldH_vchar : ∀ cs : List Bytes, (∀ c ∈ cs, ContFacts c) → (unfoldH cs).all isFieldVchar = true
  | [], _ => rfl
  | c :: t, h => by
    simp only [unfoldH, List.all_append, Bool.and_eq_true]
    exact ⟨tabsToSp_vchar c (h c (by simp)).vchar, unfoldH_vchar t (fun x hx => h x (by simp [hx]))⟩

theorem hval_vchar (f : FLine) (hf : wfFLine f = true) : (hval f).all isFieldVchar = true := by
  have F := wfFLine_facts f hf
  have hall : (f.raw ++ unfoldH f.conts).all isFieldVchar = true := by
    simp only [List.all_append, Bool.and_eq_true]
    exact ⟨F.rawv, unfoldH_vchar f.conts F.conts⟩
  simp only [List.all_eq_true] at hall ⊢
  intro x hx
  unfold hval at hx
  rw [trimOWS_eq] at hx
  exact hall x ((List.dropWhile_sublist _).mem ((strip_prefix isOWS _).subset hx))

/-! ### one call of `HeaderScanner.Next` on a spelled field -/

theorem FLineFacts.ok {f : FLine} (F : FLineFacts f) : LineOk f :=
  ⟨fun x hx => ⟨(F.name x hx).ne10, (F.name x hx).ne58⟩, F.raw, fun c hc => (F.conts c hc).toContOk⟩

theorem scanNext_fline (dn : Bool) (f : FLine) (rest : Bytes) (hf : wfFLine f = true) (hr : headOk rest) :
    scanNext dn (encFLine f ++ rest) = .kv (normalizeKey dn f.name) (hval f) rest (encFLine f).length :=
  scanNext_fold dn f rest (wfFLine_facts f hf).ok hr

/-! ### the completeness pre-check (`ReadRawHeaders`) -/

/-- the pre-check passes over a spelled field: its first line is not blank (`hasBlank_line`), its continuation
lines are the scanner's `Conts` -/
theorem hasBlank_fline (f : FLine) (F : LineOk f) (T : Bytes) : HasBlank (encFLine f ++ T) ↔ HasBlank T := by
  have e : encFLine f ++ T = (f.name ++ 58 :: (f.raw ++ [13])) ++ 10 :: (encConts f.conts ++ T) := by simp [encFLine]
  rw [e, hasBlank_line _ _ (by
      intro y hy
      simp only [List.mem_append, List.mem_cons, List.not_mem_nil, or_false] at hy
      rcases hy with hy | rfl | hy | rfl
      · exact (F.name y hy).1
      · decide
      · exact (F.raw y hy).1
      · decide) (by simp) (by
      intro h
      rcases hn : f.name with _ | ⟨a, _ | _⟩ <;> simp [hn] at h),
    (encConts_conts f.conts fun c hc => (F.conts c hc).pos).hasBlank]

/-! ### a block of spelled lines, up to the empty line -/

theorem encFLine_length_pos (f : FLine) : 0 < (encFLine f).length := by
  simp [encFLine]; omega

theorem encFLines_cons_append (f : FLine) (fs : List FLine) (tail : Bytes) :
    encFLines (f :: fs) ++ tail = encFLine f ++ (encFLines fs ++ tail) := by
  simp [encFLines]

theorem encFLines_length_cons (f : FLine) (fs : List FLine) :
    (encFLines (f :: fs)).length = (encFLine f).length + (encFLines fs).length := by
  simp [encFLines]

theorem encFLines_length_ge : ∀ fs : List FLine, fs.length ≤ (encFLines fs).length
  | [] => by simp [encFLines]
  | f :: fs => by
    have := encFLines_length_ge fs
    have := encFLine_length_pos f
    rw [encFLines_length_cons]; simp; omega

/-- well-formed lines are a block the scanner reads through (`readBlock_flines`) -/
theorem blockOk_of_wf {fs : List FLine} (h : ∀ f ∈ fs, wfFLine f = true) : BlockOk fs := fun f hf =>
  have F := wfFLine_facts f (h f hf)
  ⟨F.ok, fun c hc => have := F.name c (List.mem_of_mem_head? hc); ⟨this.ne32, this.ne9⟩⟩

theorem tokens_of_wf {fs : List FLine} (h : ∀ f ∈ fs, wfFLine f = true) : ∀ f ∈ fs, isToken f.name = true :=
  fun f hf => (wfFLine_facts f (h f hf)).tok

theorem rawHeaders_encFLines : ∀ (fs : List FLine) (rest : Bytes), (∀ f ∈ fs, wfFLine f = true) →
    ∃ n, rawHeadersLen (encFLines fs ++ 13 :: 10 :: rest) = some n
  | [], rest, _ => ⟨2, by simp [encFLines, rawHeadersLen, rawHeadersAux]⟩
  | f :: fs, rest, h => by
    have ih := rawHeaders_encFLines fs rest (fun f hf => h f (by simp [hf]))
    rw [← Option.isSome_iff_exists] at ih ⊢
    rw [encFLines_cons_append]
    exact (hasBlank_fline f (wfFLine_facts f (h f (by simp))).ok _).mpr ih

theorem encConts_length_ge : ∀ cs : List Bytes, cs.length ≤ (encConts cs).length
  | [] => by simp [encConts]
  | c :: t => by
    have := encConts_length_ge t
    simp [encConts]; omega

theorem fieldsAux_encO : ∀ (fs : List FLine) (acc : List (Bytes × Bytes)) (rest : Bytes) (fuel : Nat),
    (encFLines fs).length < fuel → (∀ f ∈ fs, wfFLine f = true) →
    fieldsAux fuel (encFLines fs ++ 13 :: 10 :: rest) acc = some (acc.reverse ++ fs.map sField, rest)
  | [], acc, rest, fuel, hf, _ => by
    obtain ⟨f, rfl⟩ : ∃ f, fuel = f + 1 := ⟨fuel - 1, by omega⟩
    simp [fieldsAux, encFLines, crlfLine]
  | fl :: fs, acc, rest, fuel, hf, hw => by
    -- one unit of fuel per line of the field: each line has at least its CRLF
    have := encConts_length_ge fl.conts
    simp only [encFLines, encFLine, List.length_append, List.length_cons] at hf
    obtain ⟨f, rfl⟩ : ∃ f, fuel = f + (fl.conts.length + 1) := ⟨fuel - (fl.conts.length + 1), by omega⟩
    have ih := fieldsAux_encO fs (sField fl :: acc) rest f (by omega) (fun x hx => hw x (by simp [hx]))
    rw [encFLines_cons_append, fieldsAux_fline fl _ acc f (hw fl (by simp)), ih]
    simp

theorem hasFoldedColon_encO : ∀ (fs : List FLine) (rest : Bytes),
    (∀ f ∈ fs, wfFLine f = true) → ∀ fuel, hasFoldedColon fuel (encFLines fs ++ 13 :: 10 :: rest) = false
  | [], rest, _ => by
    intro fuel
    cases fuel <;> simp [hasFoldedColon, encFLines, crlfLine]
  | fl :: fs, rest, hw => by
    rw [encFLines_cons_append]
    exact hasFoldedColon_fline fl _ (hw fl (by simp)) (hasFoldedColon_encO fs rest (fun x hx => hw x (by simp [hx])))

/-! ### a trailer section -/

/-- the LAST field of the section has a forbidden name -/
def lastBad (dn : Bool) (trs : List FLine) : Bool :=
  match trs.getLast? with
  | some f => isBadTrailer (normalizeKey dn f.name)
  | none => false

theorem lastBad_false {dn : Bool} {trs : List FLine} (h : ∀ f ∈ trs, isBadTrailer (normalizeKey dn f.name) = false) :
    lastBad dn trs = false := by
  unfold lastBad
  cases hl : trs.getLast? with
  | none => rfl
  | some f => exact h f (List.mem_of_getLast? hl)

/-- on a section of field lines `parseTrailer` is its scanning loop: the section does not begin with a `0 CRLF` line,
since the first LF of a field line stands behind a colon (`noZeroLine_field`) -/
theorem parseTrailer_section (dn : Bool) (tr : List (Bytes × Option Bytes)) (trs : List FLine) (rest : Bytes)
    (hb : BlockOk trs) :
    parseTrailer dn tr (encFLines trs ++ 13 :: 10 :: rest) =
      parseTrailerLoop dn ((encFLines trs ++ 13 :: 10 :: rest).length + 1) (encFLines trs ++ 13 :: 10 :: rest) tr false 0 := by
  refine parseTrailer_plain dn tr _ ?_
  cases trs with
  | nil =>
    exact fun _ e => absurd (List.cons.inj e).1 (by decide)
  | cons fl t =>
    have e : encFLines (fl :: t) ++ 13 :: 10 :: rest =
        fl.name ++ 58 :: ((fl.raw ++ [13]) ++ 10 :: (encConts fl.conts ++ (encFLines t ++ 13 :: 10 :: rest))) := by
      simp [encFLines, encFLine]
    rw [e]
    exact noZeroLine_field _ _ _ (hb fl (by simp)).1.name

/-! #### the loop over the section

`parseTrailerLoop` goes through the fields of the section; every field lets `updateTrailer` fill the first announced
entry of its name that is still empty.  `Spec.Trailers.specTrailerView` says the same from the point of view of the
announced names (loop nesting exchanged, `updAll_unfilled`). -/

section
open Hertz.Spec.Trailers

/-- a trailer field as the reader keeps it: name normalised, value as the handler gets it -/
def tField (dn : Bool) (f : FLine) : Bytes × Bytes := (normalizeKey dn f.name, hval f)

/-- the trailer section as the reader uses it: fields with a forbidden name (`IsBadTrailer`) are skipped -/
def secSeen (dn : Bool) (trs : List FLine) : List (Bytes × Bytes) :=
  (trs.map (tField dn)).filter (fun kv => !isBadTrailer kv.1)

def updAll (tr : List (Bytes × Option Bytes)) (sec : List (Bytes × Bytes)) : List (Bytes × Option Bytes) :=
  sec.foldl (fun t kv => updateTrailer t kv.1 kv.2) tr

/-- what `parseTrailer` makes of the fields of a whole section: every field overwrites `err` (so only the last one
counts); a field with an allowed name fills its entry -/
theorem trailerFold_section (dn : Bool) : ∀ (todo : List FLine) (tr : List (Bytes × Option Bytes)) (err : Bool),
    (∀ f ∈ todo, isToken f.name = true) →
    (todo.map (tField dn)).foldl trailerStep (tr, err) =
      (updAll tr (secSeen dn todo), (todo.getLast?.map fun f => isBadTrailer (normalizeKey dn f.name)).getD err)
  | [], _, _, _ => rfl
  | fl :: todo, tr, err, h => by
    obtain ⟨h0, h32, h9⟩ := normalizeKey_facts dn fl.name (h fl (by simp))
    have hemp : (normalizeKey dn fl.name).isEmpty = false := List.isEmpty_eq_false_iff.mpr h0
    have ih := fun tr' err' => trailerFold_section dn todo tr' err' (fun x hx => h x (by simp [hx]))
    have hlast : ((fl :: todo).getLast?.map fun f => isBadTrailer (normalizeKey dn f.name)).getD err =
        (todo.getLast?.map fun f => isBadTrailer (normalizeKey dn f.name)).getD (isBadTrailer (normalizeKey dn fl.name)) := by
      rw [List.getLast?_cons]
      cases todo.getLast? <;> rfl
    -- a forbidden name sets `err` and leaves the entries; any other name clears `err` and fills its entry
    have hstep : trailerStep (tr, err) (tField dn fl) =
        (if isBadTrailer (normalizeKey dn fl.name) = true then tr else updateTrailer tr (normalizeKey dn fl.name) (hval fl),
          isBadTrailer (normalizeKey dn fl.name)) := by
      simp only [trailerStep, tField, hemp, h32, h9, Bool.or_self, Bool.false_eq_true, if_false]
      by_cases hb : isBadTrailer (normalizeKey dn fl.name) = true <;> simp [hb]
    rw [hlast, List.map_cons, List.foldl_cons, hstep, ih]
    cases hb : isBadTrailer (normalizeKey dn fl.name) <;> simp [secSeen, updAll, tField, hb]

/-! #### exchange of the two loops -/

/-- an entry that has its value is passed over by every field -/
theorem updAll_filled (d w : Bytes) : ∀ (sec : List (Bytes × Bytes)) (t : List (Bytes × Option Bytes)),
    updAll ((d, some w) :: t) sec = (d, some w) :: updAll t sec
  | [], _ => rfl
  | (k, v) :: s, t => by
    simpa [updAll, updateTrailer] using updAll_filled d w s (updateTrailer t k v)

/-- an empty entry takes the first field of its name; every other field goes on to the entries behind it -/
theorem updAll_empty (d : Bytes) : ∀ (sec : List (Bytes × Bytes)) (t : List (Bytes × Option Bytes)),
    updAll ((d, none) :: t) sec =
      match takeFirst d sec with
      | some (v, sec') => (d, some v) :: updAll t sec'
      | none => (d, none) :: updAll t sec
  | [], _ => rfl
  | (k, v) :: s, t => by
    by_cases hd : d = k
    · subst hd
      simpa [updAll, updateTrailer, takeFirst] using updAll_filled d v s t
    · have hk : ¬ k = d := fun h => hd h.symm
      have ih := updAll_empty d s (updateTrailer t k v)
      simp only [updAll, List.foldl_cons, updateTrailer, Option.isNone_none, hd, and_false, if_false, takeFirst, hk] at ih ⊢
      rw [ih]
      cases takeFirst d s <;> rfl

/-- field by field (the code) = entry by entry (the specification) -/
theorem updAll_unfilled : ∀ (names : List Bytes) (sec : List (Bytes × Bytes)),
    filledTrailers (updAll (names.map (fun k => (k, (none : Option Bytes)))) sec) = specTrailerView names sec
  | [], sec => by
    induction sec with
    | nil => rfl
    | cons kv s ih => simpa [updAll, updateTrailer, specTrailerView] using ih
  | d :: ds, sec => by
    rw [List.map_cons, updAll_empty, specTrailerView]
    cases takeFirst d sec with
    | none => simp [filledTrailers, ← updAll_unfilled ds sec]
    | some p => simp [filledTrailers, ← updAll_unfilled ds p.2]

/-- `ext.ReadTrailer` on ANY well-formed trailer section after ANY announcement: refused when the last field has a
forbidden name; otherwise the handler's trailers are `specTrailerView` and exactly the section is consumed -/
theorem readTrailerReq_any (cfg : Cfg) (e : End) (names : List Bytes) (trs : List FLine) (rest : Bytes)
    (hb : BlockOk trs) (h : ∀ f ∈ trs, isToken f.name = true) :
    readTrailerReq cfg e names (encFLines trs ++ 13 :: 10 :: rest) =
      if lastBad cfg.disableNorm trs = true then .error .bad
      else .ok (some (specTrailerView names (secSeen cfg.disableNorm trs)), rest) := by
  have hlast : (trs.getLast?.map fun f => isBadTrailer (normalizeKey cfg.disableNorm f.name)).getD false =
      lastBad cfg.disableNorm trs := by
    unfold lastBad
    cases trs.getLast? <;> rfl
  have hne : (encFLines trs ++ 13 :: 10 :: rest).isEmpty = false := by simp
  have hd : List.drop ((encFLines trs).length + 2) (encFLines trs ++ 13 :: 10 :: rest) = rest :=
    List.drop_length_add_append 2
  unfold readTrailerReq
  simp only [hne, Bool.false_eq_true, if_false]
  -- the scanning loop is `trailerStep` folded over what the scanner hands out of the section
  rw [parseTrailer_section cfg.disableNorm _ trs rest hb, parseTrailerLoop_eq_fold,
    readBlock_flines cfg.disableNorm rest trs _ hb (by
      have := encFLines_length_ge trs
      simp only [List.length_append]; omega)]
  simp only [trailerFold,
    show (fun f : FLine => (normalizeKey cfg.disableNorm f.name, hval f)) = tField cfg.disableNorm from rfl,
    trailerFold_section cfg.disableNorm trs _ false h, hlast, Nat.zero_add]
  cases hlb : lastBad cfg.disableNorm trs
  · simp only [Bool.false_eq_true, if_false, hd]
    rw [updAll_unfilled]
  · simp

theorem specTrailerView_self : ∀ sec : List (Bytes × Bytes), specTrailerView (sec.map (·.1)) sec = sec
  | [] => rfl
  | (k, v) :: t => by simp [specTrailerView, takeFirst, specTrailerView_self t]

end

end Hertz.H1.RT

/-! ### the request line under the strict decoder: what both round trips and `ReqDecodes` need of it -/
namespace Hertz.ReqDecodes
open Hertz Hertz.Gen.Str Hertz.Spec.Http

theorem trimOWS_space (v : Bytes) : trimOWS (32 :: v) = trimOWS v := by
  simp [trimOWS, List.dropWhile]

theorem token_clean (k : Bytes) (h : isToken k = true) :
    ∀ x ∈ k, x ≠ 13 ∧ x ≠ 10 ∧ x ≠ 58 ∧ x ≠ 32 ∧ x ≠ 9 := fun x hx =>
  have t := (H1.RT.token_facts k h).2 x hx
  ⟨t.ne13, t.ne10, t.ne58, t.ne32, t.ne9⟩

/-- the request target the strict decoder accepts; letter for letter `RT.wfTarget` of the C01 round trip -/
def validTarget (t : Bytes) : Bool := !t.isEmpty && t.all (fun c => 33 ≤ c && c != 127)

theorem strHTTP11_eq : strHTTP11 = sHTTP11 := by decide

theorem target_clean (t : Bytes) (h : validTarget t = true) : ∀ x ∈ t, x ≠ 13 ∧ x ≠ 10 ∧ x ≠ 32 := by
  simp only [validTarget, Bool.and_eq_true, List.all_eq_true] at h
  intro x hx
  have h33 : 33 ≤ x := by simpa using (h.2 x hx).1
  refine ⟨?_, ?_, ?_⟩ <;> (intro e; subst e; exact absurd h33 (by decide))

theorem startLine_clean (method target : Bytes) (hm : isToken method = true) (ht : validTarget target = true) :
    ∀ x ∈ method ++ 32 :: (target ++ 32 :: sHTTP11), x ≠ 13 ∧ x ≠ 10 := by
  intro x hx
  simp only [List.mem_append, List.mem_cons] at hx
  rcases hx with hx | hx | hx | hx | hx
  · exact ⟨(token_clean _ hm x hx).1, (token_clean _ hm x hx).2.1⟩
  · subst hx; decide
  · exact ⟨(target_clean _ ht x hx).1, (target_clean _ ht x hx).2.1⟩
  · subst hx; decide
  · revert x; decide

end Hertz.ReqDecodes
