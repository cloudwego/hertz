import Hertz.Model.FsTree
import Hertz.Spec.FsTree
import Hertz.Gen.Fs
/-!
The open path of the static file handler (`Hertz/Model/FsTree.lean`) for C08.  `Opens t p t' a` is the one specification
of a call (what the tree may gain at the sibling, what is answered); `openFSFile_opens` proves it, the `open_*` theorems of
C08 are its fields, `Opens.serves` and `Opens.honest`.  Scenarios: `Inv V st v` relates tree and caches to the view
`Spec.View` of every name (`Agrees` for a tree entry, `RightAnswer` for an answer); it is kept by every step (`inv_step`), a
request is answered rightly under it (`fetch_inv`), hence `scenario_good`.  `open_path_matches_gen`: the statement
skeletons of the three Go functions.
-/
namespace Hertz.FS

theorem Tree.find_erase_self (t : Tree) (p : Bytes) : (t.erase p).find p = none := by
  induction t with
  | nil => rfl
  | cons e r ih =>
    obtain ⟨q, n⟩ := e
    by_cases h : q = p
    · simp [Tree.erase, h, ih]
    · simp [Tree.erase, Tree.find, h, ih]

theorem Tree.find_erase_ne (t : Tree) {p q : Bytes} (h : q ≠ p) : (t.erase p).find q = t.find q := by
  induction t with
  | nil => rfl
  | cons e r ih =>
    obtain ⟨k, n⟩ := e
    by_cases hk : k = p
    · have : k ≠ q := fun e => h (e ▸ hk)
      simp [Tree.erase, Tree.find, hk, ih]
      intro e; exact absurd e.symm h
    · by_cases hq : k = q
      · subst hq
        simp [Tree.erase, Tree.find, hk]
      · simp [Tree.erase, Tree.find, hk, hq, ih]

theorem Tree.find_put_self (t : Tree) (p : Bytes) (n : Node) : (t.put p n).find p = some n := by
  simp [Tree.put, Tree.find]

theorem Tree.find_put_ne {t : Tree} {p q : Bytes} {n : Node} (h : q ≠ p) : (t.put p n).find q = t.find q := by
  have : ¬ p = q := fun e => h e.symm
  simp [Tree.put, Tree.find, this, Tree.find_erase_ne t h]

theorem append_suffix_ne (p : Bytes) : p ++ gzSuffix ≠ p := by
  intro h
  have := congrArg List.length h
  simp [gzSuffix] at this

theorem newFSFile_plain (path : Bytes) (n : Node) :
    newFSFile path n false = .ok { payload := n.payload, compressed := false, lastModified := n.mtime } := by
  simp [newFSFile]

theorem newFSFile_gz (path : Bytes) (n : Node) (h : n.payload.isGz = true) :
    newFSFile path n true = .ok { payload := n.payload, compressed := true, lastModified := n.mtime } := by
  simp [newFSFile, h]

/-- what a call of the open path for `p` on the tree `t` may return (new tree `t'`, answer `a`): the tree differs from `t` at
most at the sibling of `p`, where a new entry is the gzip of the file under the file's time; a missing file is an error; a
present one is opened as it is, or its sibling — the one of the new tree, carrying the file's time — is opened as compressed -/
structure Opens (t : Tree) (p : Bytes) (t' : Tree) (a : Except OpenErr FsFile) : Prop where
  frame : ∀ q, q ≠ p ++ gzSuffix → t'.find q = t.find q
  sib : ∀ s, t'.find (p ++ gzSuffix) = some s →
    t.find (p ++ gzSuffix) = some s ∨ ∃ o, t.find p = some o ∧ s = ⟨.gz o.payload, o.mtime, false⟩
  missing : t.find p = none → ∃ e, a = .error e
  found : ∀ o, t.find p = some o → a = newFSFile p o false ∨
    ∃ s, t'.find (p ++ gzSuffix) = some s ∧ s.mtime = o.mtime ∧ a = newFSFile (p ++ gzSuffix) s true

/-- a call that leaves the tree alone and reports an error, the file being absent -/
theorem Opens.absent {t : Tree} {p : Bytes} {e : OpenErr} (h : t.find p = none) : Opens t p t (.error e) :=
  ⟨fun _ _ => rfl, fun _ => Or.inl, fun _ => ⟨e, rfl⟩, fun _ ho => nomatch h.symm.trans ho⟩

/-- a call that leaves the tree alone and opens the file, or its sibling of the same time -/
theorem Opens.present {t : Tree} {p : Bytes} {o : Node} {a : Except OpenErr FsFile} (h : t.find p = some o)
    (ha : a = newFSFile p o false ∨
      ∃ s, t.find (p ++ gzSuffix) = some s ∧ s.mtime = o.mtime ∧ a = newFSFile (p ++ gzSuffix) s true) : Opens t p t a :=
  ⟨fun _ _ => rfl, fun _ => Or.inl, fun hn => (nomatch h.symm.trans hn),
    fun _ ho => Option.some.inj (h.symm.trans ho) ▸ ha⟩

theorem compressAndOpen_opens (t : Tree) (p : Bytes) (hs : t.find (p ++ gzSuffix) = none) :
    Opens t p (compressAndOpenFSFile t p).1 (compressAndOpenFSFile t p).2 := by
  unfold compressAndOpenFSFile
  cases ho : t.find p with
  | none => exact .absent ho
  | some o =>
    dsimp only
    by_cases hc : (gzSuffix.isSuffixOf p || !o.compressible) = true
    · rw [if_pos hc]
      exact .present ho (Or.inl rfl)
    · rw [if_neg hc, compressFileNolock, hs]
      dsimp only
      exact ⟨fun q hq => Tree.find_put_ne hq,
        fun s h => Or.inr ⟨o, ho, (Option.some.inj ((Tree.find_put_self ..).symm.trans h)).symm⟩,
        fun h => (nomatch ho.symm.trans h),
        fun o' h => Option.some.inj (ho.symm.trans h) ▸ Or.inr ⟨_, Tree.find_put_self .., rfl, rfl⟩⟩

/-- removing the sibling first (`os.Remove(filePath)`) -/
theorem Opens.of_erase {t t' : Tree} {p : Bytes} {a : Except OpenErr FsFile}
    (h : Opens (t.erase (p ++ gzSuffix)) p t' a) : Opens t p t' a := by
  have hp : (t.erase (p ++ gzSuffix)).find p = t.find p := Tree.find_erase_ne t (append_suffix_ne p).symm
  refine ⟨fun q hq => (h.frame q hq).trans (Tree.find_erase_ne t hq), fun s hs => ?_, fun hm => h.missing (hp ▸ hm),
    fun o ho => h.found o (hp ▸ ho)⟩
  rcases h.sib s hs with h' | h'
  · rw [Tree.find_erase_self] at h'; cases h'
  · exact Or.inr (hp ▸ h')

theorem openFSFile_opens (t : Tree) (p : Bytes) (mc : Bool) : Opens t p (openFSFile t p mc).1 (openFSFile t p mc).2 := by
  unfold openFSFile
  cases mc with
  | false =>
    simp only [Bool.false_eq_true, if_false]
    cases hp : t.find p with
    | none => exact .absent hp
    | some z => exact .present hp (Or.inl rfl)
  | true =>
    simp only [if_true]
    cases hz : t.find (p ++ gzSuffix) with
    | none => exact compressAndOpen_opens t p hz
    | some z =>
      cases ho : t.find p with
      | none => exact .absent ho
      | some o =>
        by_cases hm : o.mtime = z.mtime
        · simp only [ne_eq, hm, not_true_eq_false, if_false]
          exact .present ho (Or.inr ⟨z, hz, hm.symm, rfl⟩)
        · simp only [ne_eq, hm, not_false_eq_true, if_true]
          exact (compressAndOpen_opens _ p (Tree.find_erase_self t _)).of_erase

/-- the sibling an open leaves behind is honest if the one it found was -/
theorem Opens.honest {t t' : Tree} {p c : Bytes} {m : Nat} {z : Bool} {a : Except OpenErr FsFile} (h : Opens t p t' a)
    (hf : t.find p = some ⟨.raw c, m, z⟩)
    (hs : ∀ s, t.find (p ++ gzSuffix) = some s → s.mtime = m → s.payload = .gz (.raw c)) :
    ∀ s, t'.find (p ++ gzSuffix) = some s → s.mtime = m → s.payload = .gz (.raw c) := by
  intro s h1 hm
  rcases h.sib s h1 with h0 | ⟨o, ho, rfl⟩
  · exact hs s h0 hm
  · rw [hf] at ho; cases ho; rfl

/-- the file chosen means the content of the requested file and carries its time -/
theorem Opens.serves {t t' : Tree} {p c : Bytes} {m : Nat} {z : Bool} {a : Except OpenErr FsFile} (h : Opens t p t' a)
    (hf : t.find p = some ⟨.raw c, m, z⟩)
    (hs : ∀ s, t.find (p ++ gzSuffix) = some s → s.mtime = m → s.payload = .gz (.raw c)) :
    ∃ ff, a = .ok ff ∧ ff.meaning = some c ∧ ff.lastModified = m := by
  rcases h.found _ hf with e | ⟨s, h1, hm, e⟩
  · rw [e, newFSFile_plain]; exact ⟨_, rfl, rfl, rfl⟩
  · have hz := h.honest hf hs s h1 hm
    rw [e, newFSFile_gz _ s (by rw [hz]; rfl)]
    exact ⟨_, rfl, by rw [hz]; rfl, hm⟩

/-! ### scenarios: what the tree and the caches hold along a run -/

/-- a name that is not itself a `.hertz.gz` path -/
def NotGz (n : Bytes) : Prop := ¬ gzSuffix <:+ n

theorem NotGz.ne_sibling {n : Bytes} (h : NotGz n) (m : Bytes) : n ≠ m ++ gzSuffix := by
  intro e; apply h; rw [e]; exact List.suffix_append m gzSuffix

/-- what a sibling decodes to, when it is a gzip stream of plain bytes -/
def dec : Payload → Option Bytes
  | .gz (.raw c) => some c
  | _ => none

theorem dec_eq_some {p : Payload} {c : Bytes} (h : dec p = some c) : p = .gz (.raw c) := by
  cases p with
  | raw b => cases h
  | gz q => cases q with
    | raw b => simp [dec] at h; rw [h]
    | gz r => cases h

def Step.name? : Step → Option Bytes
  | .write n _ _ _ => some n
  | .plant n _ _ => some n
  | .del n => some n
  | .delSib n => some n
  | .get n _ _ _ => some n
  | .flush => none

abbrev Versions := List (Bytes × Nat × Option Bytes)

def HonestV (V : Versions) : Prop :=
  ∀ a ∈ V, ∀ b ∈ V, a.1 = b.1 → a.2.1 = b.2.1 → a.2.2 = b.2.2

theorem honest_spec {steps : List Step} (h : Spec.honest steps = true) : HonestV (Spec.versions steps) := by
  intro a ha b hb h1 h2
  unfold Spec.honest at h
  simp only [List.all_eq_true] at h
  have := h a ha b hb
  simp only [Bool.or_eq_true, Bool.not_eq_true', Bool.and_eq_false_imp, beq_iff_eq] at this
  rcases this with h' | h'
  · have := h' h1
    simp [h2] at this
  · exact h'

theorem versions_cons (s : Step) (r : List Step) : Spec.versions (s :: r) = Spec.versions [s] ++ Spec.versions r := by
  cases s with
  | plant n p mt =>
    cases p with
    | raw b => rfl
    | gz q => cases q <;> rfl
  | _ => rfl

theorem versions_plant (n : Bytes) (p : Payload) (mt : Nat) : Spec.versions [.plant n p mt] = [(n, mt, dec p)] := by
  cases p with
  | raw b => rfl
  | gz q => cases q <;> rfl

theorem versions_mem {s : Step} {steps : List Step} (h : s ∈ steps) : ∀ x ∈ Spec.versions [s], x ∈ Spec.versions steps := by
  induction steps with
  | nil => cases h
  | cons a r ih =>
    intro x hx
    rw [versions_cons]
    rcases List.mem_cons.mp h with e | h'
    · subst e; exact List.mem_append_left _ hx
    · exact List.mem_append_right _ (ih h' x hx)

/-- the tree's entry for the plain name `n` against its content `x` in the scenario's view: absent, or plain bytes that are
`x` and a recorded version -/
def Agrees (V : Versions) (n : Bytes) (x : Option Bytes) : Option Node → Prop
  | none => x = none
  | some o => ∃ c, o.payload = .raw c ∧ x = some c ∧ (n, o.mtime, some c) ∈ V

/-- the invariant of a run: the tree agrees with the scenario's view of every plain name, every
sibling and every file is a recorded version, every cache entry means a content the file had since
the caches were last empty -/
structure Inv (V : Versions) (st : State) (v : Bytes → Spec.View) : Prop where
  plain : ∀ n, NotGz n → Agrees V n (v n).cur (st.tree.find n)
  sib : ∀ n, NotGz n → ∀ s, st.tree.find (n ++ gzSuffix) = some s → (n, s.mtime, dec s.payload) ∈ V
  cur : ∀ n, (v n).cur ∈ (v n).since
  cache : ∀ n ff, NotGz n → (st.cache.find n = some ff ∨ st.ccache.find n = some ff) →
    ∃ c, ff.meaning = some c ∧ some c ∈ (v n).since

/-- an answer is right for `name`: a content it had since the caches were last empty / 404 only if
it was absent at such a moment -/
def RightAnswer (view : Spec.View) : Except OpenErr FsFile → Prop
  | .ok ff => ∃ c, ff.meaning = some c ∧ some c ∈ view.since
  | .error _ => none ∈ view.since

theorem Opens.good {V : Versions} (hV : HonestV V) {st : State} {v : Bytes → Spec.View} (hinv : Inv V st v)
    {name : Bytes} (hp : NotGz name) {t' : Tree} {a : Except OpenErr FsFile} (h : Opens st.tree name t' a) :
    RightAnswer (v name) a := by
  cases hf : st.tree.find name with
  | none =>
    obtain ⟨e, rfl⟩ := h.missing hf
    have hcur : Agrees V name (v name).cur none := hf ▸ hinv.plain name hp
    show none ∈ (v name).since
    rw [← (hcur : (v name).cur = none)]; exact hinv.cur name
  | some o =>
    obtain ⟨c, hc, hcur, hver⟩ : Agrees V name (v name).cur (some o) := hf ▸ hinv.plain name hp
    have hf' : st.tree.find name = some ⟨.raw c, o.mtime, o.compressible⟩ := by
      rw [hf]; cases o; simp at hc; simp [hc]
    have hs : ∀ s, st.tree.find (name ++ gzSuffix) = some s → s.mtime = o.mtime → s.payload = .gz (.raw c) :=
      fun s hs hm => dec_eq_some (hV _ (hinv.sib name hp s hs) _ hver rfl hm)
    obtain ⟨ff, h1, h2, _⟩ := h.serves hf' hs
    obtain rfl : a = .ok ff := h1
    exact ⟨c, h2, by rw [← hcur]; exact hinv.cur name⟩

/-- a change of the tree that touches only the sibling of `name`, and leaves a recorded version there, keeps the invariant -/
theorem Inv.sibling {V : Versions} {st : State} {v : Bytes → Spec.View} (hinv : Inv V st v) (name : Bytes) (t' : Tree)
    (hself : ∀ s, t'.find (name ++ gzSuffix) = some s → (name, s.mtime, dec s.payload) ∈ V)
    (hne : ∀ q, q ≠ name ++ gzSuffix → t'.find q = st.tree.find q) : Inv V { st with tree := t' } v where
  plain n hn := by rw [hne n (hn.ne_sibling name)]; exact hinv.plain n hn
  sib n hn s h := by
    by_cases e : n = name
    · subst e; exact hself s h
    · exact hinv.sib n hn s (by rw [← hne _ fun h' => e (List.append_cancel_right h')]; exact h)
  cur := hinv.cur
  cache := hinv.cache

/-- a change of the tree that touches only the plain name `name`: its view gets the new content `x` -/
theorem Inv.file {V : Versions} {st : State} {v : Bytes → Spec.View} (hinv : Inv V st v) {name : Bytes}
    (hp : NotGz name) (t' : Tree) (x : Option Bytes) (hx : Agrees V name x (t'.find name))
    (hne : ∀ q, q ≠ name → t'.find q = st.tree.find q) :
    Inv V { st with tree := t' } (fun n => if name = n then { cur := x, since := x :: (v n).since } else v n) where
  plain n hn := by
    by_cases e : name = n
    · subst e; rw [if_pos rfl]; exact hx
    · rw [if_neg e, hne n (Ne.symm e)]; exact hinv.plain n hn
  sib n hn s h := hinv.sib n hn s (by rw [← hne _ (hp.ne_sibling n).symm]; exact h)
  cur n := by
    by_cases e : name = n
    · rw [if_pos e]; exact List.mem_cons_self
    · rw [if_neg e]; exact hinv.cur n
  cache n ff hn h := by
    obtain ⟨c', h1, h2⟩ := hinv.cache n ff hn h
    refine ⟨c', h1, ?_⟩
    by_cases e : name = n
    · rw [if_pos e]; exact List.mem_cons_of_mem _ h2
    · rw [if_neg e]; exact h2

/-- an answer that is right for `name` may be put into either cache -/
theorem Inv.cached {V : Versions} {st : State} {v : Bytes → Spec.View} (hinv : Inv V st v) {name : Bytes} {ff : FsFile}
    (hgood : RightAnswer (v name) (.ok ff)) (cache ccache : Cache)
    (hc : ∀ n f, cache.find n = some f → st.cache.find n = some f ∨ n = name ∧ f = ff)
    (hcc : ∀ n f, ccache.find n = some f → st.ccache.find n = some f ∨ n = name ∧ f = ff) :
    Inv V { st with cache := cache, ccache := ccache } v where
  plain := hinv.plain
  sib := hinv.sib
  cur := hinv.cur
  cache n f hn h := by
    have : (st.cache.find n = some f ∨ st.ccache.find n = some f) ∨ n = name ∧ f = ff := by
      rcases h with h | h
      · exact (hc n f h).imp Or.inl id
      · exact (hcc n f h).imp Or.inr id
    rcases this with h' | ⟨rfl, rfl⟩
    · exact hinv.cache n f hn h'
    · exact hgood

theorem Opens.inv {V : Versions} {st : State} {v : Bytes → Spec.View} (hinv : Inv V st v)
    {name : Bytes} (hp : NotGz name) {t' : Tree} {a : Except OpenErr FsFile} (h : Opens st.tree name t' a) :
    Inv V { st with tree := t' } v := by
  refine hinv.sibling name _ (fun s hs => ?_) h.frame
  rcases h.sib s hs with h' | ⟨o, ho, rfl⟩
  · exact hinv.sib name hp s h'
  · obtain ⟨c, hc, _, hver⟩ : Agrees V name (v name).cur (some o) := ho ▸ hinv.plain name hp
    simp only [hc, dec]; exact hver

theorem Cache.find_cons (c : Cache) (k : Bytes) (f : FsFile) (n : Bytes) :
    Cache.find ((k, f) :: c) n = if k = n then some f else c.find n := rfl

theorem Cache.find_cons_some {c : Cache} {k : Bytes} {f : FsFile} {n : Bytes} {g : FsFile}
    (h : Cache.find ((k, f) :: c) n = some g) : c.find n = some g ∨ n = k ∧ g = f := by
  rw [Cache.find_cons] at h
  by_cases e : k = n
  · rw [if_pos e] at h; cases h; exact Or.inr ⟨e.symm, rfl⟩
  · rw [if_neg e] at h; exact Or.inl h

theorem fetch_hit {compress : Bool} {st : State} {name r : Bytes} {ae : Bool} {ff : FsFile}
    (h : (if mustCompress compress r ae = true then st.ccache else st.cache).find name = some ff) :
    fetch compress st name r ae = (st, .ok ff) := by
  simp only [fetch, h]

theorem fetch_miss_err {compress : Bool} {st : State} {name r : Bytes} {ae : Bool} {t' : Tree} {e : OpenErr}
    (h : (if mustCompress compress r ae = true then st.ccache else st.cache).find name = none)
    (ho : openFSFile st.tree name (mustCompress compress r ae) = (t', .error e)) :
    fetch compress st name r ae = ({ st with tree := t' }, .error e) := by
  simp only [fetch, h, ho]

theorem fetch_miss_ok {compress : Bool} {st : State} {name r : Bytes} {ae : Bool} {t' : Tree} {ff : FsFile}
    (h : (if mustCompress compress r ae = true then st.ccache else st.cache).find name = none)
    (ho : openFSFile st.tree name (mustCompress compress r ae) = (t', .ok ff)) :
    fetch compress st name r ae =
      (if mustCompress compress r ae = true then { st with tree := t', ccache := (name, ff) :: st.ccache }
       else { st with tree := t', cache := (name, ff) :: st.cache }, .ok ff) := by
  simp only [fetch, h, ho]

/-- a request keeps the invariant and is answered rightly: from a cache entry, or by the open path on the present tree -/
theorem fetch_inv {V : Versions} (hV : HonestV V) (compress : Bool) {st : State} {v : Bytes → Spec.View} (hinv : Inv V st v)
    {name : Bytes} (hp : NotGz name) (r : Bytes) (ae : Bool) :
    RightAnswer (v name) (fetch compress st name r ae).2 ∧ Inv V (fetch compress st name r ae).1 v := by
  cases hc : (if mustCompress compress r ae = true then st.ccache else st.cache).find name with
  | some ff =>
    rw [fetch_hit hc]
    refine ⟨hinv.cache name ff hp ?_, hinv⟩
    by_cases hm : mustCompress compress r ae = true
    · rw [if_pos hm] at hc; exact Or.inr hc
    · rw [if_neg hm] at hc; exact Or.inl hc
  | none =>
    have ho := openFSFile_opens st.tree name (mustCompress compress r ae)
    rcases h : openFSFile st.tree name (mustCompress compress r ae) with ⟨t', e | ff⟩
    · rw [fetch_miss_err hc h]; rw [h] at ho; exact ⟨ho.good hV hinv hp, ho.inv hinv hp⟩
    · rw [fetch_miss_ok hc h]
      rw [h] at ho
      have hgood : RightAnswer (v name) (.ok ff) := ho.good hV hinv hp
      have htree : Inv V { st with tree := t' } v := ho.inv hinv hp
      refine ⟨hgood, ?_⟩
      cases mustCompress compress r ae with
      | true => exact htree.cached hgood _ _ (fun _ _ => Or.inl) (fun _ _ => Cache.find_cons_some)
      | false => exact htree.cached hgood _ _ (fun _ _ => Cache.find_cons_some) (fun _ _ => Or.inl)

theorem inv_step {V : Versions} (hV : HonestV V) (compress : Bool) {st : State} {v : Bytes → Spec.View} (s : Step)
    (hinv : Inv V st v) (hname : ∀ n, s.name? = some n → NotGz n) (hvers : ∀ x ∈ Spec.versions [s], x ∈ V) :
    Inv V (step compress st s).1 (fun n => Spec.View.step n (v n) s) := by
  cases s with
  | write name c mt z =>
    refine hinv.file (hname name rfl) _ (some c) ?_ (fun q hq => Tree.find_put_ne hq)
    rw [Tree.find_put_self]
    exact ⟨c, rfl, rfl, hvers _ List.mem_cons_self⟩
  | del name =>
    refine hinv.file (hname name rfl) _ none ?_ (fun q hq => Tree.find_erase_ne _ hq)
    rw [Tree.find_erase_self]
    rfl
  | plant name p mt =>
    refine hinv.sibling name _ ?_ (fun q hq => Tree.find_put_ne hq)
    intro s h; rw [Tree.find_put_self] at h; cases h
    exact hvers _ (by rw [versions_plant]; exact List.mem_cons_self)
  | delSib name =>
    refine hinv.sibling name _ ?_ (fun q hq => Tree.find_erase_ne _ hq)
    intro s h; rw [Tree.find_erase_self] at h; cases h
  | flush =>
    refine ⟨hinv.plain, hinv.sib, fun n => List.mem_singleton.mpr rfl, ?_⟩
    intro n ff _ h
    rcases h with h | h <;> cases h
  | get name head ae r => exact (fetch_inv hV compress hinv (hname name rfl) r ae).2

theorem inv_steps {V : Versions} (hV : HonestV V) (compress : Bool) (steps : List Step) :
    ∀ (st : State) (v : Bytes → Spec.View), Inv V st v →
      (∀ s ∈ steps, ∀ n, s.name? = some n → NotGz n) → (∀ s ∈ steps, ∀ x ∈ Spec.versions [s], x ∈ V) →
      Inv V (stateAfter compress st steps) (fun n => steps.foldl (Spec.View.step n) (v n)) := by
  induction steps with
  | nil => intro st v h _ _; exact h
  | cons s r ih =>
    intro st v h hn hv
    have h1 := inv_step hV compress s h (hn s (List.mem_cons_self ..)) (hv s (List.mem_cons_self ..))
    exact ih _ _ h1 (fun s' hs' => hn s' (List.mem_cons_of_mem _ hs')) (fun s' hs' => hv s' (List.mem_cons_of_mem _ hs'))

theorem inv_init (V : Versions) : Inv V {} (fun _ => {}) where
  plain _ _ := rfl
  sib _ _ s h := by cases h
  cur _ := by simp
  cache _ ff _ h := by rcases h with h | h <;> cases h

theorem scenario_good (compress : Bool) (steps pre post : List Step) (name r : Bytes) (head ae : Bool)
    (hh : Spec.honest steps = true) (hn : ∀ s ∈ steps, ∀ n, s.name? = some n → NotGz n)
    (hsplit : steps = pre ++ .get name head ae r :: post) :
    RightAnswer (Spec.viewOf name pre) (fetch compress (stateAfter compress {} pre) name r ae).2 := by
  have hV := honest_spec hh
  have hpre : ∀ s ∈ pre, s ∈ steps := fun s hs => by rw [hsplit]; exact List.mem_append_left _ hs
  exact (fetch_inv hV compress (inv_steps hV compress pre {} (fun _ => {}) (inv_init _)
    (fun s hs => hn s (hpre s hs)) (fun s hs => versions_mem (hpre s hs)))
    (hn (.get name head ae r) (by rw [hsplit]; simp) name rfl) r ae).1

/-! ### the Go sources still have the shape the model mirrors -/

/-- Statement skeletons (regenerated from `pkg/app/fs.go` on every run) of the three functions of
the open path, and the sibling suffix.  The staleness test of `openFSFile` is the line
`if fileInfoOriginal.ModTime() != fileInfo.ModTime()` — modelled as `o.mtime ≠ z.mtime`. -/
theorem open_path_matches_gen :
    gzSuffix = Gen.Fs.compressedFileSuffix ∧
    Gen.Fs.openFSFile = [
      "filePathOriginal := filePath",
      "if mustCompress",
      "filePath += h.compressedFileSuffix",
      "f, err := os.Open(filePath)",
      "if err != nil",
      "if mustCompress && os.IsNotExist(err)",
      "return h.compressAndOpenFSFile(filePathOriginal)",
      "return nil, err",
      "fileInfo, err := f.Stat()",
      "if err != nil",
      "f.Close()",
      "return nil, ERR",
      "if fileInfo.IsDir()",
      "f.Close()",
      "if mustCompress",
      "return nil, ERR",
      "return nil, errDirIndexRequired",
      "if mustCompress",
      "fileInfoOriginal, err := os.Stat(filePathOriginal)",
      "if err != nil",
      "f.Close()",
      "return nil, ERR",
      "if fileInfoOriginal.ModTime() != fileInfo.ModTime()",
      "f.Close()",
      "os.Remove(filePath)",
      "return h.compressAndOpenFSFile(filePathOriginal)",
      "return h.newFSFile(f, fileInfo, mustCompress)"] ∧
    Gen.Fs.compressAndOpenFSFile = [
      "f, err := os.Open(filePath)",
      "if err != nil",
      "return nil, err",
      "fileInfo, err := f.Stat()",
      "if err != nil",
      "f.Close()",
      "return nil, ERR",
      "if fileInfo.IsDir()",
      "f.Close()",
      "return nil, errDirIndexRequired",
      "if strings.HasSuffix(filePath, h.compressedFileSuffix) || fileInfo.Size() > consts.FsMaxCompressibleFileSize || !isFileCompressible(f, consts.FsMinCompressRatio)",
      "return h.newFSFile(f, fileInfo, false)",
      "compressedFilePath := filePath + h.compressedFileSuffix",
      "absPath, err := filepath.Abs(compressedFilePath)",
      "if err != nil",
      "f.Close()",
      "return nil, ERR",
      "flock := getFileLock(absPath)",
      "flock.Lock()",
      "ff, err := h.compressFileNolock(f, fileInfo, filePath, compressedFilePath)",
      "flock.Unlock()",
      "return ff, err"] ∧
    Gen.Fs.compressFileNolock = [
      "if _, err := os.Stat(compressedFilePath); err == nil",
      "f.Close()",
      "return h.newCompressedFSFile(compressedFilePath)",
      "tmpFilePath := compressedFilePath + \".tmp\"",
      "zf, err := os.Create(tmpFilePath)",
      "if err != nil",
      "f.Close()",
      "if !os.IsPermission(err)",
      "return nil, ERR",
      "return nil, errNoCreatePermission",
      "zw := compress.AcquireStacklessGzipWriter(zf, compress.CompressDefaultCompression)",
      "zrw := network.NewWriter(zw)",
      "_, err = utils.CopyZeroAlloc(zrw, f)",
      "if err1 := zw.Flush(); err == nil",
      "err = err1",
      "compress.ReleaseStacklessGzipWriter(zw, compress.CompressDefaultCompression)",
      "zf.Close()",
      "f.Close()",
      "if err != nil",
      "return nil, ERR",
      "if err = os.Chtimes(tmpFilePath, time.Now(), fileInfo.ModTime()); err != nil",
      "return nil, ERR",
      "if err = os.Rename(tmpFilePath, compressedFilePath); err != nil",
      "return nil, ERR",
      "return h.newCompressedFSFile(compressedFilePath)"] := by
  refine ⟨rfl, rfl, rfl, rfl⟩

end Hertz.FS
