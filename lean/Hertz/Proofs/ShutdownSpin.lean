import Hertz.Model.ShutdownSpin
/-! Lemmas about the caller's side of a shutdown (`Hertz.Spin`) and about requests that are still arriving
(`Hertz.Arrive`), for property C18.  The two models share no state with `Hertz.Shutdown`; their `step`s are small enough
to be followed branch by branch, without a step relation.  One invariant each: `TInv` (`inv_init`, `step_inv`,
`runPrompt_inv` of this namespace) and `Good`. -/
namespace Hertz.Spin

/-- timing invariant of prompt runs of the source as it stands (`Spin` returns right after `Shutdown`) -/
def TInv (W : Nat) (s : State) : Prop :=
  match s.spin with
  | .waiting => s.ranAtShut = false
  | .signalled => s.now = s.sigAt ∧ s.ranAtShut = false
  | .draining => s.now ≤ s.dl ∧ s.dl = s.sigAt + W ∧ s.ranAtShut = true
  | .deferred _ => s.now ≤ s.dl ∧ s.dl = s.sigAt + W ∧ s.ranAtShut = true
  | .after _ => s.now ≤ s.sigAt + W ∧ (s.ranAtShut = false → s.now = s.sigAt)
  | .returned t => t = s.now ∧ s.now ≤ s.sigAt + W ∧ (s.ranAtShut = false → s.now = s.sigAt)
  | .exited t => t ≤ s.sigAt + W ∧ (s.ranAtShut = false → t = s.sigAt)

theorem inv_init : TInv W ({} : State) := by simp [TInv]

theorem step_inv {cfg : Cfg} {s s' : State} {a : Act} (h : TInv cfg.exitWait s)
    (hok : actOk Code.current s a = true) (hs : step Code.current cfg s a = some s') : TInv cfg.exitWait s' := by
  cases a <;> simp only [step] at hs
  case advance d =>
    cases hs
    cases hsp : s.spin <;> simp only [TInv, hsp, actOk, canAdvance, Code.current] at h hok ⊢ <;> simp_all <;> omega
  case signal =>
    split at hs <;> cases hs
    rename_i hsp
    simpa [TInv, hsp] using h
  case recvErr =>
    split at hs <;> cases hs
    simp [TInv]
  case shutEnter =>
    split at hs
    · rename_i hsp
      simp only [TInv, hsp] at h
      split at hs
      · split at hs <;> (cases hs; simp [TInv, h])
      · cases hs; simp [TInv, h]
    · cases hs
  case drainDone =>
    split at hs <;> cases hs
    rename_i hsp
    simpa only [TInv, hsp.1] using h
  case drainDeadline =>
    split at hs <;> cases hs
    rename_i hsp
    simpa only [TInv, hsp.1] using h
  case shutReturn =>
    split at hs
    · rename_i e hsp
      split at hs <;> cases hs
      simp only [TInv, hsp] at h ⊢
      exact ⟨by omega, by simp [h.2.2]⟩
    · cases hs
  case spinPost =>
    split at hs <;> cases hs
    rename_i e hsp
    simpa [TInv, hsp] using h
  case procExit =>
    split at hs <;> cases hs
    rename_i t hsp
    simp only [TInv, hsp] at h ⊢
    obtain ⟨rfl, h⟩ := h
    exact h
  case markRunning =>
    split at hs
    · split at hs <;> cases hs <;> exact h
    · cases hs
  -- the `Run` goroutine, the connections and the hooks touch nothing `TInv` speaks of
  all_goals
    split at hs <;> cases hs
    exact h

theorem runPrompt_inv {cfg : Cfg} : ∀ (acts : List Act) {s s' : State}, TInv cfg.exitWait s →
    runPrompt Code.current cfg s acts = some s' → TInv cfg.exitWait s'
  | [], s, s', h, hr => by simp [runPrompt] at hr; subst hr; exact h
  | a :: t, s, s', h, hr => by
    simp only [runPrompt] at hr
    split at hr
    · rename_i hok
      split at hr
      · simp at hr
      · rename_i s1 hs
        exact runPrompt_inv t (step_inv h hok hs) hr
    · simp at hr

/-- between the stop signal and the end of the process the clock stays within the exit wait; when `Shutdown` found
the engine not running, it does not advance at all -/
theorem alive_bounded {cfg : Cfg} {acts : List Act} {s : State}
    (hr : runPrompt Code.current cfg {} acts = some s) (hw : s.spin ≠ .waiting) (ha : alive s = true) :
    s.now ≤ s.sigAt + cfg.exitWait ∧ (s.ranAtShut = false → s.now = s.sigAt) := by
  have h := runPrompt_inv acts (inv_init (W := cfg.exitWait)) hr
  cases hsp : s.spin <;> simp only [TInv, hsp, alive] at h ha hw <;> simp_all <;> omega

theorem accept_alive {code : Code} {cfg : Cfg} {s : State} (h : (step code cfg s .accept).isSome = true) : alive s = true := by
  simp only [step] at h
  split at h
  · rename_i hc; exact hc.1
  · simp at h

end Hertz.Spin

namespace Hertz.Arrive

/-- per-connection invariant of the source as it stands: no read deadline is ever set by the shutdown, so no request
is answered with an error response or cut because of it -/
def Good (cn : Conn) : Prop := cn.deadline = none ∧ cn.errs = 0 ∧ cn.cut = false

theorem updConn_good {s s' : State} {c : Nat} {f : Conn → Option Conn}
    (hf : ∀ cn cn', Good cn → f cn = some cn' → Good cn') (h : ∀ cn ∈ s.conns, Good cn)
    (hs : updConn s c f = some s') : ∀ cn ∈ s'.conns, Good cn := by
  unfold updConn at hs
  split at hs
  · simp at hs
  · rename_i cn hc
    split at hs
    · simp at hs
    · rename_i cn' hfc
      simp only [Option.some.injEq] at hs
      subst hs
      intro x hx
      rcases List.mem_or_eq_of_mem_set hx with hx | hx
      · exact h x hx
      · subst hx
        exact hf cn _ (h cn (List.mem_of_getElem? hc)) hfc

theorem step_good {np : Bool} {W : Nat} {s s' : State} {a : Act} (h : ∀ cn ∈ s.conns, Good cn)
    (hs : step Code.current np W s a = some s') : ∀ cn ∈ s'.conns, Good cn := by
  cases a <;> simp only [step] at hs
  case advance d => simp at hs; subst hs; exact h
  case accept =>
    split at hs
    · simp at hs; subst hs
      intro x hx
      simp at hx
      rcases hx with hx | hx
      · exact h x hx
      · subst hx; simp [Good]
    · simp at hs
  case arrive c d n =>
    split at hs
    · simp at hs
    · refine updConn_good ?_ h hs
      intro cn cn' hg hf
      unfold cArrive at hf
      split at hf
      · simp at hf
      · split at hf <;> (try split at hf) <;> (try split at hf) <;> (try split at hf) <;> simp at hf <;>
          (try (subst hf; simpa [Good] using hg))
  case handlerRet c =>
    split at hs
    · simp at hs
    · refine updConn_good ?_ h hs
      intro cn cn' hg hf
      unfold cHandlerRet at hf
      split at hf <;> simp at hf
      subst hf; simpa [Good] using hg
  case readTimeout c =>
    split at hs
    · simp at hs
    · refine updConn_good ?_ h hs
      intro cn cn' hg hf
      unfold cReadTimeout at hf
      rw [hg.1] at hf
      simp at hf
  case peerClose c =>
    split at hs
    · simp at hs
    · refine updConn_good ?_ h hs
      intro cn cn' hg hf
      unfold cPeerClose at hf
      split at hf <;> simp at hf <;> (subst hf; simpa [Good] using hg)
  case shutBegin =>
    split at hs
    · simp at hs; subst hs
      intro x hx
      simp only [List.mem_map] at hx
      obtain ⟨y, hy, rfl⟩ := hx
      have hg := h y hy
      unfold touch
      cases np
      · simpa [Code.current, Good] using hg
      · simpa [Good] using hg
    · simp at hs
  case npCloseIdle c =>
    split at hs
    · refine updConn_good ?_ h hs
      intro cn cn' hg hf
      unfold cNpClose at hf
      split at hf <;> simp at hf
      subst hf; simpa [Good] using hg
    · simp at hs
  case procExit =>
    split at hs
    · simp at hs; subst hs
      intro x hx
      simp only [List.mem_map] at hx
      obtain ⟨y, hy, rfl⟩ := hx
      simpa [Good] using h y hy
    · simp at hs

theorem run_good {np : Bool} {W : Nat} : ∀ (acts : List Act) {s s' : State}, (∀ cn ∈ s.conns, Good cn) →
    run Code.current np W s acts = some s' → ∀ cn ∈ s'.conns, Good cn
  | [], s, s', h, hr => by simp [run] at hr; subst hr; exact h
  | a :: t, s, s', h, hr => by
    simp only [run] at hr
    split at hr
    · simp at hr
    · rename_i s1 hs
      exact run_good t (step_good h hs) hr

/-- whatever the shutdown has done so far: while the process lives, the rest of a partly received request can arrive,
the handler runs, and the complete response is written (with `Connection: close` iff shutdown has begun) -/
theorem reading_completes (code : Code) (np : Bool) (W : Nat) (s : State) (c k n : Nat) (cn : Conn)
    (hc : s.conns[c]? = some cn) (hp : cn.ph = .reading k n) (hkn : k < n) (hx : s.exited = false) :
    ∃ s', run code np W s [.arrive c (n - k) n, .handlerRet c] = some s' ∧
      (s'.conns[c]?).map (·.resps) = some (cn.resps ++ [s.shut]) ∧ (s'.conns[c]?).map (·.errs) = some cn.errs := by
  have hlt : c < s.conns.length := by
    rcases List.getElem?_eq_some_iff.mp hc with ⟨h, _⟩; exact h
  have h1 : n - k ≠ 0 := by omega
  have h3 : k + (n - k) = n := by omega
  let c1 : Conn := { cn with ph := .handling }
  let c2 : Conn := { cn with ph := (if s.shut then Ph.closed else Ph.idle), resps := cn.resps ++ [s.shut] }
  have e1 : step code np W s (.arrive c (n - k) n) = some { s with conns := s.conns.set c c1 } := by
    simp only [step, hx, updConn, hc, cArrive, hp, h1, h3]
    simp [c1]
  have g : (s.conns.set c c1)[c]? = some c1 := by
    simp [List.getElem?_set_self hlt]
  have e2 : step code np W { s with conns := s.conns.set c c1 } (.handlerRet c) =
      some { s with conns := (s.conns.set c c1).set c c2 } := by
    simp only [step, hx, updConn, g, cHandlerRet]
    simp [c1, c2]
  refine ⟨{ s with conns := (s.conns.set c c1).set c c2 }, ?_, ?_, ?_⟩
  · simp only [run, e1, e2]
  · simp [hlt, c2]
  · simp [hlt, c2]

end Hertz.Arrive
