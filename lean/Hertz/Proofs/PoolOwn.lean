import Hertz.Model.PoolOwn
/-!
Lemmas for the ownership part of C09: the discipline `Inv` of `Model/PoolOwn.lean` holds initially and is kept by
every step (hence along every event sequence of any length, any interleaving of connections), and an accounted
object stays accounted except at the listed deliberate places.

Both rest on one description of a step (`ConnStep`): one connection's record changes, and for each kind of object
the step does one of four things to that kind's pool and to what the record owns of it (`KindStep`: nothing, let
go, `Put`, `Get`).  `step_connStep` reads this off `step` case by case; `ConnStep.inv` and `ConnStep.tracked` are
the two consequences.
-/
namespace Hertz.PoolOwn

/-! ## `take` (sync.Pool.Get) -/

theorem not_mem_eraseIdx_of_nodup {l : List Nat} {i x : Nat} (hn : l.Nodup) (h : l[i]? = some x) : x ∉ l.eraseIdx i := by
  rw [List.mem_eraseIdx_iff_getElem?]
  rintro ⟨j, hne, hj⟩
  exact hne ((List.getElem?_inj (List.getElem?_eq_some_iff.mp hj).1 hn).mp (hj.trans h.symm))

section
variable {l l' : List Nat} {i next x n : Nat}

theorem take_sub (ht : take l i next = (x, l', n)) {y : Nat} (h : y ∈ l') : y ∈ l := by
  unfold take at ht; split at ht <;> cases ht
  · exact List.mem_of_mem_eraseIdx h
  · exact h

theorem take_keep (ht : take l i next = (x, l', n)) {y : Nat} (h : y ∈ l) : y ∈ l' ∨ y = x := by
  unfold take at ht; split at ht <;> cases ht
  · rename_i hx
    obtain ⟨j, hj⟩ := List.getElem?_of_mem h
    by_cases e : j = i
    · subst e; rw [hj] at hx; exact Or.inr (Option.some.inj hx)
    · exact Or.inl (List.mem_eraseIdx_iff_getElem?.mpr ⟨j, e, hj⟩)
  · exact Or.inl h

theorem take_nodup (ht : take l i next = (x, l', n)) (h : l.Nodup) : l'.Nodup := by
  unfold take at ht; split at ht <;> cases ht
  · exact h.eraseIdx i
  · exact h

theorem take_src (ht : take l i next = (x, l', n)) : x ∈ l ∨ x = next := by
  unfold take at ht; split at ht <;> cases ht
  · rename_i hx; exact Or.inl (List.mem_of_getElem? hx)
  · exact Or.inr rfl

theorem take_le (ht : take l i next = (x, l', n)) : next ≤ n := by
  unfold take at ht; split at ht <;> cases ht
  · exact Nat.le_refl _
  · exact Nat.le_succ _

theorem take_lt (ht : take l i next = (x, l', n)) (hl : ∀ y ∈ l, y < next) : x < n := by
  unfold take at ht; split at ht <;> cases ht
  · rename_i hx; exact hl _ (List.mem_of_getElem? hx)
  · exact Nat.lt_succ_self _

theorem take_notMem (ht : take l i next = (x, l', n)) (hn : l.Nodup) (hl : ∀ y ∈ l, y < next) : x ∉ l' := by
  unfold take at ht; split at ht <;> cases ht
  · rename_i hx; exact not_mem_eraseIdx_of_nodup hn hx
  · intro h; exact Nat.lt_irrefl _ (hl _ h)

end

/-! ## one step of one connection, kind by kind -/

/-- the identity of kind `k` that the connection record `o` refers to (no record: none) -/
def refd (o : Option Conn) (k : Kind) : Option Nat := o.bind (·.ref k)

/-- … and owns -/
def held (o : Option Conn) (k : Kind) : Option Nat := o.bind fun cn => if cn.owns k then cn.ref k else none

theorem refd_eq_some {o : Option Conn} {k : Kind} {x : Nat} :
    refd o k = some x ↔ ∃ cn, o = some cn ∧ cn.ref k = some x := by
  cases o <;> simp [refd]

theorem held_eq_some {o : Option Conn} {k : Kind} {x : Nat} :
    held o k = some x ↔ ∃ cn, o = some cn ∧ cn.holds k x := by
  cases o <;> simp [held, Conn.holds, and_comm]

theorem tracked_iff {s : State} {k : Kind} {x : Nat} :
    tracked s k x ↔ x ∈ s.pool k ∨ ∃ c, held (s.conns c) k = some x :=
  or_congr Iff.rfl (exists_congr fun _ => held_eq_some.symm)

/-- What a step that takes a connection's record from `o` to `o'` does with kind `k`.  References are only given up,
except by `get`. -/
inductive KindStep (s s' : State) (o o' : Option Conn) (k : Kind) (D : Nat → Prop) : Prop
  | keep (hp : s'.pool k = s.pool k) (hr : ∀ y, refd o' k = some y → refd o k = some y) (hh : held o' k = held o k)
  /-- what was owned is let go, at a place `D` -/
  | drop (hp : s'.pool k = s.pool k) (hr : ∀ y, refd o' k = some y → refd o k = some y) (hh : held o' k = none)
      (hd : ∀ y, held o k = some y → D y)
  | put {x : Nat} (hp : s'.pool k = x :: s.pool k) (hr : ∀ y, refd o' k = some y → refd o k = some y)
      (hh : held o' k = none) (h0 : held o k = some x)
  | get {i x : Nat} (ht : take (s.pool k) i s.next = (x, s'.pool k, s'.next)) (hr : refd o' k = some x)
      (hh : held o' k = some x) (h0 : held o k = none)

/-- what `Inv.hjOnly` and `Inv.liveUnlessKeep` ask of one connection: a hijack conn is referred to at the two control
points of a hijack only, and one that was released already only under `KeepHijackedConns` -/
abbrev hjOK (s : State) (cn : Conn) : Prop := ∀ x, cn.hj = some x →
  (cn.phase = .hijacking ∨ cn.phase = .ret .hijacked) ∧ (cn.hjLive = false → s.keepHj = true)

/-- `s'` comes from `s` by a step of connection `c` alone, whose record goes from `o` to `o'` -/
structure ConnStep (s s' : State) (c : Nat) (o o' : Option Conn) (D : Kind → Nat → Prop) : Prop where
  old : s.conns c = o
  conns : ∀ d, s'.conns d = if d = c then o' else s.conns d
  next : s.next ≤ s'.next
  keepHj : s'.keepHj = s.keepHj
  kind : ∀ k, KindStep s s' o o' k (D k)
  /-- what `Inv.idleClean`, `hjOnly` and `liveUnlessKeep` ask of the new record -/
  ok : ∀ cn', o' = some cn' → (cn'.phase = .idle → cn'.stream = none) ∧ hjOK s cn'

section
variable {s s' : State} {c : Nat} {o o' : Option Conn} {D : Kind → Nat → Prop}

theorem ConnStep.inv (a : ConnStep s s' c o o' D) (h : Inv s) : Inv s' := by
  have cases : ∀ {d dn}, s'.conns d = some dn → (d = c ∧ o' = some dn) ∨ (d ≠ c ∧ s.conns d = some dn) := by
    intro d dn hd
    rw [a.conns] at hd
    by_cases e : d = c
    · simp [e] at hd; exact Or.inl ⟨e, hd⟩
    · simp [e] at hd; exact Or.inr ⟨e, hd⟩
  have ltNext : ∀ {k y}, refd o k = some y → y < s.next := fun hy => by
    obtain ⟨cn, e, hr⟩ := refd_eq_some.mp hy
    exact h.refLt c cn _ _ (a.old.trans e) hr
  have notPooled : ∀ {k y}, held o k = some y → y ∉ s.pool k := fun hy => by
    obtain ⟨cn, e, hx⟩ := held_eq_some.mp hy
    exact h.notPooled c cn _ _ (a.old.trans e) hx
  -- an identity held by another connection is not one `c` owned (so `c` does not put it)
  have other : ∀ {d dn k x}, d ≠ c → s.conns d = some dn → dn.holds k x → held o k ≠ some x := by
    intro d dn k x hne hd hx hcx
    obtain ⟨cn, e, hcx⟩ := held_eq_some.mp hcx
    exact hne (h.distinct d c dn cn k x hd (a.old.trans e) hx hcx)
  -- … nor owned by `c` afterwards: what `c` newly owns was pooled or did not exist
  have fresh : ∀ {d dn k x}, d ≠ c → s.conns d = some dn → dn.holds k x → held o' k ≠ some x := by
    intro d dn k x hne hd hx hcx
    cases a.kind k with
    | keep _ _ hh => exact other hne hd hx (hh ▸ hcx)
    | drop _ _ hh | put _ _ hh => cases hh.symm.trans hcx
    | get ht _ hh =>
      cases hh.symm.trans hcx
      rcases take_src ht with m | e
      · exact h.notPooled d dn k x hd hx m
      · exact Nat.lt_irrefl _ (e ▸ h.refLt d dn k x hd hx.1)
  have src : ∀ {k y}, y ∈ s'.pool k → y ∈ s.pool k ∨ held o k = some y := by
    intro k y hy
    cases a.kind k with
    | keep hp | drop hp => exact Or.inl (hp ▸ hy)
    | put hp _ _ h0 =>
      rcases List.mem_cons.mp (hp ▸ hy) with rfl | hy
      · exact Or.inr h0
      · exact Or.inl hy
    | get ht => exact Or.inl (take_sub ht hy)
  refine ⟨?_, ?_, ?_, ?_, ?_, ?_, ?_, ?_⟩
  · intro k
    cases a.kind k with
    | keep hp | drop hp => rw [hp]; exact h.nodup k
    | put hp _ _ h0 => rw [hp]; exact List.nodup_cons.mpr ⟨notPooled h0, h.nodup k⟩
    | get ht => exact take_nodup ht (h.nodup k)
  · intro k x hx
    refine Nat.lt_of_lt_of_le ?_ a.next
    rcases src hx with h1 | h1
    · exact h.poolLt k x h1
    · obtain ⟨cn, e, hcx⟩ := held_eq_some.mp h1
      exact h.refLt c cn k x (a.old.trans e) hcx.1
  · intro d dn k x hd hr
    rcases cases hd with ⟨_, e⟩ | ⟨_, hd'⟩
    · have hr : refd o' k = some x := refd_eq_some.mpr ⟨dn, e, hr⟩
      cases a.kind k with
      | keep _ hr0 | drop _ hr0 | put _ hr0 => exact Nat.lt_of_lt_of_le (ltNext (hr0 x hr)) a.next
      | get ht hr0 => cases hr0.symm.trans hr; exact take_lt ht (h.poolLt k)
    · exact Nat.lt_of_lt_of_le (h.refLt d dn k x hd' hr) a.next
  · intro d dn k x hd hx
    rcases cases hd with ⟨_, e⟩ | ⟨hne, hd'⟩
    · have hx : held o' k = some x := held_eq_some.mpr ⟨dn, e, hx⟩
      cases a.kind k with
      | keep hp _ hh => rw [hp]; exact notPooled (hh ▸ hx)
      | drop _ _ hh | put _ _ hh => cases hh.symm.trans hx
      | get ht _ hh => cases hh.symm.trans hx; exact take_notMem ht (h.nodup k) (h.poolLt k)
    · intro hm
      rcases src hm with h1 | h2
      · exact h.notPooled d dn k x hd' hx h1
      · exact other hne hd' hx h2
  · intro d1 d2 n1 n2 k x h1 h2 hx1 hx2
    rcases cases h1 with ⟨e1, o1⟩ | ⟨ne1, hd1⟩ <;> rcases cases h2 with ⟨e2, o2⟩ | ⟨ne2, hd2⟩
    · rw [e1, e2]
    · exact (fresh ne2 hd2 hx2 (held_eq_some.mpr ⟨n1, o1, hx1⟩)).elim
    · exact (fresh ne1 hd1 hx1 (held_eq_some.mpr ⟨n2, o2, hx2⟩)).elim
    · exact h.distinct d1 d2 n1 n2 k x hd1 hd2 hx1 hx2
  · intro d dn hd hp
    rcases cases hd with ⟨_, e⟩ | ⟨_, hd'⟩
    · exact (a.ok dn e).1 hp
    · exact h.idleClean d dn hd' hp
  · intro d dn x hd hx
    rcases cases hd with ⟨_, e⟩ | ⟨_, hd'⟩
    · exact ((a.ok dn e).2 x hx).1
    · exact h.hjOnly d dn x hd' hx
  · intro d dn x hd hx hl
    rw [a.keepHj]
    rcases cases hd with ⟨_, e⟩ | ⟨_, hd'⟩
    · exact ((a.ok dn e).2 x hx).2 hl
    · exact h.liveUnlessKeep d dn x hd' hx hl

/-- an accounted object stays accounted when every pooled identity stays pooled or goes to `c`, and what `c` owned
is put, still owned, or let go at one of the places `D` -/
theorem tracked_transfer (ho : s.conns c = o) (hcs : ∀ d, s'.conns d = if d = c then o' else s.conns d)
    (hpool : ∀ k y, y ∈ s.pool k → y ∈ s'.pool k ∨ held o' k = some y)
    (hheld : ∀ k y, held o k = some y → y ∈ s'.pool k ∨ held o' k = some y ∨ D k y)
    {k : Kind} {x : Nat} (ht : tracked s k x) : tracked s' k x ∨ D k x := by
  have atc : s'.conns c = o' := by rw [hcs, if_pos rfl]
  rw [tracked_iff] at ht ⊢
  rcases ht with hp | ⟨d, hd⟩
  · rcases hpool k x hp with a | a
    · exact Or.inl (Or.inl a)
    · exact Or.inl (Or.inr ⟨c, atc ▸ a⟩)
  · by_cases e : d = c
    · subst e
      rcases hheld k x (ho ▸ hd) with a | a | a
      · exact Or.inl (Or.inl a)
      · exact Or.inl (Or.inr ⟨d, atc ▸ a⟩)
      · exact Or.inr a
    · refine Or.inl (Or.inr ⟨d, ?_⟩)
      rw [hcs, if_neg e]; exact hd

theorem ConnStep.tracked (a : ConnStep s s' c o o' D) {k : Kind} {x : Nat} (ht : tracked s k x) :
    tracked s' k x ∨ D k x := by
  refine tracked_transfer a.old a.conns ?_ ?_ ht
  · intro k y hy
    cases a.kind k with
    | keep hp | drop hp => exact Or.inl (hp ▸ hy)
    | put hp => exact Or.inl (hp ▸ List.mem_cons_of_mem _ hy)
    | get ht _ hh =>
      rcases take_keep ht hy with m | rfl
      · exact Or.inl m
      · exact Or.inr hh
  · intro k y hy
    cases a.kind k with
    | keep _ _ hh => exact Or.inr (Or.inl (hh ▸ hy))
    | drop _ _ _ hd => exact Or.inr (Or.inr (hd y hy))
    | put hp _ _ h0 => cases h0.symm.trans hy; exact Or.inl (hp ▸ List.mem_cons_self)
    | get _ _ _ h0 => cases h0.symm.trans hy

end

theorem inv_initK (keep : Bool) : Inv (initK keep) := by
  refine ⟨?_, ?_, ?_, ?_, ?_, ?_, ?_, ?_⟩ <;> intros <;> simp_all [initK]

theorem inv_init : Inv init := inv_initK false

/-! ## every step is such a step -/

theorem Inv.hj_none {s : State} {c : Nat} {cn : Conn} {q : Phase} (h : Inv s) (hc : s.conns c = some cn)
    (hp : cn.phase = q) (hq : q ≠ .hijacking ∧ q ≠ .ret .hijacked) : cn.hj = none := by
  cases hh : cn.hj with
  | none => rfl
  | some x =>
    rcases h.hjOnly c cn x hc hh with e | e
    · exact absurd (hp.symm.trans e) hq.1
    · exact absurd (hp.symm.trans e) hq.2

/-- going on to a control point that owns the body stream exactly if the present one does, other than the top of the
loop, changes no holding -/
theorem connStep_move {s : State} {c : Nat} {cn : Conn} {D : Kind → Nat → Prop} (h : Inv s) (hc : s.conns c = some cn)
    {p : Phase} {b : Bool}
    (hs : cn.stream = none ∨ Conn.owns { cn with phase := p } .stream = cn.owns .stream) (hp : p ≠ .idle)
    (hhj : cn.hj = none ∨ p = .ret .hijacked) :
    ConnStep s (s.setConn c (some { cn with phase := p, exiled := b })) c (some cn)
      (some { cn with phase := p, exiled := b }) D where
  old := hc
  conns _ := rfl
  next := Nat.le_refl _
  keepHj := rfl
  kind k := by
    refine .keep rfl (by cases k <;> exact fun _ => id) ?_
    cases k
    · rfl
    · rcases hs with hs | hs
      · simp [held, Conn.ref, hs]
      · show (if Conn.owns { cn with phase := p } .stream then _ else _) = _
        rw [hs]; rfl
    · rfl
  ok := by
    rintro _ ⟨⟩
    refine ⟨fun hq => absurd hq hp, fun x hx => ?_⟩
    rcases hhj with hn | hr
    · cases hn.symm.trans hx
    · exact ⟨Or.inr hr, h.liveUnlessKeep c cn x hc hx⟩

/-- of the `return`s of `Serve`, only those before the release site leave the body stream with the request -/
theorem owns_stream_ret {cn : Conn} {r : RetSite} (hph : cn.phase = .ret r) (ho : cn.owns .stream = true) :
    cn.phase = .ret .writeFail ∨ cn.phase = .ret .panicked := by
  simp only [Conn.owns, hph] at ho
  rw [hph]
  cases r <;> simp_all [RetSite.streamLive]

/-- what the connection still owns when `Serve` returns, the context that is put back apart, is let go -/
theorem finish_drop {s : State} {c : Nat} {cn : Conn} {r : RetSite} {k : Kind} (hc : s.conns c = some cn)
    (hph : cn.phase = .ret r) (hx : k = .ctx → cn.exiled = true) (y : Nat) (hy : held (some cn) k = some y) :
    deliberate s (.finish c) k y := by
  obtain ⟨_, ⟨⟩, hy⟩ := held_eq_some.mp hy
  refine ⟨cn, hc, hy, ?_⟩
  cases k
  · exact Or.inl ⟨rfl, hx rfl⟩
  · exact Or.inr (Or.inl ⟨rfl, owns_stream_ret hph hy.2⟩)
  · exact Or.inr (Or.inr rfl)

/- The cases of `step` in the order of its definition; in those not listed the event does not fit the control point
of its connection and the state stays as it is. -/
theorem step_connStep (s : State) (e : Ev) (h : Inv s) (hns : ¬ staleClose s e) :
    step s e = s ∨ ∃ c o o', ConnStep s (step s e) c o o' (deliberate s e) := by
  fun_cases step s e
  case case2 c i hc x l n ht _ =>   -- `accept`: `Get` of a context
    refine .inr ⟨c, _, _, hc, fun _ => rfl, take_le ht, rfl, fun k => ?_, ?_⟩
    · cases k
      · exact .get ht rfl rfl rfl
      · exact .keep rfl nofun rfl
      · exact .keep rfl nofun rfl
    · rintro _ ⟨⟩; exact ⟨fun _ => rfl, nofun⟩
  case case3 c i cn hc hp x l n ht _ =>   -- `read`, streamed: `Get` of a body stream
    have hj := h.hj_none hc hp (by decide)
    refine .inr ⟨c, _, _, hc, fun _ => rfl, take_le ht, rfl, fun k => ?_, ?_⟩
    · cases k
      · exact .keep rfl (fun _ => id) rfl
      · exact .get ht rfl rfl (by simp [held, Conn.ref, h.idleClean c cn hc hp])
      · exact .keep rfl (fun _ => id) rfl
    · rintro _ ⟨⟩; exact ⟨nofun, fun y hy => nomatch hj.symm.trans hy⟩
  case case4 c _ i cn hc hp _ =>   -- `read`, not streamed
    exact .inr ⟨c, _, _, connStep_move h hc (Or.inl (h.idleClean c cn hc hp)) nofun (Or.inl (h.hj_none hc hp (by decide)))⟩
  case case7 c cn hc hp =>   -- `readFail`
    exact .inr ⟨c, _, _, connStep_move h hc (Or.inl (h.idleClean c cn hc hp)) nofun (Or.inl (h.hj_none hc hp (by decide)))⟩
  case case10 c exile cn hc hp _ =>   -- `handle`, the handler returned
    exact .inr ⟨c, _, _, connStep_move h hc (Or.inr rfl) (hp ▸ nofun) (Or.inl (h.hj_none hc hp (by decide)))⟩
  case case11 c exile cn hc hp _ =>   -- `handle`, the handler panicked
    exact .inr ⟨c, _, _, connStep_move h hc (Or.inr (by simp [Conn.owns, hp, RetSite.streamLive])) nofun
      (Or.inl (h.hj_none hc hp (by decide)))⟩
  case case14 c skipErr cn hc hp x hst =>   -- `respond`, written, a body stream to release: `Put`
    have hj := h.hj_none hc hp (by decide)
    refine .inr ⟨c, _, _, hc, fun _ => rfl, Nat.le_refl _, rfl, fun k => ?_, ?_⟩
    · cases k
      · exact .keep rfl (fun _ => id) rfl
      · exact .put rfl (fun _ => id) (by cases skipErr <;> rfl) (by simp [held, Conn.owns, Conn.ref, hp, hst])
      · exact .keep rfl (fun _ => id) rfl
    · rintro _ ⟨⟩; exact ⟨by cases skipErr <;> nofun, fun y hy => nomatch hj.symm.trans hy⟩
  case case15 c skipErr cn hc hp hst =>   -- `respond`, written, no body stream
    exact .inr ⟨c, _, _, connStep_move h hc (Or.inl hst) nofun (Or.inl (h.hj_none hc hp (by decide)))⟩
  case case16 c _ skipErr cn hc hp _ =>   -- `respond`, the write failed
    exact .inr ⟨c, _, _, connStep_move h hc (Or.inr (by simp [Conn.owns, hp, RetSite.streamLive])) nofun
      (Or.inl (h.hj_none hc hp (by decide)))⟩
  case case19 c i cn hc hp x l n ht _ =>   -- `after`, hijack: `Get` of a hijack conn
    have hj := h.hj_none hc hp (by decide)
    refine .inr ⟨c, _, _, hc, fun _ => rfl, take_le ht, rfl, fun k => ?_, ?_⟩
    · cases k
      · exact .keep rfl (fun _ => id) rfl
      · exact .keep rfl (fun _ => id) (by simp [held, Conn.owns, hp])
      · exact .get ht rfl rfl (by simp [held, Conn.ref, hj])
    · rintro _ ⟨⟩; exact ⟨nofun, fun _ _ => ⟨Or.inl rfl, nofun⟩⟩
  case case20 c i cn hc hp =>   -- `after`, short connection
    exact .inr ⟨c, _, _, connStep_move h hc (Or.inr (by simp [Conn.owns, hp, RetSite.streamLive])) nofun
      (Or.inl (h.hj_none hc hp (by decide)))⟩
  case case21 c i cn hc hp =>   -- `after`, IdleTimeout 0
    exact .inr ⟨c, _, _, connStep_move h hc (Or.inr (by simp [Conn.owns, hp, RetSite.streamLive])) nofun
      (Or.inl (h.hj_none hc hp (by decide)))⟩
  case case22 c i cn hc hp =>   -- `after`, keep-alive: back to the top of the loop
    have hj := h.hj_none hc hp (by decide)
    refine .inr ⟨c, _, _, hc, fun _ => rfl, Nat.le_refl _, rfl, fun k => ?_, ?_⟩
    · cases k
      · exact .keep rfl (fun _ => id) rfl
      · exact .keep rfl nofun (by simp [held, Conn.owns, hp])
      · exact .keep rfl (fun _ => id) rfl
    · rintro _ ⟨⟩; exact ⟨fun _ => rfl, fun y hy => nomatch hj.symm.trans hy⟩
  case case25 c cn hc hp x hh hk =>   -- `userClose` that releases: `Put` of the hijack conn
    have hk' : s.keepHj = true ∧ s.hjSet x = true := by simpa using hk
    -- the one use of `hns`: a releasing `Close` by a holder whose ownership has ended is the stale one
    have hl : cn.hjLive = true := by
      cases hl : cn.hjLive with
      | true => rfl
      | false => exact (hns ⟨cn, x, hc, hh, hl, hk'.2, hk'.1, hp⟩).elim
    refine .inr ⟨c, _, _, hc, fun _ => rfl, Nat.le_refl _, rfl, fun k => ?_, ?_⟩
    · cases k
      · exact .keep rfl (fun _ => id) rfl
      · exact .keep rfl (fun _ => id) rfl
      · exact .put rfl (fun _ => id) rfl (by simp [held, Conn.owns, Conn.ref, hl, hh])
    · rintro _ ⟨⟩
      exact ⟨fun hq => (by rcases hp with hp | hp <;> cases hp.symm.trans hq), fun y hy => ⟨hp, fun _ => hk'.1⟩⟩
  case case30 c cn hc hp x hh hk =>   -- `hijackEnd`, hijack conns kept
    exact .inr ⟨c, _, _, connStep_move h hc (Or.inr (by simp [Conn.owns, hp, RetSite.streamLive])) nofun (Or.inr rfl)⟩
  case case31 c cn hc hp x hh hk =>   -- `hijackEnd`, not kept: `Put` of the hijack conn
    have hl : cn.hjLive = true := by
      cases hl : cn.hjLive with
      | true => rfl
      | false => exact (hk (h.liveUnlessKeep c cn x hc hh hl)).elim
    refine .inr ⟨c, _, _, hc, fun _ => rfl, Nat.le_refl _, rfl, fun k => ?_, ?_⟩
    · cases k
      · exact .keep rfl (fun _ => id) rfl
      · exact .keep rfl (fun _ => id) (by simp [held, Conn.owns, hp, RetSite.streamLive])
      · exact .put rfl nofun rfl (by simp [held, Conn.owns, Conn.ref, hl, hh])
    · rintro _ ⟨⟩; exact ⟨nofun, nofun⟩
  case case32 c cn hc hp hh =>   -- `hijackEnd`, no hijack conn
    exact .inr ⟨c, _, _, connStep_move h hc (Or.inr (by simp [Conn.owns, hp, RetSite.streamLive])) nofun (Or.inl hh)⟩
  case case35 c cn hc r hph hx =>   -- `finish`, exiled: the context is not put back
    exact .inr ⟨c, _, none, hc, fun _ => rfl, Nat.le_refl _, rfl,
      fun k => .drop rfl nofun rfl (finish_drop hc hph fun _ => hx), fun _ e => nomatch e⟩
  case case36 c cn hc r hph hx =>   -- `finish`: `Put` of the context
    refine .inr ⟨c, _, none, hc, fun _ => rfl, Nat.le_refl _, rfl, fun k => ?_, fun _ e => nomatch e⟩
    cases k
    · exact .put rfl nofun rfl rfl
    · exact .drop rfl nofun rfl (finish_drop hc hph nofun)
    · exact .drop rfl nofun rfl (finish_drop hc hph nofun)
  all_goals exact .inl rfl

theorem inv_step (s : State) (e : Ev) (h : Inv s) (hns : ¬ staleClose s e) : Inv (step s e) := by
  rcases step_connStep s e h hns with e | ⟨c, o, o', a⟩
  · rw [e]; exact h
  · exact a.inv h

theorem inv_run (s : State) (es : List Ev) (h : Inv s) (hs : NoStale s es) : Inv (run s es) := by
  induction es generalizing s with
  | nil => exact h
  | cons e es ih => exact ih _ (inv_step s e h hs.1) hs.2

/-! ## no silent loss -/

theorem tracked_step (s : State) (e : Ev) (k : Kind) (x : Nat) (h : Inv s) (ht : tracked s k x) :
    tracked (step s e) k x ∨ deliberate s e k x := by
  by_cases hns : staleClose s e
  · -- a `Close` through a reference that owns nothing puts a second time: the pool grows, no holding changes
    cases e <;> try exact hns.elim
    rename_i c
    obtain ⟨cn, x0, hc, hh, hl, hset, hkeep, hp⟩ := hns
    have e : step s (.userClose c) = ((s.put .hjconn x0).setHj x0 false).setConn c (some { cn with hjLive := false }) := by
      simp [step, hc, hp, hh, hkeep, hset]
    rw [e]
    refine tracked_transfer hc (fun _ => rfl) (fun k y hy => Or.inl ?_) (fun k y hy => Or.inr (Or.inl ?_)) ht
    · show y ∈ if k = .hjconn then x0 :: s.pool .hjconn else s.pool k
      split
      · subst_vars; exact List.mem_cons_of_mem _ hy
      · exact hy
    · cases k
      · exact hy
      · exact hy
      · simp [held, Conn.owns, hl] at hy
  · rcases step_connStep s e h hns with e | ⟨c, o, o', a⟩
    · rw [e]; exact Or.inl ht
    · exact a.tracked ht

/-! ## the user's `Close` calls -/

theorem step_keepHj (s : State) (e : Ev) : (step s e).keepHj = s.keepHj := by
  fun_cases step s e <;> rfl

theorem userClose_cases (s : State) (c : Nat) : step s (.userClose c) = s ∨
    ∃ (cn : Conn) (x : Nat), (cn.phase = .hijacking ∨ cn.phase = .ret .hijacked) ∧ cn.hj = some x ∧
      step s (.userClose c) = ((s.put .hjconn x).setHj x false).setConn c (some { cn with hjLive := false }) := by
  simp only [step]
  cases hc : s.conns c with
  | none => exact Or.inl rfl
  | some cn =>
    simp only []
    by_cases hp : cn.phase = .hijacking ∨ cn.phase = .ret .hijacked
    · rw [if_pos hp]
      cases hh : cn.hj with
      | none => exact Or.inl rfl
      | some x =>
        simp only []
        by_cases hk : (s.keepHj && s.hjSet x) = true
        · rw [if_pos hk]; exact Or.inr ⟨cn, x, hp, hh, by rw [hh]⟩
        · rw [if_neg hk]; exact Or.inl rfl
    · rw [if_neg hp]; exact Or.inl rfl

theorem close_idem (s : State) (c : Nat) : step (step s (.userClose c)) (.userClose c) = step s (.userClose c) := by
  rcases userClose_cases s c with h | ⟨cn, x, hp, hh, h⟩
  · rw [h, h]
  · rw [h]
    simp [step, State.setConn, State.setHj, State.put, State.setPool, hp, hh]

theorem not_stale_of_not_keep (s : State) (e : Ev) (hk : s.keepHj = false) : ¬ staleClose s e := by
  cases e <;> simp only [staleClose, not_false_eq_true]
  rintro ⟨cn, x, _, _, _, _, h, _⟩
  rw [hk] at h; cases h

theorem noStale_of_not_keep (s : State) (es : List Ev) (hk : s.keepHj = false) : NoStale s es := by
  induction es generalizing s with
  | nil => trivial
  | cons e es ih => exact ⟨not_stale_of_not_keep s e hk, ih _ (by rw [step_keepHj]; exact hk)⟩

end Hertz.PoolOwn

