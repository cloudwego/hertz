import Hertz.Proofs.ScanEdit
/-!
# The scanner with its need-more rule (`scanNextN`, `scanBlockN`): rescan after edit = whole, unconditionally

`Next` answers need-more, having rewritten the name only, when a folded value reaches the end of the buffer (`openFold`).
That return leaves `keyEdit` of the buffer, which reads the same whatever bytes follow (`readBlock_keyEdit`); every field
that IS handed out is final or on one line (`FieldAt.final_or_single`), so what the edit leaves in its place is read as that
field again (`rescanN`).  `scanNextE` is the scanner without the rule: where it compacts no value early it leaves the same
buffer, so its rescan theorems (with that hypothesis) are corollaries, at the end of the file.
-/
namespace Hertz.H1.ScanEdit
open Hertz Hertz.H1

/-! ### the early return leaves `keyEdit` of the buffer, which reads as the buffer does -/

theorem readBlock_congr (dn : Bool) (f : Nat) (X X' : Bytes) (h : scanNext dn X = scanNext dn X') :
    readBlock dn f X = readBlock dn f X' := by
  cases f with
  | zero => rfl
  | succ f => simp only [readBlock, h]

/-- `keyEdit` on a buffer that begins with a name and its colon -/
theorem keyEdit_colon (dn : Bool) (K0 Y : Bytes) (h58 : ∀ y ∈ K0, y ≠ 58) :
    keyEdit dn (K0 ++ 58 :: Y) = normalizeKey dn K0 ++ 58 :: Y := by
  simp only [keyEdit, indexByte_skip 58 K0 Y h58, List.take_left, List.drop_left]

theorem keyEdit_len (dn : Bool) (B : Bytes) : (keyEdit dn B).length = B.length := by
  unfold keyEdit
  split
  · simp [normalizeKey_len]; omega
  · rfl

/-- canonicalising the name of the first field where it lies changes nothing of what is read, whatever follows -/
theorem readBlock_keyEdit (dn : Bool) (f : Nat) (B more : Bytes) {k v rest : Bytes} {m : Nat} (hk : scanNext dn B = .kv k v rest m) :
    readBlock dn f (keyEdit dn B ++ more) = readBlock dn f (B ++ more) := by
  obtain ⟨name, raw, C, F, -⟩ := FieldAt.of_kv dn B k v rest m hk
  rw [F.eq, keyEdit_colon dn name _ fun y hy => (F.name y hy).2]
  simp only [List.append_assoc, List.cons_append]
  refine readBlock_congr dn f _ _ ?_
  rw [scanNext_field dn _ raw _ (normalizeKey_name dn F.name) F.raw, scanNext_field dn name raw _ F.name F.raw,
    normalizeKey_idem, normalizeKey_len]

theorem contExtra_keyEdit (dn : Bool) (B Z : Bytes) {k v rest : Bytes} {m : Nat} (hk : scanNext dn B = .kv k v rest m) :
    contExtra (keyEdit dn B ++ Z) = 0 := by
  obtain ⟨name, raw, C, F, -⟩ := FieldAt.of_kv dn B k v rest m hk
  rw [F.eq, keyEdit_colon dn name _ fun y hy => (F.name y hy).2, List.append_assoc, List.cons_append]
  exact contExtra_key _ _ (normalizeKey_name dn F.name)

/-- a call that hands out a value on one line has rewritten the name only -/
theorem _root_.Hertz.H1.FieldAt.single_buf (dn : Bool) {B name raw rest : Bytes} (F : FieldAt B name raw [] rest) :
    (scanNextE dn B).2 = keyEdit dn B := by
  rw [F.scanE dn, editedRaw_nil, F.eq, keyEdit_colon dn name _ fun y hy => (F.name y hy).2]
  rfl

/-- `isMultiLineValue` on a field: the look-ahead committed to a continuation line -/
theorem _root_.Hertz.H1.FieldAt.isMulti {B name raw C rest : Bytes} (F : FieldAt B name raw C rest) :
    ScanEdit.isMulti B = decide (C.length > 0) := by
  obtain ⟨rfl, hn, hr, hC, hstop⟩ := F
  obtain ⟨hi58, -⟩ := field_positions name raw (C ++ rest) hn hr
  have p := field_valuePos name raw (C ++ rest) hr
  have hdropT : List.drop ((raw.dropWhile isOWS).length + 1) (raw.dropWhile isOWS ++ 10 :: (C ++ rest)) = C ++ rest :=
    List.drop_length_add_append 1
  simp only [ScanEdit.isMulti, hi58, ← p.sp_eq, ← p.b1_eq, p.n1_eq, hdropT, hC.extra_stop hstop]

theorem dryFold_eq (dn : Bool) (B k v rest : Bytes) (m : Nat) (hk : scanNext dn B = .kv k v rest m) :
    dryFold dn B = (isMulti B && (indexByte 10 rest).isNone) := by
  simp only [dryFold, hk]; rfl

/-! ### `scanBlockNE` call by call: the early return, a field handed out, a stop -/

theorem scanNextN_closed (dn : Bool) (B : Bytes) (h : openFold dn B = false) : scanNextN dn B = scanNextE dn B := by
  simp [scanNextN, h]

theorem openFold_kv (dn : Bool) (B : Bytes) (h : openFold dn B = true) :
    ∃ k v rest m, scanNext dn B = .kv k v rest m := by
  unfold openFold at h
  cases hs : scanNext dn B with
  | kv k v rest m => exact ⟨k, v, rest, m, rfl⟩
  | fin n => simp [hs] at h
  | needMore => simp [hs] at h
  | invalidName => simp [hs] at h

/-- at the early return only the key has been rewritten -/
theorem scanBlockNE_open (dn : Bool) (f : Nat) (B : Bytes) (h : openFold dn B = true) :
    (scanBlockNE dn (f + 1) B).buf = keyEdit dn B ∧ (scanBlockNE dn (f + 1) B).stop = .needMore ∧
      (scanBlockNE dn (f + 1) B).fields = [] := by
  simp [scanBlockNE, scanNextN, h]

theorem scanBlockNE_kv (dn : Bool) (fuel : Nat) (B k v rest B' : Bytes) (m : Nat) (ho : openFold dn B = false)
    (h : scanNextE dn B = (.kv k v rest m, B')) :
    (scanBlockNE dn (fuel + 1) B).buf = B'.take m ++ (scanBlockNE dn fuel rest).buf ∧
    (scanBlockNE dn (fuel + 1) B).fields = (k, v) :: (scanBlockNE dn fuel rest).fields ∧
    (scanBlockNE dn (fuel + 1) B).stop =
      (match (scanBlockNE dn fuel rest).stop with | .fin h => .fin (m + h) | s => s) := by
  rw [scanBlockNE]
  simp only [scanNextN, ho, Bool.false_eq_true, if_false, h]
  exact ⟨trivial, trivial, rfl⟩

theorem scanBlockNE_stop (dn : Bool) (fuel : Nat) (B : Bytes) (hk : ∀ k v r m, scanNext dn B ≠ .kv k v r m) :
    (scanBlockNE dn (fuel + 1) B).buf = B := by
  have ho : openFold dn B = false := Bool.eq_false_iff.mpr fun ho => by
    obtain ⟨k, v, r, m, hk'⟩ := openFold_kv dn B ho
    exact hk k v r m hk'
  simp only [scanBlockNE, scanNextN, ho, scanNextE_nokv dn B hk]
  cases hs : scanNext dn B with
  | kv k v r m => exact absurd hs (hk k v r m)
  | fin n => simp
  | needMore => simp
  | invalidName => simp

/-- a field the scanner as it stands hands out is final (nothing that arrives later continues its value), unless its
value is on one line and no line feed has arrived behind it -/
theorem _root_.Hertz.H1.FieldAt.final_or_single (dn : Bool) {B name raw C rest : Bytes} (F : FieldAt B name raw C rest)
    (ho : openFold dn B = false) : (∀ x, contExtra (rest ++ x) = 0) ∨ (indexByte 10 rest = none ∧ C = []) := by
  rcases contExtra_zero_dry rest F.stop with hs | hd
  · exact Or.inl hs
  · by_cases hC : C = []
    · exact Or.inr ⟨hd, hC⟩
    · -- a folded value: the rule lets it through only in front of a byte that is there and is not a blank
      have hfo : foldOpen rest = false := by
        simpa [openFold, F.scan dn, F.isMulti, List.length_pos_iff.mpr hC] using ho
      match rest, hfo, hd with
      | [], hfo, _ => simp [foldOpen] at hfo
      | c :: t, hfo, hd =>
        have hc : isOWS c = false := by simpa [foldOpen, hd] using hfo
        exact Or.inl fun x => contExtra_of_nonblank c _ (by intro h; rcases h with rfl | rfl <;> simp [isOWS] at hc)

theorem contExtra_blockbufN_app (dn : Bool) (fuel : Nat) (rest more : Bytes) (h : contExtra (rest ++ more) = 0) :
    contExtra ((scanBlockNE dn fuel rest).buf ++ more) = 0 := by
  cases fuel with
  | zero => simpa [scanBlockNE] using h
  | succ f =>
    rcases Bool.eq_false_or_eq_true (openFold dn rest) with ho | ho
    · obtain ⟨k, v, r, m, hk⟩ := openFold_kv dn rest ho
      rw [(scanBlockNE_open dn f rest ho).1]
      exact contExtra_keyEdit dn rest more hk
    · rcases scanNextE_step_rescannable dn rest with ⟨_, hk⟩ | ⟨k, v, r, m, pre, hs, _, hpre, _, _, hc, _⟩
      · rw [scanBlockNE_stop dn f rest hk]; exact h
      · rw [(scanBlockNE_kv dn f rest k v r _ m ho hs).1, List.take_left' hpre, List.append_assoc]
        exact hc _

theorem scanBlockNE_no_lf (dn : Bool) (f : Nat) (rest : Bytes) (hd : indexByte 10 rest = none) :
    (scanBlockNE dn f rest).buf = rest := by
  cases f with
  | zero => rfl
  | succ f0 =>
    rcases scanNextE_step dn rest with ⟨_, hk⟩ | ⟨k, v, r, m, p, _, hk, _⟩
    · exact scanBlockNE_stop dn f0 rest hk
    · rw [scanNext_no_lf dn rest hd] at hk; cases hk

/-- **Rescan after edit = whole, for the scanner as it stands, without hypothesis.** -/
theorem rescanN (dn : Bool) : ∀ (f : Nat) (B more : Bytes) (f' : Nat), B.length + 1 ≤ f →
    (B ++ more).length + 1 ≤ f' →
    readBlock dn f' ((scanBlockNE dn f B).buf ++ more) = readBlock dn f' (B ++ more)
  | 0, B, more, f', hf, _ => by omega
  | f + 1, B, more, f', hf, hf' => by
    rcases Bool.eq_false_or_eq_true (openFold dn B) with ho | ho
    · -- the early return: only the key was rewritten
      obtain ⟨k, v, r, m, hk⟩ := openFold_kv dn B ho
      rw [(scanBlockNE_open dn f B ho).1]
      exact readBlock_keyEdit dn _ B more hk
    · rcases scanNextE_step_rescannable dn B with ⟨_, hk⟩ | ⟨k, v, rest, m, pre, hs, hk, hpre, hlen, _, _, hI⟩
      · rw [scanBlockNE_stop dn f B hk]
      · obtain ⟨name, raw, C, F, rfl, rfl, rfl⟩ := FieldAt.of_kv dn B k v rest m hk
        rw [(scanBlockNE_kv dn f B _ _ rest _ _ ho hs).1, List.take_left' hpre]
        rcases F.final_or_single dn ho with hfin | ⟨hd, rfl⟩
        · -- the same field is read with `more` behind it, and what the call left in its place reads as that field
          have hs3 := (scanNextE_fst dn _).symm.trans (congrArg Prod.fst (hI _ (contExtra_blockbufN_app dn f rest more (hfin more))))
          obtain ⟨f'', rfl⟩ : ∃ f'', f' = f'' + 1 := ⟨f' - 1, by omega⟩
          have ih := rescanN dn f rest more f'' (by omega) (by simp at hf' ⊢; omega)
          rw [List.append_assoc]
          simp only [readBlock, hs3, (F.append more (hfin more)).scan dn, ih]
        · -- a value on one line, its look-ahead ran dry: only the key was rewritten
          rw [scanBlockNE_no_lf dn f rest hd, ← show (scanNextE dn B).2 = pre ++ rest by rw [hs], F.single_buf dn]
          exact readBlock_keyEdit dn _ B more hk

theorem scanBlockNE_len (dn : Bool) : ∀ (f : Nat) (B : Bytes), (scanBlockNE dn f B).buf.length = B.length
  | 0, B => rfl
  | f + 1, B => by
    rcases Bool.eq_false_or_eq_true (openFold dn B) with ho | ho
    · rw [(scanBlockNE_open dn f B ho).1, keyEdit_len]
    · rcases scanNextE_step dn B with ⟨_, hk⟩ | ⟨k, v, rest, m, pre, hs, _, hpre, _, hlen⟩
      · rw [scanBlockNE_stop dn f B hk]
      · rw [(scanBlockNE_kv dn f B k v rest _ m ho hs).1, List.take_left' hpre]
        simp [scanBlockNE_len dn f rest]; omega

theorem editBlockN_len (dn : Bool) (B : Bytes) : (editBlockN dn B).length = B.length :=
  scanBlockNE_len dn _ B

/-! ### the scanner without the rule, where the rule would not have fired -/

theorem dryFold_of_openFold (dn : Bool) (B : Bytes) (h : openFold dn B = true) : dryFold dn B = true := by
  obtain ⟨k, v, rest, m, hk⟩ := openFold_kv dn B h
  simp only [openFold, hk, dryFold_eq dn B k v rest m hk, Bool.and_eq_true] at h ⊢
  refine ⟨h.1, ?_⟩
  match rest, h.2 with
  | [], _ => rfl
  | c :: t, h2 => exact (Bool.and_eq_true _ _ ▸ h2 : _ ∧ _).2

/-- a scan that compacts no value before it is complete never takes the early return: both scanners leave the same buffer -/
theorem scanBlockNE_clean (dn : Bool) : ∀ (f : Nat) (B : Bytes), anyDryFold dn f B = false →
    (scanBlockNE dn f B).buf = (scanBlockE dn f B).buf
  | 0, _, _ => rfl
  | f + 1, B, h => by
    rcases scanNextE_step_rescannable dn B with ⟨_, hk⟩ | ⟨k, v, rest, m, pre, hs, hk, _⟩
    · rw [scanBlockNE_stop dn f B hk, (scanBlockE_stop dn f B hk).1]
    · simp only [anyDryFold, hk, Bool.or_eq_false_iff] at h
      have ho : openFold dn B = false := Bool.eq_false_iff.mpr fun ho => by
        rw [dryFold_of_openFold dn B ho] at h; cases h.1
      rw [(scanBlockNE_kv dn f B k v rest _ m ho hs).1, scanBlockE_kv dn f B k v rest _ m hs,
        scanBlockNE_clean dn f rest h.2]

/-- **Rescan after edit = whole for the scanner without the rule, when no value was compacted before it was complete.**
`f`, `f'`: enough fuel. -/
theorem rescan_partial (dn : Bool) (f : Nat) (B more : Bytes) (f' : Nat) (hf : B.length + 1 ≤ f)
    (hf' : (B ++ more).length + 1 ≤ f') (h : anyDryFold dn f B = false) :
    readBlock dn f' ((scanBlockE dn f B).buf ++ more) = readBlock dn f' (B ++ more) := by
  rw [← scanBlockNE_clean dn f B h]
  exact rescanN dn f B more f' hf hf'

/-- **Trailer section without the `0\r\n` question**: `ext.parseTrailer` on the edited section followed by more bytes -/
theorem parseTrailer_rescan (dn : Bool) (tr : List (Bytes × Option Bytes)) (B more : Bytes)
    (hc : anyDryFold dn (B.length + 1) B = false) :
    parseTrailer dn tr (editBlock dn B ++ more) = parseTrailer dn tr (B ++ more) := by
  have hlen : (editBlock dn B ++ more).length = (B ++ more).length := by
    simp [editBlock, scanBlock, (scanBlockE_local dn (B.length + 1) B).1]
  rcases scanNextE_step_rescannable dn B with ⟨_, hk⟩ | ⟨k, v, rest, m, pre, hs, hkv, hpre, _, h0, ⟨_, hI⟩⟩
  · have : editBlock dn B = B := (scanBlockE_stop dn B.length B hk).1
    rw [this]
  · -- both buffers begin with a field line, so `parseTrailer` is its loop on each
    obtain ⟨name, raw, C, F, -⟩ := FieldAt.of_kv dn B k v rest m hkv
    have hR : NoZeroLine (B ++ more) := F.noZeroLine.append (by rw [F.eq]; simp) more
    have hE : editBlock dn B = pre ++ (scanBlockE dn B.length rest).buf := by
      unfold editBlock scanBlock
      rw [scanBlockE_kv dn B.length B k v rest _ m hs]
      simp only []
      rw [← hpre, List.take_left]
    have hL : NoZeroLine (editBlock dn B ++ more) := by
      rw [hE, List.append_assoc]
      exact pre_noZeroLine dn pre rest k v m ((scanNextE_fst dn _).symm.trans (congrArg Prod.fst (hI rest h0))) _
    rw [parseTrailer_plain dn tr _ hL, parseTrailer_plain dn tr _ hR, hlen, parseTrailerLoop_eq_fold,
      parseTrailerLoop_eq_fold]
    unfold editBlock scanBlock
    rw [rescan_partial dn _ B more _ (Nat.le_refl _) (Nat.le_refl _) hc]

theorem trailerParseE_plain (dn : Bool) (tr : List (Bytes × Option Bytes)) (buf : Bytes) (h : NoZeroLine buf) :
    trailerSection buf = buf ∧ (trailerParseE dn tr buf).2 = editTrailer dn buf := by
  unfold trailerSection trailerParseE
  split
  · simp only [if_neg (h _ rfl).1, if_neg (h _ rfl).2, and_self]
  · exact ⟨rfl, rfl⟩

/-- **`ext.parseTrailer`, whole buffer (with the optional `0\r\n` in front), rescan after edit** -/
theorem trailerParse_rescan (dn : Bool) (tr : List (Bytes × Option Bytes)) (buf more : Bytes)
    (hc : anyDryFold dn ((trailerSection buf).length + 1) (trailerSection buf) = false) :
    parseTrailer dn tr ((trailerParseE dn tr buf).2 ++ more) = parseTrailer dn tr (buf ++ more) := by
  rcases trailer_begin buf with ⟨⟨r, rfl⟩, hl⟩ | ⟨S, rfl⟩ | hp
  · simp only [trailerParseE, hl, if_true]
  · have h1 : ¬ ((48 :: 13 :: 10 :: S : Bytes).length < 3) := by simp
    have h3 : (13 :: 10 :: S : Bytes).take 2 = Gen.Str.strCRLF := rfl
    have hsec : trailerSection (48 :: 13 :: 10 :: S) = S := by simp only [trailerSection, if_neg h1, if_pos h3]; rfl
    have hbuf : (trailerParseE dn tr (48 :: 13 :: 10 :: S)).2 = 48 :: 13 :: 10 :: editBlock dn S := by
      simp only [trailerParseE, if_neg h1, if_pos h3, editTrailer_eq]; rfl
    rw [hsec] at hc
    have hl2 : (editBlock dn S ++ more).length = (S ++ more).length := by
      simp [editBlock, scanBlock, (scanBlockE_local dn (S.length + 1) S).1]
    rw [hbuf, show 48 :: 13 :: 10 :: editBlock dn S ++ more = 48 :: 13 :: 10 :: (editBlock dn S ++ more) from rfl,
      show 48 :: 13 :: 10 :: S ++ more = 48 :: 13 :: 10 :: (S ++ more) from rfl, parseTrailer_crlf, parseTrailer_crlf, hl2,
      parseTrailerLoop_eq_fold, parseTrailerLoop_eq_fold]
    unfold editBlock scanBlock
    rw [rescan_partial dn _ S more _ (Nat.le_refl _) (by omega) hc]
  · obtain ⟨hsec, hbuf⟩ := trailerParseE_plain dn tr buf hp
    rw [hsec] at hc
    rw [hbuf, editTrailer_eq]
    exact parseTrailer_rescan dn tr _ more hc

end Hertz.H1.ScanEdit
