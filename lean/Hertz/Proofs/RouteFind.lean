import Hertz.Proofs.RouteBridge
import Hertz.Proofs.RouteTree
/-!
C06, search side: on a well-formed tree `visit` (the recursive form of `router.find`) returns the
route that the priority rule selects among the routes the tree denotes, with the parameter values
of that route's key, or reports a miss exactly when no key matches.  It never panics when the
parameter-name bookkeeping (`PnOK`) holds.
-/
namespace Hertz.Route

theorem matchS_nil (s : Bytes) : matchS [] s = if s = [] then some [] else none := by
  cases s <;> simp [matchS]

theorem matchS_param_nil (k : Bytes) : matchS (58 :: k) [] = none := by simp [matchS]

theorem matchS_param_cons (k : Bytes) (c : UInt8) (s : Bytes) :
    matchS (58 :: k) (c :: s) = match matchS k (segRest (c :: s)) with
      | none => none
      | some r => some (segValue (c :: s) :: r) := by
  cases h : matchS k (segRest (c :: s)) <;> simp [matchS, h]

theorem matchS_any (k s : Bytes) : matchS (42 :: k) s = some [s] := by simp [matchS]

theorem preferS_nil (b : Bytes) : preferS [] b = true := by cases b <;> rfl

theorem specRes_prefix {R : List (Bytes × Val)} {pfx s ps : _} {r : Res} (hl : Lit pfx) (hp : pfx.isPrefixOf s = true)
    (h : SpecRes R (s.drop pfx.length) ps r) : SpecRes (R.map (pref pfx)) s ps r := by
  rcases h with ⟨k, v, vals, ⟨hm, hk, hb⟩, hr⟩ | ⟨hn, hr⟩
  · refine Or.inl ⟨pfx ++ k, v, vals, ⟨?_, ?_, ?_⟩, hr⟩
    · exact List.mem_map.mpr ⟨(k, v), hm, rfl⟩
    · rw [matchS_lit_prefix hl, if_pos hp]; exact hk
    · intro kv hkv hs
      obtain ⟨kv', hkv', rfl⟩ := List.mem_map.mp hkv
      simp only [pref, matchS_lit_prefix hl, hp, if_true] at hs
      simp only [pref, preferS_append]
      exact hb kv' hkv' hs
  · refine Or.inr ⟨?_, hr⟩
    intro kv hkv
    obtain ⟨kv', hkv', rfl⟩ := List.mem_map.mp hkv
    simp only [pref, matchS_lit_prefix hl, hp, if_true]
    exact hn kv' hkv'

theorem specRes_no_prefix {R : List (Bytes × Val)} {pfx s ps : _} (hl : Lit pfx) (hp : ¬ pfx.isPrefixOf s = true) :
    SpecRes (R.map (pref pfx)) s ps .miss := by
  refine Or.inr ⟨?_, rfl⟩
  intro kv hkv
  obtain ⟨kv', _, rfl⟩ := List.mem_map.mp hkv
  simp only [pref, matchS_lit_prefix hl, hp]
  simp

/-- alternatives tried in order: the earlier group wins when it has a match -/
theorem specRes_orElse {R1 R2 : List (Bytes × Val)} {s ps : _} {r1 r2 : Res}
    (h1 : SpecRes R1 s ps r1) (h2 : SpecRes R2 s ps r2)
    (hpref : ∀ kv1 ∈ R1, ∀ kv2 ∈ R2, (matchS kv1.1 s).isSome = true → (matchS kv2.1 s).isSome = true →
      preferS kv1.1 kv2.1 = true) :
    SpecRes (R1 ++ R2) s ps (r1.orElse fun _ => r2) := by
  rcases h1 with ⟨k, v, vals, ⟨hm, hk, hb⟩, hr⟩ | ⟨hn, hr⟩
  · subst hr
    refine Or.inl ⟨k, v, vals, ⟨List.mem_append_left _ hm, hk, ?_⟩, rfl⟩
    intro kv hkv hs
    rcases List.mem_append.mp hkv with h | h
    · exact hb kv h hs
    · exact hpref (k, v) hm kv h (by simp [hk]) hs
  · subst hr
    simp only [Res.orElse]
    rcases h2 with ⟨k, v, vals, ⟨hm, hk, hb⟩, hr⟩ | ⟨hn2, hr⟩
    · refine Or.inl ⟨k, v, vals, ⟨List.mem_append_right _ hm, hk, ?_⟩, hr⟩
      intro kv hkv hs
      rcases List.mem_append.mp hkv with h | h
      · rw [hn kv h] at hs; simp at hs
      · exact hb kv h hs
    · refine Or.inr ⟨?_, hr⟩
      intro kv hkv
      rcases List.mem_append.mp hkv with h | h
      · exact hn kv h
      · exact hn2 kv h

/-- a group without match changes nothing, on either side -/
theorem specRes_append_none_right {R1 R2 : List (Bytes × Val)} {s ps : _} {r : Res}
    (h1 : SpecRes R1 s ps r) (h2 : NoneMatch R2 s) : SpecRes (R1 ++ R2) s ps r := by
  have := specRes_orElse (r2 := .miss) h1 (Or.inr ⟨h2, rfl⟩)
    fun _ _ kv2 hk2 _ hs => by rw [h2 kv2 hk2] at hs; cases hs
  rcases h1 with ⟨_, _, _, _, rfl⟩ | ⟨_, rfl⟩ <;> exact this

theorem specRes_append_none_left {R1 R2 : List (Bytes × Val)} {s ps : _} {r : Res}
    (h1 : NoneMatch R1 s) (h2 : SpecRes R2 s ps r) : SpecRes (R1 ++ R2) s ps r :=
  specRes_orElse (r1 := .miss) (Or.inr ⟨h1, rfl⟩) h2
    fun kv1 hk1 _ _ hs _ => by rw [h1 kv1 hk1] at hs; cases hs

/-- entering a parameter node: the value is pushed, the rest of the key is matched behind it -/
theorem specRes_param (R : List (Bytes × Val)) (c : UInt8) (s' : Bytes) (ps : _) (r : Res)
    (h : SpecRes R (segRest (c :: s')) (ps ++ [segValue (c :: s')]) r) :
    SpecRes (R.map (fun kv => ((58 : UInt8) :: kv.1, kv.2))) (c :: s') ps r := by
  rcases h with ⟨k, v, vals, ⟨hm, hk, hb⟩, hr⟩ | ⟨hn, hr⟩
  · refine Or.inl ⟨58 :: k, v, segValue (c :: s') :: vals, ⟨?_, ?_, ?_⟩, ?_⟩
    · exact List.mem_map.mpr ⟨(k, v), hm, rfl⟩
    · rw [matchS_param_cons, hk]
    · intro kv hkv hs
      obtain ⟨kv', hkv', rfl⟩ := List.mem_map.mp hkv
      simp only [preferS, if_true]
      apply hb kv' hkv'
      rw [matchS_param_cons] at hs
      cases hx : matchS kv'.1 (segRest (c :: s')) with
      | none => rw [hx] at hs; simp at hs
      | some _ => rfl
    · rw [hr]; simp [List.append_assoc]
  · refine Or.inr ⟨?_, hr⟩
    intro kv hkv
    obtain ⟨kv', hkv', rfl⟩ := List.mem_map.mp hkv
    rw [matchS_param_cons, hn kv' hkv']

theorem cons_of_head {k : Bytes} {c : UInt8} (h : k.head? = some c) : ∃ r, k = c :: r := by
  cases k with
  | nil => cases h
  | cons a r => exact ⟨r, by rw [Option.some.inj h]⟩

theorem routes_head_static (n : Node) (h : WF n .skind) :
    n.label ≠ 58 ∧ n.label ≠ 42 ∧ ∀ kv ∈ routes n, ∃ k, kv.1 = n.label :: k :=
  ⟨(WF_label n _ h).1, (WF_label n _ h).2, fun kv hkv =>
    cons_of_head (keys_head n _ h kv.1 (List.mem_map_of_mem hkv))⟩

theorem routesL_head (cs : List Node) (h : WFL cs) :
    ∀ kv ∈ routesL cs, ∃ c k, kv.1 = c :: k ∧ c ≠ 58 ∧ c ≠ 42 ∧ c ∈ cs.map Node.label := fun kv hkv =>
  let ⟨c, hm, hh⟩ := keysL_head cs h kv.1 (List.mem_map_of_mem hkv)
  let ⟨k, hk⟩ := cons_of_head hh
  ⟨c.label, k, hk, (WF_label c _ (WFL_mem cs c h hm)).1, (WF_label c _ (WFL_mem cs c h hm)).2, List.mem_map_of_mem hm⟩

theorem routesO_param (pc : Option Node) (h : WFO pc .pkind) :
    routesO pc = (match pc with | none => [] | some c => routesBody c).map
      (fun (kv : Bytes × Val) => ((58 : UInt8) :: kv.1, kv.2)) := by
  cases pc with
  | none => simp [routesO]
  | some c =>
    obtain ⟨kind, label, pfx, cs, ppath, pnames, hs, pc', ac⟩ := c
    rw [WFO, WF_mk] at h
    obtain ⟨-, -, rfl, -⟩ := h
    rw [routesO, routes_eq_body]; rfl

theorem routesO_any (ac : Option Node) (h : WFO ac .akind) : ∀ kv ∈ routesO ac, kv.1 = [42] := by
  cases ac with
  | none => intro kv hkv; simp [routesO] at hkv
  | some c =>
    obtain ⟨label, pp, pn, x, rfl⟩ := WF_any c h
    intro kv hkv
    simp [routesO, routes_leaf, hsPart, pref] at hkv
    simp [hkv]

/-- the part of `visit` behind the prefix test -/
def bodyRes (cs : List Node) (ppath : Bytes) (pnames : List Bytes) (hs : Option Nat) (pc ac : Option Node)
    (s : Bytes) (ps : List Bytes) (cap : Nat) : Res :=
  match (match s, hs with | [], some h => some h | _, _ => none) with
  | some h => finish h ppath pnames ps
  | none =>
    (match s with
      | [] => Res.miss
      | c :: _ => visitChild cs c s ps cap).orElse fun _ =>
    (match s with
      | [] => Res.miss
      | _ :: _ => visitParam pc s ps cap).orElse fun _ =>
    visitAny ac s ps cap

theorem visit_mk (kind : Kind) (label : UInt8) (pfx : Bytes) (cs : List Node) (ppath : Bytes) (pnames : List Bytes)
    (hs : Option Nat) (pc ac : Option Node) (s : Bytes) (ps : List Bytes) (cap : Nat) :
    visit (.mk kind label pfx cs ppath pnames hs pc ac) s ps cap =
      match (if kind = .skind then (if pfx.isPrefixOf s then some (s.drop pfx.length) else none) else some s) with
      | none => .miss
      | some s' => bodyRes cs ppath pnames hs pc ac s' ps cap := by
  rw [visit]; rfl

theorem set_append_last (ps : List Bytes) (x y : Bytes) : (ps ++ [x]).set ps.length y = ps ++ [y] := by
  induction ps with
  | nil => rfl
  | cons a t ih => simp [ih]

/-- the `Any:` block at a catch-all child that has handlers and one name for each value -/
theorem visitAny_some {kind : Kind} {label : UInt8} {pfx : Bytes} {cs : List Node} {ppath : Bytes} {pnames : List Bytes}
    {h : Nat} {pc ac : Option Node} {s : Bytes} {ps : List Bytes} {cap : Nat}
    (hlen : pnames.length = ps.length + 1) (hcap : ps.length + 1 ≤ cap) :
    visitAny (some (.mk kind label pfx cs ppath pnames (some h) pc ac)) s ps cap =
      .hit ⟨h, ppath, zipKeys pnames (ps ++ [s])⟩ := by
  have h1 : ¬ ps.length + 1 > cap := Nat.not_lt.2 hcap
  have h2 : ¬ ps.length ≥ ps.length + 1 := Nat.not_succ_le_self _
  simp only [visitAny, finish, hlen, Nat.add_sub_cancel, set_append_last, List.length_append, List.length_cons,
    List.length_nil, if_neg h1, Nat.succ_ne_zero, decide_false, Bool.false_or, decide_eq_true_eq, if_neg h2,
    Nat.zero_add, Nat.lt_irrefl, gt_iff_lt, if_false]

theorem visitAny_spec (ac : Option Node) (j cap : Nat) (hwf : WFO ac .akind) (hp : PnOKO ac j cap)
    (s ps : _) (hps : ps.length = j) : SpecRes (routesO ac) s ps (visitAny ac s ps cap) := by
  cases ac with
  | none => exact Or.inr ⟨fun kv hkv => absurd hkv List.not_mem_nil, rfl⟩
  | some c =>
    have hkeys := routesO_any _ hwf
    obtain ⟨label, ppath, pnames, x, rfl⟩ := WF_any c hwf
    subst hps
    rw [PnOKO] at hp
    obtain ⟨hcap, hlen⟩ := PnOK_any hp
    refine Or.inl ⟨[42], ⟨x, ppath, pnames⟩, [s], ⟨?_, matchS_any _ _, fun kv hkv _ => ?_⟩,
      visitAny_some hlen hcap⟩
    · simp [routesO, routes_leaf, hsPart, pref]
    · rw [hkeys kv hkv]; rfl

theorem body_spec (kind : Kind) (label : UInt8) (pfx : Bytes) (cs : List Node) (ppath : Bytes) (pnames : List Bytes)
    (hs : Option Nat) (pc ac : Option Node) (s ps : _) (cap : Nat)
    (hpn : hs.isSome = true → pnames.length = ps.length)
    (hwfL : WFL cs) (hwfP : WFO pc .pkind) (hwfA : WFO ac .akind)
    (hL : ∀ c s', SpecRes (routesL cs) (c :: s') ps (visitChild cs c (c :: s') ps cap))
    (hP : ∀ c s', SpecRes (routesO pc) (c :: s') ps (visitParam pc (c :: s') ps cap))
    (hA : SpecRes (routesO ac) s ps (visitAny ac s ps cap)) :
    SpecRes (routesBody (.mk kind label pfx cs ppath pnames hs pc ac)) s ps
      (bodyRes cs ppath pnames hs pc ac s ps cap) := by
  have hLk := routesL_head cs hwfL
  have hPk : ∀ kv ∈ routesO pc, ∃ k, kv.1 = (58 : UInt8) :: k := by
    intro kv hkv
    rw [routesO_param pc hwfP] at hkv
    obtain ⟨kv', _, rfl⟩ := List.mem_map.mp hkv
    exact ⟨_, rfl⟩
  have hAk := routesO_any ac hwfA
  simp only [routesBody, List.append_assoc]
  cases s with
  | nil =>
    have hLn : NoneMatch (routesL cs) [] := by
      intro kv hkv
      obtain ⟨c, k, h1, h2, h3, _⟩ := hLk kv hkv
      rw [h1, matchS_lit_cons h2 h3]
    have hPn : NoneMatch (routesO pc) [] := by
      intro kv hkv
      obtain ⟨k, h1⟩ := hPk kv hkv
      rw [h1, matchS_param_nil]
    cases hs with
    | none =>
      simp only [bodyRes, Res.orElse, List.nil_append]
      exact specRes_append_none_left hLn (specRes_append_none_left hPn hA)
    | some h =>
      have hlen := hpn rfl
      refine Or.inl ⟨[], ⟨h, ppath, pnames⟩, [], ⟨by simp, by simp [matchS], ?_⟩, ?_⟩
      · intro kv _ _; exact preferS_nil _
      · simp [bodyRes, finish, hlen]
  | cons c s' =>
    have core : SpecRes (routesL cs ++ (routesO pc ++ routesO ac)) (c :: s') ps
        ((visitChild cs c (c :: s') ps cap).orElse fun _ =>
          (visitParam pc (c :: s') ps cap).orElse fun _ => visitAny ac (c :: s') ps cap) := by
      apply specRes_orElse (hL c s')
      · apply specRes_orElse (hP c s') hA
        intro kv1 h1 kv2 h2 _ _
        obtain ⟨k1, e1⟩ := hPk kv1 h1
        rw [e1, hAk kv2 h2]
        simp [preferS, rankB]
      · intro kv1 h1 kv2 h2 _ _
        obtain ⟨d, k, e1, hd1, hd2, _⟩ := hLk kv1 h1
        rcases List.mem_append.mp h2 with h2 | h2
        · obtain ⟨k2, e2⟩ := hPk kv2 h2
          rw [e1, e2]
          simp [preferS, rankB, hd1, hd2]
        · rw [e1, hAk kv2 h2]
          simp [preferS, rankB, hd1, hd2]
    cases hs with
    | none =>
      simp only [List.nil_append]
      exact core
    | some h =>
      refine specRes_append_none_left ?_ core
      intro kv hkv
      simp at hkv
      simp [hkv, matchS]

theorem pnOK_param_cap (n : Node) (j cap : Nat) (hwf : WF n .pkind) (hp : PnOK n j cap) : j + 1 ≤ cap := by
  obtain ⟨kind, label, pfx, cs, ppath, pnames, hs, pc, ac⟩ := n
  rw [WF_mk] at hwf
  rw [PnOK_mk] at hp
  obtain ⟨rfl, -⟩ := hwf
  simpa [depthAt] using hp.1

/- The statement follows the mutual recursion of `WF`.  A node in static position is entered before its prefix is
compared, so its routes are `routes n`; a node in parameter position is entered with the `:` consumed and the value
pushed (`ps.length = j + 1`), so what is left to match are the keys behind its prefix, `routesBody n`.  A catch-all
child is a leaf and is handled by `visitAny_spec`, so that position has no clause. -/
mutual
theorem visit_spec : (n : Node) → (pos : Kind) → (j cap : Nat) → WF n pos → PnOK n j cap → (s ps : List _) →
    (pos = .skind → ps.length = j → SpecRes (routes n) s ps (visit n s ps cap)) ∧
    (pos = .pkind → ps.length = j + 1 → SpecRes (routesBody n) s ps (visit n s ps cap))
  | .mk kind label pfx cs ppath pnames hs pc ac, pos, j, cap, hwf, hp, s, ps => by
    rw [WF_mk] at hwf
    obtain ⟨hk, hl, hpos, hcs, hnd, hpc, hac⟩ := hwf
    rw [PnOK_mk] at hp
    obtain ⟨hcap, hlen, hpL, hpP, hpA⟩ := hp
    subst hk
    have hbody : ∀ (s' : Bytes) (ps' : List Bytes), ps'.length = depthAt kind j →
        SpecRes (routesBody (.mk kind label pfx cs ppath pnames hs pc ac)) s' ps'
          (bodyRes cs ppath pnames hs pc ac s' ps' cap) := by
      intro s' ps' hlen'
      apply body_spec kind label pfx cs ppath pnames hs pc ac s' ps' cap
        (fun h => by rw [hlen h, hlen']) hcs hpc hac
      · intro c s''
        exact visitChild_spec cs (depthAt kind j) cap hcs hnd hpL c s'' ps' hlen'
      · intro c s''
        exact visitParam_spec pc (depthAt kind j) cap hpc hpP c s'' ps' hlen'
      · exact visitAny_spec ac (depthAt kind j) cap hac hpA s' ps' hlen'
    constructor
    · intro hpos' hj
      subst hpos'
      simp only at hpos
      rw [visit_mk, routes_eq_body]
      simp only [if_true, Node.pfx]
      by_cases hpre : pfx.isPrefixOf s = true
      · rw [if_pos hpre]
        exact specRes_prefix hpos.2 hpre (hbody _ _ (by simp [depthAt, hj]))
      · rw [if_neg hpre]
        exact specRes_no_prefix hpos.2 hpre
    · intro hpos' hj
      subst hpos'
      rw [visit_mk]
      simp only [reduceCtorEq, if_false]
      exact hbody _ _ (by simp [depthAt, hj])
theorem visitChild_spec : (cs : List Node) → (j cap : Nat) → WFL cs → (cs.map Node.label).Nodup → PnOKL cs j cap →
    (c : UInt8) → (s' : Bytes) → (ps : List Bytes) → ps.length = j →
    SpecRes (routesL cs) (c :: s') ps (visitChild cs c (c :: s') ps cap)
  | [], _, _, _, _, _, _, _, _, _ => Or.inr ⟨by intro kv hkv; simp [routesL] at hkv, by simp [visitChild]⟩
  | n :: r, j, cap, hwf, hnd, hp, c, s', ps, hps => by
    simp only [WFL] at hwf
    simp only [PnOKL] at hp
    simp only [List.map_cons, List.nodup_cons] at hnd
    simp only [routesL, visitChild]
    have hhead := routes_head_static n hwf.1
    by_cases hl : n.label = c
    · rw [if_pos hl]
      apply specRes_append_none_right ((visit_spec n .skind j cap hwf.1 hp.1 (c :: s') ps).1 rfl hps)
      intro kv hkv
      obtain ⟨d, k, e, hd1, hd2, hmem⟩ := routesL_head r hwf.2 kv hkv
      have hdc : d ≠ c := by
        intro h
        subst h
        rw [← hl] at hmem
        exact hnd.1 hmem
      rw [e, matchS_lit_cons hd1 hd2]
      simp [hdc]
    · rw [if_neg hl]
      apply specRes_append_none_left ?_ (visitChild_spec r j cap hwf.2 hnd.2 hp.2 c s' ps hps)
      intro kv hkv
      obtain ⟨k, e⟩ := hhead.2.2 kv hkv
      rw [e, matchS_lit_cons hhead.1 hhead.2.1]
      simp [hl]
theorem visitParam_spec : (pc : Option Node) → (j cap : Nat) → WFO pc .pkind → PnOKO pc j cap →
    (c : UInt8) → (s' : Bytes) → (ps : List Bytes) → ps.length = j →
    SpecRes (routesO pc) (c :: s') ps (visitParam pc (c :: s') ps cap)
  | none, _, _, _, _, _, _, _, _ => Or.inr ⟨by intro kv hkv; simp [routesO] at hkv, by simp [visitParam]⟩
  | some n, j, cap, hwf, hp, c, s', ps, hps => by
    rw [routesO_param (some n) hwf]
    apply specRes_param
    simp only [WFO] at hwf
    simp only [PnOKO] at hp
    have hc := pnOK_param_cap n j cap hwf hp
    have h1 := (visit_spec n .pkind j cap hwf hp (segRest (c :: s')) (ps ++ [segValue (c :: s')])).2 rfl
      (by simp [hps])
    simp only [visitParam]
    rw [if_neg (Nat.not_lt.2 (hps ▸ hc))]
    exact h1
end

section
open Hertz.Spec.Route

/-- key and stored value of a registered route -/
def keyOf (r : Route) : Bytes := strip (parsePattern r.pattern)
def valOf (r : Route) : Val := ⟨r.handler, r.pattern, names (parsePattern r.pattern)⟩

/-- the tree rooted at `root` holds exactly the routes of `rs` registered for `method` -/
def Denotes (root : Node) (rs : List Route) (method : Bytes) : Prop :=
  ∀ kv, kv ∈ routes root ↔ ∃ r ∈ rs, r.method = method ∧ kv = (keyOf r, valOf r)

theorem find_spec (root : Node) (cap : Nat) (hwf : WF root .skind) (hp : PnOK root 0 cap) (path : Bytes) :
    SpecRes (routes root) path [] (find root path cap) :=
  (visit_spec root .skind 0 cap hwf hp path []).1 rfl rfl

/-- a route's key matches a path as its pattern does: the bridge between the tree's keys and `Spec.Route` -/
theorem matchS_keyOf (r : Route) {method : Bytes} (path : Bytes) (h : r.method = method) :
    matchS (keyOf r) path = (r.matches method path).map fun ps => ps.map Prod.snd := by
  simp only [keyOf, matchS_strip _ _ (parse_litOK _), Route.matches, h, if_true]

/-- on a well-formed tree that holds the routes `rs` of `method`, `find` returns the route selected
by the priority rule with the parameters that route's pattern binds, or misses when no pattern of
`rs` (for this method) matches -/
theorem find_selected (root : Node) (cap : Nat) (rs : List Route) (method path : Bytes)
    (hwf : WF root .skind) (hp : PnOK root 0 cap) (hd : Denotes root rs method) :
    (∃ r ps, Selected rs method path r ps ∧
        find root path cap = .hit ⟨r.handler, r.pattern, ps⟩) ∨
    (NoMatch rs method path ∧ find root path cap = .miss) := by
  have hother : ∀ r : Route, r.method ≠ method → r.matches method path = none := fun r hr => by simp [Route.matches, hr]
  rcases find_spec root cap hwf hp path with ⟨k, v, vals, ⟨hm, hk, hb⟩, hr⟩ | ⟨hn, hr⟩
  · obtain ⟨r, hrin, hrm, hkv⟩ := (hd (k, v)).1 hm
    cases hkv
    rw [matchS_keyOf r path hrm] at hk
    cases hmt : r.matches method path with
    | none => rw [hmt] at hk; cases hk
    | some ps =>
      rw [hmt] at hk
      cases hk
      refine Or.inl ⟨r, ps, ⟨hrin, hmt, ?_⟩, ?_⟩
      · intro r' hr' hs'
        by_cases hm' : r'.method = method
        · have := hb (keyOf r', valOf r') ((hd _).2 ⟨r', hr', hm', rfl⟩) (by rw [matchS_keyOf r' path hm', Option.isSome_map]; exact hs')
          simpa [keyOf, preferS_strip_parse] using this
        · rw [hother r' hm'] at hs'; cases hs'
      · rw [hr]
        simp only [valOf, List.nil_append, (matchToks_some _ _ _ (matches_some hmt).2).2.1]
  · refine Or.inr ⟨fun r hrin => ?_, hr⟩
    by_cases hm' : r.method = method
    · have := hn _ ((hd _).2 ⟨r, hrin, hm', rfl⟩)
      rwa [matchS_keyOf r path hm', Option.map_eq_none_iff] at this
    · exact hother r hm'

/-- two answers that are both the one the specification prescribes, for two lists that hold the same routes
with no key registered twice for the method, are equal -/
theorem selected_agree {α : Type} {rs rs' : List Route} {m p : Bytes} (hit : Route → List (Bytes × Bytes) → α)
    {miss a a' : α} (hperm : ∀ x, x ∈ rs ↔ x ∈ rs')
    (hdistinct : ∀ r ∈ rs, ∀ r' ∈ rs, r.method = m → r'.method = m → keyOf r = keyOf r' → r = r')
    (h : (∃ r ps, Selected rs m p r ps ∧ a = hit r ps) ∨ (NoMatch rs m p ∧ a = miss))
    (h' : (∃ r ps, Selected rs' m p r ps ∧ a' = hit r ps) ∨ (NoMatch rs' m p ∧ a' = miss)) : a = a' := by
  rcases h with ⟨r, ps, hs, rfl⟩ | ⟨hn, rfl⟩
  · rcases h' with ⟨r', ps', hs', rfl⟩ | ⟨hn', -⟩
    · have hs'' := (selected_perm rs rs' hperm m p r' ps').2 hs'
      have e := hdistinct r hs.1 r' hs''.1 (matches_some hs.2.1).1 (matches_some hs''.2.1).1
        (selected_unique rs m p r r' ps ps' hs hs'')
      subst e
      cases hs.2.1.symm.trans hs''.2.1
      rfl
    · exact absurd ((noMatch_perm rs rs' hperm m p).2 hn') (selected_noMatch_excl rs m p r ps hs)
  · rcases h' with ⟨r', ps', hs', -⟩ | ⟨-, rfl⟩
    · exact absurd hn (selected_noMatch_excl rs m p r' ps' ((selected_perm rs rs' hperm m p r' ps').2 hs'))
    · rfl

end

end Hertz.Route
