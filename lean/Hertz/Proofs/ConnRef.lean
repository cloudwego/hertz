import Hertz.Proofs.Conn
/-!
Peek stability of C13 with references, at the level of the list model.

The model's `peek` returns bytes.  `peekR` is the same function returning, in addition, *where* the
returned slice lives (`Ref`), as the Go code has it: a sub-slice `node.buf[off : off+len]` of the
block of the read node, a copy in a block registered in `c.caches`, or a garbage-collected copy.  `RefOK` says what a
reference promises; it holds when `peekR` returns (`peekR_in_block`) and along non-releasing operations (`run_stable`,
`RefOK_stable`).  Block identities are ghost numbers here, pairwise distinct in every reachable state (`IdInv`, `run_ids`), and
"unchanged" means that a node's `data` is only extended.  The memory level (`Model/ConnMem.lean`, `ConnMem.Ref`, `ProtR`,
`Proofs/ConnMemInv.lean`) states the same contract on a heap with an allocator and a caller; no theorem relates the two.
-/
namespace Hertz.Conn

inductive Ref
  /-- the nil slice of an error return -/
  | nil
  /-- `buf[off : off+len]` of the node block `id` -/
  | block (id off len : Nat)
  /-- a copy in the `mcache` block `id`, registered in `c.caches` -/
  | cache (id : Nat)
  /-- `make([]byte, i)`: referenced by nobody else -/
  | fresh
  deriving Repr, DecidableEq

/-- `Conn.Peek(i)` returning (slice bytes, reference), error, state, wire -/
def peekR (s : Reader) (wire : Wire) (i : Nat) : Except Fault ((Bytes × Ref) × Option Err × Reader × Wire) := do
  let (e, s1, w1) ← fill s wire i
  match e with
  | some e => pure (([], .nil), some e, s1, w1)
  | none =>
    let short := s1.len < i
    let i' := if short then s1.len else i
    let err := if short then s1.err else none
    let s2 : Reader := if short then { s1 with err := none } else s1
    let node := s2.readNode
    if node.len ≥ i' then pure ((node.unread.take i', .block node.id node.off i'), err, s2, w1)
    else
      let s3 : Reader :=
        if block1k < i' && i' ≤ mallocMax then
          { s2 with caches := s2.caches ++ [s2.nextId], nextId := s2.nextId + 1 }
        else s2
      let ref : Ref := if block1k < i' && i' ≤ mallocMax then .cache s2.nextId else .fresh
      let p ← peekWalk s3.cur i'
      pure ((p, ref), err, s3, w1)

/-- forgetting the reference gives the model's `peek` -/
theorem peekR_proj (s : Reader) (w : Wire) (i : Nat) :
    (peekR s w i).map (fun r => (r.1.1, r.2)) = peek s w i := by
  unfold peekR peek
  cases hf : fill s w i with
  | error f => rfl
  | ok r =>
    obtain ⟨e, s1, w1⟩ := r
    simp only [bind, Except.bind]
    cases e with
    | some e => rfl
    | none =>
      simp only
      generalize (if s1.len < i then ({ s1 with err := none } : Reader) else s1) = s2
      generalize (if s1.len < i then s1.len else i) = i'
      generalize (if s1.len < i then s1.err else none) = err'
      by_cases hd : s2.readNode.len ≥ i'
      · simp only [hd, if_true]; rfl
      · simp only [hd, if_false]
        cases hp : peekWalk _ i' <;> rfl

theorem peekR_peek {s : Reader} {w : Wire} {i : Nat} {p : Bytes} {ref : Ref} {e : Option Err} {s' : Reader} {w' : Wire}
    (h : peekR s w i = .ok ((p, ref), e, s', w')) : peek s w i = .ok (p, e, s', w') := by
  rw [← peekR_proj, h]; rfl

theorem peek_peekR {s : Reader} {w : Wire} {i : Nat} {p : Bytes} {e : Option Err} {s' : Reader} {w' : Wire}
    (h : peek s w i = .ok (p, e, s', w')) : ∃ ref, peekR s w i = .ok ((p, ref), e, s', w') := by
  rw [← peekR_proj] at h
  cases hr : peekR s w i with
  | error f => rw [hr] at h; cases h
  | ok r =>
    obtain ⟨⟨p1, ref⟩, r2⟩ := r
    rw [hr] at h
    cases h
    exact ⟨ref, rfl⟩

/-- what a reference promises about the state in which it was handed out -/
def RefOK (s : Reader) (p : Bytes) : Ref → Prop
  | .nil => p = []
  | .block id off len => ∃ nd ∈ s.nodes, nd.id = id ∧ p = (nd.data.drop off).take len ∧ p.length = len
  | .cache id => id ∈ s.caches
  | .fresh => True

theorem readNode_mem (s : Reader) : s.readNode ∈ s.nodes := by
  unfold Reader.readNode Reader.nodes
  cases hm : s.mid <;> simp

/-- The slice returned by `Peek` is `buf[off : off+len]` of a node block of the resulting chain, lying
entirely inside the written part `buf[0:malloc]` of that block, or a copy held in `caches`, or a
private copy. -/
theorem peekR_in_block {s : Reader} {w : Wire} {i : Nat} {p : Bytes} {ref : Ref} {e : Option Err} {s' : Reader}
    {w' : Wire} (h : peekR s w i = .ok ((p, ref), e, s', w')) : RefOK s' p ref := by
  unfold peekR at h
  obtain ⟨⟨e1, s1, w1⟩, _, h⟩ := bind_eq_ok h
  cases e1 with
  | some e1 => cases h; rfl
  | none =>
    simp only at h
    generalize (if s1.len < i then ({ s1 with err := none } : Reader) else s1) = s2 at h
    generalize (if s1.len < i then s1.len else i) = i' at h
    generalize (if s1.len < i then s1.err else none) = err' at h
    by_cases hd : s2.readNode.len ≥ i'
    · rw [if_pos hd] at h; cases h
      refine ⟨_, readNode_mem _, rfl, rfl, ?_⟩
      rw [Node.len_eq] at hd
      simp only [List.length_take]; omega
    · rw [if_neg hd] at h
      obtain ⟨pp, _, h⟩ := bind_eq_ok h
      cases h
      split
      · simp [RefOK]
      · trivial

/-! ## nothing writes into a referenced region before the next release -/

/-- any sequence of non-releasing operations keeps every block and every cached copy, block
contents being extended at the end only -/
theorem run_stable {s : Reader} {w : Wire} {ops : List Op} {outs : List Out} {s' : Reader} {w' : Wire}
    (hk : ∀ op ∈ ops, op.keeps = true) (h : run s w ops = .ok (outs, s', w')) :
    Extends s.nodes s'.nodes ∧ s.caches <+: s'.caches :=
  run_rel (R := fun s s' => Extends s.nodes s'.nodes ∧ s.caches <+: s'.caches)
    (fun _ => ⟨Extends.refl _, List.prefix_refl _⟩) (fun h1 h2 => ⟨h1.1.trans h2.1, h1.2.trans h2.2⟩)
    step_stable hk h

/-- a region lying inside the written part of a block reads the same after the block was extended -/
theorem region_of_prefix {a b : Bytes} {off len : Nat} (hp : a <+: b) (hl : ((a.drop off).take len).length = len) :
    (b.drop off).take len = (a.drop off).take len := by
  obtain ⟨t, rfl⟩ := hp
  by_cases h0 : len = 0
  · subst h0; simp
  · simp only [List.length_take, List.length_drop] at hl
    have h1 : off ≤ a.length := by omega
    rw [List.drop_append_of_le_length h1, List.take_append_of_le_length (by simp only [List.length_drop]; omega)]

/-- a reference stays good along block-preserving steps: same block identity, same bytes at the same
offset — nobody wrote into `buf[off : off+len]`, and the block was neither freed nor reset -/
theorem RefOK_stable {s s' : Reader} {p : Bytes} {ref : Ref} (hx : Extends s.nodes s'.nodes) (hc : s.caches <+: s'.caches)
    (h : RefOK s p ref) : RefOK s' p ref := by
  cases ref with
  | nil => exact h
  | fresh => exact h
  | cache id => exact hc.subset h
  | block id off len =>
    obtain ⟨nd, hm, hid, hp, hl⟩ := h
    obtain ⟨nd', hm', hid', hpre⟩ := hx nd hm
    refine ⟨nd', hm', by rw [hid', hid], ?_, hl⟩
    rw [hp] at hl
    rw [region_of_prefix hpre hl]; exact hp

/-! ## block identities are pairwise distinct in every reachable state -/

/-- the identities of all live blocks: the node chain and the cached peek copies -/
def Reader.ids (s : Reader) : List Nat := s.nodes.map (·.id) ++ s.caches

def IdInv (s : Reader) : Prop := s.ids.Nodup ∧ ∀ x ∈ s.ids, x < s.nextId

theorem IdInv_same {s s' : Reader} (h1 : s'.ids = s.ids) (h2 : s'.nextId = s.nextId) (h : IdInv s) : IdInv s' := by
  unfold IdInv; rw [h1, h2]; exact h

theorem IdInv_insert {s s' : Reader} (h1 : s'.ids.Perm (s.nextId :: s.ids)) (h2 : s'.nextId = s.nextId + 1)
    (h : IdInv s) : IdInv s' := by
  refine ⟨h1.nodup_iff.mpr (List.nodup_cons.mpr ⟨?_, h.1⟩), ?_⟩
  · intro hm; have := h.2 _ hm; omega
  · intro x hx
    have := h1.mem_iff.mp hx
    simp only [List.mem_cons] at this
    rcases this with rfl | hm
    · omega
    · have := h.2 _ hm; omega

theorem IdInv_sub {s s' : Reader} (h1 : s'.ids.Sublist s.ids) (h2 : s.nextId ≤ s'.nextId) (h : IdInv s) : IdInv s' := by
  refine ⟨h.1.sublist h1, ?_⟩
  intro x hx
  have := h.2 _ (h1.subset hx); omega

theorem fill_ids {s : Reader} {w : Wire} {i : Nat} {e : Option Err} {s' : Reader} {w' : Wire}
    (h : fill s w i = .ok (e, s', w')) (hI : IdInv s) : IdInv s' := by
  rcases fill_state h with ⟨e0, rfl⟩ | ⟨s1, bs, e1, hs1, rfl⟩
  · exact IdInv_same rfl rfl hI
  · have h1 : IdInv s1 := by
      rcases hs1 with rfl | rfl
      · exact hI
      · refine IdInv_insert ?_ rfl hI
        have := @List.perm_middle _ s.nextId (s.done.map (·.id) ++ (s.mid.map (·.id) ++ [s.w.id])) s.caches
        simpa [grown, Reader.ids, Reader.nodes, newNode, List.append_assoc] using this
    exact IdInv_same (s := s1) (by simp [stored, Reader.ids, Reader.nodes]) rfl h1

theorem peek_ids {s : Reader} {w : Wire} {i : Nat} {p : Bytes} {e : Option Err} {s' : Reader} {w' : Wire}
    (h : peek s w i = .ok (p, e, s', w')) (hI : IdInv s) : IdInv s' := by
  obtain ⟨e1, s1, hf, e0, hs⟩ := peek_state h
  have hI1 := fill_ids hf hI
  rcases hs with rfl | rfl
  · exact IdInv_same (s := s1) rfl rfl hI1
  · refine IdInv_insert (s := s1) ?_ rfl hI1
    have := @List.perm_middle _ s1.nextId (s1.nodes.map (·.id) ++ s1.caches) []
    simpa [Reader.ids, Reader.nodes, List.append_assoc] using this

theorem skip_ids {s : Reader} {n : Nat} {e : Option Err} {s' : Reader}
    (h : skip s n = .ok (e, s')) (hI : IdInv s) : IdInv s' := by
  obtain ⟨hb, hc, hn, _⟩ := skip_frame h
  have := congrArg (List.map Prod.fst) hb
  simp only [List.map_map] at this
  exact IdInv_same (by rw [Reader.ids, hc]; exact congrArg (· ++ s.caches) this) hn hI

theorem sub_mid (a b c d : List Nat) : (b ++ c).Sublist (a ++ (b ++ (c ++ d))) :=
  List.sublist_append_of_sublist_right ((List.Sublist.refl b).append (List.sublist_append_left c d))

theorem release_ids (s : Reader) (hI : IdInv s) : IdInv (release s) := by
  have hgen : IdInv (releaseGeneral s) := by
    refine IdInv_sub (s := s) ?_ (Nat.le_refl _) hI
    simp only [Reader.ids, Reader.nodes, releaseGeneral, List.nil_append, List.append_nil, List.map_append,
      List.map_cons, List.map_nil, List.append_assoc]
    exact sub_mid _ _ _ _
  have htwo : ∀ h, IdInv (releaseTwo s h) := by
    intro h
    unfold releaseTwo
    split
    · refine ⟨by simp [Reader.ids, Reader.nodes, newNode], ?_⟩
      intro x hx
      simp [Reader.ids, Reader.nodes, newNode] at hx
      subst hx; simp
    · refine IdInv_sub (s := s) ?_ (Nat.le_refl _) hI
      simp only [Reader.ids, Reader.nodes, Node.reset, List.nil_append, List.append_nil, List.map_append,
        List.map_cons, List.map_nil, List.append_assoc]
      exact (sub_mid (s.mid.map (·.id)) [] [s.w.id] s.caches).trans (List.sublist_append_right _ _)
  unfold release
  split
  · split
    · rename_i hd hm
      refine IdInv_same (s := s) ?_ rfl hI
      simp [Reader.ids, Reader.nodes, Node.reset]
    · exact htwo _
    · exact htwo _
    · exact hgen
  · exact hgen

theorem step_ids {s : Reader} {w : Wire} {op : Op} {o : Out} {s' : Reader} {w' : Wire}
    (h : step s w op = .ok (o, s', w')) (hI : IdInv s) : IdInv s' :=
  step_rel (R := fun s s' => IdInv s → IdInv s') (fun _ h => h) (fun h1 h2 h => h2 (h1 h))
    fill_ids peek_ids skip_ids release_ids h hI

theorem run_ids {s : Reader} {w : Wire} {ops : List Op} {outs : List Out} {s' : Reader} {w' : Wire}
    (h : run s w ops = .ok (outs, s', w')) (hI : IdInv s) : IdInv s' :=
  run_rel (R := fun s s' => IdInv s → IdInv s') (fun _ h => h) (fun h1 h2 h => h2 (h1 h)) (P := fun _ => True)
    (fun _ hs => step_ids hs) (fun _ _ => trivial) h hI

theorem IdInv_new (size : Nat) : IdInv (Reader.new size) := by
  simp [IdInv, Reader.ids, Reader.nodes, Reader.new, newNode]

theorem eq_of_nodup_map {α β : Type} (f : α → β) (l : List α) (hn : (l.map f).Nodup) :
    ∀ a ∈ l, ∀ b ∈ l, f a = f b → a = b := by
  have hp : l.Pairwise fun a b => f a ≠ f b := List.pairwise_map.mp hn
  intro a ha b hb
  exact List.Pairwise.forall_of_forall_of_flip (R := fun a b => f a = f b → a = b) (fun _ _ _ => rfl)
    (hp.imp fun h e => absurd e h) (hp.imp fun h e => absurd e.symm h) ha hb

/-- the node with a given identity is unique, and no cached copy shares its identity -/
theorem IdInv.unique {s : Reader} (h : IdInv s) :
    (∀ a ∈ s.nodes, ∀ b ∈ s.nodes, a.id = b.id → a = b) ∧ (∀ a ∈ s.nodes, a.id ∉ s.caches) := by
  have hn := h.1
  unfold Reader.ids at hn
  rw [List.nodup_append] at hn
  refine ⟨eq_of_nodup_map _ _ hn.1, ?_⟩
  intro a ha hc
  exact hn.2.2 a.id (List.mem_map_of_mem ha) a.id hc rfl

theorem RefOK_block_unique {s : Reader} {p : Bytes} {id off len : Nat} (hI : IdInv s) (h : RefOK s p (.block id off len)) :
    ∀ nd ∈ s.nodes, nd.id = id → p = (nd.data.drop off).take len ∧ p.length = len := by
  obtain ⟨nd0, hm0, hid0, hp, hl⟩ := h
  intro nd hm hid
  have := hI.unique.1 nd hm nd0 hm0 (by rw [hid, hid0])
  subst this
  exact ⟨hp, hl⟩

end Hertz.Conn
