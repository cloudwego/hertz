import Hertz.Proofs.ReqOwsLine
import Hertz.Proofs.ReqOwsCanon
import Hertz.Proofs.ReqDecodes
/-!
Round trip of the request reader (C01) for requests whose field lines are spelled in any way the strict decoder
accepts (`FLine`, `Proofs/ReqOwsLine.lean`): arbitrary optional whitespace around the value and obs-fold
continuation lines, in the header section and in the trailer section.

`OReq` is a request with spelled field lines; `seenW r` is the request as the handler is handed it (values `hval`),
`strictW r` the request as the strict decoder reads it (values `sval`); both are `WReq`s, so `expectedHead`,
`expectedSeen`, `served`, `toSpec` of `Proofs/ReqRoundtrip.lean` say what is expected.
`WfAny` is the predicate under which the round trip is proved (`wfOReq` and `wfOReqT` imply it; it is not necessary: a
`Trailer` declaration spelled `a,b` is read back as well); head and strict decoder are followed here, body, loop and
stream in `Proofs/ReqAny.lean`.  The encoder of `Proofs/ReqRoundtrip.lean` (`name ": " value CRLF`) is the spelling
`spell`: both readings of the spelling of a `WReq` are the `WReq` itself (last section).

Suffixes: `…O` (`OReq`, `encReqO`, `fieldsAux_encO`) = with spelled field lines (optional whitespace, obs-fold); `wfFramingL` =
`wfFraming` on a reading of the lines; `wfOReqS` = `wfOReq` on the strict reading; `…T` (`wfOReqT`, `expectedSeenT`, in
`Proofs/Trailers.lean`) = any trailer section; `encAllB` (`Proofs/ReqOwsBlank.lean`) = with empty lines in front.
-/
namespace Hertz.H1.RT
open Hertz Hertz.H1 Hertz.Gen.Str Hertz.Spec.Http

/-! ### requests with spelled field lines -/

inductive OBody where
  | none
  | fixed (b : Bytes)
  | chunked (chunks : List Chunk) (last : Bytes) (trailers : List FLine)
deriving Repr, DecidableEq

structure OReq where
  method : Bytes
  target : Bytes
  fields : List FLine
  body : OBody
deriving Repr, DecidableEq

def OBody.toW (g : FLine → Bytes × Bytes) : OBody → WBody
  | .none => .none
  | .fixed b => .fixed b
  | .chunked cs l trs => .chunked cs l (trs.map g)

def OBody.trailers : OBody → List FLine
  | .chunked _ _ trs => trs
  | _ => []

def OReq.toW (g : FLine → Bytes × Bytes) (r : OReq) : WReq :=
  { method := r.method, target := r.target, fields := r.fields.map g, body := r.body.toW g }

/-- the request as the handler is to see it -/
def seenW (r : OReq) : WReq := r.toW hField
/-- the request as the strict decoder is to read it -/
def strictW (r : OReq) : WReq := r.toW sField

def encHeadO (m t : Bytes) (fs : List FLine) : Bytes :=
  m ++ 32 :: (t ++ 32 :: (strHTTP11 ++ 13 :: 10 :: (encFLines fs ++ [13, 10])))

def encHeadOfO (r : OReq) : Bytes := encHeadO r.method r.target r.fields

def encBodyO : OBody → Bytes
  | .none => []
  | .fixed b => b
  | .chunked cs last trs => encChunks cs ++ (last ++ 13 :: 10 :: (encFLines trs ++ [13, 10]))

def encReqO (r : OReq) : Bytes := encHeadOfO r ++ encBodyO r.body

def encAllO : List OReq → Bytes
  | [] => []
  | r :: t => encReqO r ++ encAllO t

/-- `wfFraming` without the clause on the spelling of trailer values -/
def wfFramingL (dn : Bool) (fs : List (Bytes × Bytes)) : WBody → Bool
  | .none => !hasCls .cl fs && !hasCls .te fs
  | .fixed b =>
    !hasCls .te fs && hasCls .cl fs &&
    fs.all (fun kv => cls kv.1 != .cl || kv.2 == pick .cl fs []) &&
    parseDec (pick .cl fs []) == some b.length && decide (b.length < 2 ^ 63)
  | .chunked cs last trs =>
    !hasCls .cl fs && (teFields fs).length == 1 && (teFields fs).all (fun kv => lowerAll kv.2 == sChunked) &&
    cs.all wfChunk && decide (last.length ≤ 15) && parseHex last == some 0 &&
    trs.map (fun kv => normalizeKey dn kv.1) == pickT dn fs []

/-- well-formed request with spelled fields: token method, target without SP/CTL, every field line (header and
trailer section) a `wfFLine`; and, on the values as the handler gets them: every `Trailer` field a clean
declaration, consistent framing (the conditions of `wfFraming`) -/
def wfOReq (dn : Bool) (r : OReq) : Bool :=
  isToken r.method && wfTarget r.target && r.fields.all wfFLine && r.body.trailers.all wfFLine &&
  (seenW r).fields.all (fun kv => cls kv.1 != .trailer || declOk dn kv.2) &&
  wfFramingL dn (seenW r).fields (seenW r).body

/-- the strict decoder's framing conditions: `wfFramingL` without the reader's bound on a `Content-Length` body and
without the clause on the trailer section -/
def framingOk (fs : List (Bytes × Bytes)) : WBody → Prop
  | .none => hasCls .cl fs = false ∧ hasCls .te fs = false
  | .fixed b =>
    hasCls .te fs = false ∧ hasCls .cl fs = true ∧ (∀ kv ∈ fs, cls kv.1 ≠ .cl ∨ kv.2 = pick .cl fs []) ∧
    parseDec (pick .cl fs []) = some b.length
  | .chunked cs last _ =>
    hasCls .cl fs = false ∧ (teFields fs).length = 1 ∧ (∀ kv ∈ teFields fs, lowerAll kv.2 = sChunked) ∧
    (∀ c ∈ cs, wfChunk c = true) ∧ last.length ≤ 15 ∧ parseHex last = some 0

theorem wfFramingL_iff (dn : Bool) (fs : List (Bytes × Bytes)) (b : WBody) : wfFramingL dn fs b = true ↔
    framingOk fs b ∧ (∀ x, b = .fixed x → x.length < 2 ^ 63) ∧
    ∀ cs l trs, b = .chunked cs l trs → trs.map (fun kv => normalizeKey dn kv.1) = pickT dn fs [] := by
  cases b with
  | none =>
    simp only [wfFramingL, framingOk, Bool.and_eq_true, Bool.not_eq_true', reduceCtorEq, false_imp_iff, implies_true,
      and_true]
  | fixed x =>
    simp only [wfFramingL, framingOk, Bool.and_eq_true, Bool.not_eq_true', List.all_eq_true, Bool.or_eq_true, bne_iff_ne,
      ne_eq, beq_iff_eq, decide_eq_true_eq, and_assoc, WBody.fixed.injEq, forall_eq', reduceCtorEq, false_imp_iff,
      implies_true, and_true]
  | chunked cs l trs =>
    simp only [wfFramingL, framingOk, Bool.and_eq_true, Bool.not_eq_true', List.all_eq_true, beq_iff_eq,
      decide_eq_true_eq, and_assoc, reduceCtorEq, false_imp_iff, implies_true, true_and, WBody.chunked.injEq, and_imp]
    exact ⟨fun ⟨h1, h2, h3, h4, h5, h6, h7⟩ => ⟨h1, h2, h3, h4, h5, h6, fun _ _ _ _ _ e => e ▸ h7⟩,
      fun ⟨h1, h2, h3, h4, h5, h6, h7⟩ => ⟨h1, h2, h3, h4, h5, h6, h7 cs l trs rfl rfl rfl⟩⟩

theorem parseDec_digits (b : Bytes) (n : Nat) (h : parseDec b = some n) : ∀ c ∈ b, c ≠ 32 ∧ c ≠ 9 := by
  intro c hc
  have := (parseDec_some h).2.1 c hc
  constructor
  · intro h32; subst h32; exact absurd this.1 (by decide)
  · intro h9; subst h9; exact absurd this.1 (by decide)

theorem nb_of_lower (v w : Bytes) (h : v.map lowerSpec = w) (hw : ∀ c ∈ w, c ≠ 32 ∧ c ≠ 9) : ∀ c ∈ v, c ≠ 32 ∧ c ≠ 9 := by
  intro c hc
  have hm := hw _ (h ▸ List.mem_map_of_mem hc)
  exact ⟨by rintro rfl; exact hm.1 (by decide), by rintro rfl; exact hm.2 (by decide)⟩

theorem framing_value_nb {fs : List (Bytes × Bytes)} {body : WBody} (hfr : framingOk fs body)
    (kv : Bytes × Bytes) (hmem : kv ∈ fs) (hc : cls kv.1 = .cl ∨ cls kv.1 = .te) : ∀ c ∈ kv.2, c ≠ 32 ∧ c ≠ 9 := by
  cases body with
  | none =>
    rcases hc with hc | hc
    · exact absurd hc ((hasCls_false_iff _ _).mp hfr.1 _ hmem)
    · exact absurd hc ((hasCls_false_iff _ _).mp hfr.2 _ hmem)
  | fixed b =>
    obtain ⟨hte, _, hall, hdec⟩ := hfr
    rcases hc with hc | hc
    · rcases hall _ hmem with h1 | h1
      · exact absurd hc h1
      · rw [h1]; exact parseDec_digits _ _ hdec
    · exact absurd hc ((hasCls_false_iff _ _).mp hte _ hmem)
  | chunked cs l trs =>
    obtain ⟨hcl0, _, hval', _⟩ := hfr
    rcases hc with hc | hc
    · exact absurd hc ((hasCls_false_iff _ _).mp hcl0 _ hmem)
    · exact nb_of_lower _ sChunked (lowerAll_eq _ ▸ hval' _ (List.mem_filter.mpr ⟨hmem, by simp [hc]⟩)) (by decide)

theorem section_notbad {dn : Bool} {fs : List (Bytes × Bytes)} {trs : List FLine}
    (hdecl : ∀ kv ∈ fs, cls kv.1 = .trailer → declOk dn kv.2 = true)
    (hn : (trs.map hField).map (fun kv => normalizeKey dn kv.1) = pickT dn fs []) :
    ∀ f ∈ trs, isBadTrailer (normalizeKey dn f.name) = false := by
  intro f hf
  apply pickT_notbad dn fs [] hdecl (by simp)
  rw [← hn, List.map_map]
  exact List.mem_map_of_mem (f := fun f => normalizeKey dn (hField f).1) hf

/-- A request the server reads back: every line (header and trailer section) a `wfFLine`, every `Trailer` field a clean
declaration, consistent framing, a `Content-Length` body below 2^63 bytes, and a trailer section (any names, in any
order) whose last field is not forbidden.
`wfOReq` and `wfOReqT` (`Proofs/Trailers.lean`) are special cases. -/
structure WfAny (dn : Bool) (r : OReq) : Prop where
  hm : isToken r.method = true
  ht : wfTarget r.target = true
  hf : ∀ f ∈ r.fields, wfFLine f = true
  htw : ∀ f ∈ r.body.trailers, wfFLine f = true
  hdecl : ∀ kv ∈ (seenW r).fields, cls kv.1 = .trailer → declOk dn kv.2 = true
  hfr : framingOk (seenW r).fields (seenW r).body
  hlt : ∀ b, (seenW r).body = .fixed b → b.length < 2 ^ 63
  hlb : lastBad dn r.body.trailers = false

theorem seenW_chunked {r : OReq} {cs : List Chunk} {l : Bytes} {trs : List FLine} (hb : r.body = .chunked cs l trs) :
    (seenW r).body = .chunked cs l (trs.map hField) := by
  show r.body.toW hField = _
  rw [hb]; rfl

/-- `wfOReq` is the special case "the names of the trailer section are the announced names, in order" (a clean
declaration announces no forbidden name, so the last field is allowed) -/
theorem wfOReq_iff {dn : Bool} {r : OReq} : wfOReq dn r = true ↔ WfAny dn r ∧
    ∀ cs l trs, (seenW r).body = .chunked cs l trs →
      trs.map (fun kv => normalizeKey dn kv.1) = pickT dn (seenW r).fields [] := by
  simp only [wfOReq, Bool.and_eq_true, List.all_eq_true, Bool.or_eq_true, bne_iff_ne, ne_eq, ← Decidable.imp_iff_not_or,
    wfFramingL_iff]
  constructor
  · rintro ⟨⟨⟨⟨⟨h1, h2⟩, h3⟩, h4⟩, hdecl⟩, hok, hlt, hn⟩
    refine ⟨⟨h1, h2, h3, h4, hdecl, hok, hlt, ?_⟩, hn⟩
    cases hb : r.body with
    | none | fixed => rfl
    | chunked cs l trs => exact lastBad_false (section_notbad hdecl (hn cs l _ (seenW_chunked hb)))
  · rintro ⟨W, hn⟩
    exact ⟨⟨⟨⟨⟨W.hm, W.ht⟩, W.hf⟩, W.htw⟩, W.hdecl⟩, W.hfr, W.hlt, hn⟩

theorem WfAny.of_wfOReq {dn : Bool} {r : OReq} (h : wfOReq dn r = true) : WfAny dn r := (wfOReq_iff.mp h).1

/-! ### the field block -/

/-- `req.parseHeaders`' switch over the fields the scanner hands out of a block of well-formed lines -/
theorem foldlM_applyHeader (dn : Bool) : ∀ (fs : List FLine) (st : HdrState), (∀ f ∈ fs, wfFLine f = true) →
    (fs.map fun f => (normalizeKey dn f.name, hval f)).foldlM (fun s kv => applyHeader dn s kv.1 kv.2) st =
      some (foldWf dn st (fs.map hField))
  | [], _, _ => rfl
  | fl :: fs, st, h => by
    have hw := h fl (by simp)
    have hw' := hw
    simp only [wfFLine, Bool.and_eq_true] at hw'
    simp only [List.map_cons, List.foldlM_cons, applyHeader_vchar dn st fl.name (hval fl) hw'.1.1 (hval_vchar fl hw),
      Option.bind_eq_bind, Option.bind_some]
    exact foldlM_applyHeader dn fs _ (fun f hf => h f (by simp [hf]))

/-! ### the fields folded -/

theorem applyWf_te (dn : Bool) (st : HdrState) (k v : Bytes) (hc : cls k = .te) (hv : v ≠ strIdentity)
    (hfresh : ∀ e ∈ st.head.h, e.1 ≠ strTransferEncoding) :
    applyWf dn st k v =
      { st with head := { st.head with cl := -1, h := st.head.h ++ [(strTransferEncoding, strChunked)] } } := by
  have hb : (v != strIdentity) = true := by simpa using hv
  simp only [applyWf, hc, hb, if_true, H1.setArg_absent _ _ _ hfresh]

/-- the fields of `r` folded give `expectedHead`: `foldWf_noTE` over all of them, or (chunked) before and behind the one
`Transfer-Encoding` field -/
theorem foldWf_L (dn : Bool) (r : WReq)
    (htr : ∀ kv ∈ r.fields, cls kv.1 = .trailer → declOk dn kv.2 = true)
    (hfr : framingOk r.fields r.body) (hlt : ∀ b, r.body = .fixed b → b.length < 2 ^ 63) :
    foldWf dn (st0 r.method r.target) r.fields = { head := expectedHead dn r, err := false } := by
  obtain ⟨m, t, fs, b⟩ := r
  dsimp only at htr hfr hlt ⊢
  cases b with
  | none =>
    have hcl := (hasCls_false_iff _ _).mp hfr.1
    have hte := (hasCls_false_iff _ _).mp hfr.2
    rw [foldWf_noTE dn [48] 0 (by decide) fs _
      (fun kv hkv => ⟨hte kv hkv, htr kv hkv, fun hc => absurd hc (hcl kv hkv)⟩) (Or.inr hfr.1)]
    simp [st0, expectedHead, framingCl, hfr.1]
  | fixed b =>
    obtain ⟨hte, hcl, hall, hdec⟩ := hfr
    have hte := (hasCls_false_iff _ _).mp hte
    have hp := parseUint_of_parseDec _ _ hdec (hlt b rfl)
    rw [foldWf_noTE dn (pick .cl fs []) b.length hp fs _
      (fun kv hkv => ⟨hte kv hkv, htr kv hkv, fun hc => (hall kv hkv).resolve_left (not_not_intro hc)⟩)
      (Or.inl (by simp [st0]))]
    simp [st0, expectedHead, framingCl, hcl]
  | chunked cs last trs =>
    obtain ⟨hcl, hlen, hval, _⟩ := hfr
    -- the fields are `pre ++ te :: post`, `te` the one `Transfer-Encoding` field
    obtain ⟨te, hte1⟩ := List.length_eq_one_iff.mp hlen
    have hteval := hval te (by rw [hte1]; simp)
    unfold teFields at hte1
    obtain ⟨pre, post, rfl, hpre, hpte, hpost⟩ := List.filter_eq_cons_iff.mp hte1
    have hpre' : ∀ kv ∈ pre, cls kv.1 ≠ .te := fun kv hkv => by simpa [cls_beq] using hpre kv hkv
    have hpost' : ∀ kv ∈ post, cls kv.1 ≠ .te := fun kv hkv => by
      simpa [cls_beq] using List.filter_eq_nil_iff.mp hpost kv hkv
    have hcte : cls te.1 = .te := by simpa [cls_beq] using hpte
    rw [hasCls_false_iff] at hcl
    simp only [List.forall_mem_append, List.forall_mem_cons] at hcl htr
    obtain ⟨hclpre, _, hclpost⟩ := hcl
    obtain ⟨htrpre, _, htrpost⟩ := htr
    have hnid : te.2 ≠ strIdentity := by
      intro hid; rw [hid] at hteval; exact absurd hteval (by decide)
    have e1 := foldWf_noTE dn [48] 0 (by decide) pre (st0 m t)
      (fun kv hkv => ⟨hpre' kv hkv, htrpre kv hkv, fun hc => absurd hc (hclpre kv hkv)⟩)
      (Or.inr ((hasCls_false_iff _ _).mpr hclpre))
    have hclpost' := (hasCls_false_iff _ _).mpr hclpost
    simp only [st0, (hasCls_false_iff _ _).mpr hclpre, cond_false, List.nil_append] at e1
    rw [foldWf_append, st0, e1,
      show ∀ st, foldWf dn st (te :: post) = foldWf dn (applyWf dn st te.1 te.2) post from fun _ => rfl,
      applyWf_te dn _ te.1 te.2 hcte hnid (generic_key_ne_te dn pre hpre'),
      foldWf_noTE dn [48] 0 (by decide) post _
        (fun kv hkv => ⟨hpost' kv hkv, htrpost kv hkv, fun hc => absurd hc (hclpost kv hkv)⟩) (Or.inr hclpost')]
    have hg : generic dn te = some (strTransferEncoding, strChunked) := by
      simp [generic, hcte, hnid]
    simp [expectedHead, framingCl, hclpost', pick_append, pickClose_append, pickT_append, pick,
      pickClose, pickT, hcte, List.filterMap_append, hg]

/-! ### the head -/

theorem parseHeaders_any {dn : Bool} {r : OReq} (W : WfAny dn r) (rest : Bytes) :
    parseHeaders dn { method := r.method, uri := r.target, http11 := true } (encFLines r.fields ++ 13 :: 10 :: rest) =
      .ok (expectedHead dn (seenW r), (encFLines r.fields).length + 2) := by
  unfold parseHeaders
  have hfold : foldWf dn (st0 r.method r.target) (r.fields.map hField) = { head := expectedHead dn (seenW r), err := false } :=
    foldWf_L dn (seenW r) W.hdecl W.hfr W.hlt
  have hst : ({ head := { ({ method := r.method, uri := r.target, http11 := true } : ReqHead) with cl := -2 } } : HdrState) =
      st0 r.method r.target := rfl
  -- the loop is `req.parseHeaders`' switch folded over what the scanner hands out of the block
  rw [hst, parseHeadersLoop_eq_fold dn _ _ _ _ (Nat.lt_succ_self _),
    readBlock_flines dn rest r.fields _ (blockOk_of_wf W.hf) (by
      have := encFLines_length_ge r.fields
      simp only [List.length_append]; omega)]
  simp only [reqFold, foldlM_applyHeader dn r.fields _ W.hf, hfold, Bool.false_eq_true, if_false, bind,
    Except.bind, Nat.zero_add]
  have h11 : (expectedHead dn (seenW r)).http11 = true := rfl
  by_cases hneg : (expectedHead dn (seenW r)).cl < 0
  · have hcb := expectedHead_clBytes_nil dn (seenW r) hneg
    simp only [hneg, if_true, h11]
    revert h11 hcb
    generalize expectedHead dn (seenW r) = E
    intro h11 hcb
    cases E
    simp_all
  · simp only [hneg, if_false, h11]
    simp

theorem encHeadOfO_length (r : OReq) :
    (encHeadOfO r).length = r.method.length + 1 + r.target.length + 1 + 8 + 2 + ((encFLines r.fields).length + 2) := by
  simp [encHeadOfO, encHeadO, strHTTP11]; omega

theorem parseReqHead_any {dn : Bool} {r : OReq} (W : WfAny dn r) (rest : Bytes) :
    parseReqHead dn (encHeadOfO r ++ rest) = .ok (expectedHead dn (seenW r), (encHeadOfO r).length) := by
  have e : encHeadOfO r ++ rest =
      (r.method ++ 32 :: (r.target ++ 32 :: strHTTP11)) ++ 13 :: 10 :: (encFLines r.fields ++ 13 :: 10 :: rest) := by
    simp [encHeadOfO, encHeadO]
  obtain ⟨n, hraw⟩ := rawHeaders_encFLines r.fields rest W.hf
  unfold parseReqHead
  rw [e, parseFirstLine_enc r.method r.target _ W.hm W.ht]
  simp only [bind, Except.bind, List.drop_length_add_append, List.drop_succ_cons, List.drop_zero, hraw,
    parseHeaders_any W rest]
  simp [encHeadOfO, encHeadO]
  omega

/-! ### the encoded body behind the head -/

theorem encBodyO_chunked_append (cs : List Chunk) (last : Bytes) (trs : List FLine) (rest : Bytes) :
    encBodyO (.chunked cs last trs) ++ rest = encChunks cs ++ (last ++ 13 :: 10 :: (encFLines trs ++ 13 :: 10 :: rest)) := by
  simp [encBodyO]

theorem bodyOf_toW (g : FLine → Bytes × Bytes) (b : OBody) : bodyOf (b.toW g) = bodyOf (b.toW hField) := by
  cases b <;> rfl

/-! ### requests in sequence -/

theorem encReqO_length_pos (r : OReq) : 0 < (encReqO r).length := by
  have := encHeadOfO_length r
  simp [encReqO]; omega

theorem encAllO_length_ge : ∀ rs : List OReq, rs.length ≤ (encAllO rs).length
  | [] => by simp
  | r :: t => by
    have := encAllO_length_ge t
    have := encReqO_length_pos r
    simp [encAllO]; omega

/-- the requests to be served when `c` says which request asks to close -/
def servedBy (dk : Bool) (c : OReq → Bool) : List OReq → List OReq
  | [] => []
  | r :: t => if dk || c r then [r] else r :: servedBy dk c t

theorem served_map (dk : Bool) (g : OReq → WReq) : ∀ rs : List OReq,
    served dk (rs.map g) = (servedBy dk (fun r => closes (g r)) rs).map g
  | [] => rfl
  | r :: t => by
    simp only [List.map_cons, served, servedBy]
    split
    · rfl
    · rw [served_map dk g t]; rfl

theorem servedBy_congr (dk : Bool) (c1 c2 : OReq → Bool) : ∀ rs : List OReq, (∀ r ∈ rs, c1 r = c2 r) →
    servedBy dk c1 rs = servedBy dk c2 rs
  | [], _ => rfl
  | r :: t, h => by
    simp only [servedBy, h r (by simp), servedBy_congr dk c1 c2 t (fun x hx => h x (by simp [hx]))]

theorem mem_servedBy (dk : Bool) (c : OReq → Bool) : ∀ (rs : List OReq), ∀ r ∈ servedBy dk c rs, r ∈ rs
  | [], _, h => h
  | x :: t, r, h => by
    simp only [servedBy] at h
    split at h
    · exact List.mem_cons.mpr (.inl (List.mem_singleton.mp h))
    · rcases List.mem_cons.mp h with h | h
      · exact List.mem_cons.mpr (.inl h)
      · exact List.mem_cons_of_mem _ (mem_servedBy dk c t r h)

/-! ### the strict decoder reads the spelled requests -/

/-- The framing fields read the same to the handler and to the strict decoder: their values contain no blank
(`framing_value_nb`), and a value without blanks is the same in both readings. -/
theorem lookupAll_same (name : Bytes) (hn : ∀ k, lowerAll k = name → cls k = .cl ∨ cls k = .te)
    (fs : List FLine) (hf : ∀ f ∈ fs, wfFLine f = true) (body : WBody) (hfr : framingOk (fs.map hField) body) :
    lookupAll (fs.map sField) name = lookupAll (fs.map hField) name := by
  unfold lookupAll
  rw [List.filter_map, List.filter_map, List.map_map, List.map_map]
  -- the same fields are selected in both readings
  apply List.map_congr_left
  intro f hfm
  obtain ⟨hmem, hk⟩ := List.mem_filter.mp hfm
  exact sval_eq_hval_of_nb f (hf f hmem)
    (framing_value_nb hfr (hField f) (List.mem_map_of_mem hmem) (hn f.name (by simpa [sField] using hk)))

/-- The strict decoder reads one request with spelled fields back (values `sval`), and leaves what follows.  It neither
compares the trailer section with the announcement nor bounds `Content-Length`: `framingOk` is all it asks. -/
theorem decodeOne_encF (r : OReq) (hm : isToken r.method = true) (ht : wfTarget r.target = true)
    (hf : ∀ f ∈ r.fields, wfFLine f = true) (htw : ∀ f ∈ r.body.trailers, wfFLine f = true)
    (hfr : framingOk (r.fields.map hField) (r.body.toW hField)) (rest : Bytes) :
    decodeOne (encReqO r ++ rest) = some (toSpec (strictW r), rest) := by
  have e : encReqO r ++ rest = (r.method ++ 32 :: (r.target ++ 32 :: sHTTP11)) ++ 13 :: 10 ::
      (encFLines r.fields ++ 13 :: 10 :: (encBodyO r.body ++ rest)) := by
    simp [encReqO, encHeadOfO, encHeadO, ReqDecodes.strHTTP11_eq]
  rw [e, ReqDecodes.decodeOne_lines _ _ _ _ hm ht hf]
  have hlcl := lookupAll_same sContentLength (fun k hk => Or.inl ((cls_cl_iff k).mpr hk)) r.fields hf _ hfr
  have hlte := lookupAll_same sTransferEncoding (fun k hk => Or.inr ((cls_te_iff k).mpr hk)) r.fields hf _ hfr
  simp only [ReqDecodes.afterHead, hlcl, hlte, Option.bind_eq_bind, Option.pure_def]
  generalize hH : r.fields.map hField = fsH at hfr
  have hnoTE_of := lookupAll_nil .te _ cls_te_iff fsH
  have hnoCL_of := lookupAll_nil .cl _ cls_cl_iff fsH
  cases hb : r.body with
  | none =>
    rw [hb] at hfr
    rw [hnoCL_of hfr.1, hnoTE_of hfr.2]
    simp [toSpec, hb, OBody.toW, bodyOf, encBodyO, strictW, OReq.toW]
  | fixed b =>
    rw [hb] at hfr
    obtain ⟨hte, hcl, hall, hdec⟩ := hfr
    obtain ⟨more, hshape, hmore⟩ := filter_cls_same .cl (pick .cl fsH []) fsH hcl hall
    rw [← lookupAll_cl] at hshape
    rw [hshape, hnoTE_of hte]
    simp [hmore, hdec, encBodyO, toSpec, strictW, OReq.toW, hb, OBody.toW, bodyOf]
  | chunked cs last trs =>
    rw [hb] at hfr
    rw [hb] at htw
    simp only [OBody.trailers] at htw
    obtain ⟨hcl, hlen, hval, hcs, hl15, hl0⟩ := hfr
    obtain ⟨te, hte1⟩ := List.length_eq_one_iff.mp hlen
    have hteval := hval te (by rw [hte1]; simp)
    rw [hnoCL_of hcl, lookupAll_te, hte1]
    have hch := chunksAux_enc last (encFLines trs ++ 13 :: 10 :: rest) hl0 hl15 cs []
      ((encBodyO (.chunked cs last trs) ++ rest).length + 1) (by
        have := encChunks_length_ge cs
        simp [encBodyO]; omega) hcs
    have htf := fieldsAux_encO trs [] rest ((encFLines trs ++ 13 :: 10 :: rest).length + 1) (by
      simp only [List.length_append]; omega) htw
    rw [encBodyO_chunked_append] at hch ⊢
    have hne : (lowerAll te.2 != sChunked) = false := by simp [hteval]
    simp only [List.map_cons, List.map_nil, hne, Bool.false_eq_true, if_false, hch, Option.bind_some, htf]
    simp [toSpec, strictW, OReq.toW, hb, OBody.toW, bodyOf]

theorem decodeAllAux_any {dn : Bool} : ∀ (rs : List OReq) (acc : List Req) (fuel : Nat), rs.length < fuel →
    (∀ r ∈ rs, WfAny dn r) →
    decodeAllAux fuel (encAllO rs) acc = some (acc.reverse ++ rs.map (fun r => toSpec (strictW r)))
  | [], acc, fuel, hf, _ => by
    obtain ⟨f, rfl⟩ : ∃ f, fuel = f + 1 := ⟨fuel - 1, by omega⟩
    simp [decodeAllAux, encAllO]
  | r :: rs, acc, fuel, hf, hw => by
    obtain ⟨f, rfl⟩ : ∃ f, fuel = f + 1 := ⟨fuel - 1, by omega⟩
    have hne : (encAllO (r :: rs)).isEmpty = false := by
      have := encAllO_length_ge (r :: rs)
      rw [List.isEmpty_eq_false_iff, ← List.length_pos_iff]
      simpa using Nat.lt_of_lt_of_le (Nat.zero_lt_succ _) this
    have ih := decodeAllAux_any rs (toSpec (strictW r) :: acc) f (by simp at hf; omega) (fun x hx => hw x (by simp [hx]))
    simp only [decodeAllAux, hne, Bool.false_eq_true, if_false]
    show (match decodeOne (encReqO r ++ encAllO rs) with
      | none => none
      | some (r', rest) => decodeAllAux f rest (r' :: acc)) = _
    have W := hw r (by simp)
    rw [decodeOne_encF r W.hm W.ht W.hf W.htw W.hfr]
    simp [ih]

/-- The strict decoder reads ANY stream of requests the server reads back as their readings `strictW`. -/
theorem decodeAll_any {dn : Bool} (rs : List OReq) (hw : ∀ r ∈ rs, WfAny dn r) :
    decodeAll (encAllO rs) = some (rs.map (fun r => toSpec (strictW r))) := by
  unfold decodeAll
  rw [decodeAllAux_any rs [] _ (by have := encAllO_length_ge rs; omega) hw]
  simp

/-! ### the two readings agree modulo the value canonicalisation -/

def canonBody : WBody → WBody
  | .none => .none
  | .fixed b => .fixed b
  | .chunked cs l trs => .chunked cs l (trs.map (fun kv => (kv.1, canon kv.2)))

/-- every field value (header and trailer section) canonicalised: whitespace runs collapsed, ends trimmed -/
def canonW (r : WReq) : WReq :=
  { r with fields := r.fields.map (fun kv => (kv.1, canon kv.2)), body := canonBody r.body }

theorem canon_fields (fs : List FLine) (h : ∀ f ∈ fs, wfFLine f = true) :
    (fs.map hField).map (fun kv => (kv.1, canon kv.2)) = (fs.map sField).map (fun kv => (kv.1, canon kv.2)) := by
  simp only [List.map_map]
  apply List.map_congr_left
  intro f hf
  simp [hField, sField, canon_hval_sval f (h f hf)]

/-- What the handler is handed and what the strict decoder reads are the same request up to whitespace inside
field values: same method, target, names, body, chunks; values equal under `canon`. -/
theorem canonW_seen_strict (r : OReq) (hf : ∀ f ∈ r.fields, wfFLine f = true)
    (htw : ∀ f ∈ r.body.trailers, wfFLine f = true) : canonW (seenW r) = canonW (strictW r) := by
  unfold canonW seenW strictW OReq.toW
  simp only [canon_fields r.fields hf]
  congr 1
  cases hb : r.body with
  | none | fixed => rfl
  | chunked cs l trs =>
    rw [hb] at htw
    simp only [OBody.trailers] at htw
    simp only [OBody.toW, canonBody, canon_fields trs htw]

/-! ### which requests close, and so which are served: both readings agree -/

theorem ciEq_close_nb (v : Bytes) (h : ciEq v strClose = true) : ∀ c ∈ v, c ≠ 32 ∧ c ≠ 9 :=
  nb_of_lower v _ ((ciEq_iff v strClose).mp h) (by decide)

theorem pickClose_strict_seen : ∀ (fs : List FLine) (d : Bool), (∀ f ∈ fs, wfFLine f = true) →
    pickClose (fs.map hField) d = pickClose (fs.map sField) d
  | [], _, _ => rfl
  | f :: t, d, hw => by
    simp only [List.map_cons, pickClose, hField, sField]
    have hf := hw f (by simp)
    -- whichever reading is `close` has no blank, and then the two readings are the same text
    have hb : ciEq (hval f) strClose = ciEq (sval f) strClose := by
      rw [Bool.eq_iff_iff]
      exact ⟨fun h1 => sval_eq_hval_of_nb f hf (ciEq_close_nb _ h1) ▸ h1,
        fun h2 => hval_eq_sval_of_nb f hf (ciEq_close_nb _ h2) ▸ h2⟩
    rw [hb]
    exact pickClose_strict_seen t _ (fun x hx => hw x (by simp [hx]))

theorem closes_seen_eq_strict (r : OReq) (hf : ∀ f ∈ r.fields, wfFLine f = true) : closes (seenW r) = closes (strictW r) :=
  pickClose_strict_seen r.fields false hf

/-- The server closes after a request only if the strict reading says `Connection: close` too (one half of
`closes_seen_eq_strict`). -/
theorem closes_seen_strict {dn : Bool} (r : OReq) (h : wfOReq dn r = true) (hc : closes (seenW r) = true) :
    closes (strictW r) = true :=
  closes_seen_eq_strict r (WfAny.of_wfOReq h).hf ▸ hc

/-- the same requests are served in both readings -/
theorem served_seen_strict (dk : Bool) {dn : Bool} (rs : List OReq) (hw : ∀ r ∈ rs, wfOReq dn r = true) :
    served dk (rs.map seenW) = (servedBy dk (fun r => closes (strictW r)) rs).map seenW := by
  rw [served_map, servedBy_congr _ _ _ rs (fun r hr => closes_seen_eq_strict r (WfAny.of_wfOReq (hw r hr)).hf)]

/-! ### requests without obs-fold: the handler is handed exactly the strict decoder's reading -/

def noFold (r : OReq) : Bool := r.fields.all (fun f => f.conts.isEmpty) && r.body.trailers.all (fun f => f.conts.isEmpty)

theorem map_hField_eq_sField (fs : List FLine) (h : ∀ f ∈ fs, f.conts = []) : fs.map hField = fs.map sField := by
  apply List.map_congr_left
  intro f hf
  simp [hField, sField, hval_eq_sval_nofold f (h f hf)]

theorem seenW_eq_strictW_of_noFold (r : OReq) (h : noFold r = true) : seenW r = strictW r := by
  simp only [noFold, Bool.and_eq_true, List.all_eq_true, List.isEmpty_iff] at h
  unfold seenW strictW OReq.toW
  rw [map_hField_eq_sField r.fields h.1]
  congr 1
  cases hb : r.body with
  | none | fixed => rfl
  | chunked cs l trs =>
    have := h.2
    rw [hb] at this
    simp only [OBody.toW, map_hField_eq_sField trs this]

/-- `wfOReq` with the framing / `Trailer` conditions stated on the OWS-trimmed values (the strict decoder's reading) -/
def wfOReqS (dn : Bool) (r : OReq) : Bool :=
  isToken r.method && wfTarget r.target && r.fields.all wfFLine && r.body.trailers.all wfFLine &&
  (strictW r).fields.all (fun kv => cls kv.1 != .trailer || declOk dn kv.2) &&
  wfFramingL dn (strictW r).fields (strictW r).body

theorem wfOReq_eq_wfOReqS (dn : Bool) (r : OReq) (h : noFold r = true) : wfOReq dn r = wfOReqS dn r := by
  unfold wfOReq wfOReqS
  rw [seenW_eq_strictW_of_noFold r h]

/-! ### the canonical spelling `name ": " value CRLF`

The encoders of `Proofs/ReqRoundtrip.lean` write every field as `name ": " value CRLF`.  That is the spelling `spell`;
both readings of it are the field itself, so the round trip of a `WReq` is the round trip of its spelling. -/

theorem encFLine_canonical (k v : Bytes) : encFLine { name := k, raw := 32 :: v, conts := [] } = encField (k, v) := by
  simp [encFLine, encField, encConts]


def WBody.spell : WBody → OBody
  | .none => .none
  | .fixed b => .fixed b
  | .chunked cs l trs => .chunked cs l (trs.map RT.spell)

def WReq.spell (r : WReq) : OReq :=
  { method := r.method, target := r.target, fields := r.fields.map RT.spell, body := r.body.spell }

theorem encFLines_spell : ∀ fs : List (Bytes × Bytes), encFLines (fs.map spell) = encFields fs
  | [] => rfl
  | kv :: fs => by simp [encFLines, encFields, spell, encFLine_canonical, encFLines_spell fs]

theorem encHeadOfO_spell (r : WReq) : encHeadOfO r.spell = encHeadOf r := by
  simp [encHeadOfO, encHeadO, encHeadOf, encHead, WReq.spell, encFLines_spell]

theorem encBodyO_spell (b : WBody) : encBodyO b.spell = encBody b := by
  cases b <;> simp [WBody.spell, encBodyO, encBody, encFLines_spell]

theorem encReqO_spell (r : WReq) : encReqO r.spell = encReq r := by
  rw [encReqO, encHeadOfO_spell]
  exact congrArg _ (encBodyO_spell r.body)

theorem encAllO_spell : ∀ rs : List WReq, encAllO (rs.map WReq.spell) = encAll rs
  | [] => rfl
  | r :: rs => by simp [encAllO, encAll, encReqO_spell, encAllO_spell rs]

theorem spell_facts (kv : Bytes × Bytes) (h : wfField kv = true) :
    wfFLine (spell kv) = true ∧ hField (spell kv) = kv ∧ sField (spell kv) = kv := by
  simp only [wfField, wfValue, Bool.and_eq_true] at h
  have ht : trimOWS (32 :: kv.2) = kv.2 := trimOWS_sp kv.2 h.2.2
  refine ⟨?_, ?_, ?_⟩
  · simp [wfFLine, spell, h.1, h.2.1, isFieldVchar]
  · simp [hField, spell, hval_nofold, ht]
  · simp [sField, spell, sval_nofold, ht]

theorem map_spell (g : FLine → Bytes × Bytes) (hg : ∀ kv, wfField kv = true → g (spell kv) = kv)
    (fs : List (Bytes × Bytes)) (h : ∀ kv ∈ fs, wfField kv = true) : (fs.map spell).map g = fs := by
  rw [List.map_map]
  conv => rhs; rw [← List.map_id fs]
  exact List.map_congr_left (fun kv hkv => hg kv (h kv hkv))

/-- both readings of the canonical spelling of a well-formed request are the request itself -/
theorem toW_spell {dn : Bool} (r : WReq) (h : wfReq dn r = true) (g : FLine → Bytes × Bytes)
    (hg : ∀ kv, wfField kv = true → g (spell kv) = kv) : r.spell.toW g = r := by
  obtain ⟨_, _, hf, _, hfr⟩ := wfReq_facts r h
  obtain ⟨m, t, fs, b⟩ := r
  simp only [WReq.spell, OReq.toW, map_spell g hg fs hf, WReq.mk.injEq, true_and]
  cases b with
  | none | fixed => rfl
  | chunked cs l trs =>
    simp only [wfFraming, Bool.and_eq_true, List.all_eq_true] at hfr
    simp only [WBody.spell, OBody.toW, map_spell g hg trs hfr.1.2]

theorem seenW_spell {dn : Bool} (r : WReq) (h : wfReq dn r = true) : seenW r.spell = r :=
  toW_spell r h hField (fun kv hkv => (spell_facts kv hkv).2.1)

theorem strictW_spell {dn : Bool} (r : WReq) (h : wfReq dn r = true) : strictW r.spell = r :=
  toW_spell r h sField (fun kv hkv => (spell_facts kv hkv).2.2)

theorem wfOReq_spell {dn : Bool} (r : WReq) (h : wfReq dn r = true) : wfOReq dn r.spell = true := by
  obtain ⟨hm, ht, hf, hd, hfr⟩ := wfReq_facts r h
  have hl : ∀ fs : List (Bytes × Bytes), (∀ kv ∈ fs, wfField kv = true) → (fs.map spell).all wfFLine = true := by
    intro fs hfs
    simp only [List.all_map, List.all_eq_true, Function.comp]
    exact fun kv hkv => (spell_facts kv (hfs kv hkv)).1
  have htr : r.spell.body.trailers.all wfFLine = true ∧ wfFramingL dn r.fields r.body = true := by
    obtain ⟨m, t, fs, b⟩ := r
    cases b with
    | none | fixed => exact ⟨rfl, hfr⟩
    | chunked cs l trs =>
      simp only [wfFraming, Bool.and_eq_true] at hfr
      simp only [wfFramingL, Bool.and_eq_true]
      exact ⟨hl trs (by simpa using hfr.1.2), ⟨hfr.1.1, hfr.2⟩⟩
  have hdecl : r.fields.all (fun kv => cls kv.1 != .trailer || declOk dn kv.2) = true := by
    simp only [wfReq, Bool.and_eq_true] at h
    exact h.1.2
  simp only [wfOReq, seenW_spell r h, Bool.and_eq_true]
  exact ⟨⟨⟨⟨⟨hm, ht⟩, hl r.fields hf⟩, htr.1⟩, hdecl⟩, htr.2⟩

theorem map_toW_spell {dn : Bool} (rs : List WReq) (hw : ∀ r ∈ rs, wfReq dn r = true) (g : FLine → Bytes × Bytes)
    (hg : ∀ kv, wfField kv = true → g (spell kv) = kv) : (rs.map WReq.spell).map (OReq.toW g) = rs := by
  rw [List.map_map]
  conv => rhs; rw [← List.map_id rs]
  exact List.map_congr_left (fun r hr => toW_spell r (hw r hr) g hg)

end Hertz.H1.RT
