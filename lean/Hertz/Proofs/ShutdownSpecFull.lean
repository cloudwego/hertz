import Hertz.Proofs.ShutdownSpecSched
/-!
The observable projection (`obsRun`) of every run of the interleaving model `Hertz.Shutdown` satisfies the clauses of the
trace specification `Hertz.ShutdownSpec` that bound no duration — the predicate the C18 driver evaluates on the event
sequence recorded around the REAL server — four of them only if the run respects `okWin`.  Each proof cuts the run at the
last position its clause mentions and reads the invariant `JW` at the cut, which holds of every run; the four that take
`okWin` are those that need the closed listener, and use the discipline for `lnSkipped = false` at the cut (`run_noSkip`) and
nothing else.  `obs_hooksRun` and `obs_inflightComplete` also read the end of the run (`bounded` and `prompt` are in
`ShutdownSpecPrompt`; the clauses are assembled in Props/C18, `run_satisfies_spec`).
-/
namespace Hertz.Shutdown
open Hertz.ShutdownSpec

theorem connsWaited_nil (p : Params) (l : List TEv)
    (h : ∀ (w k tw s ts i c q : Nat) (rc : Bool) (t : Nat), l[w]? = some (TEv.mk (.T k "nil") tw) → l[s]? = some (TEv.mk (.S k) ts) →
      tw - ts + 2000 < p.exitWait → w < i → l[i]? = some (TEv.mk (.Q c q rc) t) → False) :
    connsWaited p l.toArray = [] := by
  unfold connsWaited
  split
  · rfl
  · rename_i w hw
    split
    · rfl
    · rename_i s hs
      obtain ⟨k, tw, ts, hwk, hsk, e1, e2⟩ := winner_positions hw hs
      rw [e1, e2]
      split
      · rfl
      · rename_i hearly
        have hearly : tw - ts + 2000 < p.exitWait := by simpa using hearly
        rw [List.filterMap_eq_nil_iff]
        intro i _
        split
        · rename_i c q rc t heq
          rw [evAt_list] at heq
          split
          · rename_i hwi
            exact (h w k tw s ts i c q rc t hwk hsk hearly hwi heq).elim
          · rfl
        · rfl

section clauses
variable {cfg : Cfg} {n : Nat} {acts : List Act} {sF : State}

/-- in words: `Hertz.Props.C18.obs_close_after_shutdown` -/
theorem obs_closeAfterShutdown (hr : run cfg (init n) acts = some sF) :
    closeAfterShutdown (obsRun cfg (init n) acts).toArray = [] := by
  apply closeAfterShutdown_nil
  intro f i j c k b t t' hfi hij hf hi hj
  -- the step that read the response; the handler exit and the flip witness lie before it
  obtain ⟨acts1, a, acts2, s1, s1', sp, jw⟩ := split_JW hr (allOk_true cfg acts _) hj
  obtain ⟨rfl, _, cn, hc, hk⟩ := obsAct_R sp.ev
  have hp := jw.hist.pend f i c k b t hfi (FlipL_prefix hr sp (by omega) (flipAt_FlipL hf)) (sp.get_before hij hi)
  -- the read returned response `k` with close = false
  obtain ⟨_, _, hc0, hcs, _⟩ := (step_Step cfg sp.st).connStep rfl
  cases hc.symm.trans hc0
  cases hcs with
  | clientRead _ _ _ r hr3 hcl =>
    have := pend_close jw.ai.inv hp hc (hk ▸ hr3)
    simp [this] at hcl

/-- in words: `Hertz.Props.C18.obs_no_accept_after_shutdown` -/
theorem obs_noAcceptAfter (hr : run cfg (init n) acts = some sF) (hok : allOk okWin cfg (init n) acts = true) :
    noAcceptAfter (obsRun cfg (init n) acts).toArray = [] := by
  apply noAcceptAfter_nil
  · intro w i c t hwi hw hi
    obtain ⟨k, tw, hw⟩ := holdsAt_isTnil.1 hw
    obtain ⟨acts1, a, acts2, s1, s1', sp, jw⟩ := split_JW hr hok hi
    have := (obsAct_A' sp.ev).1; subst this
    have hcl := (jw.ai.inv.closed (tnil_postClose jw.ai jw.lg (has_of_getElem? (sp.get_before hwi hw))) (run_noSkip sp.run1 sp.ok1)).1
    have hst := sp.st
    simp [step, hcl] at hst
  · intro w sd i d t t' hw hwsd hsdi hsd hi
    obtain ⟨k, tw, hw⟩ := holdsAt_isTnil.1 hw
    obtain ⟨acts1, a, acts2, s1, s1', sp, jw⟩ := split_JW hr hok hi
    have hd := jw.hist.dial (run_noSkip sp.run1 sp.ok1) w sd k d tw t' hwsd (sp.get_before (by omega) hw) (sp.get_before hsdi hsd)
    cases obsOf sp.ev
    have hst := sp.st
    simp only [step] at hst
    rcases hd with h | h <;> simp [h] at hst

/-- in words: `Hertz.Props.C18.obs_second_shutdown_errors` -/
theorem obs_errorsReported (hr : run cfg (init n) acts = some sF) (hok : allOk okWin cfg (init n) acts = true) {p : Params}
    (hp : ParamsOk p cfg n) : errorsReported p (obsRun cfg (init n) acts).toArray = [] := by
  apply errorsReported_nil
  intro i k ts hi r err tr' hrr hmin
  have hir := S_before_T hr hi hrr
  obtain ⟨acts1, acts2, s1, s1', e, sp, jw, rfl, hret, hS⟩ := split_T hr hok hi hrr
  constructor
  · rintro (hnl | ⟨j, hji, hfl⟩)
    · -- the call returned before the listener answered
      -- any other result is the winner's, who has closed the listener, which therefore existed
      apply Classical.byContradiction
      intro hne
      obtain ⟨_, _, t, hw⟩ := ret_winner jw.ai hret (Or.inl rfl) (fun h => hne (by rw [h]; rfl))
      have hln := (jw.ai.inv.closed (by simp [hw, postClose]) (run_noSkip sp.run1 sp.ok1)).2
      obtain ⟨j, t', hj, he⟩ := sp.has_before (jw.lg.has (ev := .L) hln trivial)
      exact hnl ⟨j, hj, holdsAt_eq.2 ⟨t', he⟩⟩
    · -- some call has returned before this one was made, showing that the status had flipped
      obtain ⟨_, p, hp, hpp⟩ := jw.hist.loser j i k ts hji (FlipL_prefix hr sp (by omega) (retFlipAt_FlipL hfl))
        (sp.get_before hir hi)
      rw [hret] at hp; cases hp
      rcases hpp with h | h | h <;> simp at h
      subst h; rfl
  · -- the call was made on the listening engine and is alone until it returns
    rintro ⟨jl, hjl, hl⟩ _ hnoS
    have hlen : s1.callers.length = 1 ∧ k = 0 := by
      have hklt := getElem?_lt hret
      have hall : ∀ k', k' < s1.callers.length → k' = k := by
        intro k' hk'
        obtain ⟨j, t, hj, ht⟩ := sp.has_before (jw.lg.has (ev := .S k') hk' trivial)
        apply Classical.byContradiction
        intro hne
        exact hnoS ⟨j, k', t, hj, hne, ht⟩
      have h0 := hall 0 (by omega)
      constructor
      · rcases Nat.lt_or_ge 1 s1.callers.length with h | h
        · have := hall 1 h; omega
        · omega
      · exact h0.symm
    obtain ⟨hl1, hk0⟩ := hlen
    obtain ⟨tl, hl⟩ := holdsAt_eq.1 hl
    have hlbs : LBS (obsRun cfg (init n) acts1) 0 := by
      refine ⟨jl, i, tl, ts, hjl, ?_, ?_⟩
      · exact sp.get_before (by omega) hl
      · exact sp.get_before hir (hk0 ▸ hi)
    have hne := sole_ok jw.ai jw.lg jw.la hl1 hlbs (hk0 ▸ hret)
    cases e
    · exact Or.inl rfl
    · exact absurd (Or.inl rfl) hne
    · -- the winner's result: it left `transport.Shutdown` more than the cap after its CAS, which was not before the call
      obtain ⟨hwn, rfl, t, hw⟩ := ret_winner jw.ai hret (Or.inl rfl) nofun
      have h1 := (jw.ti.ret hw).2 rfl
      have h2 := jw.ai.si.retNow _ t hw
      have h3 := jw.ws hwn ts hS
      have h4 : tr' = s1.now := sp.tm
      have := hp.maxWait
      exact Or.inr ⟨rfl, by omega⟩

/-- in words: `Hertz.Props.C18.obs_inflight_complete` -/
theorem obs_inflightComplete (hr : run cfg (init n) acts = some sF) (hset : Settled sF) :
    inflightComplete (obsRun cfg (init n) acts).toArray = [] := by
  have hok := allOk_true cfg acts (init n)
  apply inflightComplete_nil
  · intro i c k rc t hi
    obtain ⟨acts1, a, acts2, s1, s1', sp, jw⟩ := split_JW hr hok hi
    obtain ⟨rfl, cn1, hc1, hk⟩ := obsAct_Q sp.ev
    have lgF := (run_JW hr).lg
    obtain ⟨cnF, hcF, hkF⟩ := lgF.seen _ (has_of_getElem? hi)
    have hsetF := hset cnF (List.mem_of_getElem? hcF)
    obtain ⟨cl, hcl⟩ := lgF.hasR hcF (k := k) (by omega)
    obtain ⟨j, _, hh⟩ := has_idx hcl
    obtain ⟨t', ht'⟩ := holdsAt_eq.1 hh
    refine ⟨j, cl, t', ?_, ht'⟩
    rcases Nat.lt_trichotomy j i with h | h | h
    · exfalso
      rw [sp.before h] at ht'
      obtain ⟨cn, hcn, hlt⟩ := jw.lg.seen _ (has_of_getElem? ht')
      rw [hc1] at hcn; cases hcn
      have hcount := (jw.ai.inv.conns cn1 (List.mem_of_getElem? hc1)).count
      have := jw.ai.cc.acked cn1 (List.mem_of_getElem? hc1)
      omega
    · subst h; rw [hi] at ht'; cases ht'
    · exact h
  · intro i c k cl t hi
    obtain ⟨acts1, a, acts2, s1, s1', sp⟩ := obsRun_split cfg _ acts hr hok hi
    have := (obsAct_R sp.ev).2.1
    simp at this

/-- in words: `Hertz.Props.C18.obs_no_spurious_close` -/
theorem obs_noSpuriousClose (hr : run cfg (init n) acts = some sF) :
    noSpuriousClose (obsRun cfg (init n) acts).toArray = [] := by
  apply noSpuriousClose_nil
  intro i c k co t hi hnoS
  obtain ⟨acts1, a, acts2, s1, s1', sp, jw⟩ := split_JW hr (allOk_true cfg acts _) hi
  obtain ⟨rfl, _, cn1, hc1, hk⟩ := obsAct_R sp.ev
  have hcl : s1.callers = [] := by
    cases hcs : s1.callers with
    | nil => rfl
    | cons x xs =>
      exfalso
      obtain ⟨j, t', hj, he⟩ := sp.has_before (jw.lg.has (ev := .S 0) (show 0 < s1.callers.length by simp [hcs]) trivial)
      exact hnoS j hj ⟨_, he, rfl⟩
  obtain ⟨_, _, hc0, hcs, _⟩ := (step_Step cfg sp.st).connStep rfl
  cases hc1.symm.trans hc0
  cases hcs with
  | clientRead _ _ _ r hr3 hrc =>
    rw [← hk] at hr3
    rcases (jw.ns hcl c cn1 hc1).1 k r hr3 hrc with h | h
    · obtain ⟨j, t', hj, he⟩ := sp.has_before h
      exact ⟨j, t', hj, Or.inl he⟩
    · obtain ⟨j, t', hj, he⟩ := sp.has_before h
      exact ⟨j, t', hj, Or.inr he⟩

/-- in words: `Hertz.Props.C18.obs_hooks_run` -/
theorem obs_hooksRun (hr : run cfg (init n) acts = some sF) (hok : allOk okWin cfg (init n) acts = true) {p : Params} (hp : ParamsOk p cfg n)
    (hst : HooksStarted sF) : hooksRun p (obsRun cfg (init n) acts).toArray = [] := by
  have jwF := run_JW hr
  apply hooksRun_nil
  · intro w hw j hj
    obtain ⟨k, tw, hw⟩ := holdsAt_isTnil.1 hw
    have hpF := tnil_postClose jwF.ai jwF.lg (has_of_getElem? hw)
    have hlen := jwF.ai.hk.2
    rw [hp.nHooks, ← hlen] at hj
    obtain ⟨ph, hph⟩ : ∃ ph, sF.hooks[j]? = some ph := ⟨_, List.getElem?_eq_getElem hj⟩
    have hmem := List.mem_of_getElem? hph
    have h1 := jwF.ai.inv.spawned (by intro h; simp [h, postClose] at hpF) (by intro h; simp [h, postClose] at hpF) ph hmem
    have h2 := hst ph hmem
    have : Has (obsRun cfg (init n) acts) (.HS j) := by
      refine jwF.lg.has (ev := .HS j) (show _ ∨ _ from ?_) trivial
      cases ph <;> simp_all
    obtain ⟨i, _, hi⟩ := has_idx this
    exact ⟨i, hi⟩
  · intro w k tw s ts hwk hsk hearly
    -- cut at the `nil` return: it is the winner's and comes before the deadline of its context, so every connection had gone
    obtain ⟨acts1, acts2, s1, s1', e, sp, jw, he, hret, hS⟩ := split_T hr hok hsk hwk
    cases errStr_inj (e' := .nil) he.symm
    have htm : tw = s1.now := sp.tm
    obtain ⟨t, hw, htdl, hgone⟩ := early_ret jw.ai (run_noSkip sp.run1 sp.ok1) jw.ti jw.ws hret hS (htm ▸ hp.exitWait ▸ hearly)
    constructor
    · intro j hj
      have hdone := jw.ai.inv.retHooks _ t hw htdl
      rw [hp.nHooks, ← jw.ai.hk.2] at hj
      obtain ⟨ph, hph⟩ : ∃ ph, s1.hooks[j]? = some ph := ⟨_, List.getElem?_eq_getElem hj⟩
      have := hooksDone_get hdone hph
      subst this
      obtain ⟨i, t', hi, hev⟩ := sp.has_before (jw.lg.has (ev := .HE j) hph trivial)
      exact ⟨i, hi, holdsAt_eq.2 ⟨t', hev⟩⟩
    · intro i c q rc t' hi hq
      rw [sp.before hi] at hq
      obtain ⟨cn, hcn, hlt⟩ := jw.lg.seen _ (has_of_getElem? hq)
      have hph := hgone cn (List.mem_of_getElem? hcn)
      obtain ⟨b, hb⟩ := jw.lg.hasX hcn (k := q) (by simpa [hph, inH] using hlt)
      obtain ⟨i', t'', hi', hev⟩ := sp.has_before hb
      exact ⟨i', b, t'', hi', hev⟩

/-- in words: `Hertz.Props.C18.obs_conns_waited` -/
theorem obs_connsWaited (hr : run cfg (init n) acts = some sF) (hok : allOk okWin cfg (init n) acts = true) {p : Params} (hp : ParamsOk p cfg n) :
    connsWaited p (obsRun cfg (init n) acts).toArray = [] := by
  apply connsWaited_nil
  intro w k tw s ts i c q rc tq hwk hsk hearly hwi hq
  obtain ⟨acts1, a, acts2, s1, s1', sp, jw⟩ := split_JW hr hok hq
  have hsw := S_before_T hr hsk hwk
  have hg := jw.hist.early (run_noSkip sp.run1 sp.ok1) k tw ts (List.mem_of_getElem? (sp.get_before hwi hwk))
    (List.mem_of_getElem? (sp.get_before (by omega) hsk)) (hp.exitWait ▸ hearly)
  obtain ⟨rfl, cn, hc, _⟩ := obsAct_Q sp.ev
  obtain ⟨_, _, hc0, hcs, _⟩ := (step_Step cfg sp.st).connStep rfl
  cases hc.symm.trans hc0
  cases hcs with
  | reqArrive _ _ _ hidle => rw [hg cn (List.mem_of_getElem? hc)] at hidle; cases hidle

end clauses

end Hertz.Shutdown
