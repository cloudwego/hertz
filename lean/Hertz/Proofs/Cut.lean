import Hertz.Proofs.IndexByte
/-!
The first occurrence of a byte in a byte string, as the URI and cookie models use it: `Uri.indexOf` through the facts of
`H1.indexByte`, and `cut1` (the args scanner's cut) as `indexOf` with `take`/`drop` (the cookie scanner's and `parse`'s).
-/
namespace Hertz.Uri
open Hertz

theorem indexOf_append (c : UInt8) (a b : Bytes) (h : ∀ x ∈ a, x ≠ c) :
    indexOf c (a ++ c :: b) = some a.length :=
  indexOf_eq ▸ H1.indexByte_skip c a b h

theorem indexOf_none (c : UInt8) (a : Bytes) (h : ∀ x ∈ a, x ≠ c) : indexOf c a = none := by
  simpa [indexOf_eq] using H1.indexByte_append_none c a [] h rfl

theorem indexOf_isSome_of_mem (c : UInt8) (l : Bytes) (h : c ∈ l) : ∃ n, indexOf c l = some n :=
  indexOf_eq ▸ H1.indexByte_of_mem c l h

theorem cut1_eq_indexOf (c : UInt8) (s : Bytes) :
    cut1 c s = match indexOf c s with
      | none => (s, none)
      | some i => (s.take i, some (s.drop (i + 1))) := by
  induction s with
  | nil => rfl
  | cons x t ih =>
    by_cases hx : x = c
    · simp [cut1, indexOf, hx]
    · simp only [cut1, indexOf, hx, if_false, ih]
      cases indexOf c t <;> rfl

theorem indexOf_get (c : UInt8) (s : Bytes) (i : Nat) (h : indexOf c s = some i) : s[i]? = some c :=
  H1.indexByte_get c s i (indexOf_eq ▸ h)

theorem indexOf_take (c : UInt8) : ∀ (s : Bytes) (n : Nat),
    indexOf c (s.take n) = match indexOf c s with
      | some i => if i < n then some i else none
      | none => none
  | [], n => by simp [indexOf]
  | x :: t, 0 => by simp only [List.take_zero, indexOf]; split <;> simp
  | x :: t, n + 1 => by
    by_cases hx : x = c
    · simp [indexOf, hx]
    · simp only [List.take_succ_cons, indexOf, hx, if_false, indexOf_take c t n]
      cases indexOf c t with
      | none => rfl
      | some i => by_cases h : i < n <;> simp [h]

theorem not_contains {b : Bytes} {c : UInt8} (h : b.contains c = false) : ∀ x ∈ b, x ≠ c := by
  intro x hx he
  subst he
  simp [hx] at h

end Hertz.Uri
