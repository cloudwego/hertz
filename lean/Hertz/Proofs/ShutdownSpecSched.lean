import Hertz.Proofs.ShutdownSpecRefine
/-!
Hypotheses of the clause theorems beyond `okWin`: how the spec's parameters relate to the model's configuration
(`ParamsOk`; every clause that reads a parameter), when a run counts as complete (`Settled`, `HooksStarted`,
`CallersDone`), and for the timing clauses `bounded` and `prompt` the scheduling discipline "no goroutine that can move on
its own is delayed" (`okSched`), with the invariant that ties the time stamps of the observed calls to the model clock
under that discipline (`BI`).
-/
namespace Hertz.Shutdown
open Hertz.ShutdownSpec

/-- the parameters handed to the spec predicate describe the configuration of the model; `tick` and `maxWait` may differ
in the direction that makes the clauses' bounds (`bounded`, `prompt`; the cap exception of `errorsReported`) more lenient -/
structure ParamsOk (p : Params) (cfg : Cfg) (n : Nat) : Prop where
  exitWait : p.exitWait = cfg.exitWait
  tick : cfg.tick ≤ p.tick
  nHooks : p.nHooks = n
  maxWait : p.maxWait ≤ cfg.maxWait

/-- a connection goroutine has a step to take that needs no input from outside: the exit check, the
response write, noticing that the peer has closed an idle connection, `updateActive(-1)` -/
def connBusy (cn : Conn) : Bool :=
  match cn.ph with
  | .returned _ _ | .checked _ _ | .closing => true
  | .idle => cn.peerClosed
  | _ => false

/-- a `Shutdown` caller that is not about to execute a non-blocking step (load, CAS, return) -/
def callerQuiet : CallerPh → Bool
  | .winner | .finished _ => true
  | _ => false

/-- the clock may advance by `d`: the winner of the CAS is blocked and is not woken before `now + d`
(`canAdvance`), no other `Shutdown` caller is between its call and its return, and no connection
goroutine has an internal step to take -/
def canTick (s : State) (d : Nat) : Bool :=
  canAdvance s d && s.callers.all callerQuiet && s.conns.all (fun cn => !connBusy cn)

/-- the scheduling / environment discipline of the timing clauses: no CAS of a `Shutdown` caller succeeds before
the listener exists (`okWin`, which excludes exactly the known finding), and the clock advances only under
`canTick` -/
def okSched (s : State) : Act → Bool
  | .shutCas _ => s.status != stRunning || s.lnSet
  | .advance d => canTick s d
  | _ => true

theorem okSched_okWin (s : State) (a : Act) (h : okSched s a = true) : okWin s a = true := by
  cases a <;> simp_all [okSched, okWin]

theorem okSched_actOk (s : State) (a : Act) (h : okSched s a = true) : actOk s a = true := by
  cases a <;> simp_all [okSched, actOk, canTick]

/-- every connection's client has read all responses to the requests that reached a handler -/
def Settled (s : State) : Prop := ∀ cn ∈ s.conns, cn.acked = cn.started

/-- every registered hook has been started by the end of the run (no hook goroutine is left unscheduled) -/
def HooksStarted (s : State) : Prop := ∀ h ∈ s.hooks, h ≠ .spawned

/-- every `Shutdown` call has returned to its caller -/
def CallersDone (s : State) : Prop := ∀ p ∈ s.callers, ∃ e, p = .finished e

/-! ### the time stamps of the calls against the clock -/

/-- the state / event-sequence invariant behind the time bound of `bounded` -/
structure BI (s : State) (tr : List TEv) : Prop where
  /-- a caller that is about to take a non-blocking step (and is not the CAS winner) was called "now" -/
  b1 : ∀ k p t, s.callers[k]? = some p → callerQuiet p = false → (s.win = .none ∨ k ≠ s.winK) →
      TEv.mk (.S k) t ∈ tr → s.now ≤ t
  /-- the winner's call was not made before the instant of its CAS (nor after it: `WS`) -/
  b2 : s.win ≠ .none → ∀ t, TEv.mk (.S s.winK) t ∈ tr → s.tcas ≤ t
  /-- the winner hands the result to its caller without delay -/
  b3 : ∀ e t, s.win = .returned e t → s.callers[s.winK]? = some (.returned e) → s.now ≤ t

theorem bi_init (n : Nat) : BI (init n) [] := by
  constructor <;> simp [init]

/-- steps that leave callers, clock and the ghosts alone, keep `win` (or move it between phases of the
running winner), and are not a call of `Shutdown` -/
theorem BI.frame {s s' : State} {a : Act} {tr : List TEv} (h : BI s tr)
    (hc : s'.callers = s.callers) (hn : s'.now = s.now) (hk : s'.winK = s.winK) (ht : s'.tcas = s.tcas)
    (hw : s'.win = s.win ∨ (s.win ≠ .none ∧ s'.win ≠ .none ∧ ∀ e t, s'.win ≠ .returned e t))
    (hS : a ≠ .shutCall) : BI s' (tr ++ obsStep s a) := by
  have mS : ∀ {k t}, TEv.mk (.S k) t ∈ tr ++ obsStep s a → TEv.mk (.S k) t ∈ tr :=
    fun hm => (mem_S_snoc hm).resolve_right fun h => hS h.1
  refine ⟨?_, ?_, ?_⟩
  · intro k p t hp hq hwk hm
    rw [hc] at hp; rw [hn]
    refine h.b1 k p t hp hq ?_ (mS hm)
    rcases hw with hw | ⟨_, h2, _⟩
    · rw [hw, hk] at hwk; exact hwk
    · rcases hwk with hwk | hwk
      · exact absurd hwk h2
      · right; rw [hk] at hwk; exact hwk
  · intro hne t hm
    rw [hk] at hm; rw [ht]
    refine h.b2 ?_ t (mS hm)
    rcases hw with hw | ⟨h1, _, _⟩
    · rw [hw] at hne; exact hne
    · exact h1
  · intro e t hwe hp
    rcases hw with hw | ⟨_, _, h3⟩
    · rw [hw] at hwe; rw [hc, hk] at hp; rw [hn]; exact h.b3 e t hwe hp
    · exact absurd hwe (h3 e t)

/-- a caller that is `called` / `loaded` moves on (load, lost CAS) -/
theorem BI.setActive {s : State} {tr : List TEv} (bi : BI s tr) (wc : WinCaller s) {k0 : Nat} {p0 q : CallerPh}
    (h0 : s.callers[k0]? = some p0) (hp0 : p0 = .called ∨ p0 = .loaded) :
    BI { s with callers := s.callers.set k0 q } tr := by
  have hnq0 : callerQuiet p0 = false := by rcases hp0 with rfl | rfl <;> rfl
  refine ⟨?_, bi.b2, ?_⟩
  · intro k p t hp hnq hwk hm
    rcases set_cases hp with ⟨_, hp⟩ | ⟨rfl, _⟩
    · exact bi.b1 k p t hp hnq hwk hm
    · exact bi.b1 k0 p0 t h0 hnq0 hwk hm
  · intro e t hwe hp
    have hne : s.win ≠ .none := by intro h; rw [h] at hwe; cases hwe
    by_cases hkk : k0 = s.winK
    · exfalso
      obtain ⟨p, hp', hok⟩ := wc hne
      rw [← hkk, h0] at hp'; cases hp'
      have := winCallerOk_ne hne hok
      rcases hp0 with rfl | rfl
      · exact this.1 rfl
      · exact this.2.1 rfl
    · have hp' : s.callers[s.winK]? = some (.returned e) := by simpa [List.getElem?_set_ne hkk] using hp
      exact bi.b3 e t hwe hp'

theorem winnerRet_pend {e : Err} {q : CallerPh} (h : pendOrErr q) : winnerRet e q = q := by
  cases q <;> simp_all [winnerRet, pendOrErr, isNotRunningRet]

theorem step_BI (cfg : Cfg) (n : Nat) {s s' : State} {a : Act} {tr : List TEv} (ai : AllInv n s) (lg : Log s tr)
    (bi : BI s tr) (hok : okSched s a = true) (h : Step cfg s a s') :
    BI s' (tr ++ obsStep s a) := by
  cases h
  case advance d =>
    have hq : ∀ (k : Nat) (p : CallerPh), s.callers[k]? = some p → callerQuiet p = true := by
      simp only [okSched, canTick, Bool.and_eq_true, List.all_eq_true] at hok
      intro k p hp; exact hok.1.2 p (List.mem_of_getElem? hp)
    rw [obsStep_none rfl, List.append_nil]
    refine ⟨?_, bi.b2, ?_⟩
    · intro k p t hp hnq
      have := hq k p hp
      rw [this] at hnq; cases hnq
    · intro e t _ hp
      have := hq s.winK (.returned e) hp
      simp [callerQuiet] at this
  case shutCall =>
    rw [obsStep_some rfl]
    refine ⟨?_, ?_, ?_⟩
    · intro k p t hp hnq hwk hm
      simp only [List.mem_append, List.mem_singleton] at hm
      show s.now ≤ t
      rcases hm with hm | hm
      · have hlt : k < s.callers.length := lg.seen (.S k) ⟨t, hm⟩
        have hp' : s.callers[k]? = some p := by simpa [List.getElem?_append_left hlt] using hp
        exact bi.b1 k p t hp' hnq hwk hm
      · simp at hm; omega
    · intro hne t hm
      simp only [List.mem_append, List.mem_singleton] at hm
      rcases hm with hm | hm
      · exact bi.b2 hne t hm
      · obtain ⟨p, hp, _⟩ := ai.wc hne
        have := getElem?_lt hp
        simp at hm; omega
    · intro e t hwe hp
      have hwe' : s.win = .returned e t := hwe
      have hne : s.win ≠ .none := by rw [hwe']; simp
      obtain ⟨p, hp', _⟩ := ai.wc hne
      have hlt := getElem?_lt hp'
      have hp2 : s.callers[s.winK]? = some (.returned e) := by simpa [List.getElem?_append_left hlt] using hp
      exact bi.b3 e t hwe' hp2
  case shutLoad k0 hk0 =>
    rw [obsStep_none rfl, List.append_nil]
    exact bi.setActive ai.wc hk0 (Or.inl rfl)
  case casLose k0 hk0 hs =>
    rw [obsStep_none rfl, List.append_nil]
    exact bi.setActive ai.wc hk0 (Or.inr rfl)
  case casWin k0 hk0 hs =>
    rw [obsStep_none rfl, List.append_nil]
    have hwn := ai.inv.win_none hs
    refine ⟨?_, ?_, ?_⟩
    · intro k p t hp hnq hwk hm
      have hkk : k0 ≠ k := by
        rcases hwk with hwk | hwk
        · cases hwk
        · exact fun h => hwk h.symm
      have hp' : s.callers[k]? = some p := by simpa [List.getElem?_set_ne hkk] using hp
      exact bi.b1 k p t hp' hnq (Or.inl hwn) hm
    · intro _ t hm
      exact bi.b1 k0 .loaded t hk0 rfl (Or.inl hwn) hm
    · intro e t hwe; cases hwe
  case finish e0 hwin hc =>
    rw [obsStep_none rfl, List.append_nil]
    have hne : s.win ≠ .none := by rw [hwin]; simp
    refine ⟨?_, fun _ => bi.b2 hne, ?_⟩
    · intro k p t hp hnq hwk hm
      have hkk : k ≠ s.winK := by
        rcases hwk with hwk | hwk
        · cases hwk
        · exact hwk
      have hp1 : (s.callers.map (winnerRet e0))[k]? = some p := hp
      rw [List.getElem?_map, Option.map_eq_some_iff] at hp1
      obtain ⟨q, hq, hqp⟩ := hp1
      have := winnerRet_pend (e := e0) (ai.co k q hq (Or.inr hkk))
      rw [this] at hqp; subst hqp
      exact bi.b1 k q t hq hnq (Or.inr hkk) hm
    · intro e t hwe _
      have : WinPh.returned e0 s.now = WinPh.returned e t := hwe
      injection this with _ h2
      show s.now ≤ t
      omega
  case callerRet k0 e0 hk0 =>
    have mS : ∀ {k t}, TEv.mk (.S k) t ∈ tr ++ obsStep s (.callerRet k0 e0) → TEv.mk (.S k) t ∈ tr :=
      fun hm => (mem_S_snoc hm).resolve_right nofun
    refine ⟨?_, ?_, ?_⟩
    · intro k p t hp hnq hwk hm
      rcases set_cases hp with ⟨_, hp⟩ | ⟨_, rfl⟩
      · exact bi.b1 k p t hp hnq hwk (mS hm)
      · cases hnq
    · intro hne t hm
      exact bi.b2 hne t (mS hm)
    · intro e t hwe hp
      rcases set_cases hp with ⟨_, hp⟩ | ⟨_, h⟩
      · exact bi.b3 e t hwe hp
      · cases h
  case conn hca =>
    exact bi.frame rfl rfl rfl rfl (Or.inl rfl) (fun h => by simp [h, connAct] at hca)
  case spawn hw | closeLn hw | ctxDone hw _ =>
    exact bi.frame rfl rfl rfl rfl (Or.inr ⟨by rw [hw]; simp, by simp, by simp⟩) nofun
  case tick1 hw _ =>
    exact bi.frame rfl rfl rfl rfl (Or.inr ⟨by rw [hw]; simp, by simp only []; split <;> simp, by intro e t; simp only []; split <;> simp⟩)
      nofun
  case tickLoop t0 hw _ =>
    exact bi.frame rfl rfl rfl rfl
      (Or.inr ⟨by rw [hw]; simp, by simp only []; (repeat' split) <;> simp, by intro e t; simp only []; (repeat' split) <;> simp⟩)
      nofun
  all_goals exact bi.frame rfl rfl rfl rfl (Or.inl rfl) nofun

end Hertz.Shutdown
