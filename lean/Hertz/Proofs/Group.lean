import Hertz.Model.Chain
/-!
Chain assembly (C12): a successful registration call as the relation `Step` (`Step.of_apply`), induction over the engines
a history reaches (`history_ind`), and three invariants proved with them: `Short` (every selectable chain is below
`AbortIndex`), `Rel` (a group's `Handlers` is its lineage flattened; `history_rel`), `NF` (the 404 / 405 chains start
with the engine middleware; `history_notfound`).
-/
namespace Hertz.Chain

theorem combine_ok {a b c : List H} (h : combineHandlers a b = .ok c) :
    c = a ++ b ∧ (c.length : Int) < abortIndex := by
  unfold combineHandlers at h
  split at h
  · cases h
  · rename_i hlt
    injection h with h
    subst h
    exact ⟨rfl, by simp only [List.length_append]; omega⟩

/-- What a successful registration call does, call by call: the engine after it is the engine before it with the
fields named updated.  `Step.of_apply` obtains it from `Engine.apply`; the invariants below are proved by cases on it. -/
inductive Step (e : Engine) : Op → Engine → Prop
  | use0 {gh m a b} : e.groups[0]? = some gh → combineHandlers (gh ++ m) e.noRoute = .ok a →
      combineHandlers (gh ++ m) e.noMethod = .ok b →
      Step e (.use 0 m) { e with groups := e.groups.set 0 (gh ++ m), allNoRoute := a, allNoMethod := b }
  | use {g gh m} : g ≠ 0 → e.groups[g]? = some gh → Step e (.use g m) { e with groups := e.groups.set g (gh ++ m) }
  | rawUse {gh m} : e.groups[0]? = some gh → Step e (.rawUse m) { e with groups := e.groups.set 0 (gh ++ m) }
  | group {p gh m} : e.groups[p]? = some gh → ((gh ++ m).length : Int) < abortIndex →
      Step e (.group p m) { e with groups := e.groups ++ [gh ++ m] }
  | handle {g me k gh hs} : e.groups[g]? = some gh → ((gh ++ hs).length : Int) < abortIndex → gh ++ hs ≠ [] →
      Step e (.handle g me k hs) { e with routes := e.routes ++ [⟨me, g, k, gh ++ hs⟩] }
  | noRoute {hs} : ((e.groups.headD [] ++ hs).length : Int) < abortIndex →
      Step e (.noRoute hs) { e with noRoute := hs, allNoRoute := e.groups.headD [] ++ hs }
  | noMethod {hs} : ((e.groups.headD [] ++ hs).length : Int) < abortIndex →
      Step e (.noMethod hs) { e with noMethod := hs, allNoMethod := e.groups.headD [] ++ hs }

theorem Step.of_apply {e e' : Engine} {op : Op} (h : e.apply op = .ok e') : Step e op e' := by
  revert h
  -- the branches of `apply` that return an engine; the others return an error
  fun_cases Engine.apply e op with
  | case4 m gh a ha b hb hg => intro h; cases h; exact .use0 hg ha hb
  | case5 g m gh hg _ hg0 => intro h; injection h with h; subst h; exact .use hg0 hg
  | case7 m gh hg => intro h; cases h; exact .rawUse hg
  | case10 p m gh hg c hc =>
    obtain ⟨rfl, hlen⟩ := combine_ok hc
    intro h; cases h; exact .group hg hlen
  | case15 g me k hs gh hg c hc hne =>
    obtain ⟨rfl, hlen⟩ := combine_ok hc
    intro h; cases h; exact .handle hg hlen (by simpa using hne)
  | case17 hs c hc =>
    obtain ⟨rfl, hlen⟩ := combine_ok hc
    intro h; cases h; exact .noRoute hlen
  | case19 hs c hc =>
    obtain ⟨rfl, hlen⟩ := combine_ok hc
    intro h; cases h; exact .noMethod hlen
  | case1 | case2 | case3 | case6 | case8 | case9 | case11 | case12 | case13 | case14 | case16 | case18 => nofun

theorem applyAll_cons_ok {e e' : Engine} {pos : Nat} {op : Op} {t : List Op}
    (h : e.applyAll pos (op :: t) = .ok e') : ∃ e1, e.apply op = .ok e1 ∧ e1.applyAll (pos + 1) t = .ok e' := by
  simp only [Engine.applyAll] at h
  split at h
  · cases h
  · rename_i e1 h1
    exact ⟨e1, h1, h⟩

/-- Induction over the engines a registration history reaches: what holds of the fresh engine with the empty history and
survives every successful call holds of the engine with its history. -/
theorem history_ind {P : List Op → Engine → Prop} (h0 : P [] Engine.new)
    (hstep : ∀ ops e op e', P ops e → e.apply op = .ok e' → P (ops ++ [op]) e')
    (ops : List Op) (e : Engine) (h : Engine.new.applyAll 0 ops = .ok e) : P ops e := by
  have gen : ∀ (ops pre : List Op) (e0 : Engine) (pos : Nat), P pre e0 → e0.applyAll pos ops = .ok e → P (pre ++ ops) e := by
    intro ops
    induction ops with
    | nil =>
      intro pre e0 _ hp h
      simp only [Engine.applyAll] at h; injection h with h; subst h
      rw [List.append_nil]; exact hp
    | cons op t ih =>
      intro pre e0 pos hp h
      obtain ⟨e1, h1, h2⟩ := applyAll_cons_ok h
      rw [List.append_cons]
      exact ih (pre ++ [op]) e1 (pos + 1) (hstep pre e0 op e1 hp h1) h2
  exact gen ops [] Engine.new 0 h0 h

/-- every route's chain is non-empty and shorter than `AbortIndex`; the 404 and the 405 chain are shorter than it too -/
def Short (e : Engine) : Prop :=
  (∀ r ∈ e.routes, (r.chain.length : Int) < abortIndex ∧ r.chain ≠ []) ∧
  (e.allNoRoute.length : Int) < abortIndex ∧ (e.allNoMethod.length : Int) < abortIndex

theorem short_new : Short Engine.new := ⟨fun r hr => (by cases hr), by decide, by decide⟩

theorem apply_short {e e' : Engine} {op : Op} (hs : Short e) (h : e.apply op = .ok e') : Short e' := by
  obtain ⟨h1, h2, h3⟩ := hs
  cases Step.of_apply h with
  | use0 _ ha hb => exact ⟨h1, (combine_ok ha).2, (combine_ok hb).2⟩
  | use | rawUse | group => exact ⟨h1, h2, h3⟩
  | handle _ hlen hne =>
    refine ⟨fun r hr => ?_, h2, h3⟩
    rcases List.mem_append.1 hr with hr | hr
    · exact h1 r hr
    · cases List.mem_singleton.1 hr; exact ⟨hlen, hne⟩
  | noRoute hlen => exact ⟨h1, hlen, h3⟩
  | noMethod hlen => exact ⟨h1, h2, hlen⟩

theorem select_mem_short {e : Engine} (hs : Short e) (me g k : Nat) :
    ((e.select me g k false).1.length : Int) < abortIndex := by
  simp only [Engine.select, Bool.false_eq_true, if_false]
  split
  · rename_i r hr
    exact (hs.1 r (List.mem_of_find?_eq_some hr)).1
  · split
    · exact hs.2.2
    · exact hs.2.1

theorem history_short (ops : List Op) (e : Engine) (h : Engine.new.applyAll 0 ops = .ok e) : Short e :=
  history_ind (P := fun _ e => Short e) short_new (fun _ _ _ _ hs h => apply_short hs h) ops e h

/-- what a group with lineage `l` carries (the function `snapshotMws` applies to the group's lineage) -/
def flat (l : Lineage) : List H := l.flatMap (·.2)

theorem flat_appendLast (m : List H) : ∀ (l : Lineage), l ≠ [] → flat (appendLast m l) = flat l ++ m
  | [], h => absurd rfl h
  | [(a, x)], _ => by simp [appendLast, flat]
  | x :: y :: t, _ => by
    have ih := flat_appendLast m (y :: t) (by simp)
    simp only [appendLast, flat, List.flatMap_cons] at ih ⊢
    rw [ih]; simp

theorem appendLast_ne_nil (m : List H) : ∀ (l : Lineage), l ≠ [] → appendLast m l ≠ []
  | [], h => absurd rfl h
  | [(a, x)], _ => by simp [appendLast]
  | x :: y :: t, _ => by simp [appendLast]

/-- the engine's groups against the lineage table of the same history: each group's `Handlers` is its lineage flattened -/
def Rel (e : Engine) (ls : List Lineage) : Prop := e.groups = ls.map flat ∧ ∀ l ∈ ls, l ≠ []

theorem rel_new : Rel Engine.new shadowInit := by
  refine ⟨by simp [Engine.new, shadowInit, flat], ?_⟩
  intro l hl
  simp only [shadowInit, List.mem_singleton] at hl
  subst hl; simp

theorem rel_get {e : Engine} {ls : List Lineage} (hr : Rel e ls) {g : Nat} {gh : List H}
    (h : e.groups[g]? = some gh) : ∃ l, ls[g]? = some l ∧ flat l = gh ∧ l ≠ [] := by
  rw [hr.1, List.getElem?_map] at h
  cases hl : ls[g]? with
  | none => rw [hl] at h; cases h
  | some l =>
    rw [hl] at h
    simp only [Option.map_some, Option.some.injEq] at h
    exact ⟨l, rfl, h, hr.2 l (List.mem_of_getElem? hl)⟩

theorem rel_set {e : Engine} {ls : List Lineage} (hr : Rel e ls) {g : Nat} {gh m : List H} {l : Lineage}
    (hfl : flat l = gh) (hne : l ≠ []) :
    e.groups.set g (gh ++ m) = (ls.set g (appendLast m l)).map flat ∧
      ∀ l' ∈ ls.set g (appendLast m l), l' ≠ [] := by
  refine ⟨?_, ?_⟩
  · rw [hr.1, List.map_set, flat_appendLast m l hne, hfl]
  · intro l' hl'
    rcases List.mem_or_eq_of_mem_set hl' with h | h
    · exact hr.2 l' h
    · rw [h]; exact appendLast_ne_nil m l hne

theorem apply_rel {e e' : Engine} {ls : List Lineage} {op : Op} (hr : Rel e ls) (h : e.apply op = .ok e') :
    Rel e' (op.shadow ls) := by
  cases Step.of_apply h with
  | use0 hg | use _ hg | rawUse hg =>
    obtain ⟨l, hl, hfl, hne⟩ := rel_get hr hg
    simp only [Op.shadow, hl]
    exact rel_set hr hfl hne
  | group hg =>
    obtain ⟨l, hl, hfl, hne⟩ := rel_get hr hg
    simp only [Op.shadow, hl]
    refine ⟨?_, fun l' hl' => ?_⟩
    · simp only [List.map_append, List.map_cons, List.map_nil]
      rw [← hr.1]
      simp [flat, List.flatMap_append, ← hfl]
    · rcases List.mem_append.1 hl' with h' | h'
      · exact hr.2 l' h'
      · cases List.mem_singleton.1 h'; simp
  | handle | noRoute | noMethod => exact hr

/-- where a route of the engine came from -/
def FromHandle (ops : List Op) (r : Route) : Prop :=
  ∃ pre hs post, ops = pre ++ Op.handle r.grp r.method r.num hs :: post ∧
    r.chain = snapshotMws (shadowOf pre) r.grp ++ hs

theorem shadowOf_snoc (ops : List Op) (op : Op) : shadowOf (ops ++ [op]) = op.shadow (shadowOf ops) := by
  simp [shadowOf, List.foldl_append]

theorem history_rel (ops : List Op) (e : Engine) (h : Engine.new.applyAll 0 ops = .ok e) :
    Rel e (shadowOf ops) ∧ ∀ r ∈ e.routes, FromHandle ops r := by
  refine history_ind (P := fun ops e => Rel e (shadowOf ops) ∧ ∀ r ∈ e.routes, FromHandle ops r)
    ⟨rel_new, fun r hr => by cases hr⟩ (fun ops e op e' ⟨hr, hro⟩ h1 => ?_) ops e h
  refine ⟨shadowOf_snoc ops op ▸ apply_rel hr h1, ?_⟩
  -- a route that was there keeps its `Handle` call, with one more call after it
  have hold : ∀ r ∈ e.routes, FromHandle (ops ++ [op]) r := fun r hin => by
    obtain ⟨pre, hs, post, ht, hc⟩ := hro r hin
    exact ⟨pre, hs, post ++ [op], by rw [ht]; simp, hc⟩
  cases Step.of_apply h1 with
  | @handle g me k gh hs hg =>
    intro r hrm
    rcases List.mem_append.1 hrm with hin | hin
    · exact hold r hin
    · cases List.mem_singleton.1 hin
      obtain ⟨l, hl, hfl, _⟩ := rel_get hr hg
      refine ⟨ops, hs, [], rfl, ?_⟩
      simp only [snapshotMws, hl]
      rw [← hfl]; rfl
  | _ => exact hold

/-- the 404 and 405 chains are the engine middleware followed by the `NoRoute` / `NoMethod` handlers -/
def NF (e : Engine) : Prop :=
  e.groups ≠ [] ∧ e.allNoRoute = e.groups.headD [] ++ e.noRoute ∧ e.allNoMethod = e.groups.headD [] ++ e.noMethod

theorem apply_nf {e e' : Engine} {op : Op} (hn : NF e) (hraw : op.isRaw = false) (h : e.apply op = .ok e') :
    NF e' ∧ e'.groups.headD [] = e.groups.headD [] ++ engineMws [op] := by
  obtain ⟨groups, routes, nr, nm, anr, anm⟩ := e
  obtain ⟨hne, h404, h405⟩ := hn
  -- the engine's own group exists, so every `headD` below computes; `engineMws [op]` computes to what the call adds to
  -- the engine's own middleware: `m ++ []` for `Engine.Use`, else `[]`
  cases groups with
  | nil => exact absurd rfl hne
  | cons g0 t =>
  cases Step.of_apply h with
  | @use0 gh m a b hg ha hb =>
    cases hg
    exact ⟨⟨nofun, (combine_ok ha).1, (combine_ok hb).1⟩, congrArg (g0 ++ ·) (List.append_nil m).symm⟩
  | @use g gh m hg0 hg =>
    cases g with
    | zero => exact absurd rfl hg0
    | succ n => exact ⟨⟨nofun, h404, h405⟩, (List.append_nil _).symm⟩
  | rawUse => cases hraw
  | group => exact ⟨⟨nofun, h404, h405⟩, (List.append_nil _).symm⟩
  | handle => exact ⟨⟨hne, h404, h405⟩, (List.append_nil _).symm⟩
  | noRoute => exact ⟨⟨hne, rfl, h405⟩, (List.append_nil _).symm⟩
  | noMethod => exact ⟨⟨hne, h404, rfl⟩, (List.append_nil _).symm⟩

theorem nf_new : NF Engine.new := ⟨by simp [Engine.new], rfl, rfl⟩

theorem history_notfound (ops : List Op) (e : Engine) (hraw : ∀ op ∈ ops, op.isRaw = false)
    (h : Engine.new.applyAll 0 ops = .ok e) :
    e.allNoRoute = engineMws ops ++ e.noRoute ∧ e.allNoMethod = engineMws ops ++ e.noMethod ∧
      e.groups.headD [] = engineMws ops := by
  obtain ⟨⟨_, h404, h405⟩, hroot⟩ : NF e ∧ e.groups.headD [] = engineMws ops := by
    refine history_ind (P := fun ops e => (∀ op ∈ ops, op.isRaw = false) → NF e ∧ e.groups.headD [] = engineMws ops)
      (fun _ => ⟨nf_new, rfl⟩) (fun ops e op e' ih h1 hraw => ?_) ops e h hraw
    obtain ⟨hn, hh⟩ := ih fun o ho => hraw o (List.mem_append_left _ ho)
    obtain ⟨hn1, hh1⟩ := apply_nf hn (hraw op (by simp)) h1
    exact ⟨hn1, by rw [hh1, hh]; simp [engineMws]⟩
  exact ⟨by rw [h404, hroot], by rw [h405, hroot], hroot⟩

end Hertz.Chain
