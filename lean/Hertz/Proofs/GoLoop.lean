import Hertz.GoSem
import Hertz.Model.Bytesconv
/-!
Reasoning about programs of the target language `Hertz/GoSem.lean`, used by `Proofs/Tie*.lean`: 64-bit arithmetic that
does not wrap, checked indexing and slicing inside the bounds, sequencing, the append-only shape of `Go.rangeLoop`, and
the rule `forLoop_sim` for `Go.forLoop` (`mapLoop` is its instance for an in-place map).

In `forLoop_sim` the loop state `σ` is seen through an abstract state `α` (`rep : α → σ`; typically a list cursor
`(prefix, suffix)` with the Go counter `= prefix.length`), `F a` is what the loop followed by its continuation `K` is to
compute from `a`, and `μ` bounds the trips still to come.  One proves `Trip a`, what ONE trip from `rep a` does, for every
`a` satisfying the invariant `I`; the generated `cond`/`body`/`post` are not restated, they are found by unification (one
exception: `Tie.dec_loop` quotes the branch two bodies share).  Any fuel above `μ` suffices.  `Trip.brk` is for loops with
`break`; no translated function has one.
-/
open Hertz

namespace Hertz.Tie

instance instDecEqExcept {ε α : Type} [DecidableEq ε] [DecidableEq α] : DecidableEq (Except ε α)
  | .ok a, .ok b => if h : a = b then isTrue (by rw [h]) else isFalse (fun h' => h (Except.ok.inj h'))
  | .error a, .error b => if h : a = b then isTrue (by rw [h]) else isFalse (fun h' => h (Except.error.inj h'))
  | .ok _, .error _ => isFalse (fun h => by cases h)
  | .error _, .ok _ => isFalse (fun h => by cases h)

/-! ### `int` arithmetic that stays inside 64 bits -/

theorem wrap_id {x : Int} (h1 : -9223372036854775808 ≤ x) (h2 : x < 9223372036854775808) : Go.wrap x = x := by
  unfold Go.wrap; omega

theorem add_id {a b : Int} (h1 : -9223372036854775808 ≤ a + b) (h2 : a + b < 9223372036854775808) : Go.add a b = a + b :=
  wrap_id h1 h2

theorem sub_id {a b : Int} (h1 : -9223372036854775808 ≤ a - b) (h2 : a - b < 9223372036854775808) : Go.sub a b = a - b :=
  wrap_id h1 h2

theorem add_nat (m k : Nat) (h : m + k < 9223372036854775808) : Go.add (m : Int) (k : Int) = ((m + k : Nat) : Int) := by
  rw [add_id (by omega) (by omega)]; omega

/-- `i++` at the end of a prefix `p` that the loop extends by one byte -/
theorem add_one_snoc (p : Bytes) (c : UInt8) (h : (p.length : Int) + 1 < 9223372036854775808) :
    Go.add (p.length : Int) 1 = ((p ++ [c]).length : Int) := by
  rw [add_id (by omega) h]; simp

/-- the loop test `i < n` on natural numbers -/
theorem cond_lt {i n : Nat} (h : i < n) : (Except.ok (decide ((i : Int) < (n : Int))) : Go.G Bool) = .ok true :=
  congrArg _ (decide_eq_true (Int.ofNat_lt.mpr h))

theorem cond_ge {i n : Nat} (h : ¬ i < n) : (Except.ok (decide ((i : Int) < (n : Int))) : Go.G Bool) = .ok false :=
  congrArg _ (decide_eq_false fun h' => h (Int.ofNat_lt.mp h'))

/-! ### `b[i]`, `b[i] = v`, `b[:n]`, `b[n:]` inside the bounds -/

theorem sliceTo_ok (b : Bytes) (n : Nat) (h : n ≤ b.length) : Go.sliceTo b (n : Int) = .ok (b.take n) := by
  simp [Go.sliceTo, Go.slice, Go.len]; omega

theorem sliceFrom_ok (b : Bytes) (n : Nat) (h : n ≤ b.length) : Go.sliceFrom b (n : Int) = .ok (b.drop n) := by
  simp [Go.sliceFrom, Go.slice, Go.len]; omega

/-- At an `int` literal of the translated source: `(OfNat.ofNat n : Int)` is the literal when `n` is a numeral, and is the
cast of `n` by definition, so a statement written with it rewrites at the literal and is proved as for the cast.  Whatever
is used at a literal is stated this way (`guarded` of `TieP2.lean`, the tie of `isInterim`). -/
theorem sliceTo_lit (b : Bytes) (n : Nat) (h : n ≤ b.length) : Go.sliceTo b (OfNat.ofNat n : Int) = .ok (b.take n) :=
  sliceTo_ok b n h

theorem sliceFrom_lit (b : Bytes) (n : Nat) (h : n ≤ b.length) : Go.sliceFrom b (OfNat.ofNat n : Int) = .ok (b.drop n) :=
  sliceFrom_ok b n h

theorem idx_ok (b : Bytes) (m : Nat) (h : m < b.length) : Go.idx b (m : Int) = .ok b[m] := by
  simp [Go.idx, h]

theorem idx_append (p : Bytes) (c : UInt8) (t : Bytes) : Go.idx (p ++ c :: t) (p.length : Int) = .ok c := by
  simp [Go.idx]

theorem setIdx_append (p : Bytes) (c v : UInt8) (t : Bytes) :
    Go.setIdx (p ++ c :: t) (p.length : Int) v = .ok (p ++ v :: t) := by
  simp [Go.setIdx]

theorem idx_append1 (p : Bytes) (c d : UInt8) (t : Bytes) :
    Go.idx (p ++ c :: d :: t) ((p.length : Int) + 1) = .ok d := by
  have := idx_append (p ++ [c]) d t
  simpa using this

theorem setIdx_append1 (p : Bytes) (c d v : UInt8) (t : Bytes) :
    Go.setIdx (p ++ c :: d :: t) ((p.length : Int) + 1) v = .ok (p ++ c :: v :: t) := by
  have := setIdx_append (p ++ [c]) d v t
  simpa using this

/-- `t[n]` for a byte `n` inside the table never panics -/
theorem idx_table (t : Array UInt8) (n : UInt8) (h : n.toNat < t.size) :
    Go.idx t.toList (Go.intOfByte n) = .ok (tget t n) := by
  have h0 : ¬ ((n.toNat : Int) < 0) := by omega
  simp [Go.idx, Go.intOfByte, tget, h0, h]

/-- `upperhex[c>>4]` never panics -/
theorem hexHi (c : UInt8) : Go.idx Gen.upperhex.toList (Go.intOfByte (c >>> 4)) = .ok (upperhex (c >>> 4)) :=
  idx_table _ _ (by
    have h : (c >>> 4).toNat = c.toNat / 16 := by simp [UInt8.toNat_shiftRight, Nat.shiftRight_eq_div_pow]
    have := c.toNat_lt
    show _ < 16
    omega)

/-- `upperhex[c&15]` never panics -/
theorem hexLo (c : UInt8) : Go.idx Gen.upperhex.toList (Go.intOfByte (c &&& 15)) = .ok (upperhex (c &&& 15)) :=
  idx_table _ _ (by
    show (c &&& 15).toNat < 16
    rw [UInt8.toNat_and]
    exact Nat.lt_succ_of_le Nat.and_le_right)

/-! ### sequencing: `x, err := f(); …`, `return f()`, `a || f()` -/

theorem bind_ok {ε α β : Type} (a : α) (f : α → Except ε β) : Except.bind (Except.ok a : Except ε α) f = f a := rfl

theorem bind_ok_id {α : Type} (x : Go.G α) : Except.bind x (fun t => Except.ok t) = x := by cases x <;> rfl

theorem orElse_ok (a b : Bool) : (if a then (Except.ok true : Go.G Bool) else .ok b) = .ok (a || b) := by cases a <;> rfl

/-! ### `for ; cond; post { body }` -/

section loop
variable {σ ρ τ α : Type} (cond : σ → Go.G Bool) (body : σ → Go.G (Go.Ctl σ ρ)) (post : σ → Go.G σ)
  (K : Go.Ctl σ ρ → Go.G τ) (rep : α → σ) (I : α → Prop) (μ : α → Nat) (F : α → τ)

/-- what one trip through the loop does from `rep a`: the test fails, the body returns, the body breaks, or the trip
ends in a state `rep a'` from which the rest of the loop computes the same `F` in fewer trips -/
inductive Trip (a : α) : Prop
  | exit (hc : cond (rep a) = .ok false) (hK : K (.next (rep a)) = .ok (F a))
  | ret (r : ρ) (hc : cond (rep a) = .ok true) (hb : body (rep a) = .ok (.ret r)) (hK : K (.ret r) = .ok (F a))
  | brk (s : σ) (hc : cond (rep a) = .ok true) (hb : body (rep a) = .ok (.brk s)) (hK : K (.next s) = .ok (F a))
  | next (s : σ) (a' : α) (hc : cond (rep a) = .ok true) (hb : body (rep a) = .ok (.next s))
      (hp : post s = .ok (rep a')) (hI : I a') (hμ : μ a' < μ a) (hF : F a' = F a)

theorem forLoop_sim (h : ∀ a, I a → Trip cond body post K rep I μ F a) :
    ∀ (fuel : Nat) (a : α), I a → μ a < fuel → Except.bind (Go.forLoop cond body post fuel (rep a)) K = .ok (F a)
  | 0, _, _, hf => by omega
  | fuel + 1, a, ha, hf => by
    cases h a ha with
    | exit hc hK => simp only [Go.forLoop, hc]; exact hK
    | ret r hc hb hK => simp only [Go.forLoop, hc, hb]; exact hK
    | brk s hc hb hK => simp only [Go.forLoop, hc, hb]; exact hK
    | next s a' hc hb hp hI hμ hF =>
      simp only [Go.forLoop, hc, hb, hp]
      rw [forLoop_sim h fuel a' hI (by omega), hF]

end loop

/-- `for i := 0; i < len(b); i++ { b[i] = f(b[i]) }` -/
theorem mapLoop (f : UInt8 → UInt8) (cond : Bytes × Int → Go.G Bool) (body : Bytes × Int → Go.G (Go.Ctl (Bytes × Int) Bytes))
    (post : Bytes × Int → Go.G (Bytes × Int)) (K : Go.Ctl (Bytes × Int) Bytes → Go.G Bytes)
    (hc : ∀ b i, cond (b, i) = .ok (decide (i < Go.len b)))
    (hb : ∀ (p : Bytes) c t, body (p ++ c :: t, (p.length : Int)) = .ok (.next (p ++ f c :: t, (p.length : Int))))
    (hp : ∀ b i, post (b, i) = .ok (b, Go.add i 1)) (hK : ∀ b i, K (.next (b, i)) = .ok b)
    (b : Bytes) (fuel : Nat) (hl : b.length < 2^63) (hf : b.length < fuel) :
    Except.bind (Go.forLoop cond body post fuel (b, (0 : Int))) K = .ok (b.map f) := by
  refine forLoop_sim cond body post K (fun a : Bytes × Bytes => (a.1 ++ a.2, (a.1.length : Int)))
    (fun a => (a.1 ++ a.2).length = b.length) (fun a => a.2.length) (fun a => a.1 ++ a.2.map f) (fun ⟨p, t⟩ hn => ?_)
    fuel ([], b) rfl hf
  dsimp only at hn ⊢
  rcases t with _ | ⟨c, t⟩
  · exact .exit (by simp [hc, Go.len]) (by simp [hK])
  · exact .next _ (p ++ [f c], t) (by simp [hc, Go.len]; omega) (hb p c t)
      (by rw [hp, add_one_snoc p (f c) (by simp at hn; omega)]; simp) (by simpa using hn) (by simp) (by simp)

/-! ### `for _, c := range src` whose body only appends to the carried slice -/

theorem rangeLoop_append {ρ : Type} (body : UInt8 → Bytes → Go.G (Go.Ctl Bytes ρ)) (enc : UInt8 → Bytes)
    (h : ∀ c dst, body c dst = .ok (.next (dst ++ enc c))) :
    ∀ (src dst : Bytes), Go.rangeLoop body src dst = .ok (.next (dst ++ src.flatMap enc)) := by
  intro src
  induction src with
  | nil => intro dst; simp [Go.rangeLoop]
  | cons c t ih => intro dst; simp [Go.rangeLoop, h, ih]

end Hertz.Tie
