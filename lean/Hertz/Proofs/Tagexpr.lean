import Hertz.Model.TagexprTree
import Hertz.Spec.Tagexpr
/-!
Lemmas about the tree algebra of `internal/tagexpr/expr.go` (C20).

A pass (`subSort`) keeps the token sequence `flat t` (`PassOK`), so everything read off `flat` (`inorder`, `operands`, `allOps`)
is kept.  `LeftOK` (no node binds tighter than its left child) is what a pass that reports no change has established; `RightAll`
(right subtrees bind strictly tighter) holds of the chain `parseExprNode` builds and is kept by a pass; the two together are
`IsPrecTree`, and a tree with both is `specParse` of its tokens (`specParse_flat`).  A rotation faults only on a missing operand
that is not the last (`Tail`); every rotation lowers `mu`, which bounds the passes.
`subSort` stops at an operand; Go's `subSortPriority` also walks into the sub-expression a group holds as its right operand,
which the group's own `sortPriority` left at a fixed point of a pass (`PassOK.fix`).
-/
namespace Hertz.Tagexpr

theorem Op.prio_lt_operand (op : Op) : op.prio < operandPrio := by
  cases op <;> decide

theorem Op.prio_pos (op : Op) : 0 < op.prio := by
  cases op <;> decide

def seqOperands {α : Type} (first : Option α) (ts : List (Op × Option α)) : List (Option α) :=
  first :: ts.map (·.2)

namespace Tree
variable {α : Type}

/-- local heap condition on left children: no node binds tighter than its left child -/
def LeftOK : Tree α → Prop
  | node op l r => op.prio ≤ l.prio ∧ LeftOK l ∧ LeftOK r
  | _ => True

/-- every operator in a right subtree binds strictly tighter than the node above it -/
def RightAll : Tree α → Prop
  | node op l r => allOps (fun o => op.prio < o.prio) r ∧ RightAll l ∧ RightAll r
  | _ => True

theorem allOps_iff_flat (p : Op → Prop) : ∀ t : Tree α, allOps p t ↔ ∀ ox ∈ (flat t).2, p ox.1
  | nil => by simp [allOps, flat]
  | leaf _ => by simp [allOps, flat]
  | node op l r => by
    simp only [allOps, flat, List.mem_append, List.mem_cons, allOps_iff_flat p l, allOps_iff_flat p r]
    constructor
    · rintro ⟨h0, h1, h2⟩ ox (h | rfl | h)
      · exact h1 ox h
      · exact h0
      · exact h2 ox h
    · intro h
      exact ⟨h (op, _) (.inr (.inl rfl)), fun ox ho => h ox (.inl ho), fun ox ho => h ox (.inr (.inr ho))⟩

theorem allOps_of_flat_eq {p : Op → Prop} {t t' : Tree α} (h : flat t' = flat t) : allOps p t → allOps p t' := by
  rw [allOps_iff_flat, allOps_iff_flat, h]; exact id

theorem inorder_eq_flat : ∀ t : Tree α,
    inorder t = .inl (flat t).1 :: (flat t).2.flatMap fun ox => [.inr ox.1, .inl ox.2]
  | nil => rfl
  | leaf _ => rfl
  | node op l r => by simp [inorder, flat, inorder_eq_flat l, inorder_eq_flat r]

theorem inorder_of_flat_eq {t t' : Tree α} (h : flat t' = flat t) : inorder t' = inorder t := by
  rw [inorder_eq_flat, inorder_eq_flat, h]

theorem allOps_mono {p q : Op → Prop} (hpq : ∀ o, p o → q o) : ∀ {t : Tree α}, allOps p t → allOps q t
  | nil, _ => trivial
  | leaf _, _ => trivial
  | node _ _ _, h => ⟨hpq _ h.1, allOps_mono hpq h.2.1, allOps_mono hpq h.2.2⟩

/-- the operands in order, `none` for a missing one -/
def operands : Tree α → List (Option α)
  | nil => [none]
  | leaf a => [some a]
  | node _ l r => operands l ++ operands r

theorem operands_eq_flat : ∀ t : Tree α, operands t = seqOperands (flat t).1 (flat t).2
  | nil => rfl
  | leaf _ => rfl
  | node op l r => by
    simp only [operands, operands_eq_flat l, operands_eq_flat r, seqOperands, flat, List.map_append,
      List.map_cons, List.cons_append]

theorem operands_of_flat_eq {t t' : Tree α} (h : flat t' = flat t) : operands t' = operands t := by
  rw [operands_eq_flat, operands_eq_flat, h]

/-- no operand is missing, except possibly the last one (`1 + 2 *`) -/
def Tail (t : Tree α) : Prop := none ∉ (operands t).dropLast

theorem operands_ne_nil : ∀ t : Tree α, operands t ≠ []
  | nil => nofun
  | leaf _ => nofun
  | node _ l r => by simp [operands, operands_ne_nil r]

theorem Tail.node {op : Op} {l r : Tree α} (h : Tail (node op l r)) : none ∉ operands l ∧ Tail r := by
  unfold Tail at h
  rw [operands, List.dropLast_append_of_ne_nil (operands_ne_nil r), List.mem_append, not_or] at h
  exact h

theorem tail_of_full {t : Tree α} (h : none ∉ operands t) : Tail t :=
  fun hm => h ((List.dropLast_sublist _).mem hm)

theorem prio_lt_of_lt_op {t : Tree α} {op : Op} (h : t.prio < op.prio) :
    ∃ lo ll lr, t = node lo ll lr := by
  cases t with
  | node lo ll lr => exact ⟨lo, ll, lr, rfl⟩
  | _ => exact absurd h (Nat.lt_asymm op.prio_lt_operand)

/-- What one pass `subSort t = .ok (t', c)` does; `c` = it rotated somewhere. -/
structure PassOK (t t' : Tree α) (c : Bool) : Prop where
  flat_eq : flat t' = flat t
  size_eq : size t' = size t
  mu_le : mu t' ≤ mu t
  mu_lt : c = true → mu t' < mu t
  fix : c = false → t' = t ∧ LeftOK t
  right : RightAll t → RightAll t'

theorem rotate_ok {op : Op} {l r t : Tree α} (hp : l.prio < op.prio) (h : rotate op l r = .ok t) :
    ∃ lo ll lr, l = node lo ll lr ∧ lr.isNil = false ∧ t = node lo ll (node op lr r) := by
  obtain ⟨lo, ll, lr, rfl⟩ := prio_lt_of_lt_op hp
  unfold rotate at h
  cases hn : lr.isNil with
  | true => simp [hn] at h
  | false =>
    simp only [hn, Bool.false_eq_true, if_false, Except.ok.injEq] at h
    exact ⟨lo, ll, lr, rfl, hn, h.symm⟩

theorem subSort_pass (t t' : Tree α) (c : Bool) (h : subSort t = .ok (t', c)) : PassOK t t' c := by
  -- the clauses of `subSort`: 1–2 an operand, 3–5 an error (left, right, rotation), 6 a rotation at this node, 7 none here
  fun_induction subSort t generalizing t' c with
  | case1 | case2 =>
    cases h
    exact ⟨rfl, rfl, Nat.le_refl _, nofun, fun _ => ⟨rfl, trivial⟩, id⟩
  | case3 | case4 | case5 => cases h
  | case6 op l r l' cl hl r' cr hr hp t hrot ihl ihr =>
    cases h
    have pl := ihl _ _ hl
    have pr := ihr _ _ hr
    obtain ⟨lo, ll, lr, rfl, hnn, rfl⟩ := rotate_ok hp hrot
    have hsr := pr.size_eq
    have hmr := pr.mu_le
    have hsz := pl.size_eq
    have hmu := pl.mu_le
    have hfl := pl.flat_eq
    simp only [size, mu, flat] at hsz hmu hfl
    -- the rotation moves `lr` and `op` from the left of `lo` to its right
    have hlt : mu (node lo ll (node op lr r')) < mu (node op l r) := by simp only [mu]; omega
    refine ⟨?_, ?_, Nat.le_of_lt hlt, fun _ => hlt, nofun, ?_⟩
    · simp only [flat, ← hfl, pr.flat_eq, List.append_assoc, List.cons_append]
    · simp only [size]; omega
    · intro hR
      have hRl := pl.right hR.2.1
      have h1 : allOps (fun o => op.prio < o.prio) r' := allOps_of_flat_eq pr.flat_eq hR.1
      have hlo : lo.prio < op.prio := hp
      exact ⟨⟨hlo, hRl.1, allOps_mono (fun o ho => Nat.lt_trans hlo ho) h1⟩, hRl.2.1, h1, hRl.2.2, pr.right hR.2.2⟩
  | case7 op l r l' cl hl r' cr hr hp ihl ihr =>
    cases h
    have pl := ihl _ _ hl
    have pr := ihr _ _ hr
    have hsl := Nat.le_of_eq pl.size_eq
    refine ⟨?_, ?_, ?_, ?_, ?_, ?_⟩
    · simp only [flat, pl.flat_eq, pr.flat_eq]
    · simp only [size, pl.size_eq, pr.size_eq]
    · exact Nat.add_le_add (Nat.add_le_add pl.mu_le pr.mu_le) hsl
    · intro hc
      rcases Bool.or_eq_true _ _ |>.mp hc with h1 | h1
      · exact Nat.add_lt_add_of_lt_of_le (Nat.add_lt_add_of_lt_of_le (pl.mu_lt h1) pr.mu_le) hsl
      · exact Nat.add_lt_add_of_lt_of_le (Nat.add_lt_add_of_le_of_lt pl.mu_le (pr.mu_lt h1)) hsl
    · intro hc
      obtain ⟨hcl, hcr⟩ := Bool.or_eq_false_iff.mp hc
      obtain ⟨e1, f1⟩ := pl.fix hcl
      obtain ⟨e2, f2⟩ := pr.fix hcr
      subst e1; subst e2
      exact ⟨rfl, Nat.le_of_not_lt hp, f1, f2⟩
    · intro hR
      exact ⟨allOps_of_flat_eq pr.flat_eq hR.1, pl.right hR.2.1, pr.right hR.2.2⟩

/-- A pass never panics when no operand is missing, except possibly the last one. -/
theorem subSort_total (t : Tree α) (h : Tail t) : ∃ r, subSort t = .ok r := by
  fun_induction subSort t with
  | case1 | case2 | case6 | case7 => exact ⟨_, rfl⟩
  | case3 op l r e hl ihl =>
    obtain ⟨_, h'⟩ := ihl (tail_of_full h.node.1)
    cases hl.symm.trans h'
  | case4 op l r l' cl hl e hr ihl ihr =>
    obtain ⟨_, h'⟩ := ihr h.node.2
    cases hr.symm.trans h'
  | case5 op l r l' cl hl r' cr hr hp e hrot =>
    -- the left child that is rotated up has its right operand: it has the operands of `l`, none of which is missing
    obtain ⟨lo, ll, lr, rfl⟩ := prio_lt_of_lt_op hp
    have hN : none ∉ operands (Tree.node lo ll lr) := operands_of_flat_eq (subSort_pass l _ cl hl).flat_eq ▸ h.node.1
    cases lr with
    | nil => exact absurd (by simp [operands]) hN
    | leaf _ => simp [rotate, isNil] at hrot
    | node _ _ _ => simp [rotate, isNil] at hrot

/-- The outcome of the `for subSortPriority(...) {}` loop. -/
structure SortOK (t t' : Tree α) : Prop where
  flat_eq : flat t' = flat t
  left : LeftOK t'
  right : RightAll t → RightAll t'

/-- Termination for *every* tree: the fuel `mu t + 1` is never exhausted. -/
theorem sortLoop_fuel (n : Nat) (t : Tree α) (h : mu t < n) : sortLoop n t ≠ .ok none := by
  fun_induction sortLoop n t with
  | case1 => exact absurd h (Nat.not_lt_zero _)
  | case2 | case4 => nofun
  | case3 n t t1 hs ih =>
    have := (subSort_pass t t1 true hs).mu_lt rfl
    exact ih (by omega)

/-- Whatever the input tree, a result of the loop has the input's tokens and no node binding
tighter than its left child. -/
theorem sortLoop_sound (n : Nat) (t t' : Tree α) (h : sortLoop n t = .ok (some t')) : SortOK t t' := by
  fun_induction sortLoop n t with
  | case1 | case2 => cases h
  | case3 n t t1 hs ih =>
    have p := subSort_pass t t1 true hs
    have q := ih h
    exact ⟨by rw [q.flat_eq, p.flat_eq], q.left, fun hR => q.right (p.right hR)⟩
  | case4 n t t1 c hs hc =>
    cases h
    obtain ⟨rfl, f⟩ := (subSort_pass _ _ _ hs).fix (Bool.eq_false_iff.mpr hc)
    exact ⟨rfl, f, id⟩

/-- … and there is a result when no operand is missing, except possibly the last one -/
theorem sortLoop_ok (n : Nat) (t : Tree α) (h : mu t < n) (hS : Tail t) : ∃ t', sortLoop n t = .ok (some t') := by
  fun_induction sortLoop n t with
  | case1 => exact absurd h (Nat.not_lt_zero _)
  | case2 n t e hs =>
    obtain ⟨r, hr⟩ := subSort_total t hS
    cases hs.symm.trans hr
  | case3 n t t1 hs ih =>
    have p := subSort_pass t t1 true hs
    have := p.mu_lt rfl
    exact ih (by omega) (by unfold Tail at hS ⊢; rwa [operands_of_flat_eq p.flat_eq])
  | case4 n t t1 c hs hc => exact ⟨t1, rfl⟩

theorem chainAux_right : ∀ (rest : List (Op × α)) (acc : Tree α), RightAll acc → RightAll (chainAux acc rest)
  | [], _, h => h
  | (o, x) :: t, acc, h => chainAux_right t (node o acc (leaf x)) ⟨trivial, h, trivial⟩

def toks (rest : List (Op × α)) : List (Op × Option α) := rest.map (fun ox => (ox.1, some ox.2))

theorem chainAux_flat : ∀ (rest : List (Op × α)) (acc : Tree α),
    flat (chainAux acc rest) = ((flat acc).1, (flat acc).2 ++ toks rest)
  | [], acc => by simp [chainAux, toks]
  | (o, x) :: t, acc => by
    rw [chainAux, chainAux_flat t]
    simp [flat, toks]

theorem chain_flat (a : α) (rest : List (Op × α)) :
    flat (chain a rest) = (some a, toks rest) := by
  simp [chain, chainAux_flat, flat]

/-! ### a tree that satisfies the heap conditions is what the precedence parser builds -/

theorem foldl_attach_right (p : Op) (l : Tree α) :
    ∀ (rs : List (Op × Option α)) (t : Tree α), (∀ ox ∈ rs, p.prio < ox.1.prio) →
      rs.foldl (fun t ox => attach t ox.1 ox.2) (node p l t)
        = node p l (rs.foldl (fun t ox => attach t ox.1 ox.2) t)
  | [], _, _ => rfl
  | (o, x) :: rs, t, h => by
    have ho : p.prio < o.prio := h (o, x) (by simp)
    simp only [List.foldl_cons]
    rw [show attach (node p l t) o x = node p l (attach t o x) by simp [attach, ho]]
    exact foldl_attach_right p l rs _ (fun ox hox => h ox (by simp [hox]))

theorem attach_of_le {t : Tree α} {o : Op} (x : Option α) (h : o.prio ≤ t.prio) :
    attach t o x = node o t (ofOperand x) := by
  fun_cases attach t o x with
  | case1 p l r hp => exact absurd hp (Nat.not_lt.mpr h)
  | case2 | case3 => rfl

theorem specParse_flat : ∀ (t : Tree α), LeftOK t → RightAll t → specParse (flat t).1 (flat t).2 = t
  | nil, _, _ => rfl
  | leaf _, _, _ => rfl
  | node op l r, hL, hR => by
    have il := specParse_flat l hL.2.1 hR.2.1
    have ir := specParse_flat r hL.2.2 hR.2.2
    unfold specParse at il ir ⊢
    simp only [flat, List.foldl_append, List.foldl_cons]
    rw [il, attach_of_le _ hL.1, foldl_attach_right op l _ _ ((allOps_iff_flat _ r).mp hR.1), ir]

/-! ### the precedence parser builds a precedence tree over the given tokens -/

theorem flat_ofOperand (x : Option α) : flat (ofOperand x : Tree α) = (x, []) := by
  cases x <;> rfl

theorem attach_flat (o : Op) (x : Option α) (t : Tree α) :
    flat (attach t o x) = ((flat t).1, (flat t).2 ++ [(o, x)]) := by
  fun_induction attach t o x with
  | case1 p l r _ ih => simp only [flat, ih, List.append_assoc, List.cons_append]
  | case2 | case3 => simp only [flat, flat_ofOperand]

theorem foldl_attach_flat : ∀ (ts : List (Op × Option α)) (t : Tree α),
    flat (ts.foldl (fun t ox => attach t ox.1 ox.2) t) = ((flat t).1, (flat t).2 ++ ts)
  | [], t => by simp
  | (o, x) :: ts, t => by
    simp only [List.foldl_cons]
    rw [foldl_attach_flat ts, attach_flat]
    simp

theorem specParse_tokens (a : Option α) (ts : List (Op × Option α)) :
    flat (specParse a ts) = (a, ts) := by
  unfold specParse
  rw [foldl_attach_flat, flat_ofOperand]
  simp

theorem operands_specParse (first : Option α) (ts : List (Op × Option α)) :
    operands (specParse first ts) = seqOperands first ts := by
  rw [operands_eq_flat, specParse_tokens]

theorem allOps_ofOperand (p : Op → Prop) (x : Option α) : allOps p (ofOperand x : Tree α) := by
  cases x <;> trivial

theorem isPrec_ofOperand (x : Option α) : IsPrecTree (ofOperand x : Tree α) := by
  cases x <;> trivial

theorem allOps_attach {p : Op → Prop} {o : Op} (x : Option α) (ho : p o) {t : Tree α} (h : allOps p t) :
    allOps p (attach t o x) := by
  fun_induction attach t o x with
  | case1 q l r _ ih => exact ⟨h.1, h.2.1, ih h.2.2⟩
  | case2 | case3 => exact ⟨ho, h, allOps_ofOperand p x⟩

theorem attach_prec (o : Op) (x : Option α) {t : Tree α} (h : IsPrecTree t) : IsPrecTree (attach t o x) := by
  fun_induction attach t o x with
  | case1 q l r hq ih => exact ⟨h.1, allOps_attach x hq h.2.1, h.2.2.1, ih h.2.2.2⟩
  | case2 q l r hq =>
    have hle : o.prio ≤ q.prio := Nat.le_of_not_lt hq
    exact ⟨⟨hle, allOps_mono (fun _ ho => Nat.le_trans hle ho) h.1,
      allOps_mono (fun _ ho => Nat.le_trans hle (Nat.le_of_lt ho)) h.2.1⟩, allOps_ofOperand _ x, h, isPrec_ofOperand x⟩
  | case3 t ht =>
    refine ⟨?_, allOps_ofOperand _ x, h, isPrec_ofOperand x⟩
    cases t with
    | node p l r => exact absurd rfl (ht p l r)
    | _ => trivial

theorem foldl_attach_prec : ∀ (ts : List (Op × Option α)) (t : Tree α), IsPrecTree t →
    IsPrecTree (ts.foldl (fun t ox => attach t ox.1 ox.2) t)
  | [], _, h => h
  | (o, x) :: ts, _, h => foldl_attach_prec ts _ (attach_prec o x h)

theorem specParse_prec (a : Option α) (ts : List (Op × Option α)) : IsPrecTree (specParse a ts) :=
  foldl_attach_prec ts _ (isPrec_ofOperand a)

/-! ### local heap conditions ⇔ the declarative `IsPrecTree` -/

theorem prio_of_allOps {k : Nat} (hk : k ≤ operandPrio) : ∀ {t : Tree α}, allOps (fun o => k ≤ o.prio) t → k ≤ t.prio
  | nil, _ => hk
  | leaf _, _ => hk
  | node _ _ _, h => h.1

theorem IsPrecTree.leftOK : ∀ {t : Tree α}, IsPrecTree t → LeftOK t
  | nil, _ => trivial
  | leaf _, _ => trivial
  | node op _ _, h => ⟨prio_of_allOps (Nat.le_of_lt op.prio_lt_operand) h.1, h.2.2.1.leftOK, h.2.2.2.leftOK⟩

theorem IsPrecTree.rightAll : ∀ {t : Tree α}, IsPrecTree t → RightAll t
  | nil, _ => trivial
  | leaf _, _ => trivial
  | node _ _ _, h => ⟨h.2.1, h.2.2.1.rightAll, h.2.2.2.rightAll⟩

theorem heap_all : ∀ {t : Tree α} {k : Nat}, LeftOK t → RightAll t → k ≤ t.prio → allOps (fun o => k ≤ o.prio) t
  | nil, _, _, _, _ => trivial
  | leaf _, _, _, _, _ => trivial
  | node _ _ _, _, hL, hR, hk =>
    ⟨hk, heap_all hL.2.1 hR.2.1 (Nat.le_trans hk hL.1),
      allOps_mono (fun _ ho => Nat.le_trans hk (Nat.le_of_lt ho)) hR.1⟩

theorem isPrec_of_heap : ∀ {t : Tree α}, LeftOK t → RightAll t → IsPrecTree t
  | nil, _, _ => trivial
  | leaf _, _, _ => trivial
  | node _ _ _, hL, hR =>
    ⟨heap_all hL.2.1 hR.2.1 hL.1, hR.1, isPrec_of_heap hL.2.1 hR.2.1, isPrec_of_heap hL.2.2 hR.2.2⟩

/-- On a tree whose right subtrees bind strictly tighter than the node above them and which lacks no operand except
possibly the last, `sortPriority` returns the precedence tree of the tree's tokens. -/
theorem sortPriority_eq_specParse (t : Tree α) (hS : Tail t) (hR : RightAll t) :
    sortPriority t = .ok (some (specParse (flat t).1 (flat t).2)) := by
  obtain ⟨t', h⟩ := sortLoop_ok _ t (Nat.lt_succ_self _) hS
  have q := sortLoop_sound _ t t' h
  rw [sortPriority, h, ← q.flat_eq, specParse_flat t' q.left (q.right hR)]

theorem sort_chain (a : α) (rest : List (Op × α)) :
    sortPriority (chain a rest) = .ok (some (specParse (some a) (toks rest))) := by
  rw [sortPriority_eq_specParse (chain a rest) (tail_of_full ?_) (chainAux_right rest (leaf a) trivial), chain_flat]
  rw [operands_eq_flat, chain_flat]; simp [seqOperands, toks]

/-- the same with a trailing operator (`1 + 2 *`), whose right operand stays nil -/
theorem sort_chain_trailing (a : α) (rest : List (Op × α)) (o : Op) :
    sortPriority (node o (chain a rest) nil) = .ok (some (specParse (some a) (toks rest ++ [(o, none)]))) := by
  rw [sortPriority_eq_specParse (node o (chain a rest) nil) ?_ ⟨trivial, chainAux_right rest (leaf a) trivial, trivial⟩]
  · simp only [flat, chain_flat]
  · unfold Tail
    rw [operands, operands, List.dropLast_concat, operands_eq_flat, chain_flat]; simp [seqOperands, toks]

def fold {β : Type} (sem : Op → β → β → β) (leafV : α → β) (nilV : β) : Tree α → β
  | nil => nilV
  | leaf a => leafV a
  | node op l r => sem op (fold sem leafV nilV l) (fold sem leafV nilV r)

end Tree
end Hertz.Tagexpr
