import Hertz.Model.Uri
import Hertz.Proofs.PathRef
import Hertz.Proofs.Args
import Hertz.Proofs.Cut
/-!
Lemmas for C17 `uri_roundtrip`: `URI.Parse(nil, ·)` applied to `FullURI()` of a URI assembled through the setters
cuts the text exactly where it was assembled (`parse_fullURI`), for every scheme/host accepted by `wfUri`, every path,
every list of query arguments and every fragment free of control bytes (a control byte in the fragment is finding F15).
`state_parse_fullURI` is the general form: any record whose scheme and host are lower-case and whose path is a normalised
path (`URIInv`); the host may be empty.  `u.fullURI qa` is the flag-less form of `FullURI()` (`Model/Uri.lean`);
`Proofs/UriOps.lean` reduces the form with the flag to it.  The path facts come from `Proofs/PathRef.lean` (C07).
-/
namespace Hertz.Uri
open Hertz Hertz.Gen.Str

/-! ### scheme scanner -/

/-- the bytes `getScheme` runs over: ALPHA / DIGIT / `+ - .` -/
def schemeChar (c : UInt8) : Bool := isAlpha c || (48 ≤ c && c ≤ 57) || c == 43 || c == 45 || c == 46

/-- the scanner runs over scheme bytes up to the `:`; only at the first position (`i = 0`) it insists on a letter -/
theorem getSchemeAux_assembled (rest : Bytes) : ∀ (sch : Bytes) (i : Nat) (acc : Bytes), sch.all schemeChar = true →
    (i = 0 → (sch.head?.map isAlpha).getD false = true) →
    getSchemeAux i acc (sch ++ 58 :: rest) = some (acc ++ sch, rest)
  | [], i, acc, _, h0 => by
    have : i ≠ 0 := fun e => nomatch h0 e
    simp [getSchemeAux, isAlpha, this]
  | c :: t, i, acc, h, h0 => by
    simp only [List.all_cons, Bool.and_eq_true] at h
    have ih := getSchemeAux_assembled rest t (i + 1) (acc ++ [c]) h.2 (fun e => nomatch e)
    simp only [List.cons_append, getSchemeAux]
    cases ha : isAlpha c with
    | true => simp [ih]
    | false =>
      have hi0 : i ≠ 0 := fun e => by
        have := h0 e
        rw [List.head?_cons, Option.map_some, Option.getD_some, ha] at this
        cases this
      have h1 := h.1
      simp only [schemeChar, ha, Bool.false_or] at h1
      simp [h1, hi0, ih]

theorem getScheme_assembled (sch rest : Bytes) (h : sch.all schemeChar = true)
    (hh : (sch.head?.map isAlpha).getD false = true) : getScheme (sch ++ 58 :: rest) = some (sch, rest) :=
  getSchemeAux_assembled rest sch 0 [] h (fun _ => hh)

/-! ### the rest of `parse`: authority, then the cuts at `#` and `?` -/

/-- `?` and the query string, when there is one -/
def qText : Option Bytes → Bytes
  | none => []
  | some s => 63 :: s

/-- the text after the authority, as `RequestURI` + fragment write it: quoted path `qp`, query, fragment -/
def tailOf (qp : Bytes) (q : Option Bytes) (hash : Bytes) : Bytes :=
  qp ++ (qText q ++ (if hash.isEmpty then [] else 35 :: hash))

/-- what `parse` must make of `tailOf qp q hash` -/
def tailParsed (base : URI) (qp : Bytes) (q : Option Bytes) (hash : Bytes) : URI :=
  { base with pathOriginal := qp, path := normalizePath qp, query := q.getD [], hash := hash }

theorem splitHostURI_assembled (sch host tl : Bytes) (h : sch.all schemeChar = true)
    (hh : (sch.head?.map isAlpha).getD false = true) (hhost : ∀ x ∈ host, x ≠ 47) (htl : tl.head? = some 47) :
    splitHostURI [] (sch ++ strColonSlashSlash ++ host ++ tl) = (sch, host, tl) := by
  unfold splitHostURI
  have e : sch ++ strColonSlashSlash ++ host ++ tl = sch ++ 58 :: (47 :: 47 :: (host ++ tl)) := by
    simp [strColonSlashSlash]
  rw [e, getScheme_assembled sch _ h hh]
  cases tl with
  | nil => simp at htl
  | cons c t =>
    simp only [List.head?_cons, Option.some.injEq] at htl
    subst htl
    simp [strSlashSlash, indexOf_append 47 host t hhost]

/-- the last part of `parse`: cutting path, query and fragment -/
def parseTail (base : URI) (uri : Bytes) : URI :=
  let q := indexOf 63 uri
  let f := indexOf 35 uri
  let q := match q, f with
    | some qi, some fi => if qi > fi then none else some qi
    | q, _ => q
  match q, f with
  | none, none => { base with pathOriginal := uri, path := normalizePath uri }
  | some qi, none =>
    { base with pathOriginal := uri.take qi, path := normalizePath (uri.take qi), query := uri.drop (qi + 1) }
  | some qi, some fi =>
    { base with pathOriginal := uri.take qi, path := normalizePath (uri.take qi),
                query := (uri.take fi).drop (qi + 1), hash := uri.drop (fi + 1) }
  | none, some fi =>
    { base with pathOriginal := uri.take fi, path := normalizePath (uri.take fi), hash := uri.drop (fi + 1) }

/-- the tail of `parse` in closed form: cut at the first `#`, then cut what precedes it at the first `?` -/
def cutTail (base : URI) (uri : Bytes) : URI :=
  let ph := cut1 35 uri
  let pq := cut1 63 ph.1
  { base with pathOriginal := pq.1, path := normalizePath pq.1, query := pq.2.getD base.query, hash := ph.2.getD base.hash }

theorem parseTail_eq_cutTail (base : URI) (uri : Bytes) : parseTail base uri = cutTail base uri := by
  unfold parseTail cutTail
  simp only [cut1_eq_indexOf 35 uri]
  cases hf : indexOf 35 uri with
  | none =>
    simp only [cut1_eq_indexOf 63 uri]
    cases indexOf 63 uri <;> rfl
  | some fi =>
    have hfi := indexOf_get 35 uri fi hf
    simp only [cut1_eq_indexOf 63 (uri.take fi), indexOf_take]
    cases hq : indexOf 63 uri with
    | none => rfl
    | some qi =>
      have hne : qi ≠ fi := fun e => by
        have := indexOf_get 63 uri qi hq
        rw [e, hfi] at this
        cases this
      -- a `?` after the `#` belongs to the fragment
      by_cases h : qi < fi
      · have h' : ¬ qi > fi := by omega
        simp only [h, h', if_true, if_false, List.take_take, Nat.min_eq_left (Nat.le_of_lt h), Option.getD_some]
      · have h' : qi > fi := by omega
        simp only [h, h', if_true, if_false, Option.getD_none]
        rfl

theorem cutTail_tailOf (base : URI) (qp : Bytes) (q : Option Bytes) (hash : Bytes)
    (hbq : base.query = []) (hbh : base.hash = [])
    (h63 : ∀ x ∈ qp, x ≠ 63) (h35 : ∀ x ∈ qp, x ≠ 35) (hq : ∀ s, q = some s → ∀ x ∈ s, x ≠ 35) :
    cutTail base (tailOf qp q hash) = tailParsed base qp q hash := by
  have hqt : ∀ x ∈ qp ++ qText q, x ≠ 35 := by
    rw [List.forall_mem_append]
    refine ⟨h35, ?_⟩
    cases q with
    | none => exact fun x hx => nomatch hx
    | some s => exact List.forall_mem_cons.2 ⟨by decide, hq s rfl⟩
  have e1 : cut1 35 (tailOf qp q hash) = (qp ++ qText q, if hash.isEmpty then none else some hash) := by
    unfold tailOf
    rw [← List.append_assoc]
    cases hash with
    | nil => exact (congrArg (cut1 35) (List.append_nil _)).trans (cut1_none 35 _ hqt)
    | cons c t => exact cut1_some 35 _ _ hqt
  have e2 : cut1 63 (qp ++ qText q) = (qp, q) := by
    cases q with
    | none => exact (congrArg (cut1 63) (List.append_nil _)).trans (cut1_none 63 _ h63)
    | some s => exact cut1_some 63 _ _ h63
  unfold cutTail tailParsed
  simp only [e1, e2, hbq, hbh]
  cases hash <;> rfl

/-- `parse` with its tuple patterns as projections and its last part as `parseTail`: the form the proofs rewrite with -/
theorem parse_eq (host uri : Bytes) : parse host uri =
    if hasCTL uri then {} else
      let shu : Bytes × Bytes × Bytes :=
        if host.isEmpty || containsSub strColonSlashSlash uri then
          let (s, h, u) := splitHostURI host uri
          (s.map toLower, h, u)
        else ([], host, uri)
      let uph : Bytes × Bytes × Bytes :=
        match indexOf 64 shu.2.1 with
        | some n =>
          let auth := shu.2.1.take n
          (match indexOf 58 auth with
           | some m => (auth.take m, auth.drop (m + 1), shu.2.1.drop (n + 1))
           | none => (auth, [], shu.2.1.drop (n + 1)))
        | none => ([], [], shu.2.1)
      parseTail { scheme := shu.1, host := uph.2.2.map toLower, username := uph.1, password := uph.2.1 } shu.2.2 := by
  rfl

theorem tailOf_head (qp : Bytes) (q : Option Bytes) (hash : Bytes) (h : qp.head? = some 47) :
    (tailOf qp q hash).head? = some 47 := by
  cases qp with
  | nil => simp at h
  | cons c t => simpa [tailOf] using h

/-- the host bytes the round trip is claimed for: none of `/ ? #` (each ends the host on re-parsing), no `@` (what precedes it
would be cut off as user-info), no control byte (`parse` rejects the whole text) -/
def hostChar (c : UInt8) : Bool := c != 47 && c != 63 && c != 35 && c != 64 && c ≥ 32 && c != 127

/-- `Parse(nil, ·)` of an assembled absolute URI cuts it at the places where it was assembled. -/
theorem parse_assembled (sch host qp : Bytes) (q : Option Bytes) (hash : Bytes)
    (hs : sch.all schemeChar = true) (hsh : (sch.head?.map isAlpha).getD false = true)
    (hhost : host.all hostChar = true) (hqp0 : qp.head? = some 47)
    (h63 : ∀ x ∈ qp, x ≠ 63) (h35 : ∀ x ∈ qp, x ≠ 35) (hq : ∀ s, q = some s → ∀ x ∈ s, x ≠ 35)
    (hctl : hasCTL (sch ++ strColonSlashSlash ++ host ++ tailOf qp q hash) = false) :
    parse [] (sch ++ strColonSlashSlash ++ host ++ tailOf qp q hash) =
      tailParsed { scheme := sch.map toLower, host := host.map toLower } qp q hash := by
  have hh : ∀ x ∈ host, hostChar x = true := List.all_eq_true.1 hhost
  have h47 : ∀ x ∈ host, x ≠ 47 := by
    intro x hx; have := hh x hx; simp [hostChar] at this; exact this.1.1.1.1.1
  have h64 : ∀ x ∈ host, x ≠ 64 := by
    intro x hx; have := hh x hx; simp [hostChar] at this; exact this.1.1.2
  rw [parse_eq, hctl]
  simp only [Bool.false_eq_true, if_false, List.isEmpty_nil, Bool.true_or, if_true]
  rw [splitHostURI_assembled sch host _ hs hsh h47 (tailOf_head qp q hash hqp0)]
  simp only [indexOf_none 64 host h64]
  rw [parseTail_eq_cutTail]
  exact cutTail_tailOf _ qp q hash rfl rfl h63 h35 hq

/-! ### bytes the serialiser can emit -/

/-- the test of `stringContainsCTLByte` on one byte -/
def ctl (c : UInt8) : Bool := c < 32 || c == 127
/-- a byte at which `parse` neither cuts nor gives up -/
def uriSafe (c : UInt8) : Bool := c != 63 && c != 35 && !ctl c

theorem uriSafe_ne {c : UInt8} (h : uriSafe c = true) : c ≠ 63 ∧ c ≠ 35 := by
  simp only [uriSafe, Bool.and_eq_true, bne_iff_ne] at h
  exact h.1

/-- the bytes `AppendQuotedPath` and `AppendQuotedArg` can write: the ones they leave alone, `+`, and `%` (the hex digits
of an escape are among the plain ones) -/
theorem quoted_uriSafe : ∀ x : UInt8, pathPlain x = true ∨ argPlain x = true ∨ x = 43 ∨ x = 37 → uriSafe x = true :=
  forall_byte (by decide +kernel)

theorem quotePathBody_uriSafe (p : Bytes) : ∀ x ∈ quotePathBody p, uriSafe x = true :=
  quotePathBody_all (fun x h => quoted_uriSafe x (h.elim .inl fun h => .inr (.inr (.inr h)))) p

theorem quotePath_slash (p : Bytes) (h : p.head? = some 47) : quotePath p = quotePathBody p ∧ (quotePath p).head? = some 47 := by
  cases p with
  | nil => simp at h
  | cons c t =>
    simp only [List.head?_cons, Option.some.injEq] at h
    subst h
    have : quotePath (47 :: t) = quotePathBody (47 :: t) := by
      unfold quotePath; simp
    rw [this, quotePathBody_eq]
    exact ⟨rfl, rfl⟩

theorem slashDecode_quotePath (p : Bytes) (h : p.head? = some 47) : slashDecode (quotePath p) = p := by
  have h2 := (quotePath_slash p h).2
  unfold slashDecode
  cases hq : quotePath p with
  | nil => rw [hq] at h2; simp at h2
  | cons c t =>
    rw [hq] at h2
    simp only [List.head?_cons, Option.some.injEq] at h2
    subst h2
    simp only [if_true, List.nil_append]
    rw [← hq, decodeNoPlus_quotePath]

theorem appendArgs_uriSafe (l : List ArgKV) : ∀ x ∈ appendArgs l, uriSafe x = true :=
  appendArgs_all (fun x h => quoted_uriSafe x (.inr h)) (by decide) (by decide) l

/-! ### `normalizePath` is the identity on its own results -/

theorem normalizePath_quotePath_normalizePath (src : Bytes) :
    normalizePath (quotePath (normalizePath src)) = normalizePath src := by
  obtain ⟨h1, h2, h3, h4, h5⟩ := normalizePath_contained src
  generalize normalizePath src = p at *
  unfold normalizePath
  simp only [slashDecode_quotePath p h1, collapseSlashes_id p h2, cutDotSlash_id p h3, loopDDS_id _ p h4,
    cutTrailingDD_id p h5]

/-! ### lower-casing keeps the character classes -/

theorem toLower_classes (c : UInt8) : schemeChar (toLower c) = schemeChar c ∧ isAlpha (toLower c) = isAlpha c ∧
    hostChar (toLower c) = hostChar c := by
  rw [toLower_eq_arith]
  split
  · -- only the upper-case letters move, and their classes are looked up
    rename_i h
    exact (forall_byte (by decide +kernel) : ∀ c : UInt8, 65 ≤ c ∧ c ≤ 90 →
      schemeChar (c + 32) = schemeChar c ∧ isAlpha (c + 32) = isAlpha c ∧ hostChar (c + 32) = hostChar c) c h
  · exact ⟨rfl, rfl, rfl⟩

theorem all_map_toLower (p : UInt8 → Bool) (hp : ∀ c, p (toLower c) = p c) (s : Bytes) :
    (s.map toLower).all p = s.all p := by
  rw [List.all_map, (funext hp : p ∘ toLower = p)]

theorem map_toLower_idem (s : Bytes) : (s.map toLower).map toLower = s.map toLower := by
  induction s with
  | nil => rfl
  | cons c t ih => simp only [List.map_cons, ih, toLower_toLower]

theorem head_map_toLower_alpha (s : Bytes) :
    ((s.map toLower).head?.map isAlpha).getD false = (s.head?.map isAlpha).getD false := by
  cases s with
  | nil => rfl
  | cons c t => simp [(toLower_classes c).2.1]

/-! ### control bytes -/

theorem hasCTL_cons (c : UInt8) (s : Bytes) : hasCTL (c :: s) = (ctl c || hasCTL s) := rfl

theorem hasCTL_append (a b : Bytes) : hasCTL (a ++ b) = (hasCTL a || hasCTL b) := by
  simp [hasCTL]

theorem hasCTL_of_all {p : UInt8 → Bool} (hp : ∀ c, p c = true → ctl c = false) {s : Bytes}
    (h : ∀ x ∈ s, p x = true) : hasCTL s = false := by
  induction s with
  | nil => rfl
  | cons c t ih => rw [hasCTL_cons, hp c (h c (by simp)), ih (fun x hx => h x (by simp [hx]))]; rfl

theorem schemeChar_noctl : ∀ c : UInt8, schemeChar c = true → ctl c = false :=
  forall_byte (by decide +kernel)

theorem hostChar_noctl (c : UInt8) (h : hostChar c = true) : ctl c = false := by
  simp only [hostChar, Bool.and_eq_true, decide_eq_true_eq, bne_iff_ne] at h
  simp [ctl, h.2, UInt8.not_lt.2 h.1.2]

theorem uriSafe_noctl (c : UInt8) (h : uriSafe c = true) : ctl c = false := by
  simp only [uriSafe, Bool.and_eq_true, Bool.not_eq_true'] at h
  exact h.2

/-! ### the round trip -/

/-- a URI assembled with `SetScheme`, `SetHost` (both lower-case), `SetPath` (normalises) and `SetHash` -/
def mkURI (scheme host path hash : Bytes) : URI :=
  { scheme := scheme.map toLower, host := host.map toLower, pathOriginal := path, path := normalizePath path, hash := hash }

/-- no scheme (`http` is written), or one `getScheme` accepts -/
def wfScheme (s : Bytes) : Bool := s.isEmpty || (s.all schemeChar && (s.head?.map isAlpha).getD false)
def wfHost (h : Bytes) : Bool := !h.isEmpty && h.all hostChar
/-- well-formedness of scheme and host (the driver's `wfUri`) -/
def wfUri (scheme host : Bytes) : Bool := wfScheme scheme && wfHost host

/-- the query part `RequestURI` writes: the encoded argument list if there is one, else the raw query string -/
def queryPart (u : URI) (qa : List ArgKV) : Option Bytes :=
  if !qa.isEmpty then some (appendArgs qa) else if !u.query.isEmpty then some u.query else none

theorem fullURI_eq (u : URI) (qa : List ArgKV) :
    u.fullURI qa = u.schemeOrHTTP ++ strColonSlashSlash ++ u.host ++
      tailOf (quotePath u.pathOrSlash) (queryPart u qa) u.hash := by
  unfold URI.fullURI URI.requestURI tailOf queryPart qText
  cases qa with
  | nil => cases h : u.query.isEmpty <;> simp
  | cons kv t => simp

/-- the default of `schemeOrHTTP` and `pathOrSlash` is put in for an empty field only, so a record that holds the result in
that field gives it again -/
theorem orDefault_of_ne_nil {d y : Bytes} (h : y ≠ []) : (if y.isEmpty then d else y) = y := by
  cases y with
  | nil => exact absurd rfl h
  | cons c t => rfl

theorem schemeOrHTTP_ne_nil (u : URI) : u.schemeOrHTTP ≠ [] := by
  unfold URI.schemeOrHTTP
  cases u.scheme <;> simp [strHTTP]

theorem pathOrSlash_ne_nil (u : URI) : u.pathOrSlash ≠ [] := by
  unfold URI.pathOrSlash
  cases u.path <;> simp [strSlash]

theorem schemeOrHTTP_of_eq {v u : URI} (h : v.scheme = u.schemeOrHTTP) : v.schemeOrHTTP = u.schemeOrHTTP := by
  show (if v.scheme.isEmpty then strHTTP else v.scheme) = u.schemeOrHTTP
  rw [h, orDefault_of_ne_nil (schemeOrHTTP_ne_nil u)]

theorem pathOrSlash_of_eq {v u : URI} (h : v.path = u.pathOrSlash) : v.pathOrSlash = u.pathOrSlash := by
  show (if v.path.isEmpty then strSlash else v.path) = u.pathOrSlash
  rw [h, orDefault_of_ne_nil (pathOrSlash_ne_nil u)]

/-- what `Parse` and every setter leave: scheme and host lower-case, the path a result of `normalizePath` (stated of
`pathOrSlash`, which is what is written: the reset record has no path) -/
structure URIInv (u : URI) : Prop where
  schemeLower : u.scheme.map toLower = u.scheme
  hostLower : u.host.map toLower = u.host
  pathNorm : ∃ p, u.pathOrSlash = normalizePath p

theorem pathOrSlash_normalize (u : URI) (p : Bytes) (h : u.path = normalizePath p) : u.pathOrSlash = normalizePath p := by
  have hne : normalizePath p ≠ [] := fun e => by have := normalizePath_head p; rw [e] at this; cases this
  show (if u.path.isEmpty then strSlash else u.path) = normalizePath p
  rw [h, orDefault_of_ne_nil hne]

theorem mkURI_pathOrSlash (scheme host path hash : Bytes) :
    (mkURI scheme host path hash).pathOrSlash = normalizePath path :=
  pathOrSlash_normalize _ path rfl

theorem schemeOrHTTP_wf (u : URI) (hl : u.scheme.map toLower = u.scheme) (hw : wfScheme u.scheme = true) :
    u.schemeOrHTTP.all schemeChar = true ∧ (u.schemeOrHTTP.head?.map isAlpha).getD false = true ∧
      u.schemeOrHTTP.map toLower = u.schemeOrHTTP := by
  unfold URI.schemeOrHTTP
  cases hs : u.scheme with
  | nil => decide +kernel
  | cons c t =>
    rw [hs] at hl hw
    simp only [wfScheme, List.isEmpty_cons, Bool.false_or, Bool.and_eq_true] at hw
    exact ⟨hw.1, hw.2, hl⟩

theorem wfScheme_map_toLower (s : Bytes) : wfScheme (s.map toLower) = wfScheme s := by
  unfold wfScheme
  rw [all_map_toLower _ (fun c => (toLower_classes c).1), head_map_toLower_alpha, List.isEmpty_map]

theorem hasCTL_queryText (q : Option Bytes) (h : ∀ s, q = some s → hasCTL s = false) :
    hasCTL (qText q) = false := by
  cases q with
  | none => rfl
  | some s => exact h s rfl

/-- scheme syntax and host bytes of a state that `FullURI` → `Parse` can carry; the host may be empty -/
def wfRecord (u : URI) : Bool := wfScheme u.scheme && u.host.all hostChar && !hasCTL u.hash

theorem fullURI_userinfo (u : URI) (qa : List ArgKV) (a b : Bytes) :
    ({ u with username := a, password := b } : URI).fullURI qa = u.fullURI qa := rfl

theorem state_parse_fullURI (u : URI) (qa : List ArgKV) (inv : URIInv u) (hwf : wfRecord u = true)
    (hq35 : ∀ s, queryPart u qa = some s → ∀ x ∈ s, x ≠ 35)
    (hqctl : ∀ s, queryPart u qa = some s → hasCTL s = false) :
    parse [] (u.fullURI qa) =
      { scheme := u.schemeOrHTTP, host := u.host, pathOriginal := quotePath u.pathOrSlash, path := u.pathOrSlash,
        query := (queryPart u qa).getD [], hash := u.hash } := by
  simp only [wfRecord, Bool.and_eq_true, Bool.not_eq_true'] at hwf
  obtain ⟨⟨hws, hwh⟩, hwc⟩ := hwf
  obtain ⟨hs1, hs2, hs3⟩ := schemeOrHTTP_wf u inv.schemeLower hws
  obtain ⟨p, hp⟩ := inv.pathNorm
  have hP := normalizePath_head p
  obtain ⟨hqe, hq0⟩ := quotePath_slash _ hP
  have hqsafe : ∀ x ∈ quotePath (normalizePath p), uriSafe x = true := by
    rw [hqe]; exact quotePathBody_uriSafe _
  rw [fullURI_eq, hp]
  generalize queryPart u qa = q at hq35 hqctl
  generalize u.schemeOrHTTP = sch at hs1 hs2 hs3
  have e := parse_assembled sch u.host (quotePath (normalizePath p)) q u.hash hs1 hs2 hwh hq0
    (fun x hx => (uriSafe_ne (hqsafe x hx)).1) (fun x hx => (uriSafe_ne (hqsafe x hx)).2)
    hq35
    (by
      have c1 := hasCTL_of_all schemeChar_noctl (List.all_eq_true.1 hs1)
      have c2 := hasCTL_of_all hostChar_noctl (List.all_eq_true.1 hwh)
      have c3 := hasCTL_of_all uriSafe_noctl hqsafe
      have c4 : hasCTL (if u.hash.isEmpty then [] else 35 :: u.hash) = false := by
        split
        · rfl
        · exact hwc
      simp only [tailOf, hasCTL_append, c1, c2, c3, hasCTL_queryText q hqctl, c4]
      rfl)
  rw [e]
  unfold tailParsed
  simp only [hs3, normalizePath_quotePath_normalizePath, inv.hostLower]

/-- a URI assembled with the setters and, instead of arguments, a raw query string (`SetQueryString`) -/
def mkURIq (scheme host path qs hash : Bytes) : URI := { mkURI scheme host path hash with query := qs }

/-- general form: the query part `q` that is written is any text free of `#` and control bytes -/
theorem parse_fullURI_gen (scheme host path qs hash : Bytes) (qa : List ArgKV) (q : Bytes)
    (hq : (queryPart (mkURIq scheme host path qs hash) qa).getD [] = q)
    (hwf : wfUri scheme host = true) (hh : hasCTL hash = false) (hq35 : ∀ x ∈ q, x ≠ 35) (hqctl : hasCTL q = false) :
    parse [] ((mkURIq scheme host path qs hash).fullURI qa) =
      { scheme := (mkURI scheme host path hash).schemeOrHTTP, host := host.map toLower,
        pathOriginal := quotePath (normalizePath path), path := normalizePath path, query := q, hash := hash } := by
  subst hq
  simp only [wfUri, wfHost, Bool.and_eq_true] at hwf
  have hpos : (mkURIq scheme host path qs hash).pathOrSlash = normalizePath path := mkURI_pathOrSlash scheme host path hash
  have inv : URIInv (mkURIq scheme host path qs hash) := ⟨map_toLower_idem _, map_toLower_idem _, path, hpos⟩
  have hrec : wfRecord (mkURIq scheme host path qs hash) = true := by
    show (wfScheme (scheme.map toLower) && (host.map toLower).all hostChar && !hasCTL hash) = true
    rw [wfScheme_map_toLower, all_map_toLower _ (fun c => (toLower_classes c).2.2), hwf.1, hwf.2.2, hh]
    rfl
  rw [state_parse_fullURI _ qa inv hrec (fun s hs => by rw [hs] at hq35; exact hq35)
    (fun s hs => by rw [hs] at hqctl; exact hqctl), hpos]
  rfl

theorem mkURIq_nil (scheme host path hash : Bytes) : mkURIq scheme host path [] hash = mkURI scheme host path hash := rfl

/-- `Parse(nil, FullURI())` of a URI assembled through the setters with query arguments `qa` -/
theorem parse_fullURI (scheme host path hash : Bytes) (qa : List ArgKV)
    (hwf : wfUri scheme host = true) (hh : hasCTL hash = false) :
    parse [] ((mkURI scheme host path hash).fullURI qa) =
      { scheme := (mkURI scheme host path hash).schemeOrHTTP, host := host.map toLower,
        pathOriginal := quotePath (normalizePath path), path := normalizePath path,
        query := appendArgs qa, hash := hash } := by
  conv => lhs; rw [← mkURIq_nil]
  exact parse_fullURI_gen scheme host path [] hash qa (appendArgs qa) (by cases qa <;> rfl) hwf hh
    (fun x hx => (uriSafe_ne (appendArgs_uriSafe _ x hx)).2) (hasCTL_of_all uriSafe_noctl (appendArgs_uriSafe _))

/-! ### component-wise statements, as the driver evaluates them -/

/-- every component comes back (`v` is the re-parsed URI, `u0` the assembled one) -/
theorem uri_roundtrip_components (scheme host path hash : Bytes) (qa : List ArgKV)
    (hwf : wfUri scheme host = true) (hh : hasCTL hash = false)
    (hqa : ∀ kv ∈ qa, kv.noValue = true → kv.value = []) :
    let u0 := mkURI scheme host path hash
    let v := parse [] (u0.fullURI qa)
    v.schemeOrHTTP = u0.schemeOrHTTP ∧ v.host = u0.host ∧ v.pathOrSlash = u0.pathOrSlash ∧ v.hash = hash ∧
      v.username = [] ∧ v.password = [] ∧ parseArgs v.query = qa.filter (fun kv => !kv.bothEmpty) := by
  intro u0 v
  have e : v = _ := parse_fullURI scheme host path hash qa hwf hh
  have hp := mkURI_pathOrSlash scheme host path hash
  rw [e]
  refine ⟨?_, rfl, ?_, rfl, rfl, rfl, ?_⟩
  · exact schemeOrHTTP_of_eq rfl
  · exact pathOrSlash_of_eq hp.symm
  · exact parseArgs_appendArgs qa hqa

/-- formatting the re-parsed URI (with its re-parsed query arguments) gives the same text again -/
theorem uri_fixed_point (scheme host path hash : Bytes) (qa : List ArgKV)
    (hwf : wfUri scheme host = true) (hh : hasCTL hash = false)
    (hqa : ∀ kv ∈ qa, kv.noValue = true → kv.value = []) (hne : ∀ kv ∈ qa, kv.bothEmpty = false) :
    let u0 := mkURI scheme host path hash
    let v := parse [] (u0.fullURI qa)
    v.fullURI (parseArgs v.query) = u0.fullURI qa := by
  intro u0 v
  obtain ⟨h1, h2, h3, h4, _, _, h7⟩ := uri_roundtrip_components scheme host path hash qa hwf hh hqa
  have hf : qa.filter (fun kv => !kv.bothEmpty) = qa := by
    rw [List.filter_eq_self]; intro kv hkv; simp [hne kv hkv]
  have hq : v.query = appendArgs qa := by
    have e : v = _ := parse_fullURI scheme host path hash qa hwf hh
    rw [e]
  change parseArgs v.query = _ at h7
  rw [h7, hf]
  unfold URI.fullURI URI.requestURI
  change v.schemeOrHTTP = u0.schemeOrHTTP at h1
  change v.host = u0.host at h2
  change v.pathOrSlash = u0.pathOrSlash at h3
  change v.hash = hash at h4
  rw [h1, h2, h3, h4, hq]
  cases qa with
  | nil => simp [appendArgs, u0, mkURI]
  | cons kv t => simp [u0, mkURI]

end Hertz.Uri
