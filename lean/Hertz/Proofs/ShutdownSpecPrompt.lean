import Hertz.Proofs.ShutdownSpecSched
/-!
The two wall-clock clauses of the trace specification `Hertz.ShutdownSpec`, `prompt` and `bounded`, hold on the observable
projection of every run of the interleaving model that respects the scheduling discipline `okSched` (the clock advances only
while every goroutine that could move on its own is blocked); both are read off `JS`, all invariants along such runs in one
bundle (`prompt` at the end of the run, the bound of `bounded` at the cut at the call's return).  `bounded` also needs that
every `Shutdown` call has returned to its caller (`CallersDone`), for its "each `S k` is followed by a `T k err`".  What `JS`
adds to `JW`: `TimeInv`; `EG` (a connection whose end was observed is gone or going); `BI` (stamps of the calls against the
clock); `WinP` (what the winner still waited for, by its phase); `TN` (a `T k "nil"` is the winner's).  `FlipL`-style names
ending in `L` (`IdleCloseL`, `EndL`, `BlockedL`) are the specification's Bool functions as propositions over the event list.
-/
namespace Hertz.Shutdown
open Hertz.ShutdownSpec

/-! ### spec side: `prompt` as a statement about positions of the event list -/

/-- `idleClose`, as a proposition over the list -/
def IdleCloseL (l : List TEv) (c i : Nat) : Prop :=
  ∀ (j k : Nat) (rc : Bool) (t : Nat), l[j]? = some (TEv.mk (.Q c k rc) t) →
    j < i ∧ ∃ (j' : Nat) (cl : Bool) (t' : Nat), j' < i ∧ l[j']? = some (TEv.mk (.R c k cl true) t')

/-- position `i` (with time stamp `t`) ends connection `c` -/
def EndL (l : List TEv) (c i t : Nat) : Prop :=
  l[i]? = some (TEv.mk (.E c) t) ∨ (l[i]? = some (TEv.mk (.C c) t) ∧ IdleCloseL l c i)

theorem idleClose_iff (l : List TEv) (c i : Nat) : idleClose l.toArray c i = true ↔ IdleCloseL l c i := by
  unfold idleClose IdleCloseL
  rw [List.all_eq_true]
  constructor
  · intro h j k rc t hj
    have := h j (by simpa using getElem?_lt hj)
    rw [evAt_list, hj] at this
    simp only [bne_self_eq_false, Bool.false_or, Bool.and_eq_true, decide_eq_true_eq] at this
    refine ⟨this.1, ?_⟩
    obtain ⟨j', hj', e, he, hp⟩ := (existsBefore_iff _ _ _).1 this.2
    obtain ⟨ev, t'⟩ := e
    simp only [Bool.or_eq_true, beq_iff_eq] at hp
    rcases hp with rfl | rfl
    · exact ⟨j', true, t', hj', he⟩
    · exact ⟨j', false, t', hj', he⟩
  · intro h j _
    split
    · rename_i c' k rc t heq
      rw [evAt_list] at heq
      by_cases hcc : c' = c
      · subst hcc
        obtain ⟨h1, j', cl, t', hj', he⟩ := h j k rc t heq
        have : existsBefore l.toArray i (fun e => e == .R c' k true true || e == .R c' k false true) = true := by
          rw [existsBefore_iff]
          refine ⟨j', hj', _, he, ?_⟩
          cases cl <;> simp
        simp [h1, this]
      · simp [hcc]
    · rfl

theorem connEndAt_iff (l : List TEv) (c i : Nat) : connEndAt l.toArray c i = true ↔ ∃ t, EndL l c i t := by
  unfold connEndAt EndL
  rw [evAt_list]
  cases hi : l[i]? with
  | none => simp
  | some e =>
    obtain ⟨ev, t⟩ := e
    simp only [Bool.or_eq_true, beq_iff_eq, Bool.and_eq_true, idleClose_iff, Option.some.injEq, TEv.mk.injEq]
    constructor
    · rintro (h | ⟨h, h'⟩)
      · exact ⟨t, Or.inl ⟨h, rfl⟩⟩
      · exact ⟨t, Or.inr ⟨⟨h, rfl⟩, h'⟩⟩
    · rintro ⟨t', (⟨h, _⟩ | ⟨⟨h, _⟩, h'⟩)⟩
      · exact Or.inl h
      · exact Or.inr ⟨h, h'⟩

theorem endL_get {l : List TEv} {c i t : Nat} (h : EndL l c i t) :
    ∃ ev, l[i]? = some (TEv.mk ev t) ∧ (ev = .E c ∨ ev = .C c) := by
  rcases h with h | ⟨h, _⟩
  · exact ⟨_, h, Or.inl rfl⟩
  · exact ⟨_, h, Or.inr rfl⟩

/-- "at time `τ` something `Shutdown` has to wait for was still unfinished": the call of `k` itself, a
hook, or an accepted connection (an end that never comes counts as unfinished) -/
def BlockedL (l : List TEv) (nH k τ : Nat) : Prop :=
  (∀ t, TEv.mk (.S k) t ∈ l → τ ≤ t) ∨
  (∃ j, j < nH ∧ ∀ t, TEv.mk (.HE j) t ∈ l → τ ≤ t) ∨
  (∃ c, (∃ t, TEv.mk (.A c) t ∈ l) ∧ ∀ i t, EndL l c i t → τ ≤ t)

/-- `all`, `ts` and the fold are those of `prompt`: its `q`, the latest of the call and the ends of hooks and connections -/
theorem q_bound (all : List (Option Nat)) (ts τ : Nat) (hnone : ¬ (all.any (·.isNone) = true))
    (hsome : τ ≤ ts ∨ ∃ o ∈ all, ∀ x, o = some x → τ ≤ x) : τ ≤ (all.filterMap id).foldl max ts := by
  rw [List.foldl_max]
  rcases hsome with h | ⟨o, ho, h⟩
  · exact Nat.le_trans h (Nat.le_max_left _ _)
  · cases o with
    | none => exact absurd (List.any_eq_true.2 ⟨none, ho, rfl⟩) hnone
    | some x =>
      have hx : x ∈ all.filterMap id := List.mem_filterMap.2 ⟨some x, ho, rfl⟩
      exact Nat.le_trans (h x rfl) (Nat.le_trans (List.le_max?_getD_of_mem hx) (Nat.le_max_right _ _))

theorem prompt_nil (p : Params) (l : List TEv)
    (h : ∀ (w k tw s ts : Nat), l[w]? = some (TEv.mk (.T k "nil") tw) → l[s]? = some (TEv.mk (.S k) ts) →
      ∃ τ, tw ≤ τ + 10 * p.tick + p.slack ∧ BlockedL l p.nHooks k τ) : prompt p l.toArray = [] := by
  unfold prompt
  simp only
  split
  · rfl
  · rename_i w hw
    split
    · rfl
    · rename_i s hs
      obtain ⟨k, tw, ts, hwk, hsk, e1, e2⟩ := winner_positions hw hs
      rw [e1, e2]
      obtain ⟨τ, hτ, hb⟩ := h w k tw s ts hwk hsk
      split
      · rfl
      · split
        · rfl
        · rename_i hall
          split
          · rename_i hlt
            exfalso
            have hq := q_bound _ ts τ hall ?_
            · omega
            · rcases hb with hb | ⟨j, hj, hb⟩ | ⟨c, ⟨ta, hta⟩, hb⟩
              · exact Or.inl (hb ts (List.mem_of_getElem? hsk))
              · refine Or.inr ⟨_, List.mem_append_left _ (List.mem_map.2 ⟨j, List.mem_range.2 hj, rfl⟩), ?_⟩
                intro x hx
                rw [Option.map_eq_some_iff] at hx
                obtain ⟨i, hi, rfl⟩ := hx
                obtain ⟨t, ht⟩ := holdsAt_eq.1 (idxOf?_eq_some.1 hi).1
                rw [timeAt_list ht]
                exact hb t (List.mem_of_getElem? ht)
              · obtain ⟨ia, hia⟩ := List.mem_iff_getElem?.1 hta
                refine Or.inr ⟨_, List.mem_append_right _ (List.mem_map.2 ⟨c, List.mem_filterMap.2
                  ⟨ia, List.mem_range.2 (by simpa using getElem?_lt hia), ?_⟩, rfl⟩), ?_⟩
                · simp [evAt_list, hia]
                · intro x hx
                  rw [Option.map_eq_some_iff] at hx
                  obtain ⟨i, hi, rfl⟩ := hx
                  obtain ⟨t, ht⟩ := (connEndAt_iff l c i).1 (List.find?_some hi)
                  obtain ⟨ev, hev, _⟩ := endL_get ht
                  rw [timeAt_list hev]
                  exact hb i t ht
          · rfl

/-! ### end positions when the sequence is extended -/

theorem idleCloseL_prefix {tr l : List TEv} {c i : Nat} (h : IdleCloseL (tr ++ l) c i) (hi : i ≤ tr.length) :
    IdleCloseL tr c i := by
  intro j k rc t hj
  have hjl := getElem?_lt hj
  obtain ⟨h1, j', cl, t', hj', he⟩ := h j k rc t (by rw [List.getElem?_append_left hjl]; exact hj)
  refine ⟨h1, j', cl, t', hj', ?_⟩
  rw [List.getElem?_append_left (by omega)] at he
  exact he

theorem endL_prefix {tr l : List TEv} {c i t : Nat} (h : EndL (tr ++ l) c i t) (hi : i < tr.length) : EndL tr c i t := by
  unfold EndL at *
  rw [List.getElem?_append_left hi] at h
  rcases h with h | ⟨h, h'⟩
  · exact Or.inl h
  · exact Or.inr ⟨h, idleCloseL_prefix h' (by omega)⟩

def AllAns (tr : List TEv) (c : Nat) : Prop := ∀ k rc, Has tr (.Q c k rc) → ∃ cl, Has tr (.R c k cl true)

theorem IdleCloseL.allAns {tr : List TEv} {c i : Nat} (h : IdleCloseL tr c i) : AllAns tr c := by
  intro k rc ⟨tq, hq⟩
  obtain ⟨j, hj⟩ := List.mem_iff_getElem?.1 hq
  obtain ⟨_, j', cl, t', _, he⟩ := h j k rc tq hj
  exact ⟨cl, t', List.mem_of_getElem? he⟩

theorem endL_snoc {tr : List TEv} {e : TEv} {c i t : Nat} (h : EndL (tr ++ [e]) c i t) :
    EndL tr c i t ∨ (i = tr.length ∧ e.t = t ∧ (e.ev = .E c ∨ (e.ev = .C c ∧ AllAns tr c))) := by
  by_cases hi : i < tr.length
  · exact Or.inl (endL_prefix h hi)
  · right
    have key : ∀ {ev}, (tr ++ [e])[i]? = some (TEv.mk ev t) → i = tr.length ∧ e = TEv.mk ev t := fun hev =>
      (getElem?_snoc hev).elim (fun h => absurd (getElem?_lt h) hi) fun h => ⟨h.1, h.2.symm⟩
    rcases h with h | ⟨h, h'⟩
    · obtain ⟨h1, rfl⟩ := key h
      exact ⟨h1, rfl, Or.inl rfl⟩
    · obtain ⟨h1, rfl⟩ := key h
      exact ⟨h1, rfl, Or.inr ⟨rfl, (idleCloseL_prefix h' (Nat.le_of_eq h1)).allAns⟩⟩

theorem endL_has {tr : List TEv} {c i t : Nat} (h : EndL tr c i t) : Has tr (.E c) ∨ (Has tr (.C c) ∧ AllAns tr c) := by
  rcases h with h | ⟨h, h'⟩
  · exact Or.inl ⟨t, List.mem_of_getElem? h⟩
  · exact Or.inr ⟨⟨t, List.mem_of_getElem? h⟩, h'.allAns⟩

/-- a new request of `c` disqualifies every earlier close of the client; only `E c` positions remain -/
theorem endL_snoc_Q {tr : List TEv} {c k : Nat} {rc : Bool} {t0 i t : Nat}
    (h : EndL (tr ++ [TEv.mk (.Q c k rc) t0]) c i t) : Has tr (.E c) := by
  rcases h with h | ⟨h, h'⟩
  · rcases getElem?_snoc h with h | ⟨_, h⟩
    · exact ⟨t, List.mem_of_getElem? h⟩
    · cases h
  · -- an idle close lies behind every `Q c`, so behind the new one at position `tr.length`, where no `C` is
    have h1 := (h' tr.length k rc t0 (by simp)).1
    rcases getElem?_snoc h with h | ⟨_, h⟩
    · exact absurd (getElem?_lt h) (by omega)
    · cases h

theorem endL_step {s : State} {a : Act} {tr : List TEv} {c i t : Nat} (h : EndL (tr ++ obsStep s a) c i t)
    (hE : a ≠ .clientEof c) (hC : a ≠ .peerClose c) : EndL tr c i t := by
  cases hev : obsAct s a with
  | none => rwa [obsStep_none hev, List.append_nil] at h
  | some ev =>
    rw [obsStep_some hev] at h
    rcases endL_snoc h with h | ⟨_, _, rfl | ⟨rfl, _⟩⟩
    · exact h
    · cases obsOf hev; exact absurd rfl hE
    · cases obsOf hev; exact absurd rfl hC

theorem blockedL_mono {tr l : List TEv} {nH k τ : Nat} (h : BlockedL tr nH k τ) (hl : ∀ e ∈ l, τ ≤ e.t) :
    BlockedL (tr ++ l) nH k τ := by
  have old : ∀ {ev : Ev}, (∀ t, TEv.mk ev t ∈ tr → τ ≤ t) → ∀ t, TEv.mk ev t ∈ tr ++ l → τ ≤ t := fun h t ht =>
    (List.mem_append.1 ht).elim (h t) (hl _)
  rcases h with h | ⟨j, hj, h⟩ | ⟨c, ⟨ta, hta⟩, h⟩
  · exact Or.inl (old h)
  · exact Or.inr (Or.inl ⟨j, hj, old h⟩)
  · right; right
    refine ⟨c, ⟨ta, List.mem_append_left _ hta⟩, ?_⟩
    intro i t he
    by_cases hi : i < tr.length
    · exact h i t (endL_prefix he hi)
    · obtain ⟨ev, hev, _⟩ := endL_get he
      rw [List.getElem?_append_right (Nat.le_of_not_lt hi)] at hev
      exact hl _ (List.mem_of_getElem? hev)

/-! ### a connection that has an end position is gone, or about to go -/

theorem step_now {cfg : Cfg} {s s' : State} {a : Act} (h : Step cfg s a s') : s'.now = s.now ∨ ∃ d, a = .advance d := by
  cases h <;> first | exact Or.inl rfl | exact Or.inr ⟨_, rfl⟩

theorem ans_inflight {n : Nat} {s : State} {tr : List TEv} {c : Nat} {cn : Conn} (ai : AllInv n s) (lg : Log s tr)
    (hc : s.conns[c]? = some cn) (ha : AllAns tr c) : inflight cn.ph = 0 := by
  have hcount := (ai.inv.conns cn (List.mem_of_getElem? hc)).count
  have hack := ai.cc.acked cn (List.mem_of_getElem? hc)
  apply Classical.byContradiction
  intro hne
  have h1 : inflight cn.ph = 1 := by cases hp : cn.ph <;> simp [inflight, hp] at hne ⊢
  obtain ⟨rc, hq⟩ := lg.hasQ hc (k := cn.started - 1) (by omega)
  obtain ⟨cl, hr⟩ := ha _ rc hq
  obtain ⟨cn2, hc2, hlt⟩ := lg.seen _ hr
  rw [hc] at hc2; cases hc2
  omega

theorem endL_inflight {n : Nat} {s : State} {tr : List TEv} {c i t : Nat} {cn : Conn} (ai : AllInv n s) (lg : Log s tr)
    (hc : s.conns[c]? = some cn) (he : EndL tr c i t) : inflight cn.ph = 0 := by
  rcases endL_has he with hh | ⟨_, hh⟩
  · obtain ⟨cn', hc', hp⟩ := lg.seen (.E c) hh
    cases hc.symm.trans hc'
    rcases hp with hp | hp <;> simp [hp, inflight]
  · exact ans_inflight ai lg hc hh

/-- a connection whose end is in the sequence is gone, or its goroutine has a step of its own pending and the clock
has not moved since the end (`canTick` holds the clock while it is busy) -/
def EG (s : State) (tr : List TEv) : Prop :=
  ∀ c cn i t, s.conns[c]? = some cn → EndL tr c i t → cn.ph = .gone ∨ (connBusy cn = true ∧ s.now ≤ t)

theorem step_EG {cfg : Cfg} {n : Nat} {s s' : State} {a : Act} {tr : List TEv} (h : Step cfg s a s')
    (hok : okSched s a = true) (ai : AllInv n s) (lg : Log s tr) (eg : EG s tr) :
    EG s' (tr ++ obsStep s a) := by
  intro c cn' i t hc' he
  rcases step_now h with hnow | ⟨d, rfl⟩
  rotate_left
  · cases h
    case conn hca => cases hca
    case advance =>
      rw [obsStep_none rfl, List.append_nil] at he
      have hb : connBusy cn' = false := by
        simp only [okSched, canTick, Bool.and_eq_true, List.all_eq_true] at hok
        simpa using hok.2 cn' (List.mem_of_getElem? hc')
      rcases eg c cn' i t hc' he with hg | ⟨hb', _⟩
      · exact Or.inl hg
      · rw [hb] at hb'; cases hb'
  · rw [hnow]
    rcases step_conn_back h hc' with ⟨cn, hc, ev⟩ | ⟨rfl, rfl, rfl⟩
    · cases ev with
      | other heq hna =>
        subst heq
        exact eg c cn' i t hc (endL_step he (fun h => hna cClientEof (h ▸ rfl)) (fun h => hna cPeerClose (h ▸ rfl)))
      | gone ha hph heq => subst heq; exact Or.inl rfl
      | step hcs =>
        have hinf : ∀ i t, EndL tr c i t → inflight cn.ph = 0 := fun i t he => endL_inflight ai lg hc he
        have hold := eg c cn
        cases hcs with
        | reqArrive _ rc _ hph =>
          rw [obsStep_some (ev := .Q c cn.started rc) (by simp [obsAct, hc])] at he
          obtain ⟨cn', hc', this⟩ := lg.seen (.E c) (endL_snoc_Q he)
          cases hc.symm.trans hc'
          simp [hph] at this
        | handlerRet _ _ _ _ hph | exitCheck _ _ _ _ hph | writeResp _ _ _ _ hph =>
          have := hinf i t (endL_step he nofun nofun)
          simp [hph, inflight] at this
        | connDrop _ _ hph _ | badReq _ _ hph | npClose _ _ hph _ =>
          rcases hold i t hc (endL_step he nofun nofun) with hg | ⟨_, hn⟩
          · simp [hph] at hg
          · exact Or.inr ⟨by simp [connBusy], hn⟩
        | peerClose _ _ =>
          rw [obsStep_some rfl] at he
          rcases endL_snoc he with he | ⟨_, ht, hE | ⟨_, hans⟩⟩
          · rcases hold i t hc he with hg | ⟨hb, hn⟩
            · exact Or.inl hg
            · refine Or.inr ⟨?_, hn⟩
              revert hb
              simp only [connBusy]
              cases cn.ph <;> simp
          · simp at hE
          · have h0 := ans_inflight ai lg hc hans
            simp at ht; subst ht
            cases hp : cn.ph <;> simp [hp, inflight, connBusy] at h0 ⊢
        | clientRead _ cl _ r hr hcl => exact hold i t hc (endL_step he nofun nofun)
        | clientEof _ _ hph hack =>
          rw [obsStep_some rfl] at he
          rcases endL_snoc he with he | ⟨_, ht, _⟩
          · exact hold i t hc he
          · simp at ht; subst ht
            rcases hph with hph | hph
            · exact Or.inr ⟨by simp [connBusy, hph], Nat.le_refl _⟩
            · exact Or.inl hph
    · rcases endL_has (endL_step he nofun nofun) with hh | ⟨hh, _⟩
      · obtain ⟨_, hc, _⟩ := lg.seen (.E _) hh
        exact absurd (getElem?_lt hc) (Nat.lt_irrefl _)
      · obtain ⟨_, hc, _⟩ := lg.seen (.C _) hh
        exact absurd (getElem?_lt hc) (Nat.lt_irrefl _)

/-! ### the winner's invariant -/

/-- while the winner loops, has its result deferred or has returned: at some `τ` at most one ticker period before
(the next tick / now / its return) something it waits for was still unfinished (`BlockedL`) -/
def WinP (cfg : Cfg) (n : Nat) (s : State) (tr : List TEv) : Prop :=
  match s.win with
  | .loop _ => ∃ τ, τ ≤ s.now ∧ s.now ≤ s.nextTick ∧ s.nextTick ≤ τ + cfg.tick ∧ BlockedL tr n s.winK τ
  | .deferred _ => ∃ τ, τ ≤ s.now ∧ s.now ≤ τ + cfg.tick ∧ BlockedL tr n s.winK τ
  | .returned _ t => ∃ τ, τ ≤ t ∧ t ≤ τ + cfg.tick ∧ BlockedL tr n s.winK τ
  | _ => True

theorem winP_frame {cfg : Cfg} {n : Nat} {s s' : State} {tr l : List TEv} (wp : WinP cfg n s tr) (si : SI1 s)
    (hw : s'.win = s.win) (hn : s'.now = s.now) (ht : s'.nextTick = s.nextTick) (hk : s'.winK = s.winK)
    (hl : ∀ e ∈ l, e.t = s.now) : WinP cfg n s' (tr ++ l) := by
  have mono : ∀ {τ}, τ ≤ s.now → BlockedL tr n s.winK τ → BlockedL (tr ++ l) n s'.winK τ := fun h1 hb => by
    rw [hk]
    exact blockedL_mono hb (fun e he => by rw [hl e he]; exact h1)
  unfold WinP at wp ⊢
  rw [hw, hn, ht]
  cases hwe : s.win <;> simp only [hwe] at wp ⊢
  case loop =>
    obtain ⟨τ, h1, h2, h3, hb⟩ := wp
    exact ⟨τ, h1, h2, h3, mono h1 hb⟩
  case deferred =>
    obtain ⟨τ, h1, h2, hb⟩ := wp
    exact ⟨τ, h1, h2, mono h1 hb⟩
  case returned e t =>
    obtain ⟨τ, h1, h2, hb⟩ := wp
    exact ⟨τ, h1, h2, mono (Nat.le_trans h1 (si.retNow e t hwe)) hb⟩

/-- at a tick that sees `active > 0` some accepted connection has not ended -/
theorem live_blocked {n : Nat} {s : State} {tr : List TEv} (ai : AllInv n s) (lg : Log s tr) (eg : EG s tr)
    (ha : ¬ s.active ≤ 0) (k : Nat) : BlockedL tr n k s.now := by
  have h1 := ai.cc.active
  obtain ⟨c, cn, hc, hg⟩ := liveCount_pos (l := s.conns) (by omega)
  right; right
  refine ⟨c, lg.has (ev := .A c) (getElem?_lt hc) trivial, fun i t he => ?_⟩
  rcases eg c cn i t hc he with h | ⟨_, h⟩
  · exact absurd h hg
  · exact h

theorem hook_blocked {n : Nat} {s : State} {tr : List TEv} (ai : AllInv n s) (lg : Log s tr)
    (hd : hooksDone s = false) (k τ : Nat) : BlockedL tr n k τ := by
  unfold hooksDone at hd
  rw [List.all_eq_false] at hd
  obtain ⟨p, hp, hnd⟩ := hd
  obtain ⟨j, hj⟩ := List.mem_iff_getElem?.1 hp
  right; left
  refine ⟨j, by rw [← ai.hk.2]; exact getElem?_lt hj, fun t ht => ?_⟩
  have : s.hooks[j]? = some .done := lg.seen (.HE j) ⟨t, ht⟩
  rw [hj] at this
  cases this
  simp at hnd

theorem step_WinP {cfg : Cfg} {n : Nat} {s s' : State} {a : Act} {tr : List TEv} (h : Step cfg s a s')
    (hok : okSched s a = true) (ai : AllInv n s) (ti : TimeInv cfg s) (lg : Log s tr) (eg : EG s tr) (bi : BI s tr)
    (wp : WinP cfg n s tr) : WinP cfg n s' (tr ++ obsStep s a) := by
  have hfr : ∀ e ∈ obsStep s a, e.t = s.now := fun e he => (mem_obsStep.1 he).2
  cases h
  case advance d =>
    rw [obsStep_none rfl, List.append_nil]
    simp only [okSched, canTick, Bool.and_eq_true] at hok
    have hca := hok.1.1
    cases hw : s.win <;> simp only [WinP, hw, canAdvance] at wp hca ⊢
    case loop t0 =>
      obtain ⟨τ, h1, h2, h3, hb⟩ := wp
      simp only [Bool.or_eq_true, Bool.and_eq_true, beq_iff_eq, decide_eq_true_eq] at hca
      exact ⟨τ, by omega, by omega, h3, hb⟩
    case deferred e =>
      obtain ⟨τ, h1, h2, hb⟩ := wp
      simp only [Bool.or_eq_true, Bool.and_eq_true, beq_iff_eq, decide_eq_true_eq, Bool.not_eq_true'] at hca
      rcases hca with hd | ⟨hnd, _⟩
      · subst hd; exact ⟨τ, h1, h2, hb⟩
      · exact ⟨s.now + d, Nat.le_refl _, Nat.le_add_right _ _, hook_blocked ai lg hnd _ _⟩
    case returned => exact wp
  case tick1 hw hnt =>
    rw [obsStep_none rfl, List.append_nil]
    simp [TimeInv, hw] at ti
    unfold WinP
    by_cases ha : s.active ≤ 0 <;> simp only [ha, if_true, if_false]
    · exact ⟨s.tcas, by show s.tcas ≤ s.now; omega, by show s.now ≤ s.tcas + cfg.tick; omega,
        Or.inl (bi.b2 (by simp [hw]))⟩
    · exact ⟨s.now, Nat.le_refl _, by show s.now ≤ s.nextTick + cfg.tick; omega,
        by show s.nextTick + cfg.tick ≤ s.now + cfg.tick; omega, live_blocked ai lg eg ha _⟩
  case tickLoop t0 hw hnt =>
    rw [obsStep_none rfl, List.append_nil]
    rw [WinP, hw] at wp
    obtain ⟨τ, h1, h2, h3, hb⟩ := wp
    unfold WinP
    by_cases ha : s.active ≤ 0 <;> simp only [ha, if_true, if_false]
    · exact ⟨τ, h1, by show s.now ≤ τ + cfg.tick; omega, hb⟩
    · by_cases hm : cfg.maxWait < s.now - t0 <;> simp only [hm, if_true, if_false]
      · exact ⟨s.now, Nat.le_refl _, Nat.le_add_right _ _, live_blocked ai lg eg ha _⟩
      · exact ⟨s.now, Nat.le_refl _, by show s.now ≤ s.nextTick + cfg.tick; omega,
          by show s.nextTick + cfg.tick ≤ s.now + cfg.tick; omega, live_blocked ai lg eg ha _⟩
  case ctxDone t0 hw hd =>
    rw [obsStep_none rfl, List.append_nil]
    rw [WinP, hw] at wp
    obtain ⟨τ, h1, h2, h3, hb⟩ := wp
    exact ⟨τ, h1, by show s.now ≤ τ + cfg.tick; omega, hb⟩
  case finish e hw hc =>
    rw [obsStep_none rfl, List.append_nil]
    simpa only [WinP, hw] using wp
  case casWin | spawn | closeLn => trivial
  all_goals exact winP_frame wp ai.si rfl rfl rfl rfl hfr

/-! ### a `nil` return is the winner's -/

/-- a `T k "nil"` event belongs to the winner, whose own return is not before the event's time stamp -/
def TN (s : State) (tr : List TEv) : Prop :=
  ∀ k tt, TEv.mk (.T k "nil") tt ∈ tr → k = s.winK ∧ ∃ t, s.win = .returned .nil t ∧ tt ≤ t

theorem step_ret_stable {cfg : Cfg} {s s' : State} {a : Act} (h : Step cfg s a s') (inv : Inv s) {e : Err} {t : Nat}
    (hw : s.win = .returned e t) : s'.win = .returned e t ∧ s'.winK = s.winK := by
  cases h
  case casWin hs => rw [inv.win_none hs] at hw; cases hw
  case spawn hw0 | closeLn hw0 | tick1 hw0 _ | tickLoop hw0 _ | ctxDone hw0 _ | finish hw0 _ => cases hw0.symm.trans hw
  all_goals exact ⟨hw, rfl⟩

theorem step_TN {cfg : Cfg} {n : Nat} {s s' : State} {a : Act} {tr : List TEv} (h : Step cfg s a s')
    (ai : AllInv n s) (bi : BI s tr) (tn : TN s tr) : TN s' (tr ++ obsStep s a) := by
  intro k tt hm
  rcases List.mem_append.1 hm with hm | hm
  · obtain ⟨hk, t, hw, hle⟩ := tn k tt hm
    obtain ⟨h1, h2⟩ := step_ret_stable h ai.inv hw
    exact ⟨by rw [h2]; exact hk, t, h1, hle⟩
  · obtain ⟨hev, htm⟩ := mem_obsStep.1 hm
    have htm' : tt = s.now := htm
    obtain ⟨e, rfl, he⟩ := obsAct_T hev
    cases errStr_inj (e' := .nil) he.symm
    cases h
    case conn hca => cases hca
    case callerRet hk =>
      obtain ⟨_, rfl, t, ht⟩ := ret_winner ai hk (Or.inl rfl) nofun
      -- the winner hands the result over without delay
      have := bi.b3 _ t ht hk
      exact ⟨rfl, t, ht, by omega⟩

/-! ### all invariants together, and the clause -/

/-- along runs that respect `okSched` (the `S`): the invariants of every run and those that tie time stamps to the clock -/
structure JS (cfg : Cfg) (n : Nat) (s : State) (tr : List TEv) : Prop extends JW cfg n s tr where
  timeInv : TimeInv cfg s
  eg : EG s tr
  bi : BI s tr
  wp : WinP cfg n s tr
  tn : TN s tr

theorem step_JS {cfg : Cfg} {n : Nat} {s s' : State} {a : Act} {tr : List TEv} (j : JS cfg n s tr)
    (hok : okSched s a = true) (hs : step cfg s a = some s') : JS cfg n s' (tr ++ obsStep s a) :=
  have hS := step_Step cfg hs
  { step_JW j.toJW hs with
    timeInv := step_timeInv cfg j.timeInv (okSched_actOk _ _ hok) hS
    eg := step_EG hS hok j.ai j.lg j.eg
    bi := step_BI cfg n j.ai j.lg j.bi hok hS
    wp := step_WinP hS hok j.ai j.timeInv j.lg j.eg j.bi j.wp
    tn := step_TN hS j.ai j.bi j.tn }

theorem js_init (cfg : Cfg) (n : Nat) : JS cfg n (init n) [] :=
  { jw_init cfg n with
    timeInv := by simp [TimeInv, init]
    eg := by intro c cn i t hc; simp [init] at hc
    bi := bi_init n
    wp := by simp [WinP, init]
    tn := by intro k tt hm; simp at hm }

theorem run_JS {cfg : Cfg} {n : Nat} {acts : List Act} {sF : State} (hr : run cfg (init n) acts = some sF)
    (hok : allOk okSched cfg (init n) acts = true) : JS cfg n sF (obsRun cfg (init n) acts) := by
  have := run_traceInv cfg okSched (JS cfg n) (fun s tr a s' hJ hok hs => step_JS hJ hok hs) acts (js_init cfg n) hr hok
  simpa using this

/-- the run cut at an observed event, with the invariant at the cut -/
theorem split_JS {cfg : Cfg} {n : Nat} {acts : List Act} {sF : State} (hr : run cfg (init n) acts = some sF)
    (hok : allOk okSched cfg (init n) acts = true) {i : Nat} {e : TEv} (hi : (obsRun cfg (init n) acts)[i]? = some e) :
    ∃ acts1 a acts2 s1 s1', SplitAt cfg okSched (init n) sF acts i e acts1 a acts2 s1 s1' ∧ JS cfg n s1 (obsRun cfg (init n) acts1) := by
  obtain ⟨acts1, a, acts2, s1, s1', sp⟩ := obsRun_split cfg okSched acts hr hok hi
  exact ⟨_, _, _, _, _, sp, run_JS sp.run1 sp.ok1⟩

/-- in words: `Hertz.Props.C18.obs_shutdown_prompt`.  Read off `WinP` at the returned winner: something it waited for was
still unfinished one ticker period before its return -/
theorem obs_prompt {p : Params} {cfg : Cfg} {n : Nat} {acts : List Act} {sF : State}
    (hr : run cfg (init n) acts = some sF) (hok : allOk okSched cfg (init n) acts = true) (hp : ParamsOk p cfg n) :
    prompt p (obsRun cfg (init n) acts).toArray = [] := by
  have js := run_JS hr hok
  apply prompt_nil
  intro w k tw s ts hw hs
  obtain ⟨hk, t, hwin, hle⟩ := js.tn k tw (List.mem_of_getElem? hw)
  have wp := js.wp
  rw [WinP, hwin] at wp
  obtain ⟨τ, h1, h2, hb⟩ := wp
  refine ⟨τ, ?_, ?_⟩
  · have := hp.tick; omega
  · rw [hp.nHooks, hk]; exact hb

/-! ### the `bounded` clause -/

theorem errStr_ne_hang (e : Err) : errStr e ≠ "hang" := by
  cases e <;> decide

/-- in words: `Hertz.Props.C18.obs_shutdown_bounded` -/
theorem obs_bounded {p : Params} {cfg : Cfg} {n : Nat} {acts : List Act} {sF : State}
    (hr : run cfg (init n) acts = some sF) (hok : allOk okSched cfg (init n) acts = true) (hp : ParamsOk p cfg n)
    (hfin : CallersDone sF) :
    bounded p (obsRun cfg (init n) acts).toArray = [] := by
  apply bounded_nil
  intro i k ts hi
  have js := run_JS hr hok
  have hiS := List.mem_of_getElem? hi
  constructor
  · have hlt : k < sF.callers.length := js.lg.seen (.S k) ⟨ts, hiS⟩
    have hmem : sF.callers[k] ∈ sF.callers := List.getElem_mem hlt
    obtain ⟨e, he⟩ := hfin _ hmem
    have hk' : sF.callers[k]? = some (.finished e) := by rw [List.getElem?_eq_getElem hlt, he]
    obtain ⟨tt, htt⟩ := js.lg.has (ev := .T k (errStr e)) ⟨e, rfl, hk'⟩ trivial
    obtain ⟨j, hj⟩ := List.mem_iff_getElem?.1 htt
    exact ⟨j, errStr e, tt, S_before_T hr hi hj, hj⟩
  · -- cut at the return: a loser was called at this very instant; the winner hands over at once what it got within the bound
    intro j err tt hij hj
    obtain ⟨acts1, a, acts2, s1, s1', sp, js⟩ := split_JS hr hok hj
    obtain ⟨e, rfl, rfl⟩ := obsAct_T sp.ev
    refine ⟨errStr_ne_hang e, ?_⟩
    have hret := step_callerRet_ret sp.st
    have hS := List.mem_of_getElem? (sp.get_before hij hi)
    have htt : tt = s1.now := sp.tm
    have h1 := hp.exitWait
    have h2 := hp.tick
    by_cases hwk : s1.win = .none ∨ k ≠ s1.winK
    · have := js.bi.b1 k _ ts hret rfl hwk hS
      omega
    · have hne : s1.win ≠ .none := fun h => hwk (Or.inl h)
      have hkk : k = s1.winK := Classical.byContradiction fun h => hwk (Or.inr h)
      subst hkk
      obtain ⟨t, ht⟩ := winner_ret js.ai hne hret (Or.inl rfl)
      have h3 := js.bi.b3 e t ht hret
      have h4 := js.bi.b2 hne ts hS
      have hti := js.timeInv
      rw [TimeInv, ht] at hti
      omega

/-! ### non-vacuity: a run with clock advances that satisfies all hypotheses of `obs_bounded` -/

def demoCfg : Cfg := { exitWait := 50 }

def demoActs : List Act :=
  [.advance 3, .init, .markRunning, .listen, .advance 4, .shutCall, .shutLoad 0, .shutCas 0, .shutSpawn, .shutCloseLn,
   .advance 10, .shutTick1, .hookStart 0, .advance 5, .hookEnd 0, .shutFinish, .callerRet 0 .nil,
   .advance 7, .shutCall, .shutLoad 1, .callerRet 1 .notRunning, .advance 2]

example : allOk okSched demoCfg (init 1) demoActs = true := by decide

theorem demo_callers : (run demoCfg (init 1) demoActs).map (·.callers) = some [.finished .nil, .finished .notRunning] := by
  decide

/-- what is observed: the first call lasts 15 clock units (tick + hook), the second returns at once -/
example : (obsRun demoCfg (init 1) demoActs).map (fun e => (e.ev, e.t)) =
    [(.L, 3), (.S 0, 7), (.HS 0, 17), (.HE 0, 22), (.T 0 "nil", 22), (.S 1, 29), (.T 1 "notrunning", 29)] := by decide

/-- `obs_bounded` applies to the demo run (all hypotheses are satisfiable together) -/
example : bounded { exitWait := 50, tick := 10, slack := 0, nHooks := 1, maxWait := 30000 }
    (obsRun demoCfg (init 1) demoActs).toArray = [] := by
  have hc := demo_callers
  cases hr : run demoCfg (init 1) demoActs with
  | none => rw [hr] at hc; simp at hc
  | some sF =>
    rw [hr] at hc
    have hcs : sF.callers = [.finished .nil, .finished .notRunning] := by simpa using hc
    refine obs_bounded (cfg := demoCfg) (n := 1) (sF := sF) hr (by decide) ⟨rfl, by decide, rfl, by decide⟩ ?_
    intro p hp
    rw [hcs] at hp
    simp at hp
    rcases hp with rfl | rfl
    · exact ⟨_, rfl⟩
    · exact ⟨_, rfl⟩

end Hertz.Shutdown
