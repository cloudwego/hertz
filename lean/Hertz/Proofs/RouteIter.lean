import Hertz.Model.RouteIter
import Hertz.Proofs.RouteFind
/-!
C06: the simulation behind "the iterative `find` (`Model/RouteIter.lean`, the loop of `tree.go` as written) computes
what the recursive `find` (`Model/Route.lean`, the subject of the selection theorems) computes, on every well-formed
tree, within `4 * size root` program points"; the statement about `findIter` itself is `findIter_cases` in `RouteIterTop`.

For every node `n`, by induction on the tree: started at program point `top`
with `cn = n`, the machine either halts with the recursive `visit`'s hit, or — when `visit` misses —
arrives after backtracking at the parent with `search`, `searchIndex`, `paramIndex` and the live
part of `*paramsPointer` restored, at label `Param:` (out of a static node) or `Any:` (out of a
parameter node).  Inside a node the same is said of each block of the loop body (`Sim`): `visit` is an
`orElse` of the blocks' results, the machine runs them in sequence (`Sim.orElse`), and the way out of the
node, which depends on its position only, is handed down to the `Any:` block as the continuation of a miss.
-/
namespace Hertz.Route.Iter
open Hertz.Route

theorem run_next {u : Bool} {path : Bytes} {pc pc' : Pc} {st st' : St} (f : Nat)
    (h : step path u pc st = .next pc' st') : run path u (f + 1) pc st = run path u f pc' st' := by
  simp [run, h]

theorem run_done {u : Bool} {path : Bytes} {pc : Pc} {st : St} {o : Out} (f : Nat)
    (h : step path u pc st = .done o) : run path u (f + 1) pc st = some o := by
  simp [run, h]

/-- `k` steps of the machine lead from `(pc, st)` to `(pc', st')`, whatever fuel is left -/
def Reach (u : Bool) (path : Bytes) (k : Nat) (pc : Pc) (st : St) (pc' : Pc) (st' : St) : Prop :=
  ∀ f, run path u (k + f) pc st = run path u f pc' st'

/-- from `(pc, st)` the machine returns `o` within `k` steps -/
def Halts (u : Bool) (path : Bytes) (k : Nat) (pc : Pc) (st : St) (o : Out) : Prop :=
  ∀ f, run path u (k + f) pc st = some o

/-- after backtracking out of a node whose ancestors are `S`: loop left when there is no parent -/
def Exits (u : Bool) (path : Bytes) (k : Nat) (pc : Pc) (st : St) (S : List Node) (pc' : Pc) (st' : St) : Prop :=
  ∀ f, run path u (k + f) pc st = if S = [] then some (post false st' none) else run path u f pc' st'

theorem reach_refl (u : Bool) (path : Bytes) (pc : Pc) (st : St) : Reach u path 0 pc st pc st := by
  intro f; simp

theorem reach_step {u : Bool} {path : Bytes} {pc pc' : Pc} {st st' : St}
    (h : step path u pc st = .next pc' st') : Reach u path 1 pc st pc' st' := by
  intro f; rw [Nat.add_comm]; exact run_next f h

theorem halts_step {u : Bool} {path : Bytes} {pc : Pc} {st : St} {o : Out}
    (h : step path u pc st = .done o) : Halts u path 1 pc st o := by
  intro f; rw [Nat.add_comm]; exact run_done f h

/-- steps in front of a run that continues as `K` (with `K` another run: `Reach`; a result: `Halts`; either: `Exits`) -/
theorem reach_then {u : Bool} {path : Bytes} {a b : Nat} {p1 p2 : Pc} {s1 s2 : St} {K : Nat → Option Out}
    (h1 : Reach u path a p1 s1 p2 s2) (h2 : ∀ f, run path u (b + f) p2 s2 = K f) :
    ∀ f, run path u (a + b + f) p1 s1 = K f := by
  intro f; rw [Nat.add_assoc, h1, h2]

theorem take_set_succ (arr : List Bytes) (d : Nat) (v : Bytes) (h : d < arr.length) :
    (arr.set d v).take (d + 1) = arr.take d ++ [v] := by
  rw [List.take_add_one, List.take_set_of_le (Nat.le_refl d), List.getElem?_set_self h]; rfl

theorem take_set_same (arr : List Bytes) (d : Nat) (v : Bytes) : (arr.set d v).take d = arr.take d :=
  List.take_set_of_le (Nat.le_refl d)

theorem getD_set_same (arr : List Bytes) (d : Nat) (v : Bytes) (h : d < arr.length) : (arr.set d v).getD d [] = v := by
  rw [List.getD_eq_getElem?_getD, List.getElem?_set_self h]; rfl

theorem take_succ_take (a b : List Bytes) (d : Nat) (h : a.take (d + 1) = b.take (d + 1)) : a.take d = b.take d := by
  have := congrArg (List.take d) h
  simpa [List.take_take, Nat.min_eq_left (Nat.le_succ d)] using this

theorem getD_of_take (a b : List Bytes) (d : Nat) (h : a.take (d + 1) = b.take (d + 1)) : a.getD d [] = b.getD d [] := by
  have h1 := congrArg (fun l => l[d]?) h
  simp only [List.getElem?_take_of_lt (Nat.lt_succ_self d)] at h1
  rw [List.getD_eq_getElem?_getD, List.getD_eq_getElem?_getD, h1]

theorem map_unescapeVal_false (ps : List (Bytes × Bytes)) : (ps.map fun kv => (kv.1, unescapeVal false kv.2)) = ps := by
  simp [unescapeVal]

theorem zipKeys_map (U : Bytes → Bytes) : ∀ (ns vs : List Bytes),
    zipKeys ns (vs.map U) = (zipKeys ns vs).map (fun kv => (kv.1, U kv.2))
  | [], [] => by simp [zipKeys]
  | _ :: _, [] => by simp [zipKeys]
  | [], v :: vs => by simp [zipKeys, zipKeys_map U [] vs]
  | n :: ns, v :: vs => by simp [zipKeys, zipKeys_map U ns vs]

theorem unescFirst_none_take : ∀ (n : Nat) (arr : List Bytes),
    (unescFirst n none arr).take n = (arr.take n).map (unescapeVal true)
  | 0, arr => by simp [unescFirst]
  | n + 1, [] => by simp [unescFirst]
  | n + 1, v :: r => by simp [unescFirst, unescFirst_none_take n r]

theorem unescFirst_skip_take : ∀ (d : Nat) (arr : List Bytes) (x : Bytes), d < arr.length →
    (unescFirst (d + 1) (some d) (arr.set d x)).take (d + 1) = (arr.take d).map (unescapeVal true) ++ [x]
  | _, [], _, h => by simp at h
  | 0, v :: r, x, _ => by simp [unescFirst]
  | d + 1, v :: r, x, h => by
    simp at h
    simp [unescFirst, List.set, unescFirst_skip_take d r x h]

theorem visitChild_eq (cs : List Node) (c : UInt8) (s : Bytes) (ps : List Bytes) (cap : Nat) :
    visitChild cs c s ps cap = match findChild cs c with | none => .miss | some ch => visit ch s ps cap := by
  induction cs with
  | nil => simp [visitChild, findChild]
  | cons x r ih =>
    simp only [visitChild, findChild]
    by_cases h : x.label = c
    · simp [h]
    · simp [h, ih]

theorem seg_split (s : Bytes) : segValue s ++ segRest s = s := by
  simp [segValue, segRest, List.takeWhile_append_dropWhile]

theorem drop_seg (path : Bytes) (si : Nat) (s : Bytes) (h : path.drop si = s) :
    path.drop (si + (segValue s).length) = segRest s := by
  have e : s = segValue s ++ segRest s := (seg_split s).symm
  rw [← List.drop_drop, h]
  conv => lhs; arg 2; rw [e]
  simp

theorem segValue_length_le (s : Bytes) : (segValue s).length ≤ s.length := by
  rw [← congrArg List.length (seg_split s), List.length_append]
  exact Nat.le_add_right _ _

theorem drop_len_eq (path : Bytes) (si : Nat) (s : Bytes) (h : path.drop si = s) (hle : si ≤ path.length) :
    si + s.length = path.length := by
  rw [← h, List.length_drop]
  exact Nat.add_sub_cancel' hle

-- A state is `⟨stack, search, searchIndex, arr, paramIndex, plen, tsr⟩` (`St`); between the blocks of the loop
-- `paramIndex = plen` is the number of live values, written `d` (in a node) or `j`, `j + 1` (entering one).

theorem back_static (u : Bool) (path : Bytes) (n : Node) (S : List Node) (s : Bytes) (si : Nat) (arr : List Bytes) (d : Nat) (t : Bool)
    (hk : n.kind = .skind) (hac : n.anyChild = none) (h : si ≤ path.length) :
    Exits u path 1 .any ⟨n :: S, s, si + n.pfx.length, arr, d, d, t⟩ S .param ⟨S, path.drop si, si, arr, d, d, t⟩ := by
  intro f
  rw [Nat.add_comm]
  cases S <;> simp [run, step, stepAny, hac, backtrack, hk, afterBack, nextKind, Nat.not_lt.mpr h, Nat.not_lt.mpr (Nat.le_add_left _ si)]

theorem back_param (u : Bool) (path : Bytes) (n : Node) (S : List Node) (s : Bytes) (si : Nat) (arr : List Bytes) (j : Nat) (t : Bool)
    (hk : n.kind = .pkind) (hac : n.anyChild = none) (h1 : (arr.getD j []).length ≤ si)
    (h2 : si - (arr.getD j []).length ≤ path.length) :
    Exits u path 1 .any ⟨n :: S, s, si, arr, j + 1, j + 1, t⟩ S .any
      ⟨S, path.drop (si - (arr.getD j []).length), si - (arr.getD j []).length, arr, j, j, t⟩ := by
  intro f
  rw [Nat.add_comm]
  have e0 : ¬ (j + 1 ≤ j) := Nat.not_succ_le_self j
  simp only [List.getD_eq_getElem?_getD] at h1 h2 ⊢
  cases S <;> simp [run, step, stepAny, hac, backtrack, hk, afterBack, nextKind, Nat.not_lt.mpr h1, Nat.not_lt.mpr h2, e0]

theorem top_mismatch (u : Bool) (path : Bytes) (n : Node) (S : List Node) (s : Bytes) (si : Nat) (arr : List Bytes) (d : Nat) (t : Bool)
    (hk : n.kind = .skind) (hpre : ¬ n.pfx.isPrefixOf s = true) :
    ∃ t', Exits u path 1 .top ⟨n :: S, s, si, arr, d, d, t⟩ S .param ⟨S, s, si, arr, d, d, t'⟩ := by
  refine ⟨t || (n.pfx.length == s.length + 1 && n.pfx.getD s.length 0 == 47 && n.pfx.take s.length == s
    && (n.handlers.isSome || n.anyChild.isSome)), ?_⟩
  intro f
  rw [Nat.add_comm]
  simp only [run, step, stepTop, hk, if_true, hpre, Bool.false_eq_true, if_false, backtrack, afterBack, nextKind]
  cases S <;> simp

/-- a node is left after at most four program points beyond those spent in its subtrees -/
theorem node_steps (L P A : Nat) : 1 + (1 + 4 * L + (1 + 4 * P + 1)) ≤ 4 * (1 + L + P + A) := by omega

/-- the machine halts within `k` steps with the hit `f`, its values unescaped iff `u`; the `tsr` flag, the dead part of
the params array and its length are left open -/
def HitC (u : Bool) (path : Bytes) (k : Nat) (pc : Pc) (st : St) (f : Found) : Prop :=
  ∃ t' arr' plen', Halts u path k pc st
    (.value (some f.handlers) f.fullPath (f.params.map fun kv => (kv.1, unescapeVal u kv.2)) t' arr' plen')

/-- `n` entered at `top` as a static child with `j` live parameter values (`arr.take j`), any ancestors `S`: a hit of
`visit` is returned within `B` steps; on a miss the machine is back within `B` steps at `Param:` of the parent with
`search`, `searchIndex` and the live values as they were -/
def SimStatic (u : Bool) (path : Bytes) (cap : Nat) (n : Node) (j B : Nat) : Prop :=
  ∀ (S : List Node) (s : Bytes) (si : Nat) (arr : List Bytes) (t : Bool),
    arr.length = cap → path.drop si = s → si ≤ path.length →
    (∀ f, visit n s (arr.take j) cap = .hit f → ∃ k, k ≤ B ∧ HitC u path k .top ⟨n :: S, s, si, arr, j, j, t⟩ f) ∧
    (visit n s (arr.take j) cap = .miss → ∃ k, k ≤ B ∧ ∃ arr' t', arr'.length = cap ∧ arr'.take j = arr.take j ∧
        Exits u path k .top ⟨n :: S, s, si, arr, j, j, t⟩ S .param ⟨S, s, si, arr', j, j, t'⟩)

/-- the same for a parameter child, entered with `j + 1` live values whose last, `arr[j]`, is the segment it consumed
(hence no longer than `si`): a miss leaves at `Any:` of the parent with that segment given back, i.e. `searchIndex`
`si - arr[j].length`, and `j` live values -/
def SimParam (u : Bool) (path : Bytes) (cap : Nat) (n : Node) (j B : Nat) : Prop :=
  ∀ (S : List Node) (s : Bytes) (si : Nat) (arr : List Bytes) (t : Bool),
    arr.length = cap → path.drop si = s → si ≤ path.length → (arr.getD j []).length ≤ si →
    (∀ f, visit n s (arr.take (j + 1)) cap = .hit f →
        ∃ k, k ≤ B ∧ HitC u path k .top ⟨n :: S, s, si, arr, j + 1, j + 1, t⟩ f) ∧
    (visit n s (arr.take (j + 1)) cap = .miss → ∃ k, k ≤ B ∧ ∃ arr' t', arr'.length = cap ∧
        arr'.take (j + 1) = arr.take (j + 1) ∧
        Exits u path k .top ⟨n :: S, s, si, arr, j + 1, j + 1, t⟩ S .any
          ⟨S, path.drop (si - (arr.getD j []).length), si - (arr.getD j []).length, arr', j, j, t'⟩)

/-- A block of the loop started at `(pc, st)` against its result `R` in the recursive formulation: a hit is returned
within `B` steps; on a miss the run goes on within `B` steps as `K arr' t'`, for an array that agrees with `arr` on the
`d` live values and some `tsr` flag.  `SimStatic` and `SimParam` are `Sim` of a whole node, `K` being the exit to the
parent; inside a node `K` is a run from the next block. -/
def Sim (u : Bool) (path : Bytes) (cap : Nat) (R : Res) (B : Nat) (pc : Pc) (st : St) (d : Nat) (arr : List Bytes)
    (K : List Bytes → Bool → Nat → Option Out) : Prop :=
  (∀ f, R = .hit f → ∃ k, k ≤ B ∧ HitC u path k pc st f) ∧
  (R = .miss → ∃ k, k ≤ B ∧ ∃ arr' t', arr'.length = cap ∧ arr'.take d = arr.take d ∧
    ∀ f, run path u (k + f) pc st = K arr' t' f)

section
variable {u : Bool} {path : Bytes} {cap a k B B' : Nat} {R : Res} {pc0 pc : Pc} {st0 st : St} {d : Nat} {arr : List Bytes}
  {K : List Bytes → Bool → Nat → Option Out}

theorem Sim.miss {t : Bool} (hl : arr.length = cap) (hk : k ≤ B) (h : ∀ f, run path u (k + f) pc st = K arr t f) :
    Sim u path cap .miss B pc st d arr K :=
  ⟨fun _ hf => (nomatch hf), fun _ => ⟨k, hk, arr, t, hl, rfl, h⟩⟩

theorem Sim.hit {g : Found} (hk : k ≤ B) (h : HitC u path k pc st g) : Sim u path cap (.hit g) B pc st d arr K :=
  ⟨fun _ hf => Res.hit.inj hf ▸ ⟨k, hk, h⟩, fun hm => nomatch hm⟩

/-- steps in front of a block -/
theorem Sim.pre (hs : Reach u path a pc0 st0 pc st) (h : Sim u path cap R B pc st d arr K) (hB : a + B ≤ B') :
    Sim u path cap R B' pc0 st0 d arr K :=
  ⟨fun f hf =>
    let ⟨k, hk, t', arr', plen', hh⟩ := h.1 f hf
    ⟨a + k, Nat.le_trans (Nat.add_le_add_left hk a) hB, t', arr', plen', reach_then hs hh⟩,
   fun hm =>
    let ⟨k, hk, arr', t', hl, ht, hr⟩ := h.2 hm
    ⟨a + k, Nat.le_trans (Nat.add_le_add_left hk a) hB, arr', t', hl, ht, reach_then hs hr⟩⟩

/-- the same block with another continuation, equal to `K` on the arrays a miss can leave -/
theorem Sim.mono {d2 : Nat} {arr2 : List Bytes} {K2 : List Bytes → Bool → Nat → Option Out} (h : Sim u path cap R B pc st d arr K)
    (hK : ∀ arr' t', arr'.take d = arr.take d → arr'.take d2 = arr2.take d2 ∧ ∀ f, K arr' t' f = K2 arr' t' f) :
    Sim u path cap R B pc st d2 arr2 K2 :=
  ⟨h.1, fun hm =>
    let ⟨k, hk, arr', t', hl, ht, hr⟩ := h.2 hm
    ⟨k, hk, arr', t', hl, (hK arr' t' ht).1, fun f => (hr f).trans ((hK arr' t' ht).2 f)⟩⟩

/-- two blocks in sequence are `orElse` of their recursive counterparts: the second starts where the first leaves on a
miss, with an array that agrees with `arr` on the live values -/
theorem Sim.orElse {B1 B2 : Nat} {r r2 : Res} {pc1 : Pc} {tgt : List Bytes → Bool → St}
    (h1 : Sim u path cap r B1 pc st d arr fun arr' t' f => run path u f pc1 (tgt arr' t'))
    (h2 : ∀ arr1 t1, arr1.length = cap → arr1.take d = arr.take d → Sim u path cap r2 B2 pc1 (tgt arr1 t1) d arr1 K) :
    Sim u path cap (r.orElse fun _ => r2) (B1 + B2) pc st d arr K := by
  cases r with
  | miss =>
    obtain ⟨k, hk, arr1, t1, hl, ht, hr⟩ := h1.2 rfl
    exact ((h2 arr1 t1 hl ht).pre hr (Nat.add_le_add_right hk B2)).mono fun _ _ h => ⟨h.trans ht, fun _ => rfl⟩
  | hit g =>
    obtain ⟨k, hk, hh⟩ := h1.1 g rfl
    exact Sim.hit (Nat.le_trans hk (Nat.le_add_right B1 B2)) hh
  | stop => exact ⟨fun _ hf => (nomatch hf), fun hm => nomatch hm⟩
  | panic x => exact ⟨fun _ hf => (nomatch hf), fun hm => nomatch hm⟩

/-- `Any:` with a catch-all child: the recursive hit is what the machine returns; a miss means there is no catch-all,
and the next step leaves the node -/
theorem any_sim (n : Node) (S : List Node) (s : Bytes) (si : Nat) (arr : List Bytes) (d : Nat)
    (t : Bool) (hwf : WFO n.anyChild .akind) (hp : PnOKO n.anyChild d cap) (hlen : arr.length = cap)
    (hK : n.anyChild = none → ∀ f, run path u (1 + f) .any ⟨n :: S, s, si, arr, d, d, t⟩ = K arr t f) :
    Sim u path cap (visitAny n.anyChild s (arr.take d) cap) 1 .any ⟨n :: S, s, si, arr, d, d, t⟩ d arr K := by
  cases hac : n.anyChild with
  | none => exact Sim.miss hlen (Nat.le_refl 1) (hK hac)
  | some a =>
    rw [hac] at hwf hp
    obtain ⟨label, ppath, pnames, h, rfl⟩ := WF_any a hwf
    rw [PnOKO] at hp
    obtain ⟨hcap, hpn'⟩ := PnOK_any hp
    have hd : d < arr.length := hlen ▸ hcap
    have htl : (arr.take d).length = d := List.length_take_of_le (Nat.le_of_lt hd)
    rw [visitAny_some (ps := arr.take d) (htl.symm ▸ hpn') (htl.symm ▸ hcap)]
    have h1 : ¬ d + 1 > arr.length := Nat.not_lt.2 hd
    have h2 : ¬ d ≥ d + 1 := Nat.not_succ_le_self d
    cases u with
    | false =>
      refine Sim.hit (Nat.le_refl 1) ⟨t, arr.set d s, d + 1, halts_step ?_⟩
      rw [map_unescapeVal_false]
      simp only [step, stepAny, hac, Node.pnames, Node.handlers, Node.ppath, post, hpn', Nat.add_sub_cancel,
        if_neg h1, Nat.succ_ne_zero, decide_false, Bool.false_or, decide_eq_true_eq, if_neg h2, gt_iff_lt,
        Nat.lt_irrefl, if_false, Bool.false_and, Bool.false_eq_true, unescapeVal, take_set_succ arr d s hd]
    | true =>
      refine Sim.hit (Nat.le_refl 1)
        ⟨t, unescFirst (d + 1) (some d) (arr.set d (unescapeVal true s)), d + 1, halts_step ?_⟩
      have hsk : skipIdx (Node.mk .akind label [42] [] ppath pnames (some h) none none) = some d := by
        simp only [skipIdx, Node.kind, Node.pnames, hpn', Nat.add_sub_cancel, true_and, ge_iff_le, Nat.le_add_left,
          if_true]
      simp only [step, stepAny, hac, Node.pnames, Node.handlers, Node.ppath, post, hsk, hpn', Nat.add_sub_cancel,
        if_neg h1, Nat.succ_ne_zero, decide_false, Bool.false_or, decide_eq_true_eq, if_neg h2, gt_iff_lt,
        Nat.lt_irrefl, if_false, Option.isSome_some, Bool.and_self, if_true,
        unescFirst_skip_take d arr (unescapeVal true s) hd, ← zipKeys_map, List.map_append, List.map_cons, List.map_nil]

/-- result of the `Param:` and `Any:` blocks in the recursive formulation -/
def paRes (n : Node) (s : Bytes) (ps : List Bytes) (cap : Nat) : Res :=
  (match s with
    | [] => Res.miss
    | _ :: _ => visitParam n.paramChild s ps cap).orElse fun _ => visitAny n.anyChild s ps cap

theorem param_sim (n : Node) (S : List Node) (s : Bytes) (si : Nat) (arr : List Bytes) (d : Nat)
    (t : Bool) (hlen : arr.length = cap) (hdrop : path.drop si = s) (hsi : si ≤ path.length) (hd : d ≤ cap)
    (hwfA : WFO n.anyChild .akind) (hpA : PnOKO n.anyChild d cap)
    (hP : ∀ pn, n.paramChild = some pn → d + 1 ≤ cap ∧ SimParam u path cap pn d (4 * size pn))
    (hK : ∀ arr' t', arr'.length = cap → arr'.take d = arr.take d → n.anyChild = none →
      ∀ f, run path u (1 + f) .any ⟨n :: S, s, si, arr', d, d, t'⟩ = K arr' t' f) :
    Sim u path cap (paRes n s (arr.take d) cap) (1 + 4 * sizeO n.paramChild + 1) .param ⟨n :: S, s, si, arr, d, d, t⟩ d arr K := by
  have htl : (arr.take d).length = d := List.length_take_of_le (hlen ▸ hd)
  refine Sim.orElse (pc1 := .any) (tgt := fun arr' t' => ⟨n :: S, s, si, arr', d, d, t'⟩) ?_ fun arr1 t1 hl ht =>
    ht ▸ any_sim n S s si arr1 d t1 hwfA hpA hl (hK arr1 t1 hl ht)
  -- the `Param:` block: skipped on an empty path or without a parameter child
  cases s with
  | nil => exact Sim.miss (t := t) hlen (Nat.le_add_right 1 _) (reach_step (by cases n.paramChild <;> simp [step, stepParam]))
  | cons c r' =>
    cases hpc : n.paramChild with
    | none => exact Sim.miss (t := t) hlen (Nat.le_add_right 1 _) (reach_step (by simp [step, stepParam, hpc]))
    | some pn =>
      obtain ⟨hcap, hsim⟩ := hP pn hpc
      have hdl : d < arr.length := hlen ▸ hcap
      have hsum := drop_len_eq path si (c :: r') hdrop hsi
      have hgd : (arr.set d (segValue (c :: r'))).getD d [] = segValue (c :: r') := getD_set_same arr d _ hdl
      -- one step into the parameter node, then its subtree; a miss gives the segment back
      have hb := hsim (n :: S) (segRest (c :: r')) (si + (segValue (c :: r')).length) (arr.set d (segValue (c :: r')))
          (t || ((segRest (c :: r')).isEmpty && tsrChild pn)) (by simp [hlen]) (drop_seg path si _ hdrop)
          (hsum ▸ Nat.add_le_add_left (segValue_length_le _) si) (by rw [hgd]; exact Nat.le_add_left _ si)
      rw [hgd, Nat.add_sub_cancel, hdrop] at hb
      simp only [visitParam, htl, if_neg (Nat.not_lt.2 hcap), sizeO, ← take_set_succ arr d _ hdl]
      refine Sim.pre (reach_step (by simp only [step, stepParam, hpc, hlen, if_neg (Nat.not_lt.2 hcap)]))
        (Sim.mono hb fun _ _ h => ⟨(take_succ_take _ _ d h).trans (take_set_same arr d _), fun _ => if_neg (List.cons_ne_nil n S)⟩)
        (Nat.le_refl _)

theorem bodyRes_cons (n : Node) (c : UInt8) (r : Bytes) (ps : List Bytes) (cap : Nat) :
    bodyRes n.children n.ppath n.pnames n.handlers n.paramChild n.anyChild (c :: r) ps cap =
      (match findChild n.children c with
        | none => Res.miss
        | some ch => visit ch (c :: r) ps cap).orElse fun _ => paRes n (c :: r) ps cap := by
  simp only [bodyRes, paRes, visitChild_eq]

theorem body_sim (n : Node) (S : List Node) (s : Bytes) (si : Nat) (arr : List Bytes) (d : Nat)
    (t : Bool) (hlen : arr.length = cap) (hdrop : path.drop si = s) (hsi : si ≤ path.length) (hd : d ≤ cap)
    (hk : n.kind ≠ .akind)
    (hwfA : WFO n.anyChild .akind) (hpA : PnOKO n.anyChild d cap)
    (hP : ∀ pn, n.paramChild = some pn → d + 1 ≤ cap ∧ SimParam u path cap pn d (4 * size pn))
    (hL : ∀ c ch, findChild n.children c = some ch → SimStatic u path cap ch d (4 * size ch) ∧ size ch ≤ sizeL n.children)
    (hK : ∀ arr' t', arr'.length = cap → arr'.take d = arr.take d → n.anyChild = none →
      ∀ f, run path u (1 + f) .any ⟨n :: S, s, si, arr', d, d, t'⟩ = K arr' t' f) :
    Sim u path cap (bodyRes n.children n.ppath n.pnames n.handlers n.paramChild n.anyChild s (arr.take d) cap)
      (1 + 4 * sizeL n.children + (1 + 4 * sizeO n.paramChild + 1)) .body ⟨n :: S, s, si, arr, d, d, t⟩ d arr K := by
  have htl : (arr.take d).length = d := List.length_take_of_le (hlen ▸ hd)
  -- the static block, with result `r` and left at `Param:`, then the `Param:` and `Any:` blocks, the dead part of the
  -- params array possibly changed
  have seq : ∀ {r : Res}, Sim u path cap r (1 + 4 * sizeL n.children) .body ⟨n :: S, s, si, arr, d, d, t⟩ d arr
        (fun arr' t' f => run path u f .param ⟨n :: S, s, si, arr', d, d, t'⟩) →
      Sim u path cap (r.orElse fun _ => paRes n s (arr.take d) cap)
        (1 + 4 * sizeL n.children + (1 + 4 * sizeO n.paramChild + 1)) .body ⟨n :: S, s, si, arr, d, d, t⟩ d arr K :=
    fun h => Sim.orElse h fun arr1 t1 hl ht =>
      ht ▸ param_sim n S s si arr1 d t1 hl hdrop hsi hd hwfA hpA hP fun arr' t' hl' ht' => hK arr' t' hl' (ht'.trans ht)
  cases s with
  | nil =>
    cases hh : n.handlers with
    | some h =>
      simp only [bodyRes, finish, htl]
      by_cases hpn : n.pnames.length > d
      · simp only [hpn, if_true]
        exact ⟨fun _ hf => (nomatch hf), fun hm => nomatch hm⟩
      · simp only [hpn, if_false]
        have h1le : 1 ≤ 1 + 4 * sizeL n.children + (1 + 4 * sizeO n.paramChild + 1) :=
          Nat.le_trans (Nat.le_add_right 1 _) (Nat.le_add_right _ _)
        cases u with
        | false =>
          refine Sim.hit h1le ⟨t, arr, d, halts_step ?_⟩
          rw [map_unescapeVal_false]
          simp [step, stepBody, hh, post, hpn]
        | true =>
          have hsk : skipIdx n = none := by simp [skipIdx, hk]
          refine Sim.hit h1le ⟨t, unescFirst d none arr, d, halts_step ?_⟩
          simp only [step, stepBody, hh, post, hsk, if_neg hpn, Option.isSome_some, Bool.and_self, if_true,
            unescFirst_none_take]
          rw [← zipKeys_map]
    | none =>
      -- on an empty path without handlers `bodyRes` is `paRes`, by computation
      exact seq (r := .miss) (Sim.miss (t := t || tsrChild n) hlen (Nat.le_add_right 1 _)
        (reach_step (by simp [step, stepBody, hh])))
  | cons c r =>
    rw [bodyRes_cons]
    cases hfc : findChild n.children c with
    | none =>
      exact seq (r := .miss) (Sim.miss (t := t || (r.isEmpty && c == 47 && n.handlers.isSome)) hlen (Nat.le_add_right 1 _)
        (reach_step (by simp [step, stepBody, hfc])))
    | some ch =>
      obtain ⟨hsim, hszc⟩ := hL c ch hfc
      -- into the static child; a miss leaves it at `Param:` of `n`
      exact seq (Sim.pre (reach_step (by simp [step, stepBody, hfc]))
        (Sim.mono (hsim (n :: S) (c :: r) si arr (t || (r.isEmpty && c == 47 && n.handlers.isSome)) hlen hdrop hsi)
          fun _ _ h => ⟨h, fun _ => if_neg (List.cons_ne_nil n S)⟩)
        (Nat.add_le_add_left (Nat.mul_le_mul_left 4 hszc) 1))
end

theorem isPrefix_len (p s : Bytes) (h : p.isPrefixOf s = true) : p.length ≤ s.length :=
  (List.isPrefixOf_iff_prefix.mp h).length_le

/- The statement follows the mutual recursion of `WF`: a child list holds nodes in static position, the parameter child
a node in parameter position, and the two positions have different invariants.  The catch-all position needs none:
a catch-all child is a leaf, handled inside `any_sim`. -/
mutual
theorem visit_sim (u : Bool) (path : Bytes) : (n : Node) → (pos : Kind) → (j cap : Nat) → WF n pos → PnOK n j cap →
    (pos = .skind → SimStatic u path cap n j (4 * size n)) ∧ (pos = .pkind → j + 1 ≤ cap ∧ SimParam u path cap n j (4 * size n))
  | .mk kind label pfx cs ppath pnames hs pc ac, pos, j, cap, hwf, hp => by
    rw [WF_mk] at hwf
    obtain ⟨hk, hl, hpos, hcs, hnd, hpc, hac⟩ := hwf
    rw [PnOK_mk] at hp
    obtain ⟨hcap, hlen', hpL, hpP, hpA⟩ := hp
    subst hk
    have hL := simL u path cs (depthAt kind j) cap hcs hpL
    have hP := simO u path pc (depthAt kind j) cap hpc hpP
    have hbody := fun (hkk : kind ≠ .akind) (S : List Node) (s : Bytes) (si : Nat) (arr : List Bytes) (t : Bool)
        (h1 : arr.length = cap) (h2 : path.drop si = s) (h3 : si ≤ path.length) (K : List Bytes → Bool → Nat → Option Out) =>
      body_sim (K := K) (.mk kind label pfx cs ppath pnames hs pc ac) S s si arr (depthAt kind j) t h1 h2 h3 hcap
        (by simpa [Node.kind] using hkk) hac hpA hP hL
    constructor
    · intro hpos'
      subst hpos'
      -- `depthAt .skind j` is `j`, `depthAt .pkind j` is `j + 1`, by computation
      have hbody := hbody (by decide)
      intro S s si arr t h1 h2 h3
      -- the goal, `SimStatic` unfolded, is a `Sim` whose continuation is the `Exits` of `back_static` / `top_mismatch`
      rw [visit_mk]
      simp only [if_true]
      by_cases hpre : pfx.isPrefixOf s = true
      · rw [if_pos hpre]
        have hple := isPrefix_len pfx s hpre
        have hsum := drop_len_eq path si s h2 h3
        refine Sim.pre (reach_step (by simp [step, stepTop, Node.kind, Node.pfx, hpre, depthAt]))
          (hbody S (s.drop pfx.length) (si + pfx.length) arr t h1 (by rw [← List.drop_drop, h2])
            (hsum ▸ Nat.add_le_add_left hple si) _ fun arr' t' _ _ hacn => ?_) (node_steps (sizeL cs) (sizeO pc) (sizeO ac))
        exact h2 ▸ back_static u path (.mk .skind label pfx cs ppath pnames hs pc ac) S (s.drop pfx.length) si arr' j t' rfl hacn h3
      · rw [if_neg hpre]
        obtain ⟨t', hex⟩ := top_mismatch u path (.mk .skind label pfx cs ppath pnames hs pc ac) S s si arr j t rfl
          (by simpa [Node.pfx] using hpre)
        exact Sim.miss h1 (Nat.le_trans (Nat.le_add_right 1 _) (node_steps (sizeL cs) (sizeO pc) (sizeO ac))) hex
    · intro hpos'
      subst hpos'
      have hbody := hbody (by decide)
      refine ⟨hcap, ?_⟩
      intro S s si arr t h1 h2 h3 h4
      rw [visit_mk]
      simp only [reduceCtorEq, if_false]
      refine Sim.pre (reach_step (by simp [step, stepTop, Node.kind, depthAt]))
        (hbody S s si arr t h1 h2 h3 _ fun arr' t' _ ht' hacn => ?_) (node_steps (sizeL cs) (sizeO pc) (sizeO ac))
      have hg := getD_of_take arr' arr j ht'
      have hex := back_param u path (.mk .pkind label pfx cs ppath pnames hs pc ac) S s si arr' j t' rfl hacn
        (by rw [hg]; exact h4) (Nat.le_trans (Nat.sub_le _ _) h3)
      rw [hg] at hex
      exact hex
theorem simL (u : Bool) (path : Bytes) : (cs : List Node) → (d cap : Nat) → WFL cs → PnOKL cs d cap →
    ∀ c ch, findChild cs c = some ch → SimStatic u path cap ch d (4 * size ch) ∧ size ch ≤ sizeL cs
  | [], _, _, _, _ => by intro c ch h; simp [findChild] at h
  | x :: r, d, cap, hwf, hp => by
    intro c ch h
    simp only [WFL] at hwf
    simp only [PnOKL] at hp
    simp only [findChild] at h
    by_cases hl : x.label = c
    · rw [if_pos hl] at h
      injection h with h
      subst h
      exact ⟨(visit_sim u path x .skind d cap hwf.1 hp.1).1 rfl, Nat.le_add_right _ _⟩
    · rw [if_neg hl] at h
      obtain ⟨h1, h2⟩ := simL u path r d cap hwf.2 hp.2 c ch h
      exact ⟨h1, Nat.le_trans h2 (Nat.le_add_left _ _)⟩
theorem simO (u : Bool) (path : Bytes) : (pc : Option Node) → (d cap : Nat) → WFO pc .pkind → PnOKO pc d cap →
    ∀ pn, pc = some pn → d + 1 ≤ cap ∧ SimParam u path cap pn d (4 * size pn)
  | none, _, _, _, _ => by intro pn h; cases h
  | some x, d, cap, hwf, hp => by
    intro pn h
    injection h with h
    subst h
    simp only [WFO] at hwf
    simp only [PnOKO] at hp
    exact (visit_sim u path x .pkind d cap hwf hp).2 rfl
end

end Hertz.Route.Iter

