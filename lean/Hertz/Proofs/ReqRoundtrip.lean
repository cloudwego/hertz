import Hertz.Proofs.Http1
import Hertz.Spec.Http
import Hertz.Proofs.SpecHex
import Hertz.Proofs.Tables
import Hertz.Proofs.ChunkedWire
import Hertz.Proofs.Dec
import Hertz.Proofs.ReqOwsLine
/-!
Round trip of the request reader (C01): the wire encoding of a well-formed request, followed by
arbitrary bytes, is read back by the model of `req.parse` / `ContinueReadBody` / `Server.Serve` as
exactly that request, consuming exactly the encoding.

Defined here: the encoder, the well-formedness predicates and what the reader is expected to return (the strict
decoder of `Spec/Http.lean` is the independent reading of the same grammar; `Spec.Http.isToken`,
`isFieldVchar`, `lookupAll`, `parseDec`, `parseHex` are reused so that the hypotheses are the
conditions of that decoder).  Proved here: what does not depend on how a field line is spelled (request line,
name classification, the fields folded, `Trailer` declarations, bodies).  The round trip itself is proved for
every spelling of a field line (`ReqRoundtripOws.lean`, `ReqAny.lean`); the encoder of this file is one of them.
-/
namespace Hertz.H1.RT
open Hertz Hertz.H1 Hertz.Gen.Str Hertz.Spec.Http

/-! ### encoder and well-formedness -/

/-- one field line `name ": " value CRLF` -/
def encField (kv : Bytes × Bytes) : Bytes := kv.1 ++ 58 :: 32 :: (kv.2 ++ [13, 10])

def encFields : List (Bytes × Bytes) → Bytes
  | [] => []
  | kv :: t => encField kv ++ encFields t

/-- request line, field lines, empty line -/
def encHead (m t : Bytes) (fs : List (Bytes × Bytes)) : Bytes :=
  m ++ 32 :: (t ++ 32 :: (strHTTP11 ++ 13 :: 10 :: (encFields fs ++ [13, 10])))

/-- neither end of the value is a blank (SP / HTAB) -/
def noBlankEnds (v : Bytes) : Bool :=
  (match v.head? with | some c => c != 32 && c != 9 | none => true) &&
  (match v.getLast? with | some c => c != 32 && c != 9 | none => true)

/-- field value: field-vchars (no CR, LF, NUL, other CTL), already OWS-trimmed -/
def wfValue (v : Bytes) : Bool := v.all isFieldVchar && noBlankEnds v
def wfField (kv : Bytes × Bytes) : Bool := isToken kv.1 && wfValue kv.2
/-- request target: non-empty, no SP / CTL / DEL -/
def wfTarget (t : Bytes) : Bool := !t.isEmpty && t.all (fun c => 33 ≤ c && c != 127)

/-! ### the specification's lower-casing -/

theorem lower_eq (c : UInt8) : Spec.Http.lower c = lowerSpec c := by
  simp [Spec.Http.lower, lowerSpec]

theorem lowerAll_eq (b : Bytes) : lowerAll b = b.map lowerSpec := by
  simp [lowerAll, lower_eq]

/-! ### the request line -/

theorem lastIndexByte_tail (t v : Bytes) (hv : ∀ x ∈ v, x ≠ 32) :
    lastIndexByte 32 (t ++ 32 :: v) = some t.length := by
  unfold lastIndexByte
  have e : (t ++ 32 :: v).reverse = v.reverse ++ 32 :: t.reverse := by simp
  rw [e, indexByte_skip 32 v.reverse t.reverse (fun x hx => hv x (by simpa using hx))]
  simp

theorem parseFirstLine_enc (m t tail : Bytes) (hm : isToken m = true) (ht : wfTarget t = true) :
    parseFirstLine ((m ++ 32 :: (t ++ 32 :: strHTTP11)) ++ 13 :: 10 :: tail) =
      .ok ({ method := m, uri := t, http11 := true }, (m ++ 32 :: (t ++ 32 :: strHTTP11)).length + 2) := by
  obtain ⟨hm0, hmf⟩ := token_facts m hm
  have ht0 : t ≠ [] := by rintro rfl; cases ht
  have hnl := nextLine_crlf _ tail fun x hx =>
    (ReqDecodes.startLine_clean m t hm ht x (ReqDecodes.strHTTP11_eq ▸ hx)).2
  have hne : (m ++ 32 :: (t ++ 32 :: strHTTP11)).isEmpty = false := by simp
  -- the line splits at its first and at its last space
  have hi := indexByte_skip 32 m (t ++ 32 :: strHTTP11) (fun x hx => (hmf x hx).ne32)
  have htk : (m ++ 32 :: (t ++ 32 :: strHTTP11)).take m.length = m := List.take_left
  have hd : (m ++ 32 :: (t ++ 32 :: strHTTP11)).drop (m.length + 1) = t ++ 32 :: strHTTP11 :=
    List.drop_length_add_append 1
  have hli := lastIndexByte_tail t strHTTP11 (by decide)
  have htk2 : (t ++ 32 :: strHTTP11).take t.length = t := List.take_left
  have hd2 : (t ++ 32 :: strHTTP11).drop (t.length + 1) = strHTTP11 := List.drop_length_add_append 1
  -- neither index is 0, which `parseFirstLine` refuses
  obtain ⟨n, hn⟩ := Nat.exists_eq_succ_of_ne_zero (mt List.length_eq_zero_iff.mp hm0)
  obtain ⟨k, hk⟩ := Nat.exists_eq_succ_of_ne_zero (mt List.length_eq_zero_iff.mp ht0)
  rw [hn] at hi htk hd
  rw [hk] at hli htk2 hd2
  simp only [parseFirstLine, parseFirstLineAux, hnl, hne, Bool.false_eq_true, if_false, bind, Except.bind, hi, htk, hd,
    hli, htk2, hd2]
  simp [strHTTP11]
  omega

/-! ### one encoded field line -/

theorem encField_line (kv : Bytes × Bytes) (tail : Bytes) :
    encField kv ++ tail = (kv.1 ++ 58 :: 32 :: (kv.2 ++ [13])) ++ 10 :: tail := by
  simp [encField]

theorem noBlankEnds_iff (v : Bytes) : noBlankEnds v = true ↔
    (∀ c, v.head? = some c → c ≠ 32 ∧ c ≠ 9) ∧ (∀ c, v.getLast? = some c → c ≠ 32 ∧ c ≠ 9) := by
  unfold noBlankEnds
  cases v.head? <;> cases v.getLast? <;> simp

/-! ### classification of field names -/

def sHost : Bytes := [104, 111, 115, 116]
def sUserAgent : Bytes := [117, 115, 101, 114, 45, 97, 103, 101, 110, 116]
def sContentType : Bytes := [99, 111, 110, 116, 101, 110, 116, 45, 116, 121, 112, 101]
def sConnection : Bytes := [99, 111, 110, 110, 101, 99, 116, 105, 111, 110]
def sTrailer : Bytes := [116, 114, 97, 105, 108, 101, 114]

/-- the field names the request reader treats specially (compared ignoring ASCII case) -/
inductive Cls where
  | host | ua | ct | cl | conn | te | trailer | other
deriving DecidableEq, Repr

def cls (k : Bytes) : Cls :=
  if lowerAll k = sHost then .host
  else if lowerAll k = sUserAgent then .ua
  else if lowerAll k = sContentType then .ct
  else if lowerAll k = sContentLength then .cl
  else if lowerAll k = sConnection then .conn
  else if lowerAll k = sTransferEncoding then .te
  else if lowerAll k = sTrailer then .trailer
  else .other

theorem cls_iff (k : Bytes) :
    (cls k = .host ↔ lowerAll k = sHost) ∧ (cls k = .ua ↔ lowerAll k = sUserAgent) ∧
    (cls k = .ct ↔ lowerAll k = sContentType) ∧ (cls k = .cl ↔ lowerAll k = sContentLength) ∧
    (cls k = .conn ↔ lowerAll k = sConnection) ∧ (cls k = .te ↔ lowerAll k = sTransferEncoding) ∧
    (cls k = .trailer ↔ lowerAll k = sTrailer) := by
  unfold cls
  generalize lowerAll k = L
  by_cases h1 : L = sHost
  · subst h1; decide
  by_cases h2 : L = sUserAgent
  · subst h2; decide
  by_cases h3 : L = sContentType
  · subst h3; decide
  by_cases h4 : L = sContentLength
  · subst h4; decide
  by_cases h5 : L = sConnection
  · subst h5; decide
  by_cases h6 : L = sTransferEncoding
  · subst h6; decide
  by_cases h7 : L = sTrailer
  · subst h7; decide
  simp [h1, h2, h3, h4, h5, h6, h7]

theorem cls_cl_iff (k : Bytes) : cls k = .cl ↔ lowerAll k = sContentLength := (cls_iff k).2.2.2.1

theorem cls_te_iff (k : Bytes) : cls k = .te ↔ lowerAll k = sTransferEncoding := (cls_iff k).2.2.2.2.2.1

theorem normalizeKey_lower (dn : Bool) (k : Bytes) : lowerAll (normalizeKey dn k) = lowerAll k := by
  rw [lowerAll_eq, lowerAll_eq]
  unfold normalizeKey
  cases dn <;> simp [normKeyAux_lower]

theorem ciEq_name (key name : Bytes) : ciEq key name = true ↔ lowerAll key = lowerAll name := by
  rw [ciEq_iff, lowerAll_eq, lowerAll_eq]

/-! ### `parseHeaders`' switch on a well-formed field -/

/-- the effect of one well-formed field `(k, v)` on the parse state, by name class -/
def applyWf (dn : Bool) (st : HdrState) (k v : Bytes) : HdrState :=
  let hd := st.head
  let key := normalizeKey dn k
  match cls k with
  | .host => { st with head := { hd with host := v } }
  | .ua => { st with head := { hd with userAgent := v } }
  | .ct => { st with head := { hd with contentType := v } }
  | .cl =>
    if hd.cl != -1 then
      match parseUint v with
      | none => { st with err := true, head := { hd with cl := -2 } }
      | some n => { st with head := { hd with cl := n, clBytes := v } }
    else st
  | .conn =>
    if ciEq v strClose then { st with head := { hd with connClose := true } }
    else { st with head := { hd with connClose := false, h := hd.h ++ [(key, v)] } }
  | .te =>
    if v != strIdentity then
      { st with head := { hd with cl := -1, h := setArg hd.h strTransferEncoding strChunked } }
    else st
  | .trailer =>
    { st with err := st.err || (setTrailers dn v).2, head := { hd with trailer := hd.trailer ++ (setTrailers dn v).1 } }
  | .other => { st with head := { hd with h := hd.h ++ [(key, v)] } }

/-- a byte that lower-cases to a small letter is that letter once bit 5 is set (`s.Key[0] | 0x20`) -/
theorem or20 (c : UInt8) : 97 ≤ lowerSpec c ∧ lowerSpec c ≤ 122 → c ||| 0x20 = lowerSpec c := by
  unfold lowerSpec
  revert c; exact forall_byte (by decide +kernel)

/-- the switch on the first letter adds nothing to the comparison ignoring case -/
theorem cond_iff (k0 : UInt8) (kt name sname : Bytes) (L : UInt8) (hs : lowerAll name = sname)
    (hL : sname.head? = some L) (hl : 97 ≤ L ∧ L ≤ 122) :
    (k0 ||| 0x20 = L ∧ ciEq (k0 :: kt) name = true) ↔ lowerAll (k0 :: kt) = sname := by
  rw [ciEq_name, hs]
  refine ⟨fun h => h.2, fun h => ⟨?_, h⟩⟩
  rw [← h] at hL
  have hk : lowerSpec k0 = L := by simpa [lowerAll, lower_eq] using hL
  exact hk ▸ or20 k0 (hk ▸ hl)

theorem applyHeader_vchar (dn : Bool) (st : HdrState) (k v : Bytes) (hk : isToken k = true)
    (hv : v.all isFieldVchar = true) :
    applyHeader dn st (normalizeKey dn k) v = some (applyWf dn st k v) := by
  obtain ⟨h0, h32, h9⟩ := normalizeKey_facts dn k hk
  have hlow := normalizeKey_lower dn k
  have hval : validHeaderFieldValue v = true := by
    simp only [validHeaderFieldValue, List.all_eq_true] at hv ⊢
    intro x hx
    simpa using (vchar_facts x (hv x hx)).2.2
  unfold applyWf
  generalize normalizeKey dn k = key at *
  obtain ⟨k0, kt, rfl⟩ := List.exists_cons_of_ne_nil h0
  unfold applyHeader
  simp only [h32, h9, hval, Bool.or_false, Bool.false_eq_true, if_false, Bool.not_true]
  have c1 := cond_iff k0 kt strHost sHost 104 (by decide) rfl (by decide)
  have c2 := cond_iff k0 kt strUserAgent sUserAgent 117 (by decide) rfl (by decide)
  have c3 := cond_iff k0 kt strContentType sContentType 99 (by decide) rfl (by decide)
  have c4 := cond_iff k0 kt strContentLength sContentLength 99 (by decide) rfl (by decide)
  have c5 := cond_iff k0 kt strConnection sConnection 99 (by decide) rfl (by decide)
  have c6 := cond_iff k0 kt strTransferEncoding sTransferEncoding 116 (by decide) rfl (by decide)
  have c7 := cond_iff k0 kt strTrailer sTrailer 116 (by decide) rfl (by decide)
  obtain ⟨d1, d2, d3, d4, d5, d6, d7⟩ := cls_iff k
  -- this turns the model's tests into the tests `cls k = …`, in the order of `applyWf`
  simp only [c1, c2, c3, c4, c5, c6, c7, hlow, ← d1, ← d2, ← d3, ← d4, ← d5, ← d6, ← d7]
  cases cls k <;> simp only [reduceCtorEq, if_false, if_true]
  case cl =>
    split
    · cases parseUint v <;> rfl
    · rfl
  case conn => split <;> rfl
  case te => split <;> rfl

/-! ### the `Trailer:` declaration (`Trailer.SetTrailers`) -/

/-- names joined by `", "` -/
def joinNames : List Bytes → Bytes
  | [] => []
  | [k] => k
  | k :: k2 :: t => k ++ 44 :: 32 :: joinNames (k2 :: t)

/-- the comma separated elements of a declaration, blanks around them removed -/
def splitNames (v : Bytes) : List Bytes := (splitOn 44 v).map stripOWS

/-- a name that may be declared: non-empty, no comma or blank, not one of the forbidden trailer names -/
def wfTName (dn : Bool) (k : Bytes) : Bool :=
  !k.isEmpty && k.all (fun c => c != 44 && (c != 32 && c != 9)) && !isBadTrailer (normalizeKey dn k)

/-- the value of a `Trailer` field is exactly its (allowed) names joined by `", "` -/
def declOk (dn : Bool) (v : Bytes) : Bool :=
  (splitNames v).all (wfTName dn) && v == joinNames (splitNames v)

/-- the names a `Trailer` field value declares, as the reader keeps them -/
def declNames (dn : Bool) (v : Bytes) : List Bytes := (splitNames v).map (normalizeKey dn)

theorem splitOn_ne_nil (sep : UInt8) (a : Bytes) : splitOn sep a ≠ [] := by
  fun_cases splitOn sep a <;> simp [*]

theorem wfTName_parts {dn : Bool} {k : Bytes} (h : wfTName dn k = true) :
    k ≠ [] ∧ (∀ x ∈ k, x ≠ 44 ∧ (x ≠ 32 ∧ x ≠ 9)) ∧ isBadTrailer (normalizeKey dn k) = false := by
  simp only [wfTName, Bool.and_eq_true, List.all_eq_true, Bool.not_eq_true'] at h
  refine ⟨?_, ?_, h.2⟩
  · intro e; simp [e] at h
  · intro x hx; have := h.1.2 x hx; simpa using this

theorem setTrailers_join (dn : Bool) (names : List Bytes) (hne : names ≠ []) (hw : ∀ k ∈ names, wfTName dn k = true) :
    setTrailers dn (joinNames names) = (names.map (normalizeKey dn), false) :=
  setTrailers_joined (fun _ => rfl) (fun _ _ _ => rfl) dn names hne fun k hk => wfTName_parts (hw k hk)

theorem setTrailers_declOk (dn : Bool) (v : Bytes) (h : declOk dn v = true) :
    setTrailers dn v = (declNames dn v, false) := by
  simp only [declOk, Bool.and_eq_true, List.all_eq_true, beq_iff_eq] at h
  have hne : splitNames v ≠ [] := by
    unfold splitNames
    intro h0
    exact splitOn_ne_nil 44 v (List.map_eq_nil_iff.mp h0)
  have := setTrailers_join dn (splitNames v) hne h.1
  rw [← h.2] at this
  exact this

/-! ### what the fields of a request amount to (declarative reading) -/

/-- value of the last field of class `c` (`d` if there is none) -/
def pick (c : Cls) : List (Bytes × Bytes) → Bytes → Bytes
  | [], d => d
  | kv :: t, d => pick c t (if cls kv.1 = c then kv.2 else d)

/-- does the last `Connection` field say `close` (in any letter case)? -/
def pickClose : List (Bytes × Bytes) → Bool → Bool
  | [], d => d
  | kv :: t, d => pickClose t (if cls kv.1 = .conn then ciEq kv.2 strClose else d)

/-- the entry a field leaves in the generic header list `h` -/
def generic (dn : Bool) (kv : Bytes × Bytes) : Option (Bytes × Bytes) :=
  match cls kv.1 with
  | .other => some (normalizeKey dn kv.1, kv.2)
  | .conn => if ciEq kv.2 strClose then none else some (normalizeKey dn kv.1, kv.2)
  | .te => if kv.2 = strIdentity then none else some (strTransferEncoding, strChunked)
  | _ => none

/-- the names declared by all `Trailer` fields, in order, behind `d` (the fields combine) -/
def pickT (dn : Bool) : List (Bytes × Bytes) → List Bytes → List Bytes
  | [], d => d
  | kv :: t, d => pickT dn t (if cls kv.1 = .trailer then d ++ declNames dn kv.2 else d)

def hasCls (c : Cls) (fs : List (Bytes × Bytes)) : Bool := fs.any (fun kv => cls kv.1 == c)

theorem cls_beq (a b : Cls) : (a == b) = decide (a = b) := rfl

/-- one field that is not `Transfer-Encoding`, class by class in one record -/
theorem applyWf_noTE (dn : Bool) (clb : Bytes) (n : Nat) (hp : parseUint clb = some n) (st : HdrState) (kv : Bytes × Bytes)
    (hte : cls kv.1 ≠ .te) (htr : cls kv.1 = .trailer → declOk dn kv.2 = true) (hcl : cls kv.1 = .cl → kv.2 = clb)
    (hst : cls kv.1 = .cl → st.head.cl ≠ -1) :
    applyWf dn st kv.1 kv.2 = { err := st.err, head := { st.head with
      host := if cls kv.1 = .host then kv.2 else st.head.host,
      userAgent := if cls kv.1 = .ua then kv.2 else st.head.userAgent,
      contentType := if cls kv.1 = .ct then kv.2 else st.head.contentType,
      cl := if cls kv.1 = .cl then (n : Int) else st.head.cl,
      clBytes := if cls kv.1 = .cl then clb else st.head.clBytes,
      connClose := if cls kv.1 = .conn then ciEq kv.2 strClose else st.head.connClose,
      h := st.head.h ++ (generic dn kv).toList,
      trailer := if cls kv.1 = .trailer then st.head.trailer ++ declNames dn kv.2 else st.head.trailer } } := by
  unfold applyWf generic
  cases hc : cls kv.1 with
  | te => exact absurd hc hte
  | trailer => simp [setTrailers_declOk dn kv.2 (htr hc)]
  | cl => simp [hst hc, hcl hc, hp]
  | host => simp
  | ua => simp
  | ct => simp
  | conn => by_cases hv : ciEq kv.2 strClose = true <;> simp [hv]
  | other => simp

def foldWf (dn : Bool) (st : HdrState) (fs : List (Bytes × Bytes)) : HdrState :=
  fs.foldl (fun st kv => applyWf dn st kv.1 kv.2) st

def st0 (m t : Bytes) : HdrState := { head := { method := m, uri := t, http11 := true, cl := -2 }, err := false }

theorem foldWf_append (dn : Bool) (st : HdrState) (a b : List (Bytes × Bytes)) :
    foldWf dn st (a ++ b) = foldWf dn (foldWf dn st a) b := by
  simp [foldWf, List.foldl_append]

/-- the fields folded from the state `parseHeaders` starts in (`st0`).  `clb`, `n`: the common text of all `Content-Length`
fields and its value (any pair with `parseUint clb = some n` when there is no such field).  The last hypothesis: a
`Content-Length` field is ignored once `Transfer-Encoding` has set `cl = -1`, so the closed form needs `cl ≠ -1` where one comes. -/
theorem foldWf_noTE (dn : Bool) (clb : Bytes) (n : Nat) (hp : parseUint clb = some n) :
    ∀ (fs : List (Bytes × Bytes)) (st : HdrState),
    (∀ kv ∈ fs, cls kv.1 ≠ .te ∧ (cls kv.1 = .trailer → declOk dn kv.2 = true) ∧ (cls kv.1 = .cl → kv.2 = clb)) →
    (st.head.cl ≠ -1 ∨ hasCls .cl fs = false) →
    foldWf dn st fs = { err := st.err, head := { st.head with
      host := pick .host fs st.head.host, userAgent := pick .ua fs st.head.userAgent,
      contentType := pick .ct fs st.head.contentType,
      cl := bif hasCls .cl fs then (n : Int) else st.head.cl,
      clBytes := bif hasCls .cl fs then clb else st.head.clBytes,
      connClose := pickClose fs st.head.connClose,
      h := st.head.h ++ fs.filterMap (generic dn),
      trailer := pickT dn fs st.head.trailer } }
  | [], st, _, _ => by simp [foldWf, pick, pickClose, pickT, hasCls]
  | kv :: fs, st, h, hcl => by
    obtain ⟨hte, htr, hclb⟩ := h kv (by simp)
    have hst : cls kv.1 = .cl → st.head.cl ≠ -1 := fun hc => hcl.resolve_right (by simp [hasCls, hc])
    have hfold : foldWf dn st (kv :: fs) = foldWf dn (applyWf dn st kv.1 kv.2) fs := rfl
    rw [hfold, applyWf_noTE dn clb n hp st kv hte htr hclb hst,
      foldWf_noTE dn clb n hp fs _ (fun kv hkv => h kv (by simp [hkv])) (by
        by_cases hc : cls kv.1 = .cl
        · simp [hc]
        · simpa [hasCls, hc, cls_beq] using hcl)]
    by_cases hc : cls kv.1 = .cl <;> cases hg : generic dn kv <;>
      simp [pick, pickClose, pickT, hasCls, hc, hg, cls_beq]

/-! ### `ParseContentLength` agrees with the strict decimal reader below 2^63 -/

theorem parseDec_some {b : Bytes} {n : Nat} (h : parseDec b = some n) :
    b ≠ [] ∧ (∀ c ∈ b, 48 ≤ c ∧ c ≤ 57) ∧ Dec.val 0 b = n := by
  unfold parseDec at h
  split at h
  · cases h
  · rename_i hcond
    simp only [Bool.or_eq_true, Bool.not_eq_true', not_or, Bool.not_eq_false, List.all_eq_true, List.isEmpty_iff,
      Bool.and_eq_true, decide_eq_true_eq] at hcond
    exact ⟨hcond.1, hcond.2, (Dec.foldl_eq_val b 0).symm.trans (Option.some.inj h)⟩

theorem parseUint_of_parseDec (b : Bytes) (n : Nat) (h : parseDec b = some n) (hn : n < 2 ^ 63) :
    parseUint b = some n := by
  obtain ⟨hne, hdig, rfl⟩ := parseDec_some h
  have := Dec.parseUintAux_digits b [] 0 0 hdig hn (.inr hne) (by simp)
  rw [List.append_nil] at this
  simp [parseUint, parseUintBuf, hne, this]

/-! ### requests on the wire -/

/-- one chunk as sent: its size line (hexadecimal digits) and its data -/
structure Chunk where
  size : Bytes
  data : Bytes
deriving Repr, DecidableEq

inductive WBody where
  | none                                             -- no framing field, no body
  | fixed (b : Bytes)                                -- `Content-Length`
  /-- `Transfer-Encoding: chunked`; `last` = the zero size line; `trailers` = the trailer section -/
  | chunked (chunks : List Chunk) (last : Bytes) (trailers : List (Bytes × Bytes))
deriving Repr, DecidableEq

/-- a request as it is written on the wire -/
structure WReq where
  method : Bytes
  target : Bytes
  fields : List (Bytes × Bytes)
  body : WBody
deriving Repr, DecidableEq

def teFields (fs : List (Bytes × Bytes)) : List (Bytes × Bytes) := fs.filter (fun kv => cls kv.1 == .te)

/-- non-empty data, at most 15 hexadecimal digits (hertz's `maxHexIntChars`) that say the data length -/
def wfChunk (c : Chunk) : Bool :=
  !c.data.isEmpty && decide (c.size.length ≤ 15) && parseHex c.size == some c.data.length

/-- the framing fields say what the body is (the conditions of `Spec.Http.decodeOne`): nothing;
`Content-Length` fields, all with the same text, a decimal number below 2^63 equal to the body length, and no
`Transfer-Encoding`; or exactly one `Transfer-Encoding: chunked` and no `Content-Length`, and then the trailer
section consists of well-formed fields whose names are, in order, the names the `Trailer` fields declare. -/
def wfFraming (dn : Bool) (fs : List (Bytes × Bytes)) : WBody → Bool
  | .none => !hasCls .cl fs && !hasCls .te fs
  | .fixed b =>
    !hasCls .te fs && hasCls .cl fs &&
    fs.all (fun kv => cls kv.1 != .cl || kv.2 == pick .cl fs []) &&
    parseDec (pick .cl fs []) == some b.length && decide (b.length < 2 ^ 63)
  | .chunked cs last trs =>
    !hasCls .cl fs && (teFields fs).length == 1 && (teFields fs).all (fun kv => lowerAll kv.2 == sChunked) &&
    cs.all wfChunk && decide (last.length ≤ 15) && parseHex last == some 0 &&
    trs.all wfField && trs.map (fun kv => normalizeKey dn kv.1) == pickT dn fs []

/-- well-formed request: token method, target without SP/CTL, token field names, trimmed field values
without CR/LF/CTL, every `Trailer` field a clean declaration (`declOk`), consistent framing.  `dn` is the
server's `DisableNormalizing` setting: it decides which spelling of a trailer name matches a declared name. -/
def wfReq (dn : Bool) (r : WReq) : Bool :=
  isToken r.method && wfTarget r.target && r.fields.all wfField &&
  r.fields.all (fun kv => cls kv.1 != .trailer || declOk dn kv.2) &&
  wfFraming dn r.fields r.body

theorem wfReq_facts {dn : Bool} (r : WReq) (h : wfReq dn r = true) :
    isToken r.method = true ∧ wfTarget r.target = true ∧ (∀ kv ∈ r.fields, wfField kv = true) ∧
    (∀ kv ∈ r.fields, cls kv.1 = .trailer → declOk dn kv.2 = true) ∧ wfFraming dn r.fields r.body = true := by
  simp only [wfReq, Bool.and_eq_true, List.all_eq_true, Bool.or_eq_true, bne_iff_ne, ne_eq,
    ← Decidable.imp_iff_not_or] at h
  exact ⟨h.1.1.1.1, h.1.1.1.2, h.1.1.2, h.1.2, h.2⟩

def framingCl : WBody → Int
  | .none => -2
  | .fixed b => b.length
  | .chunked _ _ _ => -1

/-- what `req.parse` is to make of the head of `r` -/
def expectedHead (dn : Bool) (r : WReq) : ReqHead :=
  { method := r.method, uri := r.target, http11 := true,
    host := pick .host r.fields [], userAgent := pick .ua r.fields [], contentType := pick .ct r.fields [],
    cl := framingCl r.body,
    clBytes := (match r.body with | .fixed _ => pick .cl r.fields [] | _ => []),
    connClose := pickClose r.fields false,
    h := r.fields.filterMap (generic dn),
    trailer := pickT dn r.fields [] }

theorem expectedHead_clBytes_nil (dn : Bool) (r : WReq) : (expectedHead dn r).cl < 0 → (expectedHead dn r).clBytes = [] := by
  intro h
  unfold expectedHead at h ⊢
  cases hb : r.body with
  | none | chunked => simp
  | fixed b => simp [hb, framingCl] at h; omega

def encHeadOf (r : WReq) : Bytes := encHead r.method r.target r.fields

/-! ### list facts about `pick`, `hasCls` -/

theorem pick_append (c : Cls) : ∀ (a b : List (Bytes × Bytes)) (d : Bytes), pick c (a ++ b) d = pick c b (pick c a d)
  | [], _, _ => rfl
  | kv :: a, b, d => by simp [pick, pick_append c a b]

theorem pickT_append (dn : Bool) : ∀ (a b : List (Bytes × Bytes)) (d : List Bytes),
    pickT dn (a ++ b) d = pickT dn b (pickT dn a d)
  | [], _, _ => rfl
  | kv :: a, b, d => by simp [pickT, pickT_append dn a b]

theorem pickClose_append : ∀ (a b : List (Bytes × Bytes)) (d : Bool), pickClose (a ++ b) d = pickClose b (pickClose a d)
  | [], _, _ => rfl
  | kv :: a, b, d => by simp [pickClose, pickClose_append a b]

theorem hasCls_false_iff (c : Cls) (fs : List (Bytes × Bytes)) : hasCls c fs = false ↔ ∀ kv ∈ fs, cls kv.1 ≠ c := by
  simp [hasCls, cls_beq]

theorem pick_of_none (c : Cls) : ∀ (fs : List (Bytes × Bytes)) (d : Bytes), hasCls c fs = false → pick c fs d = d
  | [], _, _ => rfl
  | kv :: fs, d, h => by
    rw [hasCls_false_iff] at h
    have h1 := h kv (by simp)
    have h2 : hasCls c fs = false := (hasCls_false_iff c fs).mpr (fun x hx => h x (by simp [hx]))
    simp [pick, h1, pick_of_none c fs d h2]

theorem cls_of_normalized_te (dn : Bool) (k : Bytes) (h : normalizeKey dn k = strTransferEncoding) : cls k = .te :=
  (cls_te_iff k).mpr (by rw [← normalizeKey_lower dn k, h]; decide)

theorem generic_key_ne_te (dn : Bool) (fs : List (Bytes × Bytes)) (h : ∀ kv ∈ fs, cls kv.1 ≠ .te) :
    ∀ e ∈ fs.filterMap (generic dn), e.1 ≠ strTransferEncoding := by
  intro e he
  simp only [List.mem_filterMap] at he
  obtain ⟨kv, hkv, hg⟩ := he
  have hne := h kv hkv
  intro hk
  unfold generic at hg
  split at hg
  · simp at hg; subst hg; exact hne (cls_of_normalized_te dn kv.1 hk)
  · split at hg
    · cases hg
    · simp at hg; subst hg; exact hne (cls_of_normalized_te dn kv.1 hk)
  · rename_i hc; exact hne hc
  · cases hg

/-! ### bodies -/

def encChunk (c : Chunk) : Bytes := c.size ++ 13 :: 10 :: (c.data ++ [13, 10])

def encChunks : List Chunk → Bytes
  | [] => []
  | c :: t => encChunk c ++ encChunks t

def chunkData : List Chunk → Bytes
  | [] => []
  | c :: t => c.data ++ chunkData t

/-- the body as sent; a chunked body ends with the zero size line, the trailer section and an empty line -/
def encBody : WBody → Bytes
  | .none => []
  | .fixed b => b
  | .chunked cs last trs => encChunks cs ++ (last ++ 13 :: 10 :: (encFields trs ++ [13, 10]))

/-- the body as meant -/
def bodyOf : WBody → Bytes
  | .none => []
  | .fixed b => b
  | .chunked cs _ _ => chunkData cs

theorem wfChunk_facts (c : Chunk) (h : wfChunk c = true) :
    c.data ≠ [] ∧ c.size.length ≤ 15 ∧ parseHex c.size = some c.data.length := by
  simp only [wfChunk, Bool.and_eq_true, Bool.not_eq_true', List.isEmpty_eq_false_iff, decide_eq_true_eq,
    beq_iff_eq] at h
  exact ⟨h.1.1, h.1.2, h.2⟩

/-- the chunks of a request are chunks of the general encoding (`Stream.WChunk`) written without padding -/
theorem wchunks_eq : ∀ cs : List Chunk,
    Stream.encChunks (cs.map fun c => ⟨c.size, 0, c.data⟩) = encChunks cs ∧
    Stream.bodyOf (cs.map fun c => ⟨c.size, 0, c.data⟩) = chunkData cs
  | [] => ⟨rfl, rfl⟩
  | c :: cs => by
    obtain ⟨h1, h2⟩ := wchunks_eq cs
    simp [Stream.encChunks, Stream.bodyOf, Stream.sizeLine, encChunks, encChunk, chunkData, h1, h2]

theorem wchunks_wf {cs : List Chunk} (h : ∀ c ∈ cs, wfChunk c = true) :
    ∀ k ∈ cs.map (fun c => (⟨c.size, 0, c.data⟩ : Stream.WChunk)), k.Wf := by
  intro k hk
  obtain ⟨c, hc, rfl⟩ := List.mem_map.mp hk
  obtain ⟨h1, h2, h3⟩ := wfChunk_facts c (h c hc)
  exact ⟨h2, h3, h1⟩

theorem readBodyChunked_enc (e : End) (maxBody : Nat) (last rest : Bytes) (hl0 : parseHex last = some 0)
    (hl15 : last.length ≤ 15) (cs : List Chunk) (dst : Bytes) (fuel : Nat) (hf : cs.length < fuel)
    (hw : ∀ c ∈ cs, wfChunk c = true) (hmax : maxBody = 0 ∨ dst.length + (chunkData cs).length ≤ maxBody) :
    readBodyChunked e maxBody fuel dst (encChunks cs ++ (last ++ 13 :: 10 :: rest)) = .ok (dst ++ chunkData cs, rest) := by
  have := Stream.readBodyChunked_wchunks e maxBody last 0 rest hl15 hl0 _ dst fuel (by simpa using hf) (wchunks_wf hw)
    (by rw [(wchunks_eq cs).2]; exact hmax)
  rw [(wchunks_eq cs).1, (wchunks_eq cs).2] at this
  simpa [Stream.sizeLine] using this

/-! ### the trailer section -/

/-- trailer fields as the handler sees them: names normalised -/
def normT (dn : Bool) (l : List (Bytes × Bytes)) : List (Bytes × Bytes) := l.map (fun kv => (normalizeKey dn kv.1, kv.2))

/-- every name kept from a clean `Trailer` declaration is an allowed one -/
theorem pickT_notbad (dn : Bool) : ∀ (fs : List (Bytes × Bytes)) (d : List Bytes),
    (∀ kv ∈ fs, cls kv.1 = .trailer → declOk dn kv.2 = true) → (∀ k ∈ d, isBadTrailer k = false) →
    ∀ k ∈ pickT dn fs d, isBadTrailer k = false
  | [], d, _, hd => by simpa [pickT] using hd
  | kv :: fs, d, h, hd => by
    simp only [pickT]
    apply pickT_notbad dn fs _ (fun x hx => h x (by simp [hx]))
    by_cases hc : cls kv.1 = .trailer
    · simp only [hc, if_true]
      have hok := h kv (by simp) hc
      simp only [declOk, Bool.and_eq_true, List.all_eq_true] at hok
      intro k hk
      rcases List.mem_append.mp hk with hk | hk
      · exact hd k hk
      · simp only [declNames, List.mem_map] at hk
        obtain ⟨k', hk', rfl⟩ := hk
        exact (wfTName_parts (hok.1 k' hk')).2.2
    · simpa [hc] using hd

/-- the configured limits do not apply to `r`: body within `MaxRequestBodySize` (0 = unlimited), and the
multipart pre-parser (Go's `mime/multipart`, not modelled) is not invoked -/
def withinLimits (cfg : Cfg) (r : WReq) : Bool :=
  (cfg.maxBody == 0 || decide ((bodyOf r.body).length ≤ cfg.maxBody)) &&
  !(cfg.preParse && mIMEFormData.isPrefixOf (pick .ct r.fields []))

/-- what the handler is to see of `r` (head after `ContinueReadBody`: a request without framing field that is
not GET/HEAD, a request with `Content-Length` 0, and every chunked request, gets `Content-Length` set to the body
length; trailers: the fields of the trailer section with normalised names; for a request that is not chunked, the
declared names with empty values) -/
def expectedSeen (dn : Bool) (r : WReq) : Seen :=
  let hd := expectedHead dn r
  { head := (match r.body with
      | .none => if isGetOrHead hd then hd else setContentLength hd 0
      | .fixed b => if b.isEmpty then setContentLength hd 0 else hd
      | .chunked cs _ _ => setContentLength hd (chunkData cs).length),
    body := bodyOf r.body,
    trailers := (match r.body with
      | .chunked _ _ trs => normT dn trs
      | _ => (pickT dn r.fields []).map (fun k => (k, []))) }

theorem encChunks_length_ge (cs : List Chunk) : cs.length ≤ (encChunks cs).length := by
  simpa [(wchunks_eq cs).1] using Stream.length_le_encChunks (cs.map fun c => ⟨c.size, 0, c.data⟩)

/-- `ContinueReadBody` on a chunked body: the chunks, then what `ReadTrailer` makes of the section behind them -/
theorem continueReadBody_chunked (cfg : Cfg) (e : End) (hd : ReqHead) (hcl : hd.cl = -1) (cs : List Chunk) (last : Bytes)
    (hcs : ∀ c ∈ cs, wfChunk c = true) (hl15 : last.length ≤ 15) (hl0 : parseHex last = some 0)
    (hmax : cfg.maxBody = 0 ∨ (chunkData cs).length ≤ cfg.maxBody) (sec rest : Bytes) (tr : List (Bytes × Bytes))
    (htrl : readTrailerReq cfg e hd.trailer (sec ++ 13 :: 10 :: rest) = .ok (some tr, rest)) :
    continueReadBody cfg e hd (encChunks cs ++ (last ++ 13 :: 10 :: (sec ++ 13 :: 10 :: rest))) =
      .ok (setContentLength hd (chunkData cs).length) (chunkData cs) tr rest := by
  have hrd := readBodyChunked_enc e cfg.maxBody last (sec ++ 13 :: 10 :: rest) hl0 hl15 cs []
    ((encChunks cs ++ (last ++ 13 :: 10 :: (sec ++ 13 :: 10 :: rest))).length + 1) (by
      have := encChunks_length_ge cs
      simp only [List.length_append]; omega) hcs (by simpa using hmax)
  unfold continueReadBody
  simp only [hcl, show ¬ ((-1 : Int) > 0) by decide, if_false, show ¬ ((-1 : Int) = -2) by decide, if_true, hrd,
    List.nil_append, htrl]

/-! ### requests in sequence -/

def encReq (r : WReq) : Bytes := encHeadOf r ++ encBody r.body

def encAll : List WReq → Bytes
  | [] => []
  | r :: t => encReq r ++ encAll t

/-- the requests handed to the handler, in order -/
def handled (evs : List Ev) : List Seen :=
  evs.filterMap (fun ev => match ev with | .req s => some s | _ => none)

/-- does `r` ask to close the connection (its last `Connection` field is `close`, in any letter case)? -/
def closes (r : WReq) : Bool := pickClose r.fields false

/-- the requests that are to be served: up to and including the first that asks to close (only the first
request when keep-alive is disabled) -/
def served (disableKeepalive : Bool) : List WReq → List WReq
  | [] => []
  | r :: t => if disableKeepalive || closes r then [r] else r :: served disableKeepalive t

theorem expectedSeen_connClose (dn : Bool) (r : WReq) : (expectedSeen dn r).head.connClose = closes r := by
  unfold expectedSeen closes
  cases hb : r.body with
  | none | fixed => simp only; split <;> rfl
  | chunked cs last trs => rfl

theorem handled_turn (b : Bool) (sn : Seen) (close : Bool) (T : List Ev) :
    handled ((if b then [Ev.continue100] else []) ++ [.req sn, .resp 200 close] ++ (if close = true then [] else T)) =
      sn :: (if close = true then [] else handled T) := by
  cases b <;> cases close <;> simp [handled]

theorem handled_serveLoop_nil (cfg : Cfg) (e : End) (fuel : Nat) (first : Bool) :
    handled (serveLoop cfg e fuel first []) = [] := by
  cases fuel with
  | zero => rfl
  | succ f =>
    have hp : parseReqHead cfg.disableNorm [] = .error .needMore := by
      simp [parseReqHead, parseFirstLine, parseFirstLineAux, nextLine, indexByte, bind, Except.bind]
    cases first <;> cases e <;> simp [serveLoop, handled, hp]

theorem served_all : ∀ rs : List WReq, (∀ r ∈ rs.dropLast, closes r = false) → served false rs = rs
  | [], _ => rfl
  | [r], _ => by simp [served]
  | r :: r' :: t, h => by
    have h1 : closes r = false := h r (by simp [List.dropLast])
    have ih := served_all (r' :: t) (fun x hx => h x (by simp [List.dropLast] at hx ⊢; exact Or.inr hx))
    simp [served, h1] at ih ⊢
    exact ih

/-- the handler's view carries the request's own method, target and body -/
theorem expectedSeen_own (dn : Bool) (r : WReq) :
    (expectedSeen dn r).head.method = r.method ∧ (expectedSeen dn r).head.uri = r.target ∧
    (expectedSeen dn r).body = bodyOf r.body := by
  unfold expectedSeen
  cases hb : r.body with
  | none | fixed => dsimp only; split <;> exact ⟨rfl, rfl, rfl⟩
  | chunked cs last trs => exact ⟨rfl, rfl, rfl⟩

/-- … and its own header fields: the three singleton fields hold the value of the last field of that name, the
generic list holds, in wire order, every other field (`Content-Length`, `Connection: close` and `Trailer` apart),
names normalised; `Transfer-Encoding` is removed once the body has been de-chunked -/
theorem expectedSeen_fields (dn : Bool) (r : WReq) :
    (expectedSeen dn r).head.host = pick .host r.fields [] ∧
    (expectedSeen dn r).head.userAgent = pick .ua r.fields [] ∧
    (expectedSeen dn r).head.contentType = pick .ct r.fields [] ∧
    ((expectedSeen dn r).head.h = r.fields.filterMap (generic dn) ∨
     (expectedSeen dn r).head.h = (r.fields.filterMap (generic dn)).filter (fun kv => kv.1 != strTransferEncoding)) := by
  unfold expectedSeen
  cases hb : r.body with
  | none =>
    dsimp only; split
    · exact ⟨rfl, rfl, rfl, Or.inl rfl⟩
    · exact ⟨rfl, rfl, rfl, Or.inr rfl⟩
  | fixed b =>
    dsimp only; split
    · exact ⟨rfl, rfl, rfl, Or.inr rfl⟩
    · exact ⟨rfl, rfl, rfl, Or.inl rfl⟩
  | chunked cs last trs => exact ⟨rfl, rfl, rfl, Or.inr rfl⟩

/-! ### the independent strict decoder `Spec.Http` on encoded pieces -/

/-- the request as the strict decoder is to report it -/
def toSpec (r : WReq) : Req :=
  { method := r.method, target := r.target, fields := r.fields, body := bodyOf r.body,
    trailers := (match r.body with | .chunked _ _ trs => trs | _ => []),
    foldedColon := false }

theorem trimOWS_id (v : Bytes) (h : noBlankEnds v = true) : trimOWS v = v := by
  obtain ⟨hh, hl⟩ := (noBlankEnds_iff v).mp h
  exact strip_id v (fun c hc => by simp [hh c hc]) (fun c hc => by simp [hl c hc])

theorem trimOWS_sp (v : Bytes) (h : noBlankEnds v = true) : trimOWS (32 :: v) = v := by
  rw [ReqDecodes.trimOWS_space, trimOWS_id v h]

theorem chunksAux_enc (last rest : Bytes) (hl0 : parseHex last = some 0) (hl15 : last.length ≤ 15)
    (cs : List Chunk) (acc : Bytes) (fuel : Nat) (hf : cs.length < fuel) (hw : ∀ c ∈ cs, wfChunk c = true) :
    chunksAux fuel (encChunks cs ++ (last ++ 13 :: 10 :: rest)) acc = some (acc ++ chunkData cs, rest) := by
  have := Stream.spec_decodes last 0 rest hl15 hl0 _ fuel acc (wchunks_wf hw) (by simpa using Nat.succ_le_of_lt hf)
  rw [(wchunks_eq cs).1, (wchunks_eq cs).2] at this
  simpa [Stream.sizeLine] using this

theorem lookupAll_cls (c : Cls) (name : Bytes) (hc : ∀ k, cls k = c ↔ lowerAll k = name) (fs : List (Bytes × Bytes)) :
    lookupAll fs name = (fs.filter (fun kv => cls kv.1 == c)).map (·.2) := by
  unfold lookupAll
  congr 1
  apply List.filter_congr
  intro kv _
  by_cases h : lowerAll kv.1 = name
  · simp [h, (hc kv.1).mpr h]
  · have h' : cls kv.1 ≠ c := fun hk => h ((hc kv.1).mp hk)
    simp [h, h', cls_beq]

theorem lookupAll_cl (fs : List (Bytes × Bytes)) :
    lookupAll fs sContentLength = (fs.filter (fun kv => cls kv.1 == .cl)).map (·.2) :=
  lookupAll_cls .cl _ cls_cl_iff fs

theorem lookupAll_te (fs : List (Bytes × Bytes)) : lookupAll fs sTransferEncoding = (teFields fs).map (·.2) :=
  lookupAll_cls .te _ cls_te_iff fs

theorem lookupAll_nil (c : Cls) (name : Bytes) (hc : ∀ k, cls k = c ↔ lowerAll k = name) (fs : List (Bytes × Bytes))
    (h : hasCls c fs = false) : lookupAll fs name = [] := by
  rw [lookupAll_cls c name hc, List.map_eq_nil_iff, List.filter_eq_nil_iff]
  intro kv hkv
  simp [cls_beq, (hasCls_false_iff c fs).mp h kv hkv]

/-- the shape `v :: more`, all equal, on which `Spec.Http.decodeOne` accepts repeated `Content-Length` fields -/
theorem filter_cls_same (c : Cls) (v : Bytes) (fs : List (Bytes × Bytes)) (hc : hasCls c fs = true)
    (hall : ∀ kv ∈ fs, cls kv.1 ≠ c ∨ kv.2 = v) :
    ∃ more, (fs.filter (fun kv => cls kv.1 == c)).map (·.2) = v :: more ∧ more.all (· == v) = true := by
  simp only [hasCls, List.any_eq_true] at hc
  obtain ⟨kv0, hkv0, hk0⟩ := hc
  have hv : ∀ x ∈ (fs.filter (fun kv => cls kv.1 == c)).map (·.2), x = v := by
    intro x hx
    simp only [List.mem_map, List.mem_filter] at hx
    obtain ⟨kv, ⟨hkv, hk⟩, rfl⟩ := hx
    exact (hall kv hkv).resolve_left (fun h1 => h1 (by simpa [cls_beq] using hk))
  cases hl : (fs.filter (fun kv => cls kv.1 == c)).map (·.2) with
  | nil =>
    rw [List.map_eq_nil_iff, List.filter_eq_nil_iff] at hl
    exact absurd hk0 (hl kv0 hkv0)
  | cons x t =>
    rw [hl] at hv
    exact ⟨t, by rw [hv x (by simp)], by simpa using fun y hy => hv y (by simp [hy])⟩

end Hertz.H1.RT
