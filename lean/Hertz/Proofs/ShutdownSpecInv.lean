import Hertz.Proofs.ShutdownSpecBase
/-!
The state invariants of the interleaving model behind the trace specification `Hertz.ShutdownSpec`, each kept by a step
lemma of its own; those that hold in every state of every run in one bundle, `AllInv` (`step_dialClosed` and `LoserAt` hold
from some event on: `Hist` in `ShutdownSpecRefine`).  The environment disciplines `okListen` / `okWin` give one more,
`lnSkipped = false` (`run_noSkip`).  Then the event sequence: membership `Has`, and the event of one step read backwards (`ObsOf`).
-/
namespace Hertz.Shutdown
open Hertz.ShutdownSpec (Ev TEv)

instance : LawfulBEq ConnPh where
  eq_of_beq {a b} h := by
    change instBEqConnPh.beq a b = true at h
    unfold instBEqConnPh.beq at h
    split at h <;> first | rfl | cases h | (simp at h; simp [h])
  rfl {a} := by cases a <;> simp [BEq.beq, instBEqConnPh.beq]

def liveCount (l : List Conn) : Nat := l.countP fun cn => cn.ph != .gone

def allGone (s : State) : Prop := ∀ cn ∈ s.conns, cn.ph = .gone

theorem liveCount_set : ∀ (l : List Conn) (c : Nat) (cn cn' : Conn), l[c]? = some cn →
    (liveCount (l.set c cn') : Int) = liveCount l - (if cn.ph != .gone then 1 else 0) + (if cn'.ph != .gone then 1 else 0)
  | [], c, cn, cn', h => by simp at h
  | x :: t, 0, cn, cn', h => by
    simp at h; subst h
    simp only [List.set_cons_zero, liveCount, List.countP_cons]
    split <;> split <;> simp <;> omega
  | x :: t, c + 1, cn, cn', h => by
    simp at h
    have := liveCount_set t c cn cn' h
    simp only [List.set_cons_succ, liveCount, List.countP_cons] at this ⊢
    push_cast
    omega

theorem liveCount_zero {l : List Conn} (h : liveCount l = 0) : ∀ cn ∈ l, cn.ph = .gone := by
  intro cn hm
  unfold liveCount at h
  rw [List.countP_eq_zero] at h
  simpa using h cn hm

theorem liveCount_pos {l : List Conn} (h : 0 < liveCount l) : ∃ (c : Nat) (cn : Conn), l[c]? = some cn ∧ cn.ph ≠ .gone := by
  obtain ⟨cn, hm, hp⟩ := List.countP_pos_iff.1 h
  obtain ⟨c, hc⟩ := List.mem_iff_getElem?.1 hm
  exact ⟨c, cn, hc, by simpa using hp⟩

theorem connStep_gone_iff {s : State} {a : Act} {c : Nat} {cn cn' : Conn} (h : ConnStep s a c cn cn') :
    (cn'.ph = .gone ↔ cn.ph = .gone) := by
  cases h <;> simp_all
  rename_i cl g _; cases cl <;> simp

/-- state-only facts that tie the listener, the phase of `Run`, the status word and the winner's phase together -/
structure SI1 (s : State) : Prop where
  lnStatus : s.lnSet = true → stRunning ≤ s.status
  markedStatus : s.runPh = .marked → stRunning ≤ s.status
  servingLn : s.runPh = .serving → s.lnSet = true
  connsLn : s.conns ≠ [] → s.lnSet = true
  skipped : postClose s.win = false → s.lnSkipped = false
  retNow : ∀ e t, s.win = .returned e t → t ≤ s.now
  winNone : s.win = .none → s.runPh ≠ .acceptFailed ∧ (s.runPh = .marked → s.status = stRunning) ∧
      (s.runPh = .serving → s.status = stRunning ∧ s.lnOpen = true) ∧ (s.lnSet = true → s.runPh = .serving)

theorem step_SI1 (cfg : Cfg) {s s' : State} {a : Act} (inv : Inv s) (si : SI1 s) (h : Step cfg s a s') : SI1 s' := by
  obtain ⟨h1, h2, h3, h4, h5, h6, h7⟩ := si
  cases h
  case advance d => exact ⟨h1, h2, h3, h4, h5, fun e t h => Nat.le_trans (h6 e t h) (Nat.le_add_right _ _), h7⟩
  case initOk hr h0 =>
    have hl : s.lnSet ≠ true := fun hl => by have := h1 hl; simp [h0, stRunning] at this
    exact ⟨fun h => absurd h hl, nofun, nofun, h4, h5, h6, fun _ => ⟨nofun, nofun, nofun, fun h => absurd h hl⟩⟩
  case initFail hr _ =>
    exact ⟨h1, nofun, nofun, h4, h5, h6, fun hwn => ⟨nofun, nofun, nofun, fun hl => by simp [(h7 hwn).2.2.2 hl] at hr⟩⟩
  case markOk hr h0 =>
    have hl : s.lnSet ≠ true := fun hl => by have := h1 hl; simp [h0, stRunning, stInitialized] at this
    exact ⟨fun _ => Nat.le_refl _, fun _ => Nat.le_refl _, nofun, h4, h5, h6, fun _ => ⟨nofun, fun _ => rfl, nofun, fun h => absurd h hl⟩⟩
  case markFail hr _ =>
    exact ⟨h1, nofun, nofun, h4, h5, h6, fun hwn => ⟨nofun, nofun, nofun, fun hl => by simp [(h7 hwn).2.2.2 hl] at hr⟩⟩
  case listen hr =>
    exact ⟨fun _ => h2 hr, nofun, fun _ => rfl, fun _ => rfl, h5, h6, fun hwn => ⟨nofun, nofun, fun _ => ⟨(h7 hwn).2.1 hr, rfl⟩, fun _ => rfl⟩⟩
  case accept hr _ => exact ⟨h1, h2, h3, fun _ => h3 hr, h5, h6, h7⟩
  case acceptFail hr ho =>
    exact ⟨h1, nofun, nofun, h4, h5, h6, fun hwn => by simp [((h7 hwn).2.2.1 hr).2] at ho⟩
  case runReturn hr =>
    exact ⟨fun _ => (by decide : stRunning ≤ stClosed), nofun, nofun, h4, h5, h6, fun hwn => absurd hr (h7 hwn).1⟩
  case conn | connGone => exact ⟨h1, h2, h3, fun h => h4 (by simpa using h), h5, h6, h7⟩
  case casWin hs =>
    have hle : stRunning ≤ stShutdown := by decide
    exact ⟨fun _ => hle, fun _ => hle, h3, h4, fun _ => h5 (by rw [inv.win_none hs]; rfl), nofun, nofun⟩
  case spawn hw => exact ⟨h1, h2, h3, h4, fun _ => h5 (by rw [hw]; rfl), nofun, nofun⟩
  case tick1 =>
    by_cases ha : s.active ≤ 0 <;> simp only [ha, ↓reduceIte]
    all_goals exact ⟨h1, h2, h3, h4, nofun, nofun, nofun⟩
  case tickLoop t0 _ _ =>
    by_cases ha : s.active ≤ 0 <;> by_cases hm : cfg.maxWait < s.now - t0 <;> simp only [ha, hm, ↓reduceIte]
    all_goals exact ⟨h1, h2, h3, h4, nofun, nofun, nofun⟩
  case closeLn | ctxDone => exact ⟨h1, h2, h3, h4, nofun, nofun, nofun⟩
  case finish => exact ⟨h1, h2, h3, h4, nofun, fun e t h => by cases h; exact Nat.le_refl _, nofun⟩
  all_goals exact ⟨h1, h2, h3, h4, h5, h6, h7⟩

/-- hooks leave `unspawned` only at the spawn step of the winner -/
def HookWin (s : State) : Prop := ∀ h ∈ s.hooks, h ≠ .unspawned → s.win ≠ .none ∧ s.win ≠ .pre

theorem step_hookWin (cfg : Cfg) (n : Nat) {s s' : State} {a : Act} (inv : Inv s) (hk : HookWin s ∧ s.hooks.length = n)
    (h : Step cfg s a s') : HookWin s' ∧ s'.hooks.length = n := by
  obtain ⟨hk, hl⟩ := hk
  cases h
  case casWin hs => exact ⟨fun p hp hne => absurd (inv.win_none hs) (hk p hp hne).1, hl⟩
  case hookStart j hj | hookEnd j hj =>
    exact ⟨forall_mem_set hk fun _ => hk _ (List.mem_of_getElem? hj) nofun, by simpa using hl⟩
  case spawn => exact ⟨fun _ _ _ => ⟨nofun, nofun⟩, by simpa using hl⟩
  case tick1 => exact ⟨fun _ _ _ => by dsimp only; split <;> exact ⟨nofun, nofun⟩, hl⟩
  case tickLoop =>
    refine ⟨fun _ _ _ => ?_, hl⟩
    dsimp only
    repeat' split
    all_goals exact ⟨nofun, nofun⟩
  case closeLn | ctxDone | finish => exact ⟨fun _ _ _ => ⟨nofun, nofun⟩, hl⟩
  all_goals exact ⟨hk, hl⟩

/-- what the record of the winning caller shows while the winner is in phase `w` -/
def winCallerOk : WinPh → CallerPh → Prop
  | .none, _ => True
  | .returned e _, p => p = .returned e ∨ p = .finished e
  | _, p => p = .winner

/-- the ghost `winK` points at the caller that won the CAS -/
def WinCaller (s : State) : Prop := s.win ≠ .none → ∃ p, s.callers[s.winK]? = some p ∧ winCallerOk s.win p

theorem winCallerOk_ne {w : WinPh} {p : CallerPh} (hw : w ≠ .none) (h : winCallerOk w p) :
    p ≠ .called ∧ p ≠ .loaded ∧ (∀ e, p = .returned e → ∃ t, w = .returned e t) := by
  cases w <;> simp_all [winCallerOk]
  rcases h with rfl | rfl <;> simp

/-- between the CAS and the return of the winner its caller record stays `winner` -/
theorem winCallerOk_running {w w' : WinPh} {p : CallerPh} (h : winCallerOk w p) (hw : w ≠ .none) (hr : ∀ e t, w ≠ .returned e t)
    (hw' : w' ≠ .none) (hr' : ∀ e t, w' ≠ .returned e t) : winCallerOk w' p := by
  have hp : p = .winner := by
    cases w
    case none => exact absurd rfl hw
    case returned e t => exact absurd rfl (hr e t)
    all_goals exact h
  cases w'
  case none => exact absurd rfl hw'
  case returned e t => exact absurd rfl (hr' e t)
  all_goals exact hp

theorem step_winCaller (cfg : Cfg) {s s' : State} {a : Act} (wc : WinCaller s) (h : Step cfg s a s') :
    WinCaller s' := by
  unfold WinCaller at *
  have run : ∀ {w w' : WinPh}, s.win = w → w ≠ .none → (∀ e t, w ≠ .returned e t) → w' ≠ .none → (∀ e t, w' ≠ .returned e t) →
      ∃ p, s.callers[s.winK]? = some p ∧ winCallerOk w' p := fun hw h1 h2 h3 h4 => by
    obtain ⟨p, hp, hok⟩ := wc (hw ▸ h1)
    exact ⟨p, hp, winCallerOk_running (hw ▸ hok) h1 h2 h3 h4⟩
  cases h
  case shutCall =>
    intro hne
    obtain ⟨p, hp, hok⟩ := wc hne
    exact ⟨p, by simp [List.getElem?_append_left (getElem?_lt hp), hp], hok⟩
  case shutLoad k hk => exact fun hne => set_lift hk (fun h => ((winCallerOk_ne hne h).1 rfl).elim) (wc hne)
  case casLose k hk _ => exact fun hne => set_lift hk (fun h => ((winCallerOk_ne hne h).2.1 rfl).elim) (wc hne)
  case casWin k hk hs =>
    intro _
    exact ⟨.winner, by simp [getElem?_lt hk], by simp [winCallerOk]⟩
  case finish e hwin hc =>
    intro _
    obtain ⟨p, hp, hok⟩ := wc (by simp [hwin])
    simp [hwin, winCallerOk] at hok
    subst hok
    exact ⟨.returned e, by simp [hp, winnerRet], by simp [winCallerOk]⟩
  case callerRet k e hk =>
    refine fun hne => set_lift (P := winCallerOk s.win) hk (fun h => ?_) (wc hne)
    obtain ⟨t, ht⟩ := (winCallerOk_ne hne h).2.2 e rfl
    rw [ht]
    exact Or.inr rfl
  case spawn hw | closeLn hw | ctxDone hw _ => exact fun _ => run hw nofun nofun nofun nofun
  case tick1 hw _ => exact fun _ => run hw nofun nofun (by split <;> nofun) (by intro e t; split <;> nofun)
  case tickLoop hw _ =>
    refine fun _ => run hw nofun nofun ?_ ?_
    · repeat' split
      all_goals nofun
    · intro e t
      repeat' split
      all_goals nofun
  all_goals exact wc

/-- `t.active` counts the connections whose `updateActive(-1)` is still to come; and a client has read no more
responses than were written -/
structure ConnCount (s : State) : Prop where
  active : s.active = (liveCount s.conns : Int)
  acked : ∀ cn ∈ s.conns, cn.acked ≤ cn.resps.length

theorem step_connCount (cfg : Cfg) {s s' : State} {a : Act} (cc : ConnCount s) (h : Step cfg s a s') : ConnCount s' := by
  obtain ⟨ha, hk⟩ := cc
  cases h
  case accept =>
    refine ⟨?_, ?_⟩
    · simp [liveCount, List.countP_append, ha]
    · intro cn hm
      simp at hm
      rcases hm with hm | rfl
      · exact hk cn hm
      · simp
  case conn c f cn cn' hc hf hca =>
    have hcs := connStep_of hca hf
    refine ⟨?_, ?_⟩
    · have := liveCount_set s.conns c cn cn' hc
      have hg := connStep_gone_iff hcs
      simp only [this, ha]
      by_cases hgn : cn.ph = .gone
      · simp [hgn, hg.2 hgn]
      · have : cn'.ph ≠ .gone := fun h => hgn (hg.1 h)
        simp [hgn, this]
    · refine forall_mem_set hk ?_
      have := hk cn (List.mem_of_getElem? hc)
      cases hcs with
      | writeResp => simp; omega
      | clientRead _ _ _ r hr _ => have := getElem?_lt hr; simp; omega
      | _ => simp_all
  case connGone c cn cn' hc hf =>
    obtain ⟨hp, rfl⟩ := cGone_some hf
    refine ⟨?_, ?_⟩
    · have := liveCount_set s.conns c cn { cn with ph := .gone } hc
      simp only [this, ha]
      simp [hp]
    · exact forall_mem_set hk (hk cn (List.mem_of_getElem? hc))
  all_goals exact ⟨ha, hk⟩

/-- a `nil` from `transport.Shutdown` before the deadline means that every connection had gone -/
def GoneOrDl (s : State) : Prop :=
  s.lnSkipped = false → (s.win = .deferred .nil → s.dl ≤ s.now ∨ allGone s) ∧ (∀ t, s.win = .returned .nil t → s.dl ≤ t ∨ allGone s)

theorem GoneOrDl.set_conn {s : State} (gd : GoneOrDl s) (c : Nat) {cn' : Conn} (act : Int)
    (h : allGone s → cn'.ph = .gone) : GoneOrDl { s with conns := s.conns.set c cn', active := act } := fun hs =>
  have key : allGone s → ∀ x ∈ s.conns.set c cn', x.ph = .gone := fun hg => forall_mem_set hg (h hg)
  ⟨fun hw => ((gd hs).1 hw).imp id key, fun t hw => ((gd hs).2 t hw).imp id key⟩

theorem step_goneOrDl (cfg : Cfg) {s s' : State} {a : Act} (inv : Inv s)
    (cc : ConnCount s) (gd : GoneOrDl s) (h : Step cfg s a s') : GoneOrDl s' := by
  unfold GoneOrDl at *
  have idle : s.active ≤ 0 → allGone s := fun ha => liveCount_zero (by have := cc.active; omega)
  cases h
  case advance d =>
    intro hs
    obtain ⟨g1, g2⟩ := gd hs
    exact ⟨fun hw => (g1 hw).imp (fun h => by simp; omega) id, g2⟩
  case accept hr ho =>
    intro hs
    obtain ⟨g1, g2⟩ := gd hs
    have hcl : postClose s.win = true → False := fun hp => by
      have := (inv.closed hp hs).1; simp [ho] at this
    refine ⟨fun hw => (hcl (by simp_all [postClose])).elim, fun t hw => (hcl (by simp_all [postClose])).elim⟩
  case conn c f cn cn' hc hf hca =>
    exact GoneOrDl.set_conn gd c _ fun h => (connStep_gone_iff (connStep_of hca hf)).2 (h cn (List.mem_of_getElem? hc))
  case connGone c cn cn' hc hf =>
    exact GoneOrDl.set_conn gd c _ fun _ => by rw [(cGone_some hf).2]
  case closeLn | casWin | spawn => intro _; simp
  case tick1 =>
    intro _
    by_cases ha : s.active ≤ 0 <;> simp only [ha, ↓reduceIte]
    · exact ⟨fun _ => Or.inr (idle ha), nofun⟩
    · exact ⟨nofun, nofun⟩
  case tickLoop t0 _ _ =>
    intro _
    by_cases ha : s.active ≤ 0 <;> simp only [ha, ↓reduceIte]
    · exact ⟨fun _ => Or.inr (idle ha), nofun⟩
    · by_cases hm : cfg.maxWait < s.now - t0 <;> simp only [hm, ↓reduceIte]
      all_goals exact ⟨nofun, nofun⟩
  case ctxDone t0 hw hd =>
    intro _
    exact ⟨fun _ => Or.inl hd, fun t h => by simp at h⟩
  case finish e hw hc =>
    intro hs
    obtain ⟨g1, g2⟩ := gd hs
    refine ⟨fun h => by simp at h, fun t h => ?_⟩
    simp at h
    obtain ⟨rfl, rfl⟩ := h
    exact g1 hw
  all_goals exact gd

/-- environment discipline: `Shutdown` is only called on an engine whose listener exists (the harness
calls it after the server answered; excludes the known finding "Shutdown before Listen") -/
def okListen (s : State) : Act → Bool
  | .shutCall => s.lnSet
  | _ => true

/-- environment discipline, weaker than `okListen` along runs: no CAS of a `Shutdown` caller succeeds in the
window between `MarkAsRunning` and the creation of the listener.  It excludes exactly the known finding
"Shutdown before Listen"; `Shutdown` may be called at any time, in particular on an engine that has not been
started (and may be started later). -/
def okWin (s : State) : Act → Bool
  | .shutCas _ => s.status != stRunning || s.lnSet
  | _ => true

/-- under `okWin` the winner of the CAS finds the listener, and so does the listener-closing step of `transport.Shutdown` -/
def WinLn (s : State) : Prop := (s.win ≠ .none → s.lnSet = true) ∧ s.lnSkipped = false

theorem step_winLn (cfg : Cfg) {s s' : State} {a : Act} (wl : WinLn s) (hok : okWin s a = true) (h : Step cfg s a s') :
    WinLn s' := by
  obtain ⟨wl, ns⟩ := wl
  cases h
  case casWin k hk hs => exact ⟨fun _ => by simpa [okWin, hs] using hok, ns⟩
  case listen => exact ⟨fun _ => rfl, ns⟩
  case closeLn hw => exact ⟨fun _ => wl (by rw [hw]; nofun), by simp [wl (by simp [hw])]⟩
  case spawn hw | tick1 hw _ | tickLoop hw _ | ctxDone hw _ | finish hw _ => exact ⟨fun _ => wl (by rw [hw]; nofun), ns⟩
  all_goals exact ⟨wl, ns⟩

theorem run_noSkip {cfg : Cfg} {n : Nat} {acts : List Act} {sF : State} (hr : run cfg (init n) acts = some sF)
    (hok : allOk okWin cfg (init n) acts = true) : sF.lnSkipped = false :=
  (run_traceInv cfg okWin (fun s _ => WinLn s) (fun _ _ _ _ wl ho hs => step_winLn cfg wl ho (step_Step cfg hs)) acts (tr := [])
    ⟨fun h => absurd rfl h, rfl⟩ hr hok).2

/-- under `okListen` callers exist only once the listener does -/
def CallGuard (s : State) : Prop := s.callers ≠ [] → s.lnSet = true

theorem step_callGuard (cfg : Cfg) {s s' : State} {a : Act} (cg : CallGuard s) (hok : okListen s a = true)
    (h : Step cfg s a s') : CallGuard s' := by
  unfold CallGuard at *
  cases h
  case shutCall => exact fun _ => hok
  case listen => exact fun _ => rfl
  case shutLoad | casWin | casLose | callerRet | finish => exact fun hn => cg (by simpa using hn)
  all_goals exact cg

theorem callGuard_init (n : Nat) : CallGuard (init n) := by
  simp [CallGuard, init]

/-- `okListen` (no `Shutdown` call before the listener exists) is a special case of `okWin`: along a run that
respects it, no CAS is even attempted before the listener exists -/
theorem allOk_okListen_okWin (cfg : Cfg) : ∀ (acts : List Act) {s sF : State}, CallGuard s →
    run cfg s acts = some sF → allOk okListen cfg s acts = true → allOk okWin cfg s acts = true
  | [], _, _, _, _, _ => rfl
  | a :: t, s, sF, cg, hr, hok => by
    simp only [run] at hr
    simp only [allOk, Bool.and_eq_true] at hok ⊢
    cases hs : step cfg s a with
    | none => simp [hs] at hr
    | some s' =>
      simp only [hs] at hr hok ⊢
      refine ⟨?_, allOk_okListen_okWin cfg t (step_callGuard cfg cg hok.1 (step_Step cfg hs)) hr hok.2⟩
      cases a <;> try rfl
      rename_i k
      have hne : s.callers ≠ [] := by
        intro h
        simp [step, h] at hs
      simp [okWin, cg hne]

/-- `lnSkipped` is written by the listener-closing step only and is `false` before it, so what holds of the states with
`lnSkipped = false` (the listener was found, or the step is still to come) can be carried along every run -/
theorem noSkip_back {cfg : Cfg} {s s' : State} {a : Act} (si : SI1 s) (h : Step cfg s a s') (ns : s'.lnSkipped = false) :
    s.lnSkipped = false := by
  cases h
  case closeLn hw => exact si.skipped (by rw [hw]; rfl)
  all_goals exact ns

/-- a dial started after the listener was closed is refused -/
theorem step_dialClosed (cfg : Cfg) (d : Nat) {s s' : State} {a : Act} (inv : Inv s) (hp : postClose s.win = true)
    (hs : s.lnSkipped = false) (hd : s.dials[d]? = some none ∨ s.dials[d]? = some (some false)) (h : Step cfg s a s') :
    s'.dials[d]? = some none ∨ s'.dials[d]? = some (some false) := by
  cases h
  case dialStart =>
    have hlt : d < s.dials.length := by rcases hd with hd | hd <;> exact getElem?_lt hd
    simpa [List.getElem?_append_left hlt] using hd
  case dialProbe i hi =>
    by_cases hid : i = d
    · subst hid
      right
      simp [getElem?_lt hi, (inv.closed hp hs).1]
    · simpa [List.getElem?_set_ne hid] using hd
  all_goals exact hd

/-- `transport.Shutdown` never yields `errStatusNotRunning` -/
def DefErr (s : State) : Prop :=
  match s.win with
  | .deferred e | .returned e _ => e ≠ .notRunning
  | _ => True

theorem step_defErr (cfg : Cfg) {s s' : State} {a : Act} (de : DefErr s) (h : Step cfg s a s') : DefErr s' := by
  unfold DefErr at de ⊢
  cases h
  case casWin | spawn | closeLn => trivial
  case tick1 => by_cases ha : s.active ≤ 0 <;> simp [ha]
  case tickLoop t0 _ _ => by_cases ha : s.active ≤ 0 <;> by_cases hm : cfg.maxWait < s.now - t0 <;> simp [ha, hm]
  case ctxDone => nofun
  case finish e hw _ => rwa [hw] at de
  all_goals exact de

/-- a caller that was made when the status had already left `running` gets `errStatusNotRunning` -/
def LoserAt (k : Nat) (s : State) : Prop :=
  stShutdown ≤ s.status ∧ ∃ p, s.callers[k]? = some p ∧ (p = .called ∨ isNotRunningRet p)

theorem step_loserAt (cfg : Cfg) (k : Nat) {s s' : State} {a : Act} (la : LoserAt k s) (h : Step cfg s a s') :
    LoserAt k s' := by
  obtain ⟨hst, p, hp, hpp⟩ := la
  unfold LoserAt
  cases h
  case shutCall => exact ⟨hst, p, by simp [List.getElem?_append_left (getElem?_lt hp), hp], hpp⟩
  case shutLoad k0 hk0 =>
    have : s.status ≠ stRunning := by simp [stRunning, stShutdown] at hst ⊢; omega
    exact ⟨hst, set_lift (P := fun p => p = .called ∨ isNotRunningRet p) hk0
      (fun _ => by rw [if_neg this]; exact Or.inr (Or.inl rfl)) ⟨p, hp, hpp⟩⟩
  case casWin k0 hk0 hs => simp [hs, stRunning, stShutdown] at hst
  case casLose k0 hk0 hs =>
    exact ⟨hst, set_lift (P := fun p => p = .called ∨ isNotRunningRet p) hk0 (fun _ => Or.inr (Or.inl rfl)) ⟨p, hp, hpp⟩⟩
  case finish e hw _ =>
    refine ⟨hst, p, ?_, hpp⟩
    have : winnerRet e p = p := by rcases hpp with rfl | rfl | rfl <;> rfl
    simp [hp, this]
  case callerRet k0 e hk0 =>
    refine ⟨hst, set_lift (P := fun p => p = .called ∨ isNotRunningRet p) hk0 (fun h => ?_) ⟨p, hp, hpp⟩⟩
    rcases h with h | h | h <;> cases h
    exact Or.inr (Or.inr rfl)
  case initOk _ h0 => simp [h0, stShutdown] at hst
  case markOk _ h0 => simp [h0, stShutdown, stInitialized] at hst
  case runReturn => exact ⟨(by decide : stShutdown ≤ stClosed), p, hp, hpp⟩
  all_goals exact ⟨hst, p, hp, hpp⟩

/-! ### the state invariants of every run together -/

/-- `n` is the number of registered hooks -/
structure AllInv (n : Nat) (s : State) : Prop where
  inv : Inv s
  co : CallersOk s
  si : SI1 s
  hk : HookWin s ∧ s.hooks.length = n
  wc : WinCaller s
  cc : ConnCount s
  gd : GoneOrDl s
  de : DefErr s

theorem allInv_init (n : Nat) : AllInv n (init n) := by
  refine ⟨inv_init n, callersOk_init n, ?_, ?_, ?_, ?_, ?_, trivial⟩
  · constructor <;> simp [init, postClose]
  · constructor
    · intro h hm; simp [init] at hm; intro hne; exact absurd hm.2 hne
    · simp [init]
  · intro h; simp [init] at h
  · constructor <;> simp [init, liveCount]
  · intro _; simp [init]

theorem step_allInv (cfg : Cfg) (n : Nat) {s s' : State} {a : Act} (ai : AllInv n s) (h : step cfg s a = some s') : AllInv n s' :=
  have hS := step_Step cfg h
  ⟨step_inv cfg ai.inv hS, step_callersOk cfg ai.inv ai.co hS, step_SI1 cfg ai.inv ai.si hS, step_hookWin cfg n ai.inv ai.hk hS,
    step_winCaller cfg ai.wc hS, step_connCount cfg ai.cc hS, step_goneOrDl cfg ai.inv ai.cc ai.gd hS,
    step_defErr cfg ai.de hS⟩

/-! ### events in the sequence -/

/-- an event `ev` (with some time stamp) is in the sequence.  The step invariants speak of membership, which
appending preserves; the clauses speak of positions (`holdsAt`), and `has_idx` / `has_of_getElem?` go between the two -/
def Has (tr : List TEv) (ev : Ev) : Prop := ∃ t, TEv.mk ev t ∈ tr

@[simp] theorem has_nil (ev : Ev) : Has [] ev ↔ False := by simp [Has]
@[simp] theorem has_append (tr l : List TEv) (ev : Ev) : Has (tr ++ l) ev ↔ Has tr ev ∨ Has l ev := by
  simp only [Has, List.mem_append, exists_or]
@[simp] theorem has_single (e ev : Ev) (t : Nat) : Has [TEv.mk e t] ev ↔ ev = e := by
  simp [Has]

theorem Has.mono {tr : List TEv} {ev : Ev} (l : List TEv) (h : Has tr ev) : Has (tr ++ l) ev := by simp [h]

theorem has_idx {l : List TEv} {ev : Ev} (h : Has l ev) : ∃ j, j < l.length ∧ ShutdownSpec.holdsAt l (· == ev) j := by
  obtain ⟨t, ht⟩ := h
  obtain ⟨j, hj⟩ := List.mem_iff_getElem?.1 ht
  exact ⟨j, getElem?_lt hj, ShutdownSpec.holdsAt_eq.2 ⟨t, hj⟩⟩

theorem has_of_getElem? {l : List TEv} {ev : Ev} {t j : Nat} (h : l[j]? = some (TEv.mk ev t)) : Has l ev :=
  ⟨t, List.mem_of_getElem? h⟩

/-! ### the events of one step, and which step produced an event -/

theorem mem_obsStep {s : State} {a : Act} {e : TEv} : e ∈ obsStep s a ↔ obsAct s a = some e.ev ∧ e.t = s.now := by
  unfold obsStep
  obtain ⟨ev', t⟩ := e
  cases obsAct s a with
  | none => simp
  | some ev => simp only [List.mem_singleton, TEv.mk.injEq, Option.some.injEq, eq_comm (a := ev')]

theorem has_obsStep {s : State} {a : Act} {ev : Ev} : Has (obsStep s a) ev ↔ obsAct s a = some ev := by
  unfold Has
  constructor
  · rintro ⟨t, h⟩; exact (mem_obsStep.1 h).1
  · intro h; exact ⟨s.now, mem_obsStep.2 ⟨h, rfl⟩⟩

/-- `obsAct` read backwards: the step behind each event -/
inductive ObsOf (s : State) : Act → Ev → Prop
  | L : ObsOf s .listen .L
  | Ds : ObsOf s .dialStart (.Ds s.dials.length)
  | De (i : Nat) (ok : Bool) : ObsOf s (.dialEnd i ok) (.De i ok)
  | A : ObsOf s .accept (.A s.conns.length)
  | Q (c : Nat) (rc : Bool) (cn : Conn) : s.conns[c]? = some cn → ObsOf s (.reqArrive c rc) (.Q c cn.started rc)
  | X (c : Nat) (b : Bool) (cn : Conn) : s.conns[c]? = some cn → ObsOf s (.handlerRet c b) (.X c (cn.started - 1) b)
  | R (c : Nat) (cl : Bool) (cn : Conn) : s.conns[c]? = some cn → ObsOf s (.clientRead c cl) (.R c cn.acked cl true)
  | B (c : Nat) : ObsOf s (.badReq c) (.B c)
  | C (c : Nat) : ObsOf s (.peerClose c) (.C c)
  | E (c : Nat) : ObsOf s (.clientEof c) (.E c)
  | S : ObsOf s .shutCall (.S s.callers.length)
  | T (k : Nat) (e : Err) : ObsOf s (.callerRet k e) (.T k (errStr e))
  | HS (j : Nat) : ObsOf s (.hookStart j) (.HS j)
  | HE (j : Nat) : ObsOf s (.hookEnd j) (.HE j)

theorem obsOf {s : State} {a : Act} {ev : Ev} (h : obsAct s a = some ev) : ObsOf s a ev := by
  cases a <;> simp only [obsAct, Option.some.injEq, Option.map_eq_some_iff, reduceCtorEq] at h
  case reqArrive c rc => obtain ⟨cn, hc, rfl⟩ := h; exact .Q c rc cn hc
  case handlerRet c b => obtain ⟨cn, hc, rfl⟩ := h; exact .X c b cn hc
  case clientRead c cl => obtain ⟨cn, hc, rfl⟩ := h; exact .R c cl cn hc
  all_goals
    subst h
    constructor

theorem obsAct_R {s : State} {a : Act} {c k : Nat} {cl co : Bool} (h : obsAct s a = some (.R c k cl co)) :
    a = .clientRead c cl ∧ co = true ∧ ∃ cn, s.conns[c]? = some cn ∧ k = cn.acked := by
  cases obsOf h
  exact ⟨rfl, rfl, _, ‹_›, rfl⟩

theorem obsAct_Q {s : State} {a : Act} {c k : Nat} {rc : Bool} (h : obsAct s a = some (.Q c k rc)) :
    a = .reqArrive c rc ∧ ∃ cn, s.conns[c]? = some cn ∧ k = cn.started := by
  cases obsOf h
  exact ⟨rfl, _, ‹_›, rfl⟩

theorem obsAct_T {s : State} {a : Act} {k : Nat} {err : String} (h : obsAct s a = some (.T k err)) :
    ∃ e, a = .callerRet k e ∧ err = errStr e := by
  cases obsOf h
  exact ⟨_, rfl, rfl⟩

theorem obsAct_S {s : State} {a : Act} {k : Nat} (h : obsAct s a = some (.S k)) : a = .shutCall ∧ k = s.callers.length := by
  cases obsOf h
  exact ⟨rfl, rfl⟩

theorem obsAct_X {s : State} {a : Act} {c k : Nat} {b : Bool} (h : obsAct s a = some (.X c k b)) :
    a = .handlerRet c b ∧ ∃ cn, s.conns[c]? = some cn ∧ k = cn.started - 1 := by
  cases obsOf h
  exact ⟨rfl, _, ‹_›, rfl⟩

theorem obsAct_A' {s : State} {a : Act} {c : Nat} (h : obsAct s a = some (.A c)) : a = .accept ∧ c = s.conns.length := by
  cases obsOf h
  exact ⟨rfl, rfl⟩

theorem time_append {s : State} {a : Act} {tr : List TEv} {n : Nat} (h : ∀ e ∈ tr, e.t ≤ s.now) (hn : s.now ≤ n) :
    ∀ e ∈ tr ++ obsStep s a, e.t ≤ n := by
  intro e he
  rcases List.mem_append.1 he with he | he
  · exact Nat.le_trans (h e he) hn
  · exact (mem_obsStep.1 he).2 ▸ hn

end Hertz.Shutdown
