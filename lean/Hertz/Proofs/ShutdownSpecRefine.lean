import Hertz.Proofs.ShutdownSpecLog
/-!
The invariants over (state, events observed so far) that hold along every run of the interleaving model
`Hertz.Shutdown`, in one bundle `JW`; and the run cut at an observed event with `JW` at the cut (`split_JW`), from which
`ShutdownSpecFull` reads the clauses of the trace specification off.  An event of the sequence is spoken of as `Has tr ev` where the time stamp does not matter, as
`⟨ev, t⟩ ∈ tr` where it does, and as `tr[i]? = some ⟨ev, t⟩` where the order of two events does (`LBS`, `FlipL`, `Hist`).
-/
namespace Hertz.Shutdown
open Hertz.ShutdownSpec

theorem errStr_inj {e e' : Err} (h : errStr e = errStr e') : e = e' := by
  cases e <;> cases e' <;> first | rfl | (revert h; decide)

/-! ### positions before a cut -/

theorem SplitAt.before {cfg ok s sF acts i e acts1 a acts2 s1 s1'} (sp : SplitAt cfg ok s sF acts i e acts1 a acts2 s1 s1')
    {f : Nat} (hf : f < i) : (obsRun cfg s acts)[f]? = (obsRun cfg s acts1)[f]? := by
  rw [sp.tr, List.getElem?_append_left (by rw [sp.len]; exact hf)]

theorem SplitAt.prefixEq {cfg ok s sF acts i e acts1 a acts2 s1 s1'} (sp : SplitAt cfg ok s sF acts i e acts1 a acts2 s1 s1') :
    (obsRun cfg s acts)[i]? = some e := by
  rw [sp.tr, List.getElem?_append_right (by rw [sp.len]; omega), sp.len]; simp

theorem SplitAt.has_before {cfg ok s sF acts i e acts1 a acts2 s1 s1'} (sp : SplitAt cfg ok s sF acts i e acts1 a acts2 s1 s1')
    {ev : Ev} (h : Has (obsRun cfg s acts1) ev) : ∃ j t, j < i ∧ (obsRun cfg s acts)[j]? = some (TEv.mk ev t) := by
  obtain ⟨j, hj, hh⟩ := has_idx h
  rw [sp.len] at hj
  obtain ⟨t, ht⟩ := holdsAt_eq.1 hh
  exact ⟨j, t, hj, by rw [sp.before hj]; exact ht⟩

theorem SplitAt.get_before {cfg ok s sF acts i e acts1 a acts2 s1 s1'} (sp : SplitAt cfg ok s sF acts i e acts1 a acts2 s1 s1')
    {j : Nat} {e' : TEv} (hj : j < i) (h : (obsRun cfg s acts)[j]? = some e') : (obsRun cfg s acts1)[j]? = some e' := by
  rw [← sp.before hj]; exact h

section
variable {cfg : Cfg} {n : Nat} {acts : List Act} {sF : State}

theorem step_callerRet_ret {s s' : State} {k : Nat} {e : Err} (hs : step cfg s (.callerRet k e) = some s') :
    s.callers[k]? = some (.returned e) := by
  cases step_Step cfg hs
  case callerRet hk => exact hk
  case conn hca => cases hca

/-- the record of the caller that won the CAS shows a result only once the winner has returned, and then that result -/
theorem winner_ret {s : State} {p : CallerPh} {e : Err} (ai : AllInv n s) (hwn : s.win ≠ .none) (hk : s.callers[s.winK]? = some p)
    (hp : p = .returned e ∨ p = .finished e) : ∃ t, s.win = .returned e t := by
  obtain ⟨q, hq, hok⟩ := ai.wc hwn
  rw [hk] at hq; cases hq
  generalize s.win = w at hok hwn
  cases w
  case none => exact absurd rfl hwn
  case returned e' t => exact ⟨t, by rcases hok with rfl | rfl <;> rcases hp with h | h <;> cases h <;> rfl⟩
  all_goals rcases hp with rfl | rfl <;> cases hok

/-- a caller that got anything but `errStatusNotRunning` is the winner of the CAS, and the winner has returned that -/
theorem ret_winner {s : State} {k : Nat} {p : CallerPh} {e : Err} (ai : AllInv n s) (hk : s.callers[k]? = some p)
    (hp : p = .returned e ∨ p = .finished e) (he : e ≠ .notRunning) : s.win ≠ .none ∧ k = s.winK ∧ ∃ t, s.win = .returned e t := by
  have hw : ¬ (s.win = .none ∨ k ≠ s.winK) := fun h => by
    have := ai.co k _ hk h
    rcases hp with rfl | rfl <;> cases e <;> simp_all [pendOrErr, isNotRunningRet]
  have hwn : s.win ≠ .none := fun h => hw (Or.inl h)
  have hkk : k = s.winK := Classical.byContradiction fun h => hw (Or.inr h)
  exact ⟨hwn, hkk, winner_ret ai hwn (hkk ▸ hk) hp⟩

/-- while nobody has won the CAS, the status of a listening engine is `running` -/
theorem SI1.running {s : State} (si : SI1 s) (hwn : s.win = .none) (hln : s.lnSet = true) : s.status = stRunning :=
  ((si.winNone hwn).2.2.1 ((si.winNone hwn).2.2.2 hln)).1

/-! ### calls made before / after the listener answered -/

/-- the listener answered before caller `k` made its call (an `L` event before the `S k` event) -/
def LBS (tr : List TEv) (k : Nat) : Prop :=
  ∃ (i s t t' : Nat), i < s ∧ tr[i]? = some (TEv.mk .L t) ∧ tr[s]? = some (TEv.mk (.S k) t')

theorem mem_S_snoc {s : State} {a : Act} {tr : List TEv} {k t : Nat} (h : TEv.mk (.S k) t ∈ tr ++ obsStep s a) :
    TEv.mk (.S k) t ∈ tr ∨ (a = .shutCall ∧ k = s.callers.length ∧ t = s.now) := by
  rcases List.mem_append.1 h with h | h
  · exact Or.inl h
  · obtain ⟨h1, h2⟩ := mem_obsStep.1 h
    obtain ⟨ha, hk⟩ := obsAct_S h1
    exact Or.inr ⟨ha, hk, h2⟩

theorem LBS.mono {tr : List TEv} {k : Nat} (l : List TEv) (h : LBS tr k) : LBS (tr ++ l) k := by
  obtain ⟨i, s, t, t', his, hi, hs⟩ := h
  exact ⟨i, s, t, t', his, by rw [List.getElem?_append_left (getElem?_lt hi)]; exact hi,
    by rw [List.getElem?_append_left (getElem?_lt hs)]; exact hs⟩

theorem LBS_of_append {tr l : List TEv} {k : Nat} (h : LBS (tr ++ l) k) (hne : ∀ t, TEv.mk (.S k) t ∉ l) : LBS tr k := by
  obtain ⟨i, s, t, t', his, hi, hs⟩ := h
  by_cases hlt : s < tr.length
  · rw [List.getElem?_append_left hlt] at hs
    rw [List.getElem?_append_left (by omega)] at hi
    exact ⟨i, s, t, t', his, hi, hs⟩
  · rw [List.getElem?_append_right (by omega)] at hs
    exact absurd (List.mem_of_getElem? hs) (hne t')

theorem LBS_step {s : State} {a : Act} {tr : List TEv} {k : Nat} (h : LBS (tr ++ obsStep s a) k)
    (hne : ¬ (a = .shutCall ∧ k = s.callers.length)) : LBS tr k :=
  LBS_of_append h (fun _ hm => hne (obsAct_S (mem_obsStep.1 hm).1))

theorem lbs_lnSet {s : State} {tr : List TEv} {k : Nat} (lg : Log s tr) (h : LBS tr k) : s.lnSet = true := by
  obtain ⟨i, _, t, _, _, hi, _⟩ := h
  exact lg.seen .L (has_of_getElem? hi)

/-- an `errStatusNotRunning` given to a call that was made after `L` means that the status had already been flipped -/
def Late (s : State) (tr : List TEv) : Prop :=
  ∀ k p, s.callers[k]? = some p → isNotRunningRet p → LBS tr k → stShutdown ≤ s.status

theorem step_late (cfg : Cfg) {s s' : State} {a : Act} {tr : List TEv} (ai : AllInv n s) (lg : Log s tr) (la : Late s tr)
    (hs : Step cfg s a s') : Late s' (tr ++ obsStep s a) := by
  intro k p hk hp hl
  -- a caller the step does not touch
  have keep : ∀ p, s.callers[k]? = some p → isNotRunningRet p → ¬ (a = .shutCall ∧ k = s.callers.length) → stShutdown ≤ s'.status :=
    fun p hk hp hne => Nat.le_trans (la k p hk hp (LBS_step hl hne)) (step_status_le cfg ai.inv.st4 hs)
  -- a call made after `L` that finds the status other than `running` finds it past `running`
  have found : ¬ (a = .shutCall ∧ k = s.callers.length) → s.status ≠ stRunning → stShutdown ≤ s.status := fun hne hst => by
    have := ai.si.lnStatus (lbs_lnSet lg (LBS_step hl hne))
    simp [stRunning, stShutdown] at hst this ⊢; omega
  cases hs
  case shutCall =>
    rcases getElem?_snoc hk with hk | ⟨_, rfl⟩
    · exact keep p hk hp (fun h => by have := getElem?_lt hk; omega)
    · simp [isNotRunningRet] at hp
  case shutLoad k0 hk0 =>
    rcases set_cases hk with ⟨_, hk⟩ | ⟨rfl, rfl⟩
    · exact keep p hk hp (by simp)
    · exact found (by simp) fun hst => by simp [hst, isNotRunningRet] at hp
  case casWin => exact Nat.le_refl _
  case casLose k0 hk0 hst =>
    rcases set_cases hk with ⟨_, hk⟩ | _
    · exact keep p hk hp (by simp)
    · exact found (by simp) hst
  case finish e hwin hc => exact ai.inv.winSt (by simp [hwin])
  case callerRet k0 e hk0 =>
    rcases set_cases hk with ⟨_, hk⟩ | ⟨rfl, rfl⟩
    · exact keep p hk hp (by simp)
    · simp [isNotRunningRet] at hp
      subst hp
      exact keep _ hk0 (Or.inl rfl) (by simp)
  case conn hca => exact keep p hk hp (by rintro ⟨rfl, _⟩; simp [connAct] at hca)
  all_goals exact keep p hk hp (by simp)

/-- a call made on a listening engine that is the only call so far does not get `errStatusNotRunning`: the status would have
left `running`, which on a listening engine takes a winner of the CAS; the only caller there is would be that winner, whose
result `transport.Shutdown` yields -/
theorem sole_ok {s : State} {tr : List TEv} {p : CallerPh} (ai : AllInv n s) (lg : Log s tr) (la : Late s tr)
    (hl : s.callers.length = 1) (hlbs : LBS tr 0) (hp : s.callers[0]? = some p) : ¬ isNotRunningRet p := by
  intro hnr
  have hst := la 0 p hp hnr hlbs
  have hwn : s.win ≠ .none := fun hwn => by
    simp [ai.si.running hwn (lbs_lnSet lg hlbs), stRunning, stShutdown] at hst
  obtain ⟨q, hq, _⟩ := ai.wc hwn
  have h0 : s.winK = 0 := by have := getElem?_lt hq; omega
  obtain ⟨t, ht⟩ := winner_ret ai hwn (h0 ▸ hp) hnr
  have de := ai.de
  rw [DefErr, ht] at de
  exact de rfl

/-! ### time stamps of the winning call (no scheduling discipline needed) -/

/-- clock facts about the caller that won the CAS, for every schedule, by its phase -/
def TI2 (cfg : Cfg) (s : State) : Prop :=
  match s.win with
  | .none => True
  | .pre => s.tcas ≤ s.now
  | .closeLn | .wait1 => s.tcas ≤ s.now ∧ s.tcas + cfg.exitWait ≤ s.dl
  | .loop t0 => s.tcas ≤ s.now ∧ s.tcas + cfg.exitWait ≤ s.dl ∧ s.tcas ≤ t0
  | .deferred e => s.tcas ≤ s.now ∧ s.tcas + cfg.exitWait ≤ s.dl ∧ (e = .timeout → s.tcas + cfg.maxWait < s.now)
  | .returned e t => s.tcas + cfg.exitWait ≤ s.dl ∧ (e = .timeout → s.tcas + cfg.maxWait < t)

theorem TI2.ret {cfg : Cfg} {s : State} {e : Err} {t : Nat} (ti : TI2 cfg s) (hw : s.win = .returned e t) :
    s.tcas + cfg.exitWait ≤ s.dl ∧ (e = .timeout → s.tcas + cfg.maxWait < t) := by
  simpa [TI2, hw] using ti

theorem step_TI2 (cfg : Cfg) {s s' : State} {a : Act} (ti : TI2 cfg s) (h : Step cfg s a s') : TI2 cfg s' := by
  cases h
  case advance d =>
    unfold TI2 at ti ⊢
    cases hw : s.win <;> simp only [hw] at ti ⊢
    case deferred => exact ⟨by omega, ti.2.1, fun h => by have := ti.2.2 h; omega⟩
    case returned => exact ti
    all_goals omega
  case casWin => exact Nat.le_refl _
  case spawn hw | ctxDone hw _ => simp [TI2, hw] at ti ⊢; omega
  case closeLn hw => simpa [TI2, hw] using ti
  case tick1 hw _ =>
    simp [TI2, hw] at ti
    by_cases ha : s.active ≤ 0 <;> simp [TI2, ha] <;> omega
  case tickLoop t0 hw _ =>
    simp [TI2, hw] at ti
    by_cases ha : s.active ≤ 0
    · simp [TI2, ha]; omega
    · by_cases hm : cfg.maxWait < s.now - t0 <;> simp [TI2, ha, hm] <;> omega
  case finish e hw _ => simp [TI2, hw] at ti ⊢; exact ⟨ti.2.1, ti.2.2⟩
  all_goals exact ti

/-- the `S` event of the winning caller is not later than its CAS -/
def WS (s : State) (tr : List TEv) : Prop := s.win ≠ .none → ∀ t, TEv.mk (.S s.winK) t ∈ tr → t ≤ s.tcas

theorem WS.frame {s s' : State} {a : Act} {tr : List TEv} (ws : WS s tr) (hw : s.win = .none → s'.win = .none)
    (hk : s'.winK = s.winK) (ht : s'.tcas = s.tcas) (hS : a ≠ .shutCall) : WS s' (tr ++ obsStep s a) := by
  intro hw' t hm
  exact ht ▸ ws (fun h => hw' (hw h)) t (hk ▸ (mem_S_snoc hm).resolve_right fun h => hS h.1)

theorem step_WS (cfg : Cfg) {s s' : State} {a : Act} {tr : List TEv} (wc : WinCaller s) (lg : Log s tr) (ws : WS s tr)
    (h : Step cfg s a s') : WS s' (tr ++ obsStep s a) := by
  cases h
  case casWin k hk hs =>
    intro _ t ht
    simp [obsStep, obsAct] at ht
    exact lg.time _ ht
  case shutCall =>
    intro hw t ht
    simp [obsStep, obsAct] at ht
    rcases ht with ht | ⟨hk, _⟩
    · exact ws hw t ht
    · obtain ⟨p, hp, _⟩ := wc hw
      have := getElem?_lt hp
      omega
  case conn hca => exact ws.frame id rfl rfl (fun h => by simp [h, connAct] at hca)
  case spawn hw | closeLn hw | tick1 hw _ | tickLoop hw _ | ctxDone hw _ | finish hw _ =>
    exact ws.frame (fun h => by rw [hw] at h; cases h) rfl rfl nofun
  all_goals exact ws.frame id rfl rfl nofun

/-! ### no forced close before any `Shutdown` call -/

/-- while nobody has called `Shutdown`, a close flag comes from the request or from the handler -/
def NSc (c : Nat) (cn : Conn) (tr : List TEv) : Prop :=
  (∀ k r, cn.resps[k]? = some r → r.close = true → Has tr (.Q c k true) ∨ Has tr (.X c k true)) ∧
  (cn.ph = .handling true → Has tr (.Q c (cn.started - 1) true)) ∧
  (∀ g, cn.ph = .returned true g ∨ cn.ph = .checked true g →
    Has tr (.Q c (cn.started - 1) true) ∨ Has tr (.X c (cn.started - 1) true))

def NS (s : State) (tr : List TEv) : Prop := s.callers = [] → ∀ c cn, s.conns[c]? = some cn → NSc c cn tr

theorem NSc.mono {c : Nat} {cn : Conn} {tr : List TEv} (l : List TEv) (h : NSc c cn tr) : NSc c cn (tr ++ l) := by
  obtain ⟨h1, h2, h3⟩ := h
  exact ⟨fun k r hk hr => (h1 k r hk hr).imp (Has.mono l) (Has.mono l), fun hp => (h2 hp).mono l,
    fun g hp => (h3 g hp).imp (Has.mono l) (Has.mono l)⟩

theorem nocaller_running {s : State} (si : SI1 s) (wc : WinCaller s) (hcl : s.callers = []) {c : Nat} {cn : Conn}
    (hc : s.conns[c]? = some cn) : isRunning s = true := by
  have hwn : s.win = .none := Classical.byContradiction fun hne => by
    obtain ⟨p, hp, _⟩ := wc hne
    simp [hcl] at hp
  have hln := si.connsLn (fun h => by simp [h] at hc)
  simp [isRunning, si.running hwn hln, hln]

theorem step_NS (cfg : Cfg) {s s' : State} {a : Act} {tr : List TEv} (inv : Inv s) (si : SI1 s) (wc : WinCaller s)
    (ns : NS s tr) (h : Step cfg s a s') : NS s' (tr ++ obsStep s a) := by
  intro hcl c cn' hc'
  rcases step_conn_back h hc' with ⟨cn, hc, evo⟩ | ⟨_, _, rfl⟩
  rotate_left
  · exact ⟨by simp, by simp, by simp⟩
  -- callers are never removed
  have hcl : s.callers = [] := by
    have hlen := step_callers_len h
    exact List.eq_nil_of_length_eq_zero (by rw [hcl] at hlen; exact Nat.le_zero.1 hlen)
  obtain ⟨m1, m2, m3⟩ := (ns hcl c cn hc).mono (obsStep s a)
  have hcount := (inv.conns cn (List.mem_of_getElem? hc)).count
  cases evo with
  | other heq _ => exact heq ▸ ⟨m1, m2, m3⟩
  | gone _ _ heq => exact heq ▸ ⟨m1, by simp, by simp⟩
  | step hcs =>
    cases hcs with
    | reqArrive _ rc _ hph =>
      refine ⟨m1, ?_, by simp⟩
      intro hp
      simp at hp
      subst hp
      simp [obsStep, obsAct, hc]
    | handlerRet _ b _ rc hph =>
      refine ⟨m1, by simp, ?_⟩
      intro g hp
      simp at hp
      have hp := hp.1
      cases rc
      · simp at hp; subst hp
        right; simp [obsStep, obsAct, hc]
      · exact Or.inl (m2 hph)
    | exitCheck _ _ cl g hph =>
      have hrun := nocaller_running si wc hcl hc
      refine ⟨m1, by simp, ?_⟩
      intro g' hp
      simp [hrun] at hp
      obtain ⟨rfl, rfl⟩ := hp
      exact m3 g (Or.inl hph)
    | writeResp _ _ cl g hph =>
      refine ⟨?_, by cases cl <;> simp, by cases cl <;> simp⟩
      intro k r hk hr
      rcases getElem?_snoc hk with hk | ⟨rfl, rfl⟩
      · exact m1 k r hk hr
      · have : cn.started - 1 = cn.resps.length := by simp [hph, inflight] at hcount; omega
        rw [← this]
        exact m3 g (Or.inr (by rw [hph]; congr 1))
    | connDrop _ _ hph _ => exact ⟨m1, by simp, by simp⟩
    | badReq _ _ hph => exact ⟨m1, by simp, by simp⟩
    | peerClose _ _ => exact ⟨m1, m2, m3⟩
    | clientRead _ _ _ r hr _ => exact ⟨m1, m2, m3⟩
    | clientEof _ _ _ _ => exact ⟨m1, m2, m3⟩
    | npClose _ _ hph _ => exact ⟨m1, by simp, by simp⟩

/-! ### what the events observed so far say about the present state -/

/-- position `j` of the sequence proves that the status has left `running` (`flipAt`, as a proposition) -/
def FlipL (l : List TEv) (j : Nat) : Prop :=
  (∃ h t, l[j]? = some (TEv.mk (.HS h) t)) ∨
  (∃ k err t, l[j]? = some (TEv.mk (.T k err) t) ∧ (err ≠ "notrunning" ∨ LBS l k))

theorem retFlipAt_FlipL {l : List TEv} {j : Nat} (h : retFlipAt l.toArray j = true) : FlipL l j := by
  unfold retFlipAt at h
  rw [evAt_list] at h
  split at h
  · rename_i k err t heq
    right
    refine ⟨k, err, t, heq, ?_⟩
    rw [Bool.or_eq_true] at h
    rcases h with h | h
    · left; simpa using h
    · right
      split at h
      · rename_i s hs
        obtain ⟨t', hs'⟩ := holdsAt_eq.1 (idxOf?_eq_some.1 hs).1
        obtain ⟨i, his, hi⟩ := (existsBefore_iff _ _ _).1 h
        obtain ⟨t'', hi'⟩ := holdsAt_eq.1 hi
        exact ⟨i, s, t'', t', his, hi', hs'⟩
      · simp at h
  · simp at h

theorem flipAt_FlipL {l : List TEv} {j : Nat} (h : flipAt l.toArray j = true) : FlipL l j := by
  unfold flipAt at h
  rw [Bool.or_eq_true] at h
  rcases h with h | h
  · rw [evAt_list] at h
    split at h
    · rename_i hh t heq; exact Or.inl ⟨hh, t, heq⟩
    · simp at h
  · exact retFlipAt_FlipL h

/-- once a call has returned `nil` the winner is past the listener-closing step: its caller is the winner, who has returned -/
theorem tnil_postClose {s : State} {tr : List TEv} {k : Nat} (ai : AllInv n s) (lg : Log s tr) (h : Has tr (.T k "nil")) :
    postClose s.win = true := by
  obtain ⟨e, he, hk⟩ := lg.seen _ h
  cases errStr_inj (e' := .nil) he.symm
  obtain ⟨_, _, t, ht⟩ := ret_winner ai hk (Or.inr rfl) nofun
  simp [ht, postClose]

/-- at a flip witness the status has left `running`: a hook has been started, which the winner of the CAS does; or a caller
has got a result that only the winner gets; or `errStatusNotRunning` after a call on the listening engine (`Late`) -/
theorem flip_status {s : State} {tr : List TEv} {j : Nat} (ai : AllInv n s) (lg : Log s tr) (la : Late s tr) (h : FlipL tr j) :
    stShutdown ≤ s.status := by
  rcases h with ⟨hk, t, he⟩ | ⟨k, err, t, he, hor⟩
  · have hd : _ ∨ _ := lg.seen _ (has_of_getElem? he)
    rcases hd with hd | hd <;> exact ai.inv.winSt (ai.hk.1 _ (List.mem_of_getElem? hd) nofun).1
  · obtain ⟨e, rfl, hk⟩ := lg.seen _ (has_of_getElem? he)
    by_cases hn : e = .notRunning
    · exact la k _ hk (Or.inr (hn ▸ rfl)) (hor.resolve_left fun h => h (hn ▸ rfl))
    · exact ai.inv.winSt (ret_winner ai hk (Or.inr rfl) hn).1

theorem getElem?_step {s : State} {a : Act} {tr : List TEv} {i : Nat} {e : TEv} (h : (tr ++ obsStep s a)[i]? = some e) :
    tr[i]? = some e ∨ (i = tr.length ∧ obsAct s a = some e.ev ∧ e.t = s.now) := by
  rcases Nat.lt_or_ge i tr.length with hi | hi
  · exact Or.inl (by rwa [List.getElem?_append_left hi] at h)
  · rw [List.getElem?_append_right hi] at h
    have hlt := Nat.lt_of_lt_of_le (getElem?_lt h) (obsStep_length_le s a)
    exact Or.inr ⟨by omega, mem_obsStep.1 (List.mem_of_getElem? h)⟩

/-- a flip witness of the sequence extended by the event of a step, at a position of the sequence, is one of the sequence:
the call whose return stands there has been made -/
theorem FlipL.old {s : State} {a : Act} {tr : List TEv} {j : Nat} (lg : Log s tr) (hj : j < tr.length)
    (h : FlipL (tr ++ obsStep s a) j) : FlipL tr j := by
  unfold FlipL at h
  rw [List.getElem?_append_left hj] at h
  refine h.imp id fun ⟨k, err, t, he, hor⟩ => ⟨k, err, t, he, hor.imp id fun hl => LBS_step hl ?_⟩
  rintro ⟨_, hk⟩
  obtain ⟨e, _, hf⟩ := lg.seen _ (has_of_getElem? he)
  exact absurd (getElem?_lt hf) (by omega)

theorem step_allGone (cfg : Cfg) {s s' : State} {a : Act} (inv : Inv s) (ns : s.lnSkipped = false) (hg : allGone s)
    (hp : postClose s.win = true) (h : Step cfg s a s') : allGone s' := by
  unfold allGone at *
  cases h
  case accept hr ho =>
    have := (inv.closed hp ns).1
    simp [ho] at this
  case conn c f cn cn' hc hf hca =>
    exact forall_mem_set hg ((connStep_gone_iff (connStep_of hca hf)).2 (hg cn (List.mem_of_getElem? hc)))
  case connGone c cn cn' hc hf =>
    unfold cGone at hf; split at hf <;> simp at hf; subst hf
    exact forall_mem_set hg rfl
  all_goals exact hg

/-- facts about the state that hold from the step of some event on, each kept by a step lemma of its own (`step_allGone`,
`step_dialClosed`, `step_pendAt`, `step_loserAt`).  The first two are about the closed listener and say nothing of a state in
which the listener-closing step found none (`lnSkipped`, the known finding; excluded by `okWin`: `run_noSkip`) -/
structure Hist (cfg : Cfg) (s : State) (tr : List TEv) : Prop where
  /-- once a call has returned `nil` early, every connection is gone -/
  early : s.lnSkipped = false → ∀ k tw ts, TEv.mk (.T k "nil") tw ∈ tr → TEv.mk (.S k) ts ∈ tr →
    tw - ts + 2000 < cfg.exitWait → allGone s
  /-- a dial started after a `nil` return is refused -/
  dial : s.lnSkipped = false → ∀ (w sd k d t t' : Nat), w < sd → tr[w]? = some (TEv.mk (.T k "nil") t) →
    tr[sd]? = some (TEv.mk (.Ds d) t') → s.dials[d]? = some none ∨ s.dials[d]? = some (some false)
  /-- a handler that returned after a flip witness has its request pending with the ghost set -/
  pend : ∀ (f i c k : Nat) b t, f < i → FlipL tr f → tr[i]? = some (TEv.mk (.X c k b) t) → PendAt c k s
  /-- a call made after a flip witness gets `errStatusNotRunning` -/
  loser : ∀ (f i k t : Nat), f < i → FlipL tr f → tr[i]? = some (TEv.mk (.S k) t) → LoserAt k s

theorem hist_init (cfg : Cfg) (n : Nat) : Hist cfg (init n) [] := by
  constructor <;> simp

/-- a `nil` handed to its caller more than 2 ms before `ExitWaitTimeout` has elapsed since the call: the caller is the winner,
and it left `transport.Shutdown` before the deadline of its context, so every connection had gone -/
theorem early_ret {s : State} {tr : List TEv} {k ts : Nat} (ai : AllInv n s) (ns : s.lnSkipped = false) (ti : TI2 cfg s)
    (ws : WS s tr) (hret : s.callers[k]? = some (.returned .nil)) (hS : TEv.mk (.S k) ts ∈ tr)
    (hearly : s.now - ts + 2000 < cfg.exitWait) :
    ∃ t, s.win = .returned .nil t ∧ t < s.dl ∧ allGone s := by
  obtain ⟨hwn, rfl, t, hw⟩ := ret_winner ai hret (Or.inl rfl) nofun
  have h1 := (ti.ret hw).1
  have h2 := ai.si.retNow _ t hw
  have h3 := ws hwn ts hS
  exact ⟨t, hw, by omega, ((ai.gd ns).2 t hw).resolve_left (by omega)⟩

theorem step_hist {s s' : State} {a : Act} {tr : List TEv} (ai : AllInv n s) (lg : Log s tr) (la : Late s tr)
    (ti : TI2 cfg s) (ws : WS s tr) (hi : Hist cfg s tr) (hs : step cfg s a = some s') : Hist cfg s' (tr ++ obsStep s a) := by
  have hS := step_Step cfg hs
  -- a flip witness before a position of `tr` or its new last position is one of `tr`, and the status has left `running`
  have flip : ∀ {f i}, f < i → i ≤ tr.length → FlipL (tr ++ obsStep s a) f → FlipL tr f ∧ stShutdown ≤ s.status :=
    fun hfi hi hf => have hf := hf.old lg (by omega); ⟨hf, flip_status ai lg la hf⟩
  refine ⟨fun ns' k tw ts hT hSk hearly => ?_, fun ns' w sd k d t t' hws hw hsd => ?_, fun f i c k b t hfi hf hX => ?_,
    fun f i k t hfi hf hSk => ?_⟩
  · have ns := noSkip_back ai.si hS ns'
    rcases List.mem_append.1 hT with hT' | hT'
    · refine step_allGone cfg ai.inv ns (hi.early ns k tw ts hT' ((mem_S_snoc hSk).resolve_right fun h => ?_) hearly)
        (tnil_postClose ai lg ⟨tw, hT'⟩) hS
      obtain ⟨e, _, hf⟩ := lg.seen _ ⟨tw, hT'⟩
      exact absurd (getElem?_lt hf) (by omega)
    · obtain ⟨hev, htm⟩ := mem_obsStep.1 hT'
      obtain ⟨e, rfl, he⟩ := obsAct_T hev
      cases errStr_inj (e' := .nil) he.symm
      have htm : tw = s.now := htm
      obtain ⟨t, hw, _, hg⟩ := early_ret ai ns ti ws (step_callerRet_ret hs) ((mem_S_snoc hSk).resolve_right nofun) (htm ▸ hearly)
      exact step_allGone cfg ai.inv ns hg (by simp [hw, postClose]) hS
  · have ns := noSkip_back ai.si hS ns'
    have hw' : tr[w]? = some (TEv.mk (.T k "nil") t) :=
      (getElem?_step hw).resolve_right fun h => by have := getElem?_lt hsd; simp at this; have := obsStep_length_le s a; omega
    rcases getElem?_step hsd with hsd | ⟨_, ho, _⟩
    · exact step_dialClosed cfg d ai.inv (tnil_postClose ai lg (has_of_getElem? hw')) ns (hi.dial ns w sd k d t t' hws hw' hsd) hS
    · cases obsOf ho
      cases hS
      case dialStart => exact Or.inl (by simp)
      case conn hca => cases hca
  · rcases getElem?_step hX with hX | ⟨hil, ho, _⟩
    · exact step_pendAt cfg (hi.pend f i c k b t hfi (flip hfi (Nat.le_of_lt (getElem?_lt hX)) hf).1 hX) hS
    · -- the handler returns at this step, with the status flipped; its response will be number `resps.length = k`
      obtain ⟨rfl, cn, hc, rfl⟩ := obsAct_X ho
      have hcount := (ai.inv.conns cn (List.mem_of_getElem? hc)).count
      obtain ⟨_, _, hc0, hcs, _⟩ := hS.connStep rfl
      cases hc.symm.trans hc0
      have hk : cn.started - 1 = cn.resps.length := by
        cases hcs with
        | handlerRet _ _ _ rc hph => simp [hph, inflight] at hcount; omega
      exact hk ▸ handlerRet_pendAt cfg (flip hfi (Nat.le_of_eq hil) hf).2 hs hc
  · rcases getElem?_step hSk with hSk | ⟨hil, ho, _⟩
    · exact step_loserAt cfg k (hi.loser f i k t hfi (flip hfi (Nat.le_of_lt (getElem?_lt hSk)) hf).1 hSk) hS
    · obtain ⟨rfl, rfl⟩ := obsAct_S ho
      cases hS
      case shutCall => exact ⟨(flip hfi (Nat.le_of_eq hil) hf).2, .called, by simp, Or.inl rfl⟩
      case conn hca => cases hca

/-! ### all invariants together -/

/-- `J` as in `run_traceInv`.  Beside the state invariants and the log, what the log does not imply: a late
`errStatusNotRunning` means the flip (`Late`), the winner's clock (`TI2`), the winner's `S` event against its CAS (`WS`), no
forced close before any call (`NS`), and `Hist` -/
structure JW (cfg : Cfg) (n : Nat) (s : State) (tr : List TEv) : Prop where
  ai : AllInv n s
  lg : Log s tr
  la : Late s tr
  ti : TI2 cfg s
  ws : WS s tr
  ns : NS s tr
  hist : Hist cfg s tr

theorem jw_init (cfg : Cfg) (n : Nat) : JW cfg n (init n) [] :=
  ⟨allInv_init n, log_init n, by intro k p hk; simp [init] at hk, trivial, by intro h; simp [init] at h, by intro _ c cn hc; simp [init] at hc,
    hist_init cfg n⟩

theorem step_JW {s s' : State} {a : Act} {tr : List TEv} (j : JW cfg n s tr) (h : step cfg s a = some s') :
    JW cfg n s' (tr ++ obsStep s a) :=
  have hS := step_Step cfg h
  ⟨step_allInv cfg n j.ai h, step_log j.lg hS, step_late cfg j.ai j.lg j.la hS, step_TI2 cfg j.ti hS,
    step_WS cfg j.ai.wc j.lg j.ws hS, step_NS cfg j.ai.inv j.ai.si j.ai.wc j.ns hS, step_hist j.ai j.lg j.la j.ti j.ws j.hist h⟩

theorem run_JW (hr : run cfg (init n) acts = some sF) : JW cfg n sF (obsRun cfg (init n) acts) := by
  have := run_traceInv cfg _ (JW cfg n) (fun s tr a s' hJ _ hs => step_JW hJ hs) acts (jw_init cfg n) hr (allOk_true cfg acts _)
  simpa using this

variable {ok : State → Act → Bool}

/-- the run cut at an observed event, with the invariant at the cut -/
theorem split_JW (hr : run cfg (init n) acts = some sF) (hok : allOk ok cfg (init n) acts = true) {i : Nat} {e : TEv}
    (hi : (obsRun cfg (init n) acts)[i]? = some e) :
    ∃ acts1 a acts2 s1 s1', SplitAt cfg ok (init n) sF acts i e acts1 a acts2 s1 s1' ∧ JW cfg n s1 (obsRun cfg (init n) acts1) := by
  obtain ⟨acts1, a, acts2, s1, s1', sp⟩ := obsRun_split cfg ok acts hr hok hi
  exact ⟨_, _, _, _, _, sp, run_JW sp.run1⟩

/-- a `T k err` event comes after the `S k` event -/
theorem S_before_T (hr : run cfg (init n) acts = some sF) {i r k ts tt : Nat} {err : String}
    (hi : (obsRun cfg (init n) acts)[i]? = some (TEv.mk (.S k) ts))
    (hrr : (obsRun cfg (init n) acts)[r]? = some (TEv.mk (.T k err) tt)) : i < r := by
  obtain ⟨acts1, a, acts2, s1, s1', sp, jw⟩ := split_JW hr (allOk_true cfg acts _) hi
  obtain ⟨rfl, hk⟩ := obsAct_S sp.ev
  rcases Nat.lt_trichotomy r i with h | h | h
  · -- caller `k` does not exist yet when `S k` is observed
    rw [sp.before h] at hrr
    obtain ⟨e, _, he⟩ := jw.lg.seen _ (has_of_getElem? hrr)
    exact absurd (getElem?_lt he) (by omega)
  · subst h; rw [hi] at hrr; cases hrr
  · exact h

theorem FlipL_prefix (hr : run cfg (init n) acts = some sF) {i e acts1 a acts2 s1 s1'}
    (sp : SplitAt cfg ok (init n) sF acts i e acts1 a acts2 s1 s1') {j : Nat} (hj : j < i)
    (h : FlipL (obsRun cfg (init n) acts) j) : FlipL (obsRun cfg (init n) acts1) j := by
  rcases h with ⟨hh, t, he⟩ | ⟨k, err, t, he, hor⟩
  · exact Or.inl ⟨hh, t, sp.get_before hj he⟩
  · refine Or.inr ⟨k, err, t, sp.get_before hj he, hor.imp id ?_⟩
    rintro ⟨i0, s0, t0, t0', his, hi0, hs0⟩
    have hlt := S_before_T hr hs0 he
    exact ⟨i0, s0, t0, t0', his, sp.get_before (by omega) hi0, sp.get_before (by omega) hs0⟩

/-- the run cut at the return of a call, with the call in the prefix -/
theorem split_T (hr : run cfg (init n) acts = some sF) (hok : allOk ok cfg (init n) acts = true)
    {i r k ts tt : Nat} {err : String} (hi : (obsRun cfg (init n) acts)[i]? = some (TEv.mk (.S k) ts))
    (hrr : (obsRun cfg (init n) acts)[r]? = some (TEv.mk (.T k err) tt)) :
    ∃ acts1 acts2 s1 s1' e, SplitAt cfg ok (init n) sF acts r (TEv.mk (.T k err) tt) acts1 (.callerRet k e) acts2 s1 s1' ∧
      JW cfg n s1 (obsRun cfg (init n) acts1) ∧ err = errStr e ∧ s1.callers[k]? = some (.returned e) ∧
      TEv.mk (.S k) ts ∈ obsRun cfg (init n) acts1 := by
  obtain ⟨acts1, a, acts2, s1, s1', sp, jw⟩ := split_JW hr hok hrr
  obtain ⟨e, rfl, rfl⟩ := obsAct_T sp.ev
  exact ⟨_, _, _, _, e, sp, jw, rfl, step_callerRet_ret sp.st,
    List.mem_of_getElem? (sp.get_before (S_before_T hr hi hrr) hi)⟩

end

end Hertz.Shutdown
