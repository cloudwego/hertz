import Hertz.Proofs.FsCachePool
/-!
Third invariant of the cache model: WHICH file object a reader reads.  Every reader — held by a response, pooled, or in the
hand of the request being handled — reads the file object its `fsFile` was made from (`o.c`: identity, bytes, length — what the
headers `Content-Length`, `Last-Modified`, `Content-Range` describe).  For small-file readers this is by construction (they read
through `ff.f`); for big-file readers it rests on the `os.SameFile` check after the re-open by name.  The last section follows the Go
functions once, for this invariant and the two of `FsCache.lean` and `FsCachePool.lean` together.
-/

namespace Hertz.FsCache
open Hertz

/-- reader `r` (not necessarily in `live`) reads the file object of its `fsFile`; `r.fid < s.next` keeps an `fsFile` created
later (id `s.next`) from being taken for the file of `r` (`S_newObj`) -/
def Hand (s : State) (r : Reader) : Prop := (∀ o ∈ s.objs, o.id = r.fid → r.src = .content o.c) ∧ r.fid < s.next

/-- reads: every live and every pooled reader reads the file object of its `fsFile` -/
structure S (s : State) : Prop where
  live : ∀ r ∈ s.live, Hand s r
  pool : ∀ o ∈ s.objs, ∀ p ∈ o.pool, p.src = .content o.c

theorem S_init : S {} := ⟨by simp, by simp⟩

/-- that the `fsFile` of a reader is one object, and an old one, is what `G` knows -/
theorem Hand_of_mem {s : State} {sl : Option Nat} {o : Obj} (g : G s sl) (ho : o ∈ s.objs) (r : Reader) (hfid : r.fid = o.id)
    (hs : r.src = .content o.c) : Hand s r := by
  refine ⟨fun o' ho' e => ?_, hfid ▸ g.lt o ho⟩
  cases g.uniq o' ho' o ho (e.trans hfid)
  exact hs

theorem Hand_map {s : State} {r : Reader} (g : Obj → Obj) (hid : ∀ o, (g o).id = o.id) (hc : ∀ o, (g o).c = o.c)
    (h : Hand s r) : Hand { s with objs := s.objs.map g } r := by
  refine ⟨?_, h.2⟩
  intro o' ho' e
  obtain ⟨o, ho, rfl⟩ := List.mem_map.1 ho'
  rw [hid] at e; rw [hc]; exact h.1 o ho e

theorem S_map {s : State} (g : Obj → Obj) (h : S s) (hid : ∀ o, (g o).id = o.id) (hc : ∀ o, (g o).c = o.c)
    (hp : ∀ o ∈ s.objs, ∀ p ∈ (g o).pool, p.src = .content o.c) : S { s with objs := s.objs.map g } :=
  ⟨fun r hr => Hand_map g hid hc (h.live r hr), List.forall_mem_map.2 fun o ho => (hc o).symm ▸ hp o ho⟩

/-- a change of the count and the reader pool of the one `fsFile` `id`: what its pool then holds has to read its content -/
theorem S_modObj {s : State} (id : Nat) (r : Obj → Int) (p : Obj → List Pooled) (h : S s)
    (hp : ∀ o ∈ s.objs, o.id = id → ∀ q ∈ p o, q.src = .content o.c) :
    S (modObj id (fun o => { o with rc := r o, pool := p o }) s) := by
  unfold modObj
  refine S_map _ h (modObj_keep Obj.id ?_ id) (modObj_keep Obj.c ?_ id) fun o ho q hq => ?_
  · exact fun _ => rfl
  · exact fun _ => rfl
  by_cases e : o.id = id
  · rw [if_pos e] at hq; exact hp o ho e q hq
  · rw [if_neg e] at hq; exact h.pool o ho q hq

/-- a change of the count of one `fsFile` -/
theorem S_setRc {s : State} (id : Nat) (r : Obj → Int) (h : S s) : S (modObj id (fun o => { o with rc := r o }) s) :=
  S_modObj id r _ h fun o ho _ q hq => h.pool o ho q hq

theorem Hand_modObj {s : State} {x : Reader} (id : Nat) (r : Obj → Int) (p : Obj → List Pooled) (h : Hand s x) :
    Hand (modObj id (fun o => { o with rc := r o, pool := p o }) s) x := by
  unfold modObj
  refine Hand_map _ (modObj_keep Obj.id ?_ id) (modObj_keep Obj.c ?_ id) h <;> exact fun _ => rfl

theorem S_dec {s s' : State} {id : Nat} (h : S s) (hd : decReadersCount id s = .ok s') : S s' :=
  decReadersCount_ok hd ▸ S_setRc id _ h

theorem S_incRc {s : State} (id : Nat) (h : S s) : S (incRc id s) :=
  S_setRc id _ h

theorem Hand_incRc {s : State} {r : Reader} (id : Nat) (h : Hand s r) : Hand (incRc id s) r :=
  Hand_modObj id _ _ h

theorem S_next {s : State} (h : S s) : S { s with next := s.next + 1 } :=
  ⟨fun r hr => ⟨(h.live r hr).1, Nat.lt_succ_of_lt (h.live r hr).2⟩, h.pool⟩

theorem S_disk {s : State} (d : Disk) (h : S s) : S { s with disk := d } := ⟨h.live, h.pool⟩

theorem S_addLive {s : State} (r : Reader) (h : S s) (hr : Hand s r) : S { s with live := r :: s.live } :=
  ⟨List.forall_mem_cons.2 ⟨hr, h.live⟩, h.pool⟩

theorem S_take {s : State} {rid : Nat} {r : Reader} {rest : List Reader} (h : S s)
    (ht : takeReader rid s.live = some (r, rest)) : S { s with live := rest } ∧ Hand { s with live := rest } r :=
  ⟨⟨fun x hx => h.live x ((take_mem ht).2 x hx), h.pool⟩, h.live r (take_mem ht).1⟩

/-- `bigFileReader.Close`: the reader goes into the pool of its file -/
theorem S_push {s : State} {r : Reader} (h : S s) (hr : Hand s r) :
    S (modObj r.fid (fun o => { o with pool := { rid := r.rid, src := r.src } :: o.pool }) s) :=
  S_modObj _ _ _ h fun o ho e p hp => by
    rcases List.mem_cons.1 hp with rfl | m
    · exact hr.1 o ho e
    · exact h.pool o ho p m

/-- `bigFileReader()`: the last pooled reader is taken out -/
theorem S_pop {s : State} {sl : Option Nat} {id : Nat} {o : Obj} {p : Pooled} {rest : List Pooled} (h : S s) (g : G s sl)
    (ho : o ∈ s.objs) (hid : o.id = id) (hp : o.pool = p :: rest) (r : Reader) (hf : r.fid = id) (hs : r.src = p.src) :
    S (modObj id (fun o => { o with pool := rest }) s) ∧ Hand (modObj id (fun o => { o with pool := rest }) s) r := by
  have hand : Hand s r := Hand_of_mem g ho r (hf.trans hid.symm) (hs ▸ h.pool o ho p (by rw [hp]; simp))
  refine ⟨S_modObj id _ _ h fun o' ho' e q hq => ?_, Hand_modObj id _ _ hand⟩
  rw [g.uniq o' ho' o ho (e.trans hid.symm)]
  exact h.pool o ho q (hp ▸ List.mem_cons_of_mem _ hq)

theorem S_tick {s : State} (h : S s) : S (tick s) := by
  unfold tick
  exact S_map tickObj h tickObj_id tickObj_c (fun o ho p hp => h.pool o ho p ((tickObj_pool o).subset hp))

theorem S_expire {s : State} (h : S s) : S (expireAll s) := by
  unfold expireAll
  exact S_map _ h (fun _ => rfl) (fun _ => rfl) (fun o ho p hp => h.pool o ho p hp)

theorem S_newObj {s : State} (h : S s) (o : Obj) (hid : o.id = s.next) (hp : o.pool = []) :
    S { s with objs := o :: s.objs, next := s.next + 1 } := by
  refine ⟨fun r hr => ⟨List.forall_mem_cons.2 ⟨fun e => ?_, (h.live r hr).1⟩, Nat.lt_succ_of_lt (h.live r hr).2⟩,
    List.forall_mem_cons.2 ⟨fun p hp' => (by rw [hp] at hp'; cases hp'), h.pool⟩⟩
  have := (h.live r hr).2; omega

theorem Hand_next {s : State} {r : Reader} (h : Hand s r) : Hand { s with next := s.next + 1 } r :=
  ⟨h.1, Nat.lt_succ_of_lt h.2⟩

/-- the re-open by name yields the cached file object or nothing (the `os.SameFile` check) -/
theorem reopen_same {d : Disk} {o : Obj} {src : Src} (h : reopen d o = some src) : src = .content o.c := by
  unfold reopen at h
  split at h
  · split at h
    · split at h
      · rename_i e; cases h; rw [e]
      · cases h
    · cases h
  · split at h
    · split at h
      · rename_i e; cases h; rw [e]
      · cases h
    · cases h
    · cases h

/-! ### the Go functions, for the three invariants at once -/

/-- between two requests: the counts are the live readers (`G`), every reader object is in one place (`P`) and reads
the file object of its `fsFile` (`S`) -/
structure Idle (s : State) : Prop where
  counts : G s none
  places : P s none
  reads : S s

/-- the request being handled holds the reader `r`: it owns one count of the file of `r`, and `r` is neither live nor pooled -/
structure Holding (s : State) (r : Reader) : Prop where
  counts : G s (some r.fid)
  places : P s (some r.rid)
  reads : S s
  hand : Hand s r

theorem Idle.init : Idle {} := ⟨G_init, P_init, S_init⟩

/-- `decReadersCount` by the request that owns the count and holds no reader (any more) -/
theorem dec_idle {s : State} {id : Nat} (g : G s (some id)) (p : P s none) (hs : S s) :
    ∃ s', decReadersCount id s = .ok s' ∧ Idle s' ∧ s'.live = s.live := by
  obtain ⟨s', e, g', l⟩ := G_dec g
  exact ⟨s', e, ⟨g', P_dec p e, S_dec hs e⟩, l⟩

/-- an answer without a body stream, after a step that gave the count back and left `live` alone -/
theorem noStream_idle {s : State} {m : Except Fault State} (a : Ans) (h : ∃ s', m = .ok s' ∧ Idle s' ∧ s'.live = s.live) :
    ∃ s' a', m.map (fun s' => (s', a)) = .ok (s', a') ∧ Idle s' ∧ (a'.rid = none → s'.live = s.live) := by
  obtain ⟨s', e, i, l⟩ := h
  exact ⟨s', a, by rw [e]; rfl, i, fun _ => l⟩

theorem closeReader_idle {s : State} {r : Reader} (h : Holding s r) :
    ∃ s', closeReader r s = .ok s' ∧ Idle s' ∧ s'.live = s.live := by
  unfold closeReader
  by_cases hb : r.big = true
  · rw [if_pos hb]
    obtain ⟨o, ho, hid⟩ := h.counts.tgt r.fid rfl
    exact dec_idle (G_setPool _ h.counts)
      (P_push r.src h.places ho hid) (S_push h.reads h.hand)
  · rw [if_neg hb]
    exact dec_idle h.counts (P_drop h.places) h.reads

/-- the last conjunct (no body stream handed out: `live` as before) is carried up to `handleRequest_idle` for
`failed_open_leaves_counts_unchanged` of C08 -/
theorem finish_idle {s : State} {r : Reader} (head : Bool) (status : Nat) (cr : Option (Nat × Nat × Nat))
    (h : Holding s r) :
    ∃ s' a, finish head s status r cr = .ok (s', a) ∧ Idle s' ∧ (a.rid = none → s'.live = s.live) := by
  unfold finish
  cases head with
  | true => exact noStream_idle _ (closeReader_idle h)
  | false =>
    exact ⟨_, _, rfl, ⟨G_addLive r h.counts rfl, P_addLive r h.places, S_addLive r h.reads h.hand⟩, fun e => by cases e⟩

theorem withReader_idle {s : State} {r : Reader} (accept head : Bool) (range : Bytes) (o : Obj) (h : Holding s r) :
    ∃ s' a, withReader accept head range o r s = .ok (s', a) ∧ Idle s' ∧ (a.rid = none → s'.live = s.live) := by
  unfold withReader
  by_cases hc : (accept && !range.isEmpty) = true
  · rw [if_pos hc]
    rcases FS.parseByteRange_no_panic range o.c.len with ⟨⟨a, b⟩, hp⟩ | hp
    · rw [hp]
      exact finish_idle (r := { r with lo := a.toNat, cl := (b - a + 1).toNat }) head 206 _
        ⟨h.counts, h.places, h.reads, h.hand⟩
    · rw [hp]
      exact noStream_idle _ (closeReader_idle h)
  · rw [if_neg hc]
    exact finish_idle head 200 none h

/-- `handleRequest` once `ff.readersCount++` is done: the count is given back (304, a failed re-open, 416, HEAD) or
goes to the response together with a reader that is new, or comes out of the pool of this very `fsFile` -/
theorem serve_idle {s : State} {id : Nat} (accept head : Bool) (ims : Option Nat) (range : Bytes)
    (g : G s (some id)) (p : P s none) (hs : S s) :
    ∃ s' a, serve accept head ims range id s = .ok (s', a) ∧ Idle s' ∧ (a.rid = none → s'.live = s.live) := by
  unfold serve
  obtain ⟨o, hfo⟩ := findObj_of_mem (g.tgt id rfl)
  obtain ⟨ho, hid⟩ := findObj_some hfo
  simp only [hfo]
  by_cases hn : notModified ims o = true
  · rw [if_pos hn]; exact noStream_idle _ (dec_idle g p hs)
  rw [if_neg hn]
  have fresh : ∀ big src, src = Src.content o.c →
      Holding { s with next := s.next + 1 } { rid := s.next, fid := id, big := big, src := src, lo := 0, cl := o.c.len } :=
    fun big src e => ⟨G_next g, P_fresh p, S_next hs,
      Hand_next (Hand_of_mem g ho { rid := s.next, fid := id, big := big, src := src, lo := 0, cl := o.c.len } hid.symm e)⟩
  by_cases hb : o.isBig = true
  · rw [if_pos hb]
    cases hpool : o.pool with
    | cons q rest =>
      obtain ⟨s1, h1⟩ := S_pop hs g ho hid hpool
        { rid := q.rid, fid := id, big := true, src := q.src, lo := 0, cl := o.c.len } rfl rfl
      exact withReader_idle accept head range o
        ⟨G_setPool _ g,
         P_pop p ho hid hpool, s1, h1⟩
    | nil =>
      cases hre : reopen s.disk o with
      | none => exact noStream_idle _ (dec_idle g p hs)
      | some src => exact withReader_idle accept head range o (fresh true src (reopen_same hre))
  · rw [if_neg hb]
    exact withReader_idle accept head range o (fresh false _ rfl)

theorem handleRequest_idle {s : State} (accept : Bool) (key : Nat) (head : Bool) (ims : Option Nat) (range : Bytes)
    (h : Idle s) :
    ∃ s' a, handleRequest accept key head ims range s = .ok (s', a) ∧ Idle s' ∧ (a.rid = none → s'.live = s.live) := by
  unfold handleRequest
  cases hl : lookup s key with
  | some o =>
    obtain ⟨ho, hc⟩ := lookup_some hl
    have hop : o.fileOpen = true := by
      cases hf : o.fileOpen with
      | true => rfl
      | false => have := (h.counts.closed o ho hf).1; rw [hc] at this; cases this
    exact serve_idle accept head ims range (G_incRc h.counts ho hop) (P_incRc o.id h.places) (S_incRc o.id h.reads)
  | none =>
    cases ho : openPath s.disk key with
    | notFound => exact ⟨s, _, rfl, h, fun _ => rfl⟩
    | forbidden => exact ⟨s, _, rfl, h, fun _ => rfl⟩
    | ok vi c mt =>
      have hn := G_newObj h.counts
        { id := s.next, key := key, viaIndex := vi, c := c, mt := mt, rc := 0, pool := [],
          fileOpen := true, cached := true, pending := false, expired := false } rfl rfl rfl rfl
      exact serve_idle accept head ims range (G_incRc hn List.mem_cons_self rfl)
        (P_incRc _ (P_newObj h.places h.counts.lt _ rfl rfl)) (S_incRc _ (S_newObj h.reads _ rfl rfl))

theorem closeOp_idle {s : State} (rid : Nat) (h : Idle s) : ∃ s' a, closeOp rid s = .ok (s', a) ∧ Idle s' := by
  unfold closeOp
  cases ht : takeReader rid s.live with
  | none => exact ⟨s, _, rfl, h⟩
  | some q =>
    obtain ⟨r, rest⟩ := q
    simp only []
    obtain ⟨s1, h1⟩ := S_take h.reads ht
    obtain ⟨s', e, i, _⟩ := closeReader_idle ⟨G_take h.counts ht, P_take h.places ht, s1, h1⟩
    exact ⟨s', _, by rw [e]; rfl, i⟩

theorem step_idle {s : State} (accept : Bool) (op : Op) (h : Idle s) : ∃ s' a, step accept s op = .ok (s', a) ∧ Idle s' := by
  cases op with
  | req key head ims range =>
    obtain ⟨s', a, e, i, _⟩ := handleRequest_idle accept key head ims range h
    exact ⟨s', a, e, i⟩
  | close rid => exact closeOp_idle rid h
  | setNode key n => exact ⟨_, _, rfl, G_disk _ h.counts, P_disk _ h.places, S_disk _ h.reads⟩
  | expire => exact ⟨_, _, rfl, G_expire h.counts, P_expire h.places, S_expire h.reads⟩
  | tick => exact ⟨_, _, rfl, G_tick h.counts, P_tick h.places, S_tick h.reads⟩

/-- every sequence of operations runs to the end, and the three invariants hold there -/
theorem run_idle (accept : Bool) (ops : List Op) : ∀ {s : State}, Idle s → ∃ s', run accept s ops = .ok s' ∧ Idle s' := by
  induction ops with
  | nil => intro s h; exact ⟨s, rfl, h⟩
  | cons op ops ih =>
    intro s h
    obtain ⟨s1, a, e, i⟩ := step_idle accept op h
    obtain ⟨s2, e2, i2⟩ := ih i
    exact ⟨s2, by simp [run, e, e2], i2⟩

theorem reachable_idle {accept : Bool} {ops : List Op} {s : State} (h : run accept {} ops = .ok s) : Idle s := by
  obtain ⟨s', e, i⟩ := run_idle accept ops Idle.init
  rw [h] at e; cases e
  exact i

end Hertz.FsCache
