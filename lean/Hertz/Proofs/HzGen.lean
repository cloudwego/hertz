import Hertz.Gen.HzTpl
import Hertz.Model.Hz
import Hertz.Spec.Hz
/-!
Ties the hand-written C16 model to facts regenerated from the Go source on every run
(`gen/c16.go` -> `Hertz/Gen/HzTpl.lean`): the template texts whose denotation `stmts` / `mwFuncs` /
`updateMwFile` give, the method list of `RouterGroup.Any`, the probe bound of `getUniqueName`, the root
node of `NewRouterTree`.  An edit of any of them breaks a theorem here.
-/
namespace Hertz.Hz

/-- the `router.go` template `Hz.stmts` is the denotation of -/
def expectedRouterTpl : String := "// Code generated by hertz generator. DO NOT EDIT.\n\npackage {{$.PackageName}}\n\nimport (\n\t\"github.com/cloudwego/hertz/pkg/app/server\"\n\n    {{- range $k, $v := .HandlerPackages}}\n        {{$k}} \"{{$v}}\"\n    {{- end}}\n)\n\n/*\n This file will register all the routes of the services in the master idl.\n And it will update automatically when you use the \"update\" command for the idl.\n So don't modify the contents of the file, or your code will be deleted when it is updated.\n */\n\n{{define \"g\"}}\n{{- if eq .Path \"/\"}}r\n{{- else}}{{.GroupName}}{{end}}\n{{- end}}\n\n{{define \"G\"}}\n{{- if ne .Handler \"\"}}\n\t{{- .GroupName}}.{{.HttpMethod}}(\"{{.Path}}\", append({{.HandlerMiddleware}}Mw(), {{.Handler}})...)\n{{- end}}\n{{- if ne (len .Children) 0}}\n{{.MiddleWare}} := {{template \"g\" .}}.Group(\"{{.Path}}\", {{.GroupMiddleware}}Mw()...)\n{{- end}}\n{{- range $_, $router := .Children}}\n{{- if ne .Handler \"\"}}\n\t{{template \"G\" $router}}\n{{- else}}\n\t{\t{{template \"G\" $router}}\n\t}\n{{- end}}\n{{- end}}\n{{- end}}\n\n// Register register routes based on the IDL 'api.${HTTP Method}' annotation.\nfunc Register(r *server.Hertz) {\n{{template \"G\" .Router}}\n}\n\n\t\t"

/-- the `middleware.go` template `Hz.mwFuncs` is the denotation of -/
def expectedMiddlewareTpl : String := "// Code generated by hertz generator.\n\npackage {{$.PackageName}}\n\nimport (\n\t\"github.com/cloudwego/hertz/pkg/app\"\n)\n\n{{define \"M\"}}\n{{- if ne .Children.Len 0}}\nfunc {{.GroupMiddleware}}Mw() []app.HandlerFunc {\n\t// your code...\n\treturn nil\n}\n{{end}}\n{{- if ne .Handler \"\"}}\nfunc {{.HandlerMiddleware}}Mw() []app.HandlerFunc {\n\t// your code...\n\treturn nil\n}\n{{end}}\n{{range $_, $router := $.Children}}{{template \"M\" $router}}{{end}}\n{{- end}}\n\n{{template \"M\" .Router}}\n\n\t\t"

/-- the `middleware_single.go` template `Hz.updateMwFile` appends -/
def expectedMiddlewareSingleTpl : String := "\nfunc {{.MiddleWare}}Mw() []app.HandlerFunc {\n\t// your code...\n\treturn nil\n}\n"

def expectedRegisterTpl : String := "// Code generated by hertz generator. DO NOT EDIT.\n\npackage {{.PackageName}}\n\nimport (\n\t\"github.com/cloudwego/hertz/pkg/app/server\"\n\t{{$.DepPkgAlias}} \"{{$.DepPkg}}\"\n)\n\n// GeneratedRegister registers routers generated by IDL.\nfunc GeneratedRegister(r *server.Hertz){\n\t//INSERT_POINT: DO NOT DELETE THIS LINE!\n\t{{$.DepPkgAlias}}.Register(r)\n}\n"

theorem routerTpl_matches_gen : Gen.HzTpl.routerTpl = expectedRouterTpl := rfl
theorem middlewareTpl_matches_gen : Gen.HzTpl.middlewareTpl = expectedMiddlewareTpl := rfl
theorem middlewareSingleTpl_matches_gen : Gen.HzTpl.middlewareSingleTpl = expectedMiddlewareSingleTpl := rfl
theorem registerTpl_matches_gen : Gen.HzTpl.registerTpl = expectedRegisterTpl := rfl

theorem anyMethods_matches_gen : Gen.HzTpl.anyMethods.isPerm HzSpec.anyVerbsSorted = true := by decide +kernel

theorem probeLimit_matches_gen : probeLimit = Gen.HzTpl.uniqueProbeLimit := by decide

theorem root_matches_gen :
    Gen.HzTpl.rootFields = ["GroupName=root", "MiddleWare=root", "GroupMiddleware=root", "Path=/"] ∧
    newRouterTree = .mk { path := [47], groupName := [114, 111, 111, 116], middleWare := [114, 111, 111, 116],
                          groupMw := [114, 111, 111, 116] } [] :=
  ⟨rfl, rfl⟩

end Hertz.Hz
