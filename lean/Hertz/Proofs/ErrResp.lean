import Hertz.Proofs.Http1
import Hertz.Proofs.RespMessage
import Hertz.Model.Http1.ErrResp
/-!
C03: the bytes of the error response (`errorResponse`, for each of the three statuses the loop model answers with) are
exactly one well-formed message carrying `Connection: close` under the strict response decoder `Spec/Resp`, by C04's
`message_decodes`.
-/
namespace Hertz.H1
open Hertz Hertz.Gen.Str Hertz.HW Hertz.H1.Resp Hertz.Spec.Resp

theorem errHdr_ok (st : Nat) (server : Bytes) (date : Option Bytes) (h : st = 400 ∨ st = 413 ∨ st = 408) :
    HeadOK (errHdr st server date) st := by
  refine ⟨by omega, by omega, ⟨errReason st, ?_, rfl⟩, rfl, by intro kv hkv; simp [errHdr] at hkv⟩
  rcases h with h | h | h <;> subst h <;> intro x hx <;> revert x <;> decide

/-- a header with the close flag set is written with `Connection: close` as its last field, and the reader keeps it -/
theorem close_kept (r : RespHdr) (h : r.connClose = true) : (strConnection, strClose) ∈ kept r.fields := by
  rw [fields_split, h, kept_append]
  exact List.mem_append_right _ (by rw [kept_arith]; decide +kernel)

/-- the error response is read back by the strict decoder as exactly one message: the status, `Connection: close`
among its fields, the error text as body, and whatever follows on the wire untouched -/
theorem errorResponse_decodes (st : Nat) (server : Bytes) (date : Option Bytes) (rest : Bytes)
    (h : st = 400 ∨ st = 413 ∨ st = 408) :
    ∃ m, decodeOne false (errorResponse st server date ++ rest) = some (m, rest) ∧ m.status = st ∧
      (strConnection, strClose) ∈ m.fields ∧ m.body = errMsg st := by
  have hd : decodeOne false (errorResponse st server date ++ rest) =
      some (expected (errHdr st server date) (errProg st) false, rest) := by
    unfold errorResponse
    refine message_decodes _ _ false rest (errHdr_ok st server date h) ?_ ?_ rfl
    · rcases h with h | h | h <;> subst h <;> simp only [SizesFit, errProg] <;> decide
    · intro s hs; simp [errProg] at hs
  refine ⟨_, hd, rfl, ?_, ?_⟩
  · rw [expected_fields]
    exact close_kept _ ((withFraming_connClose _ _).trans rfl)
  · rcases h with h | h | h <;> subst h <;> rfl

end Hertz.H1
