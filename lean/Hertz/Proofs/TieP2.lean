import Hertz.Proofs.Tie
import Hertz.Model.HeaderWrite
import Hertz.Proofs.IndexByte
/-!
`Hertz.Props.Tie`, part 2: `LowercaseBytes`, `newlineToSpace`, `appendHeaderLine`, `NextLine`, `IsBadTrailer`.
-/
open Hertz

namespace Hertz.Tie

/-! ### `bytesconv.LowercaseBytes` -/

theorem lowercaseBytes_eq (b : Bytes) (hlen : b.length < 2^63) :
    Gen.Funcs.lowercaseBytes b = .ok (b.map toLower) := by
  unfold Gen.Funcs.lowercaseBytes
  refine mapLoop toLower _ _ _ _ (fun _ _ => rfl) (fun p c t => ?_) (fun _ _ => rfl) (fun _ _ => rfl) b _ hlen
    (by simp [Go.fuelOf, Go.len])
  simp only [idx_append, setIdx_append, Except.bind, toLower]

example : Gen.Funcs.lowercaseBytes [72, 111, 83, 84, 45, 90, 64, 91] = .ok [104, 111, 115, 116, 45, 122, 64, 91] := by
  decide +kernel

/-! ### `newlineToSpace` -/

theorem copy_make (val : Bytes) : Go.copy (List.replicate val.length 0) val = val := by
  simp [Go.copy]

theorem newlineToSpace_eq (val : Bytes) (hlen : val.length < 2^63) :
    Gen.Funcs.newlineToSpace val = .ok (HW.newlineToSpace val) := by
  unfold Gen.Funcs.newlineToSpace
  have hm : Go.make (Go.len val) = .ok (List.replicate val.length 0) := by
    have : ¬ ((val.length : Int) < 0) := by omega
    simp [Go.make, Go.len, this]
  rw [hm]
  simp only [Except.bind, copy_make]
  refine mapLoop (fun c => tget Gen.newlineToSpaceTable c) _ _ _ _ (fun _ _ => rfl) (fun p c t => ?_) (fun _ _ => rfl)
    (fun _ _ => rfl) val _ hlen (by simp [Go.fuelOf, Go.len])
  simp only [idx_append, setIdx_append]

example : Gen.Funcs.newlineToSpace [97, 13, 10, 98] = .ok [97, 32, 32, 98] := by decide +kernel

/-! ### `appendHeaderLine` -/

/-- the `range key` loop of `appendHeaderLine`: `return dst` at the first byte outside the field-name table -/
theorem validLoop (dst : Bytes) (body : UInt8 → Unit → Go.G (Go.Ctl Unit Bytes))
    (hb : ∀ k u, body k u = if (tget Gen.validHeaderFieldNameTable k) == (0 : UInt8) then .ok (.ret dst) else .ok (.next ())) :
    ∀ key : Bytes, Go.rangeLoop body key () = .ok (if HW.validName key then .next () else .ret dst) := by
  intro key
  induction key with
  | nil => simp [Go.rangeLoop, HW.validName]
  | cons c t ih =>
    by_cases h : tget Gen.validHeaderFieldNameTable c = 0
    · simp [Go.rangeLoop, hb, h, HW.validName]
    · simp only [HW.validName] at ih
      simp [Go.rangeLoop, hb, h, HW.validName, ih]

theorem appendHeaderLine_eq (dst key value : Bytes) (hlen : value.length < 2^63) :
    Gen.Funcs.appendHeaderLine dst key value = .ok (dst ++ HW.headerLine (key, value)) := by
  unfold Gen.Funcs.appendHeaderLine
  rw [validLoop dst _ (fun _ _ => rfl) key, newlineToSpace_eq value hlen]
  by_cases h : HW.validName key <;> simp [h, Except.bind, HW.headerLine]

example : Gen.Funcs.appendHeaderLine [1] [72, 111] [97, 10, 98] = .ok [1, 72, 111, 58, 32, 97, 32, 98, 13, 10] := by
  decide +kernel
example : Gen.Funcs.appendHeaderLine [1] [72, 32] [97, 10, 98] = .ok [1] := by decide +kernel

/-! ### `utils.NextLine` -/

theorem nextLine_eq (b : Bytes) (hlen : b.length < 2^63) :
    Gen.Funcs.nextLine b = .ok (match H1.nextLine b with
      | some (line, rest) => (line, rest, none)
      | none => ([], [], some "errNeedMore")) := by
  unfold Gen.Funcs.nextLine H1.nextLine
  rw [Go.indexByte_eq]
  cases h : H1.indexByte 10 b with
  | none => simp
  | some n =>
    have hn := H1.indexByte_lt 10 b n h
    have e1 : Go.add (n : Int) 1 = ((n + 1 : Nat) : Int) := add_nat n 1 (by omega)
    have e3 := sliceFrom_ok b (n + 1) (by omega)
    dsimp only
    rw [e1, e3]
    cases n with
    | zero =>
      simp [sliceTo_lit b 0 (by omega), Except.bind]
    | succ m =>
      have hm : m < b.length := by omega
      have e2 : Go.sub ((m + 1 : Nat) : Int) 1 = (m : Int) := by
        rw [sub_id (by omega) (by omega)]; omega
      have e4 := sliceTo_ok b m (by omega)
      have e5 := sliceTo_ok b (m + 1) (by omega)
      have e6 := idx_ok b m hm
      have e7 : (List.take (m + 1) b).getLast? = some (b[m]'hm) := by
        rw [List.getLast?_take]; simp [hm]
      have e8 : (List.take (m + 1) b).dropLast = List.take m b := by
        rw [List.dropLast_take hn]; rfl
      have hpos : ((m + 1 : Nat) : Int) > 0 := by omega
      rw [e2, e4, e5, e6, e7]
      simp only [hpos, decide_true, if_true, Except.bind]
      by_cases h13 : b[m]'hm = 13 <;> simp [h13, e8] <;> omega

example : Gen.Funcs.nextLine [97, 98, 13, 10, 99] = .ok ([97, 98], [99], none) := by decide +kernel
example : Gen.Funcs.nextLine [97, 98, 10, 99] = .ok ([97, 98], [99], none) := by decide +kernel
example : Gen.Funcs.nextLine [97, 98, 13] = .ok ([], [], some "errNeedMore") := by decide +kernel

/-! ### `protocol.IsBadTrailer` -/

/-- `len(key) >= n && ci(key[:m], pre)` guarding a test `A` of `key[m:]` -/
theorem guarded (key pre : Bytes) (n m : Nat) (hmn : m ≤ n)
    (hlen : key.length < 2^63) (A : Go.G Bool) (a b : Bool) (hA : m ≤ key.length → A = .ok a) :
    Except.bind (if decide (Go.len key ≥ (OfNat.ofNat n : Int)) then
        Except.bind (Go.sliceTo key (OfNat.ofNat m : Int)) (fun t => Gen.Funcs.caseInsensitiveCompare t pre) else .ok false)
      (fun t => if t = true then A else .ok b) =
    .ok (if key.length ≥ n ∧ H1.ciEq (key.take m) pre = true then a else b) := by
  by_cases hn : key.length ≥ n
  · have hn' : Go.len key ≥ (OfNat.ofNat n : Int) := Int.ofNat_le.mpr hn
    rw [if_pos (decide_eq_true hn'), sliceTo_lit key m (by omega), bind_ok,
      caseInsensitiveCompare_eq _ _ (by simp; omega), bind_ok, hA (by omega)]
    cases H1.ciEq (key.take m) pre <;> simp [hn]
  · have hn' : ¬ Go.len key ≥ (OfNat.ofNat n : Int) := fun h => hn (Int.ofNat_le.mp h)
    rw [if_neg (by simpa using hn'), bind_ok, if_neg Bool.false_ne_true, if_neg (fun h => hn h.1)]

open Hertz.Gen.Str in
theorem isBadTrailer_eq (key : Bytes) (hlen : key.length < 2^63) :
    Gen.Funcs.isBadTrailer key = .ok (H1.isBadTrailer key) := by
  cases key with
  | nil => rfl
  | cons k0 t =>
    unfold Gen.Funcs.isBadTrailer H1.isBadTrailer
    have h0 : Go.idx (k0 :: t) 0 = .ok k0 := rfl
    have hne : (Go.len (k0 :: t) == 0) = false := by simp [Go.len]; omega
    rw [h0]
    simp only [hne, Bool.false_eq_true, if_false, bind_ok]
    -- both sides are the same if-chain on `c = key[0] | 0x20`: each leaf is rewritten to `.ok` of the model's leaf
    -- (`ciK`, `ciD`; `guarded` for the two groups behind a common prefix), then `.ok` is pulled out of the chain
    generalize k0 ||| 32 = c
    generalize k0 :: t = key at hlen ⊢
    have ciK : ∀ b, Gen.Funcs.caseInsensitiveCompare key b = .ok (H1.ciEq key b) :=
      fun b => caseInsensitiveCompare_eq key b hlen
    have ciD : ∀ n b, Gen.Funcs.caseInsensitiveCompare (key.drop n) b = .ok (H1.ciEq (key.drop n) b) :=
      fun n b => caseInsensitiveCompare_eq _ b (by simp; omega)
    have c1 := sliceTo_lit strContentType 8 (by decide)
    have c2 := sliceFrom_lit strContentEncoding 8 (by decide)
    have c3 := sliceFrom_lit strContentLength 8 (by decide)
    have c4 := sliceFrom_lit strContentType 8 (by decide)
    have c5 := sliceFrom_lit strContentRange 8 (by decide)
    have c6 := sliceTo_lit strProxyConnection 6 (by decide)
    have c7 := sliceFrom_lit strProxyConnection 6 (by decide)
    have c8 := sliceFrom_lit strProxyAuthenticate 6 (by decide)
    have c9 := sliceFrom_lit strProxyAuthorization 6 (by decide)
    simp only [bind_ok_id, ciK, c1, c2, c3, c4, c5, c6, c7, c8, c9, bind_ok, orElse_ok]
    rw [guarded key _ 12 8 (by decide) hlen _ _ _ (fun h => ?hc), guarded key _ 16 6 (by decide) hlen _ _ _ (fun h => ?hp)]
    case hc =>
      simp only [sliceFrom_lit key 8 h, bind_ok, ciD, orElse_ok]
      rfl
    case hp =>
      simp only [sliceFrom_lit key 6 h, bind_ok, ciD, orElse_ok]
      rfl
    simp only [beq_iff_eq, apply_ite (Except.ok (ε := Go.Fault))]

example : Gen.Funcs.isBadTrailer (str "content-LENGTH") = .ok true := by decide +kernel
example : Gen.Funcs.isBadTrailer (str "Proxy-Authenticate") = .ok true := by decide +kernel
example : Gen.Funcs.isBadTrailer (str "Proxy-Foo") = .ok false := by decide +kernel
example : Gen.Funcs.isBadTrailer (str "X-Checksum") = .ok false := by decide +kernel

end Hertz.Tie
