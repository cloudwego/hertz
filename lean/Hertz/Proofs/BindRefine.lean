import Hertz.Proofs.Bind
import Hertz.Proofs.Tables
import Hertz.Proofs.Http1
import Hertz.Spec.Bind
/-!
Refinement of the declarative binding specification (`Spec.Bind.specBind`) by the model of the decoders
(`Bind.bind`), property C15.  Main results: `runDecoders_refines`, `bindBy_refines`.

`Spec.Bind.named` reads a struct tag as `mkTagInfo` does, `fieldTagInfos f` is the documented priority list filtered by
`tagOf f`, and the five getters are `present` / `presentAll` (header keys: `normalizeKey a = normalizeKey b ↔ ciEq a b`),
so the `findSome?` of the specification is the first hit of the tag loop (`findSome_sources`).  The JSON pre-bind: sonic =
encoding/json outside `sonic-uint32-wrap`, `preBindMembers` = `Spec.Bind.jsonValue` outside `json-prebind-extra`.  One field
under `FieldWF`: `noText_of`, `scalar_refines`, `slice_refines`; the tag-restricted entry points need no hypothesis on the fields.
-/
namespace Hertz.Bind
open Hertz Hertz.H1 Hertz.Spec.Bind

theorem low_dash (c : UInt8) : toLower c = 45 ↔ c = 45 :=
  ⟨(case_keeps 45 c (by decide)).2, fun h => by rw [h, toLower_eq_arith]; decide⟩

theorem ciEq_normKeyAux (a k : Bytes) (up : Bool) : ciEq (normKeyAux up a) k = ciEq a k :=
  Bool.eq_iff_iff.mpr (by rw [ciEq_iff, ciEq_iff, normKeyAux_lower])

theorem ciEq_normalizeKey (a k : Bytes) : ciEq (normalizeKey false a) k = ciEq a k := by
  simp only [normalizeKey, Bool.false_eq_true, if_false]
  exact ciEq_normKeyAux a k true

theorem ciEq_refl (a : Bytes) : ciEq a a = true := (ciEq_iff a a).mpr rfl

/-- normalisation sees a key only through its lower-case form (`-` is the only byte whose lower-case form is `-`) -/
theorem normKeyAux_map_lower (up : Bool) (k : Bytes) : normKeyAux up (k.map lowerSpec) = normKeyAux up k := by
  fun_induction normKeyAux up k <;>
    simp [*, normKeyAux, ← toLower_eq, toUpper_toLower, toLower_toLower, low_dash]

theorem normKeyAux_of_ciEq (a b : Bytes) (up : Bool) (h : ciEq a b = true) : normKeyAux up a = normKeyAux up b := by
  rw [← normKeyAux_map_lower up a, (ciEq_iff a b).1 h, normKeyAux_map_lower]

theorem normKeyAux_eq_iff (a b : Bytes) (up : Bool) : normKeyAux up a = normKeyAux up b ↔ ciEq a b = true :=
  ⟨fun h => by rw [← ciEq_normKeyAux a b up, h, ciEq_normKeyAux, ciEq_refl], normKeyAux_of_ciEq a b up⟩

/-- `RequestHeader.Peek` (comparison of normalised keys) is case-insensitive comparison -/
theorem normalizeKey_eq_iff (a b : Bytes) : normalizeKey false a = normalizeKey false b ↔ ciEq a b = true := by
  simp only [normalizeKey, Bool.false_eq_true, if_false]
  exact normKeyAux_eq_iff a b true

theorem beq_dec (a b : Bytes) : (a == b) = decide (b = a) :=
  Bool.eq_iff_iff.2 (beq_iff_eq.trans (eq_comm.trans decide_eq_true_iff.symm))

theorem optsRequired_eq : ∀ (t cur : Bytes), optsRequired cur t = (splitComma cur t).contains requiredOpt
  | [], cur => by simp [optsRequired, splitComma, beq_dec]
  | c :: t, cur => by
    simp only [optsRequired, splitComma]
    split
    · simp [optsRequired_eq t [], beq_dec]
    · exact optsRequired_eq t (c :: cur)

/-- `splitComma` cuts where `head(str, ",")` cuts, and the rest of the parts are the options -/
theorem splitComma_head : ∀ (c cur : Bytes), ∃ tl, splitComma cur c = (cur.reverse ++ (headComma c).1) :: tl ∧
    tl.contains requiredOpt = optsRequired [] (headComma c).2
  | [], cur => ⟨[], by simp [splitComma, headComma], by decide⟩
  | x :: t, cur => by
    simp only [splitComma, headComma]
    split
    · exact ⟨splitComma [] t, by simp, (optsRequired_eq t []).symm⟩
    · obtain ⟨tl, h1, h2⟩ := splitComma_head t (x :: cur)
      exact ⟨tl, by simp [h1], h2⟩

/-- the tag of field `f` for source `s`, as the decoder sees it -/
def tagOf (f : Field) (s : Src) : Option TagInfo :=
  if f.tags.isEmpty then some { key := s, value := f.name, jsonName := f.name, dflt := f.dflt.getD [] }
  else (f.tags.lookup s).map (mkTagInfo f s)

theorem tagOf_cases {f : Field} {s : Src} {t : TagInfo} (h : tagOf f s = some t) :
    (f.tags = [] ∧ t = { key := s, value := f.name, jsonName := f.name, dflt := f.dflt.getD [] }) ∨
    (f.tags ≠ [] ∧ ∃ c, f.tags.lookup s = some c ∧ t = mkTagInfo f s c) := by
  unfold tagOf at h
  split at h
  next he => exact Or.inl ⟨List.isEmpty_iff.1 he, (Option.some.inj h).symm⟩
  next he =>
    obtain ⟨c, hc, rfl⟩ := Option.map_eq_some_iff.1 h
    exact Or.inr ⟨fun e => he (List.isEmpty_iff.2 e), c, hc, rfl⟩

theorem tagOf_key {f : Field} {s : Src} {t : TagInfo} (h : tagOf f s = some t) : t.key = s := by
  rcases tagOf_cases h with ⟨_, rfl⟩ | ⟨_, c, _, rfl⟩ <;> rfl

theorem tagOf_dflt {f : Field} {s : Src} {t : TagInfo} (h : tagOf f s = some t) : t.dflt = f.dflt.getD [] := by
  rcases tagOf_cases h with ⟨_, rfl⟩ | ⟨_, c, _, rfl⟩ <;> rfl

theorem mem_priority (s : Src) : s ∈ priority := by cases s <;> decide

theorem fieldTagInfos_eq (f : Field) : fieldTagInfos f = priority.filterMap (tagOf f) := by
  unfold fieldTagInfos lookupFieldTags getDefaultFieldTags
  rw [show lookupOrder = priority from lookupOrder_eq, show defaultOrder = priority from defaultOrder_eq]
  cases ht : f.tags with
  | nil =>
    have htag : tagOf f = fun s => some { key := s, value := f.name, jsonName := f.name, dflt := f.dflt.getD [] } := by
      funext s; simp [tagOf, ht]
    simp [htag]
  | cons p rest =>
    have htag : (fun s => (List.lookup s (p :: rest)).map (mkTagInfo f s)) = tagOf f := by
      funext s; simp [tagOf, ht]
    rw [htag]
    -- the first tag of the struct tag is found, so `lookupFieldTags` is not empty
    have hmem : mkTagInfo f p.1 p.2 ∈ priority.filterMap (tagOf f) :=
      List.mem_filterMap.2 ⟨p.1, mem_priority p.1, by simp [tagOf, ht, List.lookup]⟩
    cases h : priority.filterMap (tagOf f) with
    | nil => rw [h] at hmem; cases hmem
    | cons _ _ => rfl

theorem mem_tis {f : Field} {t : TagInfo} : t ∈ fieldTagInfos f ↔ ∃ s, tagOf f s = some t := by
  rw [fieldTagInfos_eq, List.mem_filterMap]
  constructor
  · rintro ⟨s, _, h⟩; exact ⟨s, h⟩
  · rintro ⟨s, h⟩; exact ⟨s, mem_priority s, h⟩

theorem fieldTagInfos_dflt (f : Field) : ∀ t ∈ fieldTagInfos f, t.dflt = f.dflt.getD [] := by
  intro t ht
  obtain ⟨s, hs⟩ := mem_tis.1 ht
  exact tagOf_dflt hs

/-- the tags of a field reach the decoder in the order of the regenerated priority list, whatever their
order inside the struct tag -/
theorem fieldTagInfos_sorted (f : Field) : ((fieldTagInfos f).map (·.key)).Sublist lookupOrder := by
  rw [fieldTagInfos_eq, show lookupOrder = priority from lookupOrder_eq]
  generalize priority = l
  induction l with
  | nil => exact .slnil
  | cons s l ih =>
    rw [List.filterMap_cons]
    cases h : tagOf f s with
    | none => exact ih.cons s
    | some t => rw [List.map_cons, tagOf_key h]; exact ih.cons_cons s

/-- **`named` reads a struct tag as `mkTagInfo` does** -/
theorem named_eq (f : Field) (s : Src) :
    named f s = (tagOf f s).bind (fun t => if t.skip then none else some (t.value, t.required)) := by
  unfold named tagOf
  by_cases he : f.tags.isEmpty = true
  · simp [he]
  · simp only [he, Bool.false_eq_true, if_false]
    cases hl : f.tags.lookup s with
    | none => simp
    | some c =>
      obtain ⟨tl, h1, h2⟩ := splitComma_head c []
      simp only [List.reverse_nil, List.nil_append] at h1
      simp only [h1, Option.map_some, Option.bind_some, mkTagInfo, h2, List.isEmpty_iff]

/-- what a getter returns for a source that carries `o` -/
def asPair : Option Bytes → Bytes × Bool
  | some v => (v, true)
  | none => ([], false)

theorem peek_normHeaders (hs : List KV) (k : Bytes) :
    peek (hs.map (fun e => (normalizeKey false e.1, e.2))) (normalizeKey false k) =
      ((hs.filter (fun e => ciEq e.1 k)).map (·.2)).head? := by
  induction hs with
  | nil => rfl
  | cons e hs ih =>
    have hb : (normalizeKey false e.1 == normalizeKey false k) = ciEq e.1 k :=
      Bool.eq_iff_iff.2 (beq_iff_eq.trans (normalizeKey_eq_iff e.1 k))
    unfold peek at ih ⊢
    simp only [List.map_cons, List.find?_cons, List.filter_cons, hb]
    cases ciEq e.1 k
    · exact ih
    · rfl

/-- **the five getters are `present`** (and the json "getter" never finds anything) -/
theorem getter_eq (r : Req) (s : Src) (k : Bytes) : getter r s k = asPair (present r s k) := by
  cases s <;> simp only [getter, present]
  · cases peek r.params k <;> rfl
  · cases peek r.form k with
    | some v => rfl
    | none =>
      cases peek r.mform k with
      | none => cases peek r.query k <;> rfl
      | some v => by_cases hv : v = [] <;> cases peek r.query k <;> simp [Option.filter, hv, asPair]
  · cases peek r.query k <;> rfl
  · cases peek r.cookies k <;> rfl
  · unfold normHeaders headerGet
    rw [peek_normHeaders]
    cases ((r.headers.filter (fun e => ciEq e.1 k)).map (·.2)).head? <;> rfl
  · rfl

theorem sliceGetter_eq (r : Req) (s : Src) (k : Bytes) : sliceGetter r s k = presentAll r s k := by
  cases s <;> simp only [sliceGetter, presentAll]
  · cases peek r.params k with
    | none => rfl
    | some v => by_cases hv : v = [] <;> simp [Option.filter, hv]
  · unfold normHeaders headerGet
    simp only [List.filter_map, List.map_map, Function.comp_def, ciEq_normalizeKey]

/-! ## the tag loops against `findSome?` over the priority list -/

/-- the loop stops at `t`: a consulted text tag whose source carries its key.  `p`: how the source is asked; `hitB r` and
`hitS r` below are `hit (textPresent r)` and `hit (textsPresent r)` -/
def hit (p : TagInfo → Bool) (t : TagInfo) : Bool := (!t.skip && t.key != .json) && p t

/-- a consulted text tag whose source carries its key (single value) -/
def hitB (r : Req) (t : TagInfo) : Bool := (!t.skip && t.key != .json) && textPresent r t
/-- the same for slices -/
def hitS (r : Req) (t : TagInfo) : Bool := (!t.skip && t.key != .json) && textsPresent r t

theorem hit_iff {p : TagInfo → Bool} {t : TagInfo} : hit p t = true ↔ t.isText ∧ p t = true := by
  unfold hit TagInfo.isText
  cases t.skip <;> simp

theorem present_json (r : Req) (k : Bytes) : present r .json k = none := rfl
theorem presentAll_json (r : Req) (k : Bytes) : presentAll r .json k = [] := rfl

/-- the first hit splits the tag list as `tagLoop_first` wants it -/
theorem find_hit_some {p : TagInfo → Bool} {tis : List TagInfo} {ti : TagInfo} (h : tis.find? (hit p) = some ti) :
    ∃ pre post, tis = pre ++ ti :: post ∧ (∀ t ∈ pre, t.isText → p t = false) ∧ ti.isText ∧ p ti = true := by
  obtain ⟨hp, pre, post, rfl, hpre⟩ := List.find?_eq_some_iff_append.1 h
  exact ⟨pre, post, rfl, fun t ht htx => Bool.eq_false_iff.2 fun hg => by simpa [hit_iff.2 ⟨htx, hg⟩] using hpre t ht,
    hit_iff.1 hp⟩

theorem find_hit_none {p : TagInfo → Bool} {tis : List TagInfo} (h : tis.find? (hit p) = none) :
    ∀ t ∈ tis, t.isText → p t = false :=
  fun t ht htx => Bool.eq_false_iff.2 fun hg => List.find?_eq_none.1 h t ht (hit_iff.2 ⟨htx, hg⟩)

theorem tagLoop_find {α : Type} {jb : TagInfo → Option ErrKind → Option ErrKind × Bytes} {p : TagInfo → Bool}
    {val : TagInfo → α} {tis : List TagInfo} {ti : TagInfo} {v : LoopV α} (h : tis.find? (hit p) = some ti) :
    tagLoop jb p val tis v = { err := none, got := some (val ti), dflt := ti.dflt } := by
  obtain ⟨pre, post, rfl, hpre, hti, hg⟩ := find_hit_some h
  exact tagLoop_first hpre hti hg

/-- the `findSome?` of the specification over any list of sources is the `find?` of the first hit in the tag
list built from those sources.  `get s n`: what source `s` carries under the name `n`; `p t` and `val t`: the same as
the decoder reads it off the tag `t`. -/
theorem findSome_sources {α : Type} (get : Src → Bytes → Option α) (p : TagInfo → Bool) (val : TagInfo → α)
    (hget : ∀ t : TagInfo, get t.key t.value = if p t then some (val t) else none) (hjson : ∀ k, get .json k = none)
    (f : Field) : ∀ l : List Src,
    l.findSome? (fun s => match named f s with
      | some (n, _) => (get s n).map (fun v => (s, v))
      | none => none) =
    ((l.filterMap (tagOf f)).find? (hit p)).map (fun t => (t.key, val t))
  | [] => rfl
  | s :: l => by
    have ih := findSome_sources get p val hget hjson f l
    rw [List.filterMap_cons, List.findSome?_cons]
    cases htag : tagOf f s with
    | none =>
      have hn : named f s = none := by rw [named_eq, htag]; rfl
      simp only [hn]
      exact ih
    | some t =>
      have hk := tagOf_key htag
      have hg := hget t
      rw [hk] at hg
      cases hsk : t.skip
      · have hn : named f s = some (t.value, t.required) := by rw [named_eq, htag]; simp [hsk]
        cases hp : p t
        · simp only [hn, hg, hp, Bool.false_eq_true, if_false, Option.map_none, List.find?_cons, hit, Bool.and_false]
          exact ih
        · have hj : s ≠ .json := by
            intro h; subst h; rw [hjson, hp] at hg; cases hg
          simp [hn, hg, hp, hit, hsk, hk, hj]
      · have hn : named f s = none := by rw [named_eq, htag]; simp [hsk]
        simp only [hn, List.find?_cons, hit, hsk, Bool.not_true, Bool.false_and]
        exact ih

/-- … and over the text sources it is the first hit in the decoder's tag list: no source carries anything under `json` -/
theorem findSome_textSources {α : Type} (get : Src → Bytes → Option α) (p : TagInfo → Bool) (val : TagInfo → α)
    (hget : ∀ t : TagInfo, get t.key t.value = if p t then some (val t) else none) (hjson : ∀ k, get .json k = none)
    (f : Field) :
    textSources.findSome? (fun s => match named f s with
      | some (n, _) => (get s n).map (fun v => (s, v))
      | none => none) =
    ((fieldTagInfos f).find? (hit p)).map (fun t => (t.key, val t)) := by
  rw [fieldTagInfos_eq, ← findSome_sources get p val hget hjson f priority]
  have : priority = textSources ++ [.json] := rfl
  rw [this, List.findSome?_append]
  simp only [List.findSome?_cons, List.findSome?_nil]
  cases named f .json with
  | none => simp
  | some n => simp [hjson]

theorem firstText_eq (f : Field) (r : Req) :
    firstText f r = ((fieldTagInfos f).find? (hitB r)).map (fun t => (t.key, (getter r t.key t.value).1)) :=
  findSome_textSources (present r) (textPresent r) (fun t => (getter r t.key t.value).1)
    (fun t => by rw [textPresent, getter_eq]; cases present r t.key t.value <;> rfl) (present_json r) f

theorem firstTexts_eq (f : Field) (r : Req) :
    firstTexts f r = ((fieldTagInfos f).find? (hitS r)).map (fun t => (t.key, sliceGetter r t.key t.value)) := by
  refine Eq.trans ?_ (findSome_textSources (fun s n => if presentAll r s n ≠ [] then some (presentAll r s n) else none)
    (textsPresent r) (fun t => sliceGetter r t.key t.value)
    (fun t => by simp [textsPresent, sliceGetter_eq]) (fun k => by rw [presentAll_json]; rfl) f)
  unfold firstTexts
  congr 1
  funext s
  cases named f s with
  | none => rfl
  | some n => simp only; split <;> rfl

/-- pre-bind as seen by one field, for either JSON decoder (`preField` is `preFieldS true`) -/
def preFieldS (sonic : Bool) (r : Req) (f : Field) : Conv FieldVal :=
  if hasBody r && ctFold r then
    match r.body with
    | .json _ => preBindField sonic r f
    | _ => .err
  else .ok .unset

theorem preField_eq (r : Req) (f : Field) : preField r f = preFieldS true r f := rfl

/-- an integer literal sonic would truncate when stored in a `uint32` -/
def bigAtom : JAtom → Bool
  | .int i => decide (i ≥ 2 ^ 32)
  | _ => false

def bigVal : JVal → Bool
  | .atom a => bigAtom a
  | .arr l => l.any bigAtom

theorem clsSonicU32_eq (f : Field) (r : Req) :
    clsSonicU32 f r = (isJSONRequest r && f.ty.base == .uint 32 &&
      (bodyMembers r).any (fun m => jsonMatches f m.1 && bigVal m.2)) := by
  unfold clsSonicU32
  congr 2
  funext m
  congr 1
  rcases m with ⟨k, v⟩
  cases v with
  | atom a => cases a <;> rfl
  | arr l =>
    simp only [bigVal]
    congr 1

theorem jsonAtomConv_sonic (b : Base) (a : JAtom) (h : b ≠ .uint 32 ∨ bigAtom a = false) :
    jsonAtomConv true b a = jsonAtomConv false b a := by
  cases a with
  | int i =>
    cases b with
    | uint bits =>
      by_cases hb : bits = 32
      · subst hb
        have hi : i < 2 ^ 32 := by
          rcases h with h | h
          · exact absurd rfl h
          · simpa [bigAtom] using h
        simp only [jsonAtomConv, true_and, Bool.false_eq_true, false_and, if_true, if_false, uintInRange, effBits]
        by_cases h0 : 0 ≤ i
        · have h1 : i.toNat < 2 ^ 32 := by omega
          have h2 : i.toNat < 2 ^ 63 := by omega
          have h3 : i.toNat % 2 ^ 32 = i.toNat := Nat.mod_eq_of_lt h1
          simp [h0, h1, h2, h3]
        · simp [h0]
      · simp [jsonAtomConv, hb]
    | _ => rfl
  | _ => rfl

theorem jsonAtomsConv_sonic (b : Base) : ∀ (l : List JAtom), (b ≠ .uint 32 ∨ l.any bigAtom = false) →
    jsonAtomsConv true b l = jsonAtomsConv false b l
  | [], _ => rfl
  | a :: t, h => by
    rw [List.any_cons, Bool.or_eq_false_iff] at h
    simp only [jsonAtomsConv, jsonAtomConv_sonic b a (h.imp_right (·.1)), jsonAtomsConv_sonic b t (h.imp_right (·.2))]

theorem jsonStep_sonic (ty : Ty) (prev : FieldVal) (v : JVal) (h : ty.base ≠ .uint 32 ∨ bigVal v = false) :
    jsonStep true ty prev v = jsonStep false ty prev v := by
  unfold jsonStep
  cases v with
  | atom a =>
    have e := jsonAtomConv_sonic ty.base a h
    by_cases hs : ty.slice = true
    · simp only [hs, if_true]
      cases a <;> rfl
    · simp only [hs, Bool.false_eq_true, if_false, e]
  | arr l => simp only [jsonAtomsConv_sonic ty.base l h]

theorem preBindMembers_sonic (f : Field) : ∀ (ms : List (Bytes × JVal)) (acc : Conv FieldVal),
    (∀ m ∈ ms, jsonMatches f m.1 = true → (f.ty.base ≠ .uint 32 ∨ bigVal m.2 = false)) →
    preBindMembers true f ms acc = preBindMembers false f ms acc
  | [], _, _ => rfl
  | m :: t, acc, h => by
    have ht := (List.forall_mem_cons.1 h).2
    unfold preBindMembers
    cases hm : jsonMatches f m.1
    · simp only [Bool.false_eq_true, if_false]
      exact preBindMembers_sonic f t acc ht
    · have hs := fun p => jsonStep_sonic f.ty p m.2 (h m List.mem_cons_self hm)
      simp only [if_true, hs]
      cases acc with
      | err => rfl
      | unk => simp only [preBindMembers_sonic f t .unk ht]
      | ok prev => exact preBindMembers_sonic f t _ ht

theorem preBindField_sonic (r : Req) (f : Field) (hj : isJSONRequest r = true) (hc : clsSonicU32 f r = false) :
    preBindField true r f = preBindField false r f := by
  apply preBindMembers_sonic
  intro m hm hmatch
  by_cases hu : f.ty.base = .uint 32
  · rw [clsSonicU32_eq, hj, hu] at hc
    simp only [beq_self_eq_true, Bool.true_and, List.any_eq_false, Bool.and_eq_true, not_and, Bool.not_eq_true] at hc
    exact Or.inr (hc m hm hmatch)
  · exact Or.inl hu

theorem preFieldS_sonic (r : Req) (f : Field) (hc : clsSonicU32 f r = false) :
    preFieldS true r f = preFieldS false r f := by
  unfold preFieldS
  cases hj : hasBody r && ctFold r
  · rfl
  · rw [preBindField_sonic r f hj hc]

theorem collect_ok_map (l : List (Conv FieldVal)) (vs : List FieldVal) (h : collect l = .ok vs) : l = vs.map .ok := by
  induction l generalizing vs with
  | nil => cases h; rfl
  | cons c l ih =>
    unfold collect at h
    split at h <;> cases h
    next hl => rw [ih _ hl]; rfl

theorem preBind_ok (s : Bool) (r : Req) (fields : List Field) (pres : List FieldVal)
    (h : preBind s r fields = .ok pres) : fields.map (preFieldS s r) = pres.map .ok := by
  unfold preBind at h
  unfold preFieldS
  cases hj : hasBody r && ctFold r <;> rw [hj] at h
  · cases h
    simp
  · cases hb : r.body <;> rw [hb] at h
    · cases h
    · cases h
    · exact collect_ok_map _ _ h

/-- the fold of `Spec.Bind.jsonValue` -/
def jsonFold (ty : Ty) (acc : Conv FieldVal) (m : Bytes × JVal) : Conv FieldVal :=
  match acc with
  | .ok prev => jsonStep false ty prev m.2
  | o => o

theorem jsonValue_def (ty : Ty) (r : Req) (n : Bytes) :
    jsonValue ty r n = ((bodyMembers r).filter (fun m => m.1 == n)).foldl (jsonFold ty) (.ok .unset) := rfl

theorem preBindMembers_not_ok (s : Bool) (f : Field) (ms : List (Bytes × JVal)) (acc : Conv FieldVal)
    (h : acc = .err ∨ acc = .unk) (v : FieldVal) : preBindMembers s f ms acc ≠ .ok v := by
  fun_induction preBindMembers s f ms acc
  case case1 => rcases h with rfl | rfl <;> simp
  all_goals simp_all

theorem preBindMembers_exact (f : Field) (n : Bytes) (ms : List (Bytes × JVal)) (acc : Conv FieldVal) (v : FieldVal)
    (hm : ∀ m ∈ ms, jsonMatches f m.1 = (m.1 == n)) (h : preBindMembers false f ms acc = .ok v) :
    (ms.filter (fun m => m.1 == n)).foldl (jsonFold f.ty) acc = .ok v := by
  -- 1: no member left; 2–4: `acc` is `.err` / `.unk` and stays so; 5: the key matches; 6: it does not
  fun_induction preBindMembers false f ms acc
  case case1 => exact h
  case case2 | case3 => cases h
  case case4 => exact absurd h (preBindMembers_not_ok false f _ .unk (Or.inr rfl) v)
  case case5 m t hj prev ih =>
    rw [List.filter_cons, if_pos ((hm m List.mem_cons_self).symm.trans hj)]
    exact ih (List.forall_mem_cons.1 hm).2 h
  case case6 m t acc hj ih =>
    rw [List.filter_cons, if_neg ((hm m List.mem_cons_self) ▸ hj)]
    exact ih (List.forall_mem_cons.1 hm).2 h

theorem preBindMembers_nomatch (s : Bool) (f : Field) : ∀ (ms : List (Bytes × JVal)) (acc : Conv FieldVal),
    (∀ m ∈ ms, jsonMatches f m.1 = false) → preBindMembers s f ms acc = acc
  | [], _, _ => rfl
  | m :: t, acc, h => by
    unfold preBindMembers
    simp only [h m List.mem_cons_self, Bool.false_eq_true, if_false]
    exact preBindMembers_nomatch s f t acc (List.forall_mem_cons.1 h).2

/-- what every Go struct field satisfies as far as this model describes it: the field is not called `-`
(not an identifier) and no source key occurs twice in its struct tag (`go vet` structtag) -/
def FieldWF (f : Field) : Prop := f.name ≠ dash ∧ (f.tags.map (·.1)).Nodup

instance (f : Field) : Decidable (FieldWF f) := by unfold FieldWF; infer_instance

theorem fieldClass_empty {f : Field} {r : Req} : fieldClass f r = "" ↔
    clsSonicU32 f r = false ∧ clsDashOnly f = false ∧ clsJsonDash f = false ∧ clsPrebindExtra f r = false := by
  unfold fieldClass
  cases clsSonicU32 f r
  · cases clsDashOnly f
    · cases clsJsonDash f
      · cases clsPrebindExtra f r <;> decide
      · simp
    · simp
  · simp

theorem tis_split (f : Field) :
    fieldTagInfos f = textSources.filterMap (tagOf f) ++ (tagOf f .json).toList := by
  rw [fieldTagInfos_eq]
  have : priority = textSources ++ [.json] := rfl
  rw [this, List.filterMap_append]
  congr 1

theorem json_tag_facts {f : Field} {tj : TagInfo} (hn : f.name ≠ dash) (hd : clsJsonDash f = false)
    (h : tagOf f .json = some tj) : tj.key = .json ∧ tj.skip = false ∧ tj.jsonName = tj.value := by
  rcases tagOf_cases h with ⟨_, rfl⟩ | ⟨_, c, hl, rfl⟩
  · exact ⟨rfl, rfl, rfl⟩
  · simp only [clsJsonDash, hl, beq_eq_false_iff_ne, ne_eq] at hd
    have htv : (if (headComma c).1 = [] then f.name else (headComma c).1) ≠ dash := by
      split
      · exact hn
      · exact hd
    simp [mkTagInfo, htv]

theorem jsonFieldName_of_tag {f : Field} {tj : TagInfo} (hs : tj.skip = false) (h : tagOf f .json = some tj) :
    jsonFieldName f = some tj.value := by
  unfold jsonFieldName
  rcases tagOf_cases h with ⟨he, rfl⟩ | ⟨_, c, hl, rfl⟩
  · simp [he]
  · have hc : c ≠ dash := by
      rintro rfl
      simp [mkTagInfo, headComma, dash] at hs
    simp [hl, hc, mkTagInfo]

theorem anyRequired_eq (f : Field) :
    anyRequired f = (fieldTagInfos f).any (fun t => !t.skip && t.required) := by
  rw [fieldTagInfos_eq]
  unfold anyRequired
  generalize priority = l
  induction l with
  | nil => rfl
  | cons s l ih =>
    rw [List.any_cons, List.filterMap_cons, ih, named_eq]
    cases ht : tagOf f s with
    | none => simp
    | some t =>
      cases hs : t.skip <;> simp [hs]

theorem lookup_of_mem_nodup (l : List (Src × Bytes)) (s : Src) (c : Bytes)
    (hn : (l.map (·.1)).Nodup) (h : (s, c) ∈ l) : l.lookup s = some c := by
  obtain ⟨l₁, l₂, rfl⟩ := List.append_of_mem h
  refine List.lookup_eq_some_iff.2 ⟨l₁, l₂, rfl, fun p hp => bne_iff_ne.2 fun e => ?_⟩
  rw [List.map_append, List.map_cons] at hn
  exact (List.nodup_append.1 hn).2.2 _ (List.mem_map_of_mem hp) _ List.mem_cons_self e.symm

/-- every tag is skipped although there are tags, and a default is declared: the class `dash-only-default` -/
theorem dflt_empty_of_all_skipped {f : Field} (hwf : FieldWF f) (hd : clsDashOnly f = false)
    (hj : tagOf f .json = none) (hall : ∀ t ∈ fieldTagInfos f, t.skip = true) : dfltOf f = [] := by
  unfold tagOf at hj
  by_cases he : f.tags.isEmpty = true
  · simp [he] at hj
  · simp only [he, Bool.false_eq_true, if_false, Option.map_eq_none_iff] at hj
    have hallt : f.tags.all (fun t => (headComma t.2).1 == dash) = true := by
      rw [List.all_eq_true]
      rintro ⟨s, c⟩ hm
      have hl := lookup_of_mem_nodup f.tags s c hwf.2 hm
      have hmem : mkTagInfo f s c ∈ fieldTagInfos f := mem_tis.2 ⟨s, by simp [tagOf, he, hl]⟩
      have hsk := hall _ hmem
      simp only [mkTagInfo, beq_iff_eq] at hsk
      by_cases hh : (headComma c).1 = []
      · simp only [hh, if_true] at hsk; exact absurd hsk hwf.1
      · simp only [hh, if_false] at hsk; simpa using hsk
    unfold clsDashOnly at hd
    simp only [he, Bool.not_false, Bool.true_and, hj, beq_self_eq_true, hallt, Bool.and_true,
      bne_eq_false_iff_eq] at hd
    exact hd

/-! ### what the pre-bind left in the field -/

theorem carries_eq (r : Req) (n : Bytes) : Spec.Bind.jsonCarries r n = (ctFold r && bodyHasKey r n) := by
  unfold Spec.Bind.jsonCarries isJSONRequest bodyHasKey hasBody bodyMembers
  cases hb : r.body <;> cases ctFold r <;> simp

theorem extra_none {f : Field} {r : Req} (hx : clsPrebindExtra f r = false) (hj : isJSONRequest r = true)
    (hn : named f .json = none) : ∀ m ∈ bodyMembers r, jsonMatches f m.1 = false := by
  unfold clsPrebindExtra at hx
  simp only [hj, hn, Bool.true_and, Bool.and_true, List.any_eq_false] at hx
  intro m hm
  simpa using hx m hm

theorem extra_some {f : Field} {r : Req} {n : Bytes} {q : Bool} (hx : clsPrebindExtra f r = false)
    (hj : isJSONRequest r = true) (hn : named f .json = some (n, q)) :
    ∀ m ∈ bodyMembers r, jsonMatches f m.1 = true → m.1 = n := by
  unfold clsPrebindExtra at hx
  simp only [hj, hn, Bool.true_and, List.any_eq_false, Bool.and_eq_true, not_and] at hx
  intro m hm hmt
  simpa using hx m hm hmt

theorem preFieldS_ok {s : Bool} {r : Req} {f : Field} {pre : FieldVal} (h : preFieldS s r f = .ok pre) :
    (isJSONRequest r = true ∧ preBindMembers s f (bodyMembers r) (.ok .unset) = .ok pre) ∨
    (isJSONRequest r = false ∧ pre = .unset) := by
  unfold preFieldS at h
  cases hj : (hasBody r && ctFold r)
  · simp only [hj, Bool.false_eq_true, if_false] at h
    cases h
    exact Or.inr ⟨hj, rfl⟩
  · simp only [hj, if_true] at h
    cases hb : r.body with
    | json ms => rw [hb] at h; exact Or.inl ⟨hj, h⟩
    | none => simp [hb] at h
    | notJson => simp [hb] at h

theorem prebind_none {f : Field} {r : Req} {pre : FieldVal} (hx : clsPrebindExtra f r = false)
    (hn : named f .json = none) (hp : preFieldS false r f = .ok pre) : pre = .unset := by
  rcases preFieldS_ok hp with ⟨hj, hp⟩ | ⟨_, rfl⟩
  · rw [preBindMembers_nomatch false f _ _ (extra_none hx hj hn)] at hp
    cases hp; rfl
  · rfl

theorem prebind_some {f : Field} {r : Req} {pre : FieldVal} {n : Bytes} {q : Bool}
    (hx : clsPrebindExtra f r = false) (hn : named f .json = some (n, q)) (hfn : jsonFieldName f = some n)
    (hp : preFieldS false r f = .ok pre) :
    (Spec.Bind.jsonCarries r n = true → jsonValue f.ty r n = .ok pre) ∧
    (Spec.Bind.jsonCarries r n = false → pre = .unset) := by
  rcases preFieldS_ok hp with ⟨hj, hp⟩ | ⟨hj, rfl⟩
  · have hmatch : ∀ m ∈ bodyMembers r, jsonMatches f m.1 = (m.1 == n) := by
      intro m hm
      cases hjm : jsonMatches f m.1
      · symm
        rw [beq_eq_false_iff_ne]
        intro e
        rw [e] at hjm
        simp [jsonMatches, hfn, ciEq_refl] at hjm
      · have := extra_some hx hj hn m hm hjm
        simp [this]
    have hfold := preBindMembers_exact f n _ _ _ hmatch hp
    refine ⟨fun _ => (jsonValue_def f.ty r n).trans hfold, fun hc => ?_⟩
    unfold Spec.Bind.jsonCarries at hc
    simp only [hj, Bool.true_and, List.any_eq_false] at hc
    rw [List.filter_eq_nil_iff.2 fun m hm => by simpa using hc m hm] at hfold
    cases hfold; rfl
  · refine ⟨fun hc => ?_, fun _ => rfl⟩
    unfold Spec.Bind.jsonCarries at hc
    rw [hj] at hc
    cases hc

theorem req_false {f : Field} (hjs : ∀ t ∈ fieldTagInfos f, t.key = .json → t.skip = false)
    (h : anyRequired f = false) : ∀ t ∈ fieldTagInfos f, t.effective → t.required = false := by
  rw [anyRequired_eq, List.any_eq_false] at h
  intro t ht he
  have hs : t.skip = false := he.elim (hjs t ht) id
  simpa [hs] using h t ht

theorem req_true {f : Field} (h : anyRequired f = true) :
    ∃ t ∈ fieldTagInfos f, t.effective ∧ t.required = true := by
  rw [anyRequired_eq, List.any_eq_true] at h
  obtain ⟨t, ht, hb⟩ := h
  simp only [Bool.and_eq_true, Bool.not_eq_true'] at hb
  exact ⟨t, ht, Or.inr hb.1, hb.2⟩

theorem tagOf_json_of_mem {f : Field} {t : TagInfo} (ht : t ∈ fieldTagInfos f) (hk : t.key = .json) :
    tagOf f .json = some t := by
  obtain ⟨s, hs⟩ := mem_tis.1 ht
  rwa [← tagOf_key hs, hk] at hs

theorem json_tags_not_skipped {f : Field} (hn : f.name ≠ dash) (hd : clsJsonDash f = false) :
    ∀ t ∈ fieldTagInfos f, t.key = .json → t.skip = false :=
  fun _ ht hk => (json_tag_facts hn hd (tagOf_json_of_mem ht hk)).2.1

/-- no text source carries the field.  Both decoders at once: of what a decoder makes of the loop's result (`out`) the
refinement uses only that a `required` error is returned and that "nothing found, declared default `d`" becomes `dfo d` -/
theorem noText_of {α : Type} {r : Req} {p : TagInfo → Bool} {val : TagInfo → α} {out : FieldVal → LoopV α → FOut}
    {dfo : Bytes → FieldVal → FOut} (herr : ∀ prev v, v.err = some .required → out prev v = .err .required)
    (hdf : ∀ prev d, out prev { err := none, got := none, dflt := d } = dfo d prev) (hd0 : ∀ prev, dfo [] prev = .ok prev)
    (f : Field) (pre : FieldVal) (hwf : FieldWF f) (hc : fieldClass f r = "")
    (hp : preFieldS false r f = .ok pre) (hnone : ∀ t ∈ fieldTagInfos f, t.isText → p t = false) :
    out pre (tagLoop (jsonBranch r) p val (fieldTagInfos f) {}) = noText f r (dfo (dfltOf f) .unset) := by
  obtain ⟨_, hdash, hjd, hx⟩ := fieldClass_empty.1 hc
  have hjs := json_tags_not_skipped hwf.1 hjd
  -- the body does not carry the field either: `required` is an error, otherwise the default applies
  have hrest : (∀ t ∈ fieldTagInfos f, t.key = .json → Hertz.Bind.jsonCarries r t = false) →
      (dfltOf f = [] ∨ ∃ t ∈ fieldTagInfos f, t.effective) →
      out .unset (tagLoop (jsonBranch r) p val (fieldTagInfos f) {}) =
        if anyRequired f then .err .required else dfo (dfltOf f) .unset := by
    intro hnj he
    cases hreq : anyRequired f
    · rw [tagLoop_default (v := {}) ⟨hnone, hnj⟩ (req_false hjs hreq) (fieldTagInfos_dflt f) rfl rfl
        (he.imp_left Eq.symm), hdf]
      rfl
    · exact herr _ _ (tagLoop_required ⟨hnone, hnj⟩ rfl (req_true hreq))
  unfold noText
  cases hj : tagOf f .json with
  | none =>
    have hn : named f .json = none := by rw [named_eq, hj]; rfl
    obtain rfl := prebind_none hx hn hp
    simp only [hn]
    refine hrest (fun t ht e => nomatch hj.symm.trans (tagOf_json_of_mem ht e)) ?_
    -- if no tag takes part in the loop, all are named `-` and the declared default is empty (class `dash-only-default`)
    by_cases he : ∃ t ∈ fieldTagInfos f, t.effective
    · exact Or.inr he
    · refine Or.inl (dflt_empty_of_all_skipped hwf hdash hj (fun t ht => ?_))
      cases hsk : t.skip
      · exact absurd ⟨t, ht, Or.inr hsk⟩ he
      · rfl
  | some tj =>
    obtain ⟨hk, hsk, hjn⟩ := json_tag_facts hwf.1 hjd hj
    have hn : named f .json = some (tj.value, tj.required) := by rw [named_eq, hj]; simp [hsk]
    obtain ⟨hP1, hP2⟩ := prebind_some hx hn (jsonFieldName_of_tag hsk hj) hp
    have hce : Spec.Bind.jsonCarries r tj.value = Hertz.Bind.jsonCarries r tj := by
      rw [carries_eq]; unfold Hertz.Bind.jsonCarries; rw [hjn]
    rw [hce] at hP1 hP2
    simp only [hn, hce]
    cases hcar : Hertz.Bind.jsonCarries r tj
    · obtain rfl := hP2 hcar
      refine hrest (fun t ht hkt => ?_) (Or.inr ⟨tj, mem_tis.2 ⟨.json, hj⟩, Or.inl hk⟩)
      obtain rfl : tj = t := Option.some.inj (hj.symm.trans (tagOf_json_of_mem ht hkt))
      exact hcar
    · -- the json tag is the last of the list and finds its key
      have hsplit := tis_split f
      rw [hj] at hsplit
      rw [if_pos rfl, hP1 hcar, hsplit, Option.toList_some, tagLoop_json_last (fun t ht => hnone t ?_) rfl hk hcar, hdf, hd0]
      rfl
      rw [hsplit]; exact List.mem_append_left _ ht

theorem defaultOutcome_spec (f : Field) (hs : f.ty.slice = false) :
    (if dfltOf f = [] then FOut.ok .unset
      else match convText f.ty.base (dfltOf f) with
        | .ok s => .ok (.one s)
        | .err => .err .conv
        | .unk => .unk) = defaultOutcome f.ty (dfltOf f) .unset := by
  unfold defaultOutcome
  rw [toDefaultValue_scalar _ _ hs]
  rfl

theorem scalar_refines (f : Field) (r : Req) (pre : FieldVal) (hwf : FieldWF f) (hc : fieldClass f r = "")
    (hp : preFieldS false r f = .ok pre) (hs : f.ty.slice = false) :
    decodeBase r f.ty (fieldTagInfos f) pre = specScalar f r := by
  unfold specScalar
  rw [firstText_eq, decodeBase_eq]
  cases hf : (fieldTagInfos f).find? (hitB r) with
  | none =>
    simp only [Option.map_none]
    rw [noText_of (out := baseOut f.ty) (dfo := defaultOutcome f.ty) (fun _ _ h => by simp [baseOut, h])
      (fun _ d => by simp [baseOut, defaultOutcome, toDefaultValue_scalar _ _ hs]) (fun _ => rfl)
      f pre hwf hc hp (find_hit_none (p := textPresent r) hf)]
    congr 1
    exact (defaultOutcome_spec f hs).symm
  | some ti =>
    have hd : ti.dflt = dfltOf f := fieldTagInfos_dflt f ti (List.mem_of_find?_eq_some hf)
    rw [tagLoop_find hf, hd]
    simp only [Option.map_some, baseOut, effText, toDefaultValue_scalar _ _ hs]
    generalize (getter r ti.key ti.value).1 = v
    by_cases hv : v = [] <;> by_cases hdd : dfltOf f = [] <;> simp [hv, hdd, textOutcome] <;> rfl

/-- assigning a JSON value to a slice does not look at what the slice held -/
theorem jsonFromText_slice_prev (ty : Ty) (hs : ty.slice = true) (prev : FieldVal) (text : Bytes) :
    jsonFromText ty prev text = jsonFromText ty .unset text := by
  unfold jsonFromText
  cases parseSliceJSON text with
  | err => rfl
  | unk => rfl
  | ok v =>
    have : jsonStep true ty prev v = jsonStep true ty .unset v := by
      unfold jsonStep
      simp only [hs, if_true]
    simp only [this]

theorem slice_refines (f : Field) (r : Req) (pre : FieldVal) (hwf : FieldWF f) (hc : fieldClass f r = "")
    (hp : preFieldS false r f = .ok pre) (hs : f.ty.slice = true) :
    decodeSlice r f.ty (fieldTagInfos f) pre = specSlice f r := by
  unfold specSlice
  rw [firstTexts_eq, decodeSlice_eq]
  cases hf : (fieldTagInfos f).find? (hitS r) with
  | none =>
    simp only [Option.map_none]
    rw [noText_of (out := sliceOut f.ty) (dfo := defaultOutcomeS f.ty) (fun _ _ h => by simp [sliceOut, h])
      (fun _ _ => rfl) (fun _ => rfl) f pre hwf hc hp (find_hit_none (p := textsPresent r) hf)]
    rfl
  | some ti =>
    have hhit := List.find?_some hf
    simp only [hitS, textsPresent, Bool.and_eq_true, bne_iff_ne, ne_eq] at hhit
    rw [tagLoop_find hf]
    cases hg : sliceGetter r ti.key ti.value with
    | nil => exact absurd hg hhit.2
    | cons t0 ts =>
      simp only [Option.map_some, sliceOut, hg, textsOutcome, jsonFromText_slice_prev f.ty hs pre t0]
      rfl

theorem field_refines (f : Field) (r : Req) (pre : FieldVal) (hwf : FieldWF f) (hc : fieldClass f r = "")
    (hp : preFieldS false r f = .ok pre) : (compileField f).run r pre = specField f r := by
  unfold FieldDec.run compileField specField
  cases hs : f.ty.slice
  · simp only [Bool.false_eq_true, if_false]
    exact scalar_refines f r pre hwf hc hp hs
  · simp only [if_true]
    exact slice_refines f r pre hwf hc hp hs

theorem runDecoders_refines (r : Req) : ∀ (fields : List Field) (pres : List FieldVal),
    (∀ f ∈ fields, FieldWF f) → (∀ f ∈ fields, fieldClass f r = "") →
    fields.map (preFieldS false r) = pres.map .ok → runDecoders r (compile fields) pres = specFields r fields
  | [], _, _, _, _ => rfl
  | _ :: _, [], _, _, h => by cases h
  | f :: fs, p :: ps, hwf, hc, h => by
    simp only [List.map_cons, List.cons.injEq] at h
    have ih := runDecoders_refines r fs ps (List.forall_mem_cons.1 hwf).2 (List.forall_mem_cons.1 hc).2 h.2
    have hf := field_refines f r p (hwf f List.mem_cons_self) (hc f List.mem_cons_self) h.1
    unfold compile at ih ⊢
    simp only [List.map_cons, runDecoders, List.headD_cons, List.tail_cons, specFields, hf, ih]
    cases specField f r with
    | err e => rfl
    | unk => rfl
    | ok v => cases specFields r fs <;> rfl

/-! ## the tag-restricted entry points (`BindPath`/`BindForm`/`BindQuery`/`BindHeader`) against `specFieldsBy` -/

/-- `getFieldTagInfoByTag` yields one tag, read as the specification reads the struct tag of that source -/
theorem tagInfoByTag_spec (f : Field) (s : Src) :
    ∃ t, tagInfoByTag f s = [t] ∧ t.key = s ∧ t.dflt = [] ∧
      namedBy f s = (if t.skip then none else some (t.value, t.required)) := by
  unfold tagInfoByTag namedBy
  cases hl : f.tags.lookup s with
  | none => exact ⟨_, rfl, rfl, rfl, by simp⟩
  | some c =>
    obtain ⟨tl, h1, h2⟩ := splitComma_head c []
    simp only [List.reverse_nil, List.nil_append] at h1
    refine ⟨_, rfl, rfl, rfl, ?_⟩
    simp only [h1, h2, List.isEmpty_iff]

/-- a tag-restricted entry point runs the loop on one tag -/
theorem fieldBy_refines (f : Field) (r : Req) (s : Src) (hs : s ≠ .json) :
    (compileFieldBy (some s) f).run r .unset = specFieldBy s f r := by
  obtain ⟨t, ht, hk, hd, hn⟩ := tagInfoByTag_spec f s
  subst hk
  have hkj : ¬ t.key = .json := hs
  unfold specFieldBy
  simp only [compileFieldBy, FieldDec.run, ht, decodeBase_eq, decodeSlice_eq, tagLoop, hkj, if_false, hn]
  cases hsk : t.skip
  · simp only [Bool.false_eq_true, if_false, textPresent, textsPresent, getter_eq, sliceGetter_eq, hd]
    cases f.ty.slice
    · cases present r t.key t.value with
      | none => cases t.required <;> rfl
      | some v => simp [asPair, baseOut, effText, textOutcome]; cases convText f.ty.base v <;> rfl
    · cases hp : presentAll r t.key t.value with
      | nil => cases t.required <;> rfl
      | cons t0 ts => simp [sliceOut, textsOutcome]; cases convAll f.ty.base (t0 :: ts) <;> rfl
  · cases f.ty.slice <;> rfl

theorem runDecodersBy_refines (r : Req) (s : Src) (hs : s ≠ .json) : ∀ fields : List Field,
    runDecoders r (compileBy (some s) fields) (fields.map (fun _ => .unset)) = specFieldsBy s r fields
  | [] => rfl
  | f :: fs => by
    have ih := runDecodersBy_refines r s hs fs
    simp only [compileBy] at ih
    simp only [compileBy, List.map_cons, runDecoders, specFieldsBy, List.headD_cons, List.tail_cons, fieldBy_refines f r s hs, ih]
    cases specFieldBy s f r with
    | err e => rfl
    | unk => rfl
    | ok v => cases specFieldsBy s r fs <;> rfl

/-- **Tag-restricted entry points.** For every type and request, `BindPath` / `BindForm` / `BindQuery` /
`BindHeader` compute what their one-source specification says (no hypothesis on the fields). -/
theorem bindBy_refines (s : Src) (hs : s ≠ .json) (fields : List Field) (r : Req) :
    bindBy (some s) fields r = specBindBy (some s) fields r :=
  runDecodersBy_refines r s hs fields

end Hertz.Bind
