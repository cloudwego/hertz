import Hertz.Proofs.RouteIter
import Hertz.Proofs.RouteEngine
/-!
C06: iterative = recursive `find` at the level of `find` and of `Engine.ServeHTTP`.
-/
namespace Hertz.Route.Iter
open Hertz.Route Hertz.Spec.Route

/-- On a well-formed tree the loop of `find` ends within `4 * size root` program points and returns
what the recursive search returns, which is a hit or a miss: the same handlers, full path and parameters
(unescaped when asked) on a hit; no handlers, `cn == nil` (empty full path) and `*paramsPointer` re-sliced to
length 0 on a miss. -/
theorem findIter_cases (u : Bool) (root : Node) (cap : Nat) (hwf : WF root .skind) (hp : PnOK root 0 cap) (path : Bytes)
    (arr : List Bytes) (harr : arr.length = cap) :
    (∃ f t arr' plen', find root path cap = .hit f ∧
        findIter root path arr 0 u = some (.value (some f.handlers) f.fullPath
          (f.params.map fun kv => (kv.1, unescapeVal u kv.2)) t arr' plen')) ∨
    (find root path cap = .miss ∧ ∃ t arr', arr'.length = cap ∧
        findIter root path arr 0 u = some (.value none [] [] t arr' 0)) := by
  obtain ⟨h1, h2⟩ := (visit_sim u path root .skind 0 cap hwf hp).1 rfl [] path 0 arr false harr (by simp) (by simp)
  simp only [List.take_zero] at h1 h2
  rcases find_spec root cap hwf hp path with ⟨_, _, _, _, hf⟩ | ⟨_, hm⟩
  · obtain ⟨k, hk, t, arr', plen', hh⟩ := h1 _ hf
    refine Or.inl ⟨_, t, arr', plen', hf, ?_⟩
    have := hh (4 * size root - k)
    rwa [Nat.add_sub_cancel' hk] at this
  · obtain ⟨k, hk, arr', t', hl', _, hex⟩ := h2 hm
    refine Or.inr ⟨hm, t', arr', hl', ?_⟩
    have := hex (4 * size root - k)
    rw [Nat.add_sub_cancel' hk] at this
    simpa [post, zipKeys, findIter, fuelFor, initSt] using this

/-- the 405 loop over well-formed trees: `notAllowed` when the tree of another method has a hit, else `notFound`; no panic -/
theorem notAllowedLoop_spec (u : Bool) (cap : Nat) (m p : Bytes) : ∀ (ts : List Router) (arr : List Bytes), arr.length = cap →
    (∀ t ∈ ts, WF t.root .skind ∧ PnOK t.root 0 cap) →
    (notAllowedLoop ts m p arr 0 u = .notAllowed ∧ ∃ t ∈ ts, t.method ≠ m ∧ ∃ f, find t.root p cap = .hit f) ∨
    (notAllowedLoop ts m p arr 0 u = .notFound ∧ ∀ t ∈ ts, t.method ≠ m → find t.root p cap = .miss)
  | [], arr, _, _ => Or.inr ⟨rfl, by intro t ht; simp at ht⟩
  | t :: r, arr, harr, hall => by
    -- when `t` does not count, the answer of the rest of the loop is the answer of the loop
    have rest : ∀ arr', arr'.length = cap → (t.method ≠ m → find t.root p cap = .miss) →
        (notAllowedLoop r m p arr' 0 u = .notAllowed ∧ ∃ t' ∈ t :: r, t'.method ≠ m ∧ ∃ f, find t'.root p cap = .hit f) ∨
        (notAllowedLoop r m p arr' 0 u = .notFound ∧ ∀ t' ∈ t :: r, t'.method ≠ m → find t'.root p cap = .miss) := by
      intro arr' h' ht
      rcases notAllowedLoop_spec u cap m p r arr' h' (fun t' ht' => hall t' (List.mem_cons_of_mem _ ht')) with
        ⟨h1, t', ht', h2⟩ | ⟨h1, h2⟩
      · exact Or.inl ⟨h1, t', List.mem_cons_of_mem _ ht', h2⟩
      · refine Or.inr ⟨h1, fun t' ht' hne => ?_⟩
        rcases List.mem_cons.mp ht' with rfl | ht''
        · exact ht hne
        · exact h2 t' ht'' hne
    simp only [notAllowedLoop]
    by_cases hm : t.method = m
    · rw [if_pos hm]
      exact rest arr harr (fun hne => absurd hm hne)
    · rw [if_neg hm]
      obtain ⟨hwf, hp⟩ := hall t (List.mem_cons_self ..)
      rcases findIter_cases u t.root cap hwf hp p arr harr with ⟨f, tt, arr', plen', hf, h⟩ | ⟨hmiss, tt, arr', hl', h⟩
      · rw [h]
        exact Or.inl ⟨rfl, t, List.mem_cons_self .., hm, f, hf⟩
      · rw [h]
        exact rest arr' hl' (fun _ => hmiss)

/-- what `ServeHTTP` answers when no route handler runs -/
def NoHandlerOutcome (e : Engine) (o : Opts) (m p : Bytes) (s : ServedI) : Prop :=
  (∃ c, s = .redirect c ∧ o.redirectTrailingSlash = true ∧ m ≠ mCONNECT ∧ p ≠ [47] ∧ (c = 301 ↔ m = mGET) ∧ (c = 301 ∨ c = 307)) ∨
  (s = .notAllowed ∧ o.handleMethodNotAllowed = true ∧
      ∃ t ∈ e.trees, t.method ≠ m ∧ ∃ f, find t.root p e.maxParams = .hit f) ∨
  (s = .notFound ∧ (o.handleMethodNotAllowed = true → ∀ t ∈ e.trees, t.method ≠ m → find t.root p e.maxParams = .miss))

/-- `Engine.ServeHTTP` with the iterative `find`, read off what `Engine.serve` with the recursive one answers, on an
engine whose trees are well formed (every accepted registration list gives one), for every setting of the
options: the values handed to the handler are the recursive model's substrings, unescaped when asked; the recursive
model does not panic. -/
theorem serveIter_serve (e : Engine) (rs : List Spec.Route.Route) (hok : EngineOK e rs) (o : Opts)
    (m : Bytes) (p' : Bytes) :
    match e.serve m (47 :: p') with
    | .handler f => Engine.serveIter e o m (47 :: p') =
        .handler ⟨f.handlers, f.fullPath, f.params.map fun kv => (kv.1, unescapeVal o.unescape kv.2)⟩
    | .noRoute => NoHandlerOutcome e o m (47 :: p') (Engine.serveIter e o m (47 :: p'))
    | .panic _ => False := by
  obtain ⟨-, htrees, -⟩ := hok
  have hall : ∀ t ∈ e.trees, WF t.root .skind ∧ PnOK t.root 0 e.maxParams := fun t ht => ⟨(htrees t ht).1, (htrees t ht).2.2.1⟩
  have hrep : (List.replicate e.maxParams ([] : Bytes)).length = e.maxParams := by simp
  have tailSpec : ∀ arr : List Bytes, arr.length = e.maxParams →
      NoHandlerOutcome e o m (47 :: p')
        (if o.handleMethodNotAllowed then notAllowedLoop e.trees m (47 :: p') arr 0 o.unescape else ServedI.notFound) := by
    intro arr harr
    by_cases hh : o.handleMethodNotAllowed = true
    · simp only [hh, if_true]
      rcases notAllowedLoop_spec o.unescape e.maxParams m (47 :: p') e.trees arr harr hall with ⟨h1, h2⟩ | ⟨h1, h2⟩
      · exact Or.inr (Or.inl ⟨h1, hh, h2⟩)
      · exact Or.inr (Or.inr ⟨h1, fun _ => h2⟩)
    · simp only [hh, Bool.false_eq_true, if_false]
      exact Or.inr (Or.inr ⟨rfl, fun h => absurd h hh⟩)
  simp only [Route.Engine.serve, Engine.serveIter]
  have h47 : ¬ ((47 : UInt8) ≠ 47) := by simp
  simp only [if_neg h47]
  cases hg : treesGet e.trees m with
  | none => exact tailSpec _ hrep
  | some t =>
    obtain ⟨htm, -⟩ := treesGet_some _ _ _ hg
    obtain ⟨hwf, hp⟩ := hall t htm
    dsimp only
    rcases findIter_cases o.unescape t.root e.maxParams hwf hp (47 :: p') _ hrep with
      ⟨f, tt, arr', plen', hf, h⟩ | ⟨hmiss, tt, arr', hl', h⟩
    · rw [hf, h]
    · rw [hmiss, h]
      dsimp only
      by_cases hc : (m ≠ mCONNECT && (47 :: p') ≠ [47] && tt && o.redirectTrailingSlash) = true
      · rw [if_pos hc]
        simp only [Bool.and_eq_true, decide_eq_true_eq] at hc
        obtain ⟨⟨⟨hc1, hc2⟩, _⟩, hc4⟩ := hc
        left
        by_cases hget : m = mGET
        · exact ⟨301, by simp [hget], hc4, hc1, hc2, by simp [hget], Or.inl rfl⟩
        · exact ⟨307, by simp [hget], hc4, hc1, hc2, by simp [hget], Or.inr rfl⟩
      · rw [if_neg hc]
        exact tailSpec arr' hl'

/-- 405 / 404 in terms of the route SET -/
theorem noHandler_routes (e : Engine) (rs : List Route) (hok : EngineOK e rs) (o : Opts) (m p : Bytes) (s : ServedI)
    (h : NoHandlerOutcome e o m p s) :
    (s = .notAllowed → ∃ r ∈ rs, r.method ≠ m ∧ (r.matches r.method p).isSome = true) ∧
    (s = .notFound → o.handleMethodNotAllowed = true → ∀ r ∈ rs, r.method ≠ m → r.matches r.method p = none) := by
  obtain ⟨-, htrees, hcover⟩ := hok
  refine ⟨?_, ?_⟩
  · intro hs
    subst hs
    rcases h with ⟨c, h1, _⟩ | ⟨_, _, t, ht, hne, f, hf⟩ | ⟨h1, _⟩
    · cases h1
    · obtain ⟨hwf, -, hp, hd⟩ := htrees t ht
      rcases find_selected t.root e.maxParams rs t.method p hwf hp hd with ⟨r, ps, hsel, _⟩ | ⟨_, hmiss⟩
      · have hm := (matches_some hsel.2.1).1
        refine ⟨r, hsel.1, by rw [hm]; exact hne, ?_⟩
        rw [hm, hsel.2.1]; rfl
      · rw [hmiss] at hf; cases hf
    · cases h1
  · intro hs hh r hr hne
    subst hs
    rcases h with ⟨c, h1, _⟩ | ⟨h1, _⟩ | ⟨_, hall⟩
    · cases h1
    · cases h1
    · obtain ⟨t, ht, htm⟩ := hcover r hr
      obtain ⟨hwf, -, hp, hd⟩ := htrees t ht
      have hmiss := hall hh t ht (by rw [htm]; exact hne)
      rcases find_selected t.root e.maxParams rs t.method p hwf hp hd with ⟨r', ps, _, hhit⟩ | ⟨hno, _⟩
      · rw [hmiss] at hhit; cases hhit
      · have := hno r hr
        rwa [htm] at this

end Hertz.Route.Iter
