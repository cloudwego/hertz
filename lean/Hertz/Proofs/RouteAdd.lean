import Hertz.Proofs.RouteInsert
import Hertz.Proofs.RouteBridge
/-!
C06: `router.addRoute` (the model `routerAddRoute`/`addRouteLoop`) on a well-formed method tree:
it panics exactly for invalid paths and for keys that are registered already, and otherwise
returns a well-formed tree that denotes the old routes plus the new one.
-/
namespace Hertz.Route
open Hertz.Spec.Route

/-- the tree of one method: still empty, or well formed with a prefix starting with `/` -/
def RootOK (root : Node) (cap : Nat) : Prop :=
  root = Node.empty ∨ (WF root .skind ∧ root.pfx.head? = some 47 ∧ PnOK root 0 cap)

/-- the second alternative of `RootOK`: a non-empty method tree in good state -/
def NE (root : Node) (cap : Nat) : Prop :=
  WF root .skind ∧ root.pfx.head? = some 47 ∧ PnOK root 0 cap

/-- what the loop of `addRoute` will still append to `pre` -/
def keyTail : Option Bytes → Bytes → Bytes
  | none, [] => []
  | some _, [] => []
  | none, c :: r => if c = 58 then 58 :: keyTail (some []) r else if c = 42 then [42] else c :: keyTail none r
  | some nm, c :: r => if c = 47 then 47 :: keyTail none r else keyTail (some (nm ++ [c])) r

theorem keyTail_spec (nm : Option Bytes) (p : Bytes) :
    strip (parseGo nm p) = match nm with | none => keyTail none p | some _ => 58 :: keyTail nm p := by
  fun_induction parseGo nm p <;> simp_all [keyTail, strip]

/-- the key is the pattern with bytes left out (the names, and what follows a `*`), so it has no more wildcards -/
theorem keyTail_sublist (nm : Option Bytes) (p : Bytes) : (keyTail nm p).Sublist p := by
  fun_induction keyTail nm p with
  | case1 | case2 => exact .slnil
  | case3 r ih => exact ih.cons_cons 58
  | case4 r => exact (List.nil_sublist r).cons_cons 42
  | case5 c r _ _ ih => exact ih.cons_cons c
  | case6 nm r ih => exact ih.cons_cons 47
  | case7 nm c r _ ih => exact ih.cons c

theorem wild_keyTail (nm : Option Bytes) (p : Bytes) : wild (keyTail nm p) ≤ wild p :=
  Nat.add_le_add ((keyTail_sublist nm p).count_le 58) ((keyTail_sublist nm p).count_le 42)

/-- what an `insert` of the key `K` with handlers `h` does to a method tree, and (`loop_spec`) what the whole loop of
`addRoute` does for the key of its pattern: a conflict exactly when handlers are to be stored at a registered key, else a
non-empty tree in good state that holds one route more and has `K` among its boundaries -/
def AddOut (root : Node) (cap : Nat) (K : Bytes) (h : Option Nat) (pp : Bytes) (pn : List Bytes)
    (res : Except Fault Node) : Prop :=
  (Conf (routes root) K h ∧ res = .error .conflict) ∨
  (¬ Conf (routes root) K h ∧ ∃ root', res = .ok root' ∧ NE root' cap ∧
    (∀ kv, kv ∈ routes root' ↔ (kv ∈ routes root ∨ newRoute K h pp pn kv)) ∧ K ∈ bounds root')

theorem AddOut_congr {root r : Node} {cap K h pp pn res} (hrt : ∀ kv, kv ∈ routes r ↔ kv ∈ routes root)
    (ho : AddOut r cap K h pp pn res) : AddOut root cap K h pp pn res := by
  unfold AddOut at ho ⊢
  simpa only [Conf, keys, List.mem_map, hrt] using ho

theorem routes_empty : routes Node.empty = [] := by
  simp [Node.empty, routes_mk, hsPart, routesL, routesO]

theorem bounds_empty : bounds Node.empty = [[]] := by
  simp [Node.empty, bounds_mk, boundsL, boundsO]

/-- on the still empty root the only boundary is `""`: a key that is ready and starts with `/` is literal text -/
theorem ready_empty {s : Bytes} {t : Kind} (hr : Ready Node.empty s t) (hhd : s.head? = some 47) : t = .skind ∧ Lit s := by
  have hb : ∀ b, b ∈ bounds Node.empty → b = [] := fun b hb => by rw [bounds_empty] at hb; exact List.mem_singleton.1 hb
  cases t with
  | skind =>
    obtain ⟨-, b, lit, he, hl, hb'⟩ := hr
    have : b = [] := hb'.elim id fun h => hb b h.1
    subst this; exact ⟨rfl, he ▸ hl⟩
  | pkind => obtain ⟨b, hb', -, he⟩ := hr; rw [he, hb b hb'] at hhd; cases hhd
  | akind => obtain ⟨b, hb', -, he⟩ := hr; rw [he, hb b hb'] at hhd; cases hhd

/-- one `insert` of `addRoute` on the tree of a method, which is still empty the first time -/
theorem insert_root (n : Node) (s : Bytes) (h : Option Nat) (t : Kind) (pp : Bytes) (pn : List Bytes) (cap : Nat)
    (hroot : RootOK n cap) (hr : Ready n s t) (hhd : s.head? = some 47) (hak : t = .akind → h.isSome = true)
    (hlen : h.isSome = true → pn.length = wild s) (hcap : wild s ≤ cap) :
    AddOut n cap s h pp pn (Route.insert n s h t pp pn) := by
  rcases hroot with rfl | ⟨hwf, hhead, hp⟩
  · obtain ⟨rfl, hl⟩ := ready_empty hr hhd
    obtain ⟨n', hins, hwf, hrt, hb⟩ := insert_empty s h pp pn (fun h0 => by rw [h0] at hhd; cases hhd) hl
    refine Or.inr ⟨by simp [Conf, routes_empty, keys], n', hins, ⟨hwf, ?_, ?_⟩, fun kv => by rw [hrt kv, routes_empty]; simp [newRoute], hb⟩
    · rw [← head_of_bound n' _ hwf s [] hb, List.append_nil]; exact hhd
    · cases s with
      | nil => cases hhd
      | cons c0 r =>
        rw [insert_empty_eq] at hins
        cases hins
        cases h with
        | none => rw [PnOK_mk]; exact ⟨Nat.zero_le _, fun _ => rfl, trivial, trivial, trivial⟩
        | some x => rw [PnOK_mk]; exact ⟨Nat.zero_le _, fun _ => (hlen rfl).trans (wild_lit _ hl), trivial, trivial, trivial⟩
  have hhd' : t = .skind → s.head? = n.pfx.head? := fun _ => by rw [hhd, hhead]
  rcases insert_spec n s h t pp pn hwf hr hhd' hak with hc | ⟨hk, n', hres, hwf', hlab, ⟨hrt, -, hs⟩, hpn⟩
  · exact Or.inl hc
  · exact Or.inr ⟨hk, n', hres, ⟨hwf', by rw [WF_pfx _ _ hwf', hlab, ← WF_pfx _ _ hwf, hhead],
      hpn 0 cap hp (fun hh => by rw [hlen hh, Nat.zero_add]) (by rw [Nat.zero_add]; exact hcap)⟩, hrt, hs⟩

/-- an insert without handlers only makes `s` a node boundary -/
theorem none_insert (n : Node) (s : Bytes) (t : Kind) (pp : Bytes) (pn : List Bytes) (cap : Nat)
    (hroot : RootOK n cap) (hr : Ready n s t) (hhd : s.head? = some 47) (ht : t ≠ .akind)
    (hcap : wild s ≤ cap) :
    ∃ n', Route.insert n s none t pp pn = .ok n' ∧ RootOK n' cap ∧ (∀ kv, kv ∈ routes n' ↔ kv ∈ routes n) ∧
      s ∈ bounds n' := by
  rcases insert_root n s none t pp pn cap hroot hr hhd (fun h => absurd h ht) nofun hcap with ⟨h0, -⟩ | ⟨-, n', hres, hne, hrt, hs⟩
  · cases h0.1
  · exact ⟨n', hres, Or.inr hne, fun kv => by rw [hrt kv]; simp [newRoute], hs⟩

/-- the invariant of the loop of `addRoute` between two iterations: `pre` is ready for the `insert` the loop makes next -/
def Inv (root : Node) (pre : Bytes) : Option Bytes → Prop
  | none => Ready root pre .skind ∧ (42 : UInt8) ∉ pre
  | some _ => Ready root pre .pkind

theorem head_append {pre : Bytes} {a : UInt8} (x : Bytes) (h : pre.head? = some a) : (pre ++ x).head? = some a := by
  rw [List.head?_append, h, Option.some_or]

theorem not_any_snoc {pre : Bytes} {c : UInt8} (h : (42 : UInt8) ∉ pre) (hc : c ≠ 42) : (42 : UInt8) ∉ pre ++ [c] :=
  fun hm => (List.mem_append.1 hm).elim h fun hx => hc (List.mem_singleton.1 hx).symm

theorem lit_snoc {pre : Bytes} {c : UInt8} (hl : Lit pre) (h1 : c ≠ 58) (h2 : c ≠ 42) : Lit (pre ++ [c]) :=
  Lit_append.2 ⟨hl, fun _ hx => List.mem_singleton.1 hx ▸ ⟨h1, h2⟩⟩

/-- The key `K`, the names `N` and the capacity are constants of the loop: an iteration moves one byte of what is still
to come (`keyTail`, `names`) into `pre`, so nothing is counted on the way; that `N` has one name per wildcard of `K` is
`wild_strip`, a fact about patterns. -/
theorem loop_spec (h : Nat) (ppath : Bytes) (cap : Nat) (K : Bytes) (N : List Bytes) (hlen : N.length = wild K)
    (hcap : wild K ≤ cap) :
    ∀ (rest : Bytes) (root : Node) (pre : Bytes) (pnames : List Bytes) (nm : Option Bytes),
      RootOK root cap → pre.head? = some 47 → Inv root pre nm →
      K = pre ++ keyTail nm rest → N = pnames ++ names (parseGo nm rest) →
      AddOut root cap K (some h) ppath N (addRouteLoop rest root pre pnames nm h ppath) := by
  intro rest
  induction rest with
  | nil =>
    intro root pre pnames nm hne hhd hinv hK hN
    cases nm with
    | none =>
      simp only [keyTail, parseGo, names, List.append_nil] at hK hN
      subst hK hN
      exact insert_root root _ (some h) .skind ppath _ cap hne hinv.1 hhd nofun (fun _ => hlen) hcap
    | some name =>
      simp only [keyTail, parseGo, names, List.append_nil] at hK hN
      subst hK hN
      exact insert_root root _ (some h) .pkind ppath _ cap hne hinv hhd nofun (fun _ => hlen) hcap
  | cons c rest ih =>
    intro root pre pnames nm hne hhd hinv hK hN
    have hwp : wild pre ≤ cap := Nat.le_trans (by rw [hK, wild_append]; exact Nat.le_add_right _ _) hcap
    cases nm with
    | none =>
      obtain ⟨hr, h42⟩ := hinv
      -- a wildcard marker comes next: `pre` is made a node boundary first
      have hmk := none_insert root pre .skind [] [] cap hne hr hhd (by simp) hwp
      by_cases h1 : c = 58
      · subst h1
        obtain ⟨r, hins, hner, hrt, hpb⟩ := hmk
        simp only [addRouteLoop, paramLabel, hins, if_true]
        exact AddOut_congr hrt (ih r (pre ++ [58]) pnames (some []) hner (head_append _ hhd) ⟨pre, hpb, h42, rfl⟩
          (by simpa [keyTail] using hK) (by simpa [parseGo] using hN))
      · by_cases h2 : c = 42
        · subst h2
          obtain ⟨r, hins, hner, hrt, hpb⟩ := hmk
          have hK' : K = pre ++ [42] := by simpa [keyTail] using hK
          have hN' : N = pnames ++ [rest] := by simpa [parseGo, names] using hN
          subst hK' hN'
          simp only [addRouteLoop, paramLabel, anyLabel, hins, if_true, h1, if_false]
          exact AddOut_congr hrt (insert_root r _ (some h) .akind ppath _ cap hner ⟨pre, hpb, h42, rfl⟩
            (head_append _ hhd) (fun _ => rfl) (fun _ => hlen) hcap)
        · obtain ⟨-, b, lit, he, hl, hb⟩ := hr
          simp only [addRouteLoop, paramLabel, anyLabel, h1, h2, if_false]
          exact ih root (pre ++ [c]) pnames none hne (head_append _ hhd)
            ⟨⟨by simp, b, lit ++ [c], by rw [he, List.append_assoc], lit_snoc hl h1 h2, hb⟩, not_any_snoc h42 h2⟩
            (by simpa [keyTail, h1, h2] using hK) (by simpa [parseGo, names, h1, h2] using hN)
    | some name =>
      by_cases h1 : c = 47
      · subst h1
        obtain ⟨r, hins, hner, hrt, hpb⟩ := none_insert root pre .pkind [] (pnames ++ [name]) cap hne hinv hhd (by simp) hwp
        obtain ⟨b, -, h42, he⟩ := hinv
        have h42p : (42 : UInt8) ∉ pre := he ▸ not_any_snoc h42 (by decide)
        simp only [addRouteLoop, slash, hins, if_true]
        exact AddOut_congr hrt (ih r (pre ++ [47]) (pnames ++ [name]) none hner (head_append _ hhd)
          ⟨⟨by simp, pre, [47], rfl, lit_slash, Or.inr ⟨hpb, h42p⟩⟩, not_any_snoc h42p (by decide)⟩
          (by simpa [keyTail] using hK) (by simpa [parseGo, names] using hN))
      · simp only [addRouteLoop, slash, h1, if_false]
        exact ih root pre pnames (some (name ++ [c])) hne hhd hinv (by simpa [keyTail, h1] using hK)
          (by simpa [parseGo, h1] using hN)

theorem checkPathValid_head (path : Bytes) (h : checkPathValid path = true) : ∃ rest, path = 47 :: rest := by
  cases path with
  | nil => simp [checkPathValid] at h
  | cons c r =>
    simp only [checkPathValid, Bool.and_eq_true, beq_iff_eq] at h
    exact ⟨r, by rw [h.1]; rfl⟩

theorem routerAddRoute_spec (root : Node) (path : Bytes) (h : Nat) (cap : Nat)
    (hroot : RootOK root cap) (hcap : path.count 58 + path.count 42 ≤ cap) :
    let K := strip (Spec.Route.parsePattern path)
    let V := Val.mk h path (names (Spec.Route.parsePattern path))
    (checkPathValid path = false ∧ routerAddRoute root path h = .error .invalid) ∨
    (checkPathValid path = true ∧ K ∈ keys (routes root) ∧ routerAddRoute root path h = .error .conflict) ∨
    (checkPathValid path = true ∧ K ∉ keys (routes root) ∧ ∃ root', routerAddRoute root path h = .ok root' ∧
      WF root' .skind ∧ root'.pfx.head? = some 47 ∧ PnOK root' 0 cap ∧
      ∀ kv, kv ∈ routes root' ↔ (kv ∈ routes root ∨ kv = (K, V))) := by
  intro K V
  cases hv : checkPathValid path with
  | false => exact Or.inl ⟨rfl, by simp [routerAddRoute, hv]⟩
  | true =>
    right
    obtain ⟨rest, rfl⟩ := checkPathValid_head path hv
    have hrun : routerAddRoute root (47 :: rest) h = addRouteLoop rest root [47] [] none h (47 :: rest) := by
      simp [routerAddRoute, hv, addRouteLoop, paramLabel, anyLabel]
    have hK : K = [47] ++ keyTail none rest := by
      show strip (parseGo none (47 :: rest)) = _
      rw [keyTail_spec]; simp [keyTail]
    have hN : names (Spec.Route.parsePattern (47 :: rest)) = [] ++ names (parseGo none rest) := by
      simp [parsePattern, parseGo, names]
    have hcapK : wild K ≤ cap := by
      show wild (strip (parseGo none (47 :: rest))) ≤ cap
      rw [keyTail_spec]; exact Nat.le_trans (wild_keyTail none _) hcap
    rw [hrun]
    rcases loop_spec h _ cap K _ (wild_strip _ (parse_litOK _)).symm hcapK rest root [47] [] none hroot rfl
        ⟨⟨by simp, [], [47], rfl, lit_slash, Or.inl rfl⟩, by simp⟩ hK hN with
      ⟨⟨-, hk⟩, hr⟩ | ⟨hk, root', hr, ⟨hwf', hhead', hpn'⟩, hrt, -⟩
    · exact Or.inl ⟨rfl, hk, hr⟩
    · exact Or.inr ⟨rfl, fun hk' => hk ⟨rfl, hk'⟩, root', hr, hwf', hhead', hpn', fun kv => by rw [hrt kv]; simp [newRoute, V]⟩

end Hertz.Route
