import Hertz.Proofs.ReqOwsBlank
import Hertz.Proofs.Trailers
/-!
Round trip of the request reader (C01), the general statements: a request `WfAny` (field lines in any accepted
spelling, header and trailer section; any trailer section whose last field is allowed), after any number of empty
lines and followed by anything, is read back by `ContinueReadBody` and by one turn of `Server.Serve` as
`expectedSeenT`, leaving exactly what follows (`continueReadBody_any`, `serveLoop_step_any`); a stream of such
requests hands the handler exactly the requests to be served (`serve_any`, the one induction over the stream).  The
statements about `wfOReq`, `wfOReqT`, the canonical spelling and streams with empty lines (`Props/C01.lean`) are instances.
-/
namespace Hertz.H1.RT
open Hertz Hertz.H1 Hertz.Gen.Str Hertz.Spec.Http Hertz.Spec.Trailers

theorem continueReadBody_any (cfg : Cfg) (e : End) {r : OReq} (W : WfAny cfg.disableNorm r)
    (hlim : withinLimits cfg (seenW r) = true) (rest : Bytes) :
    continueReadBody cfg e (expectedHead cfg.disableNorm (seenW r)) (encBodyO r.body ++ rest) =
      .ok (expectedSeenT cfg.disableNorm r).head (expectedSeenT cfg.disableNorm r).body
        (expectedSeenT cfg.disableNorm r).trailers rest := by
  have htr : (expectedHead cfg.disableNorm (seenW r)).trailer = pickT cfg.disableNorm (seenW r).fields [] := rfl
  have hct : (expectedHead cfg.disableNorm (seenW r)).contentType = pick .ct (seenW r).fields [] := rfl
  have hsb : (seenW r).body = r.body.toW hField := rfl
  cases hb : r.body with
  | none =>
    have hb' : (seenW r).body = .none := by rw [hsb, hb]; rfl
    have hcl : (expectedHead cfg.disableNorm (seenW r)).cl = -2 := by simp [expectedHead, hb', framingCl]
    unfold continueReadBody
    simp [hcl, htr, expectedSeenT, expectedSeen, hb, hb', encBodyO, bodyOf]
  | fixed b =>
    have hb' : (seenW r).body = .fixed b := by rw [hsb, hb]; rfl
    have hcl : (expectedHead cfg.disableNorm (seenW r)).cl = (b.length : Int) := by simp [expectedHead, hb', framingCl]
    unfold continueReadBody
    simp only [withinLimits, hb', bodyOf, Bool.and_eq_true, Bool.or_eq_true, beq_iff_eq, decide_eq_true_eq,
      Bool.not_eq_true', Bool.and_eq_false_iff] at hlim
    obtain ⟨hmax, hpre⟩ := hlim
    by_cases hb0 : b = []
    · subst hb0
      simp [hcl, htr, expectedSeenT, expectedSeen, hb, hb', encBodyO, bodyOf]
    · have hpos : (0 : Int) < (b.length : Int) := by
        have : b.length ≠ 0 := fun h0 => hb0 (List.length_eq_zero_iff.mp h0)
        omega
      have hnot : ¬ (cfg.maxBody > 0 ∧ b.length > cfg.maxBody) := by omega
      have hpp : (cfg.preParse && mIMEFormData.isPrefixOf (pick .ct (seenW r).fields [])) = false := by
        rcases hpre with h1 | h1 <;> simp [h1]
      have hbe : b.isEmpty = false := by simpa using hb0
      simp only [hcl, hpos, if_true, Int.toNat_natCast, hnot, if_false, hct, hpp, Bool.false_eq_true, takeN,
        encBodyO, List.length_append, htr, expectedSeenT, expectedSeen, hb, hb', bodyOf, hbe]
      simp
  | chunked cs last trs =>
    -- the chunks, then whatever `ReadTrailer` makes of the section: `specTrailerView`, its last field being allowed
    have hb' := seenW_chunked hb
    obtain ⟨_, _, _, hcs, hl15, hl0⟩ : framingOk _ (.chunked cs last _) := hb' ▸ W.hfr
    have hcl : (expectedHead cfg.disableNorm (seenW r)).cl = -1 := by simp [expectedHead, hb', framingCl]
    simp only [withinLimits, hb', bodyOf, Bool.and_eq_true, Bool.or_eq_true, beq_iff_eq, decide_eq_true_eq] at hlim
    have htw : ∀ f ∈ trs, wfFLine f = true := by simpa only [hb, OBody.trailers] using W.htw
    have htrl := readTrailerReq_any cfg e (pickT cfg.disableNorm (seenW r).fields []) trs rest
      (blockOk_of_wf htw) (tokens_of_wf htw)
    rw [show lastBad cfg.disableNorm trs = false by simpa only [hb, OBody.trailers] using W.hlb] at htrl
    simp only [Bool.false_eq_true, if_false] at htrl
    rw [encBodyO_chunked_append, continueReadBody_chunked cfg e _ hcl cs last hcs hl15 hl0 hlim.1 _ rest _ htrl]
    simp [expectedSeenT, expectedSeen, hb, hb', bodyOf]

/-- ONE turn of the keep-alive loop: any number of empty lines, a request in any accepted spelling with any trailer
section, then anything.  The handler gets exactly this request (preceded by `100 Continue` if it asked for it), 200 is
written, and the loop goes on with exactly the bytes after the request unless it closes. -/
theorem serveLoop_step_any (cfg : Cfg) (e : End) {r : OReq} (W : WfAny cfg.disableNorm r)
    (hlim : withinLimits cfg (seenW r) = true) (k fuel : Nat) (first : Bool) (rest : Bytes) :
    serveLoop cfg e (fuel + 1) first (crlfs k ++ (encReqO r ++ rest)) =
      (if mayContinue (expectedHead cfg.disableNorm (seenW r)) then [Ev.continue100] else []) ++
      [.req (expectedSeenT cfg.disableNorm r), .resp 200 (cfg.disableKeepalive || closes (seenW r))] ++
      (if (cfg.disableKeepalive || closes (seenW r)) = true then [] else serveLoop cfg e fuel false rest) := by
  have hlen : ¬ ((encHeadOfO r ++ (encBodyO r.body ++ rest)).length < 4) := by
    have := encHeadOfO_length r
    simp only [List.length_append]; omega
  have hdrop : List.drop (encHeadOfO r).length (encHeadOfO r ++ (encBodyO r.body ++ rest)) = encBodyO r.body ++ rest :=
    List.drop_left' rfl
  have hcc : (expectedSeenT cfg.disableNorm r).head.connClose = closes (seenW r) :=
    expectedSeen_connClose _ (seenW r)
  obtain ⟨c, X, hcX, h13, h10⟩ := encReqO_head r W.hm rest
  rw [hcX, serveLoop_skip cfg e fuel first k c X h13 h10 (by
    rw [← hcX, encReqO, List.append_assoc]; omega), ← hcX]
  rw [← hcc, encReqO, List.append_assoc,
    serveLoop_of_head cfg e fuel first _ _ _ (by simp only [hlen, decide_false, Bool.and_false]) (parseReqHead_any W _),
    hdrop, continueReadBody_any cfg e W hlim rest]
  exact (List.append_assoc _ _ _).symm

/-! ### the stream -/

theorem serveLoop_any (cfg : Cfg) (e : End) : ∀ (ps : List (Nat × OReq)) (fuel : Nat) (first : Bool), ps.length < fuel →
    (∀ p ∈ ps, WfAny cfg.disableNorm p.2 ∧ withinLimits cfg (seenW p.2) = true) →
    handled (serveLoop cfg e fuel first (encAllB ps)) =
      (servedBy cfg.disableKeepalive (fun r => closes (seenW r)) (ps.map (·.2))).map (expectedSeenT cfg.disableNorm)
  | [], fuel, first, _, _ => handled_serveLoop_nil cfg e fuel first
  | p :: ps, fuel, first, hf, hw => by
    obtain ⟨f, rfl⟩ : ∃ f, fuel = f + 1 := ⟨fuel - 1, by omega⟩
    have ih := serveLoop_any cfg e ps f false (by simp at hf; omega) (fun x hx => hw x (by simp [hx]))
    rw [show encAllB (p :: ps) = crlfs p.1 ++ (encReqO p.2 ++ encAllB ps) from rfl,
      serveLoop_step_any cfg e (hw p (by simp)).1 (hw p (by simp)).2, handled_turn]
    cases hc : (cfg.disableKeepalive || closes (seenW p.2))
    · simp [servedBy, hc, ih]
    · simp [servedBy, hc]

/-- The keep-alive loop on ANY stream of requests it reads back (every request in any accepted spelling, with any trailer
section whose last field is allowed, after any number of empty lines): the handler is handed exactly the requests to
be served, in order. -/
theorem serve_any (cfg : Cfg) (e : End) (ps : List (Nat × OReq))
    (hw : ∀ p ∈ ps, WfAny cfg.disableNorm p.2 ∧ withinLimits cfg (seenW p.2) = true) :
    handled (serve cfg e (encAllB ps)) =
      (servedBy cfg.disableKeepalive (fun r => closes (seenW r)) (ps.map (·.2))).map (expectedSeenT cfg.disableNorm) :=
  serveLoop_any cfg e ps _ true (by have := encAllB_length_ge ps; omega) hw

theorem encAllB_zero : ∀ rs : List OReq, encAllB (rs.map (fun r => (0, r))) = encAllO rs
  | [] => rfl
  | r :: rs => by
    show crlfs 0 ++ (encReqO r ++ encAllB (rs.map (fun r => (0, r)))) = encReqO r ++ encAllO rs
    rw [encAllB_zero rs]; rfl

/-- … without empty lines -/
theorem serve_anyO (cfg : Cfg) (e : End) (rs : List OReq)
    (hw : ∀ r ∈ rs, WfAny cfg.disableNorm r ∧ withinLimits cfg (seenW r) = true) :
    handled (serve cfg e (encAllO rs)) =
      (servedBy cfg.disableKeepalive (fun r => closes (seenW r)) rs).map (expectedSeenT cfg.disableNorm) := by
  have := serve_any cfg e (rs.map (fun r => (0, r))) (by
    intro p hp; obtain ⟨r, hr, rfl⟩ := List.mem_map.mp hp; exact hw r hr)
  rwa [encAllB_zero, List.map_map, show ((fun p : Nat × OReq => p.2) ∘ fun r => (0, r)) = id from rfl, List.map_id] at this

/-- on `wfOReq` requests the general statement speaks of `served … seenW` and `expectedSeen` -/
theorem servedT_eq (dk : Bool) {dn : Bool} (rs : List OReq) (hw : ∀ r ∈ rs, wfOReq dn r = true) :
    (servedBy dk (fun r => closes (seenW r)) rs).map (expectedSeenT dn) = (served dk (rs.map seenW)).map (expectedSeen dn) := by
  rw [served_map, List.map_map]
  exact List.map_congr_left fun r hr => expectedSeenT_eq (hw r (mem_servedBy _ _ rs r hr))

theorem serve_encO (cfg : Cfg) (e : End) (rs : List OReq)
    (hw : ∀ r ∈ rs, wfOReq cfg.disableNorm r = true ∧ withinLimits cfg (seenW r) = true) :
    handled (serve cfg e (encAllO rs)) = (served cfg.disableKeepalive (rs.map seenW)).map (expectedSeen cfg.disableNorm) :=
  (serve_anyO cfg e rs fun r hr => ⟨.of_wfOReq (hw r hr).1, (hw r hr).2⟩).trans (servedT_eq _ rs fun r hr => (hw r hr).1)

/-- method, target and body of what the handler is handed are what the strict decoder assigns, request by request -/
theorem serve_any_own (cfg : Cfg) (e : End) (rs : List OReq)
    (hw : ∀ r ∈ rs, WfAny cfg.disableNorm r ∧ withinLimits cfg (seenW r) = true) :
    (handled (serve cfg e (encAllO rs))).map (fun s => (s.head.method, s.head.uri, s.body)) =
      (servedBy cfg.disableKeepalive (fun r => closes (seenW r)) rs).map
        (fun r => ((toSpec (strictW r)).method, (toSpec (strictW r)).target, (toSpec (strictW r)).body)) := by
  rw [serve_anyO cfg e rs hw, List.map_map]
  apply List.map_congr_left
  intro r _
  obtain ⟨h1, h2, h3⟩ := expectedSeen_own cfg.disableNorm (seenW r)
  have hb : bodyOf (strictW r).body = bodyOf (seenW r).body := bodyOf_toW sField r.body
  simp only [Function.comp, toSpec, hb]
  exact Prod.ext h1 (Prod.ext h2 h3)

end Hertz.H1.RT
