import Hertz.Model.Conn
import Hertz.Spec.Fifo
import Hertz.Gen.Conn
/-!
Lemmas for C13: the model of `standard.Conn` / `networkWriter` (`Hertz/Model/Conn.lean`) against the
byte-queue spec (`Hertz/Spec/Fifo.lean`).  Specifications are `Returns x Q`.  Reader: `fill_cases` (every way `fill` ends),
`fill_spec`, `peek_spec`, `skip_spec`, `release_spec`; `StepOK` is what one step does to the byte queue (`StepOK.of_buf`),
`step_spec`, `run_spec`.  Writers: `wflush_spec`, `wrun_spec`, `nwRun_spec`.  Then `step_rel` / `run_rel` (a relation the four
parts of an operation respect is respected by every run), peek stability at the level of node contents (`Extends`,
`step_stable`) and the tie of constants and branch conditions to `Gen/Conn.lean` (`ModelMatchesGen`).
-/
namespace Hertz.Conn

/-- `x` returns, and what it returns satisfies `Q`.  The specifications of the operations are stated in this form, so that a
proof about a `do` block follows the block (`Returns.bind`) and the model computes the result that is spoken of. -/
def Returns {ε α : Type} (x : Except ε α) (Q : α → Prop) : Prop := ∃ a, x = .ok a ∧ Q a

theorem Returns.bind {ε α β : Type} {x : Except ε α} {f : α → Except ε β} {P : α → Prop} {Q : β → Prop}
    (h : Returns x P) (hf : ∀ a, P a → Returns (f a) Q) : Returns (x >>= f) Q := by
  obtain ⟨a, rfl, ha⟩ := h
  exact hf a ha

theorem Returns.of_ok {ε α : Type} {x : Except ε α} {Q : α → Prop} {a : α} (h : Returns x Q) (ha : x = .ok a) : Q a := by
  obtain ⟨a', h', q⟩ := h
  cases h'.symm.trans ha
  exact q

theorem pow2ceilAux_ge (f p n : Nat) (h : n ≤ p * 2 ^ f) : n ≤ pow2ceilAux f p n := by
  induction f generalizing p with
  | zero => simpa [pow2ceilAux] using h
  | succ f ih =>
    unfold pow2ceilAux
    split
    · assumption
    · apply ih
      rw [Nat.pow_succ] at h
      calc n ≤ p * (2 ^ f * 2) := h
        _ = 2 * p * 2 ^ f := by ac_rfl

theorem capOf_ge (n : Nat) : n ≤ capOf n := by
  unfold capOf
  split
  · exact Nat.le_refl _
  · rename_i h
    apply pow2ceilAux_ge
    have : mallocMax ≤ 2 ^ 64 := by decide
    simp at h
    omega

theorem fillLoop_bytes (w : Wire) (need room : Nat) :
    (fillLoop w need room).1 ++ wireBytes (fillLoop w need room).2.2 = wireBytes w := by
  fun_induction fillLoop w need room <;> simp_all [wireBytes, prependBytes]
  all_goals rw [← List.append_assoc, List.take_append_drop]

theorem fillLoop_no_hang (w : Wire) (need room : Nat) (h : need ≤ room) :
    (fillLoop w need room).2.1 ≠ .hang := by
  fun_induction fillLoop w need room <;> simp_all [prependBytes]
  all_goals omega

theorem fillLoop_ok_len (w : Wire) (need room : Nat) (h : (fillLoop w need room).2.1 = .ok) :
    need ≤ (fillLoop w need room).1.length := by
  fun_induction fillLoop w need room
  case case4 ih =>  -- a non-empty whole event without error: its bytes count, and the loop goes on
    simp only [prependBytes] at h ⊢
    have := ih h
    simp only [List.length_append]; omega
  all_goals simp_all
  all_goals omega

theorem Node.len_eq (nd : Node) : nd.len = nd.unread.length := by simp [Node.len, Node.unread]

theorem peekWalk_spec (l : List Node) (n : Nat) (h : n ≤ (l.flatMap Node.unread).length) :
    peekWalk l n = .ok ((l.flatMap Node.unread).take n) := by
  fun_induction peekWalk l n
  · rfl
  · simp at h
  · rename_i nd rest ack hl
    rw [Node.len_eq] at hl
    simp only [List.flatMap_cons]
    rw [List.take_append_of_le_length hl]; rfl
  · rename_i nd rest ack hl ih
    rw [Node.len_eq] at hl ih ⊢
    simp only [List.flatMap_cons, List.length_append] at h ⊢
    have e1 : nd.unread.length ≤ ack + 1 := by omega
    rw [ih (by omega)]
    simp only [bind, Except.bind, pure, Except.pure]
    rw [List.take_append, List.take_of_length_le e1]

theorem skipWalk_spec (done mid : List Node) (w : Node) (n : Nat)
    (h : n ≤ ((mid ++ [w]).flatMap Node.unread).length) :
    ∃ done' mid' w', skipWalk done mid w n = .ok (done', mid', w') ∧
      (mid' ++ [w']).flatMap Node.unread = ((mid ++ [w]).flatMap Node.unread).drop n := by
  fun_induction skipWalk done mid w n
  · exact ⟨_, _, _, rfl, by simp⟩
  · rename_i done w ack hl
    exact ⟨_, _, _, rfl, by simp [Node.unread, List.drop_drop]⟩
  · rename_i done w ack hl
    rw [Node.len_eq] at hl
    simp at h; omega
  · rename_i done nd mid w ack hl
    rw [Node.len_eq] at hl
    refine ⟨_, _, _, rfl, ?_⟩
    simp only [List.cons_append, List.flatMap_cons]
    rw [List.drop_append_of_le_length hl]
    simp [Node.unread, List.drop_drop]
  · rename_i done nd mid w ack hl ih
    rw [Node.len_eq] at hl ih ⊢
    simp only [List.cons_append, List.flatMap_cons, List.length_append] at h ⊢
    have e1 : nd.unread.length ≤ ack + 1 := by omega
    obtain ⟨d', m', w', h1, h2⟩ := ih (by omega)
    refine ⟨d', m', w', h1, ?_⟩
    rw [h2, List.drop_append, List.drop_of_length_le e1]
    simp

def Node.blk (nd : Node) : Nat × Bytes := (nd.id, nd.data)

theorem skipWalk_blocks {done mid : List Node} {w : Node} {n : Nat} {d' m' : List Node} {w' : Node}
    (h : skipWalk done mid w n = .ok (d', m', w')) :
    (d' ++ m' ++ [w']).map Node.blk = (done ++ mid ++ [w]).map Node.blk ∧
    (w.off ≤ w.data.length → w'.off ≤ w'.data.length) := by
  fun_induction skipWalk done mid w n
  · simp only [pure, Except.pure, Except.ok.injEq, Prod.mk.injEq] at h
    obtain ⟨rfl, rfl, rfl⟩ := h
    simp
  · rename_i done w ack hl
    simp only [pure, Except.pure, Except.ok.injEq, Prod.mk.injEq] at h
    obtain ⟨rfl, rfl, rfl⟩ := h
    simp [Node.blk, Node.len] at hl ⊢
    omega
  · simp [throw, throwThe, MonadExceptOf.throw] at h
  · rename_i done nd mid w ack hl
    simp only [pure, Except.pure, Except.ok.injEq, Prod.mk.injEq] at h
    obtain ⟨rfl, rfl, rfl⟩ := h
    simp [Node.blk]
  · rename_i done nd mid w ack hl ih
    have := ih h
    simpa using this

/-- the reader's bookkeeping is consistent: `len` counts the buffered-but-unconsumed bytes; the offset of the write node
lies inside its data, so that appending to the data appends to what is unread (`Node.unread_append`) -/
def Inv (s : Reader) : Prop := s.len = s.unread.length ∧ s.w.off ≤ s.w.data.length

theorem Inv.unread_nil {s : Reader} (hI : Inv s) (h0 : s.len = 0) : s.unread = [] :=
  List.eq_nil_of_length_eq_zero (by rw [← hI.1, h0])

/-- everything the peer sent that has not been consumed yet: buffered bytes, then the wire -/
def stream (s : Reader) (w : Wire) : Bytes := s.unread ++ wireBytes w

theorem unread_def (s : Reader) : s.unread = s.mid.flatMap Node.unread ++ s.w.unread := by
  simp [Reader.unread, Reader.cur]

theorem Node.unread_append (nd : Node) (bs : Bytes) (h : nd.off ≤ nd.data.length) :
    ({ nd with data := nd.data ++ bs } : Node).unread = nd.unread ++ bs := by
  simp [Node.unread, List.drop_append_of_le_length h]

/-- the state in which `fill(i)` reads the wire when the write node has no room: a new write node behind the old one -/
def grown (s : Reader) (i : Nat) : Reader :=
  { s with mid := s.mid ++ [{ s.w with readOnly := false }],
           w := newNode (if i < s.maxSize then s.maxSize else i) s.nextId, nextId := s.nextId + 1 }

/-- the state `fill` leaves after reading `bs` into the write node of `s1` -/
def stored (s1 : Reader) (bs : Bytes) (e : Option Err) : Reader :=
  { s1 with w := { s1.w with data := s1.w.data ++ bs }, len := s1.len + bs.length, err := e }

/-- the error `fill` returns and the error it stashes, by the way its read loop ended -/
def FillEnd.errs : FillEnd → Option Err × Option Err
  | .stash x => (none, some x)
  | .fail x => (some x, none)
  | _ => (none, none)

theorem grown_spec (s : Reader) (i : Nat) (hI : Inv s) :
    Inv (grown s i) ∧ (grown s i).unread = s.unread ∧ (grown s i).len = s.len := by
  have hu : (grown s i).unread = s.unread := by simp [grown, unread_def, newNode, Node.unread]
  exact ⟨⟨by rw [hu]; exact hI.1, by simp [grown, newNode]⟩, hu, rfl⟩

theorem stored_spec (s1 : Reader) (bs : Bytes) (e : Option Err) (hI : Inv s1) :
    Inv (stored s1 bs e) ∧ (stored s1 bs e).unread = s1.unread ++ bs := by
  have hu : (stored s1 bs e).unread = s1.unread ++ bs := by
    simp only [stored, unread_def, Node.unread_append _ _ hI.2, List.append_assoc]
  refine ⟨⟨?_, by simp only [stored, List.length_append]; have := hI.2; omega⟩, hu⟩
  rw [hu]; simp only [stored, List.length_append]; rw [hI.1]

/-- Every way `fill(i)` ends, from any state: enough is buffered; a stashed error is kept (something is buffered) or
reported; or the wire is read by `fillLoop` into the write node of `s1` - the old one, or a new one behind it.  That node
has room for what is still needed, so the loop does not spin. -/
theorem fill_cases (s : Reader) (w : Wire) (i : Nat) :
    (i ≤ s.len ∧ fill s w i = .ok (none, s, w)) ∨
    (s.len < i ∧ ∃ e0, s.err = some e0 ∧
      ((0 < s.len ∧ fill s w i = .ok (none, s, w)) ∨ (s.len = 0 ∧ fill s w i = .ok (some e0, { s with err := none }, w)))) ∨
    (s.len < i ∧ s.err = none ∧ ∃ s1 bs fe w1, (s1 = s ∨ s1 = grown s i) ∧
      fillLoop w (i - s.len) (s1.w.cap - s1.w.data.length) = (bs, fe, w1) ∧ fe ≠ .hang ∧
      fill s w i = .ok (fe.errs.1, stored s1 bs fe.errs.2, w1)) := by
  unfold fill
  by_cases h1 : s.len ≥ i
  · rw [if_pos h1]; exact Or.inl ⟨h1, rfl⟩
  · rw [if_neg h1]
    refine Or.inr ?_
    cases he : s.err with
    | some e0 =>
      refine Or.inl ⟨Nat.lt_of_not_le h1, e0, rfl, ?_⟩
      simp only
      by_cases h2 : s.len > 0
      · rw [if_pos h2]; exact Or.inl ⟨h2, by rw [← he]; rfl⟩
      · rw [if_neg h2]; exact Or.inr ⟨Nat.eq_zero_of_not_pos h2, rfl⟩
    | none =>
      refine Or.inr ⟨Nat.lt_of_not_le h1, rfl, ?_⟩
      simp only
      by_cases hc : (s.w.cap - s.w.data.length < i - s.len || s.w.readOnly) = true
      · have hroom : i - s.len ≤ (grown s i).w.cap - (grown s i).w.data.length := by
          have := capOf_ge (if i < s.maxSize then s.maxSize else i)
          simp only [grown, newNode, List.length_nil, Nat.sub_zero]
          by_cases hm : i < s.maxSize <;> simp only [hm, if_true, if_false] at this ⊢ <;> omega
        have hne := fillLoop_no_hang w _ _ hroom
        generalize hr : fillLoop w (i - s.len) ((grown s i).w.cap - (grown s i).w.data.length) = r at hne
        obtain ⟨bs, fe, w1⟩ := r
        refine ⟨grown s i, bs, fe, w1, Or.inr rfl, hr, hne, ?_⟩
        rw [if_pos hc]
        simp only [stored, grown, he] at hr ⊢
        rw [hr]
        cases fe
        case hang => exact absurd rfl hne
        all_goals rfl
      · have hroom : i - s.len ≤ s.w.cap - s.w.data.length := by
          simp only [Bool.or_eq_true, decide_eq_true_eq, not_or, Nat.not_lt] at hc; exact hc.1
        have hne := fillLoop_no_hang w _ _ hroom
        generalize hr : fillLoop w (i - s.len) (s.w.cap - s.w.data.length) = r at hne
        obtain ⟨bs, fe, w1⟩ := r
        refine ⟨s, bs, fe, w1, Or.inl rfl, hr, hne, ?_⟩
        rw [if_neg hc, hr]
        simp only [stored, he]
        cases fe
        case hang => exact absurd rfl hne
        all_goals rfl

theorem fill_spec (s : Reader) (w : Wire) (i : Nat) (hI : Inv s) :
    Returns (fill s w i) fun (e, s', w') => Inv s' ∧ stream s' w' = stream s w ∧
      (e = none → s'.len < i → s'.err.isSome) ∧ (e.isSome → 0 < i) ∧
      (∃ bs, s'.unread = s.unread ++ bs) := by
  rcases fill_cases s w i with ⟨h1, hf⟩ | ⟨h1, e0, he, ⟨h0, hf⟩ | ⟨h0, hf⟩⟩ | ⟨h1, he, s1, bs, fe, w1, hs1, hr, hne, hf⟩
  · exact ⟨_, hf, hI, rfl, fun _ h => absurd h (Nat.not_lt.2 h1), by simp, [], by simp⟩
  · exact ⟨_, hf, hI, rfl, fun _ _ => by rw [he]; rfl, by simp, [], by simp⟩
  · exact ⟨_, hf, hI, rfl, by simp, fun _ => by omega, [], by simp [Reader.unread, Reader.cur]⟩
  · -- the loop reads `bs` into the write node of `s1`, and the wire loses exactly `bs`
    obtain ⟨hI1, hun1, hl1⟩ : Inv s1 ∧ s1.unread = s.unread ∧ s1.len = s.len := by
      rcases hs1 with rfl | rfl
      · exact ⟨hI, rfl, rfl⟩
      · exact grown_spec s i hI
    have hb := fillLoop_bytes w (i - s.len) (s1.w.cap - s1.w.data.length)
    have hk := fillLoop_ok_len w (i - s.len) (s1.w.cap - s1.w.data.length)
    rw [hr] at hb hk
    have hs := stored_spec s1 bs fe.errs.2 hI1
    refine ⟨_, hf, hs.1, ?_, ?_, fun _ => by omega, bs, by rw [hs.2, hun1]⟩
    · simp only [stream, hs.2, hun1, List.append_assoc]; exact congrArg _ hb
    · cases fe with
      | ok => intro _ hlt; have := hk rfl; simp only [stored, hl1] at hlt this; omega
      | stash e => intro _ _; rfl
      | fail e => intro h; cases h
      | hang => exact absurd rfl hne

theorem readNode_cur (s : Reader) : ∃ rest, s.cur = s.readNode :: rest := by
  unfold Reader.cur Reader.readNode
  cases s.mid <;> simp

theorem peek_of_fill_err {s : Reader} {w : Wire} {i : Nat} {e : Err} {s1 : Reader} {w1 : Wire}
    (hf : fill s w i = .ok (some e, s1, w1)) : peek s w i = .ok ([], some e, s1, w1) := by
  unfold peek
  simp only [hf, bind, Except.bind, pure, Except.pure]

/-- `Peek` after its `fill`: the result is short exactly when less than `i` is buffered, and then
the stashed error is handed out and cleared; nothing else of the queue state changes -/
theorem peek_of_fill {s : Reader} {w : Wire} {i : Nat} {s1 : Reader} {w1 : Wire}
    (hf : fill s w i = .ok (none, s1, w1)) (hI1 : Inv s1) :
    ∃ p s2, peek s w i = .ok (p, (if s1.len < i then s1.err else none), s2, w1) ∧
      p.length = (if s1.len < i then s1.len else i) ∧ Inv s2 ∧ s2.len = s1.len ∧
      s2.err = (if s1.len < i then none else s1.err) ∧ s2.unread = s1.unread ∧ p = s2.unread.take p.length := by
  unfold peek
  simp only [hf, bind, Except.bind]
  generalize hs2 : (if s1.len < i then ({ s1 with err := none } : Reader) else s1) = s2
  obtain ⟨h2len, h2err, h2un, hI2⟩ :
      s2.len = s1.len ∧ s2.err = (if s1.len < i then none else s1.err) ∧ s2.unread = s1.unread ∧ Inv s2 := by
    subst hs2; split <;> exact ⟨rfl, rfl, rfl, hI1⟩
  generalize hi' : (if s1.len < i then s1.len else i) = i'
  have hi'le : i' ≤ s1.len := by subst hi'; split <;> omega
  by_cases hdirect : s2.readNode.len ≥ i'
  · simp only [hdirect, if_true]
    have hl := hdirect; rw [Node.len_eq] at hl
    obtain ⟨rest, hcur⟩ := readNode_cur s2
    have hlen : (s2.readNode.unread.take i').length = i' := by simp only [List.length_take, Nat.min_eq_left hl]
    refine ⟨_, s2, rfl, hlen, hI2, h2len, h2err, h2un, ?_⟩
    rw [hlen, Reader.unread, hcur, List.flatMap_cons, List.take_append_of_le_length hl]
  · simp only [hdirect, if_false]
    generalize hs3 : (if (decide (block1k < i') && decide (i' ≤ mallocMax)) = true then
        ({ s2 with caches := s2.caches ++ [s2.nextId], nextId := s2.nextId + 1 } : Reader) else s2) = s3
    obtain ⟨h3len, h3err, h3un, hI3⟩ : s3.len = s2.len ∧ s3.err = s2.err ∧ s3.unread = s2.unread ∧ Inv s3 := by
      subst hs3; split <;> exact ⟨rfl, rfl, rfl, hI2⟩
    have hlen3 : i' ≤ (s3.cur.flatMap Node.unread).length := by
      have := hI3.1; rw [Reader.unread] at this; omega
    rw [peekWalk_spec _ _ hlen3]
    have hlen : ((s3.cur.flatMap Node.unread).take i').length = i' := by
      simp only [List.length_take, Nat.min_eq_left hlen3]
    exact ⟨_, s3, rfl, hlen, hI3, by rw [h3len, h2len], by rw [h3err, h2err], by rw [h3un, h2un], by rw [hlen]; rfl⟩

theorem peek_spec (s : Reader) (w : Wire) (i : Nat) (hI : Inv s) :
    Returns (peek s w i) fun (p, e, s', w') => Inv s' ∧ stream s' w' = stream s w ∧
      p = s'.unread.take p.length ∧ p.length ≤ s'.len ∧ (e = none → p.length = i) ∧ (e.isSome → p.length < i) ∧
      (∃ bs, s'.unread = s.unread ++ bs) := by
  obtain ⟨⟨e, s1, w1⟩, hf, hI1, hst1, herr1, hpos1, hbs1⟩ := fill_spec s w i hI
  cases e with
  | some e =>
    exact ⟨_, peek_of_fill_err hf, hI1, hst1, rfl, Nat.zero_le _, (fun h => by cases h),
      fun _ => hpos1 rfl, hbs1⟩
  | none =>
    obtain ⟨p, s2, hp, hpl, hI2, hl2, _, hun, hpre⟩ := peek_of_fill hf hI1
    refine ⟨_, hp, hI2, by rw [← hst1, stream, stream, hun], hpre, ?_, ?_, ?_, by rw [hun]; exact hbs1⟩
    · rw [hpl, hl2]; split <;> omega
    · by_cases hlt : s1.len < i
      · have := herr1 rfl hlt
        rw [if_pos hlt]; intro h; rw [h] at this; cases this
      · intro _; rw [hpl, if_neg hlt]
    · by_cases hlt : s1.len < i
      · intro _; rw [hpl, if_pos hlt]; exact hlt
      · rw [if_neg hlt]; intro h; cases h

theorem skip_spec (s : Reader) (n : Nat) (hI : Inv s) :
    Returns (skip s n) fun (e, s') => Inv s' ∧
      (n ≤ s.len → e = none ∧ s'.unread = s.unread.drop n ∧ s'.len = s.len - n) ∧
      (s.len < n → e = some errSkip ∧ s' = s) := by
  unfold skip
  by_cases h : s.len < n
  · rw [if_pos h]
    exact ⟨_, rfl, hI, fun hle => absurd h (by omega), fun _ => ⟨rfl, rfl⟩⟩
  · rw [if_neg h]
    have hn : n ≤ ((s.mid ++ [s.w]).flatMap Node.unread).length := by
      have := hI.1; simp only [Reader.unread, Reader.cur] at this; omega
    obtain ⟨d', m', w', h1, h2⟩ := skipWalk_spec s.done s.mid s.w n hn
    have hb := skipWalk_blocks h1
    rw [h1]
    refine ⟨_, rfl, ⟨?_, hb.2 hI.2⟩, fun _ => ⟨rfl, ?_, rfl⟩, fun hlt => absurd hlt h⟩
    · simp only [Reader.unread, Reader.cur, h2, List.length_drop]
      have := hI.1; simp only [Reader.unread, Reader.cur] at this; omega
    · simp only [Reader.unread, Reader.cur, h2]

theorem release_spec (s : Reader) (hI : Inv s) :
    Inv (release s) ∧ (release s).unread = s.unread ∧ (release s).len = s.len := by
  have hgen : Inv (releaseGeneral s) ∧ (releaseGeneral s).unread = s.unread ∧ (releaseGeneral s).len = s.len := by
    refine ⟨⟨?_, hI.2⟩, ?_, rfl⟩
    · have := hI.1; simpa [releaseGeneral, unread_def, Node.unread] using this
    · simp [releaseGeneral, unread_def, Node.unread]
  unfold release
  by_cases h0 : s.len = 0
  · rw [if_pos h0]
    -- nothing is buffered, and each of the short paths leaves a chain with nothing unread
    have hu := hI.unread_nil h0
    have hempty : ∀ s' : Reader, s'.len = s.len → s'.unread = [] → s'.w.off ≤ s'.w.data.length →
        Inv s' ∧ s'.unread = s.unread ∧ s'.len = s.len :=
      fun s' hl hun hoff => ⟨⟨by rw [hl, h0, hun]; rfl, hoff⟩, by rw [hun, hu], hl⟩
    have htwo : ∀ h, Inv (releaseTwo s h) ∧ (releaseTwo s h).unread = s.unread ∧ (releaseTwo s h).len = s.len := by
      intro h
      unfold releaseTwo
      split
      · exact hempty _ rfl (by simp [unread_def, newNode, Node.unread]) (by simp [newNode])
      · exact hempty _ rfl (by simp [unread_def, Node.reset, Node.unread]) (by simp [Node.reset])
    split
    · rename_i hd hm
      exact hempty _ rfl (by simp [unread_def, hm, Node.reset, Node.unread]) (by simp [Node.reset])
    · exact htwo _
    · exact htwo _
    · exact hgen
  · rw [if_neg h0]; exact hgen

theorem next_spec (s : Reader) (l : Nat) (hI : Inv s) (hl : l ≤ s.len) :
    Returns (next s l) fun (p, e, s') => p = s.unread.take l ∧ e = none ∧ Inv s' ∧ s'.unread = s.unread.drop l ∧
      s'.len = s.len - l := by
  unfold next
  have hn : l ≤ (s.cur.flatMap Node.unread).length := by
    have := hI.1; simp only [Reader.unread] at this; omega
  rw [peekWalk_spec _ _ hn]
  refine (skip_spec s l hI).bind ?_
  rintro ⟨e, s1⟩ ⟨hI1, hok, _⟩
  obtain ⟨rfl, hun, hlen⟩ := hok hl
  have hr := release_spec s1 hI1
  exact ⟨_, rfl, rfl, rfl, hr.1, by rw [hr.2.1, hun], by rw [hr.2.2, hlen]⟩

open Hertz.Spec.Fifo

theorem connRead_bytes (w : Wire) (room : Nat) :
    (connRead w room).1.1 ++ wireBytes (connRead w room).2 = wireBytes w := by
  unfold connRead
  split
  · simp [wireBytes]
  · split <;> simp [wireBytes]
    rw [← List.append_assoc, List.take_append_drop]

theorem connRead_le (w : Wire) (room : Nat) : (connRead w room).1.1.length ≤ room := by
  unfold connRead
  split
  · simp
  · split
    · assumption
    · simp only [List.length_take]; omega

/-- what one step does, in terms of the byte queue `stream` -/
structure StepOK (s : Reader) (w : Wire) (op : Op) (o : Out) (s' : Reader) (w' : Wire) : Prop where
  inv : Inv s'
  len : o.len = s'.unread.length
  pre : o.bytes = (stream s w).take o.bytes.length
  cons : consumed op (Obs.ofOut id o) ≤ (stream s w).length
  rest : stream s' w' = (stream s w).drop (consumed op (Obs.ofOut id o))
  shape : shapeOK op (Obs.ofOut id o) = true

/-- A step that works on the buffer: the operation has brought the reader to `s1` without touching the byte stream (a `fill`,
or nothing), hands out a prefix of what `s1` has buffered and leaves `s'`, which has `k` bytes fewer at the front. -/
theorem StepOK.of_buf {s : Reader} {w : Wire} {op : Op} {o : Out} {s' : Reader} {w' : Wire} (s1 : Reader) (k : Nat)
    (hst : stream s1 w' = stream s w) (hI : Inv s') (hlen : o.len = s'.len) (hpre : o.bytes <+: s1.unread)
    (hc : consumed op (Obs.ofOut id o) = k) (hk : k ≤ s1.unread.length) (hun : s'.unread = s1.unread.drop k)
    (hsh : shapeOK op (Obs.ofOut id o) = true) : StepOK s w op o s' w' := by
  refine ⟨hI, hlen.trans hI.1, ?_, ?_, ?_, hsh⟩
  · rw [← hst]; exact List.prefix_iff_eq_take.1 (hpre.trans (List.prefix_append _ _))
  · rw [hc, ← hst, stream, List.length_append]; omega
  · rw [hc, ← hst, stream, stream, hun, List.drop_append_of_le_length hk]

/-- `ReadByte` is `ReadBinary(1)`: its `b[0]` is in range -/
theorem step_readByte_eq (s : Reader) (w : Wire) (hI : Inv s) : step s w .readByte = step s w (.readBinary 1) := by
  obtain ⟨⟨p, e, s1, w1⟩, hp, hI1, _, _, hle, hnone, _, _⟩ := peek_spec s w 1 hI
  cases e with
  | some e => simp only [step, hp, bind, Except.bind]
  | none =>
    have hp1 := hnone rfl
    obtain ⟨⟨e2, s2⟩, hs, _, hok, _⟩ := skip_spec s1 1 hI1
    obtain ⟨rfl, _, _⟩ := hok (by omega)
    match p, hp1 with
    | [b], _ => simp only [step, hp, hs, bind, Except.bind]; rfl

theorem step_readBinary (s : Reader) (w : Wire) (n : Nat) (hI : Inv s) :
    Returns (step s w (.readBinary n)) fun (o, s', w') => StepOK s w (.readBinary n) o s' w' := by
  refine (peek_spec s w n hI).bind ?_
  rintro ⟨p, e, s1, w1⟩ ⟨hI1, hst, hpre, hle, hnone, hsome, _⟩
  cases e with
  | some e =>
    exact ⟨_, rfl, .of_buf s1 0 hst hI1 rfl List.nil_prefix rfl (Nat.zero_le _) rfl (by simp [shapeOK, Obs.ofOut])⟩
  | none =>
    have hp1 := hnone rfl
    refine (skip_spec s1 n hI1).bind ?_
    rintro ⟨e2, s2⟩ ⟨hI2, hok, _⟩
    obtain ⟨rfl, hun, _⟩ := hok (by omega)
    have hb : p ++ List.replicate (n - p.length) 0 = p := by simp [hp1]
    refine ⟨_, rfl, .of_buf s1 n hst hI2 rfl ?_ (by simp [consumed, Obs.ofOut]) (by rw [← hI1.1]; omega) hun ?_⟩
    · show p ++ List.replicate (n - p.length) 0 <+: _
      rw [hb, hpre]; exact List.take_prefix _ _
    · simp only [shapeOK, Obs.ofOut, Option.isNone_none, if_true, hb]; exact decide_eq_true hp1

/-- the copy-out of `Read(k)`, which began in `s0`, `w0` and has reached `s`, `w` (the same, or after one `fill`) with the
stream unchanged: handing out `l ≤ k` buffered bytes completes the operation -/
theorem read_copy_out (s0 : Reader) (w0 : Wire) (s : Reader) (w : Wire) (k l : Nat) (hI : Inv s) (hl : l ≤ s.len) (hlk : l ≤ k)
    (hst : stream s w = stream s0 w0) :
    Returns (next s l) fun (p, e, s') => StepOK s0 w0 (.read k) { bytes := p, err := e, len := s'.len } s' w := by
  obtain ⟨⟨p, e, s'⟩, hn, rfl, rfl, hI', hun, _⟩ := next_spec s l hI hl
  have hlu : l ≤ s.unread.length := by rw [← hI.1]; exact hl
  have hlen : (s.unread.take l).length = l := by simp [hlu]
  refine ⟨_, hn, .of_buf s l hst hI' rfl (List.take_prefix _ _) (by simp only [consumed, Obs.ofOut, hlen]) hlu hun ?_⟩
  simp only [shapeOK, Obs.ofOut, hlen]; exact decide_eq_true hlk

theorem step_read (s : Reader) (w : Wire) (k : Nat) (hI : Inv s) :
    Returns (step s w (.read k)) fun (o, s', w') => StepOK s w (.read k) o s' w' := by
  by_cases h0 : s.len > 0
  · simp only [step, h0, if_true]
    exact (read_copy_out s w s w k _ hI (Nat.min_le_left _ _) (Nat.min_le_right _ _) rfl).bind fun _ hok => ⟨_, rfl, hok⟩
  · by_cases hk : k ≤ block4k
    · simp only [step, h0, hk, if_true, if_false]
      refine (fill_spec s w 1 hI).bind ?_
      rintro ⟨e, s1, w1⟩ ⟨hI1, hst, _⟩
      cases e with
      | some e =>
        exact ⟨_, rfl, .of_buf s1 0 hst hI1 rfl List.nil_prefix rfl (Nat.zero_le _) rfl (by simp [shapeOK, Obs.ofOut])⟩
      | none =>
        exact (read_copy_out s w s1 w1 k _ hI1 (Nat.min_le_left _ _) (Nat.min_le_right _ _) hst).bind fun _ hok => ⟨_, rfl, hok⟩
    · have hu := hI.unread_nil (by omega)
      -- nothing is buffered: the stream is the wire, of which `connRead` hands out a prefix
      have hs : stream s w = (connRead w k).1.1 ++ wireBytes (connRead w k).2 := by
        rw [stream, hu, List.nil_append, connRead_bytes]
      simp only [step, h0, hk, if_false]
      refine ⟨_, rfl, hI, hI.1, ?_, ?_, ?_, ?_⟩
      · show (connRead w k).1.1 = _
        rw [hs]; simp
      · rw [hs]; simp [consumed, Obs.ofOut]
      · rw [hs]; simp [consumed, Obs.ofOut, stream, hu]
      · simp only [shapeOK, Obs.ofOut]; exact decide_eq_true (connRead_le w k)

/-- every operation: no panic, no spin, bookkeeping stays consistent, the queue discipline holds -/
theorem step_spec (s : Reader) (w : Wire) (op : Op) (hI : Inv s) :
    Returns (step s w op) fun (o, s', w') => StepOK s w op o s' w' := by
  cases op with
  | peek n =>
    refine (peek_spec s w n hI).bind ?_
    rintro ⟨p, e, s', w'⟩ ⟨hI', hst, hpre, hle, hnone, hsome, _⟩
    refine ⟨_, rfl, .of_buf s' 0 hst hI' rfl (by rw [hpre]; exact List.take_prefix _ _) rfl (Nat.zero_le _) rfl ?_⟩
    cases e with
    | none => have := hnone rfl; simp [shapeOK, Obs.ofOut, this]
    | some e => have := hsome rfl; simp [shapeOK, Obs.ofOut]; exact decide_eq_true (Nat.le_of_lt this)
  | skip n =>
    refine (skip_spec s n hI).bind ?_
    rintro ⟨e, s'⟩ ⟨hI', hok, hfail⟩
    by_cases h : n ≤ s.len
    · obtain ⟨rfl, hun, _⟩ := hok h
      exact ⟨_, rfl, .of_buf s n rfl hI' rfl (List.nil_prefix) (by simp [consumed, Obs.ofOut]) (by rw [← hI.1]; exact h) hun
        (by simp [shapeOK, Obs.ofOut])⟩
    · obtain ⟨rfl, rfl⟩ := hfail (by omega)
      exact ⟨_, rfl, .of_buf s' 0 rfl hI' rfl List.nil_prefix rfl (Nat.zero_le _) rfl (by simp [shapeOK, Obs.ofOut])⟩
  | readByte =>
    obtain ⟨⟨o, s', w'⟩, h, hok⟩ := step_readBinary s w 1 hI
    -- `consumed` and `shapeOK` have the same clause for `.readByte` as for `.readBinary 1`: each field carries over by unfolding
    exact ⟨_, (step_readByte_eq s w hI).trans h, hok.inv, hok.len, hok.pre, hok.cons, hok.rest, hok.shape⟩
  | readBinary n => exact step_readBinary s w n hI
  | read k => exact step_read s w k hI
  | release =>
    have hr := release_spec s hI
    exact ⟨_, rfl, .of_buf s 0 rfl hr.1 rfl List.nil_prefix rfl (Nat.zero_le _) hr.2.1 (by simp [shapeOK, Obs.ofOut])⟩
  | len => exact ⟨_, rfl, .of_buf s 0 rfl hI rfl List.nil_prefix rfl (Nat.zero_le _) rfl (by simp [shapeOK, Obs.ofOut])⟩

theorem stepBytes_of_StepOK {s : Reader} {w : Wire} {op : Op} {o : Out} {s' : Reader} {w' : Wire}
    (h : StepOK s w op o s' w') :
    stepBytes id (stream s w) op (Obs.ofOut id o) = some (stream s' w') := by
  have h1 : ((stream s w).take (Obs.ofOut id o).n).length = (Obs.ofOut id o).n := by
    show ((stream s w).take o.bytes.length).length = o.bytes.length
    rw [← h.pre]
  have h2 : (Obs.ofOut id o).dg = id ((stream s w).take (Obs.ofOut id o).n) := h.pre
  have h3 : ((stream s w).take (consumed op (Obs.ofOut id o))).length = consumed op (Obs.ofOut id o) := by
    rw [List.length_take]; exact Nat.min_eq_left h.cons
  unfold stepBytes
  simp only [h.shape, h1, h2, h3, decide_true, Bool.and_self, if_true, h.rest]

def totalConsumed : List Op → List Out → Nat
  | op :: ops, o :: os => consumed op (Obs.ofOut id o) + totalConsumed ops os
  | _, _ => 0

theorem run_spec (s : Reader) (w : Wire) (ops : List Op) (hI : Inv s) :
    Returns (run s w ops) fun (outs, s', w') => Inv s' ∧ outs.length = ops.length ∧
      acceptsBytes id (stream s w) (ops.zip (outs.map (Obs.ofOut id))) = true ∧
      stream s' w' = (stream s w).drop (totalConsumed ops outs) ∧
      totalConsumed ops outs ≤ (stream s w).length ∧
      (∀ o ∈ outs.getLast?, o.len = s'.unread.length) := by
  induction ops generalizing s w with
  | nil => exact ⟨_, rfl, hI, rfl, rfl, by simp [totalConsumed], by simp [totalConsumed], by simp⟩
  | cons op ops ih =>
    obtain ⟨⟨o, s1, w1⟩, hs, hok⟩ := step_spec s w op hI
    obtain ⟨⟨os, s2, w2⟩, hr, hI2, hlen, hacc, hrest, hle, hlast⟩ := ih s1 w1 hok.inv
    refine ⟨(o :: os, s2, w2), by simp only [run, hs, hr, bind, Except.bind, pure, Except.pure], hI2, by simp [hlen], ?_, ?_, ?_, ?_⟩
    · simp only [List.map_cons, List.zip_cons_cons, acceptsBytes, stepBytes_of_StepOK hok, hacc]
    · simp only [totalConsumed]; rw [hrest, hok.rest, List.drop_drop]
    · simp only [totalConsumed]
      have := hok.cons
      rw [hok.rest, List.length_drop] at hle; omega
    · intro o' ho'
      cases os with
      | nil =>
        simp at ho'; subst ho'
        cases ops with
        | nil => simp only [run, pure, Except.pure, Except.ok.injEq, Prod.mk.injEq] at hr; rw [← hr.2.1]; exact hok.len
        | cons _ _ => simp at hlen
      | cons o2 os2 => exact hlast o' (by simpa using ho')

theorem Inv_new (size : Nat) : Inv (Reader.new size) := by
  simp [Inv, Reader.new, Reader.unread, Reader.cur, newNode, Node.unread]

theorem stream_new (size : Nat) (w : Wire) : stream (Reader.new size) w = wireBytes w := by
  simp [stream, Reader.new, Reader.unread, Reader.cur, newNode, Node.unread]

/-! ## writer -/

/-- `outputBuffer.len` never promises more room than the write node has -/
def WInv (s : Writer) : Prop := s.len ≤ s.w.cap - s.w.data.length ∧ s.w.off ≤ s.w.data.length

theorem pending_def (s : Writer) : s.pending = s.pre.flatMap Node.unread ++ s.w.unread := by
  simp [Writer.pending]

theorem wmalloc_spec (s : Writer) (bs : Bytes) (hI : WInv s) :
    Returns (wmalloc s bs) fun s' => WInv s' ∧ s'.pending = s.pending ++ bs := by
  unfold wmalloc
  by_cases h0 : bs.length = 0
  · have : bs = [] := List.eq_nil_of_length_eq_zero h0
    subst this
    exact ⟨s, by simp [pure, Except.pure], hI, by simp⟩
  · simp only [h0, if_false]
    by_cases h1 : s.len > bs.length
    · simp only [h1, if_true]
      have h2 : ¬ (s.w.data.length + bs.length > s.w.cap) := by have := hI.1; omega
      simp only [h2, if_false]
      refine ⟨_, rfl, ⟨?_, ?_⟩, ?_⟩
      · simp only [List.length_append]; have := hI.1; omega
      · simp only [List.length_append]; have := hI.2; omega
      · simp only [pending_def, Node.unread_append _ _ hI.2, List.append_assoc]
    · simp only [h1, if_false]
      refine ⟨_, rfl, ⟨?_, ?_⟩, ?_⟩
      · exact Nat.le_refl _  -- `len` is set to what the new node has left
      · simp [newNode]
      · simp [pending_def, newNode, Node.unread]

theorem wwriteBinary_spec (s : Writer) (bs : Bytes) (hI : WInv s) :
    Returns (wwriteBinary s bs) fun (n, s') => n = bs.length ∧ WInv s' ∧ s'.pending = s.pending ++ bs := by
  unfold wwriteBinary
  split
  · exact (wmalloc_spec s bs hI).bind fun s' ⟨hI', hp⟩ => ⟨_, rfl, rfl, hI', hp⟩
  · exact ⟨_, rfl, rfl, ⟨by simp, by simp⟩, by simp [pending_def, Node.unread]⟩

/-- The loop of `Flush` on the chain of `s`; it returns `r = (failed?, sent, pre', w', len', script)`.  `wflush` builds its result
from `r` as `s'` is built here. -/
theorem flushLoop_spec (s : Writer) (sc : WScript) (hI : WInv s) :
    ∀ r, flushLoop s.pre s.w s.len sc = r →
      let s' : Writer := { s with pre := r.2.2.1, w := r.2.2.2.1, len := r.2.2.2.2.1 }
      r.2.1 ++ s'.pending = s.pending ∧ (r.1 = false → s'.pending = []) ∧ WInv s' := by
  obtain ⟨pre, w, len, nx⟩ := s
  simp only [WInv, Writer.pending] at hI ⊢
  fun_induction flushLoop pre w len sc <;> rintro _ rfl
  · simp_all
  · rename_i w len sc f sc' hsc hf w1 hrec
    simp [Node.reset, Node.unread]
  · rename_i w len sc f sc' hsc hf w1 hrec
    refine ⟨?_, ?_, ?_⟩
    · simp [w1, Node.unread]; omega
    · intro _; simp [w1, Node.unread]; omega
    · simp [w1, Node.unread]; omega
  · simp_all
  · rename_i h pre w len sc f sc' hsc hf ih
    have := ih hI _ rfl
    simp only [prependSent, List.cons_append, List.flatMap_cons, List.append_assoc]
    exact ⟨by rw [this.1], this.2.1, this.2.2⟩

/-- `Flush`: what went to the peer plus what is still pending is what was pending; a successful
flush leaves nothing pending -/
theorem wflush_spec (s : Writer) (sc : WScript) (hI : WInv s) :
    (wflush s sc).2.1 ++ (wflush s sc).2.2.1.pending = s.pending ∧
    ((wflush s sc).1 = false → (wflush s sc).2.2.1.pending = []) ∧
    WInv (wflush s sc).2.2.1 := by
  -- the loop runs on the chain without an empty head node, which has as much pending
  have key : ∀ pre', pre'.flatMap Node.unread = s.pre.flatMap Node.unread →
      let r := flushLoop pre' s.w s.len sc
      let s' : Writer := { s with pre := r.2.2.1, w := r.2.2.2.1, len := r.2.2.2.2.1 }
      r.2.1 ++ s'.pending = s.pending ∧ (r.1 = false → s'.pending = []) ∧ WInv s' := by
    intro pre' hpre
    have h := flushLoop_spec { s with pre := pre' } sc hI _ rfl
    rwa [show ({ s with pre := pre' } : Writer).pending = s.pending by simp only [pending_def, hpre]] at h
  unfold wflush
  split
  · rename_i hp
    split
    · rename_i hl
      have : s.pending = [] := by
        rw [pending_def, hp]; simp only [List.flatMap_nil, List.nil_append]
        rw [Node.len_eq] at hl; exact List.eq_nil_of_length_eq_zero hl
      simp [this, hI]
    · have := key [] (by simp [hp])
      simpa using this
  · rename_i h pre hp
    have hpre : (if h.len = 0 then pre else h :: pre).flatMap Node.unread = s.pre.flatMap Node.unread := by
      rw [hp]
      split
      · rename_i hl
        rw [Node.len_eq] at hl
        simp [List.eq_nil_of_length_eq_zero hl]
      · rfl
    have := key _ hpre
    simpa using this

/-- what the check observes of a writer operation -/
def WOut.toObs : WOp → WOut → WObs Bytes
  | .flush, o => { failed := o.failed, n := o.sent.length, dg := o.sent }
  | _, o => { failed := false, n := o.n, dg := [] }

/-- a `Flush` that handed `sent` to the peer and left `rest` of what was pending - nothing, unless it failed - is accepted -/
theorem wstepSpec_flush (keep f : Bool) (sent rest : Bytes) (hok : f = false → rest = []) :
    wstepSpec id keep (sent ++ rest) .flush { failed := f, n := sent.length, dg := sent } =
      some (if keep then rest else []) := by
  cases f with
  | true => simp [wstepSpec]
  | false => simp [wstepSpec, hok rfl]

theorem wstep_spec (s : Writer) (sc : WScript) (op : WOp) (hI : WInv s) :
    Returns (wstep s sc op) fun (o, s', _) => WInv s' ∧ wstepSpec id true s.pending op (o.toObs op) = some s'.pending := by
  cases op with
  | malloc bs =>
    exact (wmalloc_spec s bs hI).bind fun s' ⟨hI', hp⟩ => ⟨_, rfl, hI', by simp [wstepSpec, WOut.toObs, hp]⟩
  | writeBinary bs =>
    refine (wwriteBinary_spec s bs hI).bind ?_
    rintro ⟨n, s'⟩ ⟨rfl, hI', hp⟩
    exact ⟨_, rfl, hI', by simp [wstepSpec, WOut.toObs, hp]⟩
  | flush =>
    have h := wflush_spec s sc hI
    refine ⟨_, rfl, h.2.2, ?_⟩
    rw [← h.1]
    exact wstepSpec_flush true _ _ _ h.2.1

theorem wrun_spec (s : Writer) (sc : WScript) (ops : List WOp) (hI : WInv s) :
    Returns (wrun s sc ops) fun (outs, s', _) => WInv s' ∧ outs.length = ops.length ∧
      acceptsW id true s.pending (ops.zip (List.zipWith WOut.toObs ops outs)) = true := by
  induction ops generalizing s sc with
  | nil => exact ⟨_, rfl, hI, rfl, rfl⟩
  | cons op ops ih =>
    refine (wstep_spec s sc op hI).bind ?_
    rintro ⟨o, s1, sc1⟩ ⟨hI1, hacc⟩
    refine (ih s1 sc1 hI1).bind ?_
    rintro ⟨os, s2, sc2⟩ ⟨hI2, hlen, hacc2⟩
    refine ⟨_, rfl, hI2, by simp [hlen], ?_⟩
    simp only [List.zipWith_cons_cons, List.zip_cons_cons, acceptsW, hacc, hacc2]

theorem WInv_new : WInv Writer.new := by simp [WInv, Writer.new, newNode]
theorem pending_new : Writer.new.pending = [] := by simp [Writer.pending, Writer.new, newNode, Node.unread]

/-! ## `networkWriter` -/

def NetWriter.pending (s : NetWriter) : Bytes := s.caches.flatMap (·.data)

theorem nwAppendLast_spec {l : List NwNode} {bs : Bytes} {c : List NwNode} (h : nwAppendLast l bs = some c) :
    c.flatMap (·.data) = l.flatMap (·.data) ++ bs := by
  fun_induction nwAppendLast l bs generalizing c
  · simp at h
  · simp at h; subst h; simp
  · simp at h
  · rename_i n m t bs ih
    simp only [Option.map_eq_some_iff] at h
    obtain ⟨c', hc', rfl⟩ := h
    simp [ih hc']

theorem nwMalloc_spec (s : NetWriter) (bs : Bytes) : (nwMalloc s bs).pending = s.pending ++ bs := by
  unfold nwMalloc
  split
  · rename_i c hc; exact nwAppendLast_spec hc
  · simp [NetWriter.pending]

theorem nwWriteBinary_spec (s : NetWriter) (bs : Bytes) : (nwWriteBinary s bs).pending = s.pending ++ bs := by
  unfold nwWriteBinary
  split
  · exact nwMalloc_spec s bs
  · simp [NetWriter.pending]

theorem nwFlushLoop_spec (l : List NwNode) (sc : WScript) :
    ∃ rest, (nwFlushLoop l sc).2.1 ++ rest = l.flatMap (·.data) ∧ ((nwFlushLoop l sc).1 = false → rest = []) := by
  fun_induction nwFlushLoop l sc
  · exact ⟨[], rfl, fun _ => rfl⟩
  · exact ⟨_, List.nil_append _, fun h => by cases h⟩
  · rename_i n t sc f sc' hsc hf ih
    obtain ⟨rest, hr, h2⟩ := ih
    exact ⟨rest, by simp only [prependSent, List.flatMap_cons, List.append_assoc, hr], h2⟩

theorem nwStep_spec (s : NetWriter) (sc : WScript) (op : WOp) :
    wstepSpec id false s.pending op ((nwStep s sc op).1.toObs op) = some (nwStep s sc op).2.1.pending := by
  cases op with
  | malloc bs => simp [nwStep, wstepSpec, WOut.toObs, nwMalloc_spec]
  | writeBinary bs => simp [nwStep, wstepSpec, WOut.toObs, nwWriteBinary_spec]
  | flush =>
    obtain ⟨rest, hr, h2⟩ := nwFlushLoop_spec s.caches sc
    rw [NetWriter.pending, ← hr]
    exact wstepSpec_flush false _ _ rest h2

theorem nwRun_spec (s : NetWriter) (sc : WScript) (ops : List WOp) :
    acceptsW id false s.pending (ops.zip (List.zipWith WOut.toObs ops (nwRun s sc ops).1)) = true := by
  induction ops generalizing s sc with
  | nil => rfl
  | cons op ops ih =>
    simp only [nwRun, List.zipWith_cons_cons, List.zip_cons_cons, acceptsW, nwStep_spec, ih]

/-! ## what every operation respects

An operation is made of `fill`, `peek`, `skip` and `release`: a reflexive, transitive relation between the state before and
the state after that these respect is respected by `step` and by `run`.  From here on (and at the memory level, `ConnMem*`) a
run is given, `h : … = .ok r`, and taken apart with `bind_eq_ok`; the specifications above go forward with `Returns.bind`. -/

theorem bind_eq_ok {ε α β : Type} {x : Except ε α} {f : α → Except ε β} {b : β} (h : x >>= f = .ok b) :
    ∃ a, x = .ok a ∧ f a = .ok b := by
  cases x with
  | error e => cases h
  | ok a => exact ⟨a, rfl, h⟩

/-- operations that do not release: `Peek`, `Skip`, `ReadByte`, `ReadBinary`, `Len` -/
def Op.keeps : Op → Bool
  | .release => false
  | .read _ => false
  | _ => true

theorem step_keeps_rel {R : Reader → Reader → Prop} (refl : ∀ s, R s s) (trans : ∀ {a b c}, R a b → R b c → R a c)
    (hpeek : ∀ {s w i p e s' w'}, peek s w i = .ok (p, e, s', w') → R s s')
    (hskip : ∀ {s n e s'}, skip s n = .ok (e, s') → R s s')
    {s : Reader} {w : Wire} {op : Op} {o : Out} {s' : Reader} {w' : Wire}
    (hk : op.keeps = true) (h : step s w op = .ok (o, s', w')) : R s s' := by
  cases op with
  | release => cases hk
  | read k => cases hk
  | len => cases h; exact refl s
  | peek n =>
    simp only [step] at h
    obtain ⟨⟨p, e, s1, w1⟩, hp, h⟩ := bind_eq_ok h
    cases h; exact hpeek hp
  | skip n =>
    simp only [step] at h
    obtain ⟨⟨e, s1⟩, hp, h⟩ := bind_eq_ok h
    cases h; exact hskip hp
  | readByte =>
    simp only [step] at h
    obtain ⟨⟨p, e, s1, w1⟩, hp, h⟩ := bind_eq_ok h
    cases e with
    | some e => cases h; exact hpeek hp
    | none =>
      obtain ⟨⟨e2, s2⟩, hs, h⟩ := bind_eq_ok h
      have hr := trans (hpeek hp) (hskip hs)
      cases e2 with
      | some e2 => cases h; exact hr
      | none =>
        cases p with
        | nil => cases h
        | cons b t => cases h; exact hr
  | readBinary n =>
    simp only [step] at h
    obtain ⟨⟨p, e, s1, w1⟩, hp, h⟩ := bind_eq_ok h
    cases e with
    | some e => cases h; exact hpeek hp
    | none =>
      obtain ⟨⟨e2, s2⟩, hs, h⟩ := bind_eq_ok h
      cases h; exact trans (hpeek hp) (hskip hs)

theorem next_rel {R : Reader → Reader → Prop} (trans : ∀ {a b c}, R a b → R b c → R a c)
    (hskip : ∀ {s n e s'}, skip s n = .ok (e, s') → R s s') (hrel : ∀ s, R s (release s))
    {s : Reader} {l : Nat} {p : Bytes} {e : Option Err} {s' : Reader} (h : next s l = .ok (p, e, s')) : R s s' := by
  unfold next at h
  obtain ⟨pp, _, h⟩ := bind_eq_ok h
  obtain ⟨⟨e1, s1⟩, hs, h⟩ := bind_eq_ok h
  cases e1 with
  | some e1 => cases h; exact hskip hs
  | none => cases h; exact trans (hskip hs) (hrel s1)

theorem step_rel {R : Reader → Reader → Prop} (refl : ∀ s, R s s) (trans : ∀ {a b c}, R a b → R b c → R a c)
    (hfill : ∀ {s w i e s' w'}, fill s w i = .ok (e, s', w') → R s s')
    (hpeek : ∀ {s w i p e s' w'}, peek s w i = .ok (p, e, s', w') → R s s')
    (hskip : ∀ {s n e s'}, skip s n = .ok (e, s') → R s s') (hrel : ∀ s, R s (release s))
    {s : Reader} {w : Wire} {op : Op} {o : Out} {s' : Reader} {w' : Wire}
    (h : step s w op = .ok (o, s', w')) : R s s' := by
  by_cases hk : op.keeps = true
  · exact step_keeps_rel refl @trans @hpeek @hskip hk h
  · cases op with
    | release => cases h; exact hrel s
    | read k =>
      simp only [step] at h
      split at h
      · obtain ⟨⟨p, e, s1⟩, hn, h⟩ := bind_eq_ok h
        cases h; exact next_rel @trans @hskip hrel hn
      · split at h
        · obtain ⟨⟨e, s1, w1⟩, hf, h⟩ := bind_eq_ok h
          cases e with
          | some e => cases h; exact hfill hf
          | none =>
            obtain ⟨⟨p, e2, s2⟩, hn, h⟩ := bind_eq_ok h
            cases h; exact trans (hfill hf) (next_rel @trans @hskip hrel hn)
        · cases h; exact refl s
    | _ => exact absurd rfl hk

theorem run_rel {R : Reader → Reader → Prop} (refl : ∀ s, R s s) (trans : ∀ {a b c}, R a b → R b c → R a c)
    {P : Op → Prop} (hstep : ∀ {s w op o s' w'}, P op → step s w op = .ok (o, s', w') → R s s')
    {s : Reader} {w : Wire} {ops : List Op} {outs : List Out} {s' : Reader} {w' : Wire}
    (hP : ∀ op ∈ ops, P op) (h : run s w ops = .ok (outs, s', w')) : R s s' := by
  induction ops generalizing s w outs with
  | nil => cases h; exact refl _
  | cons op ops ih =>
    simp only [run] at h
    obtain ⟨⟨o, s1, w1⟩, hs, h⟩ := bind_eq_ok h
    obtain ⟨⟨os, s2, w2⟩, hr, h⟩ := bind_eq_ok h
    cases h
    exact trans (hstep (hP op List.mem_cons_self) hs) (ih (fun op' hop => hP op' (List.mem_cons_of_mem _ hop)) hr)

/-! ## peek stability -/

/-- every block of `a` is still there in `b`, with its contents only extended at the end -/
def Extends (a b : List Node) : Prop := ∀ nd ∈ a, ∃ nd' ∈ b, nd'.id = nd.id ∧ nd.data <+: nd'.data

theorem Extends.refl (a : List Node) : Extends a a := fun nd h => ⟨nd, h, rfl, List.prefix_refl _⟩

theorem Extends.trans {a b c : List Node} (h1 : Extends a b) (h2 : Extends b c) : Extends a c := by
  intro nd h
  obtain ⟨nd1, hm1, hid1, hp1⟩ := h1 nd h
  obtain ⟨nd2, hm2, hid2, hp2⟩ := h2 nd1 hm1
  exact ⟨nd2, hm2, by rw [hid2, hid1], List.IsPrefix.trans hp1 hp2⟩

theorem Extends_of_blk {a b : List Node} (h : b.map Node.blk = a.map Node.blk) : Extends a b := by
  intro nd hnd
  have : nd.blk ∈ b.map Node.blk := by rw [h]; exact List.mem_map_of_mem hnd
  obtain ⟨nd', hm, hb⟩ := List.mem_map.mp this
  simp only [Node.blk, Prod.mk.injEq] at hb
  exact ⟨nd', hm, hb.1, by rw [hb.2]; exact List.prefix_refl _⟩

/-- the state `fill` leaves, whatever it returns -/
theorem fill_state {s : Reader} {w : Wire} {i : Nat} {e : Option Err} {s' : Reader} {w' : Wire}
    (h : fill s w i = .ok (e, s', w')) :
    (∃ e0, s' = { s with err := e0 }) ∨ ∃ s1 bs e1, (s1 = s ∨ s1 = grown s i) ∧ s' = stored s1 bs e1 := by
  rcases fill_cases s w i with ⟨_, hf⟩ | ⟨_, _, _, ⟨_, hf⟩ | ⟨_, hf⟩⟩ | ⟨_, _, s1, bs, fe, _, hs1, _, _, hf⟩
  · cases hf.symm.trans h; exact Or.inl ⟨_, rfl⟩
  · cases hf.symm.trans h; exact Or.inl ⟨_, rfl⟩
  · cases hf.symm.trans h; exact Or.inl ⟨_, rfl⟩
  · cases hf.symm.trans h; exact Or.inr ⟨s1, bs, _, hs1, rfl⟩

theorem fill_blocks {s : Reader} {w : Wire} {i : Nat} {e : Option Err} {s' : Reader} {w' : Wire}
    (h : fill s w i = .ok (e, s', w')) : Extends s.nodes s'.nodes ∧ s'.caches = s.caches := by
  rcases fill_state h with ⟨e0, rfl⟩ | ⟨s1, bs, e1, hs1, rfl⟩
  · exact ⟨Extends.refl _, rfl⟩
  · -- the write node (old or new) is extended at its end
    have h1 : Extends s.nodes s1.nodes ∧ s1.caches = s.caches := by
      rcases hs1 with rfl | rfl
      · exact ⟨Extends.refl _, rfl⟩
      · refine ⟨fun nd hnd => ?_, rfl⟩
        simp only [grown, Reader.nodes, List.mem_append, List.mem_singleton] at hnd ⊢
        rcases hnd with (hnd | hnd) | hnd
        · exact ⟨nd, Or.inl (Or.inl hnd), rfl, List.prefix_refl _⟩
        · exact ⟨nd, Or.inl (Or.inr (Or.inl hnd)), rfl, List.prefix_refl _⟩
        · subst hnd; exact ⟨_, Or.inl (Or.inr (Or.inr rfl)), rfl, List.prefix_refl _⟩
    refine ⟨Extends.trans h1.1 fun nd hnd => ?_, h1.2⟩
    simp only [stored, Reader.nodes, List.mem_append, List.mem_singleton] at hnd ⊢
    rcases hnd with (hnd | hnd) | hnd
    · exact ⟨nd, Or.inl (Or.inl hnd), rfl, List.prefix_refl _⟩
    · exact ⟨nd, Or.inl (Or.inr hnd), rfl, List.prefix_refl _⟩
    · subst hnd; exact ⟨_, Or.inr rfl, rfl, List.prefix_append _ _⟩

/-- the state `peek` leaves: that of its `fill`, up to `err`, possibly with one more cached copy -/
theorem peek_state {s : Reader} {w : Wire} {i : Nat} {p : Bytes} {e : Option Err} {s' : Reader} {w' : Wire}
    (h : peek s w i = .ok (p, e, s', w')) :
    ∃ e1 s1, fill s w i = .ok (e1, s1, w') ∧ ∃ e0, s' = { s1 with err := e0 } ∨
      s' = { s1 with err := e0, caches := s1.caches ++ [s1.nextId], nextId := s1.nextId + 1 } := by
  unfold peek at h
  obtain ⟨⟨e1, s1, w1⟩, hf, h⟩ := bind_eq_ok h
  cases e1 with
  | some e1 => cases h; exact ⟨_, _, hf, _, Or.inl rfl⟩
  | none =>
    simp only at h
    generalize hs2 : (if s1.len < i then ({ s1 with err := none } : Reader) else s1) = s2 at h
    have h2 : ∃ e0, s2 = { s1 with err := e0 } := by
      subst hs2; split
      · exact ⟨none, rfl⟩
      · exact ⟨s1.err, rfl⟩
    generalize (if s1.len < i then s1.len else i) = i' at h
    generalize (if s1.len < i then s1.err else none) = err' at h
    obtain ⟨e0, rfl⟩ := h2
    split at h
    · cases h; exact ⟨_, _, hf, e0, Or.inl rfl⟩
    · obtain ⟨pp, _, h⟩ := bind_eq_ok h
      cases h
      refine ⟨_, _, hf, e0, ?_⟩
      split
      · exact Or.inr rfl
      · exact Or.inl rfl

theorem peek_blocks {s : Reader} {w : Wire} {i : Nat} {p : Bytes} {e : Option Err} {s' : Reader} {w' : Wire}
    (h : peek s w i = .ok (p, e, s', w')) : Extends s.nodes s'.nodes ∧ s.caches <+: s'.caches := by
  obtain ⟨e1, s1, hf, e0, hs⟩ := peek_state h
  have hb := fill_blocks hf
  rcases hs with rfl | rfl
  · exact ⟨hb.1, by rw [← hb.2]; exact List.prefix_refl _⟩
  · exact ⟨hb.1, by rw [← hb.2]; exact List.prefix_append _ _⟩

/-- `Skip` only moves the read position (and counts `len` down): the blocks, in order, with their contents, the cached copies,
the allocation counter and the stashed error stay -/
theorem skip_frame {s : Reader} {n : Nat} {e : Option Err} {s' : Reader} (h : skip s n = .ok (e, s')) :
    s'.nodes.map Node.blk = s.nodes.map Node.blk ∧ s'.caches = s.caches ∧ s'.nextId = s.nextId ∧ s'.err = s.err := by
  unfold skip at h
  split at h
  · cases h; exact ⟨rfl, rfl, rfl, rfl⟩
  · obtain ⟨⟨d', m', w'⟩, hw, h⟩ := bind_eq_ok h
    cases h; exact ⟨(skipWalk_blocks hw).1, rfl, rfl, rfl⟩

/-- no operation other than `Release` / `Read` frees, resets or overwrites a memory block: every
node (and every cached peek copy) is still there afterwards, its bytes only extended at the end -/
theorem step_stable {s : Reader} {w : Wire} {op : Op} {o : Out} {s' : Reader} {w' : Wire}
    (hk : op.keeps = true) (h : step s w op = .ok (o, s', w')) :
    Extends s.nodes s'.nodes ∧ s.caches <+: s'.caches :=
  step_keeps_rel (R := fun s s' => Extends s.nodes s'.nodes ∧ s.caches <+: s'.caches)
    (fun _ => ⟨Extends.refl _, List.prefix_refl _⟩) (fun h1 h2 => ⟨h1.1.trans h2.1, h1.2.trans h2.2⟩)
    peek_blocks (fun h => ⟨Extends_of_blk (skip_frame h).1, (skip_frame h).2.1 ▸ List.prefix_refl _⟩) hk h

/-! ## tie to the source: constants and branch conditions the model was written against -/

/-- The size constants of the model are those of the Go source, and every modelled method still has
exactly the branch conditions (in source order) that the model mirrors.  `Hertz.Gen.Conn` is
regenerated from /repo on every run; an edited comparison or constant breaks this proof. -/
def ModelMatchesGen : Prop :=
    block1k = Gen.Conn.block1k ∧ block4k = Gen.Conn.block4k ∧ block8k = Gen.Conn.block8k ∧
    mallocMax = Gen.Conn.mallocMax ∧ defaultMallocSize = Gen.Conn.defaultMallocSize ∧ size4K = Gen.Conn.size4K ∧
    Gen.Conn.condsRead = ["if l > 0",
      "if len(b) <= block4k",
      "if err != nil"] ∧
    Gen.Conn.condsRelease = ["if c.Len() == 0",
      "if c.inputBuffer.head == c.inputBuffer.write",
      "if c.inputBuffer.head.next == c.inputBuffer.write",
      "if size > mallocMax",
      "if size > c.maxSize",
      "for c.inputBuffer.head != c.inputBuffer.read",
      "if size > mallocMax",
      "if size > c.maxSize"] ∧
    Gen.Conn.condsHandleTail = ["if cap(c.inputBuffer.write.buf) > mallocMax"] ∧
    Gen.Conn.condsPeek = ["if err != nil",
      "if c.Len() < i",
      "if l >= i",
      "if block1k < i && i <= mallocMax"] ∧
    Gen.Conn.condsPeekBuffer = ["for ack > 0",
      "if l >= ack",
      "if l > 0"] ∧
    Gen.Conn.condsNext = ["if err != nil"] ∧
    Gen.Conn.condsFill = ["if c.Len() >= i",
      "if err != nil",
      "if c.Len() > 0",
      "if left < i-c.Len() || node.readOnly",
      "if i < c.maxSize",
      "for i > 0",
      "if n > 0",
      "if err != nil",
      "if err != nil"] ∧
    Gen.Conn.condsSkip = ["if c.Len() < n",
      "for ack > 0",
      "if l >= ack"] ∧
    Gen.Conn.condsReadByte = ["if err != nil",
      "if err != nil"] ∧
    Gen.Conn.condsReadBinary = ["if err != nil"] ∧
    Gen.Conn.condsMalloc = ["if n == 0",
      "if c.outputBuffer.len > n",
      "if n < defaultMallocSize"] ∧
    Gen.Conn.condsWriteBinary = ["if len(b) < block4k",
      "if err != nil"] ∧
    Gen.Conn.condsFlush = ["if c.outputBuffer.head == c.outputBuffer.write && c.outputBuffer.head.Len() == 0",
      "if c.outputBuffer.head.Len() == 0",
      "for",
      "if err != nil",
      "if c.outputBuffer.head == c.outputBuffer.write",
      "if c.outputBuffer.head.recyclable()"] ∧
    Gen.Conn.condsRecyclable = ["return cap(b.buf) <= block8k && !b.readOnly"] ∧
    Gen.Conn.condsNodeLen = ["return b.malloc - b.off"] ∧
    Gen.Conn.condsMallocFn = ["if capacity > mallocMax"] ∧
    Gen.Conn.condsNwMalloc = ["if idx > 0",
      "if !w.caches[idx].readOnly && cap(w.caches[idx].data)-inUse >= length"] ∧
    Gen.Conn.condsNwWriteBinary = ["if length < size4K"] ∧
    Gen.Conn.condsNwFlush = ["range w.caches",
      "if err != nil"]

theorem model_matches_gen : ModelMatchesGen :=
  ⟨rfl, rfl, rfl, rfl, rfl, rfl, rfl, rfl, rfl, rfl, rfl, rfl, rfl, rfl, rfl, rfl, rfl, rfl, rfl, rfl, rfl, rfl, rfl, rfl, rfl⟩

end Hertz.Conn
