import Hertz.Model.UriOps
import Hertz.Proofs.UriRt
import Hertz.Proofs.ArgsProg
/-!
Programs over one `URI` object (`Model/UriOps.lean`).  Every state reachable through `Parse`, the setters, `QueryArgs()`
mutations and `Update` satisfies `StInv` (`URIInv` of the record, `ArgsInvKeyed` of the argument list: `run_inv`), so `Update`
never panics (`run_never_panics`) and the round trip `state_parse_fullURI` of `Proofs/UriRt.lean` applies.
`program_roundtrip`: if the final state of a program is well-formed (`wfState`: scheme syntax, host bytes, no control byte in
the fragment, a raw query string free of `#` and control bytes), `Parse(nil, FullURI())` yields the same scheme, host, path and
fragment, NO user-info, and the query arguments `QueryArgs()` reports - also where flag and list disagree with the query
string (`UState.staleQuery`), because `RequestURI()` chooses by `parsedQueryArgs` - and formatting again gives the same text.
-/
namespace Hertz.Uri
open Hertz Hertz.Gen.Str

theorem normalizePath_nil : normalizePath [] = strSlash := by decide +kernel

theorem inv_empty : URIInv {} :=
  ⟨rfl, rfl, ⟨[], by rw [normalizePath_nil]; rfl⟩⟩

theorem parseTail_inv (base : URI) (uri : Bytes) (hs : base.scheme.map toLower = base.scheme)
    (hh : base.host.map toLower = base.host) : URIInv (parseTail base uri) := by
  rw [parseTail_eq_cutTail]
  exact ⟨hs, hh, _, pathOrSlash_normalize _ _ rfl⟩

theorem map_toLower_nil : ([] : Bytes).map toLower = [] := rfl

theorem parse_inv (host uri : Bytes) : URIInv (parse host uri) := by
  rw [parse_eq]
  split
  · exact inv_empty
  · apply parseTail_inv
    · show (if host.isEmpty || containsSub strColonSlashSlash uri then _ else _ : Bytes × Bytes × Bytes).1.map toLower = _
      split
      · exact map_toLower_idem _
      · exact map_toLower_nil
    · exact map_toLower_idem _

/-- `ArgsInv`, and an entry flagged no-value has a key, so that `appendArg` writes at least one byte for it -/
def ArgsInvKeyed (l : List ArgKV) : Prop := ∀ kv ∈ l, kv.noValue = true → kv.value = [] ∧ kv.key ≠ []

theorem parseArgs_invKeyed (b : Bytes) : ArgsInvKeyed (parseArgs b) := by
  intro kv hkv hnv
  have hv := parseArgs_wf b kv hkv hnv
  refine ⟨hv, ?_⟩
  unfold parseArgs at hkv
  rw [List.mem_filter] at hkv
  have hb := hkv.2
  intro hk
  simp [ArgKV.bothEmpty, hk, hv] at hb

/-- the invariant of reachable states -/
structure StInv (st : UState) : Prop where
  uinv : URIInv st.u
  ainv : ArgsInvKeyed st.args

theorem ArgsInvKeyed.nil : ArgsInvKeyed [] := fun kv hkv => by cases hkv

theorem stinv_empty : StInv {} := ⟨inv_empty, ArgsInvKeyed.nil⟩

theorem stinv_ofParse (host uri : Bytes) : StInv (UState.ofParse host uri) := ⟨parse_inv host uri, ArgsInvKeyed.nil⟩

theorem parseQA_inv (st : UState) (h : StInv st) : StInv st.parseQA := by
  unfold UState.parseQA
  split
  · exact h
  · exact ⟨h.uinv, parseArgs_invKeyed _⟩

theorem lastIndexOf_isSome (u : URI) (h : URIInv u) : ∃ n, lastIndexOf 47 u.pathOrSlash = some n := by
  obtain ⟨p, hp⟩ := h.pathNorm
  have hh := normalizePath_head p
  have hm : (47 : UInt8) ∈ u.pathOrSlash.reverse := by
    rw [hp, List.mem_reverse]
    exact List.mem_of_head? hh
  obtain ⟨n, hn⟩ := indexOf_isSome_of_mem 47 _ hm
  exact ⟨_, by unfold lastIndexOf; rw [hn]; rfl⟩

theorem keepScheme_inv (p : URI) (s : Bytes) (c : Bool) (hp : URIInv p) (hs : s.map toLower = s) :
    URIInv (if c then { p with scheme := s } else p) := by
  cases c with
  | true => exact ⟨hs, hp.hostLower, hp.pathNorm⟩
  | false => exact hp

/-- `Update` never panics on a reachable state, and the state it yields is reachable-shaped again -/
theorem update_inv (st : UState) (b : Bytes) (h : StInv st) : ∃ st', st.update b = some st' ∧ StInv st' := by
  unfold UState.update
  cases b with
  | nil => exact ⟨st, rfl, h⟩
  | cons c0 t =>
    simp only
    split
    · exact ⟨_, rfl, keepScheme_inv _ _ _ (parse_inv _ _) h.uinv.schemeLower, ArgsInvKeyed.nil⟩
    · split
      · exact ⟨_, rfl, stinv_ofParse _ _⟩
      · split
        · exact ⟨_, rfl, ⟨h.uinv.schemeLower, h.uinv.hostLower, h.uinv.pathNorm⟩, h.ainv⟩
        · split
          · exact ⟨_, rfl, ⟨h.uinv.schemeLower, h.uinv.hostLower, h.uinv.pathNorm⟩, h.ainv⟩
          · obtain ⟨n, hn⟩ := lastIndexOf_isSome st.u h.uinv
            rw [hn]
            exact ⟨_, rfl, stinv_ofParse _ _⟩

theorem step_inv (st : UState) (op : UriOp) (h : StInv st) : ∃ st', st.step op = some st' ∧ StInv st' := by
  cases op with
  | parse host uri => exact ⟨_, rfl, stinv_ofParse host uri⟩
  | setScheme b => exact ⟨_, rfl, ⟨map_toLower_idem b, h.uinv.hostLower, h.uinv.pathNorm⟩, h.ainv⟩
  | setHost b => exact ⟨_, rfl, ⟨h.uinv.schemeLower, map_toLower_idem b, h.uinv.pathNorm⟩, h.ainv⟩
  | setPath b => exact ⟨_, rfl, ⟨h.uinv.schemeLower, h.uinv.hostLower, ⟨b, pathOrSlash_normalize _ _ rfl⟩⟩, h.ainv⟩
  -- the invariant reads scheme, host, path and the argument list only
  | setHash b | setQueryString b | setUsername b | setPassword b =>
    exact ⟨_, rfl, ⟨h.uinv.schemeLower, h.uinv.hostLower, h.uinv.pathNorm⟩, h.ainv⟩
  | args op =>
    have hq := parseQA_inv st h
    exact ⟨_, rfl, hq.uinv, argStep_inv parseArgs_invKeyed _ op hq.ainv⟩
  | update b => exact update_inv st b h
  | reset => exact ⟨_, rfl, stinv_empty⟩

theorem steps_inv (ops : List UriOp) : ∀ st, StInv st → ∃ st', ops.foldlM UState.step st = some st' ∧ StInv st' := by
  induction ops with
  | nil => intro st h; exact ⟨st, rfl, h⟩
  | cons o r ih =>
    intro st h
    obtain ⟨st1, e1, h1⟩ := step_inv st o h
    obtain ⟨st2, e2, h2⟩ := ih st1 h1
    exact ⟨st2, by simp only [List.foldlM_cons, e1, Option.bind_eq_bind, Option.bind_some, e2], h2⟩

/-- no program panics (`Update`'s "BUG: path must contain at least one slash" is unreachable) -/
theorem run_never_panics (ops : List UriOp) : ∃ st, runUriOps ops = some st ∧ StInv st :=
  steps_inv ops {} stinv_empty

theorem run_inv (ops : List UriOp) (st : UState) (h : runUriOps ops = some st) : StInv st := by
  obtain ⟨st', e, hi⟩ := run_never_panics ops
  rw [h] at e
  injection e with e
  rw [e]; exact hi

/-- when the raw query string is written (the arguments were not looked at since it was set), it must be free of `#` and
control bytes -/
def rawQueryOK (st : UState) : Bool := st.parsed || (!hasCTL st.u.query && !st.u.query.contains 35)

/-- the states whose text `Parse` reads back: `wfRecord`, and a raw query string that is written is free of `#` and control bytes -/
def wfState (st : UState) : Bool := wfRecord st.u && rawQueryOK st

theorem appendArg_ne_nil (kv : ArgKV) (h : kv.noValue = true → kv.value = [] ∧ kv.key ≠ []) : appendArg kv ≠ [] := by
  unfold appendArg
  cases hnv : kv.noValue with
  | true =>
    simp only [if_true, List.append_nil]
    exact quoteArg_ne_nil _ (h hnv).2
  | false => simp

theorem appendArgs_ne_nil (l : List ArgKV) (hl : l ≠ []) (h : ArgsInvKeyed l) : appendArgs l ≠ [] := by
  match l, hl with
  | [kv], _ => exact appendArg_ne_nil kv (h kv (by simp))
  | kv :: kv2 :: t, _ =>
    unfold appendArgs
    simp

theorem ArgsInvKeyed.inv (l : List ArgKV) (h : ArgsInvKeyed l) : ArgsInv l :=
  fun kv hkv hnv => (h kv hkv hnv).1

/-! `RequestURI()` with the flag (`URI.fullURIp`) in terms of the flag-less `URI.fullURI` of `Proofs/UriRt.lean`: with the flag
set it is the text of the same record WITHOUT its query string, written with the argument list; with the flag clear it is the
text of the record written with no argument list. -/

theorem fullURIp_true (u : URI) (qa : List ArgKV) : u.fullURIp true qa = ({ u with query := [] } : URI).fullURI qa := by
  unfold URI.fullURIp URI.fullURI URI.requestURIp URI.requestURI
  cases qa <;> rfl

theorem fullURIp_false (u : URI) (qa : List ArgKV) : u.fullURIp false qa = u.fullURI [] := rfl

/-- on the domain of the flag-less function the two agree -/
theorem requestURIp_true_cons (u : URI) (kv : ArgKV) (t : List ArgKV) : u.requestURIp true (kv :: t) = u.requestURI (kv :: t) := rfl
theorem requestURIp_false (u : URI) (qa : List ArgKV) : u.requestURIp false qa = u.requestURI [] := rfl

/-- the text `t` reads back as the record `u` with query string `q`: `Parse(nil, t)` has its components and no user-info, and
formats to `t` again -/
structure ReadsBack (u : URI) (q t : Bytes) : Prop where
  scheme : (parse [] t).schemeOrHTTP = u.schemeOrHTTP
  host : (parse [] t).host = u.host
  path : (parse [] t).pathOrSlash = u.pathOrSlash
  hash : (parse [] t).hash = u.hash
  username : (parse [] t).username = []
  password : (parse [] t).password = []
  query : (parse [] t).query = q
  fixed : (parse [] t).fullURI [] = t

/-- what `RequestURI` writes after `?`: no `#`, no control byte, and never nothing -/
theorem queryPart_spec (u : URI) (qa : List ArgKV) (ainv : ArgsInvKeyed qa)
    (hraw : (!qa.isEmpty || (!hasCTL u.query && !u.query.contains 35)) = true) (s : Bytes) (hs : queryPart u qa = some s) :
    (∀ x ∈ s, x ≠ 35) ∧ hasCTL s = false ∧ s ≠ [] := by
  unfold queryPart at hs
  cases qa with
  | cons kv t =>
    cases hs
    exact ⟨fun x hx => (uriSafe_ne (appendArgs_uriSafe _ x hx)).2,
      hasCTL_of_all uriSafe_noctl (appendArgs_uriSafe _), appendArgs_ne_nil _ (List.cons_ne_nil _ _) ainv⟩
  | nil =>
    simp only [List.isEmpty_nil, Bool.not_true, Bool.false_or, Bool.and_eq_true, Bool.not_eq_true'] at hraw
    rw [if_neg (by decide)] at hs
    split at hs
    · rename_i hne
      cases hs
      exact ⟨not_contains hraw.2, hraw.1, fun e => by rw [e] at hne; cases hne⟩
    · cases hs

/-- The round trip of a record with the invariant of reachable records, written with the argument list `qa` (flag-less form:
the list if it is non-empty, else the raw query string, which then must be free of `#` and control bytes). -/
theorem record_roundtrip (u : URI) (qa : List ArgKV) (uinv : URIInv u) (ainv : ArgsInvKeyed qa) (hrec : wfRecord u = true)
    (hraw : (!qa.isEmpty || (!hasCTL u.query && !u.query.contains 35)) = true) :
    ReadsBack u ((queryPart u qa).getD []) (u.fullURI qa) := by
  have hq := queryPart_spec u qa ainv hraw
  have e := state_parse_fullURI u qa uinv hrec (fun s hs => (hq s hs).1) (fun s hs => (hq s hs).2.1)
  have c1 : (parse [] (u.fullURI qa)).schemeOrHTTP = u.schemeOrHTTP := by rw [e]; exact schemeOrHTTP_of_eq rfl
  have c3 : (parse [] (u.fullURI qa)).pathOrSlash = u.pathOrSlash := by rw [e]; exact pathOrSlash_of_eq rfl
  refine ⟨c1, by rw [e], c3, by rw [e], by rw [e], by rw [e], by rw [e], ?_⟩
  -- formatting again: the query string of the re-parsed record is the query part, which is written when it is not empty
  generalize parse [] (u.fullURI qa) = R at e c1 c3 ⊢
  have cq : queryPart R [] = queryPart u qa := by
    rw [e]
    show (if !((queryPart u qa).getD []).isEmpty then some ((queryPart u qa).getD []) else none) = _
    cases ho : queryPart u qa with
    | none => rfl
    | some s =>
      cases s with
      | nil => exact absurd rfl (hq _ ho).2.2
      | cons c t => rfl
  rw [fullURI_eq R, fullURI_eq u, c1, c3, cq, e]

theorem ofParse_u (t : Bytes) : (UState.ofParse [] t).u = parse [] t := rfl
theorem ofParse_fullURI (t : Bytes) : (UState.ofParse [] t).fullURI = (parse [] t).fullURI [] := rfl
theorem ofParse_queryView (t : Bytes) : (UState.ofParse [] t).queryView = parseArgs (parse [] t).query := rfl

/-- The round trip of any state with the invariant of reachable states - the query in EVERY state: the text is written from
the argument list exactly when `QueryArgs()` reports that list (flag set), and from the raw query string exactly when
`QueryArgs()` would parse that string (flag clear).  `q` is the query string of the re-parsed URI. -/
theorem state_roundtrip (st : UState) (inv : StInv st) (hwf : wfState st = true) :
    ∃ q, ReadsBack st.u q st.fullURI ∧ parseArgs q = st.queryView.filter (fun kv => !kv.bothEmpty) := by
  simp only [wfState, Bool.and_eq_true] at hwf
  obtain ⟨hrec, hraw⟩ := hwf
  cases hpd : st.parsed with
  | true =>
    -- the arguments are the query; `queryString` is not written
    have hf : st.fullURI = ({ st.u with query := [] } : URI).fullURI st.args := by
      unfold UState.fullURI; rw [hpd]; exact fullURIp_true _ _
    have hqv : st.queryView = st.args := by unfold UState.queryView UState.parseQA; rw [hpd]; rfl
    have h := record_roundtrip ({ st.u with query := [] } : URI) st.args
      ⟨inv.uinv.schemeLower, inv.uinv.hostLower, inv.uinv.pathNorm⟩ inv.ainv hrec (by simp [hasCTL])
    rw [← hf] at h
    refine ⟨_, ⟨h.scheme, h.host, h.path, h.hash, h.username, h.password, h.query, h.fixed⟩, ?_⟩
    rw [hqv]
    cases ha : st.args with
    | nil => rfl
    | cons kv t =>
      show parseArgs (appendArgs (kv :: t)) = _
      rw [← ha]
      exact parseArgs_appendArgs _ (ArgsInvKeyed.inv _ inv.ainv)
  | false =>
    -- the raw query string is the query; the entries left in `queryArgs` are not written
    have hf : st.fullURI = st.u.fullURI [] := by
      unfold UState.fullURI; rw [hpd]; exact fullURIp_false _ _
    have hqv : st.queryView = parseArgs st.u.query := by unfold UState.queryView UState.parseQA; rw [hpd]; rfl
    have h := record_roundtrip st.u [] inv.uinv ArgsInvKeyed.nil hrec (by simpa [rawQueryOK, hpd] using hraw)
    rw [← hf] at h
    refine ⟨_, h, ?_⟩
    rw [hqv, parseArgs_noBothEmpty]
    show parseArgs ((if !st.u.query.isEmpty then some st.u.query else none).getD []) = _
    cases hq : st.u.query with
    | nil => rfl
    | cons c t => rfl

/-- the same for the final state of any program -/
theorem program_roundtrip (ops : List UriOp) (st : UState) (hrun : runUriOps ops = some st) (hwf : wfState st = true) :
    ∃ q, ReadsBack st.u q st.fullURI ∧ parseArgs q = st.queryView.filter (fun kv => !kv.bothEmpty) :=
  state_roundtrip st (run_inv ops st hrun) hwf

end Hertz.Uri
