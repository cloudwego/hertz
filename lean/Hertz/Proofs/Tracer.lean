import Hertz.Model.Tracer
/-!
C19, the tracer log of every history.  (1) One pass through the loop body, started from the loop-head state, has a closed form (`iterStep_eq`,
a finite check over all configurations × outcomes, by the kernel): with a tracer its actions are a *block* that
depends on the outcome only, and a continuing pass hands the loop-head state on.  (2) A block is `DoStart`, the
detailed stages the pass gets through, `DoFinish`, reset (`blockOf`).  Run against a clean observer (empty
event table, no error, no request data), whatever its clock and counters are, it yields exactly one
`Start … Finish` pair that the specification accepts, and leaves the observer clean (`block_advances`: symbolic
evaluation per last stage and level).  (3) Induction over the history and over the `Serve` calls of a connection
(`Advances`; the same induction gives the case without a tracer, `Untraced`).
The other sections read an accepted log: alternation at every prefix, and how many pairs and handler runs it has.
-/
namespace Hertz.Tracer

/-! ### finite quantification -/

def allOutcomes : List Outcome :=
  [.headerErr .nothingRead, .headerErr .eof, .headerErr .other,
   .bodyErr .nothingRead, .bodyErr .eof, .bodyErr .other,
   .contWriteErr, .contBodyErr,
   .handled .panic, .handled .writeErr, .handled .flushErr, .handled .releaseErr,
   .handled .hijackTimeoutErr, .handled .hijacked, .handled .close, .handled .next]

theorem outcome_mem (oc : Outcome) : oc ∈ allOutcomes := by
  cases oc with
  | headerErr e => cases e <;> decide
  | bodyErr e => cases e <;> decide
  | contWriteErr => decide
  | contBodyErr => decide
  | handled t => cases t <;> decide

theorem mem_bools (b : Bool) : b ∈ [true, false] := by cases b <;> simp

def checkAll (p : Cfg → Bool → Iter → Bool) : Bool :=
  [true, false].all fun en => [true, false].all fun iz => [true, false].all fun first =>
    [true, false].all fun pf => allOutcomes.all fun oc => p ⟨en, iz⟩ first ⟨pf, oc⟩

theorem checkAll_spec {p : Cfg → Bool → Iter → Bool} (h : checkAll p = true)
    (cfg : Cfg) (first : Bool) (it : Iter) : p cfg first it = true := by
  obtain ⟨en, iz⟩ := cfg
  obtain ⟨pf, oc⟩ := it
  simp only [checkAll, List.all_eq_true] at h
  exact h en (mem_bools en) iz (mem_bools iz) first (mem_bools first) pf (mem_bools pf) oc (outcome_mem oc)

/-! ### one pass through the loop body -/

/-- actions of one pass started from the loop-head state, the deferred epilogue included when the pass
returns; `some l` = the loop goes round with locals `l` -/
def iterStep (cfg : Cfg) (first : Bool) (it : Iter) : List Act × Option Loc :=
  match iter cfg first it {} with
  | .error w => ((epilogue cfg w).acts, none)
  | .ok w => (w.acts, some w.loc)

theorem serveLoop_cons (cfg : Cfg) (first : Bool) (it : Iter) (rest : List Iter) :
    serveLoop cfg first (it :: rest) {} =
      (iterStep cfg first it).1 ++
        (match (iterStep cfg first it).2 with
         | some l => serveLoop cfg false rest l
         | none => []) := by
  unfold iterStep
  simp only [serveLoop]
  cases iter cfg first it {} <;> simp

/-- `DoStart`; the detailed stages `mid` the pass gets through, the handler among them; `DoFinish` with
status `e`; the reset -/
def block (mid : List Act) (e : Bool) : List Act :=
  .record .httpStart false :: .start ::
    (mid ++ .record .httpFinish e :: ((if e then [.setError] else []) ++ [.finish, .reset]))

/-! the stages: each is recorded as finished with the `err` of the moment (`b`), also when it is closed by the epilogue -/
def readHeader (b : Bool) : List Act := [.record .readHeaderStart false, .record .readHeaderFinish b]
def readBody (b : Bool) : List Act := [.record .readBodyStart false, .record .readBodyFinish b]
def handler : List Act := [.record .handleStart false, .handle, .record .handleFinish false]
def write (b : Bool) : List Act := [.record .writeStart false, .record .writeFinish b]

/-- the block of a traced pass that got past the idle wait: how far it gets, and with which statuses -/
def blockOf : Outcome → List Act
  | .headerErr r => block (readHeader true) (r != .nothingRead)
  | .bodyErr r => block (readHeader false ++ readBody true) (r != .nothingRead)
  | .contWriteErr | .contBodyErr => block (readHeader false ++ readBody false) true
  | .handled .panic => block (readHeader false ++ readBody false ++ handler) false
  | .handled .writeErr | .handled .flushErr => block (readHeader false ++ readBody false ++ handler ++ write true) true
  | .handled .releaseErr | .handled .hijackTimeoutErr =>
    block (readHeader false ++ readBody false ++ handler ++ write false) true
  | .handled _ => block (readHeader false ++ readBody false ++ handler ++ write false) false

def idles (first : Bool) (it : Iter) : Bool := !first && it.peekFails

def isHandled : Outcome → Bool
  | .handled _ => true
  | _ => false

def goesRound (cfg : Cfg) (first : Bool) (it : Iter) : Bool :=
  !idles first it && it.outcome == .handled .next && !cfg.idleZero

/-- One pass in closed form.  A failing idle wait ends the connection without a tracer call.  With a tracer the
block depends on the outcome only, not on the idle style or the position in the connection; without one it is the
handler at most once and the context reset.  Only a keep-alive pass goes round, and it hands the loop-head state
on: stack empty, `traceStarted = false`, `err = nil`. -/
def passForm (cfg : Cfg) (first : Bool) (it : Iter) : List Act × Option Loc :=
  (if idles first it then [.reset]
   else if cfg.enableTrace then blockOf it.outcome
   else if isHandled it.outcome then [.handle, .reset] else [.reset],
   if goesRound cfg first it then some {} else none)

theorem iterStep_check : checkAll (fun cfg first it => iterStep cfg first it == passForm cfg first it) = true := by
  decide +kernel

theorem iterStep_eq (cfg : Cfg) (first : Bool) (it : Iter) : iterStep cfg first it = passForm cfg first it := by
  simpa using checkAll_spec iterStep_check cfg first it

theorem loop_head (cfg : Cfg) (first : Bool) (it : Iter) (l : Loc)
    (h : (iterStep cfg first it).2 = some l) : l = {} := by
  rw [iterStep_eq, passForm] at h
  cases hg : goesRound cfg first it <;> simp only [hg, Bool.false_eq_true, if_true, if_false] at h <;> cases h
  rfl

/-! ### running the observer -/

theorem Obs.run_append (o : Obs) (a b : List Act) :
    Obs.run o (a ++ b) = ((Obs.run (Obs.run o a).1 b).1, (Obs.run o a).2 ++ (Obs.run (Obs.run o a).1 b).2) := by
  induction a generalizing o with
  | nil => simp [Obs.run]
  | cons x t ih => simp [Obs.run, ih, List.append_assoc]

/-- Running `acts` from an observer that satisfies `I` leaves one that does, and a checker `chk` that numbers from the
observer's counters reads exactly the calls made and goes on from the new counters. -/
def Advances (I : Obs → Prop) (chk : Obs → List Call → Bool) (acts : List Act) : Prop :=
  ∀ o : Obs, I o → I (Obs.run o acts).1 ∧ ∀ tail, chk o ((Obs.run o acts).2 ++ tail) = chk (Obs.run o acts).1 tail

section
variable {I : Obs → Prop} {chk : Obs → List Call → Bool}

theorem advances_nil : Advances I chk [] := fun _ hc => ⟨hc, fun _ => rfl⟩

theorem advances_append {a b : List Act} (ha : Advances I chk a) (hb : Advances I chk b) : Advances I chk (a ++ b) := by
  intro o hc
  obtain ⟨c1, p1⟩ := ha o hc
  obtain ⟨c2, p2⟩ := hb _ c1
  rw [Obs.run_append]
  exact ⟨c2, fun tail => by rw [List.append_assoc, p1, p2]⟩

theorem advances_serveLoop (cfg : Cfg) (hpass : ∀ first it, Advances I chk (iterStep cfg first it).1) :
    ∀ (hist : List Iter) (first : Bool), Advances I chk (serveLoop cfg first hist {})
  | [], _ => by simpa [serveLoop] using advances_nil
  | it :: rest, first => by
    rw [serveLoop_cons]
    refine advances_append (hpass first it) ?_
    cases hl : (iterStep cfg first it).2 with
    | none => exact advances_nil
    | some l =>
      rw [loop_head cfg first it l hl]
      exact advances_serveLoop cfg hpass rest false

theorem advances_connection (cfg : Cfg) (henter : Advances I chk [.enter])
    (hpass : ∀ first it, Advances I chk (iterStep cfg first it).1) :
    ∀ hists : List (List Iter), Advances I chk (connection cfg hists)
  | [] => by simpa [connection] using advances_nil
  | h :: t => by
    have h1 : Advances I chk (serve cfg h) := advances_append (a := [.enter]) henter (advances_serveLoop cfg hpass h true)
    simpa [connection] using advances_append h1 (advances_connection cfg henter hpass t)

end

/-- between two requests: empty event table, no error recorded, no request data -/
def Clean (o : Obs) : Prop := o.eventMap = List.replicate maxEventNum none ∧ o.hasErr = false ∧ o.data = none

/-- what a piece of a traced connection does to a clean observer, against the specification at the observer's level -/
def Traced : List Act → Prop := Advances Clean fun o => pairsFrom o.level (o.starts + 1) (o.handled + 1)

/-! ### the blocks of a traced pass -/

theorem Obs.record_eq (o : Obs) (e : Ev) (b : Bool) : o.record e b =
    { o with clock := o.clock + 1,
             eventMap := if e.level ≤ o.level then o.eventMap.set e.index (some ⟨o.clock, b⟩) else o.eventMap } := by
  unfold Obs.record
  by_cases h : e.level ≤ o.level
  · rw [if_neg (Nat.not_lt.mpr h), if_pos h]
  · rw [if_pos (Nat.not_le.mp h), if_neg h]

theorem Obs.run_setError_if (o : Obs) (e : Bool) (t : List Act) :
    Obs.run o ((if e then [.setError] else []) ++ t) = Obs.run { o with hasErr := o.hasErr || e } t := by
  cases e
  · simp
  · simp [Obs.run, Obs.step]

/-- the event table in causal order: `Ev.all` against `Ev.index` -/
theorem Obs.snap_mk (lv clock : Nat) (a0 a1 a2 a3 a4 a5 a6 a7 a8 a9 a10 : Option Rec) (he : Bool)
    (data : Option Nat) (handled starts : Nat) (cc : Option Nat) :
    Obs.snap ⟨lv, clock, [a0, a1, a2, a3, a4, a5, a6, a7, a8, a9, a10], he, data, handled, starts, cc⟩ =
      [a3, a5, a6, a7, a8, a1, a2, a9, a10, a4] := rfl

/-- a traced pass yields exactly one `Start … Finish` pair that the specification accepts, whatever the
observer's clock and counters are, and leaves the observer clean: the stages are recorded in causal order and
each one that was started is finished.  `hm`: a pass gets through an initial run of the stages, and only the last
of them can be closed with an error status (`b`) -/
theorem block_advances (b e : Bool) {mid : List Act}
    (hm : mid ∈ [readHeader b, readHeader false ++ readBody b, readHeader false ++ readBody false ++ handler,
      readHeader false ++ readBody false ++ handler ++ write b]) : Traced (block mid e) := by
  intro o hc
  obtain ⟨lv, clock, em, he, data, handled, starts, cc⟩ := o
  obtain ⟨h1, h2, h3⟩ := hc
  simp only at h1 h2 h3
  subst h1 h2 h3
  simp only [List.mem_cons, List.mem_nil_iff, or_false] at hm
  -- which events `httpStats.Record` keeps depends on the level: none, the two base events, all
  rcases lv with _ | _ | n <;> rcases hm with rfl | rfl | rfl | rfl
  -- run the block, then read the two event tables the tracer saw, then check them against the specification:
  -- in three steps, because each is slow on the unevaluated input of the next
  all_goals
    simp only [block, readHeader, readBody, handler, write, List.cons_append, List.nil_append, Obs.run,
      Obs.run_setError_if, Obs.step, Obs.record_eq, Ev.level, Ev.index, maxEventNum, List.replicate, List.set, if_true,
      if_false, Nat.reduceLeDiff, Nat.le_refl, Nat.le_add_left]
    simp only [Obs.snap_mk]
    simp [Nat.add_assoc, maxEventNum, List.replicate, pairsFrom, startSnapOK, finishSnapOK, detailAbsent, ordered,
      orderedFrom, present, Clean]

theorem traced_blockOf (oc : Outcome) : Traced (blockOf oc) := by
  cases oc with
  | headerErr r => exact block_advances _ _ (.head _)
  | bodyErr r => exact block_advances _ _ (.tail _ (.head _))
  | contWriteErr => exact block_advances _ _ (.tail _ (.head _))
  | contBodyErr => exact block_advances _ _ (.tail _ (.head _))
  | handled t =>
    cases t with
    | panic => exact block_advances true _ (.tail _ (.tail _ (.head _)))
    | _ => exact block_advances _ _ (.tail _ (.tail _ (.tail _ (.head _))))

/-! ### with a tracer registered -/

theorem traced_reset : Traced [.reset] := by
  intro o hc
  obtain ⟨h1, h2, h3⟩ := hc
  exact ⟨⟨by simp [Obs.run, Obs.step], by simp [Obs.run, Obs.step], by simp [Obs.run, Obs.step]⟩,
    fun tail => by simp [Obs.run, Obs.step]⟩

theorem traced_enter : Traced [.enter] := by
  intro o hc
  obtain ⟨h1, h2, h3⟩ := hc
  exact ⟨⟨by simpa [Obs.run, Obs.step] using h1, by simpa [Obs.run, Obs.step] using h2, by simpa [Obs.run, Obs.step] using h3⟩,
    fun tail => by simp [Obs.run, Obs.step]⟩

theorem traced_pass (cfg : Cfg) (hen : cfg.enableTrace = true) (first : Bool) (it : Iter) :
    Traced (iterStep cfg first it).1 := by
  rw [iterStep_eq, passForm, hen]
  cases idles first it
  · exact traced_blockOf _
  · exact traced_reset

/-- With a tracer registered, the call log of every connection is accepted by the
specification, at every trace level. -/
theorem connection_logOK (cfg : Cfg) (hen : cfg.enableTrace = true) (lv : Level) (hists : List (List Iter)) :
    logOK lv (observe lv (connection cfg hists)) = true := by
  have hc : Clean { level := lv } := ⟨rfl, rfl, rfl⟩
  obtain ⟨_, p⟩ := advances_connection cfg traced_enter (traced_pass cfg hen) hists _ hc
  have := p []
  simp only [List.append_nil] at this
  simpa [logOK, observe, pairsFrom] using this

/-! ### consequences of an accepted log -/

/-- an accepted log read as what it is, a sequence of blocks `Start, Finish` and `Start, handler, Finish` whose
`Finish` sees an accepted event table: what holds of the empty log and survives either block holds of the log -/
theorem pairsFrom_blocks {lv : Level} {P : List Call → Prop} (nil : P [])
    (bare : ∀ {id s c d e f t}, finishSnapOK lv d.isSome e f = true → P t → P (.start id s :: .finish c d e f :: t))
    (run : ∀ {id s c h c' d e f t}, finishSnapOK lv d.isSome e f = true → P t →
      P (.start id s :: .handle c h :: .finish c' d e f :: t))
    (n k : Nat) (l : List Call) (h : pairsFrom lv n k l = true) : P l := by
  fun_induction pairsFrom lv n k l with
  | case1 => exact nil
  | case2 n k id s c d e f t ih =>
    simp only [Bool.and_eq_true, beq_iff_eq] at h
    obtain ⟨⟨⟨⟨⟨_, _⟩, rfl⟩, _⟩, hf⟩, ht⟩ := h
    exact bare hf (ih ht)
  | case3 n k id s c hh c' d e f t ih =>
    simp only [Bool.and_eq_true, beq_iff_eq] at h
    obtain ⟨⟨⟨⟨⟨⟨⟨_, _⟩, _⟩, _⟩, rfl⟩, _⟩, hf⟩, ht⟩ := h
    exact run hf (ih ht)
  | case4 => simp at h

theorem pairsFrom_alternates (lv : Level) : ∀ (n k : Nat) (l : List Call), pairsFrom lv n k l = true →
    alternates l = true :=
  pairsFrom_blocks (by simp [alternates, alternatesFrom])
    (fun _ ih => by simpa [alternates, alternatesFrom] using ih)
    (fun _ ih => by simpa [alternates, alternatesFrom] using ih)

/-- every `Finish` of an accepted log sees an event table in causal order with all stages closed -/
theorem pairsFrom_finish (lv : Level) : ∀ (n k : Nat) (l : List Call), pairsFrom lv n k l = true →
    ∀ (c : Option Nat) (d : Option Nat) (e : Bool) (f : Snap), Call.finish c d e f ∈ l →
    finishSnapOK lv d.isSome e f = true :=
  pairsFrom_blocks (by simp)
    (fun hf ih c d e f hm => by
      simp only [List.mem_cons, reduceCtorEq, false_or, Call.finish.injEq] at hm
      rcases hm with ⟨rfl, rfl, rfl, rfl⟩ | hm
      · exact hf
      · exact ih c d e f hm)
    (fun hf ih c d e f hm => by
      simp only [List.mem_cons, reduceCtorEq, false_or, Call.finish.injEq] at hm
      rcases hm with ⟨rfl, rfl, rfl, rfl⟩ | hm
      · exact hf
      · exact ih c d e f hm)

theorem finishSnapOK_ordered {lv : Level} {h e : Bool} {f : Snap} (hf : finishSnapOK lv h e f = true) :
    ordered f = true := by
  simp only [finishSnapOK, Bool.and_eq_true] at hf
  exact hf.1.1.1.1.2

/-! ### no tracer registered -/

/-- what a piece of an untraced connection does to an observer whose handlers have seen no trace context -/
def Untraced : List Act → Prop := Advances (fun o => o.cc = none) fun o => logOffOK (o.handled + 1)

theorem untraced_reset : Untraced [.reset] := by
  intro o hc
  exact ⟨by simpa [Obs.run, Obs.step] using hc, fun tail => by simp [Obs.run, Obs.step]⟩

theorem untraced_enter : Untraced [.enter] := by
  intro o hc
  exact ⟨by simp [Obs.run, Obs.step], fun tail => by simp [Obs.run, Obs.step]⟩

theorem untraced_handle_reset : Untraced [.handle, .reset] := by
  intro o hc
  exact ⟨by simpa [Obs.run, Obs.step] using hc, fun tail => by simp [Obs.run, Obs.step, logOffOK, hc]⟩

theorem untraced_pass (cfg : Cfg) (hen : cfg.enableTrace = false) (first : Bool) (it : Iter) :
    Untraced (iterStep cfg first it).1 := by
  rw [iterStep_eq, passForm, hen]
  cases idles first it <;> cases isHandled it.outcome
  · exact untraced_reset
  · exact untraced_handle_reset
  · exact untraced_reset
  · exact untraced_reset

/-! ### prefixes of an alternating log -/

def nStarts : List Call → Nat
  | [] => 0
  | .start _ _ :: t => nStarts t + 1
  | _ :: t => nStarts t

def nFinishes : List Call → Nat
  | [] => 0
  | .finish .. :: t => nFinishes t + 1
  | _ :: t => nFinishes t

/-- at every moment of an alternating log the number of `Finish` calls is the number of `Start` calls
or one less: never a `Finish` without an unmatched `Start`, never two `Start`s open -/
theorem alternatesFrom_prefix : ∀ (p q : List Call) (o : Bool), alternatesFrom o (p ++ q) = true →
    nFinishes p ≤ nStarts p + o.toNat ∧ nStarts p + o.toNat ≤ nFinishes p + 1
  | [], _, o, _ => by cases o <;> simp [nStarts, nFinishes]
  | .handle _ _ :: t, q, o, h => by
    have := alternatesFrom_prefix t q o (by simpa [alternatesFrom] using h)
    simpa [nStarts, nFinishes] using this
  | .start _ _ :: t, q, o, h => by
    simp only [List.cons_append, alternatesFrom, Bool.and_eq_true, Bool.not_eq_true'] at h
    have := alternatesFrom_prefix t q true h.2
    simp only [nStarts, nFinishes, h.1, Bool.toNat_false, Bool.toNat_true] at this ⊢
    omega
  | .finish .. :: t, q, o, h => by
    simp only [List.cons_append, alternatesFrom, Bool.and_eq_true] at h
    have := alternatesFrom_prefix t q false h.2
    simp only [nStarts, nFinishes, h.1, Bool.toNat_false, Bool.toNat_true] at this ⊢
    omega

/-! ### from the history to the call log: how many pairs, how many handler runs -/

def nHandles : List Call → Nat
  | [] => 0
  | .handle _ _ :: t => nHandles t + 1
  | _ :: t => nHandles t

theorem nHandles_append (a b : List Call) : nHandles (a ++ b) = nHandles a + nHandles b := by
  induction a with
  | nil => simp [nHandles]
  | cons x t ih => cases x <;> simp [nHandles, ih] <;> omega

/-- the recording observer logs one `handle` call per `ServeHTTP` -/
theorem nHandles_run (o : Obs) (acts : List Act) : nHandles (Obs.run o acts).2 = acts.count .handle := by
  induction acts generalizing o with
  | nil => simp [Obs.run, nHandles]
  | cons a t ih => cases a <;> simp [Obs.run, Obs.step, nHandles, ih]

theorem nStarts_append (a b : List Call) : nStarts (a ++ b) = nStarts a + nStarts b := by
  induction a with
  | nil => simp [nStarts]
  | cons x t ih => cases x <;> simp [nStarts, ih] <;> omega

theorem nStarts_run (o : Obs) (acts : List Act) : nStarts (Obs.run o acts).2 = acts.count .start := by
  induction acts generalizing o with
  | nil => simp [Obs.run, nStarts]
  | cons a t ih => cases a <;> simp [Obs.run, Obs.step, nStarts, ih]

/-- all passes but the last are keep-alive passes -/
def loopShaped : List Iter → Bool
  | [] => true
  | [_] => true
  | it :: it2 :: rest => (it == ⟨false, .handled .next⟩) && loopShaped (it2 :: rest)

theorem loopShaped_cons (l : List Iter) (h : loopShaped l = true) :
    loopShaped (⟨false, .handled .next⟩ :: l) = true := by
  cases l with
  | nil => rfl
  | cons a t => simp [loopShaped, h]

/-- in an accepted log every start has its finish and at most one handler run -/
theorem pairsFrom_counts (lv : Level) : ∀ (n k : Nat) (l : List Call), pairsFrom lv n k l = true →
    nFinishes l = nStarts l ∧ nHandles l ≤ nStarts l :=
  pairsFrom_blocks (by simp [nFinishes, nStarts, nHandles])
    (fun _ ih => by simp only [nFinishes, nStarts, nHandles]; omega)
    (fun _ ih => by simp only [nFinishes, nStarts, nHandles]; omega)

end Hertz.Tracer
