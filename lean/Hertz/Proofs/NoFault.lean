import Hertz.Model.NoFault
import Hertz.Proofs.IndexByte
/-!
Lemmas for C03: the checked operations succeed under the side conditions the Go code establishes, and the checked
re-statements of `MultipartFormBoundary` and `IsBadTrailer` never reach a fault.
-/
namespace Hertz.NF
open Hertz Hertz.Gen.Str

/-- the checked computation `o` yields a value (no fault, the fuel suffices) and the value satisfies `P`.  Every statement
about the checked models has this form; a proof walks the program text once with `Ok.bind` / `Ok.ite` / `Ok.pure` and the
rule of each checked operation, the side conditions being the bounds the Go code establishes. -/
def Ok {α : Type} (o : Option α) (P : α → Prop) : Prop := ∃ x, o = some x ∧ P x

theorem Ok.pure {α : Type} {P : α → Prop} {x : α} (h : P x) : Ok (some x) P := ⟨x, rfl, h⟩

theorem Ok.bind {α β : Type} {a : Option α} {f : α → Option β} {P : α → Prop} {Q : β → Prop}
    (ha : Ok a P) (hf : ∀ x, P x → Ok (f x) Q) : Ok (a.bind f) Q := by
  obtain ⟨x, hx, hp⟩ := ha
  rw [hx, Option.bind_some]; exact hf x hp

theorem Ok.ite {α : Type} {p : Prop} [Decidable p] {a b : Option α} {Q : α → Prop}
    (ha : p → Ok a Q) (hb : ¬ p → Ok b Q) : Ok (if p then a else b) Q := by
  by_cases h : p
  · rw [if_pos h]; exact ha h
  · rw [if_neg h]; exact hb h

theorem Ok.mono {α : Type} {o : Option α} {P Q : α → Prop} (h : Ok o P) (hpq : ∀ x, P x → Q x) : Ok o Q :=
  h.imp fun x hx => ⟨hx.1, hpq x hx.2⟩

theorem Ok.total {α : Type} {o : Option α} {P : α → Prop} (h : Ok o P) : ∃ r, o = some r := h.imp fun _ hx => hx.1

theorem Ok.of_eq {α : Type} {o : Option α} {v : α} (h : o = some v) : Ok o fun _ => True := ⟨v, h, trivial⟩

theorem len_cons (c : UInt8) (t : Bytes) : len (c :: t) = len t + 1 := by simp [len]

theorem len_nil : len ([] : Bytes) = 0 := rfl

theorem len_nonneg (b : Bytes) : 0 ≤ len b := by unfold len; omega

theorem len_append (a b : Bytes) : len (a ++ b) = len a + len b := by simp [len]

theorem len_take (b : Bytes) (n : Int) (h0 : 0 ≤ n) (h1 : n ≤ len b) : len (b.take n.toNat) = n := by
  unfold len at *; simp only [List.length_take]; omega

/-! ### the checked operations: in range they succeed, with the slice Go would give -/

theorem ix_ok {b : Bytes} {i : Int} (h0 : 0 ≤ i) (h1 : i < len b) : Ok (ix b i) fun _ => True := by
  have h2 : i.toNat < b.length := by unfold len at h1; omega
  unfold ix
  rw [if_neg (by omega)]
  exact ⟨b[i.toNat], List.getElem?_eq_getElem h2, trivial⟩

theorem sl_ok {b : Bytes} {lo hi : Int} (h0 : 0 ≤ lo) (h1 : lo ≤ hi) (h2 : hi ≤ len b) :
    Ok (sl b lo hi) fun r => len r = hi - lo := by
  unfold sl
  rw [if_pos ⟨h0, h1, h2⟩]
  refine ⟨_, rfl, ?_⟩
  unfold len at *
  simp only [List.length_drop, List.length_take]
  omega

theorem slFrom_ok {b : Bytes} {lo : Int} (h0 : 0 ≤ lo) (h1 : lo ≤ len b) : Ok (slFrom b lo) fun r => len r = len b - lo :=
  sl_ok h0 h1 (Int.le_refl _)

theorem slTo_ok {b : Bytes} {hi : Int} (h0 : 0 ≤ hi) (h1 : hi ≤ len b) : Ok (slTo b hi) fun r => len r = hi :=
  (sl_ok (Int.le_refl 0) h0 h1).mono fun r h => by omega

/-- the same operations at a natural-number index, as equations with the contents (`N` is `n` as the `int` expression of
the program): what the proofs that a checked parser equals its list model rewrite with -/
theorem ix_nat (b : Bytes) (i : Nat) (h : i < b.length) : ix b (i : Int) = some b[i] := by
  simp [ix, h]

theorem ix_zero_cons (c : UInt8) (t : Bytes) : ix (c :: t) 0 = some c := by
  simp [ix]

theorem slFrom_drop (b : Bytes) (n : Nat) (N : Int) (hN : N = n) (h : n ≤ b.length) : slFrom b N = some (b.drop n) := by
  subst hN
  simp [slFrom, sl, len, h]

theorem slTo_take (b : Bytes) (n : Nat) (N : Int) (hN : N = n) (h : n ≤ b.length) : slTo b N = some (b.take n) := by
  subst hN
  simp [slTo, sl, len, h]

/-- `b[:n]` and `b[n+1:]` around an index inside `b`: the cut at a separator that `IndexByte` found -/
theorem sepAt_ok {β : Type} {b : Bytes} {n : Int} {f : Bytes → Bytes → Option β} {Q : β → Prop} (h0 : 0 ≤ n) (h1 : n < len b)
    (hf : ∀ l r, Ok (f l r) Q) : Ok ((slTo b n).bind fun l => (slFrom b (n + 1)).bind fun r => f l r) Q :=
  (slTo_ok h0 (by omega)).bind fun l _ => (slFrom_ok (by omega) (by omega)).bind fun r _ => hf l r

/-- `if len(b) > 1 && b[0] == '"' && b[len(b)-1] == '"' { b = b[1:len(b)-1] }` (`MultipartFormBoundary`, `decodeCookieArg`) -/
theorem unquote_ok (b : Bytes) :
    Ok (if len b > 1 then
        (ix b 0).bind fun c0 =>
        if c0 = 34 then (ix b (len b - 1)).bind fun cl => if cl = 34 then sl b 1 (len b - 1) else some b
        else some b
      else some b) fun _ => True :=
  .ite (fun _ => (ix_ok (by omega) (by omega)).bind fun _ _ => .ite
      (fun _ => (ix_ok (by omega) (by omega)).bind fun _ _ => .ite
        (fun _ => (sl_ok (by omega) (by omega) (by omega)).mono fun _ _ => trivial) fun _ => .pure trivial)
      fun _ => .pure trivial)
    fun _ => .pure trivial

/-- the return of both key/value scanners: the value (a slice `V`, decoded by `D`), then `s.b = s.b[j:]` with `0 < j`,
which leaves a shorter buffer -/
theorem kvCut_ok {β : Type} {b : Bytes} {V : Option Bytes} {P : Bytes → Prop} {D : Bytes → Option Bytes} {j : Int} {F : Bytes → β}
    (hV : Ok V P) (hD : ∀ v, Ok (D v) fun _ => True) (h0 : 0 < j) (h1 : j ≤ len b) :
    Ok (V.bind fun v => (D v).bind fun vv => (slFrom b j).bind fun rest => some (F vv, rest)) fun r => len r.2 < len b :=
  hV.bind fun v _ => (hD v).bind fun _ _ => (slFrom_ok (by omega) h1).bind fun r hr => .pure (by show len r < len b; omega)

theorem indexOf_lt (c : UInt8) (b : Bytes) (n : Nat) (h : Uri.indexOf c b = some n) : n < b.length :=
  H1.indexByte_lt c b n (Uri.indexOf_eq ▸ h)

theorem indexByte_ge (c : UInt8) (b : Bytes) : -1 ≤ indexByte c b := by
  unfold indexByte; split <;> omega

theorem indexByte_lt (c : UInt8) (b : Bytes) : indexByte c b < len b := by
  unfold indexByte len
  split
  · rename_i n h; have := indexOf_lt c b n h; omega
  · omega

theorem isPrefixOf_len {p b : Bytes} (h : p.isPrefixOf b = true) : len p ≤ len b := by
  have := (List.isPrefixOf_iff_prefix.mp h).length_le
  unfold len; omega

/-! ### `RequestHeader.MultipartFormBoundary` -/

theorem skipSp_ok (b : Bytes) : ∀ (f : Nat) (n : Int), 0 ≤ n → n ≤ len b → len b - n < f →
    Ok (skipSp b f n) fun m => n ≤ m ∧ m ≤ len b
  | 0, n, _, _, h3 => by omega
  | f + 1, n, h1, h2, h3 => by
    unfold skipSp
    refine .ite (fun hlt => (ix_ok h1 (by omega)).bind fun c _ => .ite (fun _ => ?_) fun _ => .pure ⟨by omega, h2⟩)
      fun _ => .pure ⟨by omega, h2⟩
    exact (skipSp_ok b f (n + 1) (by omega) (by omega) (by omega)).mono fun m hm => ⟨by omega, hm.2⟩

theorem mfbValue_ok (b : Bytes) (hp : strBoundary.isPrefixOf b = true) : Ok (mfbValue b) fun _ => True := by
  have hl := isPrefixOf_len hp
  unfold mfbValue
  refine (slFrom_ok (by unfold len; omega) hl).bind fun b1 h1 => .ite (fun _ => .pure trivial) fun he =>
    (ix_ok (by omega) (by unfold len at *; omega)).bind fun c _ => .ite (fun _ => .pure trivial) fun _ =>
    (slFrom_ok (by omega) (by unfold len at *; omega)).bind fun b2 h2 => ?_
  have hlt := indexByte_lt 59 b2
  exact Ok.bind (P := fun _ => True) (.ite (fun h => (slTo_ok h (by omega)).mono fun _ _ => trivial) fun _ => .pure trivial)
    fun b3 _ => unquote_ok b3

theorem mfbLoop_ok : ∀ (f : Nat) (b : Bytes) (n : Int), b.length < f → (len b > 0 → 0 ≤ n ∧ n < len b) →
    Ok (mfbLoop f b n) fun _ => True
  | 0, _, _, h, _ => by omega
  | f + 1, b, n, hf, hn => by
    unfold mfbLoop
    refine .ite (fun hpos => ?_) fun _ => .pure trivial
    obtain ⟨hn0, hn1⟩ := hn hpos
    refine (skipSp_ok b (b.length + 1) (n + 1) (by omega) (by omega) (by unfold len; omega)).bind fun m hm =>
      (slFrom_ok (by omega) hm.2).bind fun b1 h1 => .ite (fun _ => ?_) fun hp => mfbValue_ok b1 (by simpa using hp)
    have hlt := indexByte_lt 59 b1
    exact .ite (fun _ => .pure trivial) fun hge => mfbLoop_ok f b1 _ (by unfold len at *; omega) fun _ => by omega

/-- `MultipartFormBoundary` has no reachable index/slice panic and its loop terminates, for every Content-Type. -/
theorem multipartFormBoundary_ok (ct : Bytes) : Ok (multipartFormBoundary ct) fun _ => True := by
  unfold multipartFormBoundary
  refine .ite (fun _ => .pure trivial) fun hp => ?_
  have hl := isPrefixOf_len (p := mIMEFormData) (b := ct) (by simpa using hp)
  exact (slFrom_ok (by unfold len; omega) hl).bind fun b h1 => .ite (fun _ => .pure trivial) fun _ =>
    (ix_ok (by omega) (by unfold len at *; omega)).bind fun c _ => .ite (fun _ => .pure trivial) fun _ =>
    mfbLoop_ok _ b 0 (by omega) fun h => ⟨by omega, h⟩

/-! ### `protocol.IsBadTrailer` -/

theorem take_ciEq_eq (k : Bytes) (n : Nat) : k.take n = k.take n := rfl

/-- `len(key) >= n && ci(key[:m], s[:m])` guarding a test `A` of `key[m:]`; `n`, `m` stand at `int` literals, hence
`OfNat.ofNat` (see `sliceTo_lit` of `GoLoop.lean`) -/
theorem guarded (key s : Bytes) (n m : Nat) (hmn : m ≤ n) (hs : m ≤ s.length)
    (A : Option Bool) (a b : Bool) (hA : m ≤ key.length → A = some a) :
    (if len key ≥ (OfNat.ofNat n : Int) then
        (slTo key (OfNat.ofNat m : Int)).bind fun k => (slTo s (OfNat.ofNat m : Int)).bind fun c =>
          if H1.ciEq k c then A else some b
      else some b) =
    some (if key.length ≥ n ∧ H1.ciEq (key.take m) (s.take m) = true then a else b) := by
  by_cases hn : len key ≥ (OfNat.ofNat n : Int)
  · have hk : n ≤ key.length := Int.ofNat_le.mp hn
    rw [if_pos hn, slTo_take key m (OfNat.ofNat m) rfl (by omega), Option.bind_some,
      slTo_take s m (OfNat.ofNat m) rfl hs, Option.bind_some, hA (by omega)]
    by_cases hc : H1.ciEq (key.take m) (s.take m) = true
    · rw [if_pos hc, if_pos ⟨hk, hc⟩]
    · rw [if_neg hc, if_neg (fun h => hc h.2)]
  · rw [if_neg hn, if_neg (fun h => hn (Int.ofNat_le.mpr h.1))]

/-- the checked `IsBadTrailer` never faults and computes the list-based model of `Model/Http1/Scan`. -/
theorem isBadTrailer_eq (key : Bytes) : isBadTrailer key = some (H1.isBadTrailer key) := by
  cases key with
  | nil => rfl
  | cons k0 t =>
    unfold isBadTrailer H1.isBadTrailer
    have hne : ¬ len (k0 :: t) = 0 := by unfold len; simp; omega
    rw [if_neg hne, ix_zero_cons, Option.bind_some]
    have s8 : ∀ b : Bytes, 8 ≤ b.length → slFrom b 8 = some (b.drop 8) := fun b h => slFrom_drop b 8 8 rfl h
    have s6 : ∀ b : Bytes, 6 ≤ b.length → slFrom b 6 = some (b.drop 6) := fun b h => slFrom_drop b 6 6 rfl h
    rw [guarded (k0 :: t) strContentType 12 8 (by decide) (by decide) _ _ _ (fun h => ?hc),
      guarded (k0 :: t) strProxyConnection 16 6 (by decide) (by decide) _ _ _ (fun h => ?hp)]
    case hc =>
      rw [s8 _ h, s8 strContentEncoding (by decide), s8 strContentLength (by decide), s8 strContentType (by decide),
        s8 strContentRange (by decide)]
      rfl
    case hp =>
      rw [s6 _ h, s6 strProxyConnection (by decide), s6 strProxyAuthenticate (by decide),
        s6 strProxyAuthorization (by decide)]
      rfl
    simp only [apply_ite some]
end Hertz.NF
