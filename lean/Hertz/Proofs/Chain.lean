import Hertz.Model.Chain
/-!
Lemmas for C12: on a chain of at most 63 (`AbortIndex`) handlers the interpreter keeps the onion monitor
happy, never runs out of fuel, and never panics: the `int8` index saturates at `MaxInt8`.
-/
namespace Hertz.Chain

theorem abortIndex_eq : abortIndex = 63 := rfl

theorem Mon.run_append (m : Mon) (a b : List Event) :
    Mon.run m (a ++ b) = match Mon.run m a with
      | some m' => Mon.run m' b
      | none => none := by
  induction a generalizing m with
  | nil => simp [Mon.run]
  | cons e t ih =>
    simp only [List.cons_append, Mon.run]
    cases h : m.step e with
    | none => simp
    | some m' => simp [ih]

theorem Mon.run_cons (m : Mon) (e : Event) (t : List Event) :
    Mon.run m (e :: t) = match m.step e with
      | some m' => Mon.run m' t
      | none => none := rfl

theorem trunc8_small {n : Nat} (h : n ≤ 127) : trunc8 n = n := by
  unfold trunc8; omega

theorem inc8_lt {j : Int} (h : j < 127) : inc8 j = j + 1 := by
  unfold inc8; simp [h]

theorem inc8_sat : inc8 127 = 127 := by decide

theorem inc8_nat (j : Nat) (hj : j ≤ 127) : inc8 (j : Int) = ((min (j + 1) 127 : Nat) : Int) := by
  rcases Nat.lt_or_eq_of_le hj with h | rfl
  · rw [inc8_lt (Int.ofNat_lt.2 h), Nat.min_eq_left h]; rfl
  · exact inc8_sat

/-- the monitor agrees with the index `j`: the handlers entered so far lie at or below `j` and inside the chain, and once
an `Abort*` has been seen the index is past the chain -/
structure Good (L : Nat) (m : Mon) (j : Nat) : Prop where
  lo : m.lo ≤ j + 1
  loL : m.lo ≤ L
  ab : m.aborted = true → L ≤ j
  le : j ≤ 127

/-- Guarantee of the `Next` loop started with monitor state `m`: it ends normally, past the chain. -/
def PostL (L : Nat) (m : Mon) (r : R) : Prop :=
  ∃ (m' : Mon) (j' : Nat), r.2 = .ok (j' : Int) ∧ Mon.run m r.1 = some m' ∧ m'.stack = m.stack ∧ Good L m' j' ∧ L ≤ j'

/-- Guarantee of (the rest of) a handler body started with index `j`: it ends normally with an index `j'` that is
`j` itself or lies past the chain (`Next` and `Abort` only ever move it there), so the loop never goes back to an
earlier handler; the fuel count of `loop_spec` rests on this clause. -/
def PostA (L : Nat) (m : Mon) (j : Nat) (r : R) : Prop :=
  ∃ (m' : Mon) (j' : Nat), r.2 = .ok (j' : Int) ∧ Mon.run m r.1 = some m' ∧ m'.stack = m.stack ∧ Good L m' j' ∧
    (j' = j ∨ L ≤ j')

/-- what `runActs` needs to know about its `nx` argument -/
def NxOK (hs : List Script) (pos : Nat) (nx : Int → R) : Prop :=
  ∀ (j : Nat) (m : Mon), pos ≤ j → Good hs.length m j → PostL hs.length m (nx (inc8 j))

theorem bind_ok {r : R} {j : Int} (h : r.2 = .ok j) (k : Int → R) : r.bind k = (r.1 ++ (k j).1, (k j).2) := by
  obtain ⟨tr, res⟩ := r
  subst h
  rfl

theorem runActs_spec (hs : List Script) (hL : hs.length ≤ 63) (nx : Int → R) (pos : Nat)
    (hpos : pos < hs.length) (hnx : NxOK hs pos nx) :
    ∀ (acts : List Act) (j : Nat) (m : Mon), pos ≤ j → m.stack.head? = some pos → Good hs.length m j →
      PostA hs.length m j (runActs nx pos acts j) := by
  intro acts
  induction acts with
  | nil =>
    intro j m _ _ hg
    exact ⟨m, j, rfl, rfl, rfl, hg, Or.inl rfl⟩
  | cons a r ih =>
    intro j m hpj htop hg
    -- after an `Abort*` event the rest of the body runs with the index at `AbortIndex`; the model's `abortIndex` is
    -- the numeral 63 (`abortIndex_eq`), written here as the natural number the induction hypothesis takes
    have aborting : ∀ e, m.step e = some ⟨m.stack, m.lo, true⟩ →
        PostA hs.length m j (emit e (runActs nx pos r ((63 : Nat) : Int))) := by
      intro e hstep
      obtain ⟨m2, k2, hres2, hrun2, hst2, hg2, hor2⟩ :=
        ih 63 ⟨m.stack, m.lo, true⟩ (Nat.le_trans (Nat.le_of_lt hpos) hL) htop
          ⟨Nat.le_succ_of_le (Nat.le_trans hg.loL hL), hg.loL, fun _ => hL, by decide⟩
      refine ⟨m2, k2, hres2, ?_, hst2, hg2, Or.inr (hor2.elim (fun h => h ▸ hL) id)⟩
      show Mon.run m (e :: _) = some m2
      rw [Mon.run_cons, hstep]; exact hrun2
    cases a with
    | next =>
      obtain ⟨m1, k1, hres1, hrun1, hst1, hg1, hLk1⟩ := hnx j m hpj hg
      obtain ⟨m2, k2, hres2, hrun2, hst2, hg2, hor2⟩ :=
        ih k1 m1 (Nat.le_trans (Nat.le_of_lt hpos) hLk1) (hst1 ▸ htop) hg1
      show PostA hs.length m j ((nx (inc8 j)).bind (runActs nx pos r))
      rw [bind_ok hres1]
      refine ⟨m2, k2, hres2, ?_, hst2.trans hst1, hg2, Or.inr (hor2.elim (fun h => h ▸ hLk1) id)⟩
      show Mon.run m (_ ++ _) = some m2
      rw [Mon.run_append, hrun1]; exact hrun2
    | abort => exact aborting (.abort pos) (by simp [Mon.step, htop])
    | abortStatus c => exact aborting (.abortStatus pos c) (by simp [Mon.step, htop])
    | probe =>
      obtain ⟨m2, k2, hres2, hrun2, hst2, hg2, hor2⟩ := ih j m hpj htop hg
      refine ⟨m2, k2, hres2, ?_, hst2, hg2, hor2⟩
      show Mon.run m (Event.probe pos j :: _) = some m2
      rw [Mon.run_cons, show m.step (.probe pos j) = some m by simp [Mon.step, htop]]; exact hrun2

theorem fuel_pos {L k f : Nat} (hfuel : L + 1 ≤ k + (f + 1)) (hk : k < L) : 1 ≤ f := by omega

theorem fuel_next {L k f j : Nat} (hL : L ≤ 63) (hfuel : L + 1 ≤ k + (f + 1)) (hkj : k ≤ j) :
    L + 1 ≤ min (j + 1) 127 + f := by omega

/-- `m.lo ≤ k`: the handler at the index may still be entered.  `hs.length + 1 ≤ k + f`: every turn of the loop takes one
unit of fuel and moves the index up by at least one, and the exit test takes the last unit. -/
theorem loop_spec (hs : List Script) (hL : hs.length ≤ 63) :
    ∀ (f k : Nat) (m : Mon), Good hs.length m k → m.lo ≤ k → 1 ≤ f → hs.length + 1 ≤ k + f →
      PostL hs.length m (nextLoop f hs k) := by
  intro f
  induction f with
  | zero => intro k m _ _ hf; exact absurd hf (by decide)
  | succ f ih =>
    intro k m hg hlo _ hfuel
    have h127 : ∀ {a : Nat}, a ≤ hs.length → a ≤ 127 := fun h => Nat.le_trans h (Nat.le_trans hL (by decide))
    simp only [nextLoop, trunc8_small (h127 (Nat.le_refl _))]
    by_cases hkL : (k : Int) < hs.length
    · have hkL' : k < hs.length := Int.ofNat_lt.1 hkL
      rw [if_pos hkL, if_neg (Int.not_lt.2 (Int.natCast_nonneg k)), Int.toNat_natCast, List.getElem?_eq_getElem hkL']
      have hf1 : 1 ≤ f := fuel_pos hfuel hkL'
      -- the index after the handler body: one more, saturating, and still within the fuel
      have again : ∀ (j : Nat) (m0 : Mon), Good hs.length m0 j → hs.length + 1 ≤ min (j + 1) 127 + f →
          PostL hs.length m0 (nextLoop f hs ((min (j + 1) 127 : Nat) : Int)) :=
        fun j m0 hg0 hfu =>
          have hlo0 := Nat.le_min.2 ⟨hg0.lo, h127 hg0.loL⟩
          ih (min (j + 1) 127) m0 ⟨Nat.le_succ_of_le hlo0, hg0.loL,
            fun h => Nat.le_min.2 ⟨Nat.le_succ_of_le (hg0.ab h), h127 (Nat.le_refl _)⟩, Nat.min_le_right _ _⟩ hlo0 hf1 hfu
      -- the recursive `Next` available to the handler body
      have hnx : NxOK hs k (nextLoop f hs) := by
        intro j m0 hpj hg0
        rw [inc8_nat j hg0.le]
        exact again j m0 hg0 (fuel_next hL hfuel hpj)
      have hnoab : m.aborted = false := by
        cases hm : m.aborted with
        | false => rfl
        | true => exact absurd (hg.ab hm) (Nat.not_le.2 hkL')
      obtain ⟨m2, k1, hres1, hrun2, hst2, hg2, hor⟩ :=
        runActs_spec hs hL (nextLoop f hs) k hkL' hnx hs[k] k ⟨k :: m.stack, k + 1, m.aborted⟩
          (Nat.le_refl _) rfl ⟨Nat.le_refl _, hkL', hg.ab, hg.le⟩
      obtain ⟨m3, k3, hres3, hrun3, hst3, hg3, hLk3⟩ :=
        again k1 ⟨m.stack, m2.lo, m2.aborted⟩ ⟨hg2.lo, hg2.loL, hg2.ab, hg2.le⟩
          (hor.elim (fun h => fuel_next hL hfuel (Nat.le_of_eq h.symm)) fun h =>
            Nat.le_trans (Nat.le_min.2 ⟨Nat.succ_le_succ h, Nat.succ_le_succ (Nat.le_trans hL (by decide))⟩)
              (Nat.le_add_right _ f))
      have hstepE : m.step (.enter k) = some ⟨k :: m.stack, k + 1, m.aborted⟩ := by
        simp [Mon.step, hnoab, hlo]
      have hstepX : m2.step (.exit k k1) = some ⟨m.stack, m2.lo, m2.aborted⟩ := by
        simp [Mon.step, hst2]
      simp only [bind_ok hres1, inc8_nat k1 hg2.le]
      refine ⟨m3, k3, hres3, ?_, hst3, hg3, hLk3⟩
      show Mon.run m (Event.enter k :: (_ ++ Event.exit k k1 :: _)) = some m3
      simp only [Mon.run_cons, hstepE, Mon.run_append, hrun2, hstepX, hrun3]
    · rw [if_neg hkL]
      have hLk : hs.length ≤ k := Nat.le_of_not_lt fun h => hkL (Int.ofNat_lt.2 h)
      exact ⟨m, k, rfl, rfl, rfl, hg, hLk⟩

theorem run_eq (hs : List Script) (hL : hs.length ≤ 63) : run hs = nextLoop (hs.length + 2) hs ((0 : Nat) : Int) := by
  simp [run, next, fuelFor, hL, inc8]

theorem run_spec (hs : List Script) (hL : hs.length ≤ 63) : PostL hs.length Mon.init (run hs) := by
  rw [run_eq hs hL]
  exact loop_spec hs hL (hs.length + 2) 0 Mon.init ⟨Nat.zero_le _, Nat.zero_le _, nofun, by decide⟩ (Nat.le_refl _)
    (Nat.le_add_left 1 _) (Nat.zero_add _ ▸ Nat.le_succ _)

theorem run_ok (hs : List Script) (hL : hs.length ≤ 63) :
    ∃ j, (run hs).2 = .ok j ∧ (hs.length : Int) ≤ j ∧ j ≤ 127 := by
  obtain ⟨_, j, hres, _, _, hg, hLj⟩ := run_spec hs hL
  exact ⟨j, hres, Int.ofNat_le.2 hLj, Int.ofNat_le.2 hg.le⟩

theorem run_onion (hs : List Script) (hL : hs.length ≤ 63) : onionOK hs.length (run hs).1 = true := by
  obtain ⟨m', _, _, hrun, hst, hg, _⟩ := run_spec hs hL
  simp only [onionOK, hrun, hst]
  simp [Mon.init, hg.loL]

theorem step_other {m m1 : Mon} {e : Event} (hs : m.step e = some m1) (hne : ∀ p, e ≠ .enter p) :
    m1.lo = m.lo ∧ (m.aborted = true → m1.aborted = true) ∧ (isAbort e = true → m1.aborted = true) := by
  revert hs
  fun_cases Mon.step m e with
  | case1 p => exact absurd rfl (hne p)
  | case2 | case4 | case5 | case7 | case9 | case11 => nofun
  | case3 | case10 => rintro ⟨⟩; exact ⟨rfl, id, nofun⟩
  | case6 | case8 => rintro ⟨⟩; exact ⟨rfl, fun _ => rfl, fun _ => rfl⟩

theorem enters_other {e : Event} (t : List Event) (hne : ∀ p, e ≠ .enter p) : enters (e :: t) = enters t := by
  cases e with
  | enter p => exact absurd rfl (hne p)
  | _ => rfl

theorem mon_facts : ∀ (tr : List Event) (m m' : Mon), Mon.run m tr = some m' →
    m.lo ≤ m'.lo ∧ (∀ p ∈ enters tr, m.lo ≤ p ∧ p < m'.lo) ∧ (enters tr).Pairwise (· < ·) ∧
    (m.aborted = true → enters tr = []) ∧ noEnterAfterAbort tr = true := by
  intro tr
  induction tr with
  | nil =>
    intro m m' h
    cases h
    exact ⟨Nat.le_refl _, fun _ hp => absurd hp List.not_mem_nil, List.Pairwise.nil, fun _ => rfl, rfl⟩
  | cons e t ih =>
    intro m m' h
    rw [Mon.run_cons] at h
    cases hs : m.step e with
    | none => rw [hs] at h; cases h
    | some m1 =>
      rw [hs] at h
      obtain ⟨h1, h2, h3, h4, h5⟩ := ih m1 m' h
      by_cases hen : ∃ p, e = .enter p
      · obtain ⟨p, rfl⟩ := hen
        simp only [Mon.step] at hs
        split at hs
        · rename_i hc
          cases hs
          have hlt : ∀ q ∈ enters t, p < q ∧ q < m'.lo := h2
          refine ⟨Nat.le_trans hc.2 (Nat.le_of_succ_le h1), ?_, List.pairwise_cons.2 ⟨fun q hq => (hlt q hq).1, h3⟩, ?_, ?_⟩
          · intro q hq
            rcases List.mem_cons.1 hq with rfl | hq
            · exact ⟨hc.2, h1⟩
            · exact ⟨Nat.le_trans hc.2 (Nat.le_of_lt (hlt q hq).1), (hlt q hq).2⟩
          · intro hab; rw [hc.1] at hab; cases hab
          · simp [noEnterAfterAbort, isAbort, h5]
        · cases hs
      · have hne : ∀ p, e ≠ .enter p := fun p hp => hen ⟨p, hp⟩
        obtain ⟨hlo, hab, hia⟩ := step_other hs hne
        rw [hlo] at h1 h2
        rw [enters_other t hne]
        refine ⟨h1, h2, h3, fun hm => h4 (hab hm), ?_⟩
        simp only [noEnterAfterAbort, h5, Bool.and_true]
        cases hi : isAbort e with
        | false => rfl
        | true => rw [if_pos rfl, h4 (hia hi)]; rfl

theorem onionOK_facts (n : Nat) (tr : List Event) (h : onionOK n tr = true) :
    (enters tr).Pairwise (· < ·) ∧ (∀ p ∈ enters tr, p < n) ∧ noEnterAfterAbort tr = true := by
  unfold onionOK at h
  cases hr : Mon.init.run tr with
  | none => rw [hr] at h; cases h
  | some m' =>
    rw [hr] at h
    simp only [Bool.and_eq_true, decide_eq_true_eq] at h
    obtain ⟨_, h2, h3, _, h5⟩ := mon_facts tr Mon.init m' hr
    exact ⟨h3, fun p hp => by have := h2 p hp; omega, h5⟩

end Hertz.Chain
