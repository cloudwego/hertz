import Hertz.Model.Http1.RespStream
import Hertz.Proofs.StreamChunked
/-!
The client's streaming mode (`Model/Http1/RespStream.lean`).  `streamResponse_body`: behind `ReadHeaders`, a body that is
to be read and was not over-prefetched is the stream object `Stream.streamBody` builds, so what the caller reads comes from
`Proofs/StreamChunked.lean`; `SameAsBuffered` compares it with the buffered reader for fixed-length and until-close bodies;
`attemptS_pooled`: what goes back to the pool stands where that stream object says.
-/
namespace Hertz.H1.RespStream
open Hertz Hertz.H1 Hertz.H1.RespRead Hertz.H1.Stream

/-- the stream object of a fixed-length or until-close body agrees with buffered mode -/
structure SameAsBuffered (r : RespRead.Result) (c : Consume) (o : SOut) : Prop where
  stream : o.stream = true
  fault : o.fault = false
  head : r.head = RespRead.setContentLength o.head r.body.length
  noErr : o.got.err = false
  bytes : o.got.bytes = r.body.take c.stopAfter
  eofEnd : o.got.eof = true → o.got.bytes = r.body
  eofSeen : r.body.length < c.stopAfter → o.got.eof = true

/-- a response whose body is to be read, nothing prefetched beyond its declared length: `ReadHeaders`, then the stream
object `streamBody` builds behind the head -/
theorem streamResponse_body (dn : Bool) (maxBody : Nat) (e : End) (s : Bytes) (p : Nat) (c : Consume)
    (hd : RespHead) (s1 : Bytes) (r : ReqOut) (a : After)
    (hh : readHeaders dn e s = .ok (hd, s1)) (hs : mustSkipCL hd.status = false) (h2 : ¬ hd.cl = -2)
    (hov : ¬ (0 ≤ hd.cl ∧ hd.cl.toNat < p))
    (hb : streamBody (bodyCfg dn maxBody hd.cl) e (asReq hd) s1 c = .ok (r, a)) :
    streamResponse dn maxBody e false s p c =
      .ok { head := hd, stream := true, got := r.got,
            trailers := if hd.cl = -1 ∧ r.got.eof then trailersAtEOF dn e hd.trailer s1
              else hd.trailer.map (fun k => (k, ([] : Bytes))),
            after := a } := by
  unfold streamResponse
  rw [hh]
  unfold streamPart
  simp only [hs, Bool.or_false, Bool.false_eq_true, if_false, h2, hov, hb]

/-- **streaming = buffered, fixed length**: for EVERY byte string the buffered reader (without size limit) accepts
with a `Content-Length` head, whatever the configured limit, the prefetched amount (`hp`: not beyond the declared length)
and the caller's read pattern. -/
theorem stream_same_fixed (dn : Bool) (maxBody : Nat) (e : End) (s : Bytes) (p : Nat) (c : Consume)
    (hd : RespHead) (s1 : Bytes) (r : RespRead.Result)
    (hh : readHeaders dn e s = .ok (hd, s1)) (hb : readBodyPart dn 0 e hd s1 = .ok r)
    (hs : mustSkipCL hd.status = false) (hcl : 0 ≤ hd.cl) (hp : p ≤ hd.cl.toNat) :
    ∃ o, streamResponse dn maxBody e false s p c = .ok o ∧ SameAsBuffered r c o ∧
      o.after = .resync r.rest := by
  -- what buffered mode did
  unfold readBodyPart at hb
  simp only [hs, Bool.false_eq_true, if_false, ge_iff_le, hcl, if_true, Nat.lt_irrefl, false_and] at hb
  cases ht : takeBody e hd.cl.toNat s1 with
  | error x => rw [ht] at hb; cases hb
  | ok br =>
    obtain ⟨b, rest⟩ := br
    obtain ⟨hl, rfl, rfl⟩ := takeBody_ok.mp ht
    rw [ht] at hb
    cases hb
    obtain ⟨herr, hbytes, heof⟩ := fixedGot_arrived c hl
    rw [streamResponse_body dn maxBody e s p c hd s1 _ _ hh hs (by omega) (by omega)
      (streamBody_arrived _ e (asReq hd) s1 c hcl hl)]
    exact ⟨_, rfl, ⟨rfl, rfl, rfl, herr, hbytes, fun he => (fixedGot_prefix c _ s1).2.2 he herr,
      fun h => heof (List.length_take_of_le hl ▸ h)⟩, rfl⟩

/-- **streaming = buffered, body framed by the end of the connection** (the peer closes: `End.eof`) -/
theorem stream_same_identity (dn : Bool) (maxBody : Nat) (s : Bytes) (p : Nat) (c : Consume)
    (hd : RespHead) (s1 : Bytes) (r : RespRead.Result)
    (hh : readHeaders dn .eof s = .ok (hd, s1)) (hb : readBodyPart dn 0 .eof hd s1 = .ok r)
    (hs : mustSkipCL hd.status = false) (hcl : hd.cl = -2) :
    ∃ o, streamResponse dn maxBody .eof false s p c = .ok o ∧ SameAsBuffered r c o := by
  unfold readBodyPart at hb
  have hge : ¬ hd.cl ≥ 0 := by omega
  have h1 : ¬ hd.cl = -1 := by omega
  simp only [hs, Bool.false_eq_true, if_false, hge, h1, readIdentity, Nat.lt_irrefl, false_and, Except.ok.injEq] at hb
  subst hb
  unfold streamResponse
  rw [hh]
  unfold streamPart
  simp only [hs, Bool.or_false, Bool.false_eq_true, if_false, hcl, if_true, identityGot]
  -- the caller stops inside the body, or reads it all and sees EOF
  by_cases hc : c.stopAfter ≤ s1.length
  · rw [if_pos hc]
    exact ⟨_, rfl, rfl, rfl, rfl, rfl, rfl, nofun, fun h => absurd hc (Nat.not_le.mpr h)⟩
  · rw [if_neg hc]
    exact ⟨_, rfl, rfl, rfl, rfl, rfl, (List.take_of_length_le (Nat.le_of_not_le hc)).symm, fun _ => rfl, fun _ => rfl⟩

/-- where the connection stands when the stream of a chunked response is closed: closed after a failed read; behind the
whole message (`resync rest`) once EOF was read; else `either rest`: there too, or closed if the remainder had not arrived -/
theorem stream_chunked_after (dn : Bool) (maxBody : Nat) (e : End) (s : Bytes) (p : Nat) (c : Consume)
    (hd : RespHead) (m : ChunkedMsg) (ls : List Bytes) (rest : Bytes)
    (hh : readHeaders dn e s = .ok (hd, m.bytes ++ rest)) (hs : mustSkipCL hd.status = false) (hcl : hd.cl = -1) (hm : m.Wf)
    (hls : ∀ l ∈ ls, TrFieldOk l) (htr : m.trailer = encTrailer ls) :
    ∃ o, streamResponse dn maxBody e false s p c = .ok o ∧
      o.after = if o.got.err then .closed else if o.got.eof then .resync rest else .either rest := by
  rw [streamResponse_body dn maxBody e s p c hd _ _ _ hh hs (by omega) (by omega)
    (streamBody_chunked _ e (asReq hd) _ c (by simpa [asReq] using hcl))]
  refine ⟨_, rfl, ?_⟩
  simp only
  refine chunked_after _ e _ c m hm ls (fun l hl => (hls l hl).lineOk) htr rest _ (fun _ => ?_)
  rw [htr]
  exact readTrailerReq_lines _ e _ ls rest hls

/-- what `attemptS` puts back into the pool is the connection at the position the stream object reports -/
theorem attemptS_pooled (cfg : Exchange.Cfg) (rq : Exchange.Req) (sv : Exchange.Srv) (c : Exchange.Conn) (inPool : Bool)
    (p : Nat) (cs : Consume) (fin : Fin) (drained : Bool) (c' : Exchange.Conn) (o : SOutcome)
    (h : attemptS cfg rq sv c inPool p cs fin drained = (some c', o)) :
    ∃ r, o = .ok r ∧
      streamResponse cfg.disableNorm cfg.maxBody (Exchange.endOf (Exchange.serve c sv)) (rq.skipBody || rq.appSkip)
        (Exchange.serve c sv).pending p cs = .ok r ∧
      (r.after = .resync c'.pending ∨ r.after = .either c'.pending) ∧
      rq.connClose = false ∧ r.head.connClose = false := by
  revert h
  fun_cases attemptS cfg rq sv c inPool p cs fin drained <;> intro h <;> cases h
  -- the two ways a connection goes back to the pool: behind the message, or behind what `skipRest` drained
  · rename_i c1 _ _ hp r hr _ _ rest ha hsc
    have hp : (Exchange.serve c sv).pending = _ := hp
    have hsc : (rq.connClose || r.head.connClose || Exchange.bodyUnread rq r.head) = false := Bool.eq_false_iff.mpr hsc
    simp only [Bool.or_eq_false_iff] at hsc
    exact ⟨r, rfl, hp ▸ hr, Or.inl ha, hsc.1.1, hsc.1.2⟩
  · rename_i c1 _ _ hp r hr _ _ rest ha hsc
    have hp : (Exchange.serve c sv).pending = _ := hp
    have hsc : (rq.connClose || r.head.connClose || Exchange.bodyUnread rq r.head || !drained) = false := Bool.eq_false_iff.mpr hsc
    simp only [Bool.or_eq_false_iff] at hsc
    exact ⟨r, rfl, hp ▸ hr, Or.inr ha, hsc.1.1.1, hsc.1.1.2⟩

/-- the trailer the stream stores at EOF is the one buffered mode returns -/
theorem trailersAtEOF_buffered (dn : Bool) (e : End) (hd : RespHead) (s1 : Bytes) (r : RespRead.Result)
    (hb : readBodyPart dn 0 e hd s1 = .ok r) (hs : mustSkipCL hd.status = false) (hcl : hd.cl = -1) :
    trailersAtEOF dn e hd.trailer s1 = r.trailers := by
  unfold trailersAtEOF
  revert hb
  fun_cases readBodyPart dn 0 e hd s1 <;> intro hb <;> cases hb
  · rename_i h; rw [hs] at h; cases h
  · omega
  -- the chunked branch, trailer section present or not; `readTrailerReq` does not look at the size limit
  · rename_i hc _ _ ht
    have ht : readTrailerReq { disableNorm := dn } e hd.trailer _ = _ := ht
    rw [hc]; simp only; rw [ht]
  · rename_i hc _ ht
    have ht : readTrailerReq { disableNorm := dn } e hd.trailer _ = _ := ht
    rw [hc]; simp only; rw [ht]
  · omega

end Hertz.H1.RespStream
