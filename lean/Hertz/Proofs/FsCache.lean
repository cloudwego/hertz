import Hertz.Model.FsCache
import Hertz.Proofs.Fs
/-!
The cache / reference-count part of C08 (`Hertz/Model/FsCache.lean`): three invariants, `G` (counts, here), `P` (places of
the reader objects, `FsCachePool.lean`) and `S` (which file object a reader reads, `FsCacheSrc.lean`).  The end of
`FsCacheSrc.lean` follows the Go functions once for all three (`Idle` between requests, `Holding` inside one) and
concludes `run_idle`, `reachable_idle`: the cache theorems of C08 are fields of these.

The invariant `G s sl` is stated with a *slack*: `sl = some id` means "`ff.readersCount` of file `id` has
been incremented for the request that is being handled and the reader is not handed out yet".  Every
primitive of the model moves the slack exactly like the Go statement it mirrors (`readersCount++` :
none → some, `decReadersCount` / handing the reader to the response : some → none), so a second
decrement on the same path has no lemma to use.
-/

namespace Hertz.FsCache
open Hertz

def slackOf (sl : Option Nat) (id : Nat) : Int := if sl = some id then 1 else 0

@[simp] theorem slackOf_none (id : Nat) : slackOf none id = 0 := by simp [slackOf]
@[simp] theorem slackOf_self (id : Nat) : slackOf (some id) id = 1 := by simp [slackOf]
theorem slackOf_ne {id j : Nat} (h : j ≠ id) : slackOf (some id) j = 0 := by
  simp [slackOf]; intro h'; exact h h'.symm

/-- counts: `readersCount` of every `fsFile` is its number of live readers plus the slack, ids are fresh and distinct,
and a released file is uncached, not pending and unread.  `closed` also keeps the slack off a released file: a request
takes the slack only of a file it found in the cache or opened (`G_incRc` wants `fileOpen`), and a cached file is open. -/
structure G (s : State) (sl : Option Nat) : Prop where
  cnt : ∀ o ∈ s.objs, o.rc = (countFid o.id s.live : Int) + slackOf sl o.id
  lt : ∀ o ∈ s.objs, o.id < s.next
  uniq : ∀ o₁ ∈ s.objs, ∀ o₂ ∈ s.objs, o₁.id = o₂.id → o₁ = o₂
  closed : ∀ o ∈ s.objs, o.fileOpen = false →
    o.cached = false ∧ o.pending = false ∧ countFid o.id s.live = 0 ∧ sl ≠ some o.id
  ref : ∀ r ∈ s.live, ∃ o ∈ s.objs, o.id = r.fid
  excl : ∀ o ∈ s.objs, o.pending = true → o.cached = false
  tgt : ∀ f, sl = some f → ∃ o ∈ s.objs, o.id = f

/-- between requests nobody holds the slack -/
theorem G.rc_idle {s : State} (h : G s none) {o : Obj} (ho : o ∈ s.objs) : o.rc = (countFid o.id s.live : Int) := by
  simpa using h.cnt o ho

theorem G_init : G {} none :=
  ⟨by simp, by simp, by simp, by simp, by simp, by simp, by simp⟩

/-- an update of every `fsFile` that keeps its identity -/
theorem G_map {s : State} {sl sl' : Option Nat} (g : Obj → Obj) (h : G s sl)
    (hid : ∀ o, (g o).id = o.id)
    (hrc : ∀ o ∈ s.objs, (g o).rc = (countFid o.id s.live : Int) + slackOf sl' o.id)
    (hcl : ∀ o ∈ s.objs, (g o).fileOpen = false →
      (g o).cached = false ∧ (g o).pending = false ∧ countFid o.id s.live = 0 ∧ sl' ≠ some o.id)
    (hex : ∀ o ∈ s.objs, (g o).pending = true → (g o).cached = false)
    (htg : ∀ f, sl' = some f → ∃ o ∈ s.objs, o.id = f) :
    G { s with objs := s.objs.map g } sl' := by
  have mem : ∀ {f}, (∃ o ∈ s.objs, o.id = f) → ∃ o ∈ s.objs.map g, o.id = f :=
    fun ⟨o, ho, e⟩ => ⟨g o, List.mem_map.2 ⟨o, ho, rfl⟩, (hid o).trans e⟩
  refine ⟨List.forall_mem_map.2 fun o ho => (hid o).symm ▸ hrc o ho,
    List.forall_mem_map.2 fun o ho => (hid o).symm ▸ h.lt o ho,
    List.forall_mem_map.2 fun a ha => List.forall_mem_map.2 fun b hb hab => ?_,
    List.forall_mem_map.2 fun o ho hf => (hid o).symm ▸ hcl o ho hf,
    fun r hr => mem (h.ref r hr), List.forall_mem_map.2 hex, fun f hf => mem (htg f hf)⟩
  rw [hid, hid] at hab
  rw [h.uniq a ha b hb hab]

theorem modObj_keep {β : Sort _} (p : Obj → β) {f : Obj → Obj} (hp : ∀ o, p (f o) = p o) (id : Nat) (o : Obj) :
    p (if o.id = id then f o else o) = p o := by
  by_cases e : o.id = id
  · rw [if_pos e]; exact hp o
  · rw [if_neg e]

/-- a change of the count and the reader pool of the one `fsFile` `id`: identity and flags stay -/
theorem G_modObj {s : State} {sl sl' : Option Nat} {id : Nat} (r : Obj → Int) (p : Obj → List Pooled) (h : G s sl)
    (hrc : ∀ o ∈ s.objs, (if o.id = id then r o else o.rc) = (countFid o.id s.live : Int) + slackOf sl' o.id)
    (hsl : ∀ o ∈ s.objs, o.fileOpen = false → sl' ≠ some o.id)
    (htg : ∀ f, sl' = some f → ∃ o ∈ s.objs, o.id = f) :
    G (modObj id (fun o => { o with rc := r o, pool := p o }) s) sl' := by
  have keep {β : Sort _} (q : Obj → β) (hq : ∀ o, q { o with rc := r o, pool := p o } = q o) (o : Obj) :
      q (if o.id = id then { o with rc := r o, pool := p o } else o) = q o := modObj_keep q hq id o
  refine G_map _ h (keep _ fun _ => rfl) (fun o ho => (apply_ite Obj.rc ..).trans (hrc o ho)) ?_ ?_ htg
  · intro o ho hf
    rw [keep Obj.fileOpen fun _ => rfl] at hf
    obtain ⟨a, b, c, _⟩ := h.closed o ho hf
    rw [keep Obj.cached fun _ => rfl, keep Obj.pending fun _ => rfl]
    exact ⟨a, b, c, hsl o ho hf⟩
  · intro o ho hp
    rw [keep Obj.pending fun _ => rfl] at hp
    rw [keep Obj.cached fun _ => rfl]; exact h.excl o ho hp

theorem findObj_some {s : State} {id : Nat} {o : Obj} (h : findObj s id = some o) : o ∈ s.objs ∧ o.id = id := by
  unfold findObj at h
  exact ⟨List.mem_of_find?_eq_some h, by simpa using List.find?_some h⟩

theorem findObj_of_mem {s : State} {id : Nat} (h : ∃ o ∈ s.objs, o.id = id) : ∃ o, findObj s id = some o := by
  obtain ⟨o, ho, e⟩ := h
  cases hf : findObj s id with
  | some o' => exact ⟨o', rfl⟩
  | none =>
    unfold findObj at hf
    have := List.find?_eq_none.1 hf o ho
    simp [e] at this

/-- `ff.readersCount++` for a request that has just found or created the open file `o` -/
theorem G_incRc {s : State} {o : Obj} (h : G s none) (ho : o ∈ s.objs) (hop : o.fileOpen = true) :
    G (incRc o.id s) (some o.id) := by
  refine G_modObj _ _ h ?_ ?_ ?_
  · intro o' ho'
    have := h.cnt o' ho'
    by_cases e : o'.id = o.id
    · simp [e] at this ⊢; rw [this, ← e]
    · simp [e, slackOf_ne e] at this ⊢; exact this
  · intro o' ho' hf e
    rw [h.uniq o' ho' o ho (Option.some.inj e).symm, hop] at hf; cases hf
  · intro f hf
    exact ⟨o, ho, Option.some.inj hf⟩

theorem decReadersCount_ok {s s' : State} {id : Nat} (h : decReadersCount id s = .ok s') :
    s' = modObj id (fun o => { o with rc := o.rc - 1 }) s := by
  unfold decReadersCount at h
  split at h
  · cases h
  · split at h <;> cases h
    rfl

/-- `decReadersCount` on the path that owns the slack: never the panic, and the slack is used up -/
theorem G_dec {s : State} {id : Nat} (h : G s (some id)) :
    ∃ s', decReadersCount id s = .ok s' ∧ G s' none ∧ s'.live = s.live := by
  obtain ⟨o, hfo⟩ := findObj_of_mem (h.tgt id rfl)
  obtain ⟨ho, hid⟩ := findObj_some hfo
  have hc := h.cnt o ho
  rw [hid] at hc; simp at hc
  have hge : ¬ (o.rc - 1 < 0) := by omega
  refine ⟨modObj id (fun o => { o with rc := o.rc - 1 }) s, by simp [decReadersCount, hfo, hge], ?_, rfl⟩
  refine G_modObj _ _ h ?_ ?_ ?_
  · intro o' ho'
    have := h.cnt o' ho'
    by_cases e : o'.id = id
    · simp [e] at this ⊢; rw [this]; omega
    · simp [e, slackOf_ne e] at this ⊢; exact this
  · intro o ho hf; simp
  · intro f hf; cases hf

/-- a change of the reader pool of one `fsFile` -/
theorem G_setPool {s : State} {sl : Option Nat} {id : Nat} (p : Obj → List Pooled) (h : G s sl) :
    G (modObj id (fun o => { o with pool := p o }) s) sl :=
  G_modObj _ p h (fun o ho => (ite_self _).trans (h.cnt o ho)) (fun o ho hf => (h.closed o ho hf).2.2.2) h.tgt

theorem G_next {s : State} {sl : Option Nat} (h : G s sl) : G { s with next := s.next + 1 } sl :=
  ⟨h.cnt, fun o ho => Nat.lt_succ_of_lt (h.lt o ho), h.uniq, h.closed, h.ref, h.excl, h.tgt⟩

theorem G_disk {s : State} {sl : Option Nat} (d : Disk) (h : G s sl) : G { s with disk := d } sl :=
  ⟨h.cnt, h.lt, h.uniq, h.closed, h.ref, h.excl, h.tgt⟩

/-- a change of the live list and of the slack that keeps, for every file, their sum -/
theorem G_live {s : State} {sl sl' : Option Nat} (live' : List Reader) (h : G s sl)
    (hc : ∀ id, (countFid id live' : Int) + slackOf sl' id = countFid id s.live + slackOf sl id)
    (href : ∀ r ∈ live', ∃ o ∈ s.objs, o.id = r.fid) (htg : ∀ f, sl' = some f → ∃ o ∈ s.objs, o.id = f) :
    G { s with live := live' } sl' := by
  refine ⟨fun o ho => (h.cnt o ho).trans (hc o.id).symm, h.lt, h.uniq, fun o ho hf => ?_, href, h.excl, htg⟩
  obtain ⟨a, b, c, d⟩ := h.closed o ho hf
  have k := hc o.id
  rw [c, show slackOf sl o.id = 0 from if_neg d] at k
  refine ⟨a, b, ?_, fun e => ?_⟩
  · show countFid o.id live' = 0
    unfold slackOf at k; split at k <;> omega
  · rw [e, slackOf_self] at k; omega

/-- the reader goes to the response: the slack becomes a live reader -/
theorem G_addLive {s : State} {id : Nat} (r : Reader) (h : G s (some id)) (hr : r.fid = id) :
    G { s with live := r :: s.live } none := by
  refine G_live _ h (fun x => ?_) (List.forall_mem_cons.2 ⟨hr ▸ h.tgt id rfl, h.ref⟩) nofun
  by_cases e : x = id
  · simp [countFid, hr, e]; omega
  · simp [countFid, hr, slackOf_ne e, Ne.symm e]

theorem countFid_eq (fid : Nat) (l : List Reader) : countFid fid l = l.countP (·.fid = fid) := by
  induction l with
  | nil => rfl
  | cons r t ih => rw [countFid, ih, List.countP_cons]; simp only [decide_eq_true_eq]; omega

theorem takeReader_perm {rid : Nat} {l rest : List Reader} {r : Reader} (h : takeReader rid l = some (r, rest)) :
    l.Perm (r :: rest) := by
  induction l generalizing rest with
  | nil => cases h
  | cons a t ih =>
    unfold takeReader at h
    by_cases e : a.rid = rid
    · rw [if_pos e] at h; cases h; exact .refl _
    · rw [if_neg e] at h
      obtain ⟨⟨x, l'⟩, hx, e'⟩ := Option.map_eq_some_iff.1 h
      cases e'
      exact ((ih hx).cons a).trans (.swap ..)

theorem take_mem {rid : Nat} {l rest : List Reader} {r : Reader} (h : takeReader rid l = some (r, rest)) :
    r ∈ l ∧ ∀ x ∈ rest, x ∈ l :=
  ⟨(takeReader_perm h).mem_iff.2 List.mem_cons_self, fun _ hx => (takeReader_perm h).mem_iff.2 (List.mem_cons_of_mem _ hx)⟩

theorem countFid_take {rid : Nat} {l rest : List Reader} {r : Reader} (h : takeReader rid l = some (r, rest)) (fid : Nat) :
    countFid fid l = countFid fid rest + (if r.fid = fid then 1 else 0) := by
  rw [countFid_eq, countFid_eq, (takeReader_perm h).countP_eq, List.countP_cons]; simp only [decide_eq_true_eq]

/-- taking a reader out of the live list gives its file one unit of slack -/
theorem G_take {s : State} {rid : Nat} {r : Reader} {rest : List Reader} (h : G s none)
    (ht : takeReader rid s.live = some (r, rest)) : G { s with live := rest } (some r.fid) := by
  refine G_live _ h (fun x => ?_) (fun x hx => h.ref x ((take_mem ht).2 x hx))
    fun f hf => Option.some.inj hf ▸ h.ref r (take_mem ht).1
  rw [countFid_take ht x]
  by_cases e : x = r.fid
  · simp [e]
  · simp [slackOf_ne e, Ne.symm e]

theorem countFid_zero {fid : Nat} {l : List Reader} (h : ∀ r ∈ l, r.fid ≠ fid) : countFid fid l = 0 := by
  rw [countFid_eq]; exact List.countP_eq_zero.2 fun r hr => by simpa using h r hr

theorem countFid_pos_of_mem {r : Reader} {l : List Reader} (h : r ∈ l) : 0 < countFid r.fid l := by
  rw [countFid_eq]; exact List.countP_pos_iff.2 ⟨r, h, by simp⟩

/-- a freshly opened `fsFile` enters the state with count 0 -/
theorem G_newObj {s : State} (h : G s none) (o : Obj) (hid : o.id = s.next) (hrc : o.rc = 0)
    (hfo : o.fileOpen = true) (hpe : o.pending = false) :
    G { s with objs := o :: s.objs, next := s.next + 1 } none := by
  have fresh : countFid s.next s.live = 0 := by
    apply countFid_zero
    intro r hr e
    obtain ⟨o', ho', e'⟩ := h.ref r hr
    have := h.lt o' ho'
    omega
  have new : ∀ x ∈ s.objs, x.id ≠ o.id := fun x hx e => by have := h.lt x hx; omega
  refine ⟨List.forall_mem_cons.2 ⟨by simp [hrc, hid, fresh], h.cnt⟩,
    List.forall_mem_cons.2 ⟨Nat.lt_succ_of_le (Nat.le_of_eq hid), fun x hx => Nat.lt_succ_of_lt (h.lt x hx)⟩,
    List.forall_mem_cons.2 ⟨List.forall_mem_cons.2 ⟨fun _ => rfl, fun b hb e => absurd e.symm (new b hb)⟩,
      fun a ha => List.forall_mem_cons.2 ⟨fun e => absurd e (new a ha), h.uniq a ha⟩⟩,
    List.forall_mem_cons.2 ⟨fun hf => (by rw [hfo] at hf; cases hf), h.closed⟩,
    fun r hr => (h.ref r hr).imp fun o' ho' => ⟨List.mem_cons_of_mem _ ho'.1, ho'.2⟩,
    List.forall_mem_cons.2 ⟨fun hp => (by rw [hpe] at hp; cases hp), h.excl⟩, nofun⟩

theorem tickObj_id (o : Obj) : (tickObj o).id = o.id := by
  simp only [tickObj, Obj.release, apply_ite Obj.id, ite_self]

theorem tickObj_rc (o : Obj) : (tickObj o).rc = o.rc := by
  simp only [tickObj, Obj.release, apply_ite Obj.rc, ite_self]

theorem tickObj_c (o : Obj) : (tickObj o).c = o.c := by
  simp only [tickObj, Obj.release, apply_ite Obj.c, ite_self]

/-- the cleaner leaves a pool alone or empties it (`Release`) -/
theorem tickObj_pool (o : Obj) : (tickObj o).pool.Sublist o.pool := by
  fun_cases tickObj o
  · exact .refl _
  · exact List.nil_sublist _
  · exact .refl _
  · exact List.nil_sublist _
  · exact .refl _

/-- one round of `cleanCache`: a file is released only when it is out of the cache and its count is 0 -/
theorem G_tick {s : State} (h : G s none) : G (tick s) none := by
  unfold tick
  refine G_map _ h tickObj_id (fun o ho => by rw [tickObj_rc]; exact h.cnt o ho) ?_ ?_ (fun f hf => by cases hf)
  · intro o ho
    have hc := h.rc_idle ho
    have hcl := h.closed o ho
    fun_cases tickObj o
    · exact hcl
    · rename_i hp hr
      exact fun _ => ⟨h.excl o ho hp, rfl, by omega, nofun⟩
    · rename_i hp hx hr
      -- a cached file is open
      intro hf
      rw [Bool.and_eq_true] at hx
      exact absurd ((hcl hf).1 ▸ hx.1) nofun
    · rename_i hp hx hr
      exact fun _ => ⟨rfl, Bool.eq_false_iff.2 hp, by omega, nofun⟩
    · exact hcl
  · intro o ho
    have hex := h.excl o ho
    fun_cases tickObj o
    · exact hex
    · exact nofun
    · exact fun _ => rfl
    · exact fun _ => rfl
    · exact hex

theorem G_expire {s : State} (h : G s none) : G (expireAll s) none :=
  G_map _ h (fun _ => rfl) h.cnt h.closed h.excl (fun f hf => by cases hf)

theorem lookup_some {s : State} {key : Nat} {o : Obj} (h : lookup s key = some o) : o ∈ s.objs ∧ o.cached = true := by
  unfold lookup at h
  have := List.find?_some h
  simp at this
  exact ⟨List.mem_of_find?_eq_some h, this.1⟩

end Hertz.FsCache
