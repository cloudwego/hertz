import Hertz.Proofs.Group
/-!
The literal reading of "middleware attached before the route is registered": it coincides with what a
group carries whenever no `Use` (with a non-empty argument) hits a group that already has a child
(`snapshot_eq_literal` on the tables `wf_foldl` reaches).
-/
namespace Hertz.Chain

theorem appendLast_snoc (m : List H) (g : Nat) (part : List H) :
    ∀ (init : Lineage), appendLast m (init ++ [(g, part)]) = init ++ [(g, part ++ m)]
  | [] => rfl
  | [x] => rfl
  | x :: y :: t => by
    have ih := appendLast_snoc m g part (y :: t)
    simp only [List.cons_append] at ih ⊢
    simp only [appendLast]
    rw [ih]

theorem ownOf_of_get {ls : List Lineage} {g a : Nat} {init : Lineage} {part : List H}
    (h : ls[g]? = some (init ++ [(a, part)])) : ownOf ls g = part := by
  simp [ownOf, h]

theorem ownOf_none {ls : List Lineage} {g : Nat} (h : ls.length ≤ g) : ownOf ls g = [] := by
  simp [ownOf, List.getElem?_eq_none h]

/-- `x` is what group `x.1` holds for itself now: the last entry of that group's own lineage -/
def Cur (ls : List Lineage) (x : Nat × List H) : Prop := ∃ l, ls[x.1]? = some l ∧ l.getLast? = some x

theorem Cur.own {ls : List Lineage} {x : Nat × List H} (h : Cur ls x) : x.2 = ownOf ls x.1 := by
  obtain ⟨l, hl, hx⟩ := h
  simp [ownOf, hl, hx]

theorem Cur.snoc {ls : List Lineage} {x : Nat × List H} (h : Cur ls x) (l' : Lineage) : Cur (ls ++ [l']) x := by
  obtain ⟨l, hl, hx⟩ := h
  exact ⟨l, by rw [List.getElem?_append_left (List.getElem?_eq_some_iff.1 hl).1]; exact hl, hx⟩

theorem Cur.set {ls : List Lineage} {x : Nat × List H} (h : Cur ls x) {g : Nat} (hne : x.1 ≠ g) (l' : Lineage) :
    Cur (ls.set g l') x := by
  obtain ⟨l, hl, hx⟩ := h
  exact ⟨l, by rw [List.getElem?_set_ne (Ne.symm hne)]; exact hl, hx⟩

/-- well-formed lineage table: the lineage of `g` ends in `g`'s own entry, and (`cur`) the part it records for each
ancestor is all that is attached to that ancestor now — the field that makes the snapshot the literal reading, and the one a
`Use` on a group with a child breaks -/
structure WFLineages (ls : List Lineage) : Prop where
  last : ∀ (g : Nat) (l : Lineage), ls[g]? = some l → ∃ init part, l = init ++ [(g, part)]
  cur : ∀ (g : Nat) (l : Lineage), ls[g]? = some l → ∀ x ∈ l, Cur ls x

theorem wf_init : WFLineages shadowInit := by
  have h0 : ∀ (g : Nat) (l : Lineage), shadowInit[g]? = some l → g = 0 ∧ l = [(0, [])] := by
    intro g l h
    cases g with
    | zero => exact ⟨rfl, (Option.some.inj h).symm⟩
    | succ n => cases h
  refine ⟨fun g l h => ?_, fun g l h x hx => ?_⟩
  · obtain ⟨rfl, rfl⟩ := h0 g l h; exact ⟨[], [], rfl⟩
  · obtain ⟨rfl, rfl⟩ := h0 g l h; cases List.mem_singleton.1 hx; exact ⟨_, rfl, rfl⟩

theorem snapshot_eq_literal {ls : List Lineage} (hw : WFLineages ls) (g : Nat) : snapshotMws ls g = literalMws ls g := by
  unfold literalMws snapshotMws
  cases h : ls[g]? with
  | none => rfl
  | some l =>
    simp only [List.flatMap_def]
    rw [List.map_congr_left fun x hx => (hw.cur g l h x hx).own]

theorem wf_group {ls : List Lineage} (hw : WFLineages ls) (p : Nat) (m : List H) (l : Lineage) (hl : ls[p]? = some l) :
    WFLineages (ls ++ [l ++ [(ls.length, m)]]) := by
  have hnew : Cur (ls ++ [l ++ [(ls.length, m)]]) (ls.length, m) :=
    ⟨_, List.getElem?_concat_length, List.getLast?_concat⟩
  have hcases : ∀ (g' : Nat) (l' : Lineage), (ls ++ [l ++ [(ls.length, m)]])[g']? = some l' →
      ls[g']? = some l' ∨ (g' = ls.length ∧ l' = l ++ [(ls.length, m)]) := by
    intro g' l' h
    rcases Nat.lt_or_ge g' ls.length with hlt | hge
    · left; rwa [List.getElem?_append_left hlt] at h
    · right
      rw [List.getElem?_append_right hge] at h
      cases hi : g' - ls.length with
      | zero => rw [hi] at h; exact ⟨by omega, (Option.some.inj h).symm⟩
      | succ k => rw [hi] at h; cases h
  refine ⟨fun g' l' h => ?_, fun g' l' h x hx => ?_⟩
  · rcases hcases g' l' h with h' | ⟨rfl, rfl⟩
    · exact hw.last g' l' h'
    · exact ⟨l, m, rfl⟩
  · rcases hcases g' l' h with h' | ⟨rfl, rfl⟩
    · exact (hw.cur g' l' h' x hx).snoc _
    · rcases List.mem_append.1 hx with hx | hx
      · exact (hw.cur p l hl x hx).snoc _
      · cases List.mem_singleton.1 hx; exact hnew

/-- `Use g m` on a well-formed table, allowed by `noUseAfterChild` -/
theorem wf_use {ls : List Lineage} (hw : WFLineages ls) (g : Nat) (m : List H) (l : Lineage) (hl : ls[g]? = some l)
    (hok : (!m.isEmpty && hasChild ls g) = false) : WFLineages (ls.set g (appendLast m l)) := by
  obtain ⟨init, part, rfl⟩ := hw.last g l hl
  rw [appendLast_snoc]
  have hglt : g < ls.length := (List.getElem?_eq_some_iff.1 hl).1
  cases m with
  | nil =>
    -- nothing is attached: the table is the same
    rw [List.append_nil, ← (List.getElem?_eq_some_iff.1 hl).2, List.set_getElem_self]
    exact hw
  | cons a t =>
    have hnc : hasChild ls g = false := by simpa using hok
    -- `g` has no child: the only entry that names `g` is the last one of its own lineage
    have honly : ∀ (g' : Nat) (i' : Lineage) (p' : List H), ls[g']? = some (i' ++ [(g', p')]) → ∀ x ∈ i', x.1 ≠ g := by
      intro g' i' p' hl' x hx hxg
      have : hasChild ls g = true := by
        unfold hasChild
        rw [List.any_eq_true]
        refine ⟨_, List.mem_of_getElem? hl', ?_⟩
        have : i'.length ≥ 1 := List.length_pos_of_mem hx
        simp only [Bool.and_eq_true, decide_eq_true_eq, List.dropLast_concat, List.any_eq_true]
        exact ⟨by simp; omega, x, hx, by simp [hxg]⟩
      rw [hnc] at this; cases this
    have hnew : Cur (ls.set g (init ++ [(g, part ++ a :: t)])) (g, part ++ a :: t) :=
      ⟨_, List.getElem?_set_self hglt, List.getLast?_concat⟩
    have hcases : ∀ (g' : Nat) (l' : Lineage), (ls.set g (init ++ [(g, part ++ a :: t)]))[g']? = some l' →
        (g' = g ∧ l' = init ++ [(g, part ++ a :: t)]) ∨ (g' ≠ g ∧ ls[g']? = some l') := by
      intro g' l' h
      by_cases hg : g = g'
      · subst hg; rw [List.getElem?_set_self hglt] at h; exact .inl ⟨rfl, (Option.some.inj h).symm⟩
      · rw [List.getElem?_set_ne hg] at h; exact .inr ⟨Ne.symm hg, h⟩
    refine ⟨fun g' l' h => ?_, fun g' l' h x hx => ?_⟩
    · rcases hcases g' l' h with ⟨rfl, rfl⟩ | ⟨-, h'⟩
      · exact ⟨init, _, rfl⟩
      · exact hw.last g' l' h'
    · rcases hcases g' l' h with ⟨rfl, rfl⟩ | ⟨hg, h'⟩
      · rcases List.mem_append.1 hx with hx | hx
        · exact (hw.cur _ _ hl x (List.mem_append_left _ hx)).set (honly _ init part hl x hx) _
        · cases List.mem_singleton.1 hx; exact hnew
      · obtain ⟨i', p', rfl⟩ := hw.last g' l' h'
        refine (hw.cur g' _ h' x hx).set ?_ _
        rcases List.mem_append.1 hx with hx | hx
        · exact honly g' i' p' h' x hx
        · cases List.mem_singleton.1 hx; exact hg

theorem wf_step {ls : List Lineage} (hw : WFLineages ls) (op : Op) (hok : op.useAfterChild ls = false) :
    WFLineages (op.shadow ls) := by
  cases op with
  | use g m =>
    simp only [Op.shadow]
    cases hl : ls[g]? with
    | none => exact hw
    | some l => exact wf_use hw g m l hl hok
  | rawUse m =>
    simp only [Op.shadow]
    cases hl : ls[0]? with
    | none => exact hw
    | some l => exact wf_use hw 0 m l hl hok
  | group p m =>
    simp only [Op.shadow]
    cases hl : ls[p]? with
    | none => exact hw
    | some l => exact wf_group hw p m l hl
  | handle g me k hs => exact hw
  | noRoute hs => exact hw
  | noMethod hs => exact hw

theorem wf_foldl : ∀ (ops : List Op) (ls : List Lineage), WFLineages ls → noUseAfterChild ls ops = true →
    WFLineages (ops.foldl Op.shadow ls)
  | [], _, hw, _ => hw
  | op :: t, ls, hw, h => by
    simp only [noUseAfterChild, Bool.and_eq_true, Bool.not_eq_true'] at h
    exact wf_foldl t (op.shadow ls) (wf_step hw op h.1) h.2

theorem noUseAfterChild_prefix : ∀ (pre post : List Op) (ls : List Lineage),
    noUseAfterChild ls (pre ++ post) = true → noUseAfterChild ls pre = true
  | [], _, _, _ => rfl
  | op :: t, post, ls, h => by
    simp only [List.cons_append, noUseAfterChild, Bool.and_eq_true] at h ⊢
    exact ⟨h.1, noUseAfterChild_prefix t post _ h.2⟩

end Hertz.Chain
