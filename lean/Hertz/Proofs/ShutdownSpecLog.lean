import Hertz.Proofs.ShutdownSpecInv
/-!
The observed event sequence as a log of the state's counters.  An event that a clause reads back leaves a mark in the
state (`Due`: the listener exists, a caller / connection / hook with that index exists and has got that far; `Done` is
`Due` up to the flags the state does not keep, with two more marks, for `C` and `E`, and none for `X`, see there), and every
mark of `Due` is left by an observed event only.  Both directions are facts about single steps of the model; `Log` carries
them along the event sequence, and the invariants of the clauses read the sequence through it.
-/
namespace Hertz.Shutdown
open Hertz.ShutdownSpec (Ev TEv)

/-! ### how one step changes one connection record -/

/-- the three ways action `a` relates the record of connection `c` before and after: a step of its own goroutine,
its removal, or no change -/
inductive Evo (s : State) (a : Act) (c : Nat) (cn cn' : Conn) : Prop
  | step : ConnStep s a c cn cn' → Evo s a c cn cn'
  | gone : a = .connGone c → cn.ph = .closing → cn' = { cn with ph := .gone } → Evo s a c cn cn'
  | other : cn' = cn → (∀ f, connAct s a ≠ some (c, f)) → Evo s a c cn cn'

theorem step_conn_back {cfg : Cfg} {s s' : State} {a : Act} (h : Step cfg s a s') {c : Nat} {cn' : Conn}
    (hc' : s'.conns[c]? = some cn') :
    (∃ cn, s.conns[c]? = some cn ∧ Evo s a c cn cn') ∨ (a = .accept ∧ c = s.conns.length ∧ cn' = {}) := by
  cases h
  case conn c0 f cn0 cn0' hc0 hf hca =>
    left
    rcases set_cases hc' with ⟨hne, hx⟩ | ⟨rfl, rfl⟩
    · refine ⟨cn', hx, .other rfl ?_⟩
      intro f' hf'
      rw [hca] at hf'
      simp at hf'
      exact hne hf'.1
    · exact ⟨cn0, hc0, .step (connStep_of hca hf)⟩
  case connGone c0 cn0 cn0' hc0 hf =>
    left
    rcases set_cases hc' with ⟨hne, hx⟩ | ⟨rfl, rfl⟩
    · exact ⟨cn', hx, .other rfl (by simp [connAct])⟩
    · exact ⟨cn0, hc0, .gone rfl (cGone_some hf).1 (cGone_some hf).2⟩
  case accept =>
    rcases getElem?_snoc hc' with hc' | ⟨hc, rfl⟩
    · exact Or.inl ⟨cn', hc', .other rfl (by simp [connAct])⟩
    · exact Or.inr ⟨rfl, hc, rfl⟩
  all_goals exact Or.inl ⟨cn', hc', .other rfl (by simp [connAct])⟩

/-- what a step of its goroutine, of its peer, or its removal does to a connection record: the counters grow, a closed
peer stays closed, a `Serve` that has returned stays returned -/
structure ConnLe (cn cn' : Conn) : Prop where
  started : cn.started ≤ cn'.started
  acked : cn.acked ≤ cn'.acked
  peer : cn.peerClosed = true → cn'.peerClosed = true
  done : cn.ph = .closing ∨ cn.ph = .gone → cn'.ph = .closing ∨ cn'.ph = .gone

theorem ConnLe.refl (cn : Conn) : ConnLe cn cn := ⟨Nat.le_refl _, Nat.le_refl _, id, id⟩

theorem connStep_le {s : State} {a : Act} {c : Nat} {cn cn' : Conn} (h : ConnStep s a c cn cn') : ConnLe cn cn' :=
  ⟨by cases h <;> simp, by cases h <;> simp, by cases h <;> simp_all, by cases h <;> simp_all⟩

theorem Evo.le {s : State} {a : Act} {c : Nat} {cn cn' : Conn} (h : Evo s a c cn cn') : ConnLe cn cn' := by
  cases h with
  | step h => exact connStep_le h
  | gone _ _ h => exact h ▸ ⟨Nat.le_refl _, Nat.le_refl _, id, fun _ => Or.inr rfl⟩
  | other h _ => exact h ▸ .refl cn

theorem step_conns_len {cfg : Cfg} {s s' : State} {a : Act} (h : Step cfg s a s') : s.conns.length ≤ s'.conns.length := by
  cases h <;> simp

theorem step_callers_len {cfg : Cfg} {s s' : State} {a : Act} (h : Step cfg s a s') : s.callers.length ≤ s'.callers.length := by
  cases h <;> simp

/-- every connection record of `s` is still there in `s'`, moved on by `ConnLe` -/
theorem step_conn_le {cfg : Cfg} {s s' : State} {a : Act} (h : Step cfg s a s') {c : Nat} {cn : Conn}
    (hc : s.conns[c]? = some cn) : ∃ cn', s'.conns[c]? = some cn' ∧ ConnLe cn cn' := by
  have hc' := List.getElem?_eq_getElem (Nat.lt_of_lt_of_le (getElem?_lt hc) (step_conns_len h))
  rcases step_conn_back h hc' with ⟨cn0, hc0, evo⟩ | ⟨_, rfl, _⟩
  · rw [hc] at hc0; cases hc0
    exact ⟨_, hc', evo.le⟩
  · exact absurd (getElem?_lt hc) (Nat.lt_irrefl _)

/-! ### what else a step leaves as it is -/

theorem step_lnSet (cfg : Cfg) {s s' : State} {a : Act} (h : Step cfg s a s') (hl : s.lnSet = true) : s'.lnSet = true := by
  cases h
  case listen => rfl
  all_goals exact hl

theorem step_now_le {cfg : Cfg} {s s' : State} {a : Act} (h : Step cfg s a s') : s.now ≤ s'.now := by
  cases h
  case advance => exact Nat.le_add_right _ _
  all_goals exact Nat.le_refl _

theorem step_hook_done {cfg : Cfg} {s s' : State} {a : Act} (h : Step cfg s a s') {j : Nat} (hj : s.hooks[j]? = some .done) :
    s'.hooks[j]? = some .done := by
  cases h
  case spawn => simp [hj, spawnHook]
  case hookStart j0 hj0 | hookEnd j0 hj0 => exact getElem?_set_of_ne hj0 hj nofun
  all_goals exact hj

theorem spawnHook_eq {p q : HookPh} (h : spawnHook p = q) (hq : q = .running ∨ q = .done) : p = q := by
  rcases hq with rfl | rfl <;> cases p <;> simp_all [spawnHook]

theorem winnerRet_finished {e e' : Err} {q : CallerPh} (h : winnerRet e q = .finished e') : q = .finished e' := by
  cases q <;> simp_all [winnerRet]

/-! ### the marks of the events in the state -/

/-- requests of a connection whose handler is running -/
def inH : ConnPh → Nat
  | .handling _ => 1
  | _ => 0

/-- the event without the flags that the state does not keep (`Q`, `X`: what request and handler asked for; `R`: whether
the response carried `Connection: close`) -/
def strip : Ev → Ev
  | .Q c k _ => .Q c k false
  | .X c k _ => .X c k false
  | .R c k _ co => .R c k false co
  | e => e

/-- the state shows that this event (up to `strip`) must have happened.  `X c k`: request `k` has started and is not the
one whose handler is running (`inH`) -/
def Due (s : State) : Ev → Prop
  | .L => s.lnSet = true
  | .S k => k < s.callers.length
  | .T k err => ∃ e, err = errStr e ∧ s.callers[k]? = some (.finished e)
  | .HS j => s.hooks[j]? = some .running ∨ s.hooks[j]? = some .done
  | .HE j => s.hooks[j]? = some .done
  | .A c => c < s.conns.length
  | .Q c k false => ∃ cn, s.conns[c]? = some cn ∧ k < cn.started
  | .X c k false => ∃ cn, s.conns[c]? = some cn ∧ k + inH cn.ph < cn.started
  | .R c k false true => ∃ cn, s.conns[c]? = some cn ∧ k < cn.acked
  | _ => False

/-- what the state retains of an event once it has been observed: the same marks, and two that are read in this direction
only (`E` has no converse: a connection can end without its client seeing EOF).  No clause reads back an error response
or a dial, and the mark of `X` would need `ConnOk.count` (a handler that returns belongs to a started request), so these
leave none; the events the model never emits (`RR`, `F`, `FN`, an incomplete `R`) are never `Done`. -/
def Done (s : State) : Ev → Prop
  | .C c => ∃ cn, s.conns[c]? = some cn ∧ cn.peerClosed = true
  | .E c => ∃ cn, s.conns[c]? = some cn ∧ (cn.ph = .closing ∨ cn.ph = .gone)
  | .B _ | .X _ _ _ | .Ds _ | .De _ _ => True
  | ev => Due s (strip ev)

/-! ### an observed event is recorded in the state -/

theorem step_done_mono {cfg : Cfg} {s s' : State} {a : Act} (h : Step cfg s a s') {ev : Ev} (hd : Done s ev) : Done s' ev := by
  have conn : ∀ {c} {P : Conn → Prop}, (∀ cn cn', ConnLe cn cn' → P cn → P cn') → (∃ cn, s.conns[c]? = some cn ∧ P cn) →
      ∃ cn, s'.conns[c]? = some cn ∧ P cn := fun hP ⟨cn, hc, hp⟩ =>
    let ⟨cn', hc', hle⟩ := step_conn_le h hc
    ⟨cn', hc', hP cn cn' hle hp⟩
  cases ev <;> simp only [Done, strip, Due] at hd ⊢
  case L => exact step_lnSet cfg h hd
  case S => exact Nat.lt_of_lt_of_le hd (step_callers_len h)
  case A => exact Nat.lt_of_lt_of_le hd (step_conns_len h)
  case Q => exact conn (fun _ _ hle hp => Nat.lt_of_lt_of_le hp hle.started) hd
  case R c k cl co =>
    cases co <;> simp only at hd ⊢
    exact conn (fun _ _ hle hp => Nat.lt_of_lt_of_le hp hle.acked) hd
  case C => exact conn (fun _ _ hle hp => hle.peer hp) hd
  case E => exact conn (fun _ _ hle hp => hle.done hp) hd
  case HE => exact step_hook_done h hd
  case T k err =>
    obtain ⟨e, he, hk⟩ := hd
    refine ⟨e, he, ?_⟩
    cases h
    case shutCall => rw [List.getElem?_append_left (getElem?_lt hk), hk]
    case shutLoad k0 hk0 | casWin k0 hk0 _ | casLose k0 hk0 _ | callerRet k0 _ hk0 => exact getElem?_set_of_ne hk0 hk nofun
    case finish => simp [hk, winnerRet]
    all_goals exact hk
  case HS j =>
    cases h
    case spawn => simpa [spawnHook] using hd.imp (fun h => ⟨_, h, rfl⟩) (fun h => ⟨_, h, rfl⟩)
    case hookStart j0 hj0 => exact hd.imp (fun h => getElem?_set_of_ne hj0 h nofun) (fun h => getElem?_set_of_ne hj0 h nofun)
    case hookEnd j0 hj0 =>
      by_cases hjj : j0 = j
      · subst hjj; exact Or.inr (List.getElem?_set_self (getElem?_lt hj0))
      · rw [List.getElem?_set_ne hjj]; exact hd
    all_goals exact hd

theorem step_done_new {cfg : Cfg} {s s' : State} {a : Act} (h : Step cfg s a s') {ev : Ev} (ho : obsAct s a = some ev) :
    Done s' ev := by
  cases obsOf ho
  case Q c rc cn hc =>
    obtain ⟨x, y, hx, hcs, hy⟩ := h.connStep rfl
    cases hc.symm.trans hx; cases hcs
    exact ⟨_, hy, Nat.lt_succ_self _⟩
  case X | B | Ds | De => exact trivial
  case R c cl cn hc =>
    obtain ⟨x, y, hx, hcs, hy⟩ := h.connStep rfl
    cases hc.symm.trans hx; cases hcs
    exact ⟨_, hy, Nat.lt_succ_self _⟩
  case C c =>
    obtain ⟨x, y, hx, hcs, hy⟩ := h.connStep rfl
    cases hcs; exact ⟨_, hy, rfl⟩
  case E c =>
    obtain ⟨x, y, hx, hcs, hy⟩ := h.connStep rfl
    cases hcs with
    | clientEof _ _ hph _ => exact ⟨_, hy, hph⟩
  all_goals cases h <;> simp only [Done, strip, Due]
  any_goals (rename_i hca; cases hca; done)
  case A.accept => simp
  case S.shutCall => simp
  case T.callerRet hk => exact ⟨_, rfl, List.getElem?_set_self (getElem?_lt hk)⟩
  case HS.hookStart hj => exact Or.inl (List.getElem?_set_self (getElem?_lt hj))
  case HE.hookEnd hj => exact List.getElem?_set_self (getElem?_lt hj)

/-! ### what the state records has been observed -/

/-- a fact `P` about the record of connection `c` in `s'` held of its record in `s` already, unless the connection's own
goroutine or peer has just moved (`hstep` then says what was observed) -/
theorem conn_back {cfg : Cfg} {s s' : State} {a : Act} (h : Step cfg s a s') {c : Nat} {P : Conn → Prop} {Q : Prop}
    (hd : ∃ cn', s'.conns[c]? = some cn' ∧ P cn') (hnew : ¬ P {})
    (hstep : ∀ cn cn', s.conns[c]? = some cn → ConnStep s a c cn cn' → P cn' → P cn ∨ Q)
    (hgone : ∀ cn : Conn, P { cn with ph := .gone } → cn.ph = .closing → P cn) :
    (∃ cn, s.conns[c]? = some cn ∧ P cn) ∨ Q := by
  obtain ⟨cn', hc', hp⟩ := hd
  rcases step_conn_back h hc' with ⟨cn, hc, evo⟩ | ⟨_, _, rfl⟩
  · cases evo with
    | other heq _ => exact Or.inl ⟨cn, hc, heq ▸ hp⟩
    | gone _ hph heq => exact Or.inl ⟨cn, hc, hgone cn (heq ▸ hp) hph⟩
    | step hcs => exact (hstep cn cn' hc hcs hp).imp (fun h => ⟨cn, hc, h⟩) id
  · exact absurd hp hnew

theorem step_due_back {cfg : Cfg} {s s' : State} {a : Act} (h : Step cfg s a s') {ev : Ev} (hd : Due s' ev) :
    Due s ev ∨ ∃ ev', obsAct s a = some ev' ∧ strip ev' = ev := by
  cases ev
  case L =>
    cases h
    case listen => exact Or.inr ⟨_, rfl, rfl⟩
    all_goals exact Or.inl hd
  case S k =>
    replace hd : k < s'.callers.length := hd
    cases h
    case shutCall =>
      by_cases hk : k < s.callers.length
      · exact Or.inl hk
      · rw [List.length_append] at hd
        exact Or.inr ⟨_, rfl, congrArg Ev.S (Nat.le_antisymm (Nat.le_of_not_lt hk) (Nat.le_of_lt_succ hd))⟩
    case shutLoad | casWin | casLose | callerRet => exact Or.inl (by rwa [List.length_set] at hd)
    case finish => exact Or.inl (by rwa [List.length_map] at hd)
    all_goals exact Or.inl hd
  case A c =>
    replace hd : c < s'.conns.length := hd
    cases h
    case accept =>
      by_cases hk : c < s.conns.length
      · exact Or.inl hk
      · rw [List.length_append] at hd
        exact Or.inr ⟨_, rfl, congrArg Ev.A (Nat.le_antisymm (Nat.le_of_not_lt hk) (Nat.le_of_lt_succ hd))⟩
    case conn | connGone => exact Or.inl (by rwa [List.length_set] at hd)
    all_goals exact Or.inl hd
  case T k err =>
    obtain ⟨e, rfl, hk⟩ := hd
    cases h
    case shutCall =>
      rcases getElem?_snoc hk with hk | ⟨_, hk⟩
      · exact Or.inl ⟨e, rfl, hk⟩
      · cases hk
    case shutLoad k0 hk0 =>
      rcases set_cases hk with ⟨_, hk⟩ | ⟨_, hk⟩
      · exact Or.inl ⟨e, rfl, hk⟩
      · split at hk <;> cases hk
    case casWin k0 hk0 _ | casLose k0 hk0 _ =>
      rcases set_cases hk with ⟨_, hk⟩ | ⟨_, hk⟩
      · exact Or.inl ⟨e, rfl, hk⟩
      · cases hk
    case callerRet k0 e0 hk0 =>
      rcases set_cases hk with ⟨_, hk⟩ | ⟨rfl, he⟩
      · exact Or.inl ⟨e, rfl, hk⟩
      · cases he; exact Or.inr ⟨_, rfl, rfl⟩
    case finish e0 _ _ =>
      replace hk : (s.callers.map (winnerRet e0))[k]? = some (.finished e) := hk
      rw [List.getElem?_map, Option.map_eq_some_iff] at hk
      obtain ⟨q, hq, hqe⟩ := hk
      cases winnerRet_finished hqe
      exact Or.inl ⟨e, rfl, hq⟩
    all_goals exact Or.inl ⟨e, rfl, hk⟩
  case HS j =>
    replace hd : s'.hooks[j]? = some .running ∨ s'.hooks[j]? = some .done := hd
    cases h
    case spawn =>
      simp only [List.getElem?_map, Option.map_eq_some_iff] at hd
      refine Or.inl (hd.imp ?_ ?_) <;> rintro ⟨p, hp, hq⟩
      · exact spawnHook_eq hq (Or.inl rfl) ▸ hp
      · exact spawnHook_eq hq (Or.inr rfl) ▸ hp
    case hookStart j0 hj0 =>
      by_cases hjj : j0 = j
      · exact Or.inr ⟨_, rfl, hjj ▸ rfl⟩
      · rw [List.getElem?_set_ne hjj] at hd; exact Or.inl hd
    case hookEnd j0 hj0 =>
      by_cases hjj : j0 = j
      · exact Or.inl (Or.inl (hjj ▸ hj0))
      · rw [List.getElem?_set_ne hjj] at hd; exact Or.inl hd
    all_goals exact Or.inl hd
  case HE j =>
    replace hd : s'.hooks[j]? = some .done := hd
    cases h
    case spawn =>
      simp only [List.getElem?_map, Option.map_eq_some_iff] at hd
      obtain ⟨p, hp, hq⟩ := hd
      exact Or.inl (show s.hooks[j]? = some .done from spawnHook_eq hq (Or.inr rfl) ▸ hp)
    case hookStart j0 hj0 =>
      rcases set_cases hd with ⟨_, hd⟩ | ⟨_, hd⟩
      · exact Or.inl hd
      · cases hd
    case hookEnd j0 hj0 =>
      rcases set_cases hd with ⟨_, hd⟩ | ⟨rfl, _⟩
      · exact Or.inl hd
      · exact Or.inr ⟨_, rfl, rfl⟩
    all_goals exact Or.inl hd
  case Q c k rc =>
    cases rc
    case true => cases hd
    refine conn_back h (P := fun cn => k < cn.started) hd (Nat.not_lt_zero k) (fun cn cn' hc hcs hp => ?_) (fun _ h _ => h)
    cases hcs
    case reqArrive rc _ =>
      rcases Nat.lt_succ_iff_lt_or_eq.1 hp with hp | rfl
      · exact Or.inl hp
      · exact Or.inr ⟨.Q c cn.started rc, by simp [obsAct, hc], rfl⟩
    all_goals exact Or.inl hp
  case X c k b =>
    cases b
    case true => cases hd
    refine conn_back h (P := fun cn => k + inH cn.ph < cn.started) hd (Nat.not_lt_zero _) (fun cn cn' hc hcs hp => ?_)
      (fun cn h hph => by rw [hph]; exact h)
    cases hcs
    case reqArrive hph => rw [hph]; exact Or.inl (Nat.lt_of_succ_lt_succ hp)
    case handlerRet b rc hph =>
      rw [hph]
      rcases Nat.lt_or_ge (k + 1) cn.started with hk | hk
      · exact Or.inl hk
      · have hk' : cn.started - 1 = k := by have : k < cn.started := hp; omega
        exact Or.inr ⟨.X c (cn.started - 1) b, by simp [obsAct, hc], by rw [hk']; rfl⟩
    case exitCheck hph => rw [hph]; exact Or.inl hp
    case writeResp cl g hph => rw [hph]; exact Or.inl (by cases cl <;> exact hp)
    case connDrop hph _ | badReq hph | npClose hph _ => rw [hph]; exact Or.inl hp
    all_goals exact Or.inl hp
  case R c k cl co =>
    cases cl
    case true => cases hd
    cases co
    case false => cases hd
    refine conn_back h (P := fun cn => k < cn.acked) hd (Nat.not_lt_zero k) (fun cn cn' hc hcs hp => ?_) (fun _ h _ => h)
    cases hcs
    case clientRead cl r _ _ =>
      rcases Nat.lt_succ_iff_lt_or_eq.1 hp with hp | rfl
      · exact Or.inl hp
      · exact Or.inr ⟨.R c cn.acked cl true, by simp [obsAct, hc], rfl⟩
    all_goals exact Or.inl hp
  all_goals cases hd

/-! ### the two directions along the event sequence -/

/-- every observed event is recorded in the state (`seen`), everything the state records has been observed (`shown`), and
no time stamp is ahead of the clock -/
structure Log (s : State) (tr : List TEv) : Prop where
  seen : ∀ ev, Has tr ev → Done s ev
  shown : ∀ ev, Due s ev → ∃ ev', Has tr ev' ∧ strip ev' = ev
  time : ∀ e ∈ tr, e.t ≤ s.now

theorem log_init (n : Nat) : Log (init n) [] :=
  ⟨fun _ h => by simp at h,
   fun ev hd => by unfold Due at hd; split at hd <;> simp [init, List.getElem?_replicate] at hd,
   fun _ h => by simp at h⟩

theorem step_log {cfg : Cfg} {s s' : State} {a : Act} {tr : List TEv} (lg : Log s tr) (h : Step cfg s a s') :
    Log s' (tr ++ obsStep s a) := by
  refine ⟨fun ev hh => ?_, fun ev hd => ?_, time_append lg.time (step_now_le h)⟩
  · exact ((has_append ..).1 hh).elim (fun hh => step_done_mono h (lg.seen ev hh)) (fun hh => step_done_new h (has_obsStep.1 hh))
  · rcases step_due_back h hd with hd | ⟨ev', ho, he⟩
    · exact (lg.shown ev hd).imp fun _ h => ⟨h.1.mono _, h.2⟩
    · exact ⟨ev', (has_append ..).2 (Or.inr (has_obsStep.2 ho)), he⟩

/-- the events all of whose arguments the state keeps -/
def plain : Ev → Prop
  | .Q .. | .X .. | .R .. => False
  | _ => True

theorem Log.has {s : State} {tr : List TEv} (lg : Log s tr) {ev : Ev} (hd : Due s ev) (hp : plain ev) : Has tr ev := by
  obtain ⟨ev', h, he⟩ := lg.shown ev hd
  cases ev' <;> first | exact he ▸ h | (subst he; cases hp)

theorem Log.hasQ {s : State} {tr : List TEv} (lg : Log s tr) {c k : Nat} {cn : Conn} (hc : s.conns[c]? = some cn)
    (hk : k < cn.started) : ∃ rc, Has tr (.Q c k rc) := by
  obtain ⟨ev', h, he⟩ := lg.shown (.Q c k false) ⟨cn, hc, hk⟩
  cases ev' <;> cases he
  exact ⟨_, h⟩

theorem Log.hasX {s : State} {tr : List TEv} (lg : Log s tr) {c k : Nat} {cn : Conn} (hc : s.conns[c]? = some cn)
    (hk : k + inH cn.ph < cn.started) : ∃ b, Has tr (.X c k b) := by
  obtain ⟨ev', h, he⟩ := lg.shown (.X c k false) ⟨cn, hc, hk⟩
  cases ev' <;> cases he
  exact ⟨_, h⟩

theorem Log.hasR {s : State} {tr : List TEv} (lg : Log s tr) {c k : Nat} {cn : Conn} (hc : s.conns[c]? = some cn)
    (hk : k < cn.acked) : ∃ cl, Has tr (.R c k cl true) := by
  obtain ⟨ev', h, he⟩ := lg.shown (.R c k false true) ⟨cn, hc, hk⟩
  cases ev' <;> cases he
  exact ⟨_, h⟩

end Hertz.Shutdown
