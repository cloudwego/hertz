import Hertz.Model.Http1.Serve
import Hertz.Spec.Http
import Hertz.Spec.Resp
import Hertz.Proofs.Decimal
/-!
`H1.appendUintDec` (`Model/Http1/Serve.lean`) is `decD` of `Proofs/Decimal.lean` (same namespace); what `ParseUintBuf`,
`parseUint` and the strict decoders' `parseDec` read of it.
-/
namespace Hertz.H1.Dec
open Hertz Hertz.H1

theorem appendUintDec_eq (n : Nat) : appendUintDec n = decD n := toString_toUTF8 n

theorem appendUintDec_digits (n : Nat) : ∀ c ∈ appendUintDec n, 48 ≤ c ∧ c ≤ 57 := by
  rw [appendUintDec_eq]; exact decD_digits n

theorem appendUintDec_ne_nil (n : Nat) : appendUintDec n ≠ [] := by
  rw [appendUintDec_eq]; exact decD_ne_nil n

theorem digit_sub_le (c : UInt8) (h : 48 ≤ c ∧ c ≤ 57) : ¬ (c - 48 : UInt8) > 9 := by
  obtain ⟨h1, h2⟩ := h
  rw [UInt8.le_iff_toNat_le] at h1 h2
  rw [GT.gt, UInt8.lt_iff_toNat_lt, UInt8.toNat_sub_of_le _ _ (by rw [UInt8.le_iff_toNat_le]; exact h1)]
  simp at h1 h2 ⊢
  omega

/-- `hi`: a digit has been read or one follows (a non-digit at `i = 0` is `firstChar`); `hr`: what follows the digits is no digit -/
theorem parseUintAux_digits (l rest : Bytes) (v i : Nat)
    (hd : ∀ c ∈ l, 48 ≤ c ∧ c ≤ 57)
    (hv : val v l < 2 ^ 63)
    (hi : i ≠ 0 ∨ l ≠ [])
    (hr : ∀ c, rest.head? = some c → (c - 48 : UInt8) > 9) :
    parseUintAux v i (l ++ rest) = .ok (val v l, i + l.length) := by
  induction l generalizing v i with
  | nil =>
    have hi : i ≠ 0 := hi.resolve_right (fun h => h rfl)
    cases rest with
    | nil => simp [parseUintAux, val_nil]
    | cons c t =>
      have := hr c rfl
      simp [parseUintAux, this, hi, val_nil]
  | cons c l ih =>
    have hc := digit_sub_le c (hd c (by simp))
    have hle := le_val (10 * v + (c - 48 : UInt8).toNat) l
    rw [val_cons] at hv
    have hov : ¬ v > (2 ^ 63 - 1 - (c - 48 : UInt8).toNat) / 10 := by omega
    rw [List.cons_append, parseUintAux]
    simp only [hc, if_false, hov]
    rw [ih _ _ (fun c hc => hd c (by simp [hc])) hv (Or.inl (by omega)), val_cons]
    simp; omega

theorem parseUintBuf_appendUintDec_append (n : Nat) (h : n < 2 ^ 63) (rest : Bytes)
    (hr : ∀ c, rest.head? = some c → (c - 48 : UInt8) > 9) :
    parseUintBuf (appendUintDec n ++ rest) = .ok (n, (appendUintDec n).length) := by
  rw [appendUintDec_eq]
  have hne := decD_ne_nil n
  unfold parseUintBuf
  rw [show (decD n ++ rest).isEmpty = false by simp [hne]]
  simp only [Bool.false_eq_true, if_false]
  rw [parseUintAux_digits (decD n) rest 0 0 (decD_digits n) (by rw [val_decD]; exact h)
    (Or.inr hne) hr, val_decD, Nat.zero_add]

theorem parseUint_appendUintDec (n : Nat) (h : n < 2 ^ 63) : parseUint (appendUintDec n) = some n := by
  have := parseUintBuf_appendUintDec_append n h [] (by simp)
  rw [List.append_nil] at this
  unfold parseUint
  rw [this]
  simp

theorem specHttp_parseDec_appendUintDec (n : Nat) :
    Hertz.Spec.Http.parseDec (appendUintDec n) = some n := by
  rw [appendUintDec_eq]; exact parseDec_decD n

theorem specResp_parseDec_appendUintDec (n : Nat) :
    Hertz.Spec.Resp.parseDec (appendUintDec n) = some n := by
  rw [appendUintDec_eq]; exact parseDec_decD n

theorem appendUintDec_length_three (n : Nat) (h1 : 100 ≤ n) (h2 : n ≤ 999) :
    (appendUintDec n).length = 3 := by
  obtain ⟨a, b, c, h⟩ := decD_three n h1 h2
  rw [appendUintDec_eq, h]; rfl

theorem appendUintDec_head_ne_zero (n : Nat) (h : 0 < n) : (appendUintDec n).head? ≠ some 48 := by
  rw [appendUintDec_eq]; exact decD_head_ne_zero n h

theorem appendUintDec_zero : appendUintDec 0 = [48] := by
  rw [appendUintDec_eq, decD_lt 0 (by omega)]; rfl

end Hertz.H1.Dec
