import Hertz.Proofs.PrefixStable
/-!
# Prefix stability of the client's response-head parser (C02, client side)

`resp.parse` has no completeness pre-check: a `kv` answer of the scanner is either stable under appended bytes, or its
obs-fold look-ahead ran into the end of the buffer — and then the unconsumed rest contains no line feed, so the next
call says "need more" (`readBlock_stable`, Proofs/PrefixStable).  The loop of `resp.parseHeaders` is a fold over the
block reading (`headersLoop_eq_fold`).  Also here, for the response round trips: `resp.ReadHeaders` one head at a time
(`readHeaders_step`; its fuel suffices: `readHeadersLoop_fuel`).
-/
namespace Hertz.H1
open Hertz

namespace RespRead

/-- `resp.parseHeaders`' loop as a function of the block reading -/
def respFold (dn : Bool) (st : HState) (hl : Nat) (r : List (Bytes × Bytes) × ScanEdit.Stop) :
    Except HeadErr (HState × Nat) :=
  match r.2 with
  | .fin h => .ok (r.1.foldl (fun s kv => applyHeader dn s kv.1 kv.2) st, hl + h)
  | .needMore => .error .needMore
  | .invalidName => .error .bad

theorem headersLoop_eq_fold (dn : Bool) : ∀ (f : Nat) (X : Bytes) (st : HState) (hl : Nat),
    headersLoop dn f X st hl = respFold dn st hl (ScanEdit.readBlock dn f X)
  | 0, X, st, hl => by simp [headersLoop, ScanEdit.readBlock, respFold]
  | f + 1, X, st, hl => by
    cases hs : scanNext dn X with
    | fin n => simp [headersLoop, ScanEdit.readBlock, respFold, hs]
    | needMore => simp [headersLoop, ScanEdit.readBlock, respFold, hs]
    | invalidName => simp [headersLoop, ScanEdit.readBlock, respFold, hs]
    | kv k v rest n =>
      have ih := headersLoop_eq_fold dn f rest (applyHeader dn st k v) (hl + n)
      simp only [headersLoop, ScanEdit.readBlock, hs, ih, respFold]
      cases (ScanEdit.readBlock dn f rest).2 with
      | fin h => simp [Nat.add_assoc]
      | needMore => simp
      | invalidName => simp

theorem headersLoop_append (dn : Bool) (x : Bytes) (fuel fuel' : Nat) (B : Bytes) (st : HState) (hl : Nat)
    (r : Except HeadErr (HState × Nat)) (h : headersLoop dn fuel B st hl = r) (hr : r ≠ .error .needMore)
    (hf : fuel ≤ fuel') : headersLoop dn fuel' (B ++ x) st hl = r := by
  rw [headersLoop_eq_fold] at h ⊢
  rw [ScanEdit.readBlock_stable dn x fuel fuel' B hf]
  · exact h
  · intro hn
    simp only [respFold, hn] at h
    exact hr h.symm

theorem headersLoop_le (dn : Bool) (fuel : Nat) (B : Bytes) (st st' : HState) (hl n : Nat)
    (h : headersLoop dn fuel B st hl = .ok (st', n)) : n ≤ hl + B.length := by
  rw [headersLoop_eq_fold] at h
  cases hs : (ScanEdit.readBlock dn fuel B).2 with
  | fin k =>
    have := ScanEdit.readBlock_fin_le dn fuel B k hs
    simp only [respFold, hs, Except.ok.injEq, Prod.mk.injEq] at h
    omega
  | needMore => simp [respFold, hs] at h
  | invalidName => simp [respFold, hs] at h

theorem parseHeaders_append (dn : Bool) (hd : RespHead) (B x : Bytes) (r : Except HeadErr (RespHead × Nat))
    (h : parseHeaders dn hd B = r) (hr : r ≠ .error .needMore) : parseHeaders dn hd (B ++ x) = r := by
  unfold parseHeaders at h ⊢
  by_cases hnm : headersLoop dn (B.length + 1) B { head := { hd with cl := -2 } } 0 = .error .needMore
  · rw [hnm] at h; exact absurd h.symm hr
  · rw [headersLoop_append dn x _ ((B ++ x).length + 1) B _ 0 _ rfl hnm (by simp)]; exact h

theorem parseHeaders_le (dn : Bool) (hd hd' : RespHead) (B : Bytes) (n : Nat)
    (h : parseHeaders dn hd B = .ok (hd', n)) : n ≤ B.length := by
  obtain ⟨⟨st, k⟩, hl, h⟩ := bind_eq_ok h
  have := headersLoop_le dn _ _ _ _ _ _ hl
  change (if st.err = true then _ else _) = _ at h
  by_cases he : st.err = true
  · rw [if_pos he] at h; cases h
  · rw [if_neg he] at h; cases h; omega

theorem parseFirstLine_append (b x : Bytes) (r : Except HeadErr (RespHead × Nat))
    (h : parseFirstLine b = r) (hr : r ≠ .error .needMore) : parseFirstLine (b ++ x) = r :=
  firstLineThen_append _ b x r h hr

theorem parseFirstLine_consumed (b : Bytes) (hd : RespHead) (m : Nat) (h : parseFirstLine b = .ok (hd, m)) :
    ∃ line, parseFirstLineAux (b.length + 1) b 0 = .ok (line, m) := by
  obtain ⟨⟨line, c⟩, ha, h⟩ := bind_eq_ok h
  refine ⟨line, ?_⟩
  simp only at h
  split at h
  · cases h
  · split at h
    · cases h
    · split at h
      · cases h
      · cases h; exact ha

theorem parseFirstLine_le (b : Bytes) (hd : RespHead) (m : Nat) (h : parseFirstLine b = .ok (hd, m)) :
    m ≤ b.length := by
  obtain ⟨line, ha⟩ := parseFirstLine_consumed b hd m h
  simpa using (parseFirstLineAux_bounds _ _ _ _ _ ha).2

theorem parseFirstLine_pos (b : Bytes) (hd : RespHead) (m : Nat) (h : parseFirstLine b = .ok (hd, m)) : 0 < m := by
  obtain ⟨line, ha⟩ := parseFirstLine_consumed b hd m h
  exact (parseFirstLineAux_bounds _ _ _ _ _ ha).1

/-- **Prefix stability of the client's `resp.parse`.** -/
theorem parseRespHead_append (dn : Bool) (b x : Bytes) (r : Except HeadErr (RespHead × Nat))
    (h : parseRespHead dn b = r) (hr : r ≠ .error .needMore) : parseRespHead dn (b ++ x) = r := by
  unfold parseRespHead at h ⊢
  by_cases hnm : parseFirstLine b = .error .needMore
  · rw [hnm] at h; exact absurd h.symm hr
  rw [parseFirstLine_append b x _ rfl hnm]
  cases hf : parseFirstLine b with
  | error e => rw [hf] at h; exact h
  | ok p =>
    obtain ⟨hd, m⟩ := p
    rw [hf] at h
    simp only [bind, Except.bind] at h ⊢
    rw [List.drop_append_of_le_length (parseFirstLine_le b hd m hf)]
    by_cases hpm : parseHeaders dn hd (List.drop m b) = .error .needMore
    · rw [hpm] at h; exact absurd h.symm hr
    · rw [parseHeaders_append dn hd _ x _ rfl hpm]; exact h

theorem parseRespHead_ok (dn : Bool) (b : Bytes) (hd : RespHead) (n : Nat) (h : parseRespHead dn b = .ok (hd, n)) :
    ∃ hd0 m k, parseFirstLine b = .ok (hd0, m) ∧ parseHeaders dn hd0 (b.drop m) = .ok (hd, k) ∧ n = m + k := by
  obtain ⟨⟨hd0, m⟩, hf, h⟩ := bind_eq_ok h
  obtain ⟨⟨hd1, k⟩, hp, h⟩ := bind_eq_ok h
  cases h
  exact ⟨hd0, m, k, hf, hp, rfl⟩

theorem parseRespHead_le (dn : Bool) (b : Bytes) (hd : RespHead) (n : Nat)
    (h : parseRespHead dn b = .ok (hd, n)) : n ≤ b.length := by
  obtain ⟨hd0, m, k, hf, hp, rfl⟩ := parseRespHead_ok dn b hd n h
  have := parseFirstLine_le b hd0 m hf
  have := parseHeaders_le dn hd0 hd _ k hp
  rw [List.length_drop] at this
  omega

theorem parseRespHead_pos (dn : Bool) (b : Bytes) (hd : RespHead) (n : Nat)
    (h : parseRespHead dn b = .ok (hd, n)) : 0 < n := by
  obtain ⟨hd0, m, k, hf, _, rfl⟩ := parseRespHead_ok dn b hd n h
  have := parseFirstLine_pos b hd0 m hf
  omega

/-- the client's `resp.ReadHeader` retry loop over the segments still to arrive -/
def retryParse (dn : Bool) : Bytes → List Bytes → Except HeadErr (RespHead × Nat)
  | buf, [] => parseRespHead dn buf
  | buf, seg :: segs =>
    match parseRespHead dn buf with
    | .error .needMore => retryParse dn (buf ++ seg) segs
    | r => r

theorem retryParse_eq (dn : Bool) : ∀ (segs : List Bytes) (buf : Bytes),
    retryParse dn buf segs = parseRespHead dn (buf ++ segs.flatten)
  | [], buf => by simp [retryParse]
  | seg :: segs, buf => by
    unfold retryParse
    split
    · rw [retryParse_eq dn segs (buf ++ seg)]; simp
    · rename_i r hr
      simp only [List.flatten_cons]
      exact (parseRespHead_append dn buf _ _ rfl (fun h => hr h)).symm

/-! ### reading a whole response -/

theorem readHeader_append (dn : Bool) (e : End) (s x : Bytes) (hd : RespHead) (s0 : Bytes)
    (h : readHeader dn .stall s = .ok (hd, s0)) : readHeader dn e (s ++ x) = .ok (hd, s0 ++ x) := by
  unfold readHeader at h ⊢
  cases hp : parseRespHead dn s with
  | error err => rw [hp] at h; cases err <;> simp at h
  | ok p =>
    obtain ⟨hd', n⟩ := p
    rw [parseRespHead_append dn s x _ hp (by simp)]
    rw [hp] at h
    simp only [Except.ok.injEq, Prod.mk.injEq] at h ⊢
    have := parseRespHead_le dn s hd' n hp
    rw [List.drop_append_of_le_length this]
    exact ⟨h.1, by rw [h.2]⟩

/-- every head `resp.ReadHeader` accepts takes at least one byte -/
theorem readHeader_shrinks (dn : Bool) (e : End) (s : Bytes) (hd : RespHead) (s0 : Bytes)
    (h : readHeader dn e s = .ok (hd, s0)) : s0.length < s.length := by
  unfold readHeader at h
  cases hp : parseRespHead dn s with
  | error err => rw [hp] at h; cases err <;> cases e <;> simp at h
  | ok p =>
    obtain ⟨hd', n⟩ := p
    have h1 := parseRespHead_pos dn s hd' n hp
    have h2 := parseRespHead_le dn s hd' n hp
    rw [hp] at h
    simp only [Except.ok.injEq, Prod.mk.injEq] at h
    rw [← h.2, List.length_drop]
    omega

/-- the loop of `resp.ReadHeaders` never runs out of fuel: any two fuels above the length give the same result -/
theorem readHeadersLoop_fuel (dn : Bool) (e : End) : ∀ (f1 f2 : Nat) (s : Bytes), s.length < f1 → s.length < f2 →
    readHeadersLoop dn e f1 s = readHeadersLoop dn e f2 s
  | 0, _, _, h, _ => by omega
  | _ + 1, 0, _, _, h => by omega
  | f1 + 1, f2 + 1, s, h1, h2 => by
    unfold readHeadersLoop
    cases hh : readHeader dn e s with
    | error err => rfl
    | ok p =>
      obtain ⟨hd0, s0⟩ := p
      have := readHeader_shrinks dn e s hd0 s0 hh
      simp only
      split
      · exact readHeadersLoop_fuel dn e f1 f2 s0 (by omega) (by omega)
      · rfl

theorem readHeaders_step (dn : Bool) (e : End) (s : Bytes) :
    readHeaders dn e s =
      match readHeader dn e s with
      | .error x => .error x
      | .ok (hd0, s0) => if isInterim hd0.status then readHeaders dn e s0 else .ok (hd0, s0) := by
  unfold readHeaders
  rw [readHeadersLoop]
  cases hh : readHeader dn e s with
  | error err => rfl
  | ok p =>
    obtain ⟨hd0, s0⟩ := p
    have := readHeader_shrinks dn e s hd0 s0 hh
    simp only
    split
    · exact readHeadersLoop_fuel dn e _ _ s0 (by omega) (by omega)
    · rfl

theorem notInterim_of_notSkip (st : Nat) (h : mustSkipCL st = false) : isInterim st = false := by
  cases hi : isInterim st with
  | false => rfl
  | true =>
    simp only [isInterim, Bool.or_eq_true, beq_iff_eq] at hi
    rcases hi with (rfl | rfl) | rfl <;> simp [mustSkipCL] at h

theorem readHeadersLoop_append (dn : Bool) (e : End) (x : Bytes) : ∀ (fuel fuel' : Nat) (s : Bytes) (hd : RespHead)
    (s1 : Bytes), readHeadersLoop dn .stall fuel s = .ok (hd, s1) → fuel ≤ fuel' →
    readHeadersLoop dn e fuel' (s ++ x) = .ok (hd, s1 ++ x)
  | 0, _, _, _, _, h, _ => by simp [readHeadersLoop] at h
  | _ + 1, 0, _, _, _, _, hf => by omega
  | fuel + 1, fuel' + 1, s, hd, s1, h, hf => by
    unfold readHeadersLoop at h ⊢
    cases hh : readHeader dn .stall s with
    | error err => rw [hh] at h; simp at h
    | ok p =>
      obtain ⟨hd0, s0⟩ := p
      rw [readHeader_append dn e s x hd0 s0 hh]
      rw [hh] at h
      simp only at h ⊢
      by_cases h100 : isInterim hd0.status = true
      · rw [if_pos h100] at h ⊢
        exact readHeadersLoop_append dn e x fuel fuel' s0 hd s1 h (by omega)
      · rw [if_neg h100] at h ⊢
        simp only [Except.ok.injEq, Prod.mk.injEq] at h ⊢
        exact ⟨h.1, by rw [h.2]⟩

theorem readHeaders_append (dn : Bool) (e : End) (s x : Bytes) (hd : RespHead) (s1 : Bytes)
    (h : readHeaders dn .stall s = .ok (hd, s1)) : readHeaders dn e (s ++ x) = .ok (hd, s1 ++ x) :=
  readHeadersLoop_append dn e x _ _ s hd s1 h (by simp)

/-- the response says where its body ends (it is not "read until the connection closes"); `cl` is the Content-Length,
`-1` for chunked, `-2` without framing header -/
def Framed (hd : RespHead) : Prop := mustSkipCL hd.status = true ∨ hd.cl ≥ -1

theorem readBodyPart_append (dn : Bool) (mb : Nat) (e : End) (hd : RespHead) (s x : Bytes) (res : Result)
    (hf : Framed hd) (h : readBodyPart dn mb .stall hd s = .ok res) :
    readBodyPart dn mb e hd (s ++ x) = .ok { res with rest := res.rest ++ x } := by
  revert h
  -- by the cases of the definition, as for `continueReadBody_append`; the last is "read until close", which `Framed` excludes
  fun_cases readBodyPart dn mb .stall hd s <;> intro h <;> cases h <;> unfold readBodyPart
  case case1 c1 => rw [if_pos c1]
  case case3 c1 c2 _ c3 _ _ ht => rw [if_neg c1, if_pos c2, if_neg c3, takeBody_append .stall e _ s x _ _ ht]
  case case7 c1 c2 c3 _ _ hb _ _ hr | case8 c1 c2 c3 _ _ hb _ hr =>
    rw [if_neg c1, if_neg c2, if_pos c3, readBodyChunked_append .stall e _ x _ _ [] s _ _ hb (by simp)]
    simp only [readTrailerReq_append _ e hd.trailer _ x _ _ hr]
  case case10 c1 c2 c3 _ _ _ => exact (hf.elim c1 fun _ => by omega).elim

/-- **Client side, whole response.** If a framed response (head, any interim heads before it, body,
trailers) is read completely from `s` while the stream merely stalls after `s`, then on every extension
`s ++ x`, under either way the stream can end, the same response is read and exactly `x` more is left. -/
theorem readResponse_append (dn : Bool) (mb : Nat) (e : End) (s x : Bytes) (res : Result)
    (hf : ∀ hd s1, readHeaders dn .stall s = .ok (hd, s1) → Framed hd)
    (h : readResponse dn mb .stall s = .ok res) :
    readResponse dn mb e (s ++ x) = .ok { res with rest := res.rest ++ x } := by
  unfold readResponse at h ⊢
  cases hh : readHeaders dn .stall s with
  | error err => rw [hh] at h; simp at h
  | ok p =>
    obtain ⟨hd, s1⟩ := p
    rw [readHeaders_append dn e s x hd s1 hh]
    rw [hh] at h
    exact readBodyPart_append dn mb e hd s1 x res (hf hd s1 hh) h

end RespRead

end Hertz.H1
