import Hertz.Proofs.Http1
/-!
What one call of the header scanner (`HeaderScanner.Next`, `scanNext`) reads, by the parts of the buffer: a field is a
name, the colon, the first value line up to its line feed, the continuation lines the obs-fold look-ahead commits to
(`Conts`), and a rest that does not continue the value (`scanNext_field` for any text behind the first line feed,
`FieldAt.scan` / `FieldAt.of_kv` with the look-ahead resolved; `Reads` for the six ways a buffer can look).  What
appended bytes can change, where the answer ends and what it leaves of the blank line that closes the block are read
off these parts.
-/
namespace Hertz.H1
open Hertz

/-! ### the obs-fold look-ahead

`contAux cm cur inLine`, case by case: at a line start (`false`) and inside a line (`true`).  `cm` counts the bytes of the
continuation lines accepted so far, `cur` those of the line being looked at, which count only once its line feed is met. -/

theorem contAux_blank (cm cur : Nat) (c : UInt8) (t : Bytes) (hc : c = 32 ∨ c = 9) :
    contAux cm cur false (c :: t) = contAux cm 1 true t := by
  simp only [contAux, Bool.not_false, if_true, hc]

theorem contAux_nonblank (cm cur : Nat) (c : UInt8) (t : Bytes) (hc : ¬ (c = 32 ∨ c = 9)) :
    contAux cm cur false (c :: t) = cm := by
  simp only [contAux, Bool.not_false, if_true, hc, if_false]

theorem contAux_colon (cm cur : Nat) (t : Bytes) : contAux cm cur true (58 :: t) = cm := by
  simp only [contAux, Bool.not_true, Bool.false_eq_true, if_false, if_true]

theorem contAux_lf (cm cur : Nat) (t : Bytes) : contAux cm cur true (10 :: t) = contAux (cm + cur + 1) 0 false t := by
  simp [contAux]

theorem contAux_inline (cm cur : Nat) (c : UInt8) (t : Bytes) (h58 : c ≠ 58) (h10 : c ≠ 10) :
    contAux cm cur true (c :: t) = contAux cm (cur + 1) true t := by
  simp only [contAux, Bool.not_true, Bool.false_eq_true, if_false, h58, h10]

theorem contAux_add : ∀ (S : Bytes) (cm cur : Nat) (b : Bool), contAux cm cur b S = cm + contAux 0 cur b S
  | [], cm, cur, b => by simp [contAux]
  | c :: t, cm, cur, false => by
    by_cases hc : c = 32 ∨ c = 9
    · rw [contAux_blank _ _ c t hc, contAux_blank _ _ c t hc]; exact contAux_add t cm 1 true
    · rw [contAux_nonblank _ _ c t hc, contAux_nonblank _ _ c t hc]; rfl
  | c :: t, cm, cur, true => by
    by_cases h58 : c = 58
    · subst h58; rw [contAux_colon, contAux_colon]; rfl
    · by_cases h10 : c = 10
      · subst h10
        rw [contAux_lf, contAux_lf, contAux_add t (cm + cur + 1) 0 false, contAux_add t (0 + cur + 1) 0 false]; omega
      · rw [contAux_inline _ _ c t h58 h10, contAux_inline _ _ c t h58 h10]; exact contAux_add t cm (cur + 1) true

theorem contExtra_of_blank (c : UInt8) (t : Bytes) (hc : c = 32 ∨ c = 9) : contExtra (c :: t) = contAux 0 1 true t :=
  contAux_blank 0 0 c t hc

/-- nothing continues a value in front of a byte that is not a blank -/
theorem contExtra_of_nonblank (c : UInt8) (t : Bytes) (hc : ¬ (c = 32 ∨ c = 9)) : contExtra (c :: t) = 0 :=
  contAux_nonblank 0 0 c t hc

theorem contAux_skip (cm : Nat) (T : Bytes) : ∀ (l : Bytes) (cur : Nat), (∀ y ∈ l, y ≠ 58 ∧ y ≠ 10) →
    contAux cm cur true (l ++ T) = contAux cm (cur + l.length) true T
  | [], _, _ => rfl
  | c :: t, cur, h => by
    have hc := h c List.mem_cons_self
    rw [List.cons_append, contAux_inline _ _ c _ hc.1 hc.2, contAux_skip cm T t (cur + 1) fun y hy => h y (List.mem_cons_of_mem _ hy)]
    simp only [List.length_cons]; congr 1; omega

/-- a run of complete continuation lines: each starts with a blank, has no colon, and ends at its line feed -/
inductive Conts : Bytes → Prop
  | nil : Conts []
  | line {c : UInt8} {l C : Bytes} : (c = 32 ∨ c = 9) → (∀ y ∈ l, y ≠ 58 ∧ y ≠ 10) → Conts C → Conts (c :: (l ++ 10 :: C))

/-- the look-ahead commits to continuation lines whatever follows them -/
theorem Conts.extra {C : Bytes} (h : Conts C) (Z : Bytes) : contExtra (C ++ Z) = C.length + contExtra Z := by
  induction h with
  | nil => simp
  | @line c l C hc hl _ ih =>
    rw [List.cons_append, contExtra_of_blank c _ hc, List.append_assoc, contAux_skip 0 _ l 1 hl, List.cons_append, contAux_lf,
      contAux_add, show contAux 0 0 false (C ++ Z) = contExtra (C ++ Z) from rfl, ih]
    simp only [List.length_cons, List.length_append]; omega

theorem Conts.ends {C : Bytes} (h : Conts C) : C = [] ∨ ∃ P, C = P ++ [10] := by
  induction h with
  | nil => exact Or.inl rfl
  | @line c l C _ _ _ ih =>
    rcases ih with rfl | ⟨P, rfl⟩
    · exact Or.inr ⟨c :: l, by simp⟩
    · exact Or.inr ⟨c :: (l ++ 10 :: P), by simp⟩

/-- a line splits at its first colon or line feed -/
theorem inline_split : ∀ (t : Bytes), ∃ l t', t = l ++ t' ∧ (∀ y ∈ l, y ≠ 58 ∧ y ≠ 10) ∧ (t' = [] ∨ ∃ T, t' = 58 :: T ∨ t' = 10 :: T)
  | [] => ⟨[], [], rfl, nofun, Or.inl rfl⟩
  | c :: t => by
    by_cases h : c = 58 ∨ c = 10
    · exact ⟨[], c :: t, rfl, nofun, Or.inr ⟨t, by rcases h with rfl | rfl <;> simp⟩⟩
    · obtain ⟨l, t', rfl, hl, ht'⟩ := inline_split t
      exact ⟨c :: l, t', rfl, List.forall_mem_cons.mpr ⟨⟨fun e => h (Or.inl e), fun e => h (Or.inr e)⟩, hl⟩, ht'⟩

/-- any text is the continuation lines the look-ahead commits to, then a rest that does not continue the value -/
theorem lookahead_split : ∀ (S : Bytes), ∃ C R, S = C ++ R ∧ Conts C ∧ contExtra R = 0
  | [] => ⟨[], [], rfl, .nil, rfl⟩
  | c :: t => by
    by_cases hc : c = 32 ∨ c = 9
    · obtain ⟨l, t', ht, hl, ht'⟩ := inline_split t
      have he : contExtra (c :: t) = contAux 0 (1 + l.length) true t' := by
        rw [ht, contExtra_of_blank c _ hc, contAux_skip 0 _ l 1 hl]
      rcases ht' with rfl | ⟨T, rfl | rfl⟩
      · exact ⟨[], c :: t, rfl, .nil, he⟩
      · exact ⟨[], c :: t, rfl, .nil, he.trans (contAux_colon _ _ _)⟩
      · obtain ⟨C, R, hT, hC, hR⟩ := lookahead_split T
        exact ⟨c :: (l ++ 10 :: C), R, by rw [ht, hT]; simp, .line hc hl hC, hR⟩
    · exact ⟨[], c :: t, rfl, .nil, contExtra_of_nonblank c t hc⟩
termination_by S => S.length
decreasing_by subst ht; simp; omega

theorem Conts.extra_stop {C R : Bytes} (hC : Conts C) (hR : contExtra R = 0) : contExtra (C ++ R) = C.length := by
  rw [hC.extra, hR]; rfl

/-- a look-ahead that commits to nothing has seen a byte that is there to stay (no blank at the line start, a colon in
the line), or has run to the end of a text without line feed -/
theorem contExtra_zero_dry (T : Bytes) (h : contExtra T = 0) :
    (∀ x, contExtra (T ++ x) = 0) ∨ indexByte 10 T = none := by
  match T, h with
  | [], _ => exact Or.inr rfl
  | c :: t, h =>
    by_cases hc : c = 32 ∨ c = 9
    · obtain ⟨l, t', rfl, hl, ht'⟩ := inline_split t
      rw [contExtra_of_blank c _ hc, contAux_skip 0 _ l 1 hl] at h
      rcases ht' with rfl | ⟨T, rfl | rfl⟩
      · refine Or.inr (indexByte_append_none 10 (c :: l) [] (List.forall_mem_cons.mpr ⟨?_, fun y hy => (hl y hy).2⟩) rfl)
        rcases hc with rfl | rfl <;> decide
      · refine Or.inl fun x => ?_
        rw [List.cons_append, contExtra_of_blank c _ hc, List.append_assoc, contAux_skip 0 _ l 1 hl, List.cons_append,
          contAux_colon]
      · rw [contAux_lf, contAux_add] at h; omega
    · exact Or.inl fun x => contExtra_of_nonblank c _ hc

/-! ### the blank line that ends the header block -/

/-- the text, read from a line start, contains the blank line (`ext.ReadRawHeaders` succeeds) -/
def HasBlank (B : Bytes) : Prop := (rawHeadersAux 0 false B).isSome = true
/-- the text, read from inside a line that is already known not to be blank, contains the blank line (the state `2 false`
stands for every such state of the pre-check: `rawAux_nonblank`) -/
def Mid (B : Bytes) : Prop := (rawHeadersAux 2 false B).isSome = true

theorem hasBlank_of_rawHeadersLen {B : Bytes} {k : Nat} (h : rawHeadersLen B = some k) : HasBlank B := by
  unfold HasBlank; unfold rawHeadersLen at h; simp [h]

theorem rawAux_nonblank : ∀ (L : Bytes) (l : Nat) (cr : Bool), (2 ≤ l ∨ (l = 1 ∧ cr = false)) →
    (rawHeadersAux l cr L).isSome = (rawHeadersAux 2 false L).isSome
  | [], _, _, _ => by simp [rawHeadersAux]
  | c :: t, l, cr, h => by
    simp only [rawHeadersAux]
    by_cases hc : c = 10
    · have h1 : ¬ (l = 0 ∨ (l = 1 ∧ cr = true)) := by
        rcases h with h | ⟨h, h'⟩
        · omega
        · simp [h, h']
      simp [hc, h1]
    · simp only [hc, if_false, Option.isSome_map]
      rw [rawAux_nonblank t (l + 1) _ (by omega), rawAux_nonblank t 3 _ (by omega)]

/-- inside a line that is not blank the pre-check runs to the line feed and starts afresh behind it -/
theorem mid_line (T : Bytes) : ∀ P : Bytes, (∀ y ∈ P, y ≠ 10) → (Mid (P ++ 10 :: T) ↔ HasBlank T)
  | [], _ => by
    unfold Mid HasBlank
    simp [rawHeadersAux]
  | c :: P, h => by
    unfold Mid
    simp only [List.cons_append, rawHeadersAux, h c (by simp), if_false, Option.isSome_map]
    rw [rawAux_nonblank _ 3 _ (by omega)]
    exact mid_line T P fun y hy => h y (by simp [hy])

theorem isOWS_ne_lf (c : UInt8) (h : isOWS c = true) : c ≠ 10 := by
  intro hc; subst hc; revert h; decide

/-- a line that is not blank is passed over by the completeness pre-check -/
theorem hasBlank_line (P T : Bytes) (h10 : ∀ y ∈ P, y ≠ 10) (hne : P ≠ []) (hcr : P ≠ [13]) :
    HasBlank (P ++ 10 :: T) ↔ HasBlank T := by
  match P, hne, hcr, h10 with
  | [c], _, hcr, h10 =>
    have hc10 : c ≠ 10 := h10 c (by simp)
    have hc13 : c ≠ 13 := fun h => hcr (by rw [h])
    simp [HasBlank, rawHeadersAux, hc10, hc13]
  | c :: d :: P', _, _, h10 =>
    have hc10 : c ≠ 10 := h10 c (by simp)
    have hd10 : d ≠ 10 := h10 d (by simp)
    show (rawHeadersAux 0 false (c :: d :: (P' ++ 10 :: T))).isSome = true ↔ _
    simp only [rawHeadersAux, hc10, hd10, if_false, Option.isSome_map]
    rw [rawAux_nonblank _ 2 _ (by omega)]
    exact mid_line T P' fun y hy => h10 y (by simp [hy])

theorem Conts.hasBlank {C : Bytes} (h : Conts C) (T : Bytes) : HasBlank (C ++ T) ↔ HasBlank T := by
  induction h with
  | nil => rfl
  | @line c l C hc hl _ ih =>
    have : c :: (l ++ 10 :: C) ++ T = (c :: l) ++ 10 :: (C ++ T) := by simp
    rw [this, hasBlank_line (c :: l) _ (List.forall_mem_cons.mpr ⟨by rcases hc with rfl | rfl <;> decide, fun y hy => (hl y hy).2⟩)
      (by simp) (by intro h; injection h with h _; rcases hc with rfl | rfl <;> cases h), ih]

theorem rawAux_has_lf : ∀ (B : Bytes) (l : Nat) (cr : Bool), (rawHeadersAux l cr B).isSome = true →
    ∃ j, indexByte 10 B = some j
  | [], _, _, h => by simp [rawHeadersAux] at h
  | c :: t, l, cr, h => by
    simp only [indexByte]
    by_cases hc : c = 10
    · exact ⟨0, by simp [hc]⟩
    · simp only [rawHeadersAux, hc, if_false, Option.isSome_map] at h
      obtain ⟨j, hj⟩ := rawAux_has_lf t _ _ h
      exact ⟨j + 1, by simp [hc, hj]⟩

/-! ### one call of `Next` -/

theorem scanNext_crlf (dn : Bool) (t : Bytes) : scanNext dn (13 :: 10 :: t) = .fin 2 := by
  simp [scanNext]

theorem scanNext_lf (dn : Bool) (t : Bytes) : scanNext dn (10 :: t) = .fin 1 := by
  simp [scanNext]

theorem scanNext_nil (dn : Bool) : scanNext dn [] = .needMore := by
  simp [scanNext, indexByte]

/-- a buffer that does not start with an empty line and holds no field: the scanner wants more bytes, or the colon comes
behind the line feed -/
theorem scanNext_nofield (dn : Bool) (B : Bytes) (h1 : ∀ t, B ≠ 13 :: 10 :: t) (h2 : ∀ t, B ≠ 10 :: t) :
    (indexByte 10 B = none → scanNext dn B = .needMore) ∧
    (∀ x, indexByte 10 B = some x → indexByte 58 B = none → scanNext dn B = .needMore) ∧
    (∀ x n, indexByte 10 B = some x → indexByte 58 B = some n → x < n → scanNext dn B = .invalidName) := by
  unfold scanNext
  split
  · exact absurd rfl (h1 _)
  · exact absurd rfl (h2 _)
  · exact ⟨fun h => by simp only [h], fun x hx hn => by simp only [hx, hn], fun x n hx hn hlt => by simp only [hx, hn, if_pos hlt]⟩

/-- the positions `Next` computes for a value: the blanks behind the colon at `n`, the text behind them, its first line feed -/
structure ValuePos (B : Bytes) (n sp : Nat) (B1 : Bytes) (n1 : Nat) : Prop where
  sp_eq : sp = ((B.drop (n + 1)).takeWhile isOWS).length
  b1_eq : B1 = (B.drop (n + 1)).drop sp
  n1_eq : indexByte 10 B1 = some n1

theorem ValuePos.unique {B : Bytes} {n sp sp' : Nat} {B1 B1' : Bytes} {n1 n1' : Nat}
    (p : ValuePos B n sp B1 n1) (q : ValuePos B n sp' B1' n1') : sp = sp' ∧ B1 = B1' ∧ n1 = n1' := by
  have h1 : sp = sp' := p.sp_eq.trans q.sp_eq.symm
  subst h1
  have h2 : B1 = B1' := p.b1_eq.trans q.b1_eq.symm
  subst h2
  exact ⟨rfl, rfl, Option.some.inj (p.n1_eq.symm.trans q.n1_eq)⟩

/-- where the colon and the first line feed of a field stand; such a buffer does not start with an empty line -/
theorem field_positions (name raw T : Bytes) (hn : ∀ x ∈ name, x ≠ 10 ∧ x ≠ 58) (hr : ∀ x ∈ raw, x ≠ 10) :
    indexByte 58 (name ++ 58 :: (raw ++ 10 :: T)) = some name.length ∧
    indexByte 10 (name ++ 58 :: (raw ++ 10 :: T)) = some (name.length + (1 + raw.length)) ∧
    (∀ t, name ++ 58 :: (raw ++ 10 :: T) ≠ 13 :: 10 :: t) ∧ (∀ t, name ++ 58 :: (raw ++ 10 :: T) ≠ 10 :: t) := by
  have hi58 : indexByte 58 (name ++ 58 :: (raw ++ 10 :: T)) = some name.length :=
    indexByte_skip 58 name _ (fun x hx => (hn x hx).2)
  have hi10 : indexByte 10 (name ++ 58 :: (raw ++ 10 :: T)) = some (name.length + (1 + raw.length)) :=
    indexByte_skip' 10 name _ _ (fun x hx => (hn x hx).1)
      (indexByte_skip' 10 [58] _ _ (by decide) (indexByte_skip 10 raw T hr))
  -- the first LF stands behind the colon
  refine ⟨hi58, hi10, fun t h => ?_, fun t h => ?_⟩
  · rw [h] at hi58 hi10; simp [indexByte] at hi10 hi58; omega
  · rw [h] at hi58 hi10; simp [indexByte] at hi10; omega

/-- the positions `Next` computes on a field: the blanks of the first value line, the text behind them, its line feed -/
theorem field_valuePos (name raw T : Bytes) (hr : ∀ x ∈ raw, x ≠ 10) :
    ValuePos (name ++ 58 :: (raw ++ 10 :: T)) name.length (raw.takeWhile isOWS).length (raw.dropWhile isOWS ++ 10 :: T)
      (raw.dropWhile isOWS).length := by
  have hdrop : List.drop (name.length + 1) (name ++ 58 :: (raw ++ 10 :: T)) = raw ++ 10 :: T :=
    List.drop_length_add_append 1
  exact ⟨by rw [hdrop, takeWhile_app_stop _ raw 10 _ (by decide)], by rw [hdrop, drop_takeWhile_app],
    indexByte_skip 10 _ T fun x hx => hr x ((List.dropWhile_sublist _).mem hx)⟩

/-- `HeaderScanner.Next` on `name ":" raw LF T`: the name has no LF and no colon, the first line no LF (its CR, if any,
is the last byte of `raw`).  The look-ahead `contExtra T` decides how much of `T` belongs to the value. -/
theorem scanNext_field (dn : Bool) (name raw T : Bytes) (hn : ∀ x ∈ name, x ≠ 10 ∧ x ≠ 58) (hr : ∀ x ∈ raw, x ≠ 10) :
    scanNext dn (name ++ 58 :: (raw ++ 10 :: T)) =
      let region := trimValue (raw.dropWhile isOWS ++ (10 :: T).take (contExtra T))
      .kv (normalizeKey dn name) (if contExtra T > 0 then foldedValue region else region) (T.drop (contExtra T))
        (name.length + raw.length + contExtra T + 2) := by
  obtain ⟨hi58, hi10, h1, h2⟩ := field_positions name raw T hn hr
  have p := field_valuePos name raw T hr
  have hlen := takeWhile_len_add isOWS raw
  generalize raw.dropWhile isOWS = raw' at p hlen ⊢
  have hdropT : List.drop (raw'.length + 1) (raw' ++ 10 :: T) = T := List.drop_length_add_append 1
  have htake2 : List.take (raw'.length + contExtra T) (raw' ++ 10 :: T) = raw' ++ (10 :: T).take (contExtra T) :=
    List.take_length_add_append _
  have hdrop3 : List.drop (raw'.length + contExtra T + 1) (raw' ++ 10 :: T) = T.drop (contExtra T) := by
    rw [Nat.add_assoc, List.drop_length_add_append]; rfl
  unfold scanNext
  split
  · rename_i heq; exact absurd heq (h1 _)
  · rename_i heq; exact absurd heq (h2 _)
  · rw [hi10, hi58]
    have hlt : ¬ (name.length + (1 + raw.length) < name.length) := by omega
    simp only [hlt, if_false, List.take_left, ← p.sp_eq, ← p.b1_eq, p.n1_eq, hdropT, htake2, hdrop3]
    congr 1
    omega

/-- `B` begins with a field: name, colon, the first value line `raw` (blanks in front included), its line feed, the
continuation lines `C` the look-ahead commits to, then `rest`, which does not continue the value -/
structure FieldAt (B name raw C rest : Bytes) : Prop where
  eq : B = name ++ 58 :: (raw ++ 10 :: (C ++ rest))
  name : ∀ x ∈ name, x ≠ 10 ∧ x ≠ 58
  raw : ∀ x ∈ raw, x ≠ 10
  conts : Conts C
  stop : contExtra rest = 0

/-- the bytes `Next` takes the value from, for the first line `raw` and the continuation lines `C`: they end in front of the
line feed that ends the value (`(10 :: C).take C.length`: the first line's LF and `C` without its last LF, or nothing) -/
def valueRegion (raw C : Bytes) : Bytes := raw.dropWhile isOWS ++ (10 :: C).take C.length

/-- the value `Next` hands out for the first line `raw` and the continuation lines `C` -/
def fieldValue (raw C : Bytes) : Bytes :=
  let region := trimValue (valueRegion raw C)
  if C.length > 0 then foldedValue region else region

theorem FieldAt.scan (dn : Bool) {B name raw C rest : Bytes} (F : FieldAt B name raw C rest) :
    scanNext dn B = .kv (normalizeKey dn name) (fieldValue raw C) rest (name.length + raw.length + C.length + 2) := by
  have ht : (10 :: (C ++ rest)).take C.length = (10 :: C).take C.length :=
    List.take_append_of_le_length (l₁ := 10 :: C) (by simp)
  rw [F.eq, scanNext_field dn name raw _ F.name F.raw, F.conts.extra_stop F.stop, ht, List.drop_left]
  rfl

/-- bytes appended to a field whose rest still does not continue the value -/
theorem FieldAt.append {B name raw C rest : Bytes} (F : FieldAt B name raw C rest) (x : Bytes) (h : contExtra (rest ++ x) = 0) :
    FieldAt (B ++ x) name raw C (rest ++ x) :=
  ⟨by rw [F.eq]; simp, F.name, F.raw, F.conts, h⟩

/-- How `Next` answers, by what the buffer looks like: every answer arises in one of these ways (`scanNext_reads`), so a
hypothesis on the answer leaves only the shapes that give it.  (Not conversely: `noColon` and `late` do not exclude a
buffer that starts with an empty line.) -/
inductive Reads (dn : Bool) (B : Bytes) : Scan → Prop
  | crlf (t : Bytes) : B = 13 :: 10 :: t → Reads dn B (.fin 2)
  | lf (t : Bytes) : B = 10 :: t → Reads dn B (.fin 1)
  | noLf : indexByte 10 B = none → Reads dn B .needMore
  | noColon (x : Nat) : indexByte 10 B = some x → indexByte 58 B = none → Reads dn B .needMore
  | late (x n : Nat) : indexByte 10 B = some x → indexByte 58 B = some n → x < n → Reads dn B .invalidName
  | field {name raw C rest : Bytes} : FieldAt B name raw C rest →
      Reads dn B (.kv (normalizeKey dn name) (fieldValue raw C) rest (name.length + raw.length + C.length + 2))

theorem scanNext_reads (dn : Bool) (B : Bytes) : Reads dn B (scanNext dn B) := by
  by_cases h1 : ∃ t, B = 13 :: 10 :: t
  · obtain ⟨t, rfl⟩ := h1; exact scanNext_crlf dn t ▸ .crlf t rfl
  by_cases h2 : ∃ t, B = 10 :: t
  · obtain ⟨t, rfl⟩ := h2; exact scanNext_lf dn t ▸ .lf t rfl
  obtain ⟨n1, n2, n3⟩ := scanNext_nofield dn B (fun t h => h1 ⟨t, h⟩) (fun t h => h2 ⟨t, h⟩)
  cases hx : indexByte 10 B with
  | none => exact n1 hx ▸ .noLf hx
  | some x =>
    cases hn : indexByte 58 B with
    | none => exact n2 x hx hn ▸ .noColon x hx hn
    | some n =>
      by_cases hlt : x < n
      · exact n3 x n hx hn hlt ▸ .late x n hx hn hlt
      · -- the colon stands before the first line feed: split at both, then at what the look-ahead commits to
        have hne := indexByte_ne (by decide : (58 : UInt8) ≠ 10) B n x hn hx
        have hA := indexByte_drop 10 B x (n + 1) hx (by omega)
        obtain ⟨C, R, hT, hC, hR⟩ := lookahead_split ((B.drop (n + 1)).drop (x - (n + 1) + 1))
        have F : FieldAt B (B.take n) ((B.drop (n + 1)).take (x - (n + 1))) C R := ⟨?_,
          fun y hy => ⟨indexByte_take_ne 10 B x hx y (List.take_subset_take_left B (by omega) hy), indexByte_take_ne 58 B n hn y hy⟩,
          indexByte_take_ne 10 _ _ hA, hC, hR⟩
        · exact F.scan dn ▸ .field F
        rw [← hT, ← indexByte_split 10 _ _ hA]
        exact indexByte_split 58 B n hn

/-- every `kv` answer comes from a field -/
theorem FieldAt.of_kv (dn : Bool) (B k v rest : Bytes) (m : Nat) (hk : scanNext dn B = .kv k v rest m) :
    ∃ name raw C, FieldAt B name raw C rest ∧ k = normalizeKey dn name ∧ v = fieldValue raw C ∧
      m = name.length + raw.length + C.length + 2 := by
  cases hk ▸ scanNext_reads dn B with
  | field F => exact ⟨_, _, _, F, rfl, rfl, rfl⟩

/-! ### where an answer ends, and what appended bytes can change -/

theorem scanNext_rest (dn : Bool) (B : Bytes) (k v rest : Bytes) (m : Nat) (h : scanNext dn B = .kv k v rest m) :
    B.drop m = rest ∧ rest.length < B.length ∧ (HasBlank B → HasBlank rest) ∧
      m + rest.length = B.length ∧ contExtra rest = 0 := by
  obtain ⟨name, raw, C, F, -, -, rfl⟩ := FieldAt.of_kv dn B k v rest m h
  refine ⟨?_, by rw [F.eq]; simp; omega, fun hb => ?_, by rw [F.eq]; simp; omega, F.stop⟩
  · rw [F.eq, show name ++ 58 :: (raw ++ 10 :: (C ++ rest)) = (name ++ 58 :: (raw ++ 10 :: C)) ++ rest by simp]
    exact List.drop_left' (by simp; omega)
  · have e : B = (name ++ 58 :: raw) ++ 10 :: (C ++ rest) := by rw [F.eq]; simp
    rw [e, hasBlank_line _ _ (by
        intro y hy
        rcases List.mem_append.mp hy with hy | hy
        · exact (F.name y hy).1
        · rcases List.mem_cons.mp hy with rfl | hy
          · decide
          · exact F.raw y hy) (by simp) (by
        intro h
        rcases name with _ | ⟨a, _ | _⟩ <;> simp at h), F.conts.hasBlank] at hb
    exact hb

/-- the empty line that ends the block -/
theorem scanNext_fin (dn : Bool) (B : Bytes) (n : Nat) (h : scanNext dn B = .fin n) :
    HasBlank B ∧ n ≤ B.length := by
  cases h ▸ scanNext_reads dn B with
  | crlf t e => subst e; exact ⟨by simp [HasBlank, rawHeadersAux], by simp⟩
  | lf t e => subst e; exact ⟨by simp [HasBlank, rawHeadersAux], by simp⟩

theorem scanNext_no_lf (dn : Bool) (B : Bytes) (h : indexByte 10 B = none) : scanNext dn B = .needMore := by
  have r := scanNext_reads dn B
  generalize scanNext dn B = s at r ⊢
  cases r with
  | crlf t e => subst e; simp [indexByte] at h
  | lf t e => subst e; simp [indexByte] at h
  | noLf => rfl
  | noColon => rfl
  | late x _ hx => rw [h] at hx; cases hx
  | @field name raw _ _ F => rw [F.eq, (field_positions name raw _ F.name F.raw).2.1] at h; cases h

/-- appending bytes to the unconsumed rest of a scanner answer -/
def Scan.app : Scan → Bytes → Scan
  | .kv k v rest n, x => .kv k v (rest ++ x) n
  | s, _ => s

/-- a `kv` answer whose unconsumed rest contains no line feed: its look-ahead ran into the end of the buffer.  With a value of
several lines this is `ScanEdit.dryFold`; the need-more rule of `Next` (`ScanEdit.openFold`) fires on some of those -/
def DryKV (s : Scan) : Prop := ∃ k v rest m, s = .kv k v rest m ∧ indexByte 10 rest = none

/-- a buffer with a line feed that is not answered `fin` does not come to start with an empty line when bytes are appended -/
theorem noshape_append (dn : Bool) (B Z : Bytes) (h10 : ∃ x, indexByte 10 B = some x) (hs : ∀ n, scanNext dn B ≠ .fin n) :
    (∀ t, B ++ Z ≠ 13 :: 10 :: t) ∧ (∀ t, B ++ Z ≠ 10 :: t) := by
  match B, h10, hs with
  | [], ⟨x, hx⟩, _ => cases hx
  | [c], ⟨x, hx⟩, hs =>
    have hc : c = 10 := by
      apply Classical.byContradiction; intro hc; simp [indexByte, hc] at hx
    exact absurd (hc ▸ scanNext_lf dn []) (hs 1)
  | c :: d :: t, _, hs =>
    refine ⟨fun t' h => ?_, fun t' h => ?_⟩
    · obtain ⟨hc, h⟩ := List.cons.inj h
      obtain ⟨hd, -⟩ := List.cons.inj h
      exact hs 2 (hc ▸ hd ▸ scanNext_crlf dn t)
    · exact hs 1 ((List.cons.inj h).1 ▸ scanNext_lf dn _)

/-- an answer stands when bytes are appended, or its look-ahead ran into the end of the buffer -/
theorem scanNext_append_or_dry (dn : Bool) (B : Bytes) (hne : scanNext dn B ≠ .needMore) :
    (∀ x, scanNext dn (B ++ x) = (scanNext dn B).app x) ∨ DryKV (scanNext dn B) := by
  have r := scanNext_reads dn B
  generalize hs : scanNext dn B = s at r hne ⊢
  cases r with
  | crlf t e => subst e; exact Or.inl fun x => scanNext_crlf dn (t ++ x)
  | lf t e => subst e; exact Or.inl fun x => scanNext_lf dn (t ++ x)
  | noLf => exact absurd rfl hne
  | noColon => exact absurd rfl hne
  | late x n hx hn hlt =>
    refine Or.inl fun z => ?_
    obtain ⟨s1, s2⟩ := noshape_append dn B z ⟨x, hx⟩ (by rw [hs]; simp)
    exact (scanNext_nofield dn (B ++ z) s1 s2).2.2 x n (indexByte_append 10 B z x hx) (indexByte_append 58 B z n hn) hlt
  | @field _ _ _ R F =>
    rcases contExtra_zero_dry R F.stop with hz | hd
    · exact Or.inl fun x => (F.append x (hz x)).scan dn
    · exact Or.inr ⟨_, _, _, _, rfl, hd⟩

/-- with the blank line ahead no answer runs dry -/
theorem scanNext_append (dn : Bool) (B x : Bytes) (hb : HasBlank B) (hne : scanNext dn B ≠ .needMore) :
    scanNext dn (B ++ x) = (scanNext dn B).app x := by
  rcases scanNext_append_or_dry dn B hne with h | ⟨k, v, rest, m, hk, hd⟩
  · exact h x
  · obtain ⟨j, hj⟩ := rawAux_has_lf rest 0 false ((scanNext_rest dn B k v rest m hk).2.2.1 hb)
    rw [hj] at hd; cases hd

/-- with the blank line ahead the scanner wants more only on a line without a colon; a colon that arrives later comes
behind the line feed -/
theorem scanNext_needMore_append (dn : Bool) (B x : Bytes) (hb : HasBlank B) (h : scanNext dn B = .needMore) :
    scanNext dn (B ++ x) = .needMore ∨ scanNext dn (B ++ x) = .invalidName := by
  obtain ⟨j, hj⟩ := rawAux_has_lf B 0 false hb
  cases h ▸ scanNext_reads dn B with
  | noLf h' => rw [hj] at h'; cases h'
  | noColon _ _ hn =>
    obtain ⟨s1, s2⟩ := noshape_append dn B x ⟨j, hj⟩ (by rw [h]; simp)
    obtain ⟨_, n2, n3⟩ := scanNext_nofield dn (B ++ x) s1 s2
    cases hn' : indexByte 58 (B ++ x) with
    | none => exact Or.inl (n2 j (indexByte_append 10 B x j hj) hn')
    | some n' =>
      have := indexByte_append_ge 58 B x n' hn hn'
      have := indexByte_lt 10 B j hj
      exact Or.inr (n3 j n' (indexByte_append 10 B x j hj) hn' (by omega))

end Hertz.H1
