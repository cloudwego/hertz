import Hertz.Model.HttpDate
/-!
Proofs about `Model/HttpDate.lean`: the day-number / civil-date bijection, the shape of the formatted date and the round trip
`parseRFC1123 (formatHTTPDate t) = t` for every `t` whose year has four digits.
-/
namespace Hertz.HttpDate
open Hertz

/-! ### the years: where each begins, and that a day lies in one only

Both functions count years and months from March, so that the leap day is the last day of a year.  `z` is day `doy` of the
March-based year `y` (`YearDay`) for one pair `(y, doy)` only, because the year starts increase by at least the length of the
year; `civilFromDays z` finds such a pair and `daysFromCivil` is built from one, so neither inverse has to be computed. -/

theorem isLeap_iff (y : Int) : isLeap y = true ↔ (y % 4 = 0 ∧ (y % 100 ≠ 0 ∨ y % 400 = 0)) := by
  simp [isLeap]

theorem leap01 (y : Int) : 0 ≤ (if isLeap y then (1 : Int) else 0) ∧ (if isLeap y then (1 : Int) else 0) ≤ 1 := by
  split <;> decide

/-- days from 1 March of year 0 to 1 March of year `y` -/
def yearStart (y : Int) : Int := 365 * y + y / 4 - y / 100 + y / 400

/-- the March-based year `y` ends with the February of `y + 1` -/
theorem yearStart_succ (y : Int) : yearStart y + 365 + (if isLeap (y + 1) then 1 else 0) ≤ yearStart (y + 1) := by
  unfold yearStart
  split
  · rename_i h
    rw [isLeap_iff] at h
    omega
  · omega

theorem yearStart_mono (a b : Int) (hab : a ≤ b) : yearStart a ≤ yearStart b := by
  obtain ⟨n, rfl⟩ := Int.le.dest hab
  induction n with
  | zero => exact Int.le_of_eq (by rw [Int.natCast_zero, Int.add_zero])
  | succ n ih =>
    have := yearStart_succ (a + n)
    have := ih (Int.le_add_of_nonneg_right (Int.natCast_nonneg n))
    have := (leap01 (a + n + 1)).1
    rw [Int.natCast_succ, ← Int.add_assoc]
    omega

/-- the day number `z` is day `doy` (from 0) of the March-based year `y` -/
def YearDay (z y doy : Int) : Prop :=
  z + 719468 = yearStart y + doy ∧ 0 ≤ doy ∧ doy ≤ 364 + if isLeap (y + 1) then 1 else 0

theorem YearDay.year_le {z y1 d1 y2 d2 : Int} (h1 : YearDay z y1 d1) (h2 : YearDay z y2 d2) : y2 ≤ y1 := by
  apply Int.not_lt.1
  intro hlt
  have := yearStart_succ y1
  have := yearStart_mono (y1 + 1) y2 hlt
  have := h1.1.symm.trans h2.1
  have := h1.2.2
  have := h2.2.1
  omega

theorem YearDay.unique {z y1 d1 y2 d2 : Int} (h1 : YearDay z y1 d1) (h2 : YearDay z y2 d2) : y1 = y2 ∧ d1 = d2 := by
  obtain rfl : y1 = y2 := Int.le_antisymm (h2.year_le h1) (h1.year_le h2)
  exact ⟨rfl, Int.add_left_cancel (h1.1.symm.trans h2.1)⟩

/-- what `daysFromCivil` computes; the split into eras of 400 years only keeps its quotients non-negative -/
theorem dfc_eq (y m d : Int) : daysFromCivil y m d =
    yearStart (if m ≤ 2 then y - 1 else y) + (153 * (if m > 2 then m - 3 else m + 9) + 2) / 5 + d - 1 - 719468 := by
  simp only [daysFromCivil, yearStart]
  generalize (if m ≤ 2 then y - 1 else y) = y'
  generalize (153 * (if m > 2 then m - 3 else m + 9) + 2) / 5 = g
  omega

/-- the civil year of a March-based year, and back: January and February belong to the next one -/
theorem year_iff (y y' m : Int) : y' + (if m ≤ 2 then 1 else 0) = y ↔ y' = if m ≤ 2 then y - 1 else y := by
  omega

/-! ### `civilFromDays` finds the year and the day in it -/

/-- `a`, `b`, `c`, `doy`: the centuries, four-year cycles, years and days that make up day `doe` of a 400-year era; a year has
a 366th day only at the end of a four-year cycle that does not end a century, or at the end of the era -/
def EraDay (doe a b c doy : Int) : Prop :=
  doe = 36524 * a + 1461 * b + 365 * c + doy ∧ (0 ≤ a ∧ a ≤ 3) ∧ (0 ≤ b ∧ b ≤ 24) ∧ (0 ≤ c ∧ c ≤ 3) ∧
    (0 ≤ doy ∧ doy ≤ 365) ∧ (doy = 365 → c = 3 ∧ (b ≤ 23 ∨ a = 3))

theorem splitDoe (doe : Int) (h0 : 0 ≤ doe) (h1 : doe ≤ 146096) :
    EraDay doe (min (doe / 36524) 3) ((doe - min (doe / 36524) 3 * 36524) / 1461)
      (min ((doe - min (doe / 36524) 3 * 36524) % 1461 / 365) 3)
      ((doe - min (doe / 36524) 3 * 36524) % 1461 - min ((doe - min (doe / 36524) 3 * 36524) % 1461 / 365) 3 * 365) := by
  unfold EraDay
  omega

theorem EraDay.yearDay {doe a b c doy : Int} (h : EraDay doe a b c doy) (era z : Int) (hz : z + 719468 = era * 146097 + doe) :
    YearDay z (100 * a + 4 * b + c + era * 400) doy := by
  obtain ⟨hdoe, ha, hb, hc, hd, hl⟩ := h
  refine ⟨?_, hd.1, ?_⟩
  · unfold yearStart
    omega
  · split
    · omega
    · rename_i hn
      rw [isLeap_iff] at hn
      omega

/-- what `civilFromDays` computes: the March-based year `y` and the day `doy` in it, and from `doy` the month and the day -/
theorem civil_eq (z : Int) : ∃ y doy mp : Int, YearDay z y doy ∧ mp = (5 * doy + 2) / 153 ∧
    civilFromDays z =
      (y + (if (if mp < 10 then mp + 3 else mp - 9) ≤ 2 then 1 else 0),
       (if mp < 10 then mp + 3 else mp - 9), doy - (153 * mp + 2) / 5 + 1) := by
  have h1 := Int.emod_lt_of_pos (z + 719468) (show (0 : Int) < 146097 by decide)
  refine ⟨_, _, _, (splitDoe ((z + 719468) % 146097) (Int.emod_nonneg _ (by decide)) (by omega)).yearDay
    ((z + 719468) / 146097) z ?_, rfl, rfl⟩
  have := Int.mul_ediv_add_emod (z + 719468) 146097
  omega

/-- month `m` (1 = January) against `mp` (0 = March) -/
theorem month_iff (m mp : Int) : (0 ≤ mp ∧ mp ≤ 11 ∧ (if mp < 10 then mp + 3 else mp - 9) = m) ↔
    (1 ≤ m ∧ m ≤ 12 ∧ mp = if m > 2 then m - 3 else m + 9) := by
  omega

/-- day `doy` of a March-based year of `365 + l` days against day `d` of month `mp`: the months are as long as the 153-day
formula has them; only February, the last, is cut short -/
theorem day_iff (doy mp d l : Int) (hl : 0 ≤ l ∧ l ≤ 1) :
    (0 ≤ doy ∧ doy ≤ 364 + l ∧ mp = (5 * doy + 2) / 153 ∧ d = doy - (153 * mp + 2) / 5 + 1) ↔
    (0 ≤ mp ∧ mp ≤ 11 ∧ 1 ≤ d ∧ (d ≤ if mp = 11 then 28 + l else (153 * (mp + 1) + 2) / 5 - (153 * mp + 2) / 5) ∧
      doy = (153 * mp + 2) / 5 + d - 1) := by
  constructor
  · omega
  · omega

/-- day number → civil date → day number is the identity, for every day number. -/
theorem days_civil_days (z : Int) :
    daysFromCivil (civilFromDays z).1 (civilFromDays z).2.1 (civilFromDays z).2.2 = z := by
  obtain ⟨y, doy, mp, ⟨hz, hd0, hd1⟩, hmp, hc⟩ := civil_eq z
  obtain ⟨hmp0, hmp1, _, _, hdoy⟩ := (day_iff doy mp _ _ (leap01 _)).1 ⟨hd0, hd1, hmp, rfl⟩
  rw [hc, dfc_eq]
  simp only []
  generalize hm : (if mp < 10 then mp + 3 else mp - 9) = m
  rw [← ((month_iff m mp).1 ⟨hmp0, hmp1, hm⟩).2.2, ← (year_iff _ y m).1 rfl]
  omega

theorem daysIn_eq (y m mp : Int) (hm1 : 1 ≤ m) (hm2 : m ≤ 12) (hmp : mp = if m > 2 then m - 3 else m + 9) :
    daysIn m y = if mp = 11 then 28 + (if isLeap ((if m ≤ 2 then y - 1 else y) + 1) then 1 else 0)
      else (153 * (mp + 1) + 2) / 5 - (153 * mp + 2) / 5 := by
  have hmm : m = 1 ∨ m = 2 ∨ m = 3 ∨ m = 4 ∨ m = 5 ∨ m = 6 ∨ m = 7 ∨ m = 8 ∨ m = 9 ∨ m = 10 ∨ m = 11 ∨ m = 12 := by
    omega
  rcases hmm with h | h | h | h | h | h | h | h | h | h | h | h
  case inr.inl =>
    subst h; subst hmp; unfold daysIn
    rw [if_pos (show (2 : Int) ≤ 2 by decide), Int.sub_add_cancel]
    cases isLeap y <;> rfl
  all_goals
    subst h; subst hmp; rfl

/-- `civilFromDays` yields a date of the calendar: month 1..12, day 1..`daysIn`. -/
theorem civil_valid (z : Int) :
    1 ≤ (civilFromDays z).2.1 ∧ (civilFromDays z).2.1 ≤ 12 ∧ 1 ≤ (civilFromDays z).2.2 ∧
      (civilFromDays z).2.2 ≤ daysIn (civilFromDays z).2.1 (civilFromDays z).1 := by
  obtain ⟨y, doy, mp, ⟨_, hd0, hd1⟩, hmp, hc⟩ := civil_eq z
  obtain ⟨hmp0, hmp1, k1, k2, _⟩ := (day_iff doy mp _ _ (leap01 _)).1 ⟨hd0, hd1, hmp, rfl⟩
  rw [hc]
  simp only []
  generalize hm : (if mp < 10 then mp + 3 else mp - 9) = m
  obtain ⟨hm1, hm2, hmp'⟩ := (month_iff m mp).1 ⟨hmp0, hmp1, hm⟩
  rw [daysIn_eq _ m mp hm1 hm2 hmp', ← (year_iff _ y m).1 rfl]
  exact ⟨hm1, hm2, k1, k2⟩

/-- civil date → day number → civil date is the identity on the dates of the calendar. -/
theorem civil_days_civil (y m d : Int) (hm1 : 1 ≤ m) (hm2 : m ≤ 12) (hd1 : 1 ≤ d) (hd2 : d ≤ daysIn m y) :
    civilFromDays (daysFromCivil y m d) = (y, m, d) := by
  obtain ⟨y', doy', mp', hyd, hmp', hc⟩ := civil_eq (daysFromCivil y m d)
  rw [hc]
  rw [daysIn_eq y m _ hm1 hm2 rfl] at hd2
  have hy := (year_iff y _ m).2 rfl
  obtain ⟨hmp0, hmp1, k6⟩ := (month_iff m _).2 ⟨hm1, hm2, rfl⟩
  rw [dfc_eq] at hyd
  generalize (if m > 2 then m - 3 else m + 9) = mp at *
  generalize (if m ≤ 2 then y - 1 else y) = y0 at *
  obtain ⟨k1, k2, k4, k5⟩ := (day_iff _ mp d _ (leap01 _)).2 ⟨hmp0, hmp1, hd1, hd2, rfl⟩
  -- the day number is a day of the year `daysFromCivil` counted from, so this is the year `civilFromDays` found
  obtain ⟨rfl, rfl⟩ := hyd.unique (y2 := y0) ⟨by omega, k1, k2⟩
  rw [hmp', ← k4, ← k5, k6, hy]

/-- the year of a day number inside `[0000-01-01, 9999-12-31]` has four digits -/
theorem civil_year_range (z : Int) (h1 : -719528 ≤ z) (h2 : z ≤ 2932896) :
    0 ≤ (civilFromDays z).1 ∧ (civilFromDays z).1 ≤ 9999 := by
  obtain ⟨y, doy, mp, ⟨hz, hd0, hd1⟩, hmp, hc⟩ := civil_eq z
  rw [hc]
  simp only []
  -- January and February are the days from the 307th on
  have hm : (if (if mp < 10 then mp + 3 else mp - 9) ≤ 2 then (1 : Int) else 0) = if doy ≥ 306 then 1 else 0 := by
    omega
  rw [hm]
  -- the range begins 60 days before the end of the March-based year -1 and ends 60 days before the end of 9999
  have e : yearStart (-1) = -366 ∧ yearStart 9999 = 3652059 ∧ yearStart 10000 = 3652425 := by decide
  have := (leap01 (y + 1)).2
  have := yearStart_succ y
  have := yearStart_mono y (-1)
  have := yearStart_mono (y + 1) (-1)
  have := yearStart_mono 9999 y
  have := yearStart_mono 10000 y
  omega

/-! ### field by field: what a formatter writes, its parser reads -/

theorem dig_mod (x : Nat) : isDig (dig (x % 10)) = true ∧ dv (dig (x % 10)) = x % 10 ∧ (dig (x % 10) == 32) = false := by
  have h : x % 10 < 10 := Nat.mod_lt _ (by decide)
  generalize x % 10 = d at h
  match d, h with
  | 0, _ | 1, _ | 2, _ | 3, _ | 4, _ | 5, _ | 6, _ | 7, _ | 8, _ | 9, _ => decide
  | _ + 10, h => omega

theorem getnum_pad2 (n : Nat) (h : n < 100) (r : Bytes) :
    getnum2 (pad2 n ++ r) = some (n, r) ∧ getnum12 (pad2 n ++ r) = some (n, r) := by
  have e : n / 10 % 10 * 10 + n % 10 = n := by omega
  simp [pad2, getnum2, getnum12, dig_mod, e]

theorem getYear4_pad4 (n : Nat) (h : n < 10000) (r : Bytes) : getYear4 (pad4 n ++ r) = some (n, r) := by
  have e : n / 1000 % 10 * 1000 + n / 100 % 10 * 100 + n / 10 % 10 * 10 + n % 10 = n := by omega
  simp [pad4, getYear4, dig_mod, e]

/-- a blank before a number is skipped, and only the blank -/
theorem skipSp_pad (n : Nat) (r : Bytes) : skipSp (32 :: (pad2 n ++ r)) = some (pad2 n ++ r) ∧
    skipSp (32 :: (pad4 n ++ r)) = some (pad4 n ++ r) := by
  simp [skipSp, pad2, pad4, dig_mod]

theorem name3_get (tab : List (UInt8 × UInt8 × UInt8)) (i : Nat) (h : i < tab.length) :
    name3 tab i = [tab[i].1, tab[i].2.1, tab[i].2.2] := by
  unfold name3
  rw [List.getElem?_eq_getElem h]

/-- every name of the two tables is found at its own index, and none begins with a blank -/
theorem tabs_ok :
    (∀ i, (h : i < dayTab.length) → lookup3 dayTab dayTab[i].1 dayTab[i].2.1 dayTab[i].2.2 = some i ∧ dayTab[i].1 ≠ 32) ∧
    ∀ i, (h : i < monthTab.length) →
      lookup3 monthTab monthTab[i].1 monthTab[i].2.1 monthTab[i].2.2 = some i ∧ monthTab[i].1 ≠ 32 := by
  decide

theorem yearBytes_range (y : Int) (h0 : 0 ≤ y) (h1 : y ≤ 9999) : yearBytes y = pad4 y.toNat := by
  unfold yearBytes
  have h2 : ¬ y < 0 := by omega
  have h3 : y.natAbs < 10000 := by omega
  have h4 : y.natAbs = y.toNat := by omega
  rw [h4] at h3 ⊢
  simp only [h2, h3, if_false, if_true, List.nil_append]

theorem skipSp_ne (c : UInt8) (r : Bytes) (h : c ≠ 32) : skipSp (32 :: c :: r) = some (c :: r) := by
  simp [skipSp, h]

theorem tail_gmt : fracPart [32, 71, 77, 84] = (0, [32, 71, 77, 84]) ∧ skipSp [32, 71, 77, 84] = some [71, 77, 84] ∧
    parseZone [71, 77, 84] = some ([71, 77, 84], 0, []) := by decide

/-- the fields of the clock are in range and together the second of the day -/
theorem clock_fields (s : Nat) (h : s < 86400) : s / 3600 < 24 ∧ s % 3600 / 60 < 60 ∧ s % 60 < 60 ∧
    ((s / 3600 : Nat) : Int) * 3600 + ((s % 3600 / 60 : Nat) : Int) * 60 + ((s % 60 : Nat) : Int) = s := by
  omega

/-- day, month and year as the natural numbers that are written -/
theorem date_fields (y m d : Int) (hy : 0 ≤ y) (hy1 : y ≤ 9999) (hm : 1 ≤ m) (hd : 1 ≤ d) (hd1 : d ≤ 31) :
    y.toNat < 10000 ∧ d.toNat < 100 ∧ ¬ d.toNat < 1 ∧ ((y.toNat : Nat) : Int) = y ∧ ((m.toNat - 1 + 1 : Nat) : Int) = m ∧
      ((d.toNat : Nat) : Int) = d := by
  omega

theorem daysIn_le (m y : Int) : daysIn m y ≤ 31 := by
  unfold daysIn
  split
  · split <;> decide
  · split <;> decide

/-- `ParseInLocation(RFC1123, AppendHTTPDate(t), UTC)` gives `t` back (zone `GMT`, offset 0), for every `t` whose year has
four digits. -/
theorem parse_format (t : Int) (h1 : minSec ≤ t) (h2 : t < maxSec) :
    parseRFC1123 (formatHTTPDate t) = some { sec := t, nsec := 0, zone := [71, 77, 84], zoneOff := 0 } := by
  unfold minSec at h1
  unfold maxSec at h2
  have hsl : (t % 86400).toNat < 86400 := by omega
  have e7 : t / 86400 * 86400 + ((t % 86400).toNat : Int) = t := by omega
  have hyr := civil_year_range (t / 86400) (by omega) (by omega)
  have hv := civil_valid (t / 86400)
  have hdcd := days_civil_days (t / 86400)
  have hwd : weekday (t / 86400) < dayTab.length := by unfold weekday; show _ < 7; omega
  unfold parseRFC1123 formatHTTPDate
  simp only []
  generalize civilFromDays (t / 86400) = c at hyr hv hdcd
  obtain ⟨y, m, d⟩ := c
  simp only [] at hyr hv hdcd ⊢
  have hd31 := Int.le_trans hv.2.2.2 (daysIn_le m y)
  have hm1 : m.toNat - 1 < monthTab.length := by show _ < 12; omega
  obtain ⟨hml, hm32⟩ := tabs_ok.2 _ hm1
  generalize (t % 86400).toNat = s at hsl e7
  obtain ⟨c1, c2, c3, c4⟩ := clock_fields s hsl
  obtain ⟨k1, k2, k3, k4, k5, k6⟩ := date_fields y m d hyr.1 hyr.2 hv.1 hv.2.2.1 hd31
  rw [name3_get _ _ hwd, name3_get _ _ hm1, yearBytes_range y hyr.1 hyr.2]
  -- `parseLayout` reads the text field by field, each field by the lemma of its formatter
  simp only [List.cons_append, List.nil_append, parseLayout, (tabs_ok.1 _ hwd).1, skipLit, if_true, Option.bind_some, skipSp_pad,
    getnum_pad2 d.toNat k2, Bool.false_eq_true, if_false, skipSp_ne _ _ hm32, hml,
    getYear4_pad4 y.toNat k1, getnum_pad2 (s / 3600) (Nat.lt_trans c1 (by decide)),
    getnum_pad2 (s % 3600 / 60) (Nat.lt_trans c2 (by decide)), getnum_pad2 (s % 60) (Nat.lt_trans c3 (by decide)),
    tail_gmt, List.isEmpty_nil, Bool.not_true]
  rw [k4, k5, k6, hdcd, if_neg (fun h => h.elim (Nat.not_le.2 c1) fun h => h.elim (Nat.not_le.2 c2) (Nat.not_le.2 c3)),
    if_neg (fun h => h.elim k3 (Int.not_lt.2 hv.2.2.2)), Int.add_assoc, Int.add_assoc, ← Int.add_assoc (_ * 3600), c4, e7]

/-- `parseHTTPDate (formatHTTPDate t) = t` for every `t` in `[0000-01-01T00:00:00Z, 9999-12-31T23:59:59Z]`. -/
theorem parseHTTPDate_format (t : Int) (h1 : minSec ≤ t) (h2 : t < maxSec) : parseHTTPDate (formatHTTPDate t) = some t := by
  unfold parseHTTPDate
  rw [parse_format t h1 h2]
  rfl

/-- the second attempt of `Cookie.ParseBytes` is never needed for a date hertz wrote -/
theorem parseCookieDate_format (t : Int) (h1 : minSec ≤ t) (h2 : t < maxSec) :
    parseCookieDate (formatHTTPDate t) = some { sec := t, nsec := 0, zone := [71, 77, 84], zoneOff := 0 } := by
  unfold parseCookieDate
  have := parse_format t h1 h2
  unfold parseRFC1123 at this
  rw [this]

/-- Shape of the text: 29 bytes `Www, DD Mmm YYYY HH:MM:SS GMT` with names from the two tables and decimal digits. -/
theorem format_shape (t : Int) (h1 : minSec ≤ t) (h2 : t < maxSec) :
    ∃ wa wb wc d1 d2 ma mb mc y1 y2 y3 y4 hh1 hh2 m1 m2 s1 s2,
      formatHTTPDate t = [wa, wb, wc, 44, 32, d1, d2, 32, ma, mb, mc, 32, y1, y2, y3, y4, 32, hh1, hh2, 58, m1, m2, 58,
        s1, s2, 32, 71, 77, 84] ∧
      (wa, wb, wc) ∈ dayTab ∧ (ma, mb, mc) ∈ monthTab ∧
      (isDig d1 && isDig d2 && isDig y1 && isDig y2 && isDig y3 && isDig y4 && isDig hh1 && isDig hh2 && isDig m1 &&
        isDig m2 && isDig s1 && isDig s2) = true := by
  unfold minSec at h1
  unfold maxSec at h2
  have hyr := civil_year_range (t / 86400) (by omega) (by omega)
  have hv := civil_valid (t / 86400)
  have hwd : weekday (t / 86400) < dayTab.length := by unfold weekday; show _ < 7; omega
  unfold formatHTTPDate
  simp only []
  generalize hc : civilFromDays (t / 86400) = c at *
  obtain ⟨y, m, d⟩ := c
  simp only [] at hyr hv ⊢
  have hm1 : m.toNat - 1 < monthTab.length := by show _ < 12; omega
  rw [yearBytes_range y hyr.1 hyr.2, name3_get _ _ hwd, name3_get _ _ hm1]
  refine ⟨_, _, _, _, _, _, _, _, _, _, _, _, _, _, _, _, _, _, rfl, List.getElem_mem hwd, List.getElem_mem hm1, ?_⟩
  simp only [dig_mod, Bool.and_self]

end Hertz.HttpDate
