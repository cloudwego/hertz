import Hertz.Gen.Funcs
import Hertz.Model.Http1.Scan
import Hertz.Proofs.GoLoop
import Hertz.Proofs.Bytesconv
import Hertz.Proofs.Http1
/-!
Lemmas for `Hertz.Props.Tie`: the mechanically translated Go functions of `Hertz.Gen.Funcs` are equal to the hand
models.  Here `AppendQuotedArg`, `CaseInsensitiveCompare`; `TieP1`: `ParseUintBuf`, `ParseUint`; `TieP2`: `LowercaseBytes`,
`newlineToSpace`, `appendHeaderLine`, `NextLine`, `IsBadTrailer`; `TieP3`: `AppendQuotedPath`, `NormalizeHeaderKey`,
`decodeArgAppend(NoPlus)`; `TieP4`: `ParseByteRange`.  The reasoning about the target language is in `Proofs/GoLoop.lean`.
-/
open Hertz

namespace Hertz.Tie

/-! ### `bytesconv.AppendQuotedArg` -/

theorem appendQuotedArg_eq (dst src : Bytes) :
    Gen.Funcs.appendQuotedArg dst src = .ok (dst ++ quoteArg src) := by
  unfold Gen.Funcs.appendQuotedArg
  rw [rangeLoop_append _ encArg, quoteArg_eq]; rfl
  intro c dst
  have he : (tget Gen.quotedArgShouldEscapeTable c != 0) = !argPlain c := argShouldEscape_eq c
  simp only [hexHi, hexLo, Except.bind, encArg, pctEnc, he]
  by_cases h1 : c = 32
  · simp [h1]
  · cases argPlain c <;> simp [h1]

/-! ### `utils.CaseInsensitiveCompare` -/

theorem ciEq_len_ne (a b : Bytes) (h : a.length ≠ b.length) : H1.ciEq a b = false :=
  Bool.eq_false_iff.mpr fun hc => h (by simpa using congrArg List.length ((H1.ciEq_iff a b).mp hc))

theorem caseInsensitiveCompare_eq (a b : Bytes) (hlen : a.length < 2^63) :
    Gen.Funcs.caseInsensitiveCompare a b = .ok (H1.ciEq a b) := by
  unfold Gen.Funcs.caseInsensitiveCompare
  by_cases hl : a.length = b.length
  · rw [if_neg (by simp [Go.len, hl])]
    -- from index `i` the loop computes `ciEq` of the two suffixes
    refine forLoop_sim _ _ _ _ (fun i : Nat => (i : Int)) (fun i => i ≤ a.length) (fun i => a.length - i)
      (fun i => H1.ciEq (a.drop i) (b.drop i)) (fun i hi => ?_) _ 0 (Nat.zero_le _) (by simp [Go.fuelOf, Go.len])
    by_cases hlt : i < a.length
    · have hb := hl ▸ hlt
      have hd : H1.ciEq (a.drop i) (b.drop i) = (toLower a[i] == toLower b[i] && H1.ciEq (a.drop (i + 1)) (b.drop (i + 1))) := by
        rw [List.drop_eq_getElem_cons hlt, List.drop_eq_getElem_cons hb]; rfl
      by_cases h : toLower a[i] = toLower b[i]
      · refine .next i (i + 1) (cond_lt hlt) ?_ (congrArg _ (add_nat i 1 (by omega))) hlt (by omega) (by simp [hd, h])
        simp only [idx_ok a i hlt, idx_ok b i hb, bind_ok]
        exact if_neg (by simpa [toLower] using h)
      · refine .ret false (cond_lt hlt) ?_ (by simp [hd, h])
        simp only [idx_ok a i hlt, idx_ok b i hb, bind_ok]
        exact if_pos (by simpa [toLower] using h)
    · refine .exit (cond_ge hlt) ?_
      dsimp only
      rw [List.drop_eq_nil_of_le (by omega), List.drop_eq_nil_of_le (by omega)]; rfl
  · have : H1.ciEq a b = false := ciEq_len_ne a b hl
    simp [Go.len, this]; intro h; omega

end Hertz.Tie
