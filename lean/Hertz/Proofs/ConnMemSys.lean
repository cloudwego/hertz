import Hertz.Proofs.ConnMemInv
/-!
The whole connection (reader + writer + caller + allocator) at memory level: ownership invariant `Good` and
the frame property `CFrame` of every step other than `Release` / `Read` (`cstep_ok`, `crun_ok` under `Legal`; what every step
keeps, a run keeps: `crun_inv`); then two facts
about the writer for every state: the copy half of the `WriteBinary` contract (`mwWriteBinary_small_copy`) and `off ≤ malloc`
for the tail node of the output chain (`crun_woff`).
-/
namespace Hertz.ConnMem
open Hertz Hertz.Conn

def MWriter.chain (s : MWriter) : List MNode := s.pre ++ [s.w]
/-- blocks of the nodes the writer allocated itself (by-reference nodes point into the caller's memory) -/
def ownOf (l : List MNode) : List Nat := (l.filter (fun nd => !nd.readOnly)).map (·.blk)
def MWriter.own (s : MWriter) : List Nat := ownOf s.chain

/-- ownership: the blocks of the reader, of the writer, of the caller and of the allocator's free list are pairwise
distinct (no block is held twice) and were all handed out before; a by-reference node points into caller memory -/
def Good (c : MConn) : Prop :=
  RGood c.mem c.r (c.wr.own ++ c.caller) ∧ (∀ nd ∈ c.wr.chain, nd.readOnly = true → nd.blk ∈ c.caller)

/-- protected cells of the reader stay protected and keep their content -/
def CFrame (c c' : MConn) : Prop :=
  ∀ blk k, ProtR c.r blk k → ProtR c'.r blk k ∧ (c'.mem.heap.get blk)[k]? = (c.mem.heap.get blk)[k]?

theorem CFrame.refl (c : MConn) : CFrame c c := fun _ _ h => ⟨h, rfl⟩
theorem CFrame.trans {a b c : MConn} (h1 : CFrame a b) (h2 : CFrame b c) : CFrame a c :=
  fun blk k hp => ⟨(h2 blk k (h1 blk k hp).1).1, ((h2 blk k (h1 blk k hp).1).2).trans (h1 blk k hp).2⟩

theorem cframe_of (c c' : MConn) (hr : c'.r = c.r)
    (hh : ∀ b ∈ c.r.blocks, c'.mem.heap.get b = c.mem.heap.get b) : CFrame c c' := by
  intro blk k hp
  refine ⟨by rw [hr]; exact hp, by rw [hh blk hp.mem]⟩

theorem count_ge_two_absurd {l1 l2 : List Nat} {x : Nat} (h1 : x ∈ l1) (h2 : x ∈ l2)
    (h : (l1 ++ l2).count x ≤ 1) : False := by
  have a := List.count_pos_iff.2 h1
  have b := List.count_pos_iff.2 h2
  rw [List.count_append] at h; omega

theorem Good.not_reader {c : MConn} (hG : Good c) {b : Nat} (hb : b ∈ c.wr.own ++ c.caller) : b ∉ c.r.blocks :=
  fun hr => count_ge_two_absurd hr (List.mem_append_left _ hb) (by have := hG.1.1 b; rwa [List.append_assoc] at this)

theorem Good.free_not_reader {c : MConn} (hG : Good c) {b : Nat} (hb : b ∈ c.mem.free.map (·.1)) : b ∉ c.r.blocks :=
  fun hr => count_ge_two_absurd (List.mem_append_left _ hr) hb (hG.1.1 b)

theorem write_live_ok (c : MConn) (hG : Good c) (b pos : Nat) (bs : Bytes) (hb : b ∈ c.wr.own ++ c.caller) :
    Good { c with mem := { c.mem with heap := c.mem.heap.write b pos bs } } ∧
    CFrame c { c with mem := { c.mem with heap := c.mem.heap.write b pos bs } } := by
  refine ⟨hG, cframe_of _ _ rfl fun x hx => ?_⟩
  have : b ≠ x := fun he => hG.not_reader hb (he ▸ hx)
  exact Heap.get_write_ne this

/-! ## `Malloc`, `WriteBinary` -/

/-- `Good` sees the tail node of the output chain only through its block and `readOnly` -/
theorem Good.tail {m : Mem} {r : MReader} {pre : List MNode} {w w' : MNode} {len len' nx : Nat} {caller : List Nat}
    (hG : Good ⟨m, r, ⟨pre, w, len, nx⟩, caller⟩) (hb : w'.blk = w.blk) (hr : w'.readOnly = w.readOnly) :
    Good ⟨m, r, ⟨pre, w', len', nx⟩, caller⟩ := by
  simpa only [Good, MWriter.own, MWriter.chain, ownOf, List.filter_append, List.filter_cons, List.filter_nil, List.map_append,
    List.mem_append, List.mem_singleton, forall_eq_or_imp, or_imp, forall_and, forall_eq, hb, hr, apply_ite (List.map _),
    List.map_cons, List.map_nil] using hG

theorem Good.tail_live {c : MConn} (hG : Good c) : c.wr.w.blk ∈ c.wr.own ++ c.caller := by
  have hw : c.wr.w ∈ c.wr.chain := List.mem_append_right _ (List.mem_singleton_self _)
  by_cases hro : c.wr.w.readOnly = true
  · exact List.mem_append_right _ (hG.2 _ hw hro)
  · exact List.mem_append_left _ (List.mem_map_of_mem (List.mem_filter.2 ⟨hw, by simpa using hro⟩))

theorem own_push (s : MWriter) (nd : MNode) (l nx : Nat) :
    MWriter.own { pre := s.pre ++ [s.w], w := nd, len := l, nextId := nx } =
      s.own ++ (if nd.readOnly = true then [] else [nd.blk]) := by
  simp only [MWriter.own, MWriter.chain, ownOf, List.filter_append, List.map_append]
  congr 1
  by_cases h : nd.readOnly = true <;> simp [h]

/-- a new tail node that is the writer's own, or refers to caller memory, keeps `Good`'s second half -/
theorem ro_push {c : MConn} (hG : Good c) {nd0 : MNode} (h0 : nd0.readOnly = true → nd0.blk ∈ c.caller) :
    ∀ nd ∈ c.wr.chain ++ [nd0], nd.readOnly = true → nd.blk ∈ c.caller := by
  intro nd hnd hro
  rcases List.mem_append.1 hnd with hnd | hnd
  · exact hG.2 nd hnd hro
  · cases List.mem_singleton.1 hnd; exact h0 hro

theorem mwReserve_good {c : MConn} (hG : Good c) {n ch : Nat} {o : Option Ref} {m1 : Mem} {wr1 : MWriter}
    (h : mwReserve c.mem c.wr n ch = .ok (o, m1, wr1)) :
    Good { c with mem := m1, wr := wr1 } ∧ CFrame c { c with mem := m1, wr := wr1 } ∧
    (∀ d, o = some d → d.blk ∈ wr1.own ++ c.caller) := by
  rcases mwReserve_cases h with ⟨_, rfl, rfl, rfl⟩ | ⟨_, _, _, rfl, rfl, rfl⟩ | ⟨_, _, size, a, _, rfl, rfl, rfl, rfl⟩
  · exact ⟨hG, CFrame.refl _, fun d hd => by cases hd⟩
  · have hG1 : Good { c with wr := { c.wr with w := { c.wr.w with malloc := c.wr.w.malloc + n }, len := c.wr.len - n } } :=
      hG.tail rfl rfl
    exact ⟨hG1, cframe_of _ _ rfl (fun _ _ => rfl), fun d hd => by cases hd; exact hG1.tail_live⟩
  · have ha := alloc_ok c.mem size ch (c.r.blocks ++ (c.wr.own ++ c.caller)) hG.1.1 hG.1.2
    refine ⟨⟨ha.le fun x => ?_, ?_⟩, cframe_of _ _ rfl (fun b hb => ?_), ?_⟩
    · simp only [own_push, Bool.false_eq_true, if_false, List.count_append, List.count_cons, List.count_nil, beq_iff_eq]
      omega
    · exact ro_push hG (fun h => by cases h)
    · exact ha.heap b (ha.ne (List.mem_append_left _ hb))
    · intro d hd; cases hd
      simp [own_push]

theorem mwWriteBinary_good {c : MConn} (hG : Good c) {r : Ref} {ch n : Nat} {m1 : Mem} {wr1 : MWriter}
    (hr : r.blk ∈ c.caller) (h : mwWriteBinary c.mem c.wr r ch = .ok (n, m1, wr1)) :
    Good { c with mem := m1, wr := wr1 } ∧ CFrame c { c with mem := m1, wr := wr1 } := by
  rcases mwWriteBinary_cases h with ⟨dst, m2, hres, rfl⟩ | ⟨_, rfl, rfl⟩
  · have h1 := mwReserve_good hG hres
    cases dst with
    | none => exact ⟨h1.1, h1.2.1⟩
    | some d =>
      have h2 := write_live_ok { c with mem := m2, wr := wr1 } h1.1 d.blk d.lo (m2.heap.read r) (h1.2.2 d rfl)
      exact ⟨h2.1, h1.2.1.trans h2.2⟩
  · have ha := alloc_ok c.mem 0 ch (c.r.blocks ++ (c.wr.own ++ c.caller)) hG.1.1 hG.1.2
    -- the block handed out is dropped
    refine ⟨⟨ha.le fun x => ?_, ro_push hG (fun _ => hr)⟩,
      cframe_of _ _ rfl fun b hb => ha.heap b (ha.ne (List.mem_append_left _ hb))⟩
    simp only [own_push, if_true, List.append_nil, List.count_append]
    omega

/-! ## `Flush`: blocks only move from the writer to the free list -/

theorem ownOf_cons (h : MNode) (l : List MNode) :
    ownOf (h :: l) = (if h.readOnly = true then [] else [h.blk]) ++ ownOf l := by
  by_cases hr : h.readOnly = true <;> simp [ownOf, hr]

theorem Mem.release_next (m : Mem) (blk cap : Nat) : (m.release blk cap).nextBlk = m.nextBlk := by
  unfold Mem.release; split <;> rfl

theorem MNode.release_next (m : Mem) (h : MNode) : (h.release m).nextBlk = m.nextBlk := by
  unfold MNode.release; split
  · rfl
  · exact Mem.release_next _ _ _

/-- handing a block back keeps the books: it moves from the live blocks to the free list -/
theorem release_count (m : Mem) (blk cap : Nat) (x : Nat) :
    ((m.release blk cap).free.map (·.1)).count x ≤ (m.free.map (·.1)).count x + (if blk = x then 1 else 0) := by
  unfold Mem.release
  split
  · exact Nat.le_add_right _ _
  · simp only [List.map_cons, List.count_cons, beq_iff_eq]; exact Nat.le_refl _

theorem MNode.release_spec (m : Mem) (h : MNode) (x : Nat) :
    ((h.release m).free.map (·.1)).count x ≤
      (m.free.map (·.1)).count x + ((if h.readOnly = true then [] else [h.blk]).count x) := by
  unfold MNode.release
  by_cases hr : h.readOnly = true
  · simp [hr]
  · rw [if_neg hr, if_neg hr]
    simp only [List.count_cons, List.count_nil, Nat.zero_add, beq_iff_eq]
    exact release_count m h.blk h.cap x

/-- the head node of the output chain is handed back: its block, if the writer's own, moves to the free list -/
theorem Good.release_head {m : Mem} {r : MReader} {h : MNode} {pre : List MNode} {w : MNode} {len nx : Nat} {caller : List Nat}
    (hG : Good ⟨m, r, ⟨h :: pre, w, len, nx⟩, caller⟩) : Good ⟨h.release m, r, ⟨pre, w, len, nx⟩, caller⟩ := by
  refine ⟨books_of_le hG.1 (fun x => ?_) (MNode.release_next m h), fun nd hnd => hG.2 nd (List.mem_cons_of_mem _ hnd)⟩
  have b := MNode.release_spec m h x
  simp only [MWriter.own, MWriter.chain, List.cons_append, ownOf_cons, List.count_append] at b ⊢
  omega

/-- ownership is an invariant of the loop of `Flush` -/
theorem mflushLoop_good {m : Mem} {pre : List MNode} {w : MNode} {len : Nat} (sc : WScript) {r : MReader} {nx : Nat}
    {caller : List Nat} (hG : Good ⟨m, r, ⟨pre, w, len, nx⟩, caller⟩) :
    ∀ x, mflushLoop m pre w len sc = x → Good ⟨x.2.2.1, r, ⟨x.2.2.2.1, x.2.2.2.2.1, x.2.2.2.2.2.1, nx⟩, caller⟩ := by
  fun_induction mflushLoop m pre w len sc <;> rintro _ rfl
  case case2 hrec =>
    -- a recyclable tail node is the writer's own: it is reset where it is
    exact hG.tail rfl (by simp +zetaDelta [MNode.recyclable] at hrec; exact hrec.2.symm)
  case case3 => exact hG.tail rfl rfl
  case case5 ih => exact (ih hG.release_head _ rfl :)
  -- a failed `Write`: nothing moves
  all_goals exact hG

theorem mwFlush_good (c : MConn) (hG : Good c) (sc : WScript) :
    Good { c with mem := (mwFlush c.mem c.wr sc).2.2.1, wr := (mwFlush c.mem c.wr sc).2.2.2.1 } ∧
    CFrame c { c with mem := (mwFlush c.mem c.wr sc).2.2.1, wr := (mwFlush c.mem c.wr sc).2.2.2.1 } := by
  refine ⟨?_, cframe_of _ _ rfl fun _ _ => by rw [(mwFlush_spec c.mem c.wr sc).1]⟩
  obtain ⟨m, r, ⟨pre, w, len, nx⟩, caller⟩ := c
  unfold mwFlush
  cases pre with
  | nil =>
    simp only
    split
    · exact hG
    · exact mflushLoop_good sc hG _ rfl
  | cons h pre =>
    simp only
    split
    · -- an empty head node is handed back first
      exact mflushLoop_good sc hG.release_head _ rfl
    · exact mflushLoop_good sc hG _ rfl

/-! ## the allocator scribbling over free memory; then every legal step -/

theorem scribble_fold_get {l : List (Nat × Nat)} {h : Heap} {pat : UInt8} {b : Nat} (hb : b ∉ l.map (·.1)) :
    (l.foldl (fun h e => h.set e.1 (List.replicate (h.get e.1).length pat)) h).get b = h.get b := by
  induction l generalizing h with
  | nil => rfl
  | cons e t ih =>
    simp only [List.map_cons, List.mem_cons, not_or] at hb
    simp only [List.foldl_cons]
    rw [ih hb.2, Heap.get_set]
    simp [Ne.symm hb.1]

/-- What the caller must respect: buffers it passes are its own, and what it fills lies in a block of the writer or of its
own (any cell of such a block: less than "a slice reserved by `Malloc` and not flushed", so the theorems hold of more
callers; a write into a block of the reader, e.g. through a peeked slice, is excluded).  A `.callerWrite` outside the
caller's blocks is a fault of `cstep` itself.  In addition `legal` admits only the non-releasing reader operations: it is
the hypothesis of the frame theorems; the discipline alone is `legalAny`. -/
def CStep.legal (c : MConn) : CStep → Prop
  | .rd op _ _ => op.keeps = true
  | .writeBinary r _ => r.blk ∈ c.caller
  | .fillRef r _ => r.blk ∈ c.wr.own ++ c.caller
  | _ => True

theorem cstep_ok {c wire sc st} (hG : Good c) (hl : st.legal c) {o c' w' sc'}
    (h : cstep c wire sc st = .ok (o, c', w', sc')) : Good c' ∧ CFrame c c' := by
  cases st with
  | rd op ch1 ch2 =>
    obtain ⟨⟨mo, m1, r1, w1⟩, hs, h⟩ := bind_eq_ok h
    have := mstep_ok hG.1 hl hs
    cases h; exact ⟨⟨this.1, hG.2⟩, this.2.1⟩
  | reserve n ch =>
    obtain ⟨⟨ref, m1, wr1⟩, hs, h⟩ := bind_eq_ok h
    have := mwReserve_good hG hs
    cases h; exact ⟨this.1, this.2.1⟩
  | writeBinary r ch =>
    obtain ⟨⟨n, m1, wr1⟩, hs, h⟩ := bind_eq_ok h
    cases h; exact mwWriteBinary_good hG hl hs
  | flush => cases h; exact mwFlush_good c hG sc
  | newBuf bs =>
    cases h
    -- a fresh block, filled by the caller, joins the caller's
    have ha := (fresh_ok c.mem bs.length (c.r.blocks ++ (c.wr.own ++ c.caller)) hG.1.1 hG.1.2).write 0 bs
    refine ⟨⟨ha.le fun x => ?_, fun nd hnd hr => List.mem_cons_of_mem _ (hG.2 nd hnd hr)⟩,
      cframe_of _ _ rfl fun b hb => ha.heap b (ha.ne (List.mem_append_left _ hb))⟩
    simp only [List.count_append, List.count_cons, beq_iff_eq]
    omega
  | callerWrite blk pos bs =>
    simp only [cstep] at h
    split at h
    · rename_i hc
      cases h; exact write_live_ok c hG blk pos bs (List.mem_append_right _ hc.1)
    · cases h
  | fillRef r bs =>
    simp only [cstep] at h
    split at h
    · cases h; exact write_live_ok c hG r.blk r.lo bs hl
    · cases h
  | scribble pat =>
    cases h
    exact ⟨hG, cframe_of _ _ rfl fun b hb => scribble_fold_get (fun hf => hG.free_not_reader hf hb)⟩

/-- every step of the sequence is legal in the state it is taken in -/
def Legal (c : MConn) (wire : Wire) (sc : WScript) : List CStep → Prop
  | [] => True
  | st :: rest => st.legal c ∧ ∀ o c1 w1 sc1, cstep c wire sc st = .ok (o, c1, w1, sc1) → Legal c1 w1 sc1 rest

/-- The induction over `crun`, done once: `J` speaks of a state and the steps still to come, so that it can carry the legality
of those steps (`Legal`, `LegalAny` are defined along the run) and a relation to the state the run started in (the frame). -/
theorem crun_inv {J : MConn → Wire → WScript → List CStep → Prop}
    (hstep : ∀ {c wire sc st rest o c1 w1 sc1}, J c wire sc (st :: rest) → cstep c wire sc st = .ok (o, c1, w1, sc1) →
      J c1 w1 sc1 rest)
    {c wire sc steps outs c' w' sc'} (hJ : J c wire sc steps) (h : crun c wire sc steps = .ok (outs, c', w', sc')) :
    J c' w' sc' [] := by
  induction steps generalizing c wire sc outs with
  | nil => cases h; exact hJ
  | cons st rest ih =>
    obtain ⟨⟨o, c1, w1, sc1⟩, hs, h⟩ := bind_eq_ok h
    obtain ⟨⟨os, c2, w2, sc2⟩, hr, h⟩ := bind_eq_ok h
    cases h
    exact ih (hstep hJ hs) hr

theorem crun_ok {c wire sc steps} (hG : Good c) (hl : Legal c wire sc steps) {outs c' w' sc'}
    (h : crun c wire sc steps = .ok (outs, c', w', sc')) : Good c' ∧ CFrame c c' :=
  (crun_inv (J := fun c1 wire sc steps => (Good c1 ∧ CFrame c c1) ∧ Legal c1 wire sc steps)
    (fun ⟨⟨hG, hF⟩, hl⟩ hs => have h1 := cstep_ok hG hl.1 hs; ⟨⟨h1.1, hF.trans h1.2⟩, hl.2 _ _ _ _ hs⟩)
    ⟨⟨hG, CFrame.refl c⟩, hl⟩ h).1

/-! ## the copy half of the `WriteBinary` contract -/

theorem pickFree_mem {l : List (Nat × Nat)} {cap ch b : Nat} {rest : List (Nat × Nat)}
    (h : pickFree l cap ch = some (b, rest)) : (b, cap) ∈ l :=
  (pickFree_perm h).mem_iff.2 List.mem_cons_self

theorem alloc_len (m : Mem) (size ch : Nat) (hfree : ∀ e ∈ m.free, (m.heap.get e.1).length = e.2) :
    ((m.alloc size ch).2.heap.get (m.alloc size ch).1).length = capOf size := by
  unfold Mem.alloc
  split
  · rename_i h
    simp [Mem.fresh, Heap.get_set, capOf, h]
  · split
    · rename_i b rest hp
      exact hfree _ (pickFree_mem hp)
    · simp [Mem.fresh, Heap.get_set]

/-- `WriteBinary(b)` with `0 < len(b) < block4k` COPIES: the destination `d` is a slice of the output chain (so it is what
`Flush` sends, `covered_sent`) and right after the call it holds the contents `b` had AT CALL TIME.  (The statement places `d`
in a block of the writer or of the caller; that it is never the caller's is not shown.)  `hv`: `b` lies inside its block; `hfit`,
`hfree`: a block is as long as the capacity recorded for it, which is not proved as an invariant (`LInv`: reader and free list). -/
theorem mwWriteBinary_small_copy (c : MConn) (hG : Good c) (r : Ref) (ch n : Nat) (m1 : Mem) (wr1 : MWriter)
    (hr : r.blk ∈ c.caller) (hpos : 0 < r.len) (hs : r.len < block4k) (hv : r.hi ≤ (c.mem.heap.get r.blk).length)
    (hfit : c.wr.w.base + c.wr.w.cap ≤ (c.mem.heap.get c.wr.w.blk).length) (hoff : c.wr.w.off ≤ c.wr.w.malloc)
    (hfree : ∀ e ∈ c.mem.free, (c.mem.heap.get e.1).length = e.2)
    (h : mwWriteBinary c.mem c.wr r ch = .ok (n, m1, wr1)) :
    ∃ d, Covered wr1 d ∧ d.len = r.len ∧ d.blk ∈ wr1.own ++ c.caller ∧ m1.heap.read d = c.mem.heap.read r := by
  have hrl : (c.mem.heap.read r).length = r.len := by
    simp only [Heap.read, slice_length, Ref.len] at hpos ⊢; omega
  obtain ⟨dst, m2, hres, rfl⟩ := (mwWriteBinary_cases h).resolve_right fun h => h.1 hs
  have hgood := mwReserve_good hG hres
  -- what `Malloc` did
  have key : ∃ d, dst = some d ∧ d.hi = d.lo + r.len ∧ d.hi ≤ (m2.heap.get d.blk).length ∧ m2.heap.read r = c.mem.heap.read r := by
    rcases mwReserve_cases hres with ⟨hn, _⟩ | ⟨_, _, hcap, rfl, rfl, _⟩ | ⟨_, _, size, a, hsz, rfl, rfl, rfl, _⟩
    · omega
    · exact ⟨_, rfl, rfl, by simp only; omega, rfl⟩
    · refine ⟨_, rfl, (Nat.zero_add _).symm, ?_, ?_⟩
      · show r.len ≤ _
        rw [alloc_len c.mem size ch hfree]
        have hge := capOf_ge size
        have hdm : size = 4096 := hsz.trans (if_pos hs)
        unfold block4k at hs; omega
      · have ha := alloc_ok c.mem size ch (c.r.blocks ++ (c.wr.own ++ c.caller)) hG.1.1 hG.1.2
        have hne := ha.ne (List.mem_append_right _ (List.mem_append_right _ hr))
        simp only [Heap.read, ha.heap r.blk hne]
  obtain ⟨d, rfl, hd1, hd2, hd3⟩ := key
  have hcov := mwReserve_covered c.mem c.wr r.len ch d m2 wr1 hoff hres
  refine ⟨d, hcov.1, hcov.2, hgood.2.2 d rfl, ?_⟩
  have hl2 : (m2.heap.read r).length = r.len := by rw [hd3]; exact hrl
  show slice ((m2.heap.write d.blk d.lo (m2.heap.read r)).get d.blk) d.lo d.hi = c.mem.heap.read r
  rw [Heap.get_write_eq, hd1, ← hl2, slice_splice_self' _ _ _ (by rw [hl2]; omega), hd3]

/-! ## `off ≤ malloc` for the tail node of the output chain, in every reachable state -/

theorem mflushLoop_woff (m : Mem) (pre : List MNode) {w : MNode} (len : Nat) (sc : WScript) (h : w.off ≤ w.malloc) :
    ∀ x, mflushLoop m pre w len sc = x → x.2.2.2.2.1.off ≤ x.2.2.2.2.1.malloc := by
  fun_induction mflushLoop m pre w len sc <;> rintro _ rfl
  case case2 => simp [MNode.reset]
  case case3 => simp +zetaDelta only; omega
  case case5 ih => exact (ih h _ rfl :)
  all_goals exact h

theorem mwReserve_woff {m : Mem} {s : MWriter} {n ch : Nat} {o : Option Ref} {m1 : Mem} {s1 : MWriter}
    (h : s.w.off ≤ s.w.malloc) (hm : mwReserve m s n ch = .ok (o, m1, s1)) : s1.w.off ≤ s1.w.malloc := by
  rcases mwReserve_cases hm with ⟨_, _, _, rfl⟩ | ⟨_, _, _, _, _, rfl⟩ | ⟨_, _, size, a, _, _, _, _, rfl⟩
  · exact h
  · exact Nat.le_add_right_of_le h
  · exact Nat.zero_le _

theorem mwWriteBinary_woff {m : Mem} {s : MWriter} {r : Ref} {ch n : Nat} {m1 : Mem} {s1 : MWriter}
    (h : s.w.off ≤ s.w.malloc) (hm : mwWriteBinary m s r ch = .ok (n, m1, s1)) : s1.w.off ≤ s1.w.malloc := by
  rcases mwWriteBinary_cases hm with ⟨_, _, hr, _⟩ | ⟨_, _, rfl⟩
  · exact mwReserve_woff h hr
  · exact Nat.zero_le _

theorem mwFlush_woff (m : Mem) (s : MWriter) (sc : WScript) (h : s.w.off ≤ s.w.malloc) :
    (mwFlush m s sc).2.2.2.1.w.off ≤ (mwFlush m s sc).2.2.2.1.w.malloc := by
  unfold mwFlush
  split
  · split
    · exact h
    · exact mflushLoop_woff _ _ _ _ h _ rfl
  · exact mflushLoop_woff _ _ _ _ h _ rfl

/-- only the writer's own operations touch its tail node -/
theorem cstep_woff {c wire sc st} (h : c.wr.w.off ≤ c.wr.w.malloc) {o c' w' sc'}
    (hs : cstep c wire sc st = .ok (o, c', w', sc')) : c'.wr.w.off ≤ c'.wr.w.malloc := by
  cases st with
  | rd op ch1 ch2 =>
    obtain ⟨⟨o1, m1, r1, w1⟩, _, hs⟩ := bind_eq_ok hs
    cases hs; exact h
  | reserve n ch =>
    obtain ⟨⟨ref, m1, wr1⟩, hm, hs⟩ := bind_eq_ok hs
    cases hs; exact mwReserve_woff h hm
  | writeBinary r ch =>
    obtain ⟨⟨n, m1, wr1⟩, hm, hs⟩ := bind_eq_ok hs
    cases hs; exact mwWriteBinary_woff h hm
  | flush => cases hs; exact mwFlush_woff _ _ _ h
  | newBuf bs => cases hs; exact h
  | callerWrite blk pos bs =>
    simp only [cstep] at hs
    split at hs
    · cases hs; exact h
    · cases hs
  | fillRef r bs =>
    simp only [cstep] at hs
    split at hs
    · cases hs; exact h
    · cases hs
  | scribble pat => cases hs; exact h

theorem crun_woff {c wire sc steps} (h : c.wr.w.off ≤ c.wr.w.malloc) {outs c' w' sc'}
    (hr : crun c wire sc steps = .ok (outs, c', w', sc')) : c'.wr.w.off ≤ c'.wr.w.malloc :=
  crun_inv (J := fun c _ _ _ => c.wr.w.off ≤ c.wr.w.malloc) (fun h hs => cstep_woff h hs) h hr

theorem Good_new (size : Nat) : Good (MConn.new size) := by
  refine ⟨⟨fun x => ?_, fun x hx => ?_⟩, fun nd hnd hr => ?_⟩
  · simp only [MConn.new, Mem.fresh, MReader.blocks, MReader.cores, MReader.nodes, MNode.core,
      MWriter.own, MWriter.chain, ownOf, List.nil_append, List.map_cons, List.map_nil, List.filter_cons,
      List.filter_nil, List.append_nil, List.count_append, List.count_cons, List.count_nil]
    have e0 : (0 = x) ↔ (x = 0) := eq_comm
    have e1 : (1 = x) ↔ (x = 1) := eq_comm
    by_cases h1 : x = 0 <;> by_cases h2 : x = 1 <;> simp_all
  · simp [MConn.new, Mem.fresh, MReader.blocks, MReader.cores, MReader.nodes, MNode.core,
      MWriter.own, MWriter.chain, ownOf] at hx ⊢
    omega
  · simp [MConn.new, MWriter.chain] at hnd; subst hnd; simp at hr

end Hertz.ConnMem
