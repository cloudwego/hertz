import Hertz.Model.Http1.Serve
import Hertz.Proofs.Tables
import Hertz.Proofs.Http1
/-!
Size bounds of the request reader model: a parsed chunk size fits a Go `int`, and no request whose body
exceeds `MaxRequestBodySize` is ever handed to a handler (buffered bodies).
-/
namespace Hertz.H1
open Hertz

/-- `hex2int` yields a digit value or the marker 16 -/
theorem hex2int_lt (c : UInt8) : hex2int c ≠ 16 → (hex2int c).toNat < 16 := by
  simp only [hex2int_eq]
  revert c; exact forall_byte (by decide +kernel)

theorem readHexIntAux_bound (e : End) (s : Bytes) : ∀ (n i : Nat) (r : Nat) (rest : Bytes),
    i ≤ Gen.maxHexIntChars.toNat → n < 16 ^ i →
    readHexIntAux e n i s = .ok (r, rest) → r < 16 ^ Gen.maxHexIntChars.toNat := by
  induction s with
  | nil =>
    intro n i r rest hi hn h
    simp only [readHexIntAux] at h
    split at h
    · cases h
      exact Nat.lt_of_lt_of_le hn (Nat.pow_le_pow_right (by decide) hi)
    · cases h
  | cons c t ih =>
    intro n i r rest hi hn h
    simp only [readHexIntAux] at h
    split at h
    · split at h
      · cases h
      · cases h
        exact Nat.lt_of_lt_of_le hn (Nat.pow_le_pow_right (by decide) hi)
    · split at h
      · cases h
      · rename_i hk hge
        have hlt : i < Gen.maxHexIntChars.toNat := Nat.lt_of_not_ge hge
        refine ih (n * 16 + (hex2int c).toNat) (i + 1) r rest hlt ?_ h
        have hk16 := hex2int_lt c hk
        rw [Nat.pow_succ]
        omega

theorem parseChunkSize_bound (e : End) (s : Bytes) (n : Nat) (rest : Bytes)
    (h : parseChunkSize e s = .ok (n, rest)) : n < 16 ^ Gen.maxHexIntChars.toNat := by
  unfold parseChunkSize at h
  split at h
  · cases h
  · cases h
  · rename_i m r hr
    split at h
    · cases h
    · cases h
      exact readHexIntAux_bound e s 0 0 _ _ (Nat.zero_le _) (by decide) hr

/-- the body accumulated by the chunked reader never exceeds the limit -/
theorem readBodyChunked_le (e : End) (maxBody : Nat) (hm : maxBody > 0) :
    ∀ (fuel : Nat) (dst s body rest : Bytes), dst.length ≤ maxBody →
      readBodyChunked e maxBody fuel dst s = .ok (body, rest) → body.length ≤ maxBody := by
  intro fuel
  induction fuel with
  | zero => intro dst s body rest _ h; simp [readBodyChunked] at h
  | succ fuel ih =>
    intro dst s body rest hd h
    simp only [readBodyChunked, bind, Except.bind] at h
    split at h
    · cases h
    · rename_i v hv
      obtain ⟨size, r1⟩ := v
      simp only at h
      split at h
      · cases h; exact hd
      · split at h
        · cases h
        · rename_i hz hlim
          split at h
          · cases h
          · rename_i v2 hv2
            obtain ⟨chunk, r2⟩ := v2
            simp only at h
            split at h
            · cases h
            · refine ih _ _ _ _ ?_ h
              simp only [List.length_append, List.length_take]
              have : ¬ (maxBody > 0 ∧ dst.length + size > maxBody) := hlim
              omega

theorem continueReadBody_le (cfg : Cfg) (e : End) (hd hd' : ReqHead) (s body rest : Bytes) (tr : List (Bytes × Bytes))
    (hm : cfg.maxBody > 0) (h : continueReadBody cfg e hd s = .ok hd' body tr rest) : body.length ≤ cfg.maxBody := by
  revert h
  fun_cases continueReadBody cfg e hd s
  -- `Content-Length` within the limit, and exactly that many bytes taken
  case case3 hlim _ b _ hb =>
    intro h; cases h
    have := takeN_len e _ _ _ _ hb
    omega
  -- chunked, the trailer section read (case8) or reset at EOF (case9): the bound of `readBodyChunked`
  case case8 hb _ _ _ => intro h; cases h; exact readBodyChunked_le e cfg.maxBody hm _ _ _ _ _ (by simp) hb
  case case9 hb _ _ => intro h; cases h; exact readBodyChunked_le e cfg.maxBody hm _ _ _ _ _ (by simp) hb
  all_goals intro h; cases h
  all_goals exact Nat.zero_le _

/-- every request handed to the handler has a body within the configured limit -/
theorem serveLoop_body_le (cfg : Cfg) (e : End) (hm : cfg.maxBody > 0) (fuel : Nat) (first : Bool) (s : Bytes)
    (sn : Seen) : Ev.req sn ∈ serveLoop cfg e fuel first s → sn.body.length ≤ cfg.maxBody := by
  fun_induction serveLoop cfg e fuel first s
  -- the body reader failed (case8: `unmodelled`, case9: any other error): no request event
  case case8 =>
    intro h
    simp +zetaDelta only [List.mem_append] at h
    rcases h with h | h
    · split at h <;> simp at h
    · simp at h
  case case9 =>
    intro h
    simp +zetaDelta only [List.mem_append] at h
    rcases h with h | h
    · split at h <;> simp at h
    · repeat' split at h
      all_goals simp at h
  -- the request handed over is what `continueReadBody` returned
  case case10 hb _ ih =>
    intro h
    simp +zetaDelta only [List.mem_append, List.mem_cons] at h
    rcases h with (h | h) | h
    · split at h <;> simp at h
    · rcases h with h | h | h
      · cases h; exact continueReadBody_le cfg e _ _ _ _ _ _ hm hb
      · cases h
      · cases h
    · split at h
      · cases h
      · exact ih h
  all_goals simp

end Hertz.H1
