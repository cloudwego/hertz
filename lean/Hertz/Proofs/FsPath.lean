import Hertz.Proofs.UriOps
import Hertz.Proofs.PathRef
import Hertz.Model.FsPath
import Hertz.Gen.FsPath
/-!
Lemmas for the file-system side of C07 (`Hertz.Model.FsPath`): the paths the two stock rewriters hand to the
file handler keep the normal form `Good` of `normalizePath`; whatever path reaches `os.Open`, through any rewriter,
has no `..` component (`NoClimb`, `decision_noClimb`: the handler's guard sees to it, or normalisation when there is no
rewriter); the model of the kernel's path resolution cannot leave the directory it starts in when no component is `..`
(`walk_inside`), so nothing outside the root is served (`serve_inside`); `model_matches_gen`: the statement skeletons
of the Go functions.
-/
namespace Hertz.FsPath
open Hertz Hertz.Spec Hertz.Uri

theorem good_contained {q : Bytes} (h : Good q) : contained q = true := (PathSeg.good_iff_contained q).mp h

/-- a piece of a `Good` path has none of the patterns inside; its head and its end are the caller's to show -/
theorem good_infix {q r : Bytes} (h : Good q) (hi : r <:+: q) (hh : r.head? = some 47) (he : ¬ SDD <:+ r) : Good r :=
  ⟨hh, fun c => h.2.1 (c.trans hi), fun c => h.2.2.1 (c.trans hi), fun c => h.2.2.2.1 (c.trans hi), he⟩

theorem dropWhile_ne_slash_head (t : Bytes) (h : (t.dropWhile (· != 47)).isEmpty = false) :
    (t.dropWhile (· != 47)).head? = some 47 := by
  cases hd : t.dropWhile (· != 47) with
  | nil => rw [hd] at h; cases h
  | cons x xs =>
    have := List.head_dropWhile_not (· != 47) (l := t) (w := by simp [hd])
    simpa [hd] using this

/-- on a path that starts with a slash the slash stripper does not panic, and what it returns is empty or a suffix
that starts with a slash again -/
theorem stripLeading_spec (n : Nat) (q : Bytes) (hq : q.head? = some 47) :
    ∃ r, stripLeadingSlashes n q = some r ∧ (r = [] ∨ (r <:+ q ∧ r.head? = some 47)) := by
  fun_induction stripLeadingSlashes n q with
  | case1 p => exact ⟨p, rfl, Or.inr ⟨List.suffix_refl _, hq⟩⟩
  | case2 | case4 => exact ⟨[], rfl, Or.inl rfl⟩
  | case3 k c t hc => exact absurd (Option.some.inj hq) hc
  | case5 k c t _ r he ih =>
    obtain ⟨r', hr, h⟩ := ih (dropWhile_ne_slash_head t (by simpa using he))
    exact ⟨r', hr, h.imp id fun ⟨hs, hh⟩ => ⟨hs.trans ((List.dropWhile_suffix _).trans (List.suffix_cons _ t)), hh⟩⟩

theorem stripLeading_good {n : Nat} {q r : Bytes} (hq : Good q) (h : stripLeadingSlashes n q = some r) :
    r = [] ∨ Good r := by
  obtain ⟨r', hr', h'⟩ := stripLeading_spec n q hq.1
  rw [h] at hr'
  cases hr'
  exact h'.imp id fun ⟨hs, hr⟩ => good_infix hq hs.isInfix hr fun c => hq.2.2.2.2 (c.trans hs)

theorem head_of_prefix {a b : Bytes} (h : a <+: b) (hne : a ≠ []) : a.head? = b.head? := by
  obtain ⟨t, ht⟩ := h
  cases a with
  | nil => exact absurd rfl hne
  | cons x xs => rw [← ht]; rfl

theorem stripTrailing_decomp (q : Bytes) : ∃ s, q = stripTrailingSlashes q ++ s ∧ ∀ c ∈ s, c = 47 := by
  refine ⟨(q.reverse.takeWhile (· == 47)).reverse, ?_, ?_⟩
  · unfold stripTrailingSlashes
    rw [← List.reverse_append, List.takeWhile_append_dropWhile, List.reverse_reverse]
  · intro c hc
    have := List.all_eq_true.mp List.all_takeWhile _ (List.mem_reverse.mp hc)
    simpa using this

theorem stripTrailing_good {q : Bytes} (hq : Good q) :
    stripTrailingSlashes q = [] ∨ Good (stripTrailingSlashes q) := by
  obtain ⟨s, hs, hall⟩ := stripTrailing_decomp q
  generalize stripTrailingSlashes q = r at hs ⊢
  by_cases hr : r = []
  · exact Or.inl hr
  · right
    have hpre : r <+: q := ⟨s, hs.symm⟩
    refine good_infix hq hpre.isInfix ((head_of_prefix hpre hr).trans hq.1) ?_
    rintro ⟨x, hx⟩
    cases s with
    | nil => exact hq.2.2.2.2 ⟨x, by rw [hs, ← hx]; simp⟩
    | cons c s' =>
      have hc : c = 47 := hall c (by simp)
      subst hc
      exact hq.2.2.2.1 ⟨x, s', by rw [hs, ← hx]; simp⟩

/-! ### request side: the parsed URI and the stock rewriters -/

/-- `ctx.Path()` of every request (Host header, request target) is a result of `normalizePath` (`Uri.parse_inv`) -/
theorem parse_good (h t : Bytes) : Good (parse h t).pathOrSlash := by
  obtain ⟨p, hp⟩ := (parse_inv h t).pathNorm
  rw [hp]; exact normalizePath_contained p

/-- the rewriters that ship with hertz (`nil`, `NewPathSlashesStripper`, `NewVHostPathRewriter`) -/
inductive Stock : Rewriter → Prop
  | none : Stock .none
  | stripper (n : Nat) : Stock (.stripper n)
  | vhost (n : Nat) : Stock (.vhost n)

theorem setPathBytes_pathOrSlash (u : URI) (x : Bytes) : (setPathBytes u x).pathOrSlash = normalizePath x := by
  apply pathOrSlash_normalize
  rfl

theorem rewrite_good {rw : Rewriter} {u u' : URI} {p : Bytes} (hs : Stock rw) (hu : Good u.pathOrSlash)
    (h : rewrite rw u = some (p, u')) : (p = [] ∨ Good p) ∧ Good u'.pathOrSlash := by
  cases hs with
  | none =>
    simp only [rewrite, Option.some.injEq, Prod.mk.injEq] at h
    obtain ⟨rfl, rfl⟩ := h
    exact ⟨Or.inr hu, hu⟩
  | stripper n =>
    simp only [rewrite, Option.map_eq_some_iff, Prod.mk.injEq] at h
    obtain ⟨r, hr, rfl, rfl⟩ := h
    exact ⟨stripLeading_good hu hr, hu⟩
  | vhost n =>
    simp only [rewrite, Option.map_eq_some_iff, Prod.mk.injEq] at h
    obtain ⟨r, _, rfl, rfl⟩ := h
    rw [setPathBytes_pathOrSlash]
    exact ⟨Or.inr (normalizePath_contained _), normalizePath_contained _⟩

/-- the stock rewriters never panic on a parsed request -/
theorem rewrite_total {rw : Rewriter} {u : URI} (hs : Stock rw) (hu : Good u.pathOrSlash) :
    ∃ r, rewrite rw u = some r := by
  cases hs with
  | none => exact ⟨_, rfl⟩
  | stripper n | vhost n =>
    obtain ⟨r, hr, _⟩ := stripLeading_spec n _ hu.1
    simp only [rewrite, hr, Option.map_some]
    exact ⟨_, rfl⟩

theorem stripTrailing_nil : stripTrailingSlashes [] = [] := rfl

/-- what is opened is the rewriter's result with its trailing slashes stripped, and it has passed the handler's guard
when a rewriter (stock or the application's own) is set -/
theorem decision_open {rw : Rewriter} {u u' : URI} {p : Bytes} (h : decision rw u = some (.openPath p, u')) :
    ∃ p0, rewrite rw u = some (p0, u') ∧ p = stripTrailingSlashes p0 ∧ (rw ≠ .none → refused p = false) := by
  simp only [decision, Option.map_eq_some_iff] at h
  obtain ⟨⟨p0, u0⟩, hr, h⟩ := h
  split at h
  · cases h
  · split at h
    · cases h
    · rename_i hg
      cases h
      exact ⟨p0, hr, rfl, fun hrw => by simpa [bne_iff_ne.mpr hrw] using hg⟩

theorem decision_good {rw : Rewriter} {u u' : URI} {p : Bytes} (hs : Stock rw) (hu : Good u.pathOrSlash)
    (h : decision rw u = some (.openPath p, u')) : p = [] ∨ Good p := by
  obtain ⟨p0, hr, rfl, _⟩ := decision_open h
  exact (rewrite_good hs hu hr).1.elim (fun e => Or.inl (e ▸ stripTrailing_nil)) stripTrailing_good

theorem servable_of {p : Bytes} (h : p = [] ∨ Good p) : servable p = true := by
  rcases h with e | g
  · simp [servable, e]
  · simp [servable, good_contained g]

/-! ### the handler's own guard (any rewriter result) -/

/-- what `os.Open` needs of the path appended to the root: a slash in front and no `..` component -/
def NoClimb (p : Bytes) : Prop := p = [] ∨ (p.head? = some 47 ∧ ¬ DDS <:+: p ∧ ¬ SDD <:+ p)

theorem noClimb_of_good {p : Bytes} (h : p = [] ∨ Good p) : NoClimb p :=
  h.imp id fun g => ⟨g.1, g.2.2.2.1, g.2.2.2.2⟩

theorem containsSub_of_infix (pat : Bytes) : ∀ l : Bytes, pat <:+: l → containsSub pat l = true
  | [], h => by
    have : pat = [] := List.infix_nil.mp h
    simp [containsSub, this]
  | c :: t, h => by
    simp only [containsSub, Bool.or_eq_true]
    rcases List.infix_cons_iff.mp h with h1 | h2
    · exact Or.inl (List.isPrefixOf_iff_prefix.mpr h1)
    · exact Or.inr (containsSub_of_infix pat t h2)

theorem noClimb_of_unrefused {p : Bytes} (h : refused p = false) : NoClimb p := by
  simp only [refused, Bool.or_eq_false_iff, Bool.and_eq_false_iff, Bool.not_eq_false', bne_eq_false_iff_eq] at h
  obtain ⟨⟨h1, h2⟩, h3⟩ := h
  refine h3.imp (by simp) fun hh => ⟨hh, fun hi => ?_, fun hs => ?_⟩
  · have := containsSub_of_infix _ _ hi
    rw [show containsSub DDS p = false from h1] at this; cases this
  · have := List.isSuffixOf_iff_suffix.mpr hs
    rw [h2] at this; cases this

/-- For every rewriter, what reaches `os.Open` has no `..` component: the guard sees to it for the stock rewriters and
the application's own alike; only without a rewriter, when the guard is not consulted, does it rest on the request
path being normalised. -/
theorem decision_noClimb {rw : Rewriter} {u u' : URI} {p : Bytes} (hu : rw = .none → Good u.pathOrSlash)
    (h : decision rw u = some (.openPath p, u')) : NoClimb p := by
  obtain ⟨p0, hr, rfl, hg⟩ := decision_open h
  by_cases hrw : rw = .none
  · subst hrw
    cases hr
    exact noClimb_of_good (stripTrailing_good (hu rfl))
  · exact noClimb_of_unrefused (hg hrw)

/-! ### the kernel's path resolution stays below its starting directory when no component is `..` -/

theorem splitSlash_eq : ∀ b : Bytes, FsPath.splitSlash b = Spec.splitSlash b
  | [] => rfl
  | c :: t => by
    simp only [FsPath.splitSlash, Spec.splitSlash, splitSlash_eq t]
    by_cases h : c = 47
    · simp [h]
    · simp only [h, if_false]; cases Spec.splitSlash t <;> rfl

/-- a served result lies in (or is) the directory `R` below the base -/
def Found.inside (R : Bytes) : Found → Prop
  | .file l => l.head? = some R
  | .dir l => l.head? = some R
  | .missing => True

theorem walk_inside (t : Tree) (R : Bytes) (segs cur : List Bytes) (hc : cur.head? = some R)
    (hs : ∀ s ∈ segs, s ≠ [46, 46]) : Found.inside R (walk t cur segs) := by
  fun_induction walk t cur segs with
  | case1 | case2 => exact hc
  | case3 | case4 => trivial
  | case5 cur c rest _ _ ih => exact ih hc (List.forall_mem_cons.mp hs).2
  | case6 cur c rest _ _ h | case7 cur c rest _ _ h => exact absurd (eq_of_beq h) (hs c List.mem_cons_self)
  | case8 cur c rest _ _ _ ih =>
    refine ih ?_ (List.forall_mem_cons.mp hs).2
    cases cur with
    | nil => cases hc
    | cons a b => exact hc

/-- the string handed to `os.Open` splits into the root's name followed by components none of which is `..` -/
def Safe (R x : Bytes) : Prop := ∃ rest, Spec.splitSlash x = R :: rest ∧ ∀ s ∈ rest, s ≠ dotdot

theorem safe_root {R : Bytes} (hR : 47 ∉ R) : Safe R R := ⟨[], PathSeg.splitSlash_single R hR, fun _ h => by cases h⟩

theorem safe_append {R x name : Bytes} (h : Safe R x) (hn : ∀ s ∈ Spec.splitSlash name, s ≠ dotdot) :
    Safe R (x ++ 47 :: name) := by
  obtain ⟨rest, e, hr⟩ := h
  refine ⟨rest ++ Spec.splitSlash name, by rw [PathSeg.splitSlash_append, e]; rfl, ?_⟩
  intro s hs
  rcases List.mem_append.mp hs with h1 | h2
  · exact hr s h1
  · exact hn s h2

theorem safe_of_noClimb {R p : Bytes} (hR : 47 ∉ R) (h : NoClimb p) : Safe R (R ++ p) := by
  rcases h with rfl | ⟨hh, h1, h2⟩
  · rw [List.append_nil]; exact safe_root hR
  · cases p with
    | nil => cases hh
    | cons c body =>
      cases (Option.some.inj hh : c = 47)
      refine safe_append (safe_root hR) fun s hs e => ?_
      have hr := PathSeg.render_dotdot _ (PathSeg.splitSlash_SF body) (e ▸ hs)
      rw [PathSeg.render_splitSlash] at hr
      exact hr.elim h1 h2

def PlainName (R : Bytes) : Prop := 47 ∉ R ∧ R ≠ [] ∧ R ≠ [46] ∧ R ≠ [46, 46]

theorem osOpen_inside (t : Tree) {R x : Bytes} (hR : PlainName R) (h : Safe R x) : Found.inside R (osOpen t x) := by
  obtain ⟨rest, e, hr⟩ := h
  unfold osOpen
  rw [splitSlash_eq, e]
  have h1 : R.isEmpty = false := by
    cases R with
    | nil => exact absurd rfl hR.2.1
    | cons a b => rfl
  have h2 : (R == [46]) = false := by simpa using hR.2.2.1
  have h3 : (R == [46, 46]) = false := by simpa using hR.2.2.2
  simp only [walk, Tree.isDir, List.isEmpty_nil, Bool.true_or, Bool.not_true, Bool.false_eq_true, if_false, h1, h2, h3,
    Bool.or_self, List.nil_append]
  exact walk_inside t R rest [R] rfl hr

def Served.inside (R : Bytes) : Served → Prop
  | .file l => l.head? = some R
  | .listing l => l.head? = some R
  | .status _ => True

theorem openIndex_inside (t : Tree) (cfg : FsCfg) (hR : PlainName cfg.root) {x : Bytes} (hx : Safe cfg.root x)
    (names : List Bytes) (hn : ∀ n ∈ names, ∀ s ∈ Spec.splitSlash n, s ≠ dotdot) :
    Served.inside cfg.root (openIndex t cfg x names) := by
  fun_induction openIndex t cfg x names with
  | case1 _ d hd => exact (hd ▸ osOpen_inside t hR hx : Found.inside cfg.root (.dir d))
  | case2 | case3 | case5 => trivial
  | case4 s r a hf =>
    exact (hf ▸ osOpen_inside t hR (safe_append hx (hn s List.mem_cons_self)) : Found.inside cfg.root (.file a))
  | case6 s r _ ih => exact ih (List.forall_mem_cons.mp hn).2

theorem openServe_inside_safe (t : Tree) (cfg : FsCfg) (hR : PlainName cfg.root)
    (hn : ∀ n ∈ cfg.indexNames, ∀ s ∈ Spec.splitSlash n, s ≠ dotdot) {p : Bytes} (hx : Safe cfg.root (cfg.root ++ p)) :
    Served.inside cfg.root (openServe t cfg p) := by
  simp only [openServe]
  have := osOpen_inside t hR hx
  split
  · rename_i f hf; rw [hf] at this; exact this
  · exact openIndex_inside t cfg hR hx _ hn
  · trivial

theorem serve_status_or_open {t : Tree} {cfg : FsCfg} {rw : Rewriter} {u u' : URI} {s : Served}
    (h : serve t cfg rw u = some (s, u')) :
    (∃ code, s = .status code) ∨ ∃ p, decision rw u = some (.openPath p, u') ∧ s = openServe t cfg p := by
  unfold serve at h
  cases hd : decision rw u with
  | none => rw [hd] at h; cases h
  | some du =>
    obtain ⟨d, u0⟩ := du
    rw [hd] at h
    simp only [Option.map_some, Option.some.injEq] at h
    cases d with
    | badRequest => cases h; exact Or.inl ⟨_, rfl⟩
    | guard => cases h; exact Or.inl ⟨_, rfl⟩
    | openPath p => cases h; exact Or.inr ⟨p, rfl, rfl⟩

/-- Nothing outside `FS.Root` is served, whatever the rewriter. -/
theorem serve_inside (t : Tree) (cfg : FsCfg) (hR : PlainName cfg.root)
    (hn : ∀ n ∈ cfg.indexNames, ∀ s ∈ Spec.splitSlash n, s ≠ dotdot)
    {rw : Rewriter} {u u' : URI} {s : Served} (hu : rw = .none → Good u.pathOrSlash)
    (h : serve t cfg rw u = some (s, u')) : Served.inside cfg.root s := by
  rcases serve_status_or_open h with ⟨_, rfl⟩ | ⟨p, hd, rfl⟩
  · trivial
  · exact openServe_inside_safe t cfg hR hn (safe_of_noClimb hR.1 (decision_noClimb hu hd))

/-- The rewriters, the slash strippers, the head of `handleRequest` and `SetPathBytes` have the statement skeletons
`Hertz.Model.FsPath` follows (regenerated from the working tree on every run): the vhost rewriter pushes `/` + host + stripped path
through `URI.SetPathBytes` and returns `ctx.Path()`; the stripper returns `stripLeadingSlashes(ctx.Path(), n)`;
`handleRequest` strips trailing slashes, then tests for NUL, then (only with a rewriter) for `/../`, a trailing `/..` and a missing leading slash. -/
theorem model_matches_gen :
    strInvalidHost = Gen.FsPath.strInvalidHost ∧
    Gen.FsPath.vhostRewriter = [
      "path := stripLeadingSlashes(ctx.Path(), slashesCount)",
      "host := ctx.Host()",
      "if n := bytes.IndexByte(host, '/'); n >= 0", "host = nil",
      "if len(host) == 0", "host = strInvalidHost",
      "b := bytebufferpool.Get()",
      "b.B = append(b.B, '/')", "b.B = append(b.B, host...)", "b.B = append(b.B, path...)",
      "ctx.URI().SetPathBytes(b.B)",
      "bytebufferpool.Put(b)",
      "return ctx.Path()"] ∧
    Gen.FsPath.slashesStripper = ["return stripLeadingSlashes(ctx.Path(), slashesCount)"] ∧
    Gen.FsPath.stripLeadingSlashes = [
      "for ; stripSlashes > 0 && len(path) > 0; ",
      "if path[0] != '/'", "panic(\"BUG: path must start with slash\")",
      "n := bytes.IndexByte(path[1:], '/')",
      "if n < 0", "path = path[:0]",
      "path = path[n+1:]", "stripSlashes--",
      "return path"] ∧
    Gen.FsPath.stripTrailingSlashes = [
      "for ; len(path) > 0 && path[len(path)-1] == '/'; ", "path = path[:len(path)-1]", "return path"] ∧
    Gen.FsPath.handleRequestHead = [
      "var path []byte",
      "if h.pathRewrite != nil", "path = h.pathRewrite(ctx)", "else", "path = ctx.Path()",
      "path = stripTrailingSlashes(path)",
      "if n := bytes.IndexByte(path, 0); n >= 0",
      "ctx.AbortWithMsg(\"Are you a hacker?\", consts.StatusBadRequest)", "return",
      "if h.pathRewrite != nil",
      "if n := bytes.Index(path, bytestr.StrSlashDotDotSlash); n >= 0",
      "ctx.AbortWithMsg(\"Internal Server Error\", consts.StatusInternalServerError)", "return",
      "if bytes.HasSuffix(path, bytestr.StrSlashDotDotSlash[:3]) || (len(path) > 0 && path[0] != '/')",
      "ctx.AbortWithMsg(\"Internal Server Error\", consts.StatusInternalServerError)", "return"] ∧
    Gen.FsPath.setPathBytes = [
      "u.pathOriginal = append(u.pathOriginal[:0], path...)",
      "u.path = normalizePath(u.path, u.pathOriginal)"] := by
  exact ⟨rfl, rfl, rfl, rfl, rfl, rfl, rfl⟩

end Hertz.FsPath
