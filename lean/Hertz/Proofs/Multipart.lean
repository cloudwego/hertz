import Hertz.Model.Multipart
import Hertz.Spec.Multipart
/-!
Round trip of hertz's multipart writer (`Model/Multipart.lean`) through the independent decoder (`Spec/Multipart.lean`).
The decoder cuts at first occurrences (`splitOnce`): a cut is found where the bytes in front lack the pattern's first byte
(`splitOnce_first_byte`: header lines, parameters) and stays when text is appended (`splitOnce_append`: the content, from
`Clean.content`); the quoted-string reader undoes `escapeQuotes` (`quoted_escapeQ`); then one part followed by a delimiter
(`parts_step`) and induction over the parts.
-/
namespace Hertz.MultipartRT
open Hertz Hertz.Multipart
open Hertz.Spec.Multipart (splitOnce headerLines params lookup parts decode lower quoted)

theorem isPrefixOf_self_append (p t : Bytes) : p.isPrefixOf (p ++ t) = true := by
  rw [List.isPrefixOf_iff_prefix]; exact List.prefix_append p t

theorem splitOnce_first_byte (x : UInt8) (pat' : Bytes) (t : Bytes) : ∀ a : Bytes, x ∉ a →
    splitOnce (x :: pat') (a ++ (x :: pat') ++ t) = some (a, t)
  | [], _ => by
    have h1 : ([] : Bytes) ++ (x :: pat') ++ t = x :: (pat' ++ t) := by simp
    rw [h1, splitOnce]
    have : (x :: pat').isPrefixOf (x :: (pat' ++ t)) = true := isPrefixOf_self_append (x :: pat') t
    simp only [this, if_true]
    simp
  | c :: a, h => by
    have hc : x ≠ c := by intro e; exact h (by simp [e])
    have ha : x ∉ a := by intro e; exact h (by simp [e])
    have h1 : (c :: a) ++ (x :: pat') ++ t = c :: (a ++ (x :: pat') ++ t) := by simp
    rw [h1, splitOnce]
    have : (x :: pat').isPrefixOf (c :: (a ++ (x :: pat') ++ t)) = false := by
      simp [List.isPrefixOf, hc]
    simp only [this, Bool.false_eq_true, if_false]
    rw [splitOnce_first_byte x pat' t a ha]
    rfl

theorem splitOnce_sound (D : Bytes) : ∀ (x a r : Bytes), splitOnce D x = some (a, r) → x = a ++ D ++ r
  | [], a, r, h => by
    unfold splitOnce at h
    split at h
    · rename_i he
      simp only [Option.some.injEq, Prod.mk.injEq] at h
      have : D = [] := by simpa using he
      rw [← h.1, ← h.2, this]; rfl
    · cases h
  | c :: x, a, r, h => by
    unfold splitOnce at h
    split at h
    · rename_i hp
      simp only [Option.some.injEq, Prod.mk.injEq] at h
      rw [← h.1, ← h.2]
      rw [List.isPrefixOf_iff_prefix, List.prefix_iff_eq_append] at hp
      simpa using hp.symm
    · cases hs : splitOnce D x with
      | none => rw [hs] at h; cases h
      | some v =>
        obtain ⟨a', r'⟩ := v
        rw [hs] at h
        simp only [Option.map_some, Option.some.injEq, Prod.mk.injEq] at h
        have := splitOnce_sound D x a' r' hs
        rw [← h.1, ← h.2, this]; simp

/-- whether a text begins with `D` is decided by its first `D.length` bytes -/
theorem isPrefixOf_append (D l t : Bytes) (h : D.length ≤ l.length) : D.isPrefixOf (l ++ t) = D.isPrefixOf l := by
  rw [Bool.eq_iff_iff, List.isPrefixOf_iff_prefix, List.isPrefixOf_iff_prefix]
  exact ⟨fun hq => List.prefix_of_prefix_length_le hq (List.prefix_append l t) h, fun hp => hp.trans (List.prefix_append l t)⟩

theorem splitOnce_append (D : Bytes) (hD : D ≠ []) (t : Bytes) : ∀ (x a r : Bytes), splitOnce D x = some (a, r) →
    splitOnce D (x ++ t) = some (a, r ++ t)
  | [], a, r, h => by
    have : D.isEmpty = false := by cases D <;> simp_all
    simp [splitOnce, this] at h
  | c :: x, a, r, h => by
    -- `D` occurs in `c :: x`, so it is at most that long: appending `t` does not change whether it stands in front
    have hlen : D.length ≤ (c :: x).length := by
      rw [splitOnce_sound D _ a r h]; simp only [List.length_append]; omega
    rw [splitOnce] at h
    rw [List.cons_append, splitOnce, ← List.cons_append, isPrefixOf_append D _ t hlen]
    split at h
    · rename_i hp
      simp only [Option.some.injEq, Prod.mk.injEq] at h
      simp only [hp, if_true, Option.some.injEq, Prod.mk.injEq]
      exact ⟨h.1, by rw [← h.2, List.drop_append_of_le_length hlen]⟩
    · rename_i hp
      cases hs : splitOnce D x with
      | none => rw [hs] at h; cases h
      | some v =>
        rw [hs] at h
        rw [if_neg hp, splitOnce_append D hD t x v.1 v.2 hs]
        simp only [Option.map_some, Option.some.injEq, Prod.mk.injEq] at h ⊢
        exact ⟨h.1, by rw [h.2]⟩

/-- no byte that `CreateMultipartHeader` cannot write reversibly (CR / LF become `%0D` / `%0A`; `"` and `\` are escaped
as quoted pairs and read back, so they are allowed) -/
def cleanVal (v : Bytes) : Prop := 13 ∉ v ∧ 10 ∉ v

/-- the delimiter of boundary `b` as it appears behind a part's content -/
def delim (b : Bytes) : Bytes := [13, 10, 45, 45] ++ b

/-- `ctype` may not begin with SP: the decoder's line reader drops the blanks in front of a value -/
structure Clean (b : Bytes) (p : Part) : Prop where
  name : cleanVal p.name
  file : cleanVal p.fileName
  ctype : 13 ∉ p.ctype ∧ 10 ∉ p.ctype ∧ p.ctype.head? ≠ some 32
  /-- the first delimiter in `content ++ delimiter` is the one appended: the content does not contain (or run into) one -/
  content : splitOnce (delim b) (p.content ++ delim b) = some (p.content, [])

/-- the part as the decoder reports it -/
def intended (p : Part) : Spec.Multipart.Part :=
  { name := p.name, fileName := if blank p.fileName then none else some p.fileName,
    ctype := if p.ctype.isEmpty then none else some p.ctype, content := p.content }

theorem escapeQ_34 (t : Bytes) : escapeQ (34 :: t) = 92 :: 34 :: escapeQ t := by simp [escapeQ]
theorem escapeQ_92 (t : Bytes) : escapeQ (92 :: t) = 92 :: 92 :: escapeQ t := by simp [escapeQ]
theorem escapeQ_other (c : UInt8) (t : Bytes) (h1 : c ≠ 92) (h2 : c ≠ 34) (h3 : c ≠ 13) (h4 : c ≠ 10) :
    escapeQ (c :: t) = c :: escapeQ t := by simp [escapeQ, h1, h2, h3, h4]
theorem quoted_92 (d : UInt8) (t : Bytes) : quoted (92 :: d :: t) = (quoted t).map (fun (v, r) => (d :: v, r)) := by
  simp [quoted]
theorem quoted_other (c d : UInt8) (t : Bytes) (h1 : c ≠ 92) (h2 : c ≠ 34) :
    quoted (c :: d :: t) = (quoted (d :: t)).map (fun (v, r) => (c :: v, r)) := by
  simp [quoted, h1, h2]
theorem quoted_34 (t : Bytes) : quoted (34 :: t) = some ([], t) := by
  cases t <;> simp [quoted]

/-- the strict quoted-string reader undoes `escapeQuotes` on every value without CR / LF, whatever follows the closing quote -/
theorem quoted_escapeQ : ∀ (v rest : Bytes), cleanVal v → quoted (escapeQ v ++ 34 :: rest) = some (v, rest)
  | [], rest, _ => by simp [escapeQ, quoted_34]
  | c :: t, rest, h => by
    have ht : cleanVal t := ⟨fun m => h.1 (List.mem_cons_of_mem _ m), fun m => h.2 (List.mem_cons_of_mem _ m)⟩
    have ih := quoted_escapeQ t rest ht
    have h13 : c ≠ 13 := fun e => h.1 (by simp [e])
    have h10 : c ≠ 10 := fun e => h.2 (by simp [e])
    by_cases h92 : c = 92
    · subst h92
      rw [escapeQ_92, List.cons_append, List.cons_append, quoted_92, ih]; rfl
    · by_cases h34 : c = 34
      · subst h34
        rw [escapeQ_34, List.cons_append, List.cons_append, quoted_92, ih]; rfl
      · rw [escapeQ_other c t h92 h34 h13 h10, List.cons_append]
        cases he : escapeQ t ++ 34 :: rest with
        | nil => simp at he
        | cons d u =>
          rw [he] at ih
          rw [quoted_other c d u h92 h34, ih]; rfl

/-- `escapeQuotes` writes a CR as `%0D`: none is left -/
theorem cr_notin_escapeQ : ∀ v : Bytes, (13 : UInt8) ∉ escapeQ v
  | [] => by simp [escapeQ]
  | c :: t => by
    simp only [escapeQ, List.mem_append, not_or]
    refine ⟨?_, cr_notin_escapeQ t⟩
    split
    · decide
    · split
      · decide
      · split
        · decide
        · split
          · decide
          · rename_i h13 _; simp; exact fun e => h13 e.symm

theorem cleanCT_clean (v : Bytes) (h : 13 ∉ v ∧ 10 ∉ v) : cleanCT v = v := by
  unfold cleanCT
  conv => rhs; rw [← List.map_id v]
  apply List.map_congr_left
  intro c hc
  have h1 : c ≠ 13 := fun e => h.1 (e ▸ hc)
  have h2 : c ≠ 10 := fun e => h.2 (e ▸ hc)
  simp [h1, h2]

theorem params_disposition (p : Part) (hn : cleanVal p.name) (hf : cleanVal p.fileName) (fuel : Nat) (h3 : 3 ≤ fuel) :
    params fuel ((disposition p).drop Spec.Multipart.sFormData.length) =
      some ((Spec.Multipart.sName, p.name) ::
        (if blank p.fileName then [] else [(Spec.Multipart.sFileName, p.fileName)])) := by
  obtain ⟨fuel, rfl⟩ : ∃ n, fuel = n + 3 := ⟨fuel - 3, by omega⟩
  have hd : (disposition p).drop Spec.Multipart.sFormData.length =
      59 :: 32 :: ([110, 97, 109, 101] ++ [61, 34] ++ (escapeQ p.name ++ 34 :: (if blank p.fileName then [] else
        59 :: 32 :: ([102, 105, 108, 101, 110, 97, 109, 101] ++ [61, 34] ++ (escapeQ p.fileName ++ 34 :: []))))) := by
    unfold disposition sDisp sFile Spec.Multipart.sFormData
    split <;> simp
  rw [hd, params]
  simp only
  rw [splitOnce_first_byte 61 [34] _ [110, 97, 109, 101] (by decide)]
  simp only [bind, Option.bind]
  rw [quoted_escapeQ p.name _ hn]
  simp only
  split
  · simp [params, Spec.Multipart.sName]
  · rw [params]
    simp only
    rw [splitOnce_first_byte 61 [34] _ [102, 105, 108, 101, 110, 97, 109, 101] (by decide)]
    simp only [bind, Option.bind]
    rw [quoted_escapeQ p.fileName _ hf]
    simp [params, Spec.Multipart.sName, Spec.Multipart.sFileName]

/-- `Content-Disposition` / `Content-Type` without the colon -/
def cdName : Bytes := [67, 111, 110, 116, 101, 110, 116, 45, 68, 105, 115, 112, 111, 115, 105, 116, 105, 111, 110]
def ctName : Bytes := [67, 111, 110, 116, 101, 110, 116, 45, 84, 121, 112, 101]

theorem sCD_eq : sCD = cdName ++ [58] ++ [32] := by decide
theorem sCT_eq : sCT = ctName ++ [58] ++ [32] := by decide

theorem notin_disposition (x : UInt8) (p : Part) (hc : x ∉ sDisp ∧ x ∉ sFile ∧ x ≠ 34)
    (hn : x ∉ escapeQ p.name) (hf : x ∉ escapeQ p.fileName) : x ∉ disposition p := by
  unfold disposition
  split <;> simp [hc.1, hc.2.1, hc.2.2, hn, hf, List.mem_append] <;> exact fun h => hc.2.2 h.symm

/-- the header fields of one part as the decoder's line reader returns them -/
def hdrs (p : Part) : List (Bytes × Bytes) :=
  (Spec.Multipart.sCD, disposition p) :: (if p.ctype.isEmpty then [] else [(Spec.Multipart.sCT, p.ctype)])

/-- a header line as `CreatePart` writes it -/
def line (kv : Bytes × Bytes) : Bytes := kv.1 ++ 58 :: 32 :: kv.2 ++ [13, 10]

/-- the decoder's line reader on written lines: names without colon, no CR, values that do not begin with a blank -/
theorem headerLines_lines (X : Bytes) : ∀ (l : List (Bytes × Bytes)) (fuel : Nat), l.length < fuel →
    (∀ kv ∈ l, (58 ∉ kv.1 ∧ 13 ∉ kv.1) ∧ 13 ∉ kv.2 ∧ kv.2.head? ≠ some 32) →
    headerLines fuel (l.flatMap line ++ 13 :: 10 :: X) = some (l.map fun kv => (kv.1.map lower, kv.2), X)
  | [], fuel + 1, _, _ => by
    rw [headerLines]
    have := splitOnce_first_byte 13 [10] X [] (by simp)
    simp only [List.nil_append, List.cons_append] at this
    simp [this, bind, Option.bind]
  | (k, v) :: l, fuel + 1, hf, h => by
    obtain ⟨⟨h58, hk⟩, hv, h32⟩ := h (k, v) List.mem_cons_self
    have hl : (13 : UInt8) ∉ k ++ 58 :: 32 :: v := by simp [hk, hv]
    have hcol : splitOnce [58] (k ++ 58 :: 32 :: v) = some (k, 32 :: v) := by
      simpa using splitOnce_first_byte 58 [] (32 :: v) k h58
    have hdw : (32 :: v).dropWhile (· == 32) = v := by
      cases v with
      | nil => rfl
      | cons c t =>
        have : (c == 32) = false := beq_false_of_ne fun e => h32 (e ▸ rfl)
        simp [List.dropWhile, this]
    have hw : ((k, v) :: l).flatMap line ++ 13 :: 10 :: X =
        (k ++ 58 :: 32 :: v) ++ [13, 10] ++ (l.flatMap line ++ 13 :: 10 :: X) := by simp [line]
    have ih := headerLines_lines X l fuel (Nat.lt_of_succ_lt_succ hf) (fun kv hkv => h kv (List.mem_cons_of_mem _ hkv))
    rw [hw, headerLines, splitOnce_first_byte 13 [10] _ _ hl]
    simp [bind, Option.bind, hcol, hdw, ih]

theorem headerLines_partHead (b : Bytes) (p : Part) (hc : Clean b p) (fuel : Nat) (X : Bytes) (h3 : 3 ≤ fuel) :
    headerLines fuel (partHead p ++ X) = some (hdrs p, X) := by
  let l : List (Bytes × Bytes) := (cdName, disposition p) :: (if p.ctype.isEmpty then [] else [(ctName, p.ctype)])
  have hw : partHead p ++ X = l.flatMap line ++ 13 :: 10 :: X := by
    unfold partHead crlf l line
    rw [sCD_eq, sCT_eq, cleanCT_clean p.ctype ⟨hc.ctype.1, hc.ctype.2.1⟩]
    split <;> simp
  have hm : l.map (fun kv => (kv.1.map lower, kv.2)) = hdrs p := by
    unfold l hdrs; split <;> rfl
  rw [hw, headerLines_lines X l fuel (by unfold l; split <;> simp <;> omega) ?_, hm]
  refine List.forall_mem_cons.2 ⟨⟨(by decide : 58 ∉ cdName ∧ 13 ∉ cdName),
    notin_disposition 13 p (by decide) (cr_notin_escapeQ _) (cr_notin_escapeQ _), by simp [disposition, sDisp]⟩, ?_⟩
  split
  · nofun
  · exact List.forall_mem_singleton.2 ⟨(by decide : 58 ∉ ctName ∧ 13 ∉ ctName), hc.ctype.1, hc.ctype.2.2⟩

/-- what follows the content of a part: the delimiter and the remaining parts, or the closing delimiter -/
def tailWire (b : Bytes) : List Part → Bytes
  | [] => crlf ++ dashes ++ b ++ dashes ++ crlf
  | q :: qs => crlf ++ dashes ++ b ++ crlf ++ partHead q ++ q.content ++ tailWire b qs

theorem partsWire_tail (b : Bytes) : ∀ ps : List Part,
    partsWire b false ps ++ (crlf ++ dashes ++ b ++ dashes ++ crlf) = tailWire b ps
  | [] => by simp [partsWire, tailWire]
  | q :: qs => by
    have := partsWire_tail b qs
    simp only [partsWire, tailWire, Bool.false_eq_true, if_false, List.append_assoc] at this ⊢
    rw [this]

theorem wire_cons (b : Bytes) (p : Part) (ps : List Part) :
    wire b (p :: ps) = dashes ++ b ++ crlf ++ (partHead p ++ p.content ++ tailWire b ps) := by
  have := partsWire_tail b ps
  simp only [wire, partsWire, if_true, List.nil_append, List.append_assoc] at this ⊢
  rw [this]

theorem length_le_tailWire (b : Bytes) : ∀ ps : List Part, ps.length ≤ (tailWire b ps).length
  | [] => by simp
  | q :: qs => by
    have := length_le_tailWire b qs
    simp only [tailWire, crlf, dashes, List.length_append, List.length_cons, List.length_nil]; omega

theorem tailWire_delim (b : Bytes) (ps : List Part) :
    tailWire b ps = delim b ++ (match ps with
      | [] => [45, 45, 13, 10]
      | q :: qs => 13 :: 10 :: (partHead q ++ q.content ++ tailWire b qs)) := by
  cases ps <;> simp [tailWire, delim, crlf, dashes]

/-- the header fields as `parts` sorts them: one `Content-Disposition`, and the `Content-Type` fields `cts` (none or one) -/
theorem hdrs_facts (p : Part) : ∃ cts : List (Bytes × Bytes),
    (hdrs p).filter (·.1 == Spec.Multipart.sCD) = [(Spec.Multipart.sCD, disposition p)] ∧
    (hdrs p).filter (·.1 == Spec.Multipart.sCT) = cts ∧ (hdrs p).length = 1 + cts.length ∧ cts.length ≤ 1 ∧
    cts.head?.map (·.2) = (intended p).ctype := by
  have h1 : (Spec.Multipart.sCT == Spec.Multipart.sCD) = false := by decide
  have h2 : (Spec.Multipart.sCD == Spec.Multipart.sCT) = false := by decide
  refine ⟨if p.ctype.isEmpty then [] else [(Spec.Multipart.sCT, p.ctype)], ?_⟩
  unfold hdrs intended
  split <;> simp [List.filter, h1, h2]

theorem formData_prefix (p : Part) : Spec.Multipart.sFormData.isPrefixOf (disposition p) = true := by
  have : disposition p = Spec.Multipart.sFormData ++ (disposition p).drop Spec.Multipart.sFormData.length := by
    unfold disposition sDisp Spec.Multipart.sFormData
    simp
  rw [this]; exact isPrefixOf_self_append _ _

theorem lookup_params (p : Part) :
    lookup Spec.Multipart.sName ((Spec.Multipart.sName, p.name) ::
        (if blank p.fileName then [] else [(Spec.Multipart.sFileName, p.fileName)])) = some p.name ∧
    lookup Spec.Multipart.sFileName ((Spec.Multipart.sName, p.name) ::
        (if blank p.fileName then [] else [(Spec.Multipart.sFileName, p.fileName)])) =
      (if blank p.fileName then none else some p.fileName) := by
  have h1 : (Spec.Multipart.sName == Spec.Multipart.sFileName) = false := by decide
  constructor
  · simp [lookup]
  · split <;> simp [lookup, h1]

/-- one part followed by a delimiter: the decoder reports it and goes on with what follows the delimiter -/
theorem parts_step (b : Bytes) (p : Part) (hc : Clean b p) (fuel : Nat) (after : Bytes) :
    parts b (fuel + 1) (partHead p ++ (p.content ++ (delim b ++ after))) =
      if after == [45, 45, 13, 10] then some [intended p]
      else match after with
        | 13 :: 10 :: t => (parts b fuel t).map (intended p :: ·)
        | _ => none := by
  rw [parts, headerLines_partHead b p hc _ _ (by simp only [List.length_append, partHead, sCD, List.length_cons]; omega)]
  obtain ⟨cts, g2, g3, g4, g5, g6⟩ := hdrs_facts p
  have hpar := params_disposition p hc.name hc.file ((disposition p).length + 1) (by
    unfold disposition sDisp; simp only [List.length_append, List.length_cons]; omega)
  have hsp := splitOnce_append (delim b) (by simp [delim]) after _ _ _ hc.content
  simp only [List.nil_append, List.append_assoc] at hsp
  have hdelim : ([13, 10, 45, 45] : Bytes) ++ b = delim b := rfl
  have hl : ¬ (1 + cts.length > 2) := by omega
  simp only [bind, Option.bind, g2, g3, g4, g6, hl, if_false, List.length_cons, List.length_nil, bne_self_eq_false,
    List.head?_cons, formData_prefix, Bool.not_true, Bool.false_eq_true, hpar, (lookup_params p).1, (lookup_params p).2,
    hdelim, hsp]
  rfl

theorem parts_wire (b : Bytes) : ∀ (ps : List Part) (p : Part) (fuel : Nat), ps.length < fuel → Clean b p →
    (∀ q ∈ ps, Clean b q) →
    parts b fuel (partHead p ++ p.content ++ tailWire b ps) = some (intended p :: ps.map intended)
  | [], p, fuel, hf, hc, _ => by
    obtain ⟨f, rfl⟩ : ∃ f, fuel = f + 1 := ⟨fuel - 1, by omega⟩
    rw [tailWire_delim, List.append_assoc, parts_step b p hc]
    rfl
  | q :: qs, p, fuel, hf, hc, hall => by
    obtain ⟨f, rfl⟩ : ∃ f, fuel = f + 1 := ⟨fuel - 1, by omega⟩
    have ih := parts_wire b qs q f (by simpa using hf) (hall q (by simp)) (fun x hx => hall x (by simp [hx]))
    rw [List.append_assoc] at ih
    rw [tailWire_delim, List.append_assoc, parts_step b p hc]
    simp [ih]

/-- **round trip**: for every boundary and every list of clean parts, the independent decoder reads the writer's bytes
back to exactly the parts attached -/
theorem decode_wire (b : Bytes) (ps : List Part) (hall : ∀ q ∈ ps, Clean b q) :
    decode b (wire b ps) = some (ps.map intended) := by
  cases ps with
  | nil =>
    unfold decode wire
    simp [partsWire, crlf, dashes]
  | cons p ps =>
    unfold decode
    rw [wire_cons]
    have hne : ((dashes ++ b ++ crlf ++ (partHead p ++ p.content ++ tailWire b ps)) ==
        [13, 10, 45, 45] ++ b ++ [45, 45, 13, 10]) = false := by
      simp [dashes]
    simp only [hne, Bool.false_eq_true, if_false]
    have hs := splitOnce_first_byte 45 (45 :: (b ++ [13, 10])) (partHead p ++ p.content ++ tailWire b ps) [] (by simp)
    have hw : ([45, 45] : Bytes) ++ b ++ [13, 10] = 45 :: 45 :: (b ++ [13, 10]) := by simp
    have hw2 : dashes ++ b ++ crlf ++ (partHead p ++ p.content ++ tailWire b ps) =
        [] ++ (45 :: 45 :: (b ++ [13, 10])) ++ (partHead p ++ p.content ++ tailWire b ps) := by
      simp [dashes, crlf]
    rw [hw, hw2, hs]
    simp only
    refine parts_wire b ps p _ ?_ (hall p (by simp)) (fun q hq => hall q (by simp [hq]))
    simp only [List.length_append, List.length_cons]
    have := length_le_tailWire b ps
    omega

end Hertz.MultipartRT
