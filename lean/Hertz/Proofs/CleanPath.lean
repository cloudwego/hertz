import Hertz.Proofs.PathSpec
/-!
# `utils.CleanPath` (model `cleanPath`) only produces contained paths

Invariant of the main loop: between two segments the output buffer is `/` or `/s1/…/sn` with every `si`
non-empty, slash-free, not `.` and not `..` (`GoodOut`); inside the inner copy loop (`cleanLoop true`) it is such a
buffer followed by the part of a segment copied so far, and the whole of that segment is such an `si` (`Mid`).
The loop keeps it (`cleanLoop_good`, along the clauses of `cleanLoop`) and the final trailing slash does no harm
(`cleanFinish_contained`); `Props/C07.lean` (`cleanPath_contained`) puts the two together.
-/
namespace Hertz.PathSeg
open Hertz Hertz.Spec

/-- a segment the cleaner may keep: slash-free, non-empty, not `.` and not `..` -/
def GoodSeg (s : Bytes) : Prop := 47 ∉ s ∧ Plain s

/-- shape of the output buffer of `CleanPath` between segments: `/` or `/s1/s2/…/sn` with good `si` -/
def GoodOut (out : Bytes) : Prop :=
  out = [47] ∨ ∃ segs : List Bytes, segs ≠ [] ∧ (∀ s ∈ segs, GoodSeg s) ∧ out = render segs

theorem render_length_ge (segs : List Bytes) (h : segs ≠ []) (hg : ∀ s ∈ segs, GoodSeg s) :
    (render segs).length > 1 := by
  cases segs with
  | nil => exact absurd rfl h
  | cons s r =>
    have := (hg s (by simp)).2.1
    rw [render_cons]
    cases s with
    | nil => exact absurd rfl this
    | cons x xs => simp

theorem goodOut_push {out seg : Bytes} (ho : GoodOut out) (hs : GoodSeg seg) :
    GoodOut (cleanPush out ++ seg) := by
  right
  rcases ho with e | ⟨segs, hne, hg, e⟩
  · subst e
    refine ⟨[seg], by simp, by simpa using hs, ?_⟩
    simp [cleanPush, render]
  · refine ⟨segs ++ [seg], by simp, ?_, ?_⟩
    · intro s hm
      rcases List.mem_append.mp hm with h | h
      · exact hg s h
      · simp at h; subst h; exact hs
    · have := render_length_ge segs hne hg
      subst e
      unfold cleanPush
      rw [if_pos this, render_append]
      simp [render]

theorem cleanPop_append (A s : Bytes) (hne : s ≠ []) (hsf : 47 ∉ s) :
    cleanPop (A ++ 47 :: s) = if A = [] then [47] else A := by
  have hdl : (A ++ 47 :: s).dropLast = A ++ 47 :: s.dropLast := by
    rw [List.dropLast_append_of_ne_nil (by simp), List.dropLast_cons_of_ne_nil hne]
  have hr : ((A ++ 47 :: s).dropLast.reverse.dropWhile (· != 47)).reverse = A ++ [47] := by
    rw [hdl, dropWhile_reverse_sf _ _ fun hm => hsf (List.dropLast_subset s hm)]
    simp
  have hlen : (A ++ 47 :: s).length > 1 := by
    cases s with
    | nil => exact absurd rfl hne
    | cons x xs => simp; omega
  unfold cleanPop
  rw [if_pos hlen]
  simp only [hr]
  cases A with
  | nil => simp
  | cons a as =>
    have : (a :: as ++ [47]).dropLast = a :: as := List.dropLast_concat
    simpa using this

theorem goodOut_pop {out : Bytes} (ho : GoodOut out) : GoodOut (cleanPop out) := by
  rcases ho with e | ⟨segs, hne, hg, e⟩
  · subst e; left; rfl
  · subst e
    obtain ⟨pre, s, rfl⟩ : ∃ pre s, segs = pre ++ [s] :=
      ⟨segs.dropLast, segs.getLast hne, (List.dropLast_concat_getLast hne).symm⟩
    have hs := hg s (by simp)
    rw [render_concat, cleanPop_append _ _ hs.2.1 hs.1]
    by_cases hp : pre = []
    · subst hp; left; simp [render]
    · right
      have hr : render pre ≠ [] := by
        cases pre with
        | nil => exact absurd rfl hp
        | cons x xs => rw [render_cons]; simp
      rw [if_neg hr]
      exact ⟨pre, hp, fun x hx => hg x (by simp [hx]), rfl⟩

/-- the invariant at `cleanLoop inSeg t out _`; inside a segment `pre` is the part copied so far and
`t.takeWhile (· != 47)` the part still to come -/
def Mid : Bool → Bytes → Bytes → Prop
  | false, _, out => GoodOut out
  | true, t, out => ∃ o pre, GoodOut o ∧ out = cleanPush o ++ pre ∧ GoodSeg (pre ++ t.takeWhile (· != 47))

/-- the segment that the `default:` case starts to copy: the look-ahead has excluded `.` and `..` -/
theorem goodSeg_start {c d : UInt8} (r : Bytes) (h1 : c ≠ 47) (h2 : ¬(c = 46 ∧ d = 47))
    (h3 : ¬(c = 46 ∧ d = 46 ∧ r.takeWhile (· != 47) = [])) : GoodSeg ([c] ++ (d :: r).takeWhile (· != 47)) := by
  refine ⟨fun hm => ?_, nofun, ?_⟩
  · rcases List.mem_cons.mp hm with e | e
    · exact h1 e.symm
    · exact absurd (List.all_eq_true.mp List.all_takeWhile _ e) (by decide)
  · by_cases hd : d = 47
    · rw [hd, List.takeWhile_cons_of_neg (p := (· != 47)) (by decide)]
      exact ⟨fun e => h2 ⟨(List.cons.inj e).1, hd⟩, nofun⟩
    · rw [List.takeWhile_cons_of_pos (p := (· != 47)) (bne_iff_ne.mpr hd)]
      exact ⟨nofun, fun e =>
        h3 ⟨(List.cons.inj e).1, (List.cons.inj (List.cons.inj e).2).1, (List.cons.inj (List.cons.inj e).2).2⟩⟩

theorem cleanLoop_good (inSeg : Bool) (t out : Bytes) (tr : Bool) :
    Mid inSeg t out → GoodOut (cleanLoop inSeg t out tr).1 := by
  -- cases in the order of the clauses of `cleanLoop`: 1 end of input; 2-3 inside a segment; between segments with one
  -- (4-6), two (7-10) or more (11-14) bytes left: a slash, `.`, `..` (9, 13: pop), or the start of a segment (6, 10, 14)
  fun_induction cleanLoop inSeg t out tr with
  | case1 x out tr =>
    cases x
    · exact id
    · rintro ⟨o, pre, ho, rfl, hg⟩; exact goodOut_push ho (by simpa using hg)
  | case2 t out tr ih => rintro ⟨o, pre, ho, rfl, hg⟩; exact ih (goodOut_push ho (by simpa using hg))
  | case3 c t out tr hc ih =>
    rintro ⟨o, pre, ho, rfl, hg⟩
    exact ih ⟨o, pre ++ [c], ho, by simp, by simpa [hc] using hg⟩
  | case4 | case5 | case8 => exact id
  | case6 c out tr h1 h2 =>
    exact fun ho => goodOut_push ho ⟨by simpa using Ne.symm h1, by simp, by simpa [dot] using h2, by simp [dotdot]⟩
  | case7 d out tr ih | case11 d e t out tr ih | case12 c d e t out tr _ _ ih => exact ih
  | case9 => exact goodOut_pop
  | case10 c d out tr h1 h2 h3 ih =>
    exact fun ho => ih ⟨out, [c], ho, rfl, goodSeg_start [] h1 h2 fun ⟨a, b, _⟩ => h3 ⟨a, b⟩⟩
  | case13 c d e t out tr _ _ _ ih => exact fun ho => ih (goodOut_pop ho)
  | case14 c d e t out tr h1 h2 h3 ih =>
    refine fun ho => ih ⟨out, [c], ho, rfl, goodSeg_start _ h1 h2 fun ⟨a, b, h⟩ => h3 ⟨a, b, ?_⟩⟩
    -- nothing of the segment is left after `..`: the next byte is a slash
    by_cases he : e = 47
    · exact he
    · simp [he] at h

theorem goodOut_contained {out : Bytes} (ho : GoodOut out) :
    contained out = true ∧ (out.length > 1 → contained (out ++ [47]) = true) := by
  rcases ho with e | ⟨segs, hne, hg, e⟩
  · subst e; exact ⟨by decide, by simp⟩
  · subst e
    have hg' : ∀ s ∈ segs, Plain s := fun s hs => (hg s hs).2
    constructor
    · simp only [contained, segsOf_render segs hne (fun x hx => (hg x hx).1)]
      rw [segsContained_iff]
      exact ⟨fun s hs => hg' s (List.dropLast_subset _ hs), fun e => (hg' _ (List.mem_of_getLast? e)).2.2 rfl⟩
    · intro _
      have e : render segs ++ [47] = render (segs ++ [[]]) := by rw [render_append]; simp [render]
      rw [e]
      simp only [contained]
      rw [segsOf_render (segs ++ [[]]) (by simp)]
      · exact segsContained_append segs [] hg' (by decide)
      · intro x hx
        rcases List.mem_append.mp hx with h | h
        · exact (hg x h).1
        · simp at h; subst h; simp

theorem cleanFinish_contained {out : Bytes} (tr : Bool) (ho : GoodOut out) :
    contained (if (tr && decide (out.length > 1)) = true then out ++ [47] else out) = true := by
  obtain ⟨h1, h2⟩ := goodOut_contained ho
  split
  · rename_i hc
    simp only [Bool.and_eq_true, decide_eq_true_eq] at hc
    exact h2 hc.2
  · exact h1

end Hertz.PathSeg
