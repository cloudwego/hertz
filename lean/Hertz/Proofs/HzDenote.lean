import Hertz.Proofs.Hz
/-!
C16, the denotation theorem (`generate_denotes_strong`): interpreting the statements the `router.go` template renders
registers exactly the declared routes, each behind one middleware per path element.  `interp` on a tree whose variables
are well scoped (`ScN`) is the compositional `routesD` / `groupsD` (`interp_node`); the `groups` stack of `DyeGroupName`
hands every node its parent's variable (`GN`); the tree `Update` builds for clean paths has node paths `/seg`, `seg`
slash-free and non-empty above children, and handlers `alias.name` (`ShN`), and with `GN` and distinct variables it is well
scoped (`scN_of`); `joinPath` along it is concatenation; with sort-router sibling group nodes have distinct paths (`SI` while
building, `UQ` after naming), so every group on a route's path wraps it (`strongN`); naming and the snake pass keep all of
this (`dye_pres`, `snakePass_pres`).  Parts 7 and 8: the functions of middleware.go are distinct (camel style, fresh and
after an update), and in a fresh one every function `Register` calls is declared.
-/
namespace Hertz.Hz
open Hertz.HzSpec

/-! ## Part 1: interpretation of the statements of a well scoped tree -/

def ownRoute (gv : GroupVal) (i : Info) : Route :=
  { verb := i.httpMethod, path := joinPath gv.base i.path, handler := i.handler,
    chain := gv.chain ++ [i.handlerMw ++ mwSuffix] }

def ownGroup (gv : GroupVal) (i : Info) : GroupVal :=
  { base := joinPath gv.base i.path, chain := gv.chain ++ [i.groupMw ++ mwSuffix] }

mutual
/-- the routes the statements of a node register when its parent's variable has value `gv` -/
def routesD (gv : GroupVal) : Node → List Route
  | .mk i cs => (if i.handler.isEmpty then [] else [ownRoute gv i]) ++ routesDL (ownGroup gv i) cs
def routesDL (gv : GroupVal) : List Node → List Route
  | [] => []
  | c :: r => routesD gv c ++ routesDL gv r
end

mutual
/-- the groups (full path, middleware function) the statements of a node declare -/
def groupsD (gv : GroupVal) : Node → List (Bytes × Bytes)
  | .mk i cs => (if cs.isEmpty then [] else [((ownGroup gv i).base, i.groupMw ++ mwSuffix)])
      ++ groupsDL (ownGroup gv i) cs
def groupsDL (gv : GroupVal) : List Node → List (Bytes × Bytes)
  | [] => []
  | c :: r => groupsD gv c ++ groupsDL gv r
end

mutual
/-- scoping: every node refers to its parent's variable `pm`, a node with children is not called `/`
(the template would then say `r`), and no variable declared below a node hides the node's own -/
def ScN (pm : Bytes) : Node → Prop
  | .mk i cs => i.groupName = pm ∧ (cs.isEmpty = false → i.path ≠ [sl]) ∧ i.middleWare ∉ groupVarsL cs
      ∧ ScL i.middleWare cs
def ScL (pm : Bytes) : List Node → Prop
  | [] => True
  | c :: r => ScN pm c ∧ ScL pm r
end

theorem lookupVar_skip {D top : List (Bytes × GroupVal)} {sc : Scopes} {v : Bytes}
    (h : v ∉ D.map Prod.fst) : lookupVar ((D ++ top) :: sc) v = lookupVar (top :: sc) v := by
  have : D.lookup v = none :=
    List.lookup_eq_none_iff.2 fun p hp => bne_iff_ne.2 fun e => h (e ▸ List.mem_map_of_mem hp)
  simp only [lookupVar, List.lookup_append, this, Option.none_or]

theorem lookupVar_head {top : List (Bytes × GroupVal)} {sc : Scopes} {v : Bytes} {g : GroupVal} :
    lookupVar (((v, g) :: top) :: sc) v = some g := by
  simp only [lookupVar, List.lookup_cons, beq_self_eq_true]

theorem groupVars_mk (i : Info) (cs : List Node) :
    groupVars (.mk i cs) = (if cs.isEmpty then [] else [i.middleWare]) ++ groupVarsL cs := by
  rw [groupVars]

/-- run in scope `top :: sc`, the statements `ss` declare the variables `D` in the innermost scope, register the
routes `rs` and declare the groups `gs`, whatever follows them -/
def Den (ss : List Stmt) (top : List (Bytes × GroupVal)) (sc : Scopes) (D : List (Bytes × GroupVal))
    (rs : List Route) (gs : List (Bytes × Bytes)) : Prop :=
  ∀ rest, interp (ss ++ rest) (top :: sc) =
    (interp rest ((D ++ top) :: sc)).map (fun x => (rs ++ x.1, gs ++ x.2))

theorem Den.nil (top : List (Bytes × GroupVal)) (sc : Scopes) : Den [] top sc [] [] [] := by
  intro rest
  simp

theorem Den.append {a b : List Stmt} {top D1 D2 : List (Bytes × GroupVal)} {sc : Scopes} {r1 r2 : List Route}
    {g1 g2 : List (Bytes × Bytes)} (h1 : Den a top sc D1 r1 g1) (h2 : Den b (D1 ++ top) sc D2 r2 g2) :
    Den (a ++ b) top sc (D2 ++ D1) (r1 ++ r2) (g1 ++ g2) := by
  intro rest
  rw [List.append_assoc, h1, h2, Option.map_map, List.append_assoc]
  simp [Function.comp_def]

theorem Den.route {g verb p mw h : Bytes} {top : List (Bytes × GroupVal)} {sc : Scopes} {gv : GroupVal}
    (hl : lookupVar (top :: sc) g = some gv) :
    Den [.route g verb p mw h] top sc []
      [{ verb := verb, path := joinPath gv.base p, handler := h, chain := gv.chain ++ [mw] }] [] := by
  intro rest
  simp only [List.singleton_append, List.nil_append, interp, hl]
  cases interp rest (top :: sc) <;> rfl

theorem Den.group {v g p mw : Bytes} {top : List (Bytes × GroupVal)} {sc : Scopes} {gv : GroupVal}
    (hl : lookupVar (top :: sc) g = some gv) :
    Den [.group v g p mw] top sc [(v, { base := joinPath gv.base p, chain := gv.chain ++ [mw] })] []
      [(joinPath gv.base p, mw)] := by
  intro rest
  simp only [List.singleton_append, List.nil_append, interp, hl]
  cases interp rest _ <;> rfl

/-- a block: what it declares is gone after it -/
theorem Den.block {a : List Stmt} {top D : List (Bytes × GroupVal)} {sc : Scopes} {rs : List Route}
    {gs : List (Bytes × Bytes)} (h : Den a [] (top :: sc) D rs gs) :
    Den ([Stmt.open_] ++ a ++ [Stmt.close]) top sc [] rs gs := by
  intro rest
  rw [List.append_assoc, List.append_assoc]
  exact h ([Stmt.close] ++ rest)

mutual
/-- The statements of a well scoped node denote `routesD` / `groupsD`.  The variables `D` they leave in the innermost
scope are among `groupVars n`: that is what lets a later sibling still find `pm` (`lookupVar_skip`). -/
theorem interp_node : (n : Node) → ∀ (pm : Bytes) (gv : GroupVal) (top : List (Bytes × GroupVal)) (sc : Scopes),
    ScN pm n → lookupVar (top :: sc) pm = some gv →
    ∃ D : List (Bytes × GroupVal), D.map Prod.fst ⊆ groupVars n ∧
      Den (stmts n) top sc D (routesD gv n) (groupsD gv n)
  | .mk i cs => by
    intro pm gv top sc hsc hl
    simp only [ScN] at hsc
    obtain ⟨hg, hp, hnot, hcs⟩ := hsc
    subst hg
    have hroute : Den (if i.handler.isEmpty then [] else
        [Stmt.route i.groupName i.httpMethod i.path (i.handlerMw ++ mwSuffix) i.handler]) top sc []
        (if i.handler.isEmpty then [] else [ownRoute gv i]) [] := by
      cases i.handler.isEmpty
      · exact Den.route hl
      · exact Den.nil top sc
    cases cs with
    | nil =>
      refine ⟨[], nofun, ?_⟩
      simpa [stmts, stmtsL, routesD, routesDL, groupsD, groupsDL] using hroute
    | cons c0 r0 =>
      obtain ⟨D, hD, hrest⟩ := interp_nodes (c0 :: r0) i.middleWare (ownGroup gv i)
        ((i.middleWare, ownGroup gv i) :: top) sc hcs hnot lookupVar_head
      refine ⟨D ++ [(i.middleWare, ownGroup gv i)], ?_, ?_⟩
      · rw [groupVars_mk, List.map_append]
        exact List.append_subset.2 ⟨hD.trans (List.subset_append_right _ _), by simp⟩
      · have := (hroute.append (Den.group (v := i.middleWare) (p := i.path) (mw := i.groupMw ++ mwSuffix) hl)).append hrest
        simpa [stmts, routesD, groupsD, if_neg (hp rfl), ownGroup] using this
theorem interp_nodes : (l : List Node) → ∀ (pm : Bytes) (gv : GroupVal) (top : List (Bytes × GroupVal)) (sc : Scopes),
    ScL pm l → pm ∉ groupVarsL l → lookupVar (top :: sc) pm = some gv →
    ∃ D : List (Bytes × GroupVal), D.map Prod.fst ⊆ groupVarsL l ∧
      Den (stmtsL l) top sc D (routesDL gv l) (groupsDL gv l)
  | [] => fun _ _ top sc _ _ _ => ⟨[], nofun, Den.nil top sc⟩
  | .mk i cs :: r => by
    intro pm gv top sc hsc hnot hl
    simp only [ScL] at hsc
    obtain ⟨hc, hr⟩ := hsc
    rw [groupVarsL] at hnot ⊢
    simp only [List.mem_append, not_or] at hnot
    cases hh : i.handler.isEmpty with
    | true =>
      -- a node without handler is rendered as a block: its variables are gone afterwards
      obtain ⟨Dc, _, hcrest⟩ := interp_node (.mk i cs) pm gv [] (top :: sc) hc hl
      obtain ⟨Dr, hDr, hrrest⟩ := interp_nodes r pm gv top sc hr hnot.2 hl
      refine ⟨Dr, hDr.trans (List.subset_append_right _ _), ?_⟩
      simpa [stmtsL, hh, routesDL, groupsDL] using hcrest.block.append hrrest
    | false =>
      obtain ⟨Dc, hDc, hcrest⟩ := interp_node (.mk i cs) pm gv top sc hc hl
      have hl' : lookupVar ((Dc ++ top) :: sc) pm = some gv := by
        rw [lookupVar_skip (fun hm => hnot.1 (hDc hm))]; exact hl
      obtain ⟨Dr, hDr, hrrest⟩ := interp_nodes r pm gv (Dc ++ top) sc hr hnot.2 hl'
      refine ⟨Dr ++ Dc, ?_, ?_⟩
      · rw [List.map_append]
        exact List.append_subset.2
          ⟨hDr.trans (List.subset_append_right _ _), hDc.trans (List.subset_append_left _ _)⟩
      · simpa [stmtsL, hh, routesDL, groupsDL] using hcrest.append hrrest
end

/-! ## Part 2: the `groups` stack of `DyeGroupName` -/

mutual
/-- every node's `GroupName` is its parent's `MiddleWare` (`pm` for the top node) -/
def GN (pm : Bytes) : Node → Prop
  | .mk i cs => i.groupName = pm ∧ GNL i.middleWare cs
def GNL (pm : Bytes) : List Node → Prop
  | [] => True
  | c :: r => GN pm c ∧ GNL pm r
end

theorem setNth_eq_set (l : List Bytes) (k : Nat) (v : Bytes) : setNth l k v = l.set k v := by
  fun_induction setNth l k v <;> simp [*]

theorem dyeHook_groups {snake : Bool} {layer : Nat} {pp : Option Bytes} {i i' : Info} {hc : Bool} {st st' : DyeSt}
    (h : dyeHook snake layer pp i hc st = .ok (i', st')) :
    st.groups[layer]? = some i'.groupName ∧ st'.groups[layer + 1]? = some i'.middleWare ∧
      ∀ j, j ≤ layer → st'.groups[j]? = st.groups[j]? := by
  obtain ⟨gname, nm, hg, _, rfl, hgr⟩ := dyeHook_ok h
  have hlen : layer < st.groups.length := (List.getElem?_eq_some_iff.1 hg).1
  rw [hgr]
  refine ⟨hg, ?_, fun j hj => ?_⟩
  · split
    · rename_i hge
      have e : st.groups.length = layer + 1 := Nat.le_antisymm hge hlen
      rw [List.getElem?_append_right (Nat.le_of_eq e), e, Nat.sub_self]
      rfl
    · rename_i hlt
      rw [setNth_eq_set, List.getElem?_set_self (Nat.lt_of_not_le hlt)]
  · split
    · rw [List.getElem?_append_left (Nat.lt_of_le_of_lt hj hlen)]
    · rw [setNth_eq_set, List.getElem?_set_ne (Nat.ne_of_gt (Nat.lt_succ_of_le hj))]

mutual
theorem dye_gn : (n : Node) → ∀ (snake : Bool) (layer : Nat) (pp : Option Bytes) (st : DyeSt) (n' : Node) (st' : DyeSt)
    (pm : Bytes), dye snake layer pp n st = .ok (n', st') → st.groups[layer]? = some pm →
    GN pm n' ∧ ∀ j, j ≤ layer → st'.groups[j]? = st.groups[j]?
  | .mk i cs => by
    intro snake layer pp st n' st' pm h hpm
    obtain ⟨i', st1, cs', hh, hl, rfl⟩ := dye_ok h
    obtain ⟨h1, h2, h3⟩ := dyeHook_groups hh
    obtain ⟨g1, g2⟩ := dyeL_gn cs _ _ _ st1 cs' st' i'.middleWare hl h2
    rw [h1] at hpm
    exact ⟨⟨by simpa using hpm, g1⟩, fun j hj => by rw [g2 j (Nat.le_succ_of_le hj), h3 j hj]⟩
theorem dyeL_gn : (l : List Node) → ∀ (snake : Bool) (layer : Nat) (pp : Option Bytes) (st : DyeSt) (l' : List Node) (st' : DyeSt)
    (pm : Bytes), dyeL snake layer pp l st = .ok (l', st') → st.groups[layer]? = some pm →
    GNL pm l' ∧ ∀ j, j ≤ layer → st'.groups[j]? = st.groups[j]?
  | [] => by
    intro snake layer pp st l' st' pm h _
    cases h
    exact ⟨trivial, fun _ _ => rfl⟩
  | c :: r => by
    intro snake layer pp st l' st' pm h hpm
    obtain ⟨c', st1, r', hc, hr, rfl⟩ := dyeL_ok h
    obtain ⟨g1, g2⟩ := dye_gn c _ _ _ st c' st1 pm hc hpm
    obtain ⟨g3, g4⟩ := dyeL_gn r _ _ _ st1 r' st' pm hr (by rw [g2 layer (Nat.le_refl _)]; exact hpm)
    exact ⟨⟨g1, g3⟩, fun j hj => by rw [g4 j hj, g2 j hj]⟩
end

/-! ## Part 3: the shape of the tree `Update` builds for clean paths -/

/-- a node path: `/seg`, `seg` slash-free, and not empty when the node has children (`e = false`) -/
def SegOK (e : Bool) (p : Bytes) : Prop := ∃ s, p = sl :: s ∧ sl ∉ s ∧ (e = false → s ≠ [])

/-- a handler reference: `alias.name` with a dot-free name -/
def HandlerOK (i : Info) : Prop :=
  i.handler = [] ∨ ∃ nm, i.handler = i.handlerAlias ++ 46 :: nm ∧ (46 : UInt8) ∉ nm

mutual
def ShN : Node → Prop
  | .mk i cs => SegOK cs.isEmpty i.path ∧ HandlerOK i ∧ ShL cs
def ShL : List Node → Prop
  | [] => True
  | c :: r => ShN c ∧ ShL r
end

theorem shL_iff (l : List Node) : ShL l ↔ ∀ c ∈ l, ShN c := by
  induction l with
  | nil => simp [ShL]
  | cons c r ih => simp [ShL, ih]

theorem shN_iff (n : Node) : ShN n ↔ SegOK n.children.isEmpty n.info.path ∧ HandlerOK n.info ∧ ShL n.children := by
  cases n; simp [ShN, Node.info, Node.children]

theorem ShN.seg {n : Node} (h : ShN n) : SegOK n.children.isEmpty n.info.path := ((shN_iff n).1 h).1

theorem SegOK.of_ne_root {e e' : Bool} {p : Bytes} (h : SegOK e p) (hne : p ≠ [sl]) : SegOK e' p := by
  obtain ⟨s, h1, h2, _⟩ := h
  exact ⟨s, h1, h2, fun _ hs => hne (by rw [h1, hs])⟩

theorem SegOK.ne_root {p : Bytes} (h : SegOK false p) : p ≠ [sl] := by
  obtain ⟨s, rfl, _, h3⟩ := h
  exact fun e => h3 rfl (List.cons.inj e).2

/-- a method of the property's quantifier: clean path, handler name without a dot (a Go identifier) -/
def CleanM (m : Method) : Prop := cleanPath m.path = true ∧ (46 : UInt8) ∉ m.name

theorem splitSlash_noslash (t : Bytes) : ∀ s ∈ splitSlash t, sl ∉ s := by
  fun_induction splitSlash t with
  | case1 => simp
  | case2 t ih => exact List.forall_mem_cons.2 ⟨List.not_mem_nil, ih⟩
  | case3 c t hc h r heq ih =>
    rw [heq, List.forall_mem_cons] at ih
    exact List.forall_mem_cons.2 ⟨fun hm => (List.mem_cons.1 hm).elim (fun e => hc e.symm) ih.1, ih.2⟩
  | case4 c t hc heq ih => exact absurd heq (splitSlash_ne_nil t)

theorem cleanPath_segs (p : Bytes) (h : cleanPath p = true) :
    ∃ t, p = sl :: t ∧ segsOf p = splitSlash t ∧ (∀ s ∈ (segsOf p).dropLast, s ≠ []) ∧
      ∀ s ∈ segsOf p, sl ∉ s := by
  cases p with
  | nil => simp [cleanPath, splitSlash] at h
  | cons c t =>
    by_cases hc : c = sl
    · subst hc
      refine ⟨t, rfl, segsOf_slash t, ?_, ?_⟩
      · simp only [cleanPath, splitSlash, if_true, Bool.and_eq_true, List.all_eq_true] at h
        intro s hs
        rw [segsOf_slash] at hs
        simpa using h.1.1.2 s hs
      · rw [segsOf_slash]; exact splitSlash_noslash t
    · exfalso
      unfold cleanPath at h
      cases hs : splitSlash t with
      | nil => exact splitSlash_ne_nil t hs
      | cons hd r => simp [splitSlash, hc, hs] at h

theorem Chain.shape {li : Info} {rest : List Bytes} {c : Node} (h : Chain li rest c) (hh : HandlerOK li)
    (h1 : ∀ s ∈ rest, sl ∉ s) (h2 : ∀ s ∈ rest.dropLast, s ≠ []) : ShN c := by
  induction h with
  | @leaf p hp =>
    simp only [ShN, ShL, and_true]
    exact ⟨⟨p, hp, h1 p (by simp), by simp⟩, hh⟩
  | @inner p q r c _ ih =>
    have := ih (fun s hs => h1 s (by simp [hs])) (fun s hs => h2 s (by simp [List.dropLast, hs]))
    simp only [ShN, ShL, and_true]
    exact ⟨⟨p, rfl, h1 p (by simp), fun _ => h2 p (by simp [List.dropLast])⟩, Or.inl rfl, this⟩

/-- inserting a well shaped chain along nodes not called `/` (the root, which is, is not subject to `ShN`:
the statement is about the children) -/
theorem Ins.shape {s : Bool} {c n n' : Node} {q : List Bytes} (h : Ins s c q n n') (hc : ShN c)
    (hq : ∀ x ∈ q, x ≠ [sl]) (hn : ShL n.children) : ShL n'.children := by
  induction h with
  | here hp _ =>
    simp only [Node.children, shL_iff] at hn ⊢
    exact forall_mem_of_perm_snoc hp hn hc
  | @under i l1 l2 d d' q _ h ih =>
    simp only [Node.children, shL_iff, List.forall_mem_append, List.forall_mem_cons] at hn ⊢
    obtain ⟨h1, h2, h3⟩ := (shN_iff d).1 hn.2.1
    -- the node passed through has children afterwards; it is not called `/`
    refine ⟨hn.1, (shN_iff _).2 ⟨?_, ?_, ih (fun x hx => hq x (by simp [hx])) h3⟩, hn.2.2⟩
    · rw [h.info]; exact h1.of_ne_root (hq _ (by simp))
    · rw [h.info]; exact h2

theorem IsLeafFor.handlerOK {m : Method} {li : Info} (h : IsLeafFor m li) (hm : (46 : UInt8) ∉ m.name) :
    HandlerOK li :=
  .inr ⟨m.name, by simpa using h.2.1, hm⟩

theorem updateWith_shape {srt : List Node → List Node} (hs : ∀ l, (srt l).Perm l) {cfg : Cfg}
    {root root' : Node} {st st' : PkgSt} {m : Method} (hm : CleanM m)
    (h : updateWith srt cfg root st m = .ok (root', st')) (hsh : ShL root.children) :
    ShL root'.children := by
  obtain ⟨_, _, _, hne, hns⟩ := cleanPath_segs m.path hm.1
  obtain ⟨q, rest, li, c, e, hleaf, hc, hins⟩ := updateWith_ok hs h
  -- the elements before the last one: those `FindNearest` matched, and those of the new chain but its leaf
  rw [e, List.dropLast_append_of_ne_nil hc.ne_nil] at hne
  rw [e] at hns
  have hcs : ShN c := hc.shape (hleaf.handlerOK hm.2) (fun s hs' => hns s (by simp [hs']))
    (fun s hs' => hne s (by simp [hs']))
  refine hins.shape hcs ?_ hsh
  intro x hx
  obtain ⟨s, hs', rfl⟩ := List.mem_map.1 hx
  simpa using hne s (by simp [hs'])

theorem buildWith_shape {srt : List Node → List Node} (hs : ∀ l, (srt l).Perm l) {cfg : Cfg}
    {ms : List Method} {root root' : Node} {st st' : PkgSt} (hm : ∀ m ∈ ms, CleanM m)
    (h : buildWith srt cfg root st ms = .ok (root', st')) (hsh : ShL root.children) : ShL root'.children :=
  buildWith_inv (fun r => ShL r.children)
    (fun m hm' r r' s s' hu => updateWith_shape hs (hm m hm') hu) h hsh

/-! ### variables: global distinctness gives the local scoping condition -/

mutual
theorem scN_of : (n : Node) → ∀ (pm : Bytes), GN pm n → ShN n → (groupVars n).Nodup → ScN pm n
  | .mk i cs => by
    intro pm hg hs hn
    simp only [GN] at hg
    simp only [ShN] at hs
    rw [groupVars_mk, List.nodup_append] at hn
    simp only [ScN]
    refine ⟨hg.1, fun he => SegOK.ne_root (he ▸ hs.1), ?_, scL_of cs i.middleWare hg.2 hs.2.2 hn.2.1⟩
    cases cs with
    | nil => exact List.not_mem_nil
    | cons c r => exact fun hm => hn.2.2 _ (List.mem_singleton_self _) _ hm rfl
theorem scL_of : (l : List Node) → ∀ (pm : Bytes), GNL pm l → ShL l → (groupVarsL l).Nodup → ScL pm l
  | [] => fun _ _ _ _ => by simp [ScL]
  | c :: r => by
    intro pm hg hs hn
    simp only [GNL] at hg
    simp only [ShL] at hs
    simp only [groupVarsL, List.nodup_append] at hn
    simp only [ScL]
    exact ⟨scN_of c pm hg.1 hs.1 hn.1, scL_of r pm hg.2 hs.2 hn.2.1⟩
end

/-! ## Part 4: `joinPath` along the tree is concatenation -/

/-- the full path of a node reached through the node paths `pre` (root: `/`) -/
def fullPath (pre : List Bytes) : Bytes := if pre = [] then [sl] else pre.flatten

theorem fullPath_ne (pre : List Bytes) (h : pre ≠ []) : fullPath pre = pre.flatten := by
  simp [fullPath, h]

/-- node paths that lead to a node with children: each `/seg` with `seg` slash-free and non-empty -/
def OKpre (pre : List Bytes) : Prop := ∀ x ∈ pre, SegOK false x

theorem OKpre.snoc {pre : List Bytes} {x : Bytes} (h : OKpre pre) (hx : SegOK false x) : OKpre (pre ++ [x]) :=
  List.forall_mem_append.2 ⟨h, fun _ hy => List.mem_singleton.1 hy ▸ hx⟩

theorem fullPath_last (pre : List Bytes) (h : OKpre pre) (hne : pre ≠ []) :
    (fullPath pre).getLast? ≠ some sl := by
  obtain ⟨init, x, rfl⟩ := (List.eq_nil_or_concat pre).resolve_left hne
  obtain ⟨s, rfl, hs, hs'⟩ := h x (by simp)
  obtain ⟨c, r, rfl⟩ := List.exists_cons_of_ne_nil (hs' rfl)
  -- the path ends with the last byte of the slash-free `c :: r`
  intro e
  refine hs (List.mem_of_getLast? (a := sl) ?_)
  simpa [fullPath, List.getLast?_append, List.getLast?_cons_cons] using e

theorem joinPath_full (pre : List Bytes) (x : Bytes) (e : Bool) (h : OKpre pre) (hx : SegOK e x) :
    joinPath (fullPath pre) x = fullPath (pre ++ [x]) := by
  obtain ⟨s, rfl, _, _⟩ := hx
  rw [fullPath_ne (pre ++ [sl :: s]) (by simp), List.flatten_concat]
  unfold joinPath
  by_cases hp : pre = []
  · subst hp
    by_cases hs : s = [] <;> simp [fullPath, hs]
  · have hl := fullPath_last pre h hp
    rw [fullPath_ne pre hp] at hl ⊢
    by_cases hs : s = [] <;> simp [hl, hs]

/-- `gv` is the value of the group variable of the node reached through the node paths `pre` -/
def At (gv : GroupVal) (pre : List Bytes) : Prop := OKpre pre ∧ gv.base = fullPath pre

theorem At.join {gv : GroupVal} {pre : List Bytes} (h : At gv pre) {e : Bool} {p : Bytes} (hp : SegOK e p) :
    joinPath gv.base p = (pre ++ [p]).flatten := by
  rw [h.2, joinPath_full pre p e h.1 hp]
  exact fullPath_ne _ (by simp)

theorem At.own {gv : GroupVal} {pre : List Bytes} (h : At gv pre) {i : Info} (hp : SegOK false i.path) :
    At (ownGroup gv i) (pre ++ [i.path]) :=
  ⟨h.1.snoc hp, (h.join hp).trans (fullPath_ne _ (by simp)).symm⟩

/-! what a route of the tree is, seen from the rendered side (`keyD`) and from the tree side (`keyT`) -/
def keyD (r : Route) : Bytes × Bytes × Bytes × Nat := (r.verb, r.path, r.handler, r.chain.length)
def keyT (r : List Bytes × Info) : Bytes × Bytes × Bytes × Nat :=
  (r.2.httpMethod, fullPath r.1, r.2.handler, r.1.length + 1)

mutual
theorem routesD_eq : (n : Node) → ∀ (gv : GroupVal) (pre0 : List Bytes), ShN n → OKpre pre0 →
    gv.base = fullPath pre0 → gv.chain.length = pre0.length + 1 →
    (routesD gv n).map keyD = (routesN (pre0 ++ [n.info.path]) n).map keyT
  | .mk i cs => by
    intro gv pre0 hn hpre hb hc
    simp only [ShN] at hn
    obtain ⟨hseg, _, hcs⟩ := hn
    have hat : At gv pre0 := ⟨hpre, hb⟩
    have hown : keyD (ownRoute gv i) = keyT (pre0 ++ [i.path], i) := by
      simp [keyD, keyT, ownRoute, hat.join hseg, hc, fullPath]
    have hch : (routesDL (ownGroup gv i) cs).map keyD = (routesL (pre0 ++ [i.path]) cs).map keyT := by
      cases cs with
      | nil => simp [routesDL, routesL]
      | cons c r =>
        exact routesDL_eq (c :: r) (ownGroup gv i) (pre0 ++ [i.path]) hcs (hat.own hseg) (by simp [ownGroup, hc])
    simp only [routesD, routesN, Node.info, List.map_append, hch]
    cases i.handler.isEmpty <;> simp [hown]
theorem routesDL_eq : (l : List Node) → ∀ (gv : GroupVal) (pre : List Bytes), ShL l → At gv pre →
    gv.chain.length = pre.length + 1 → (routesDL gv l).map keyD = (routesL pre l).map keyT
  | [] => by
    intro gv pre _ _ _
    simp [routesDL, routesL]
  | c :: r => by
    intro gv pre hl hat hc
    simp only [ShL] at hl
    simp only [routesDL, routesL, List.map_append]
    rw [routesD_eq c gv pre hl.1 hat.1 hat.2 hc, routesDL_eq r gv pre hl.2 hat hc]
end

/-! ### handlers: every route of a well shaped tree is `alias.name`, and `afterLastDot` reads the name -/

mutual
theorem routesN_handlerOK : (n : Node) → ∀ (pre : List Bytes), ShN n → ∀ r ∈ routesN pre n, HandlerOK r.2
  | .mk i cs => by
    intro pre hn r hr
    simp only [ShN] at hn
    simp only [routesN, List.mem_append] at hr
    rcases hr with hr | hr
    · simp only [List.mem_ite_nil_left, List.mem_singleton] at hr
      rw [hr.2]
      exact hn.2.1
    · exact routesL_handlerOK cs pre hn.2.2 r hr
theorem routesL_handlerOK : (l : List Node) → ∀ (pre : List Bytes), ShL l → ∀ r ∈ routesL pre l, HandlerOK r.2
  | [] => by
    intro pre _ r hr
    simp [routesL] at hr
  | c :: rs => by
    intro pre hl r hr
    simp only [ShL] at hl
    simp only [routesL, List.mem_append] at hr
    rcases hr with hr | hr
    · exact routesN_handlerOK c _ hl.1 r hr
    · exact routesL_handlerOK rs pre hl.2 r hr
end

theorem afterLastDot_go_nodot (t acc : Bytes) (h : (46 : UInt8) ∉ t) : afterLastDot.go acc t = acc := by
  fun_induction afterLastDot.go acc t with
  | case1 => rfl
  | case2 => simp at h
  | case3 acc c t hc ih => exact ih fun hm => h (List.mem_cons_of_mem _ hm)

theorem afterLastDot_go_append (a acc nm : Bytes) (h : (46 : UInt8) ∉ nm) :
    afterLastDot.go acc (a ++ 46 :: nm) = nm := by
  induction a generalizing acc with
  | nil =>
    simp only [List.nil_append, afterLastDot.go, if_true]
    exact afterLastDot_go_nodot nm nm h
  | cons c a ih =>
    simp only [List.cons_append, afterLastDot.go]
    split <;> exact ih _

theorem afterLastDot_alias (a nm : Bytes) (h : (46 : UInt8) ∉ nm) : afterLastDot (a ++ 46 :: nm) = nm := by
  unfold afterLastDot
  exact afterLastDot_go_append a _ nm h

/-! ### from the routes of the tree to the two spec predicates -/

theorem clean_decl (m : Method) (hm : CleanM m) :
    ((segsOf m.path).map (sl :: ·)).flatten = m.path ∧ (segsOf m.path).map (sl :: ·) ≠ [] ∧
      depth m.path = ((segsOf m.path).map (sl :: ·)).length := by
  obtain ⟨t, hpt, hseg, _, _⟩ := cleanPath_segs m.path hm.1
  refine ⟨?_, ?_, ?_⟩
  · rw [hpt]; exact segs_spell_path t
  · have := segsOf_ne_nil m.path (by rw [hpt]; simp)
    simpa using this
  · rw [List.length_map, hseg, hpt]
    simp [depth, splitSlash]

theorem handlerOK_name (i : Info) (h : HandlerOK i) :
    afterLastDot i.handler = i.handler.drop (i.handlerAlias.length + 1) := by
  rcases h with h | ⟨nm, h, hd⟩
  · rw [h]; rfl
  · rw [h, afterLastDot_alias _ _ hd]
    have : i.handlerAlias ++ 46 :: nm = (i.handlerAlias ++ [46]) ++ nm := by simp
    rw [this, List.drop_left' (by simp)]

/-- from "the rendered routes are the tree's routes" and "the tree's routes are the declared ones" to the
two parts of the property -/
theorem spec_of_keys (ms : List Method) (hm : ∀ m ∈ ms, CleanM m) (rs : List Route)
    (T : List (List Bytes × Info)) (hk : rs.map keyD = T.map keyT)
    (hp : (T.map routeKey).Perm (ms.map declKey)) (hh : ∀ r ∈ T, HandlerOK r.2) :
    exactRoutes ms rs = true ∧ chainsWeak rs = true := by
  have hfull : ∀ r ∈ T, fullPath r.1 = r.1.flatten ∧ depth (fullPath r.1) = r.1.length := by
    intro r hr
    obtain ⟨m, hm', e⟩ := List.mem_map.1 (hp.mem_iff.1 (List.mem_map_of_mem hr))
    obtain ⟨c1, c2, c3⟩ := clean_decl m (hm m hm')
    simp only [routeKey, declKey, Prod.mk.injEq] at e
    rw [← e.2.1]
    simp only [fullPath, c2, if_false, c1, c3, and_self]
  -- `exactRoutes`, both lists in the spec's keys: `φ` takes a `keyD`/`keyT` key there, `f` a `routeKey`/`declKey` key
  constructor
  · let φ : Bytes × Bytes × Bytes × Nat → Bytes × Bytes × Bytes := fun x => (x.1, x.2.1, afterLastDot x.2.2.1)
    let f : Bytes × List Bytes × Bytes → Bytes × Bytes × Bytes := fun x => (x.1, x.2.1.flatten, x.2.2)
    have e1 : rs.map HzSpec.routeKey = (rs.map keyD).map φ := by
      rw [List.map_map]; rfl
    have e2 : (T.map keyT).map φ = (T.map routeKey).map f := by
      rw [List.map_map, List.map_map]
      apply List.map_congr_left
      intro r hr
      simp only [Function.comp, φ, f, keyT, routeKey]
      rw [(hfull r hr).1, handlerOK_name _ (hh r hr)]
    have e3 : (ms.map declKey).map f = ms.map declaredKey := by
      rw [List.map_map]
      apply List.map_congr_left
      intro m hm'
      simp only [Function.comp, f, declKey, declaredKey]
      rw [(clean_decl m (hm m hm')).1]
    unfold exactRoutes
    rw [List.isPerm_iff, e1, hk, e2, ← e3]
    exact hp.map f
  · unfold chainsWeak
    rw [List.all_eq_true]
    intro r hr
    have : keyD r ∈ T.map keyT := by rw [← hk]; exact List.mem_map_of_mem hr
    obtain ⟨t, ht, e⟩ := List.mem_map.1 this
    simp only [keyD, keyT, Prod.mk.injEq] at e
    rw [← e.2.1, (hfull t ht).2, ← e.2.2.2]
    simp

/-- what the statements of the root need of its fields (kept by `DyeGroupName` and the snake pass) -/
def RootInfo (i : Info) : Prop := i.path = [sl] ∧ i.handler = [] ∧ i.middleWare = rootName

/-- the value of the root's group variable (`root := r.Group("/", <gm>Mw()...)`) -/
def gvRoot (gm : Bytes) : GroupVal := { base := [sl], chain := [gm ++ mwSuffix] }

theorem interp_root (i0 : Info) (h0 : RootInfo i0) (cs : List Node) (hsc : ScL rootName cs)
    (hnot : rootName ∉ groupVarsL cs) :
    interp (stmts (.mk i0 cs)) scope0 = some (routesDL (gvRoot i0.groupMw) cs,
      (if cs.isEmpty then [] else [([sl], i0.groupMw ++ mwSuffix)]) ++ groupsDL (gvRoot i0.groupMw) cs) := by
  obtain ⟨hp, hh, hmw⟩ := h0
  cases cs with
  | nil => simp [stmts, stmtsL, hh, interp, routesDL, groupsDL]
  | cons c r =>
    obtain ⟨D, _, hrest⟩ := interp_nodes (c :: r) rootName (gvRoot i0.groupMw)
      [(rootName, gvRoot i0.groupMw), ([114], { base := [sl], chain := [] })] [] hsc hnot lookupVar_head
    -- `[114]` is `r`, the parameter of `Register`, bound by `scope0`
    have hl : lookupVar scope0 [114] = some { base := [sl], chain := [] } := by
      simp [scope0, lookupVar]
    have hj : joinPath [sl] [sl] = [sl] := by decide
    have hnil : ∀ sc, interp [] sc = some ([], []) := fun _ => rfl
    have := (Den.group (v := rootName) (p := [sl]) (mw := i0.groupMw ++ mwSuffix) hl).append hrest []
    simpa [stmts, hp, hh, hmw, hj, hnil, gvRoot, scope0] using this

/-! ## Part 5: sort-router — sibling group nodes have distinct paths -/

/-- two siblings that `FindNearest` (sort-router) may both descend into are not called the same -/
def RS (a b : Info) : Prop := a.httpMethod = [] → b.httpMethod = [] → a.path ≠ b.path

mutual
/-- sort-router invariant of the tree under construction: only nodes without HTTP method have children,
and among the children of a node those without HTTP method have pairwise distinct paths -/
def SI : Node → Prop
  | .mk _ cs => (∀ c ∈ cs, c.children.isEmpty = false → c.info.httpMethod = [])
      ∧ (cs.map Node.info).Pairwise RS ∧ SIL cs
def SIL : List Node → Prop
  | [] => True
  | c :: r => SI c ∧ SIL r
end

theorem siL_iff (l : List Node) : SIL l ↔ ∀ c ∈ l, SI c := by
  induction l with
  | nil => simp [SIL]
  | cons c r ih => simp [SIL, ih]

theorem RS_symm {a b : Info} (h : RS a b) : RS b a := fun hb ha e => h ha hb e.symm

/-- `hleaf`: a chain that is a leaf has an HTTP method, so it is no group that `FindNearest` could have missed -/
theorem Ins.si {c n n' : Node} {q : List Bytes} (h : Ins true c q n n') (hc : SI c)
    (hcc : c.children.isEmpty = false → c.info.httpMethod = [])
    (hleaf : c.children.isEmpty = true → c.info.httpMethod ≠ []) (hn : SI n) : SI n' := by
  induction h with
  | @here i cs cs' hp hd =>
    simp only [SI] at hn ⊢
    refine ⟨forall_mem_of_perm_snoc hp hn.1 hcc, ?_,
      (siL_iff _).2 (forall_mem_of_perm_snoc hp ((siL_iff cs).1 hn.2.2) hc)⟩
    rw [((hp.map Node.info).pairwise_iff (fun h => RS_symm h)), List.map_append, List.pairwise_append]
    refine ⟨hn.2.1, by simp, ?_⟩
    intro a ha' b hb
    obtain rfl : b = c.info := by simpa using hb
    obtain ⟨d, hd', rfl⟩ := List.mem_map.1 ha'
    intro h1 h2
    cases hce : c.children.isEmpty with
    | true => exact absurd h2 (hleaf hce)
    | false => exact hd rfl hce d hd' h1
  | @under i l1 l2 d d' q hm h ih =>
    simp only [SI, siL_iff, List.forall_mem_append, List.forall_mem_cons] at hn ⊢
    exact ⟨⟨hn.1.1, fun _ => by rw [h.info]; exact hm rfl, hn.1.2.2⟩, by simpa [h.info] using hn.2.1,
      hn.2.2.1, ih hn.2.2.2.1, hn.2.2.2.2⟩

/-- inner nodes of the chain have no HTTP method and one child -/
theorem Chain.si {li : Info} {rest : List Bytes} {c : Node} (h : Chain li rest c) : SI c := by
  induction h with
  | leaf => simp [SI, SIL]
  | inner h ih => exact ⟨by simpa using fun hc => (h.head.2 hc).1, by simp, ih, trivial⟩

theorem getHttpMethod_ne_nil (v : Bytes) (h : v ≠ []) : getHttpMethod v ≠ [] := by
  unfold getHttpMethod
  split
  · simp
  · simpa using h

theorem updateWith_si {srt : List Node → List Node} (hs : ∀ l, (srt l).Perm l) {cfg : Cfg} (hsr : cfg.sortRouter = true)
    {root root' : Node} {st st' : PkgSt} {m : Method} (hv : m.verb ≠ [])
    (h : updateWith srt cfg root st m = .ok (root', st')) (hsi : SI root) : SI root' := by
  obtain ⟨_, _, li, c, _, hleaf, hc, hins⟩ := updateWith_ok hs h
  rw [hsr] at hins
  obtain ⟨c1, c2⟩ := hc.head
  refine hins.si hc.si (fun hce => (c2 hce).1) (fun hce hm => getHttpMethod_ne_nil m.verb hv ?_) hsi
  rw [← hleaf.1, ← c1 hce]
  exact hm

theorem buildWith_si {srt : List Node → List Node} (hs : ∀ l, (srt l).Perm l) {cfg : Cfg} (hsr : cfg.sortRouter = true)
    {ms : List Method} {root root' : Node} {st st' : PkgSt} (hv : ∀ m ∈ ms, m.verb ≠ [])
    (h : buildWith srt cfg root st ms = .ok (root', st')) (hsi : SI root) : SI root' :=
  buildWith_inv SI (fun m hm r r' s s' hu => updateWith_si hs hsr (hv m hm) hu) h hsi

/-! ### the invariant on the named tree: sibling group nodes have distinct paths -/

/-- what of a node matters for grouping: its path and whether it has children -/
def skel (n : Node) : Bytes × Bool := (n.info.path, n.children.isEmpty)

/-- two siblings that both have children (both declare a group) are not called the same -/
def RU (a b : Bytes × Bool) : Prop := a.2 = false → b.2 = false → a.1 ≠ b.1

mutual
/-- `SI` as it survives naming: at every node, the children that have children have pairwise distinct paths -/
def UQ : Node → Prop
  | .mk _ cs => (cs.map skel).Pairwise RU ∧ UQL cs
def UQL : List Node → Prop
  | [] => True
  | c :: r => UQ c ∧ UQL r
end

mutual
theorem uq_of_si : (n : Node) → SI n → UQ n
  | .mk i cs => by
    intro h
    simp only [SI] at h
    simp only [UQ]
    refine ⟨?_, uqL_of_siL cs h.2.2⟩
    have hp := h.2.1
    rw [List.pairwise_map] at hp ⊢
    refine hp.imp_of_mem ?_
    intro a b ha hb hr h1 h2
    exact hr (h.1 a ha h1) (h.1 b hb h2)
theorem uqL_of_siL : (l : List Node) → SIL l → UQL l
  | [] => by intro _; simp [UQL]
  | c :: r => by
    intro h
    simp only [SIL] at h
    simp only [UQL]
    exact ⟨uq_of_si c h.1, uqL_of_siL r h.2⟩
end

mutual
/-- naming keeps the tree: a node's path and whether it has children, the routes below it, the shape for clean
paths, the distinctness of sibling groups -/
theorem dye_pres : (n : Node) → ∀ (snake : Bool) (layer : Nat) (pp : Option Bytes) (st : DyeSt) (n' : Node) (st' : DyeSt),
    dye snake layer pp n st = .ok (n', st') →
    skel n' = skel n ∧ (∀ pre, (routesN pre n').map routeKey = (routesN pre n).map routeKey) ∧
      (ShN n → ShN n') ∧ (UQ n → UQ n')
  | .mk i cs => by
    intro snake layer pp st n' st' h
    obtain ⟨i', st1, cs', hh, hl, rfl⟩ := dye_ok h
    have hk := dyeHook_keeps hh
    obtain ⟨e1, e2, e3, e4⟩ := dyeL_pres cs _ _ _ st1 cs' st' hl
    have hemp : cs'.isEmpty = cs.isEmpty := by simpa using congrArg List.isEmpty e1
    refine ⟨?_, fun pre => routesN_congr_info pre i i' cs cs' hk (e2 pre), fun hn => ?_, fun hu => ?_⟩
    · simp only [skel, Node.info, Node.children, hk.1, hemp]
    · simp only [ShN] at hn ⊢
      rw [hemp, hk.1]
      refine ⟨hn.1, ?_, e3 hn.2.2⟩
      unfold HandlerOK
      rw [hk.2.2.1, hk.2.2.2]
      exact hn.2.1
    · simp only [UQ] at hu ⊢
      rw [e1]
      exact ⟨hu.1, e4 hu.2⟩
theorem dyeL_pres : (l : List Node) → ∀ (snake : Bool) (layer : Nat) (pp : Option Bytes) (st : DyeSt) (l' : List Node) (st' : DyeSt),
    dyeL snake layer pp l st = .ok (l', st') →
    l'.map skel = l.map skel ∧ (∀ pre, (routesL pre l').map routeKey = (routesL pre l).map routeKey) ∧
      (ShL l → ShL l') ∧ (UQL l → UQL l')
  | [] => by
    intro snake layer pp st l' st' h
    cases h
    exact ⟨rfl, fun _ => rfl, id, id⟩
  | c :: r => by
    intro snake layer pp st l' st' h
    obtain ⟨c', st1, r', hc, hr, rfl⟩ := dyeL_ok h
    obtain ⟨a1, a2, a3, a4⟩ := dye_pres c _ _ _ st c' st1 hc
    obtain ⟨b1, b2, b3, b4⟩ := dyeL_pres r _ _ _ st1 r' st' hr
    have hp : c'.info.path = c.info.path := congrArg Prod.fst a1
    exact ⟨by simp [a1, b1], fun pre => by simp only [routesL, List.map_append, hp, a2, b2],
      fun hs => ⟨a3 hs.1, b3 hs.2⟩, fun hs => ⟨a4 hs.1, b4 hs.2⟩⟩
end

theorem dyeL_keeps : (l : List Node) → ∀ (snake : Bool) (layer : Nat) (pp : Option Bytes) (st : DyeSt) (l' : List Node) (st' : DyeSt),
    dyeL snake layer pp l st = .ok (l', st') →
    ∀ pre, (routesL pre l').map routeKey = (routesL pre l).map routeKey :=
  fun l snake layer pp st l' st' h => (dyeL_pres l snake layer pp st l' st' h).2.1

theorem dye_shape : (n : Node) → ∀ (snake : Bool) (layer : Nat) (pp : Option Bytes) (st : DyeSt) (n' : Node) (st' : DyeSt),
    dye snake layer pp n st = .ok (n', st') → ShN n → ShN n' :=
  fun n snake layer pp st n' st' h => (dye_pres n snake layer pp st n' st' h).2.2.1

theorem dye_uq : (n : Node) → ∀ (snake : Bool) (layer : Nat) (pp : Option Bytes) (st : DyeSt) (n' : Node) (st' : DyeSt),
    dye snake layer pp n st = .ok (n', st') → skel n' = skel n ∧ (UQ n → UQ n') :=
  fun n snake layer pp st n' st' h => let ⟨h1, _, _, h4⟩ := dye_pres n snake layer pp st n' st' h; ⟨h1, h4⟩

/-! ### where the routes and groups of the statements of a node lie -/

theorem seg_prefix (s s' u v : Bytes) (hs : sl ∉ s) (hs' : sl ∉ s') (hv : v = [] ∨ ∃ v', v = sl :: v')
    (h : (s ++ sl :: u) <+: (s' ++ v)) : s = s' ∧ (sl :: u) <+: v := by
  induction s generalizing s' with
  | nil =>
    cases s' with
    | nil => exact ⟨rfl, h⟩
    | cons c t => exact absurd List.mem_cons_self ((List.cons_prefix_cons.1 h).1 ▸ hs')
  | cons a s1 ih =>
    cases s' with
    | nil =>
      rcases hv with rfl | ⟨v', rfl⟩
      · simp at h
      · exact absurd List.mem_cons_self ((List.cons_prefix_cons.1 h).1 ▸ hs)
    | cons c t =>
      obtain ⟨rfl, h'⟩ := List.cons_prefix_cons.1 h
      obtain ⟨rfl, e2⟩ := ih t (fun hm => hs (List.mem_cons_of_mem _ hm))
        (fun hm => hs' (List.mem_cons_of_mem _ hm)) h'
      exact ⟨rfl, e2⟩

/-- `path` is the full path of the node `c` below `pre` followed by `x`, the node paths from `c` down to a node below
it (then `c` has children): nothing, or bytes that begin with a slash -/
def Below (pre : List Bytes) (c : Node) (path x : Bytes) : Prop :=
  path = (pre ++ [c.info.path]).flatten ++ x ∧ (x = [] ∨ ∃ v, x = sl :: v) ∧ (c.children.isEmpty = true → x = [])

theorem Below.here {pre : List Bytes} {c : Node} {path : Bytes} (h : path = (pre ++ [c.info.path]).flatten) :
    Below pre c path [] :=
  ⟨by simpa using h, .inl rfl, fun _ => rfl⟩

theorem Below.up {pre : List Bytes} {i : Info} {cs : List Node} {c : Node} {path x : Bytes}
    (h : Below (pre ++ [i.path]) c path x) (hc : c ∈ cs) (hs : ShN c) :
    Below pre (.mk i cs) path (c.info.path ++ x) := by
  obtain ⟨s, e, _⟩ := hs.seg
  exact ⟨by rw [h.1]; simp [Node.info], .inr ⟨s ++ x, by rw [e]; rfl⟩,
    fun he => by obtain rfl : cs = [] := List.isEmpty_iff.1 he; cases hc⟩

mutual
/-- a route (a group) of the statements of a node lies at the node or below it; a route below a node passes
through the node's parent group -/
theorem placesD : (n : Node) → ∀ (gv : GroupVal) (pre0 : List Bytes), ShN n → At gv pre0 →
    (∀ r ∈ routesD gv n, ∃ x, Below pre0 n r.path x ∧ ∀ m ∈ gv.chain, m ∈ r.chain) ∧
    (∀ g ∈ groupsD gv n, ∃ x, Below pre0 n g.1 x ∧ n.children.isEmpty = false)
  | .mk i cs => by
    intro gv pre0 hn hat
    simp only [ShN] at hn
    obtain ⟨hseg, _, hcs⟩ := hn
    have hj := hat.join hseg
    have hown : ∀ r ∈ (if i.handler.isEmpty then [] else [ownRoute gv i]),
        ∃ x, Below pre0 (.mk i cs) r.path x ∧ ∀ m ∈ gv.chain, m ∈ r.chain := by
      intro r hr
      simp only [List.mem_ite_nil_left, List.mem_singleton] at hr
      rw [hr.2]
      exact ⟨[], .here hj, fun m hm => by simp [ownRoute, hm]⟩
    cases cs with
    | nil =>
      refine ⟨fun r hr => ?_, fun g hg => by simp [groupsD, groupsDL] at hg⟩
      simp only [routesD, routesDL, List.append_nil] at hr
      exact hown r hr
    | cons c0 r0 =>
      obtain ⟨hR, hG⟩ := placesDL (c0 :: r0) (ownGroup gv i) (pre0 ++ [i.path]) hcs (hat.own hseg)
      have hch := (shL_iff _).1 hcs
      refine ⟨fun r hr => ?_, fun g hg => ?_⟩
      · simp only [routesD, List.mem_append] at hr
        rcases hr with hr | hr
        · exact hown r hr
        · obtain ⟨c, hc, x, hb, h4⟩ := hR r hr
          exact ⟨_, hb.up hc (hch c hc), fun m hm => h4 m (by simp [ownGroup, hm])⟩
      · simp only [groupsD, List.isEmpty_cons, Bool.false_eq_true, if_false, List.singleton_append,
          List.mem_cons] at hg
        rcases hg with rfl | hg
        · exact ⟨[], .here hj, rfl⟩
        · obtain ⟨c, hc, x, hb, _⟩ := hG g hg
          exact ⟨_, hb.up hc (hch c hc), rfl⟩
theorem placesDL : (l : List Node) → ∀ (gv : GroupVal) (pre : List Bytes), ShL l → At gv pre →
    (∀ r ∈ routesDL gv l, ∃ c ∈ l, ∃ x, Below pre c r.path x ∧ ∀ m ∈ gv.chain, m ∈ r.chain) ∧
    (∀ g ∈ groupsDL gv l, ∃ c ∈ l, ∃ x, Below pre c g.1 x ∧ c.children.isEmpty = false)
  | [] => fun _ _ _ _ => ⟨nofun, nofun⟩
  | c :: rs => by
    intro gv pre hl hat
    obtain ⟨hR, hG⟩ := placesD c gv pre hl.1 hat
    obtain ⟨hRs, hGs⟩ := placesDL rs gv pre hl.2 hat
    refine ⟨fun r hr => ?_, fun g hg => ?_⟩
    · simp only [routesDL, List.mem_append] at hr
      rcases hr with hr | hr
      · exact ⟨c, by simp, hR r hr⟩
      · obtain ⟨c', hc', h⟩ := hRs r hr
        exact ⟨c', by simp [hc'], h⟩
    · simp only [groupsDL, List.mem_append] at hg
      rcases hg with hg | hg
      · exact ⟨c, by simp, hG g hg⟩
      · obtain ⟨c', hc', h⟩ := hGs g hg
        exact ⟨c', by simp [hc'], h⟩
end

/-- a path at or below a node `c` with children that is a proper prefix of a path at or below `c'` (both reached
through `pre`): the two nodes are called the same, and the second path lies properly below `c'`.  Only the first
path element after `pre` is compared; what follows it matters only in being empty or not. -/
theorem pp_below {pre : List Bytes} {c c' : Node} {g r x x' : Bytes} (hp : SegOK false c.info.path) {e : Bool}
    (hp' : SegOK e c'.info.path) (b : Below pre c g x) (b' : Below pre c' r x')
    (hpp : properPrefix g r = true) : c'.info.path = c.info.path ∧ x' ≠ [] := by
  obtain ⟨s, es, hs, hne⟩ := hp
  obtain ⟨s', es', hs', _⟩ := hp'
  rw [b.1, b'.1, es, es'] at hpp
  rw [es, es']
  unfold properPrefix at hpp
  simp only [Bool.or_eq_true, decide_eq_true_eq, List.isPrefixOf_iff_prefix, List.flatten_append,
    List.flatten_cons, List.flatten_nil, List.append_nil, List.append_assoc] at hpp
  rcases hpp with h | h
  · -- the group's path is longer than `/`
    exfalso
    have := congrArg List.length h
    cases s with
    | nil => exact hne rfl rfl
    | cons a t => simp at this; omega
  · obtain ⟨u, hu⟩ : ∃ u, x ++ [sl] = sl :: u := by
      rcases b.2.1 with rfl | ⟨v, rfl⟩
      · exact ⟨[], rfl⟩
      · exact ⟨v ++ [sl], rfl⟩
    rw [List.prefix_append_right_inj, List.cons_append, List.cons_append, List.cons_prefix_cons, hu] at h
    obtain ⟨rfl, h2⟩ := seg_prefix s s' u x' hs hs' b'.2.1 h.2
    exact ⟨rfl, by rintro rfl; simp at h2⟩

/-- a route below one child and a group below another child with the same path: impossible when sibling
group nodes have distinct paths -/
theorem cross {pre : List Bytes} {c1 c2 : Node} (hru : RU (skel c1) (skel c2))
    (h1 : ShN c1) (h2 : ShN c2) {rp gp x1 x2 : Bytes} (b1 : Below pre c1 rp x1)
    (b2 : Below pre c2 gp x2) (hgrp : c2.children.isEmpty = false) (hpp : properPrefix gp rp = true) : False := by
  obtain ⟨ep, hne⟩ := pp_below (hgrp ▸ h2.seg) h1.seg b2 b1 hpp
  exact hru (Bool.eq_false_iff.2 fun hc => hne (b1.2.2 hc)) hgrp ep

mutual
theorem strongN : (n : Node) → ∀ (gv : GroupVal) (pre0 : List Bytes), ShN n → UQ n → OKpre pre0 →
    gv.base = fullPath pre0 → ∀ r ∈ routesD gv n, ∀ g ∈ groupsD gv n,
    properPrefix g.1 r.path = true → g.2 ∈ r.chain
  | .mk i cs => by
    intro gv pre0 hn hu hpre hb r hr g hg hpp
    have hat : At gv pre0 := ⟨hpre, hb⟩
    have hG := (placesD (.mk i cs) gv pre0 hn hat).2
    simp only [ShN] at hn
    obtain ⟨hseg, _, hcs⟩ := hn
    simp only [UQ] at hu
    cases cs with
    | nil => simp [groupsD, groupsDL] at hg
    | cons c0 r0 =>
      have hseg' : SegOK false i.path := hseg
      have hat' := hat.own hseg'
      simp only [routesD, List.mem_append] at hr
      rcases hr with hr | hr
      · -- the node's own route: the groups of the subtree lie at its path or below, none is a proper prefix
        simp only [List.mem_ite_nil_left, List.mem_singleton] at hr
        obtain ⟨x, hb, _⟩ := hG g hg
        have hr' : Below pre0 (.mk i (c0 :: r0)) r.path [] := .here (by rw [hr.2]; exact hat.join hseg')
        exact absurd rfl (pp_below (c := .mk i (c0 :: r0)) (c' := .mk i (c0 :: r0)) hseg' hseg' hb hr' hpp).2
      · simp only [groupsD, List.isEmpty_cons, Bool.false_eq_true, if_false, List.singleton_append,
          List.mem_cons] at hg
        rcases hg with rfl | hg
        · -- the node's own group wraps every route below
          obtain ⟨_, _, _, _, h4⟩ := (placesDL (c0 :: r0) (ownGroup gv i) (pre0 ++ [i.path]) hcs hat').1 r hr
          exact h4 _ (by simp [ownGroup])
        · exact strongL (c0 :: r0) (ownGroup gv i) (pre0 ++ [i.path]) hcs hu.2 hu.1 hat' r hr g hg hpp
theorem strongL : (l : List Node) → ∀ (gv : GroupVal) (pre : List Bytes), ShL l → UQL l →
    (l.map skel).Pairwise RU → At gv pre →
    ∀ r ∈ routesDL gv l, ∀ g ∈ groupsDL gv l, properPrefix g.1 r.path = true → g.2 ∈ r.chain
  | [] => by
    intro gv pre _ _ _ _ r hr
    simp [routesDL] at hr
  | c :: rs => by
    intro gv pre hl hu hpw hat r hr g hg hpp
    simp only [ShL] at hl
    simp only [UQL] at hu
    simp only [List.map_cons, List.pairwise_cons] at hpw
    simp only [routesDL, List.mem_append] at hr
    simp only [groupsDL, List.mem_append] at hg
    rcases hr with hr | hr <;> rcases hg with hg | hg
    · exact strongN c gv pre hl.1 hu.1 hat.1 hat.2 r hr g hg hpp
    · exfalso
      obtain ⟨e1, b1, _⟩ := (placesD c gv pre hl.1 hat).1 r hr
      obtain ⟨c2, hc2, e2, b2, g2⟩ := (placesDL rs gv pre hl.2 hat).2 g hg
      exact cross (hpw.1 _ (List.mem_map_of_mem hc2)) hl.1 ((shL_iff _).1 hl.2 _ hc2) b1 b2 g2 hpp
    · exfalso
      obtain ⟨c1, hc1, e1, b1, _⟩ := (placesDL rs gv pre hl.2 hat).1 r hr
      obtain ⟨e2, b2, g2⟩ := (placesD c gv pre hl.1 hat).2 g hg
      have hru : RU (skel c1) (skel c) := fun a b e => hpw.1 _ (List.mem_map_of_mem hc1) b a e.symm
      exact cross hru ((shL_iff _).1 hl.2 _ hc1) hl.1 b1 b2 g2 hpp
    · exact strongL rs gv pre hl.2 hu.2 hpw.2 hat r hr g hg hpp
end

/-! ## Part 6: the snake pass keeps the tree; assembly -/

theorem dye_var : (n : Node) → ∀ (snake : Bool) (layer : Nat) (pp : Option Bytes) (st : DyeSt) (n' : Node) (st' : DyeSt),
    dye snake layer pp n st = .ok (n', st') → FreshN n →
    ∃ A, st'.used = A ++ st.used ∧ A.Nodup ∧ (∀ a ∈ A, a ∉ st.used) ∧ Good wrapVar (groupVars n') A :=
  fun n snake layer pp st n' st' h hf =>
    let ⟨A, h1, h2, h3, gv, _⟩ := dye_names n snake layer pp st n' st' h hf
    ⟨A, h1, h2, h3, gv⟩

mutual
theorem snakePass_pres : (n : Node) → ∀ (mws : List Bytes) (n' : Node) (mws' : List Bytes),
    snakePass n mws = .ok (n', mws') →
    skel n' = skel n ∧ groupVars n' = groupVars n ∧ (∀ pm, ScN pm n → ScN pm n') ∧ (ShN n → ShN n') ∧ (UQ n → UQ n')
  | .mk i cs => by
    intro mws n' mws' h
    obtain ⟨g, hm, mws2, cs', hl, rfl⟩ := snakePass_ok h
    obtain ⟨e1, e2, e3, e4, e5⟩ := snakePassL_pres cs _ cs' mws' hl
    have hemp : cs'.isEmpty = cs.isEmpty := by simpa using congrArg List.isEmpty e1
    refine ⟨?_, ?_, ?_, ?_, ?_⟩
    · simp only [skel, Node.info, Node.children, hemp]
    · rw [groupVars_mk, groupVars_mk, hemp, e2]
    · intro pm hsc
      simp only [ScN] at hsc ⊢
      rw [hemp, e2]
      exact ⟨hsc.1, hsc.2.1, hsc.2.2.1, e3 _ hsc.2.2.2⟩
    · intro hsh
      simp only [ShN] at hsh ⊢
      rw [hemp]
      exact ⟨hsh.1, hsh.2.1, e4 hsh.2.2⟩
    · intro hu
      simp only [UQ] at hu ⊢
      rw [e1]
      exact ⟨hu.1, e5 hu.2⟩
theorem snakePassL_pres : (l : List Node) → ∀ (mws : List Bytes) (l' : List Node) (mws' : List Bytes),
    snakePassL l mws = .ok (l', mws') →
    l'.map skel = l.map skel ∧ groupVarsL l' = groupVarsL l ∧ (∀ pm, ScL pm l → ScL pm l') ∧ (ShL l → ShL l') ∧
      (UQL l → UQL l')
  | [] => by
    intro mws l' mws' h
    cases h
    exact ⟨rfl, rfl, fun _ => id, id, id⟩
  | c :: r => by
    intro mws l' mws' h
    obtain ⟨c', m1, r', hc, hr, rfl⟩ := snakePassL_ok h
    obtain ⟨a1, a2, a3, a4, a5⟩ := snakePass_pres c _ c' m1 hc
    obtain ⟨b1, b2, b3, b4, b5⟩ := snakePassL_pres r _ r' mws' hr
    exact ⟨by simp [a1, b1], by simp [groupVarsL, a2, b2], fun pm hs => ⟨a3 _ hs.1, b3 _ hs.2⟩,
      fun hs => ⟨a4 hs.1, b4 hs.2⟩, fun hs => ⟨a5 hs.1, b5 hs.2⟩⟩
end

theorem snakePass_info (n : Node) (mws : List Bytes) (n' : Node) (mws' : List Bytes)
    (h : snakePass n mws = .ok (n', mws')) :
    n'.info.path = n.info.path ∧ n'.info.handler = n.info.handler ∧ n'.info.middleWare = n.info.middleWare
      ∧ n'.info.groupName = n.info.groupName := by
  obtain ⟨i, cs⟩ := n
  obtain ⟨_, _, _, _, _, rfl⟩ := snakePass_ok h
  exact ⟨rfl, rfl, rfl, rfl⟩

/-- the tree a whole generation step renders carries exactly the declared routes -/
theorem generate_routes (cfg : Cfg) (ms : List Method) (used : List Bytes) (ex : Option (List Bytes)) (o : Output)
    (h : generate cfg ms used ex = .ok o) :
    ((routes o.tree).map routeKey).Perm (ms.map declKey) := by
  obtain ⟨cs, st, cs1, st2, hb, _, hl, hcamel, hsnake⟩ := (generate_ok h).1
  have hbuild := buildWith_routes (updSort_perm cfg.sortRouter) hb
  have hdye : (routes (.mk newRouterTree.info cs1)).map routeKey = (routes (.mk newRouterTree.info cs)).map routeKey := by
    simp only [routes, routesN, List.map_append, dyeL_keeps cs _ _ _ _ cs1 st2 hl []]
  have hpass : (routes o.tree).map routeKey = (routes (.mk newRouterTree.info cs1)).map routeKey := by
    cases hsn : cfg.snake with
    | false => rw [hcamel hsn]
    | true =>
      obtain ⟨m', hsp⟩ := hsnake hsn
      exact (snakePass_keeps _ _ _ _ hsp).2 []
  rw [hpass, hdye]
  simpa [routes, newRouterTree, routesN, routesL] using hbuild

/-- the tree a generation renders, in both naming styles: a root like the one of `NewRouterTree` above
children whose variables are distinct and not called `root`; over clean paths they are well scoped and well
shaped, with sort-router and non-empty verbs sibling groups have distinct paths -/
theorem generate_tree (cfg : Cfg) (ms : List Method) (used : List Bytes) (ex : Option (List Bytes)) (o : Output)
    (h : generate cfg ms used ex = .ok o) :
    ∃ i0 cs', RootInfo i0 ∧ o.tree = .mk i0 cs' ∧ o.stmts = stmts o.tree ∧
      rootName ∉ groupVarsL cs' ∧ (groupVarsL cs').Nodup ∧
      ((∀ m ∈ ms, CleanM m) → ScL rootName cs' ∧ ShL cs' ∧
        (cfg.sortRouter = true → (∀ m ∈ ms, m.verb ≠ []) → (cs'.map skel).Pairwise RU ∧ UQL cs')) := by
  obtain ⟨tcs, st, cs1, st2, hb, hfresh, hl, hcamel, hsnake⟩ := (generate_ok h).1
  have hst := (generate_ok h).2.1
  obtain ⟨⟨hnd, hnot⟩, _⟩ := dyeL_idents_root _ _ _ tcs cs1 _ st2 hl hfresh
  have hclean : (∀ m ∈ ms, CleanM m) → ScL rootName cs1 ∧ ShL cs1 ∧
      (cfg.sortRouter = true → (∀ m ∈ ms, m.verb ≠ []) → (cs1.map skel).Pairwise RU ∧ UQL cs1) := by
    intro hm
    obtain ⟨e1, _, e3, e4⟩ := dyeL_pres tcs _ _ _ _ cs1 st2 hl
    have hsh1 : ShL cs1 := e3 (buildWith_shape (updSort_perm cfg.sortRouter) hm hb trivial)
    refine ⟨scL_of cs1 rootName (dyeL_gn tcs _ _ _ _ cs1 st2 rootName hl rfl).1 hsh1 hnd, hsh1, fun hsr hv => ?_⟩
    have huq := uq_of_si _ (buildWith_si (updSort_perm cfg.sortRouter) hsr hv hb
      (by simp [newRouterTree, SI, SIL]))
    simp only [UQ] at huq
    rw [e1]
    exact ⟨huq.1, e4 huq.2⟩
  cases hsn : cfg.snake with
  | false => exact ⟨_, cs1, ⟨rfl, rfl, rfl⟩, hcamel hsn, hst, hnot, hnd, hclean⟩
  | true =>
    obtain ⟨m', hsp⟩ := hsnake hsn
    obtain ⟨g, hm', mws2, cs2, hl2, htree⟩ := snakePass_ok hsp
    obtain ⟨e1, e2, e3, e4, e5⟩ := snakePassL_pres cs1 _ cs2 _ hl2
    refine ⟨_, cs2, ⟨rfl, rfl, rfl⟩, htree, hst, by rw [e2]; exact hnot, by rw [e2]; exact hnd, fun hm => ?_⟩
    obtain ⟨q1, q2, q3⟩ := hclean hm
    refine ⟨e3 _ q1, e4 q2, fun hsr hv => ?_⟩
    rw [e1]
    exact ⟨(q3 hsr hv).1, e5 (q3 hsr hv).2⟩

/-- **the denotation theorem**: both naming styles, every option; with sort-router and non-empty verbs
also `chainsStrong` -/
theorem generate_denotes_strong (cfg : Cfg) (ms : List Method) (hm : ∀ m ∈ ms, CleanM m)
    (used : List Bytes) (ex : Option (List Bytes)) (o : Output) (h : generate cfg ms used ex = .ok o) :
    ∃ rs gs, interp o.stmts scope0 = some (rs, gs) ∧ exactRoutes ms rs = true ∧ chainsWeak rs = true ∧
      (cfg.sortRouter = true → (∀ m ∈ ms, m.verb ≠ []) → chainsStrong rs gs = true) := by
  have hroutes := generate_routes cfg ms used ex o h
  obtain ⟨i0, cs', h0, htree, hstm, hnot, _, hclean⟩ := generate_tree cfg ms used ex o h
  obtain ⟨hsc, hsh', huq⟩ := hclean hm
  rw [htree] at hroutes hstm
  rw [hstm]
  refine ⟨_, _, interp_root i0 h0 cs' hsc hnot, ?_⟩
  have hat : At (gvRoot i0.groupMw) [] := ⟨nofun, rfl⟩
  have hk : (routesDL (gvRoot i0.groupMw) cs').map keyD = (routes (.mk i0 cs')).map keyT := by
    rw [routesDL_eq cs' (gvRoot i0.groupMw) [] hsh' hat rfl]
    simp [routes, routesN, h0.2.1]
  have hspec := spec_of_keys ms hm _ _ hk hroutes (by
    intro r hr
    simp only [routes, routesN, h0.2.1, List.isEmpty_nil, if_true, List.nil_append] at hr
    exact routesL_handlerOK cs' [] hsh' r hr)
  refine ⟨hspec.1, hspec.2, ?_⟩
  intro hsr hv
  obtain ⟨hpw, huql⟩ := huq hsr hv
  simp only [chainsStrong, List.all_eq_true, Bool.or_eq_true, Bool.not_eq_true', List.contains_iff_mem]
  intro r hr g hg
  cases hpp : properPrefix g.1 r.path with
  | false => left; rfl
  | true =>
    right
    simp only [List.mem_append] at hg
    rcases hg with hg | hg
    · simp only [List.mem_ite_nil_left, List.mem_singleton] at hg
      obtain ⟨_, _, _, _, h4⟩ := (placesDL cs' (gvRoot i0.groupMw) [] hsh' hat).1 r hr
      rw [hg.2]
      exact h4 _ (by simp [gvRoot])
    · exact strongL cs' (gvRoot i0.groupMw) [] hsh' huql hpw hat r hr g hg hpp

/-- the variables `Register` declares are pairwise distinct, in both naming styles, fresh or update -/
theorem generate_vars_nodup (cfg : Cfg) (ms : List Method) (used : List Bytes) (ex : Option (List Bytes)) (o : Output)
    (h : generate cfg ms used ex = .ok o) : (HzSpec.declaredVars o.stmts).Nodup := by
  obtain ⟨i0, cs', h0, htree, hstm, hnot, hnd, _⟩ := generate_tree cfg ms used ex o h
  rw [hstm, htree, declaredVars_stmts, groupVars_mk, h0.2.2]
  cases cs'.isEmpty
  · simp only [Bool.false_eq_true, if_false, List.singleton_append, List.nodup_cons]
    exact ⟨hnot, hnd⟩
  · simpa using hnd

/-! ## Part 7: the functions of middleware.go, camel style; update of an existing file -/

/-- camel style: the functions the `middleware.go` template renders for the tree are pairwise distinct -/
theorem generate_funcs_nodup (cfg : Cfg) (hs : cfg.snake = false) (ms : List Method) (used : List Bytes)
    (ex : Option (List Bytes)) (o : Output) (h : generate cfg ms used ex = .ok o) : (mwFuncs o.tree).Nodup := by
  obtain ⟨cs, st, cs1, st2, _, hfresh, hl, hcamel, _⟩ := (generate_ok h).1
  obtain ⟨hnd, hnot⟩ := (dyeL_idents_root _ _ _ cs cs1 _ st2 hl hfresh).2 hs
  rw [hcamel hs]
  simp only [mwFuncs, newRouterTree, Node.info]
  cases cs1.isEmpty
  · simp only [Bool.false_eq_true, if_false, List.isEmpty_nil, if_true, List.append_nil,
      List.singleton_append, List.nodup_cons]
    exact ⟨hnot, hnd⟩
  · simpa using hnd

/-- camel style, fresh router directory: no identifier is declared twice -/
theorem generate_idents (cfg : Cfg) (hs : cfg.snake = false) (ms : List Method) (used : List Bytes) (o : Output)
    (h : generate cfg ms used none = .ok o) :
    o.funcs.Nodup ∧ (HzSpec.declaredVars o.stmts).Nodup := by
  rw [(generate_ok h).2.2]
  exact ⟨generate_funcs_nodup cfg hs ms used none o h, generate_vars_nodup cfg ms used none o h⟩

/-- the append loop never appends a name that is already declared -/
theorem updateMwFile_nodup (fs l : List Bytes) (h : fs.Nodup) : (updateMwFile false fs l).Nodup := by
  fun_induction updateMwFile false fs l with
  | case1 fs => exact h
  | case2 fs mw r pat _ ih => exact ih h
  | case3 fs mw r pat hnd ih =>
    refine ih (List.nodup_append.2 ⟨h, by simp, fun a ha b hb e => hnd ?_⟩)
    obtain rfl := List.mem_singleton.1 hb
    exact List.any_eq_true.2 ⟨_, ha, e ▸ List.isPrefixOf_iff_prefix.2 (List.prefix_refl _)⟩

theorem updateMwFile_prefix (snake : Bool) (fs l : List Bytes) : fs <+: updateMwFile snake fs l := by
  fun_induction updateMwFile snake fs l with
  | case1 fs => exact List.prefix_refl fs
  | case2 fs mw r pat _ ih => exact ih
  | case3 fs mw r pat _ ih => exact (List.prefix_append fs _).trans ih

/-- camel style, router directory with a middleware.go whose function names are pairwise distinct: no
identifier is declared twice after the update -/
theorem generate_idents_update (cfg : Cfg) (hs : cfg.snake = false) (ms : List Method) (used : List Bytes)
    (fs : List Bytes) (hfs : fs.Nodup) (o : Output) (h : generate cfg ms used (some fs) = .ok o) :
    o.funcs.Nodup ∧ (HzSpec.declaredVars o.stmts).Nodup ∧ fs <+: o.funcs := by
  simp only [(generate_ok h).2.2, hs]
  exact ⟨updateMwFile_nodup fs _ hfs, generate_vars_nodup cfg ms used _ o h, updateMwFile_prefix _ fs _⟩

/-! ## Part 8: the middleware functions `Register` calls are declared (fresh middleware.go) -/

/-- the middleware functions a statement list calls -/
def referencedMws : List Stmt → List Bytes
  | [] => []
  | .group _ _ _ mw :: r => mw :: referencedMws r
  | .route _ _ _ mw _ :: r => mw :: referencedMws r
  | .open_ :: r => referencedMws r
  | .close :: r => referencedMws r

theorem referencedMws_append (a b : List Stmt) : referencedMws (a ++ b) = referencedMws a ++ referencedMws b := by
  induction a with
  | nil => rfl
  | cons x r ih => cases x <;> simp [referencedMws, ih]

mutual
theorem referenced_stmts : (n : Node) → ∀ f ∈ referencedMws (stmts n), f ∈ mwFuncs n
  | .mk i cs => by
    intro f hf
    rw [stmts, referencedMws_append, referencedMws_append] at hf
    simp only [apply_ite referencedMws, referencedMws, List.mem_append] at hf
    rw [mwFuncs]
    simp only [List.mem_append]
    rcases hf with (hf | hf) | hf
    · exact .inl (.inr hf)
    · exact .inl (.inl hf)
    · exact .inr (referenced_stmtsL cs f hf)
theorem referenced_stmtsL : (l : List Node) → ∀ f ∈ referencedMws (stmtsL l), f ∈ mwFuncsL l
  | [] => by intro f hf; simp [stmtsL, referencedMws] at hf
  | .mk i cs :: r => by
    intro f hf
    -- the braces around a node without handler call nothing
    have hblock : referencedMws (if i.handler.isEmpty then [Stmt.open_] ++ stmts (.mk i cs) ++ [Stmt.close]
        else stmts (.mk i cs)) = referencedMws (stmts (.mk i cs)) := by
      split <;> simp [referencedMws_append, referencedMws]
    rw [stmtsL, referencedMws_append, hblock, List.mem_append] at hf
    rw [mwFuncsL, List.mem_append]
    exact hf.imp (referenced_stmts (.mk i cs) f) (referenced_stmtsL r f)
end

end Hertz.Hz
