import Hertz.Model.Fs
import Hertz.Spec.Fs
import Hertz.Gen.Fs
import Hertz.Gen.Consts
import Hertz.Proofs.Decimal
import Hertz.Proofs.Tables
import Hertz.Proofs.IndexByte
/-!
Byte ranges of the static file handler (C08; `Model/Fs.lean` against `Spec/Fs.lean`).  `parseUint_cases`: `ParseUint` reads
exactly the digit strings below 2^63.  `ParseByteRange` is its prefix test followed by `parseSpec` on the two halves around
the first `-`; the specification's one `match` is cut into the same arms (`rfcSuffix`, `rfcFromTo`; `fit` for the conjuncts
of `numsFit`; equal to the specification by `rfl`), so that `parseByteRange_rfc` compares arm with arm through `fit_cases`.
Then the decimal writer against `Proofs/Decimal.lean`, the handler's answer as one record sent with or without its body
(`serve_cases`), and the statement skeletons of the Go functions (`model_matches_gen`).
-/

namespace Hertz.FS
open Hertz Hertz.FS.Spec Hertz.H1.Dec

theorem wrap64_exact {x : Int} (h0 : 0 ≤ x) (h : x < 9223372036854775808) : wrap64 x = x := by
  unfold wrap64; omega

theorem wrap64_lt (x : Int) : wrap64 x < 9223372036854775808 := by
  unfold wrap64; omega

theorem digit_tbl : ∀ c : UInt8, ((c - 48 : UInt8) > 9 ↔ isDigit c = false) ∧
    (isDigit c = true → (c - 48 : UInt8).toNat = digitVal c ∧ (c - 48 : UInt8).toNat ≤ 9) :=
  forall_byte (by decide +kernel)

theorem not_digit_iff (c : UInt8) : (c - 48 : UInt8) > 9 ↔ isDigit c = false := (digit_tbl c).1

theorem digit_val {c : UInt8} (h : isDigit c = true) :
    (c - 48 : UInt8).toNat = digitVal c ∧ (c - 48 : UInt8).toNat ≤ 9 := (digit_tbl c).2 h

theorem decAcc_ge (t : Bytes) : ∀ a, a ≤ decAcc t a := by
  induction t with
  | nil => intro a; simp [decAcc]
  | cons c t ih => intro a; simp only [decAcc]; have := ih (10 * a + digitVal c); omega

theorem decAcc_append (a : Nat) (x y : Bytes) : decAcc (x ++ y) a = decAcc y (decAcc x a) := by
  induction x generalizing a with
  | nil => rfl
  | cons c t ih => simp [decAcc, ih]

theorem decAcc_snoc (d : Bytes) (x : UInt8) (a : Nat) : decAcc (d ++ [x]) a = 10 * decAcc d a + digitVal x := by
  rw [decAcc_append]; simp [decAcc]

theorem overflow_test (v k : Int) :
    v > (maxInt - k) / 10 ↔ 10 * v + k > 9223372036854775807 := by
  unfold maxInt; omega

theorem parseUintLoop_nondigit {c : UInt8} (t : Bytes) (v : Int) (i : Nat) (h : isDigit c = false) :
    parseUintLoop (c :: t) v i = if i = 0 then (-1, i, some .firstChar) else (v, i, none) := by
  simp only [parseUintLoop, (not_digit_iff c).2 h, if_true]

theorem parseUintLoop_digit {c : UInt8} (t : Bytes) (a i : Nat) (h : isDigit c = true) :
    parseUintLoop (c :: t) (a : Int) i =
      if 10 * a + digitVal c < 9223372036854775808 then parseUintLoop t ((10 * a + digitVal c : Nat) : Int) (i + 1)
      else (-1, i, some .tooLong) := by
  have hk : ¬ (c - 48 : UInt8) > 9 := fun hk => by rw [(not_digit_iff c).1 hk] at h; cases h
  obtain ⟨hv, hv9⟩ := digit_val h
  simp only [parseUintLoop, hk, if_false]
  rw [← hv]
  generalize (c - 48 : UInt8).toNat = k at hv9 ⊢
  have hcast : ((10 * a + k : Nat) : Int) = 10 * (a : Int) + (k : Int) := by omega
  simp only [overflow_test (a : Int) (k : Int), hcast]
  by_cases hf : 10 * a + k < 9223372036854775808
  · rw [if_neg (by omega), if_pos hf, wrap64_exact (by omega) (by omega)]
  · rw [if_pos (by omega), if_neg hf]

/-- The loop of `ParseUintBuf`: on digits whose value fits it consumes everything and returns the value (so the
modelled wrap of `10*v + k` is never taken); on anything else it reports an error or stops early. -/
theorem loop_exact (t : Bytes) : ∀ (a i : Nat), a < 9223372036854775808 →
    if t.all isDigit = true ∧ decAcc t a < 9223372036854775808 then
      parseUintLoop t (a : Int) i = ((decAcc t a : Int), i + t.length, none)
    else ∀ r n, parseUintLoop t (a : Int) i = (r, n, none) → n < i + t.length := by
  induction t with
  | nil => intro a i h; rw [if_pos ⟨rfl, h⟩]; rfl
  | cons c t ih =>
    intro a i h
    rw [List.all_cons, List.length_cons, decAcc]
    cases hd : isDigit c with
    | false =>
      rw [if_neg (fun h => nomatch h.1), parseUintLoop_nondigit t _ i hd]
      intro r n e
      by_cases hi : i = 0
      · rw [if_pos hi] at e; cases e
      · rw [if_neg hi] at e; cases e; omega
    | true =>
      rw [parseUintLoop_digit t a i hd, Bool.true_and]
      by_cases hf : 10 * a + digitVal c < 9223372036854775808
      · rw [if_pos hf, ← Nat.add_assoc, Nat.add_right_comm i]
        exact ih _ (i + 1) hf
      · rw [if_neg hf, if_neg (fun h => hf (Nat.lt_of_le_of_lt (decAcc_ge t _) h.2))]
        intro r n e; cases e

theorem parseUint_cases (b : Bytes) :
    (isDigits b = true ∧ decVal b < 9223372036854775808 ∧ parseUint b = .ok (decVal b : Int)) ∨
    ((isDigits b = false ∨ 9223372036854775808 ≤ decVal b) ∧ ∃ e, parseUint b = .error e) := by
  cases b with
  | nil => exact Or.inr ⟨Or.inl rfl, _, rfl⟩
  | cons c t =>
    have hl : (c :: t).length ≠ 0 := nofun
    have hs := loop_exact (c :: t) 0 0 (by omega)
    rw [Int.natCast_zero, Nat.zero_add] at hs
    have hdig : isDigits (c :: t) = (c :: t).all isDigit := rfl
    unfold parseUint parseUintBuf
    rw [if_neg hl, hdig]
    split at hs
    · rename_i h
      rw [hs]
      exact Or.inl ⟨h.1, h.2, by simp [decVal]⟩
    · rename_i h
      have hbad : (c :: t).all isDigit = false ∨ 9223372036854775808 ≤ decVal (c :: t) := by
        cases hh : (c :: t).all isDigit
        · exact Or.inl rfl
        · exact Or.inr (Nat.le_of_not_lt fun x => h ⟨hh, x⟩)
      refine Or.inr ⟨hbad, ?_⟩
      -- the loop reported an error, or stopped early and `ParseUint` reports `trailing`
      generalize parseUintLoop (c :: t) _ 0 = res at hs
      obtain ⟨v, n, err⟩ := res
      cases err with
      | some e => dsimp only; split <;> exact ⟨_, rfl⟩
      | none => have := hs v n rfl; dsimp only; rw [if_pos (by omega)]; exact ⟨_, rfl⟩

theorem parseUint_ok {b : Bytes} {r : Int} (h : parseUint b = .ok r) :
    isDigits b = true ∧ (decVal b : Int) < 9223372036854775808 ∧ r = (decVal b : Int) := by
  rcases parseUint_cases b with ⟨hd, hf, h'⟩ | ⟨_, e, h'⟩
  · rw [h'] at h; cases h; exact ⟨hd, by omega, rfl⟩
  · rw [h'] at h; cases h

/-! ### `ParseByteRange` without the slicing -/

/-- one induction ties `splitAt1` to `indexByte`; what else is known of the position comes from `Proofs/Http1.lean` -/
theorem splitAt1_eq (c : UInt8) (b : Bytes) :
    splitAt1 c b = (indexByte c b).map fun n => (b.take n, b.drop (n + 1)) := by
  induction b with
  | nil => rfl
  | cons x t ih =>
    by_cases hx : x = c
    · simp [splitAt1, indexByte, hx]
    · simp only [splitAt1, indexByte, hx, if_false, ih]
      cases indexByte c t <;> rfl

theorem indexByte_some (c : UInt8) (b : Bytes) (n : Nat) (h : indexByte c b = some n) :
    n < b.length ∧ splitAt1 c b = some (b.take n, b.drop (n + 1)) :=
  ⟨H1.indexByte_lt c b n (indexByte_eq ▸ h), by rw [splitAt1_eq, h]; rfl⟩

theorem bytesEq_cases (r : Bytes) : (∃ spec, r = strBytes ++ 61 :: spec) ∨ ∀ spec, r ≠ strBytes ++ 61 :: spec :=
  (Classical.em _).imp_right fun h spec he => h ⟨spec, he⟩

/-- `ParseByteRange` after `bytes=` has been stripped, on the two halves around the first `-`. -/
def parseSpec (spec : Bytes) (n : Int) : Except Fault (Int × Int) :=
  match splitAt1 45 spec with
  | none => .error .bad
  | some ([], suf) =>
    match parseUint suf with
    | .error _ => .error .bad
    | .ok v => if v == 0 || n == 0 then .error .bad else .ok (suffixRange n v)
  | some (a, b) => fromToRange n a b

theorem parseByteRange_prefix (spec : Bytes) (n : Int) :
    parseByteRange (strBytes ++ 61 :: spec) n = parseSpec spec n := by
  unfold parseByteRange parseSpec
  simp only [strBytes, List.cons_append, List.nil_append, List.isPrefixOf, beq_self_eq_true, Bool.and_self, Bool.not_true, Bool.false_eq_true, if_false,
    sliceFrom, List.length_cons, List.length_nil, Nat.le_add_left, if_true, Except.bind, List.drop_succ_cons, List.drop_zero,
    idx, List.getElem?_cons_zero, ne_eq, not_true_eq_false]
  simp only [Nat.add_eq_zero_iff, List.length_eq_zero_iff, reduceCtorEq, and_false, if_false]
  cases h : indexByte 45 spec with
  | none => simp [splitAt1_eq, h]
  | some k =>
    obtain ⟨hk, hs⟩ := indexByte_some 45 spec k h
    simp only [hs]
    by_cases hk0 : k = 0
    · subst hk0
      have : (1 : Nat) ≤ spec.length := by omega
      simp only [Nat.zero_add, this, if_true, List.take_zero, List.drop_one]
      cases parseUint spec.tail <;> rfl
    · have h1 : k ≤ spec.length := by omega
      have h2 : k + 1 ≤ spec.length := by omega
      simp only [hk0, if_false, sliceTo, h1, if_true, h2]
      cases hta : spec.take k with
      | nil => rw [List.take_eq_nil_iff, ← List.length_eq_zero_iff] at hta; omega
      | cons x a => rfl

theorem parseByteRange_noprefix (r : Bytes) (n : Int)
    (h : ∀ spec, r ≠ strBytes ++ 61 :: spec) : parseByteRange r n = .error .bad := by
  unfold parseByteRange
  by_cases hp : strBytes.isPrefixOf r = true
  · obtain ⟨t, ht⟩ := List.isPrefixOf_iff_prefix.1 hp
    subst ht
    simp only [hp, Bool.not_true, Bool.false_eq_true, if_false, sliceFrom, List.length_append, Nat.le_add_right, if_true,
      Except.bind, List.drop_left]
    cases t with
    | nil => simp
    | cons c0 t =>
      by_cases hc : c0 = 61
      · subst hc; exact absurd rfl (h t)
      · simp [idx, hc]
  · simp [hp]

/-! ### `ParseByteRange` against RFC 7233 -/

/-- the RFC outcome written as a Go result: a satisfiable range is returned, anything else is an error -/
def rfcExcept : Range → Except Fault (Int × Int)
  | .sat s e => .ok ((s : Int), (e : Int))
  | _ => .error .bad

/-- the decision of RFC 7233 for a suffix-byte-range-spec -/
def rfcSuffix (suf : Bytes) (n : Nat) : Range :=
  if !isDigits suf then .invalid
  else if decVal suf = 0 ∨ n = 0 then .unsat
  else .sat (n - min (decVal suf) n) (n - 1)

/-- the decision of RFC 7233 for `first-byte-pos "-" [last-byte-pos]` -/
def rfcFromTo (a b : Bytes) (n : Nat) : Range :=
  if !isDigits a then .invalid
  else if b = [] then (if decVal a ≥ n then .unsat else .sat (decVal a) (n - 1))
  else if !isDigits b then .invalid
  else if decVal b < decVal a then .invalid
  else if decVal a ≥ n then .unsat
  else .sat (decVal a) (min (decVal b) (n - 1))

/-- the number `x` names, if it names one, fits a Go `int` -/
def fit (x : Bytes) : Bool := !isDigits x || decide (decVal x < 9223372036854775808)

theorem fit_cases (x : Bytes) :
    (isDigits x = false ∧ fit x = true ∧ ∃ e, parseUint x = .error e) ∨
    (isDigits x = true ∧ fit x = true ∧ parseUint x = .ok (decVal x : Int)) ∨
    (fit x = false ∧ ∃ e, parseUint x = .error e) := by
  unfold fit
  rcases parseUint_cases x with ⟨hd, hf, h⟩ | ⟨hb, h⟩
  · exact Or.inr (Or.inl ⟨hd, by rw [decide_eq_true hf, Bool.or_true], h⟩)
  · cases hd : isDigits x
    · exact Or.inl ⟨rfl, rfl, h⟩
    · have hf : ¬ decVal x < 9223372036854775808 := by rcases hb with hb | hb; rw [hd] at hb; cases hb; omega
      exact Or.inr (Or.inr ⟨by rw [decide_eq_false hf]; rfl, h⟩)

/- Where the numbers fit, the casts to `Int` commute with every test, so the Go cascade and the RFC cascade branch on the same
conditions; where one does not, `ParseUint` fails and the Go cascade ends in the error. -/
theorem suffix_rfc (suf : Bytes) (n : Nat) :
    (match parseUint suf with
      | .error _ => (.error .bad : Except Fault (Int × Int))
      | .ok v => if v == 0 || (n : Int) == 0 then .error .bad else .ok (suffixRange n v)) =
    if fit suf then rfcExcept (rfcSuffix suf n) else .error .bad := by
  unfold rfcSuffix
  rcases fit_cases suf with ⟨hd, hf, e, h⟩ | ⟨hd, hf, h⟩ | ⟨hf, e, h⟩
  · rw [h, hf, hd]; rfl
  · rw [h, hf, hd]
    simp only [Bool.or_eq_true, beq_iff_eq, Int.natCast_eq_zero, Bool.not_true, Bool.false_eq_true, if_false, if_true]
    split
    · rfl
    · simp only [rfcExcept, suffixRange]
      congr 1
      split <;> (simp only [Prod.mk.injEq]; omega)
  · rw [h, hf]; rfl

theorem fromTo_rfc (a b : Bytes) (n : Nat) :
    fromToRange n a b = if fit a && fit b then rfcExcept (rfcFromTo a b n) else .error .bad := by
  unfold rfcFromTo fromToRange
  rcases fit_cases a with ⟨hda, hfa, e, ha⟩ | ⟨hda, hfa, ha⟩ | ⟨hfa, e, ha⟩
  · rw [ha, hfa, hda]; cases fit b <;> rfl
  · rw [ha, hfa, hda, Bool.true_and]
    simp only [ge_iff_le, Int.ofNat_le, List.length_eq_zero_iff, Bool.not_true, Bool.false_eq_true, if_false]
    by_cases hge : n ≤ decVal a
    · -- the start lies behind the end of the file: Go answers the error whatever `b` is, the RFC `invalid` or `unsat`
      simp only [hge, if_true]
      repeat' split
      all_goals rfl
    simp only [hge, if_false]
    by_cases hb : b = []
    · subst hb
      rw [if_pos rfl, if_pos rfl, if_pos (show fit [] = true from rfl), rfcExcept]
      congr 2; omega
    rw [if_neg hb, if_neg hb]
    rcases fit_cases b with ⟨hdb, hfb, e, hb'⟩ | ⟨hdb, hfb, hb'⟩ | ⟨hfb, e, hb'⟩
    · rw [hb', hfb, hdb]; rfl
    · rw [hb', hfb, hdb]
      have hend : (if n ≤ decVal b then (n : Int) - 1 else decVal b) = (min (decVal b) (n - 1) : Nat) := by split <;> omega
      have hlt : min (decVal b) (n - 1) < decVal a ↔ decVal b < decVal a := by omega
      simp only [Int.ofNat_le, hend, Int.ofNat_lt, hlt, Bool.not_true, Bool.false_eq_true, if_false, if_true]
      split <;> rfl
    · rw [hb', hfb]; rfl
  · rw [ha, hfa]; rfl

theorem splitAt1_cons_self (c : UInt8) (suf : Bytes) : splitAt1 c (c :: suf) = some ([], suf) := by
  simp [splitAt1]

theorem rfcRange_prefix (spec : Bytes) (n : Nat) :
    rfcRange (strBytes ++ 61 :: spec) n =
      match splitAt1 45 spec with
      | none => .invalid
      | some ([], suf) => rfcSuffix suf n
      | some (a, b) => rfcFromTo a b n := by
  unfold rfcRange rfcSuffix rfcFromTo
  rfl

theorem rfcRange_noprefix (r : Bytes) (n : Nat)
    (h : ∀ spec, r ≠ strBytes ++ 61 :: spec) : rfcRange r n = .invalid := by
  unfold rfcRange
  split
  · rename_i spec; exact absurd rfl (h spec)
  · rfl

theorem numsFit_prefix (spec : Bytes) :
    numsFit (strBytes ++ 61 :: spec) =
      match splitAt1 45 spec with
      | none => true
      | some (a, b) => fit a && fit b := by
  unfold numsFit
  rfl

theorem parseByteRange_rfc (r : Bytes) (n : Nat) :
    parseByteRange r (n : Int) = if numsFit r then rfcExcept (rfcRange r n) else .error .bad := by
  rcases bytesEq_cases r with ⟨spec, rfl⟩ | h
  · rw [parseByteRange_prefix, rfcRange_prefix, numsFit_prefix]
    unfold parseSpec
    cases hs : splitAt1 45 spec with
    | none => rfl
    | some ab =>
      obtain ⟨a, b⟩ := ab
      cases a with
      | nil => exact suffix_rfc b n
      | cons x a => exact fromTo_rfc (x :: a) b n
  · rw [parseByteRange_noprefix r _ h, rfcRange_noprefix r n h]
    cases numsFit r <;> rfl

theorem rfcSuffix_sat {suf : Bytes} {n s e : Nat} : rfcSuffix suf n = .sat s e → s ≤ e ∧ e < n := by
  fun_cases rfcSuffix suf n
  · intro h; cases h
  · intro h; cases h
  · intro h; cases h; omega

theorem rfcFromTo_sat {a b : Bytes} {n s e : Nat} : rfcFromTo a b n = .sat s e → s ≤ e ∧ e < n := by
  fun_cases rfcFromTo a b n
  · intro h; cases h
  · intro h; cases h
  · intro h; cases h; omega
  · intro h; cases h
  · intro h; cases h
  · intro h; cases h
  · intro h; cases h; omega

theorem rfcRange_sat {r : Bytes} {n s e : Nat} (h : rfcRange r n = .sat s e) : s ≤ e ∧ e < n := by
  rcases bytesEq_cases r with ⟨spec, rfl⟩ | h'
  · rw [rfcRange_prefix] at h
    split at h
    · cases h
    · exact rfcSuffix_sat h
    · exact rfcFromTo_sat h
  · rw [rfcRange_noprefix r n h'] at h
    cases h

theorem parseByteRange_ok {r : Bytes} {n : Nat} {s e : Int} (h : parseByteRange r (n : Int) = .ok (s, e)) :
    ∃ s' e' : Nat, s = s' ∧ e = e' ∧ rfcRange r n = .sat s' e' := by
  rw [parseByteRange_rfc] at h
  split at h
  · cases hr : rfcRange r n with
    | sat s' e' => rw [hr] at h; cases h; exact ⟨s', e', rfl, rfl, rfl⟩
    | _ => rw [hr] at h; cases h
  · cases h

theorem parseByteRange_bounds (r : Bytes) (n s e : Int) (hn0 : 0 ≤ n) (h : parseByteRange r n = .ok (s, e)) :
    0 ≤ s ∧ s ≤ e ∧ e < n := by
  obtain ⟨m, rfl⟩ := Int.eq_ofNat_of_zero_le hn0
  obtain ⟨s', e', rfl, rfl, hr⟩ := parseByteRange_ok h
  have := rfcRange_sat hr
  omega

theorem fromToRange_ok_or_bad (n : Int) (a b : Bytes) :
    (∃ p, fromToRange n a b = .ok p) ∨ fromToRange n a b = .error .bad := by
  fun_cases fromToRange n a b
  · exact Or.inr rfl
  · exact Or.inr rfl
  · exact Or.inl ⟨_, rfl⟩
  · exact Or.inr rfl
  · exact Or.inr rfl
  · exact Or.inl ⟨_, rfl⟩

theorem parseByteRange_no_panic (r : Bytes) (n : Int) :
    (∃ p, parseByteRange r n = .ok p) ∨ parseByteRange r n = .error .bad := by
  rcases bytesEq_cases r with ⟨spec, rfl⟩ | h
  · rw [parseByteRange_prefix]
    fun_cases parseSpec spec n
    · exact Or.inr rfl
    · exact Or.inr rfl
    · exact Or.inr rfl
    · exact Or.inl ⟨_, rfl⟩
    · exact fromToRange_ok_or_bad n _ _
  · exact Or.inr (parseByteRange_noprefix r _ h)

theorem toUInt8_add48 (j : Nat) : (48 + j).toUInt8 = 48 + j.toUInt8 := UInt8.ofNat_add 48 j

theorem decDigits_lt (f k : Nat) (h : k < 10) : decDigits (f + 1) k = some (decD k) := by
  rw [decDigits, if_pos h, decD_lt k h, toUInt8_add48]

/-- within the scratch buffer the digit loop writes the decimal digits of `Proofs/Decimal.lean` -/
theorem decDigits_eq_decD (f k : Nat) (hk : k < 10 ^ (f + 1)) : decDigits (f + 1) k = some (decD k) := by
  induction f generalizing k with
  | zero => exact decDigits_lt 0 k (by simpa using hk)
  | succ f ih =>
    by_cases h10 : k < 10
    · exact decDigits_lt _ k h10
    · have hk' : k / 10 < 10 ^ (f + 1) := by
        rw [Nat.pow_succ] at hk
        omega
      rw [decDigits, if_neg h10, ih (k / 10) hk', decD_ge k (by omega), toUInt8_add48, Option.map_some]

theorem decAcc_eq_val : ∀ (t : Bytes) (a : Nat), t.all isDigit = true → decAcc t a = val a t
  | [], _, _ => rfl
  | c :: t, a, h => by
    simp only [List.all_cons, Bool.and_eq_true] at h
    rw [decAcc, val_cons, (digit_val h.1).1, decAcc_eq_val t _ h.2]

theorem decD_all_isDigit (k : Nat) : (decD k).all isDigit = true :=
  List.all_eq_true.mpr fun c hc => by simpa [isDigit] using decD_digits k c hc

theorem decAcc_decD (k : Nat) : decAcc (decD k) 0 = k :=
  (decAcc_eq_val _ 0 (decD_all_isDigit k)).trans (val_decD k)

theorem appendUint_ok {k : Int} (h0 : 0 ≤ k) (h : k < 9223372036854775808) :
    ∃ d, appendUint k = .ok d ∧ isDigits d = true ∧ decVal d = k.toNat := by
  have hlt : k.toNat < 10 ^ (19 + 1) := by
    have : (10 : Nat) ^ (19 + 1) = 100000000000000000000 := by decide
    omega
  refine ⟨decD k.toNat, ?_, ?_, decAcc_decD _⟩
  · unfold appendUint
    have : ¬ k < 0 := by omega
    simp [this, decDigits_eq_decD 19 _ hlt]
  · unfold isDigits
    simp [decD_all_isDigit, decD_ne_nil]

theorem appendUint_neg {k : Int} (h : k < 0) :
    appendUint k = .error (.panic "bytesconv.AppendUint: int must be positive") := by
  unfold appendUint; simp [h]

theorem isDigits_ne {a : Bytes} (ha : isDigits a = true) (x : UInt8) (hx : x ∈ a) : x ≠ 45 ∧ x ≠ 47 := by
  unfold isDigits at ha
  simp only [Bool.and_eq_true, List.all_eq_true] at ha
  have := ha.2 x hx
  constructor <;> (rintro rfl; revert this; decide)

theorem splitAt1_append (c : UInt8) (a b : Bytes) (h : ∀ x ∈ a, x ≠ c) :
    splitAt1 c (a ++ c :: b) = some (a, b) := by
  rw [splitAt1_eq, indexByte_eq, H1.indexByte_skip c a b h]; simp

theorem parseContentRange_render (a b c : Bytes) (ha : isDigits a = true) (hb : isDigits b = true) (hc : isDigits c = true) :
    parseContentRange (strBytes ++ [32] ++ a ++ [45] ++ b ++ [47] ++ c) = some (decVal a, decVal b, decVal c) := by
  have h1 : splitAt1 45 (a ++ 45 :: (b ++ 47 :: c)) = some (a, b ++ 47 :: c) :=
    splitAt1_append 45 a _ fun x hx => (isDigits_ne ha x hx).1
  have h2 : splitAt1 47 (b ++ 47 :: c) = some (b, c) := splitAt1_append 47 b c fun x hx => (isDigits_ne hb x hx).2
  have hform : strBytes ++ [32] ++ a ++ [45] ++ b ++ [47] ++ c
      = 98 :: 121 :: 116 :: 101 :: 115 :: 32 :: (a ++ 45 :: (b ++ 47 :: c)) := by
    simp [strBytes]
  rw [hform]
  unfold parseContentRange
  simp [h1, h2, ha, hb, hc]

theorem contentRange_ok {s e n : Int} (hs : 0 ≤ s) (he : 0 ≤ e) (hn : 0 ≤ n)
    (hs' : s < 9223372036854775808) (he' : e < 9223372036854775808) (hn' : n < 9223372036854775808) :
    ∃ cr, contentRange s e n = .ok cr ∧ parseContentRange cr = some (s.toNat, e.toNat, n.toNat) := by
  obtain ⟨a, ha, hda, hva⟩ := appendUint_ok hs hs'
  obtain ⟨b, hb, hdb, hvb⟩ := appendUint_ok he he'
  obtain ⟨c, hc, hdc, hvc⟩ := appendUint_ok hn hn'
  refine ⟨strBytes ++ [32] ++ a ++ [45] ++ b ++ [47] ++ c, ?_, ?_⟩
  · unfold contentRange; simp [ha, hb, hc, Except.bind]
  · rw [parseContentRange_render a b c hda hdb hdc, hva, hvb, hvc]

theorem slice_length (content : Bytes) (s e : Nat) (hse : s ≤ e) (he : e < content.length) :
    (slice content s e).length = e + 1 - s := by
  unfold slice
  rw [List.length_take, List.length_drop]; omega

theorem readerOutput_range (kind : ReaderKind) (content : Bytes) (s e : Nat) (hse : s ≤ e) (he : e < content.length) :
    readerOutput kind content (some ((s : Int), (e : Int))) = .ok (slice content s e) := by
  have h1 : ¬ ((e : Int) + 1 - (s : Int) ≤ 0) := by omega
  have h2 : ¬ ((s : Int) < 0) := by omega
  have h3 : ¬ ((s : Int) > (content.length : Int)) := by omega
  have h4 : ((e : Int) + 1 - (s : Int)).toNat = e + 1 - s := by omega
  have h5 : ((e : Int) - (s : Int) + 1).toNat = e + 1 - s := by omega
  cases kind <;> simp [readerOutput, h1, h2, h3, h4, h5, slice]

theorem sendBody_exact (o : Bytes) : sendBody false (.ok o) (o.length : Int) = .ok o := by
  unfold sendBody
  have h1 : ¬ ((o.length : Int) < 0) := by omega
  simp [h1, Except.bind]

theorem range_asked {r : Bytes} (hne : r ≠ []) : (true && decide (r.length > 0)) = true := by
  simp [List.length_pos_iff, hne]

/-- the answer `g` as it is sent: as it is, or for HEAD without its body -/
def sent (head : Bool) (g : Resp) : Resp := { g with body := if head then [] else g.body }

theorem serve_whole (kind : ReaderKind) (content : Bytes) (head : Bool) (r : Bytes) (accept : Bool)
    (h : accept = false ∨ r = []) :
    serveDecision kind content head r accept = .ok (sent head ⟨200, content.length, none, accept, content⟩) := by
  have hcond : (accept && decide (r.length > 0)) = false := by
    rcases h with rfl | rfl <;> simp
  unfold serveDecision
  simp only [hcond, Bool.false_eq_true, if_false, readerOutput]
  cases head with
  | true => rfl
  | false => rw [sendBody_exact]; rfl

theorem serve_416 (kind : ReaderKind) (content : Bytes) (head : Bool) {r : Bytes} (hne : r ≠ [])
    (hbad : parseByteRange r (content.length : Int) = .error .bad) :
    serveDecision kind content head r true = .ok (abortResp head 416 msg416) := by
  unfold serveDecision
  simp only [range_asked hne, if_true, hbad]

theorem okUnsat_abort (head : Bool) : okUnsat head (sent head (abortResp false 416 msg416)) = true := by
  cases head <;> decide

/-- The 206 answer written out: whenever `ParseByteRange` returns a pair, it lies inside the file and the
handler answers with exactly that slice, `Content-Length = last - first + 1`, and a `Content-Range` that
reads back as `(first, last, length)`. -/
theorem serve_range_ok (content : Bytes) {r : Bytes} {s e : Nat}
    (hne : r ≠ []) (hn : (content.length : Int) < 9223372036854775808)
    (hp : parseByteRange r (content.length : Int) = .ok ((s : Int), (e : Int))) :
    s ≤ e ∧ e < content.length ∧ ∃ cr, parseContentRange cr = some (s, e, content.length) ∧
      ∀ kind head, serveDecision kind content head r true =
        .ok (sent head ⟨206, ((e + 1 - s : Nat) : Int), some cr, true, slice content s e⟩) := by
  obtain ⟨_, hse', hen'⟩ := parseByteRange_bounds r _ _ _ (by omega) hp
  have hse : s ≤ e := by omega
  have hen : e < content.length := by omega
  obtain ⟨cr, hcr, hback⟩ := contentRange_ok (s := (s : Int)) (e := (e : Int)) (n := (content.length : Int))
    (by omega) (by omega) (by omega) (by omega) (by omega) hn
  refine ⟨hse, hen, cr, by simpa using hback, ?_⟩
  intro kind head
  unfold serveDecision
  have hbig : ¬ (kind = ReaderKind.big ∧ (s : Int) < 0) := by intro h; omega
  have hlen : ((e : Int) - (s : Int) + 1) = ((slice content s e).length : Int) := by
    rw [slice_length content s e hse hen]; omega
  have hcl : ((e : Int) - (s : Int) + 1) = ((e + 1 - s : Nat) : Int) := by omega
  simp only [range_asked hne, if_true, hp, hbig, if_false, hcr, Except.bind, readerOutput_range kind content s e hse hen]
  cases head with
  | true => simp [sendBody, hcl, sent]
  | false => rw [hlen, sendBody_exact, ← hlen, hcl]; rfl

/-- The three answers of the handler: the whole file when ranges are off or no `Range` header came, 416 when
`ParseByteRange` fails, and otherwise the slice it names. Reader kind and method enter only through `sent`. -/
theorem serve_cases (content : Bytes) (r : Bytes) (accept : Bool) (hn : (content.length : Int) < 9223372036854775808) :
    ∃ g : Resp, (∀ kind head, serveDecision kind content head r accept = .ok (sent head g)) ∧
      ((accept = false ∨ r = []) ∧ g = ⟨200, content.length, none, accept, content⟩ ∨
       accept = true ∧ r ≠ [] ∧ parseByteRange r content.length = .error .bad ∧ g = abortResp false 416 msg416 ∨
       ∃ (s e : Nat) (cr : Bytes), accept = true ∧ r ≠ [] ∧ parseByteRange r content.length = .ok ((s : Int), (e : Int)) ∧
         s ≤ e ∧ e < content.length ∧ parseContentRange cr = some (s, e, content.length) ∧
         g = ⟨206, ((e + 1 - s : Nat) : Int), some cr, true, slice content s e⟩) := by
  by_cases h : accept = false ∨ r = []
  · exact ⟨_, fun kind head => serve_whole kind content head r accept h, Or.inl ⟨h, rfl⟩⟩
  · have hacc : accept = true := by cases accept <;> simp at h ⊢
    have hne : r ≠ [] := fun e => h (Or.inr e)
    subst hacc
    rcases parseByteRange_no_panic r (content.length : Int) with ⟨⟨s, e⟩, hp⟩ | hbad
    · obtain ⟨hs0, hse, _⟩ := parseByteRange_bounds r _ _ _ (by omega) hp
      obtain ⟨s, rfl⟩ := Int.eq_ofNat_of_zero_le hs0
      obtain ⟨e, rfl⟩ := Int.eq_ofNat_of_zero_le (Int.le_trans hs0 hse)
      obtain ⟨h1, h2, cr, hcr, hs⟩ := serve_range_ok content hne hn hp
      exact ⟨_, hs, Or.inr (Or.inr ⟨s, e, cr, rfl, hne, hp, h1, h2, hcr, rfl⟩)⟩
    · exact ⟨abortResp false 416 msg416, fun kind head => serve_416 kind content head hne hbad,
        Or.inr (Or.inl ⟨rfl, hne, hbad, rfl⟩)⟩

theorem head_same_headers (kind : ReaderKind) (content : Bytes) (r : Bytes) (accept : Bool)
    (hn : (content.length : Int) < 9223372036854775808) :
    ∃ g, serveDecision kind content false r accept = .ok g ∧
      serveDecision kind content true r accept = .ok { g with body := [] } := by
  obtain ⟨g, h, _⟩ := serve_cases content r accept hn
  exact ⟨_, h kind false, h kind true⟩

theorem reader_kind_irrelevant (k₁ k₂ : ReaderKind) (content : Bytes) (head : Bool) (r : Bytes) (accept : Bool)
    (hn : (content.length : Int) < 9223372036854775808) :
    serveDecision k₁ content head r accept = serveDecision k₂ content head r accept := by
  obtain ⟨g, h, _⟩ := serve_cases content r accept hn
  rw [h, h]

/-- Seven of the Go functions this model mirrors (not `AppendUint`, `Read`, `WriteBodyFixedSize`, the range part of
`handleRequest`) have the statement skeletons it follows, `StrBytes` has the value it uses and `MaxSmallFileSize` (read from
`Gen/Fs.lean` by `FsCache.Obj.isBig` and the driver) is 8192.  A change of `>=` to `>` in a clamp, of `endPos + 1`, of the `lr.N`
arithmetic, of the order of the three `AppendUint` calls, of the zero-suffix test, or of the overflow test breaks this proof. -/
theorem model_matches_gen :
    strBytes = Gen.Str.strBytes ∧
    Gen.Fs.maxSmallFileSize = 8192 ∧
    Gen.Fs.parseByteRange = [
      "b := byteRange",
      "if !bytes.HasPrefix(b, bytestr.StrBytes)", "return 0, 0, ERR",
      "b = b[len(bytestr.StrBytes):]",
      "if len(b) == 0 || b[0] != '='", "return 0, 0, ERR",
      "b = b[1:]",
      "n := bytes.IndexByte(b, '-')",
      "if n < 0", "return 0, 0, ERR",
      "if n == 0",
      "v, err := bytesconv.ParseUint(b[n+1:])",
      "if err != nil", "return 0, 0, err",
      "if v == 0 || contentLength == 0", "return 0, 0, ERR",
      "startPos := contentLength - v",
      "if startPos < 0", "startPos = 0",
      "return startPos, contentLength - 1, nil",
      "if startPos, err = bytesconv.ParseUint(b[:n]); err != nil", "return 0, 0, err",
      "if startPos >= contentLength", "return 0, 0, ERR",
      "b = b[n+1:]",
      "if len(b) == 0", "return startPos, contentLength - 1, nil",
      "if endPos, err = bytesconv.ParseUint(b); err != nil", "return 0, 0, err",
      "if endPos >= contentLength", "endPos = contentLength - 1",
      "if endPos < startPos", "return 0, 0, ERR",
      "return startPos, endPos, nil"] ∧
    Gen.Fs.smallUpdateByteRange = ["r.startPos = startPos", "r.endPos = endPos + 1", "return nil"] ∧
    Gen.Fs.bigUpdateByteRange = [
      "if _, err := r.f.Seek(int64(startPos), 0); err != nil", "return err",
      "r.r = &r.lr", "r.lr.R = r.f", "r.lr.N = int64(endPos - startPos + 1)", "return nil"] ∧
    Gen.Fs.isBig = ["return ff.contentLength > consts.MaxSmallFileSize && len(ff.dirIndex) == 0"] ∧
    Gen.Fs.setContentRange = [
      "b := h.bufKV.value[:0]",
      "b = append(b, bytestr.StrBytes...)", "b = append(b, ' ')",
      "b = bytesconv.AppendUint(b, startPos)", "b = append(b, '-')",
      "b = bytesconv.AppendUint(b, endPos)", "b = append(b, '/')",
      "b = bytesconv.AppendUint(b, contentLength)",
      "h.bufKV.value = b",
      "h.SetCanonical(bytestr.StrContentRange, h.bufKV.value)"] ∧
    Gen.Fs.parseUintBuf = [
      "n := len(b)", "if n == 0", "return -1, 0, errEmptyInt",
      "v := 0", "for i := 0; i < n; i++", "c := b[i]", "k := c - '0'",
      "if k > 9", "if i == 0", "return -1, i, errUnexpectedFirstChar", "return v, i, nil",
      "if v > (maxInt-int(k))/10", "return -1, i, errTooLongInt",
      "v = 10*v + int(k)", "return v, n, nil"] ∧
    Gen.Fs.maxIntExpr = "int(^uint(0) >> 1)" ∧ maxInt = 2 ^ 63 - 1 ∧
    Gen.Fs.parseUint = [
      "v, n, err := ParseUintBuf(buf)", "if n != len(buf)", "return -1, errUnexpectedTrailingChar", "return v, err"] :=
  ⟨rfl, rfl, rfl, rfl, rfl, rfl, rfl, rfl, rfl, by decide, rfl⟩

end Hertz.FS
