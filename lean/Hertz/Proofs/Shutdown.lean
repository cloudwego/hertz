import Hertz.Model.Shutdown
/-!
The step function of the graceful-shutdown interleaving model (property C18) as a relation (`Step`; `ConnStep` for the
steps a connection takes on its own record), and by cases on it: the state invariant `Inv` (with `ConnOk` per
connection), `TimeInv` for prompt schedules, `PendAt` (a request whose handler returned after the status flip, followed
to its response) and `CallersOk` (every caller but the CAS winner gets `errStatusNotRunning`).  Here and in the
`ShutdownSpec…` files a lemma that keeps one invariant takes `Step cfg s a s'`; the bundles (`step_allInv`, `step_hist`, `step_JW`,
`step_JS`) and lemmas about one known action take `step cfg s a = some s'`; `run_lift` carries the former along `run`.
-/
namespace Hertz.Shutdown

/-! ### unfolding the record updates -/

theorem updConn_some {s s' : State} {c : Nat} {f : Conn → Option Conn} (h : updConn s c f = some s') :
    ∃ cn cn', s.conns[c]? = some cn ∧ f cn = some cn' ∧ s' = { s with conns := s.conns.set c cn' } := by
  unfold updConn at h
  split at h
  · simp at h
  · rename_i cn hc
    split at h
    · simp at h
    · rename_i cn' hf
      exact ⟨cn, cn', hc, hf, by simpa using h.symm⟩

theorem updCaller_some {s s' : State} {k : Nat} {f : CallerPh → Option CallerPh} (h : updCaller s k f = some s') :
    ∃ p p', s.callers[k]? = some p ∧ f p = some p' ∧ s' = { s with callers := s.callers.set k p' } := by
  unfold updCaller at h
  split at h
  · simp at h
  · rename_i p hc
    split at h
    · simp at h
    · rename_i p' hf
      exact ⟨p, p', hc, hf, by simpa using h.symm⟩

theorem updHook_some {s s' : State} {j : Nat} {f : HookPh → Option HookPh} (h : updHook s j f = some s') :
    ∃ p p', s.hooks[j]? = some p ∧ f p = some p' ∧ s' = { s with hooks := s.hooks.set j p' } := by
  unfold updHook at h
  split at h
  · simp at h
  · rename_i p hc
    split at h
    · simp at h
    · rename_i p' hf
      exact ⟨p, p', hc, hf, by simpa using h.symm⟩

/-! ### a position of a list after `++ [x]` and after `set` -/

theorem getElem?_lt {α} {l : List α} {i : Nat} {x : α} (h : l[i]? = some x) : i < l.length :=
  (List.getElem?_eq_some_iff.1 h).1

theorem getElem?_snoc {α} {l : List α} {x y : α} {i : Nat} (h : (l ++ [x])[i]? = some y) :
    l[i]? = some y ∨ (i = l.length ∧ y = x) := by
  rcases Nat.lt_or_ge i l.length with hlt | hge
  · exact Or.inl (by rwa [List.getElem?_append_left hlt] at h)
  · rw [List.getElem?_append_right hge] at h
    have hi : i - l.length = 0 := by simpa using getElem?_lt h
    rw [hi] at h
    exact Or.inr ⟨by omega, by simpa using h.symm⟩

theorem set_cases {α} {l : List α} {c c0 : Nat} {y x : α} (h : (l.set c y)[c0]? = some x) :
    (c ≠ c0 ∧ l[c0]? = some x) ∨ (c = c0 ∧ x = y) := by
  by_cases hcc : c = c0
  · subst hcc
    rw [List.getElem?_set] at h
    simp at h
    exact Or.inr ⟨rfl, h.2.symm⟩
  · exact Or.inl ⟨hcc, by simpa [List.getElem?_set_ne hcc] using h⟩

theorem getElem?_set_of_ne {α} {l : List α} {k0 k : Nat} {x y z : α} (h0 : l[k0]? = some x) (h : l[k]? = some z) (hne : x ≠ z) :
    (l.set k0 y)[k]? = some z := by
  have : k0 ≠ k := by
    rintro rfl
    rw [h0] at h; cases h; exact hne rfl
  rw [List.getElem?_set_ne this, h]

theorem set_lift {α} {l : List α} {c c0 : Nat} {x y : α} {P : α → Prop} (hc : l[c]? = some x) (hP : P x → P y)
    (h : ∃ z, l[c0]? = some z ∧ P z) : ∃ z, (l.set c y)[c0]? = some z ∧ P z := by
  obtain ⟨z, hz, hp⟩ := h
  by_cases hcc : c = c0
  · subst hcc; rw [hc] at hz; cases hz
    exact ⟨y, by simp [getElem?_lt hc], hP hp⟩
  · exact ⟨z, by simp [List.getElem?_set_ne hcc, hz], hp⟩

theorem forall_mem_set {α} {P : α → Prop} {l : List α} {c : Nat} {y : α} (h : ∀ x ∈ l, P x) (hy : P y) :
    ∀ x ∈ l.set c y, P x :=
  fun x hm => (List.mem_or_eq_of_mem_set hm).elim (h x) fun e => e ▸ hy

/-! ### the step function as a relation -/

/-- the ten actions `step` runs through `updConn`: the connection, and what is done to its record (`connGone` is not among
them: it also decrements `active`) -/
def connAct (s : State) : Act → Option (Nat × (Conn → Option Conn))
  | .reqArrive c rc => some (c, cReqArrive rc)
  | .handlerRet c b => some (c, cHandlerRet b (decide (stShutdown ≤ s.status)))
  | .exitCheck c => some (c, cExitCheck (isRunning s))
  | .writeResp c => some (c, cWriteResp)
  | .connDrop c => some (c, cConnDrop)
  | .badReq c => some (c, cBadReq)
  | .peerClose c => some (c, cPeerClose)
  | .clientRead c cl => some (c, cClientRead cl)
  | .clientEof c => some (c, cClientEof)
  | .npCloseIdle c => some (c, cNpClose)
  | _ => none

/-- `step` as a relation with the successor state spelled out; `conn` stands for the ten actions of `connAct` (the guard of
`npCloseIdle`, netpoll and a listener already closed, is not kept: no invariant needs it) -/
inductive Step (cfg : Cfg) (s : State) : Act → State → Prop
  | advance (d : Nat) : Step cfg s (.advance d) { s with now := s.now + d }
  | initOk : s.runPh = .fresh → s.status = 0 → Step cfg s .init { s with status := stInitialized, runPh := .inited }
  | initFail : s.runPh = .fresh → s.status ≠ 0 → Step cfg s .init { s with runPh := .exited }
  | markOk : s.runPh = .inited → s.status = stInitialized → Step cfg s .markRunning { s with status := stRunning, runPh := .marked }
  | markFail : s.runPh = .inited → s.status ≠ stInitialized → Step cfg s .markRunning { s with runPh := .exited }
  | listen : s.runPh = .marked → Step cfg s .listen { s with lnSet := true, lnOpen := true, runPh := .serving }
  | accept : s.runPh = .serving → s.lnOpen = true →
      Step cfg s .accept { s with conns := s.conns ++ [{}], active := s.active + 1,
                                  lateAccepts := s.lateAccepts + (if postClose s.win then 1 else 0) }
  | acceptFail : s.runPh = .serving → s.lnOpen = false → Step cfg s .acceptFail { s with runPh := .acceptFailed }
  | runReturn : s.runPh = .acceptFailed → Step cfg s .runReturn { s with status := stClosed, runPh := .exited }
  | conn (a : Act) (c : Nat) (f : Conn → Option Conn) (cn cn' : Conn) : connAct s a = some (c, f) →
      s.conns[c]? = some cn → f cn = some cn' → Step cfg s a { s with conns := s.conns.set c cn' }
  | connGone (c : Nat) (cn cn' : Conn) : s.conns[c]? = some cn → cGone cn = some cn' →
      Step cfg s (.connGone c) { s with conns := s.conns.set c cn', active := s.active - 1 }
  | dialStart : Step cfg s .dialStart { s with dials := s.dials ++ [none] }
  | dialProbe (i : Nat) : s.dials[i]? = some none → Step cfg s (.dialProbe i) { s with dials := s.dials.set i (some s.lnOpen) }
  | dialEnd (i : Nat) (ok : Bool) : s.dials[i]? = some (some ok) → Step cfg s (.dialEnd i ok) s
  | shutCall : Step cfg s .shutCall { s with callers := s.callers ++ [.called] }
  | shutLoad (k : Nat) : s.callers[k]? = some .called →
      Step cfg s (.shutLoad k) { s with callers := s.callers.set k (if s.status = stRunning then .loaded else .returned .notRunning) }
  | casWin (k : Nat) : s.callers[k]? = some .loaded → s.status = stRunning →
      Step cfg s (.shutCas k) { s with status := stShutdown, callers := s.callers.set k .winner, win := .pre, winK := k, tcas := s.now }
  | casLose (k : Nat) : s.callers[k]? = some .loaded → s.status ≠ stRunning →
      Step cfg s (.shutCas k) { s with callers := s.callers.set k (.returned .notRunning) }
  | spawn : s.win = .pre →
      Step cfg s .shutSpawn { s with dl := s.now + cfg.exitWait, hooks := s.hooks.map spawnHook, win := .closeLn }
  | closeLn : s.win = .closeLn →
      Step cfg s .shutCloseLn { s with lnOpen := if s.lnSet then false else s.lnOpen, lnSkipped := !s.lnSet,
                                       nextTick := s.now + cfg.tick, win := .wait1 }
  | tick1 : s.win = .wait1 → s.nextTick ≤ s.now →
      Step cfg s .shutTick1 { s with nextTick := s.nextTick + cfg.tick,
                                     win := if s.active ≤ 0 then .deferred .nil else .loop s.now }
  | tickLoop (t0 : Nat) : s.win = .loop t0 → s.nextTick ≤ s.now →
      Step cfg s .shutTickLoop { s with nextTick := s.nextTick + cfg.tick,
                                        win := if s.active ≤ 0 then .deferred .nil
                                               else if cfg.maxWait < s.now - t0 then .deferred .timeout else .loop t0 }
  | ctxDone (t0 : Nat) : s.win = .loop t0 → s.dl ≤ s.now → Step cfg s .shutCtxDone { s with win := .deferred .nil }
  | finish (e : Err) : s.win = .deferred e → (s.dl ≤ s.now ∨ hooksDone s = true) →
      Step cfg s .shutFinish { s with win := .returned e s.now, callers := s.callers.map (winnerRet e) }
  | callerRet (k : Nat) (e : Err) : s.callers[k]? = some (.returned e) →
      Step cfg s (.callerRet k e) { s with callers := s.callers.set k (.finished e) }
  | hookStart (j : Nat) : s.hooks[j]? = some .spawned → Step cfg s (.hookStart j) { s with hooks := s.hooks.set j .running }
  | hookEnd (j : Nat) : s.hooks[j]? = some .running → Step cfg s (.hookEnd j) { s with hooks := s.hooks.set j .done }

/-- for proofs that range over all actions; where the action is known, its one branch of `step` is read off by `simp [step]` -/
theorem step_Step (cfg : Cfg) {s s' : State} {a : Act} (h : step cfg s a = some s') : Step cfg s a s' := by
  cases a <;> simp only [step] at h
  case advance d => simp at h; subst h; exact .advance d
  case init =>
    split at h <;> try (simp at h; done)
    split at h <;> (simp at h; subst h)
    · exact .initOk ‹_› ‹_›
    · exact .initFail ‹_› ‹_›
  case markRunning =>
    split at h <;> try (simp at h; done)
    split at h <;> (simp at h; subst h)
    · exact .markOk ‹_› ‹_›
    · exact .markFail ‹_› ‹_›
  case listen => split at h <;> simp at h; subst h; exact .listen ‹_›
  case accept => split at h <;> simp at h; subst h; rename_i hr; exact .accept hr.1 hr.2
  case acceptFail => split at h <;> simp at h; subst h; rename_i hr; exact .acceptFail hr.1 hr.2
  case runReturn => split at h <;> simp at h; subst h; exact .runReturn ‹_›
  case npCloseIdle c =>
    split at h <;> try (simp at h; done)
    obtain ⟨cn, cn', hc, hf, rfl⟩ := updConn_some h
    exact .conn _ c _ cn cn' rfl hc hf
  case connGone c =>
    simp only [Option.map_eq_some_iff] at h
    obtain ⟨s1, h1, rfl⟩ := h
    obtain ⟨cn, cn', hc, hf, rfl⟩ := updConn_some h1
    exact .connGone c cn cn' hc hf
  case dialStart => simp at h; subst h; exact .dialStart
  case dialProbe i => split at h <;> simp at h; subst h; exact .dialProbe i ‹_›
  case dialEnd i ok =>
    split at h <;> try (simp at h; done)
    split at h <;> simp at h
    subst h; rename_i r hd hr; subst hr; exact .dialEnd i r hd
  case shutCall => simp at h; subst h; exact .shutCall
  case shutLoad k =>
    obtain ⟨p, p', hk, hf, rfl⟩ := updCaller_some h
    split at hf <;> simp at hf
    subst hf
    exact .shutLoad k hk
  case shutCas k =>
    split at h <;> try (simp at h; done)
    split at h <;> (simp at h; subst h)
    · exact .casWin k ‹_› ‹_›
    · exact .casLose k ‹_› ‹_›
  case shutSpawn => split at h <;> simp at h; subst h; exact .spawn ‹_›
  case shutCloseLn =>
    split at h
    · injection h with h; subst h; exact .closeLn ‹_›
    · simp at h
  case shutTick1 =>
    split at h <;> try (simp at h; done)
    split at h <;> simp at h
    subst h; exact .tick1 ‹_› ‹_›
  case shutTickLoop =>
    split at h <;> try (simp at h; done)
    split at h <;> simp at h
    subst h; exact .tickLoop _ ‹_› ‹_›
  case shutCtxDone =>
    split at h <;> try (simp at h; done)
    split at h <;> simp at h
    subst h; exact .ctxDone _ ‹_› ‹_›
  case shutFinish =>
    split at h <;> try (simp at h; done)
    split at h <;> simp at h
    subst h; exact .finish _ ‹_› ‹_›
  case callerRet k e =>
    obtain ⟨p, p', hk, hf, rfl⟩ := updCaller_some h
    split at hf <;> try (simp at hf; done)
    split at hf <;> simp at hf
    subst hf; rename_i e' he; subst he
    exact .callerRet k e' hk
  case hookStart j =>
    obtain ⟨p, p', hk, hf, rfl⟩ := updHook_some h
    split at hf <;> simp at hf
    subst hf; exact .hookStart j hk
  case hookEnd j =>
    obtain ⟨p, p', hk, hf, rfl⟩ := updHook_some h
    split at hf <;> simp at hf
    subst hf; exact .hookEnd j hk
  -- what is left are the steps of a connection on its own record
  all_goals
    obtain ⟨cn, cn', hc, hf, rfl⟩ := updConn_some h
    exact .conn _ _ _ cn cn' rfl hc hf

/-- a connection-local step with the new record spelled out -/
inductive ConnStep (s : State) : Act → Nat → Conn → Conn → Prop
  | reqArrive (c : Nat) (rc : Bool) (cn : Conn) : cn.ph = .idle →
      ConnStep s (.reqArrive c rc) c cn { cn with ph := .handling rc, started := cn.started + 1 }
  | handlerRet (c : Nat) (b : Bool) (cn : Conn) (rc : Bool) : cn.ph = .handling rc →
      ConnStep s (.handlerRet c b) c cn { cn with ph := .returned (rc || b) (decide (stShutdown ≤ s.status)) }
  | exitCheck (c : Nat) (cn : Conn) (cl g : Bool) : cn.ph = .returned cl g →
      ConnStep s (.exitCheck c) c cn { cn with ph := .checked (cl || !isRunning s) g }
  | writeResp (c : Nat) (cn : Conn) (cl g : Bool) : cn.ph = .checked cl g →
      ConnStep s (.writeResp c) c cn { cn with ph := if cl then .closing else .idle, resps := cn.resps ++ [⟨cl, g⟩] }
  | connDrop (c : Nat) (cn : Conn) : cn.ph = .idle → cn.peerClosed = true → ConnStep s (.connDrop c) c cn { cn with ph := .closing }
  | badReq (c : Nat) (cn : Conn) : cn.ph = .idle → ConnStep s (.badReq c) c cn { cn with ph := .closing }
  | peerClose (c : Nat) (cn : Conn) : ConnStep s (.peerClose c) c cn { cn with peerClosed := true }
  | clientRead (c : Nat) (cl : Bool) (cn : Conn) (r : Resp) : cn.resps[cn.acked]? = some r → r.close = cl →
      ConnStep s (.clientRead c cl) c cn { cn with acked := cn.acked + 1 }
  | clientEof (c : Nat) (cn : Conn) : (cn.ph = .closing ∨ cn.ph = .gone) → cn.acked = cn.resps.length →
      ConnStep s (.clientEof c) c cn cn
  | npClose (c : Nat) (cn : Conn) : cn.ph = .idle → cn.started = 0 → ConnStep s (.npCloseIdle c) c cn { cn with ph := .closing }

theorem connStep_of {s : State} {a : Act} {c : Nat} {f : Conn → Option Conn} {cn cn' : Conn}
    (ha : connAct s a = some (c, f)) (hf : f cn = some cn') : ConnStep s a c cn cn' := by
  cases a <;> simp [connAct] at ha <;> obtain ⟨rfl, rfl⟩ := ha
  case reqArrive c rc =>
    unfold cReqArrive at hf; split at hf <;> simp at hf
    subst hf; exact .reqArrive _ _ _ ‹_›
  case handlerRet c b =>
    unfold cHandlerRet at hf; split at hf <;> simp at hf
    subst hf; exact .handlerRet _ _ _ _ ‹_›
  case exitCheck c =>
    unfold cExitCheck at hf; split at hf <;> simp at hf
    subst hf; exact .exitCheck _ _ _ _ ‹_›
  case writeResp c =>
    unfold cWriteResp at hf; split at hf <;> simp at hf
    subst hf; exact .writeResp _ _ _ _ ‹_›
  case connDrop c =>
    unfold cConnDrop at hf; split at hf <;> simp at hf
    obtain ⟨hp, rfl⟩ := hf; exact .connDrop _ _ ‹_› hp
  case badReq c =>
    unfold cBadReq at hf; split at hf <;> simp at hf
    subst hf; exact .badReq _ _ ‹_›
  case peerClose c =>
    unfold cPeerClose at hf; simp at hf
    subst hf; exact .peerClose _ _
  case clientRead c cl =>
    unfold cClientRead at hf; split at hf <;> simp at hf
    obtain ⟨hp, rfl⟩ := hf; exact .clientRead _ _ _ _ ‹_› hp
  case clientEof c =>
    unfold cClientEof at hf; split at hf <;> simp at hf
    · obtain ⟨hp, rfl⟩ := hf; exact .clientEof _ _ (Or.inl ‹_›) hp
    · obtain ⟨hp, rfl⟩ := hf; exact .clientEof _ _ (Or.inr ‹_›) hp
  case npCloseIdle c =>
    unfold cNpClose at hf; split at hf <;> simp at hf
    obtain ⟨hp, rfl⟩ := hf; exact .npClose _ _ ‹_› hp

/-- a step whose action belongs to a connection goroutine or its peer is that `ConnStep` on the connection's record -/
theorem Step.connStep {cfg : Cfg} {s s' : State} {a : Act} {c : Nat} {f : Conn → Option Conn} (h : Step cfg s a s')
    (ha : connAct s a = some (c, f)) : ∃ cn cn', s.conns[c]? = some cn ∧ ConnStep s a c cn cn' ∧ s'.conns[c]? = some cn' := by
  cases h
  case conn c0 f0 cn cn' hc hf hca =>
    rw [ha] at hca; cases hca
    exact ⟨cn, cn', hc, connStep_of ha hf, List.getElem?_set_self (getElem?_lt hc)⟩
  all_goals cases ha

/-! ### per-connection invariant -/

/-- phase-specific part: the ghost flag of a returned handler is backed by the status, and an exit
check made after the flip has set `connectionClose` -/
def phOk (status : Nat) : ConnPh → Prop
  | .returned _ g => g = true → stShutdown ≤ status
  | .checked cl g => g = true → cl = true
  | _ => True

structure ConnOk (status : Nat) (cn : Conn) : Prop where
  /-- every started request is either answered completely or still in flight -/
  count : cn.started = cn.resps.length + inflight cn.ph
  /-- a response whose handler returned after the status flip carries `Connection: close` -/
  resps : ∀ r ∈ cn.resps, r.flipped = true → r.close = true
  ph : phOk status cn.ph

theorem phOk_mono {st st' : Nat} (h : st ≤ st') {p : ConnPh} (hp : phOk st p) : phOk st' p := by
  cases p <;> simp_all [phOk]
  intro g; exact Nat.le_trans (hp g) h

theorem ConnOk.mono {st st' : Nat} (h : st ≤ st') {cn : Conn} (hc : ConnOk st cn) : ConnOk st' cn :=
  ⟨hc.count, hc.resps, phOk_mono h hc.ph⟩

theorem connOk_new (st : Nat) : ConnOk st {} := ⟨by simp [inflight], by simp, by simp [phOk]⟩

theorem cGone_some {cn cn' : Conn} (h : cGone cn = some cn') : cn.ph = .closing ∧ cn' = { cn with ph := .gone } := by
  unfold cGone at h
  split at h <;> simp at h
  exact ⟨‹_›, h.symm⟩

theorem connOk_step {s : State} {a : Act} {c : Nat} {cn cn' : Conn} (h : ConnStep s a c cn cn') (hc : ConnOk s.status cn) :
    ConnOk s.status cn' := by
  have hn := hc.count
  have hph := hc.ph
  cases h
  case reqArrive hp => exact ⟨by simp [hp, inflight] at hn ⊢; omega, hc.resps, trivial⟩
  case handlerRet hp => exact ⟨by simpa [hp, inflight] using hn, hc.resps, of_decide_eq_true⟩
  case exitCheck cl g hp =>
    refine ⟨by simpa [hp, inflight] using hn, hc.resps, fun hg => ?_⟩
    -- the ghost says that the status had left `running`, so `IsRunning` fails
    have := (hp ▸ hph) hg
    have : isRunning s = false := by simp [isRunning, stRunning, stShutdown] at this ⊢; omega
    simp [this]
  case writeResp cl g hp =>
    refine ⟨by cases cl <;> simp [hp, inflight] at hn ⊢ <;> omega, fun r hr => ?_, by cases cl <;> trivial⟩
    rcases List.mem_append.1 hr with hr | hr
    · exact hc.resps r hr
    · cases List.mem_singleton.1 hr
      have hg : phOk s.status (.checked cl g) := hp ▸ hph
      exact hg
  case connDrop hp _ => exact ⟨by simpa [hp, inflight] using hn, hc.resps, trivial⟩
  case badReq hp => exact ⟨by simpa [hp, inflight] using hn, hc.resps, trivial⟩
  case npClose hp _ => exact ⟨by simpa [hp, inflight] using hn, hc.resps, trivial⟩
  all_goals exact ⟨hn, hc.resps, hph⟩

/-! ### global invariant -/

theorem hooksDone_get {s : State} (h : hooksDone s = true) {j : Nat} {p : HookPh} (hj : s.hooks[j]? = some p) : p = .done := by
  unfold hooksDone at h
  rw [List.all_eq_true] at h
  have := h p (List.mem_of_getElem? hj)
  simpa using this

structure Inv (s : State) : Prop where
  /-- the status word never goes beyond `stClosed` -/
  st4 : s.status ≤ 4
  conns : ∀ cn ∈ s.conns, ConnOk s.status cn
  /-- once a caller has won the CAS the status is past `running` -/
  winSt : s.win ≠ .none → stShutdown ≤ s.status
  /-- the listener exists only once `serve` has listened -/
  lnRun : s.lnSet = true → (s.runPh = .serving ∨ s.runPh = .acceptFailed ∨ s.runPh = .exited)
  lnOpenSet : s.lnOpen = true → s.lnSet = true
  /-- if `transport.Shutdown` found a listener, it is closed from then on -/
  closed : postClose s.win = true → s.lnSkipped = false → s.lnOpen = false ∧ s.lnSet = true
  /-- nothing is accepted late before `transport.Shutdown` has passed its listener-closing step … -/
  late0 : postClose s.win = false → s.lateAccepts = 0
  /-- … nor after it, unless that step found no listener to close (the known finding) -/
  late1 : s.lnSkipped = false → s.lateAccepts = 0
  /-- past the `go executeOnShutdownHooks` step every hook has been spawned -/
  spawned : s.win ≠ .none → s.win ≠ .pre → ∀ h ∈ s.hooks, h ≠ .unspawned
  /-- a return before the deadline has waited for all hooks -/
  retHooks : ∀ e t, s.win = .returned e t → t < s.dl → hooksDone s = true

/-- only a caller that finds the status `running` can win the CAS, so nobody has won it yet -/
theorem Inv.win_none {s : State} (inv : Inv s) (hs : s.status = stRunning) : s.win = .none :=
  Classical.byContradiction fun hw => by
    have := inv.winSt hw; simp [hs, stRunning, stShutdown] at this

/-- a hook goroutine that moves on (`spawned → running → done`) -/
theorem Inv.setHook {s : State} (inv : Inv s) {j : Nat} {p q : HookPh} (hj : s.hooks[j]? = some p) (hp : p ≠ .done)
    (hq : q ≠ .unspawned) : Inv { s with hooks := s.hooks.set j q } :=
  { inv with
    spawned := fun h1 h2 => forall_mem_set (inv.spawned h1 h2) hq
    retHooks := fun e t he hlt => absurd (hooksDone_get (inv.retHooks e t he hlt) hj) hp }

theorem inv_init (n : Nat) : Inv (init n) := by
  refine ⟨by simp [init], by simp [init], by simp [init], by simp [init], by simp [init], by simp [init, postClose],
    by simp [init], by simp [init], by simp [init], by simp [init]⟩

theorem spawnHook_ne (p : HookPh) : spawnHook p ≠ .unspawned := by
  cases p <;> simp [spawnHook]

theorem step_inv (cfg : Cfg) {s s' : State} {a : Act} (inv : Inv s) (h : Step cfg s a s') : Inv s' := by
  have h4 := inv.st4
  have hpc : ∀ {w : WinPh}, s.win = w → postClose w = true → s.lnSkipped = false → s.lnOpen = false ∧ s.lnSet = true :=
    fun hw hp => inv.closed (hw ▸ hp)
  have hwn : ∀ {w : WinPh}, s.win = w → w ≠ .none → stShutdown ≤ s.status := fun hw hn => inv.winSt (hw ▸ hn)
  have hsp : ∀ {w : WinPh}, s.win = w → w ≠ .none → w ≠ .pre → ∀ h ∈ s.hooks, h ≠ .unspawned :=
    fun hw h1 h2 => inv.spawned (hw ▸ h1) (hw ▸ h2)
  cases h
  case initOk hr h0 =>
    exact { inv with
      st4 := by simp [stInitialized]
      conns := fun cn hm => (inv.conns cn hm).mono (by simp [h0])
      winSt := fun hw => by have := inv.winSt hw; simp [h0, stShutdown] at this
      lnRun := fun hl => by have := inv.lnRun hl; simp [hr] at this }
  case initFail => exact { inv with lnRun := fun _ => by simp }
  case markOk hr h0 =>
    exact { inv with
      st4 := by simp [stRunning]
      conns := fun cn hm => (inv.conns cn hm).mono (by simp [h0, stInitialized, stRunning])
      winSt := fun hw => by have := inv.winSt hw; simp [h0, stShutdown, stInitialized] at this
      lnRun := fun hl => by have := inv.lnRun hl; simp [hr] at this }
  case markFail => exact { inv with lnRun := fun _ => by simp }
  case listen hr =>
    exact { inv with
      lnRun := fun _ => by simp
      lnOpenSet := fun _ => rfl
      closed := fun hp hs => by have := inv.lnRun (inv.closed hp hs).2; simp [hr] at this }
  case accept hr ho =>
    refine { inv with conns := ?_, late0 := ?_, late1 := ?_ }
    · intro cn hm
      rcases List.mem_append.1 hm with hm | hm
      · exact inv.conns cn hm
      · cases List.mem_singleton.1 hm; exact connOk_new _
    · intro hp; simp [hp]; exact inv.late0 hp
    · intro hs
      simp only
      cases hp : postClose s.win
      · simp; exact inv.late1 hs
      · have := (inv.closed hp hs).1; simp [ho] at this
  case acceptFail => exact { inv with lnRun := fun _ => by simp }
  case runReturn =>
    exact { inv with
      st4 := by simp [stClosed]
      conns := fun cn hm => (inv.conns cn hm).mono (by simpa [stClosed] using h4)
      winSt := fun _ => by simp [stClosed, stShutdown]
      lnRun := fun _ => by simp }
  case conn c f cn cn' hc hf hca =>
    exact { inv with
      conns := forall_mem_set inv.conns (connOk_step (connStep_of hca hf) (inv.conns cn (List.mem_of_getElem? hc))) }
  case connGone c cn cn' hc hf =>
    have hcn := inv.conns cn (List.mem_of_getElem? hc)
    obtain ⟨hp, rfl⟩ := cGone_some hf
    exact { inv with conns := forall_mem_set inv.conns ⟨by simpa [hp, inflight] using hcn.count, hcn.resps, trivial⟩ }
  case casWin hs =>
    exact { inv with
      st4 := by simp [stShutdown]
      conns := fun cn hm => (inv.conns cn hm).mono (by simp [hs, stRunning, stShutdown])
      winSt := fun _ => Nat.le_refl _
      closed := nofun
      late0 := fun _ => inv.late0 (by rw [inv.win_none hs]; rfl)
      spawned := nofun
      retHooks := nofun }
  case spawn hw =>
    refine { inv with
      winSt := fun _ => hwn hw nofun
      closed := nofun
      late0 := fun _ => inv.late0 (by rw [hw]; rfl)
      spawned := fun _ _ p hp => ?_
      retHooks := nofun }
    obtain ⟨q, _, rfl⟩ := List.mem_map.1 hp
    exact spawnHook_ne q
  case closeLn hw =>
    have l0 := inv.late0 (by rw [hw]; rfl)
    refine { inv with
      winSt := fun _ => hwn hw nofun
      lnOpenSet := ?_
      closed := ?_
      late0 := nofun
      late1 := fun _ => l0
      spawned := fun _ _ => hsp hw nofun nofun
      retHooks := nofun }
    · cases hl : s.lnSet <;> simp
      cases ho : s.lnOpen
      · rfl
      · have := inv.lnOpenSet ho; simp [hl] at this
    · intro _ hs
      simp at hs
      simp [hs]
  case tick1 hw _ =>
    refine { inv with
      winSt := fun _ => hwn hw nofun
      closed := fun _ => hpc hw rfl
      late0 := ?_
      spawned := fun _ _ => hsp hw nofun nofun
      retHooks := ?_ }
    · split <;> nofun
    · intro e t; split <;> nofun
  case tickLoop t0 hw _ =>
    refine { inv with
      winSt := fun _ => hwn hw nofun
      closed := fun _ => hpc hw rfl
      late0 := ?_
      spawned := fun _ _ => hsp hw nofun nofun
      retHooks := ?_ }
    · repeat' split
      all_goals nofun
    · intro e t; repeat' split
      all_goals nofun
  case ctxDone t0 hw _ =>
    exact { inv with
      winSt := fun _ => hwn hw nofun
      closed := fun _ => hpc hw rfl
      late0 := nofun
      spawned := fun _ _ => hsp hw nofun nofun
      retHooks := nofun }
  case finish e hw hc =>
    refine { inv with
      winSt := fun _ => hwn hw nofun
      closed := fun _ => hpc hw rfl
      late0 := nofun
      spawned := fun _ _ => hsp hw nofun nofun
      retHooks := fun e' t' he hlt => ?_ }
    cases he
    rcases hc with hc | hc
    · exact absurd hlt (Nat.not_lt.2 hc)
    · exact hc
  case hookStart j hj => exact inv.setHook hj nofun nofun
  case hookEnd j hj => exact inv.setHook hj nofun nofun
  all_goals exact { inv with }

theorem step_status_le (cfg : Cfg) {s s' : State} {a : Act} (h4 : s.status ≤ 4) (h : Step cfg s a s') :
    s.status ≤ s'.status := by
  cases h
  case initOk _ h0 => simp [h0]
  case markOk _ h0 => simp [h0, stInitialized, stRunning]
  case runReturn => exact h4
  case casWin hs => simp [hs, stRunning, stShutdown]
  all_goals exact Nat.le_refl _

theorem run_lift (cfg : Cfg) {P : State → Prop} (hstep : ∀ {s a s'}, P s → Step cfg s a s' → P s') :
    ∀ (acts : List Act) {s s' : State}, P s → run cfg s acts = some s' → P s'
  | [], s, s', hp, h => by simp [run] at h; subst h; exact hp
  | a :: t, s, s', hp, h => by
    simp only [run] at h
    split at h
    · simp at h
    · rename_i s1 h1
      exact run_lift cfg hstep t (hstep hp (step_Step cfg h1)) h

theorem run_inv (cfg : Cfg) (acts : List Act) {s s' : State} (inv : Inv s) (h : run cfg s acts = some s') : Inv s' :=
  run_lift cfg (step_inv cfg) acts inv h

theorem run_status_le (cfg : Cfg) (acts : List Act) {s s' : State} (inv : Inv s) (h : run cfg s acts = some s') :
    s.status ≤ s'.status :=
  (run_lift cfg (P := fun x => Inv x ∧ s.status ≤ x.status)
    (fun hp h => ⟨step_inv cfg hp.1 h, Nat.le_trans hp.2 (step_status_le cfg hp.1.st4 h)⟩) acts ⟨inv, Nat.le_refl _⟩ h).2

theorem reachable_inv {cfg : Cfg} {n : Nat} {s : State} (h : Reachable cfg n s) : Inv s := by
  obtain ⟨acts, h⟩ := h
  exact run_inv cfg acts (inv_init n) h

/-! ### the time bound, for prompt schedules of the shutdown goroutine -/

/-- where the clock stands against the time of the CAS, by the winner's phase.  `+ cfg.tick`: the first tick is waited for
unconditionally, so with `exitWait < tick` the loop is entered past the deadline -/
def TimeInv (cfg : Cfg) (s : State) : Prop :=
  match s.win with
  | .none => True
  | .pre => s.now = s.tcas
  | .closeLn => s.now = s.tcas ∧ s.dl = s.tcas + cfg.exitWait
  | .wait1 => s.dl = s.tcas + cfg.exitWait ∧ s.nextTick = s.tcas + cfg.tick ∧ s.now ≤ s.nextTick
  | .loop _ => s.dl = s.tcas + cfg.exitWait ∧ s.now ≤ s.tcas + cfg.exitWait + cfg.tick
  | .deferred _ => s.dl = s.tcas + cfg.exitWait ∧ s.now ≤ s.tcas + cfg.exitWait + cfg.tick
  | .returned _ t => t ≤ s.tcas + cfg.exitWait + cfg.tick

theorem step_timeInv (cfg : Cfg) {s s' : State} {a : Act} (ti : TimeInv cfg s) (ok : actOk s a = true)
    (h : Step cfg s a s') : TimeInv cfg s' := by
  cases h
  case advance d =>
    simp only [actOk, canAdvance] at ok
    unfold TimeInv at ti ⊢
    cases hw : s.win <;> simp only [hw] at ti ok ⊢
    case returned => exact ti
    all_goals
      simp at ok
      omega
  case casWin => exact rfl
  case spawn hw | closeLn hw | ctxDone hw _ | finish hw _ =>
    simp [TimeInv, hw] at ti ⊢
    omega
  case tick1 hw _ =>
    simp [TimeInv, hw] at ti
    by_cases ha : s.active ≤ 0 <;> simp [TimeInv, ha] <;> omega
  case tickLoop t0 hw _ =>
    simp [TimeInv, hw] at ti
    by_cases ha : s.active ≤ 0
    · simp [TimeInv, ha]; omega
    · by_cases hm : cfg.maxWait < s.now - t0 <;> simp [TimeInv, ha, hm] <;> omega
  all_goals exact ti

theorem runPrompt_inv (cfg : Cfg) : ∀ (acts : List Act) {s s' : State}, Inv s → TimeInv cfg s →
    runPrompt cfg s acts = some s' → Inv s' ∧ TimeInv cfg s'
  | [], s, s', inv, ti, h => by simp [runPrompt] at h; subst h; exact ⟨inv, ti⟩
  | a :: t, s, s', inv, ti, h => by
    simp only [runPrompt] at h
    split at h <;> try (simp at h; done)
    rename_i hok
    split at h
    · simp at h
    · rename_i s1 h1
      exact runPrompt_inv cfg t (step_inv cfg inv (step_Step cfg h1)) (step_timeInv cfg ti hok (step_Step cfg h1)) h

/-! ### following one request from its handler return to its response -/

def pendPh : ConnPh → Prop
  | .returned _ g => g = true
  | .checked _ g => g = true
  | _ => False

/-- the request that will produce response number `m` of this connection returned from its handler
after the flip and is still on its way, or response `m` exists and is marked accordingly -/
def Pend (m : Nat) (cn : Conn) : Prop :=
  (cn.resps.length = m ∧ pendPh cn.ph) ∨ (∃ r, cn.resps[m]? = some r ∧ r.flipped = true)

def PendAt (c m : Nat) (s : State) : Prop := ∃ cn, s.conns[c]? = some cn ∧ Pend m cn

theorem pend_of_notPend {m : Nat} {cn cn' : Conn} (hr : cn'.resps = cn.resps) (hn : ¬ pendPh cn.ph) (h : Pend m cn) : Pend m cn' := by
  unfold Pend at *
  rcases h with ⟨_, h⟩ | h
  · exact absurd h hn
  · right; rw [hr]; exact h

theorem pend_step {m : Nat} {s : State} {a : Act} {c : Nat} {cn cn' : Conn} (h : ConnStep s a c cn cn') (hp : Pend m cn) :
    Pend m cn' := by
  cases h
  case reqArrive hph => exact pend_of_notPend (cn := cn) rfl (by simp [hph, pendPh]) hp
  case handlerRet hph => exact pend_of_notPend (cn := cn) rfl (by simp [hph, pendPh]) hp
  case exitCheck cl g hph =>
    rcases hp with ⟨hl, h⟩ | h
    · exact Or.inl ⟨hl, by simpa [hph, pendPh] using h⟩
    · exact Or.inr h
  case writeResp cl g hph =>
    right
    rcases hp with ⟨hl, h⟩ | ⟨r, hr, hfl⟩
    · simp [hph, pendPh] at h
      exact ⟨⟨cl, g⟩, by simp [← hl], h⟩
    · exact ⟨r, by simp [List.getElem?_append_left (getElem?_lt hr), hr], hfl⟩
  case connDrop hph _ => exact pend_of_notPend (cn := cn) rfl (by simp [hph, pendPh]) hp
  case badReq hph => exact pend_of_notPend (cn := cn) rfl (by simp [hph, pendPh]) hp
  case npClose hph _ => exact pend_of_notPend (cn := cn) rfl (by simp [hph, pendPh]) hp
  all_goals exact hp

theorem step_pendAt (cfg : Cfg) {c m : Nat} {s s' : State} {a : Act} (hp : PendAt c m s) (h : Step cfg s a s') :
    PendAt c m s' := by
  cases h
  case conn c' f cn cn' hc hf hca => exact set_lift hc (pend_step (connStep_of hca hf)) hp
  case connGone c' cn cn' hc hf =>
    obtain ⟨hph, rfl⟩ := cGone_some hf
    exact set_lift hc (pend_of_notPend (cn := cn) rfl (by simp [hph, pendPh])) hp
  case accept =>
    obtain ⟨cn, hcn, hpend⟩ := hp
    exact ⟨cn, by simp [List.getElem?_append_left (getElem?_lt hcn), hcn], hpend⟩
  all_goals exact hp

theorem run_pendAt (cfg : Cfg) {c m : Nat} (acts : List Act) {s s' : State} (hp : PendAt c m s) (h : run cfg s acts = some s') :
    PendAt c m s' :=
  run_lift cfg (step_pendAt cfg) acts hp h

/-- the response a pending request ends in carries `Connection: close` -/
theorem pend_close {s : State} {c m : Nat} {cn : Conn} {r : Resp} (inv : Inv s) (hp : PendAt c m s) (hc : s.conns[c]? = some cn)
    (hr : cn.resps[m]? = some r) : r.close = true := by
  obtain ⟨cn', hc', hpend⟩ := hp
  rw [hc] at hc'; cases hc'
  rcases hpend with ⟨hl, _⟩ | ⟨r', hr', hfl⟩
  · rw [← hl] at hr; simp at hr
  · rw [hr] at hr'; cases hr'
    exact (inv.conns cn (List.mem_of_getElem? hc)).resps r (List.mem_of_getElem? hr) hfl

theorem handlerRet_pendAt (cfg : Cfg) {s s' : State} {c : Nat} {b : Bool} {cn : Conn} (hflip : stShutdown ≤ s.status)
    (hs : step cfg s (.handlerRet c b) = some s') (hc : s.conns[c]? = some cn) : PendAt c cn.resps.length s' := by
  obtain ⟨_, _, hc0, hcs, hc'⟩ := (step_Step cfg hs).connStep rfl
  cases hc.symm.trans hc0
  cases hcs
  exact ⟨_, hc', Or.inl ⟨rfl, by simpa [pendPh] using hflip⟩⟩

/-! ### every caller but the CAS winner reports `errStatusNotRunning` -/

def isNotRunningRet (p : CallerPh) : Prop := p = .returned .notRunning ∨ p = .finished .notRunning

/-- a caller that has not returned yet, or has returned `errStatusNotRunning` -/
def pendOrErr (p : CallerPh) : Prop := p = .called ∨ p = .loaded ∨ isNotRunningRet p

/-- every caller other than the one that won the CAS (`winK`, once `win ≠ none`) -/
def CallersOk (s : State) : Prop :=
  ∀ k p, s.callers[k]? = some p → (s.win = .none ∨ k ≠ s.winK) → pendOrErr p

theorem callersOk_init (n : Nat) : CallersOk (init n) := by
  intro k p hk; simp [init] at hk

theorem CallersOk.frame {s s' : State} (co : CallersOk s) (hc : s'.callers = s.callers) (hk : s'.winK = s.winK)
    (hw : s'.win = .none → s.win = .none) : CallersOk s' :=
  fun k p hkp h => co k p (hc ▸ hkp) (h.imp hw (hk ▸ ·))

theorem callersOk_set {s : State} {k' : Nat} {q : CallerPh} (co : CallersOk s)
    (hq : (s.win = .none ∨ k' ≠ s.winK) → pendOrErr q) : CallersOk { s with callers := s.callers.set k' q } := by
  intro k p hkp h
  by_cases hkk : k' = k
  · subst hkk
    simp [List.getElem?_set] at hkp
    obtain ⟨_, rfl⟩ := hkp
    exact hq h
  · simp [List.getElem?_set_ne hkk] at hkp
    exact co k p hkp h

theorem step_callersOk (cfg : Cfg) {s s' : State} {a : Act} (inv : Inv s) (co : CallersOk s) (h : Step cfg s a s') :
    CallersOk s' := by
  cases h
  case shutCall =>
    intro k p hkp hw
    rcases getElem?_snoc hkp with hkp | ⟨_, rfl⟩
    · exact co k p hkp hw
    · exact Or.inl rfl
  case shutLoad => exact callersOk_set co (fun _ => by split <;> simp [pendOrErr, isNotRunningRet])
  case callerRet k' e hk0 =>
    refine callersOk_set co (fun hw => ?_)
    have := co k' _ hk0 hw
    cases e <;> simp_all [pendOrErr, isNotRunningRet]
  case casWin k' _ hs =>
    intro k p hkp hw
    simp at hw
    simp [List.getElem?_set_ne (Ne.symm hw)] at hkp
    exact co k p hkp (Or.inl (inv.win_none hs))
  case casLose => exact callersOk_set co (fun _ => by simp [pendOrErr, isNotRunningRet])
  case spawn | closeLn | ctxDone => exact co.frame rfl rfl nofun
  case tick1 => exact co.frame rfl rfl (fun h => by split at h <;> cases h)
  case tickLoop => exact co.frame rfl rfl (fun h => by (repeat' split at h) <;> cases h)
  case finish e _ _ =>
    intro k p hkp hcond
    simp at hcond
    simp at hkp
    obtain ⟨q, hq, rfl⟩ := hkp
    have hq' := co k q hq (Or.inr hcond)
    cases q <;> simp_all [pendOrErr, isNotRunningRet, winnerRet]
  all_goals exact co.frame rfl rfl id

theorem run_callersOk (cfg : Cfg) (acts : List Act) {s s' : State} (inv : Inv s) (co : CallersOk s) (h : run cfg s acts = some s') :
    CallersOk s' :=
  (run_lift cfg (P := fun x => Inv x ∧ CallersOk x) (fun hp h => ⟨step_inv cfg hp.1 h, step_callersOk cfg hp.1 hp.2 h⟩)
    acts ⟨inv, co⟩ h).2

end Hertz.Shutdown
