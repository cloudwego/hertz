import Hertz.Proofs.RespMessage
import Hertz.Model.Http1.RespSeq
import Hertz.Spec.RespSeq
/-!
Lemmas for the sequencing theorems of `Props/C04.lean`: the wire of a list of exchanges
(`H1.RespSeq.wire`) read by the client (`Spec.Resp.decodeSeq`).
-/
namespace Hertz.H1.RespSeq
open Hertz Hertz.Gen.Str Hertz.HW Hertz.H1.Resp Hertz.Spec.Resp

theorem stops_false {e : Exch} (h : stops e = false) : failed e = false ∧ closes e = false ∧ e.hijack = false := by
  simpa [stops, Bool.or_eq_false_iff, and_assoc] using h

theorem stops_true {e : Exch} (h : stops e = true) :
    failed e = true ∨ failed e = false ∧ (closes e || e.hijack) = true := by
  cases h1 : failed e
  · exact .inr ⟨rfl, by simpa [stops, h1, Bool.or_assoc] using h⟩
  · exact .inl rfl

theorem wire_cons_go (cap : Nat) (e : Exch) (es : List Exch) (h : stops e = false) :
    wire cap (e :: es) = msg e ++ wire cap es := by
  obtain ⟨h1, h2, h3⟩ := stops_false h
  simp [wire, h1, h2, h3]

theorem wire_cons_stop (cap : Nat) (e : Exch) (es : List Exch) (h : stops e = true) :
    wire cap (e :: es) = wire cap [e] := by
  rcases stops_true h with h1 | ⟨h1, h2⟩
  · simp [wire, h1]
  · simp [wire, h1, h2]

theorem wire_after_stop (cap : Nat) (pre : List Exch) (e : Exch) (es : List Exch) (h : stops e = true) :
    wire cap (pre ++ e :: es) = wire cap (pre ++ [e]) := by
  induction pre with
  | nil => exact wire_cons_stop cap e es h
  | cons x t ih =>
    cases hx : stops x with
    | true => simp only [List.cons_append]; rw [wire_cons_stop cap x _ hx, wire_cons_stop cap x (t ++ [e]) hx]
    | false => simp only [List.cons_append]; rw [wire_cons_go cap x _ hx, wire_cons_go cap x _ hx, ih]

theorem wire_append_go (cap : Nat) (pre es : List Exch) (h : ∀ x ∈ pre, stops x = false) :
    wire cap (pre ++ es) = (pre.map msg).flatten ++ wire cap es := by
  induction pre with
  | nil => rfl
  | cons x t ih =>
    have hx := h x (by simp)
    simp only [List.cons_append, List.map_cons, List.flatten_cons, List.append_assoc]
    rw [wire_cons_go cap x _ hx, ih (fun y hy => h y (by simp [hy]))]

theorem wire_failed_last (cap : Nat) (e : Exch) (h : failed e = true) : wire cap [e] = partialMsg cap e := by
  simp [wire, h]

theorem answered_go (pre es : List Exch) (hp : ∀ x ∈ pre, stops x = false) :
    answered (pre ++ es) = pre ++ answered es := by
  induction pre with
  | nil => rfl
  | cons x t ih =>
    obtain ⟨h1, h2, h3⟩ := stops_false (hp x (by simp))
    simp only [List.cons_append, answered, h1, h2, h3, Bool.false_eq_true, if_false, Bool.or_false]
    rw [ih (fun y hy => hp y (by simp [hy]))]

/-- either not a `Connection` field, or one whose value (as written: CR/LF neutralised) does not read `close` in
any letter case -/
def ConnFree (kv : Bytes × Bytes) : Prop :=
  lowerAll kv.1 ≠ sConnection ∨ lowerAll (newlineToSpace kv.2) ≠ sClose

/-- the handler's generic fields contain no field that reads `Connection: close` (the setters route the name to
`setSpecialHeader`: `close` in any letter case becomes the flag, other values — `upgrade`, `keep-alive` — are stored and are
fine here; what a stored `Close` would do: `close_decision_announced_fails_at_close_case`) -/
def NoConn (h : List (Bytes × Bytes)) : Prop := ∀ kv ∈ h, ConnFree kv

/-- hypotheses on one exchange: `HeadOK` header state, Go-`int` sizes, the documented exclusion, no generic field
reading `Connection: close`, and the close flag of the header is what `Response.ConnectionClose()` reports -/
structure Good (e : Exch) : Prop where
  head : HeadOK e.r e.p.status
  sizes : SizesFit e.p
  writer : WriterHasBody e.p e.isHead
  noConn : NoConn e.r.h
  flag : e.r.connClose = e.respClose

theorem any_kept_false (fs : List (Bytes × Bytes)) (h : ∀ kv ∈ fs, ConnFree kv) :
    (kept fs).any isConnClose = false := by
  rw [List.any_eq_false]
  intro x hx
  simp only [kept, List.mem_map, List.mem_filter] at hx
  obtain ⟨kv, ⟨hm, _⟩, rfl⟩ := hx
  rcases h kv hm with h1 | h1
  · simp [isConnClose, h1]
  · simp [isConnClose, h1]

theorem front_connFree (r : RespHdr) (hh : ∀ kv ∈ r.h, ConnFree kv) : ∀ kv ∈ frontFields r, ConnFree kv := by
  intro kv hm
  rcases frontFields_names r kv hm with h | h
  · exact Or.inl ((by decide : ∀ n ∈ frontNames, lowerAll n ≠ sConnection) _ h)
  · exact hh kv h

/-- the client sees `Connection: close` exactly when the header's close flag is set -/
theorem fields_any_close (r : RespHdr) (hh : ∀ kv ∈ r.h, ConnFree kv) :
    (kept r.fields).any isConnClose = r.connClose := by
  rw [fields_split, kept_append, List.any_append, any_kept_false _ (front_connFree r hh)]
  cases r.connClose
  · simp [kept]
  · simp only [if_true, Bool.false_or, kept_arith]; decide +kernel

theorem withFraming_connFree (r : RespHdr) (f : H1.Resp.Framing) (hh : ∀ kv ∈ r.h, ConnFree kv) :
    ∀ kv ∈ (withFraming r f).h, ConnFree kv := by
  intro kv hm
  cases f with
  | none => exact hh kv hm
  | cl n => exact hh kv (List.mem_filter.mp hm).1
  | chunked =>
    rcases mem_setArgKV hm with h1 | h1
    · exact hh kv h1
    · subst h1; exact Or.inl (by decide)

theorem ka_connFree : ConnFree (strConnection, strKeepAlive) := Or.inr (by rw [newlineToSpace_eq]; decide +kernel)

theorem serveHdr_connFree (e : Exch) (hn : NoConn e.r.h) : ∀ kv ∈ (serveHdr e).h, ConnFree kv := by
  intro kv hm
  unfold serveHdr at hm
  split at hm
  · exact hn kv hm
  · split at hm
    · exact hn kv hm
    · split at hm
      · rcases mem_setArgKV hm with h1 | h1
        · exact hn kv h1
        · subst h1; exact ka_connFree
      · exact hn kv hm

theorem serveHdr_flag (e : Exch) (he : e.early = false) (hf : e.r.connClose = e.respClose) :
    (serveHdr e).connClose = closes e := by
  unfold serveHdr
  simp only [he, Bool.false_eq_true, if_false]
  cases hc : closes e with
  | true => simp
  | false =>
    have : e.respClose = false := by
      simp only [closes, Bool.or_eq_false_iff] at hc; exact hc.2
    cases e.http11 <;> simp [hf, this]

theorem sCL_ne_conn : lowerAll strConnection ≠ sCL := by rw [sCL_eq]; decide
theorem sTE_ne_conn : lowerAll strConnection ≠ sTE := by rw [sTE_eq]; decide

theorem conn_field_ok (v : Bytes) : ∀ kv ∈ [(strConnection, v)], lowerAll kv.1 ≠ sCL ∧ lowerAll kv.1 ≠ sTE := by
  intro kv h
  rw [List.mem_singleton.mp h]
  exact ⟨sCL_ne_conn, sTE_ne_conn⟩

theorem declares_keepAlive (r : RespHdr) (d : Spec.Resp.Framing) (hd : Declares r d) :
    Declares { r with connClose := false, h := setArgKV r.h strConnection strKeepAlive } d := by
  rw [declares_iff] at hd ⊢
  simpa only [sel_setArgKV, beq_eq_false_iff_ne.mpr sTE_ne_conn, Bool.false_eq_true, if_false] using hd

theorem serveHdr_inv (e : Exch) (d : Spec.Resp.Framing) (h : HeadInv e.r e.p.status d) :
    HeadInv (serveHdr e) e.p.status d := by
  obtain ⟨h1, h2, h3, h4, h5⟩ := h
  unfold serveHdr
  split
  · exact ⟨h1, h2, h3, h4, h5⟩
  · split
    · exact ⟨h1, h2, h3, h4, (declares_iff _ _).mpr ((declares_iff e.r d).mp h5)⟩
    · split
      · refine ⟨h1, h2, h3, ?_, declares_keepAlive e.r d h5⟩
        rw [noName_iff] at h4 ⊢
        simp only [sel_setArgKV, beq_eq_false_iff_ne.mpr sCL_ne_conn, Bool.false_eq_true, if_false, h4]
      · exact ⟨h1, h2, h3, h4, h5⟩

/-- `Good` with the wider invariant: `d` is what the header state of `e` declares by itself -/
structure GoodInv (d : Spec.Resp.Framing) (e : Exch) : Prop where
  head : HeadInv e.r e.p.status d
  sizes : SizesFit e.p
  writer : WriterHasBody e.p e.isHead
  noConn : NoConn e.r.h
  flag : e.r.connClose = e.respClose

theorem Good.inv {e : Exch} (g : Good e) : GoodInv .none e :=
  ⟨g.head.inv, g.sizes, g.writer, g.noConn, g.flag⟩

/-- the message a strict reader must see for the exchange -/
def expMsg (e : Exch) : Msg := expected (serveHdr e) e.p e.isHead

theorem expMsg_fields (e : Exch) :
    (expMsg e).fields = kept (withFraming (serveHdr e) (frame e.p e.isHead).framing).fields :=
  expected_fields _ _ _

/-- the message a strict reader must see when the header state declares `d` by itself -/
def expMsgInv (d : Spec.Resp.Framing) (e : Exch) : Msg := expectedInv d (serveHdr e) e.p e.isHead

theorem expMsgInv_fields (d : Spec.Resp.Framing) (e : Exch) : (expMsgInv d e).fields = (expMsg e).fields := by
  simp only [expMsgInv, expectedInv, expMsg]

theorem saysClose_expMsgInv (d : Spec.Resp.Framing) (e : Exch) (g : GoodInv d e) (he : e.early = false) :
    saysClose (expMsgInv d e) = closes e := by
  unfold saysClose
  rw [expMsgInv_fields, expMsg_fields,
    fields_any_close _ (withFraming_connFree _ _ (serveHdr_connFree e g.noConn)), withFraming_connClose,
    serveHdr_flag e he g.flag]

theorem msg_decodes_inv (d : Spec.Resp.Framing) (e : Exch) (g : GoodInv d e) (hok : failed e = false) (rest : Bytes) :
    decodeOne e.isHead (msg e ++ rest) = some (expMsgInv d e, rest) :=
  message_decodes_inv _ d _ _ rest (serveHdr_inv e d g.head) g.sizes g.writer hok

theorem expMsgInv_none (e : Exch) : expMsgInv .none e = expMsg e := expectedInv_eq (effFraming_none _)

/-- header block sent early by the hijacked writer: the announcement is the flag at that moment -/
theorem saysClose_expMsg_early (e : Exch) (hn : NoConn e.r.h) (he : e.early = true) :
    saysClose (expMsg e) = e.r.connClose := by
  unfold saysClose
  rw [expMsg_fields, fields_any_close _ (withFraming_connFree _ _ (serveHdr_connFree e hn)), withFraming_connClose]
  simp [serveHdr, he]

theorem bytes_nonempty (r : RespHdr) (t : Bytes) : (r.bytes ++ t).isEmpty = false := by
  simp [RespHdr.bytes, strCRLF]

theorem msg_nonempty (e : Exch) (t : Bytes) : (msg e ++ t).isEmpty = false := by
  unfold msg message
  rw [List.append_assoc]
  exact bytes_nonempty _ _

theorem decodeSeq_nil (hs : List Bool) : decodeSeq hs [] = some ([], []) := by
  cases hs <;> simp [decodeSeq]

/-- the client's step on one complete response: it stops if the response announces the close, else reads on -/
theorem decodeSeq_msg (d : Spec.Resp.Framing) (e : Exch) (g : GoodInv d e) (he : e.early = false)
    (hok : failed e = false) (hs : List Bool) (rest : Bytes) :
    decodeSeq (e.isHead :: hs) (msg e ++ rest) =
      if closes e then some ([expMsgInv d e], rest)
      else (decodeSeq hs rest).map (fun r => (expMsgInv d e :: r.1, r.2)) := by
  simp only [decodeSeq, msg_nonempty, Bool.false_eq_true, if_false, msg_decodes_inv d e g hok,
    saysClose_expMsgInv d e g he]

/-- `d e`: what the header state of `e` declares by itself -/
theorem decodeSeq_wire_inv (cap : Nat) (d : Exch → Spec.Resp.Framing) : ∀ xs : List Exch,
    (∀ e ∈ xs, GoodInv (d e) e ∧ e.early = false) → (∀ e ∈ xs, failed e = false) →
    decodeSeq (xs.map (·.isHead)) (wire cap xs) = some ((answered xs).map (fun e => expMsgInv (d e) e), [])
  | [], _, _ => rfl
  | e :: es, hg, hf => by
    obtain ⟨g, he⟩ := hg e (by simp)
    have hfe := hf e (by simp)
    have ih := decodeSeq_wire_inv cap d es (fun x hx => hg x (by simp [hx])) (fun x hx => hf x (by simp [hx]))
    cases hc : (closes e || e.hijack) with
    | true =>
      -- the last response: a hijacked connection without the close announced has nothing more to read
      have hw : wire cap (e :: es) = msg e ++ [] := by simp [wire, hfe, hc]
      have ha : answered (e :: es) = [e] := by simp [answered, hfe, hc]
      rw [hw, ha, List.map_cons, decodeSeq_msg (d e) e g he hfe, decodeSeq_nil]
      cases closes e <;> rfl
    | false =>
      have hc' : closes e = false := (Bool.or_eq_false_iff.mp hc).1
      have hw : wire cap (e :: es) = msg e ++ wire cap es := by simp [wire, hfe, hc]
      have ha : answered (e :: es) = e :: answered es := by simp [answered, hfe, hc]
      rw [hw, ha, List.map_cons, decodeSeq_msg (d e) e g he hfe, hc', ih]
      rfl

theorem takeStream_le (n : Nat) (reads : List Bytes) : (takeStream n reads).length ≤ n := by
  simp only [takeStream, List.length_take]; omega

/-- what a failed writer means: not HEAD, a status with a body, `Content-Length: n` announced, fewer than `n`
bytes delivered -/
theorem failed_frame (p : Prog) (isHead : Bool) (h : (frame p isHead).failed = true) :
    isHead = false ∧ mustSkipCL p.status = false ∧
      ∃ n, (frame p isHead).framing = .cl n ∧ (frame p isHead).wire.length < n := by
  obtain ⟨st, body, tr⟩ := p
  cases hs : mustSkipCL st with
  | true => cases body <;> simp [frame, hs] at h
  | false =>
    cases isHead with
    | true => cases body <;> simp [frame, hs] at h <;> (split at h <;> simp at h)
    | false =>
      have hb : noBodyStatus st = false := by rw [← mustSkipCL_eq]; exact hs
      rw [frame_sending st body tr hb] at h ⊢
      refine ⟨rfl, rfl, ?_⟩
      cases body with
      | bytes b => simp at h
      | writer sc => simp at h
      | stream d reads =>
        by_cases hd : d ≥ 0
        · simp only [hd, if_true] at h ⊢
          exact ⟨_, rfl, Nat.lt_of_le_of_ne (takeStream_le _ _) (by simpa using h)⟩
        · simp [hd] at h
      | limited l reads => exact ⟨_, rfl, Nat.lt_of_le_of_ne (takeStream_le _ _) (by simpa using h)⟩

theorem flushedBody_le (cap : Nat) (b : Bytes) : (flushedBody cap b).length ≤ b.length := by
  simp only [flushedBody, List.length_take]; omega

/-- the client cannot take what was written of a short stream's response for a complete message -/
theorem partial_undecodable (cap : Nat) (d : Spec.Resp.Framing) (e : Exch) (g : GoodInv d e) (hf : failed e = true) :
    decodeOne e.isHead (partialMsg cap e) = none := by
  obtain ⟨h1, h2, n, hfr, hlt⟩ := failed_frame e.p e.isHead hf
  unfold partialMsg
  rw [decode_head e.isHead _
    (withFraming_inv (serveHdr_inv e d g.head) (frame_cl_bound e.p e.isHead g.sizes))]
  have hb : noBodyStatus e.p.status = false := by rw [← mustSkipCL_eq]; exact h2
  have hl := flushedBody_le cap (frame e.p e.isHead).wire
  have : (flushedBody cap (frame e.p e.isHead).wire).length < n := by omega
  simp only [h1] at hfr this ⊢
  simp [bodyOf, hb, hfr, effFraming, this]

theorem partial_nonempty (cap : Nat) (e : Exch) : (partialMsg cap e).isEmpty = false :=
  bytes_nonempty _ _

/-- a connection on which a stream ran short does not read back as a sequence of complete responses: the
client gets an error, not a body the handler never produced -/
theorem decodeSeq_short (cap : Nat) (d : Exch → Spec.Resp.Framing) (e : Exch) (es : List Exch) (g : GoodInv (d e) e)
    (hf : failed e = true) :
    ∀ pre : List Exch, (∀ x ∈ pre, GoodInv (d x) x ∧ x.early = false ∧ stops x = false) →
      decodeSeq ((pre ++ e :: es).map (·.isHead)) (wire cap (pre ++ e :: es)) = none
  | [], _ => by
    have hw : wire cap (e :: es) = partialMsg cap e := by simp [wire, hf]
    simp only [List.nil_append, List.map_cons, hw, decodeSeq, partial_nonempty, Bool.false_eq_true, if_false,
      partial_undecodable cap (d e) e g hf]
  | x :: t, hp => by
    obtain ⟨gx, hex, hsx⟩ := hp x (by simp)
    obtain ⟨f1, f2, _⟩ := stops_false hsx
    have ih := decodeSeq_short cap d e es g hf t (fun y hy => hp y (by simp [hy]))
    simp only [List.cons_append, List.map_cons]
    rw [wire_cons_go cap x _ hsx, decodeSeq_msg (d x) x gx hex f1, f2, ih]
    rfl

/-! For `close_decision_keep_alive_1_0`: the `Connection: keep-alive` entry `serveHdr` stores is among the fields the client reads. -/

theorem mem_setArgKV_self : ∀ {h : List (Bytes × Bytes)} {k v : Bytes}, (k, v) ∈ setArgKV h k v
  | [], _, _ => by simp [setArgKV]
  | (k', v') :: t, k, v => by
    simp only [setArgKV]
    split
    · simp
    · simp [mem_setArgKV_self (h := t)]

theorem mem_setArgKV_other : ∀ {h : List (Bytes × Bytes)} {k v : Bytes} {kv : Bytes × Bytes}, kv ∈ h → kv.1 ≠ k →
    kv ∈ setArgKV h k v
  | [], _, _, _, hm, _ => by cases hm
  | (k', v') :: t, k, v, kv, hm, hk => by
    simp only [setArgKV]
    simp only [List.mem_cons] at hm
    split
    · next he =>
      rcases hm with hm | hm
      · subst hm; exact absurd he hk
      · simp [hm]
    · rcases hm with hm | hm
      · simp [hm]
      · simp [mem_setArgKV_other (v := v) hm hk]

/-- `SetContentLength` touches no generic field but `Transfer-Encoding` -/
theorem mem_withFraming {kv : Bytes × Bytes} (r : RespHdr) (f : H1.Resp.Framing) (h : kv ∈ r.h)
    (hk : kv.1 ≠ strTransferEncoding) : kv ∈ (withFraming r f).h := by
  cases f with
  | none => exact h
  | cl n => exact List.mem_filter.mpr ⟨h, by simpa using hk⟩
  | chunked => exact mem_setArgKV_other h hk

/-- a generic field with a valid name, other than `Date`, is among the fields the client reads -/
theorem mem_kept_fields {kv : Bytes × Bytes} (r : RespHdr) (h : kv ∈ r.h) (hd : kv.1 ≠ strDate)
    (hv : validName kv.1 = true) : (kv.1, newlineToSpace kv.2) ∈ kept r.fields := by
  refine mem_kept r.fields kv ?_ hv
  rw [fields_split]
  simp only [frontFields, List.mem_append]
  exact .inl (.inl (.inl (.inr (List.mem_filter.mpr ⟨h, by simp [hd]⟩))))

end Hertz.H1.RespSeq
