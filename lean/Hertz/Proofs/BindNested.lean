import Hertz.Proofs.BindRefine
import Hertz.Model.BindNested
/-!
Lemmas for the nested part of C15 (Model/BindNested.lean, the nested section of Spec/Bind.lean).

The decoder of a leaf below the JSON path `P` runs as the flat decoder of that field on `focus q P`, the request
whose body is the object at `P` (`leaf_run_focus`, for fields outside `clsWaived`), so Proofs/BindRefine.lean applies to every leaf.  The store of
`runN` is a detour: on the store `bindNWith` builds, the decoders of a type run as `runSeq`, which hands each leaf decoder
the head of a list (`runN_runSeq`, for all requests; the only place where the keys of the store matter).  `runSeq` cannot
fault, and `runSeq_forest` is the induction over the field tree that compares it with the specification.
-/
namespace Hertz.Bind
open Hertz Hertz.H1 Hertz.Spec.Bind

theorem leafPaths_shape : ∀ (t : Forest) (pidx : Path) (i : Nat) (p : Path), p ∈ leafPaths pidx i t →
    ∃ j rest, p = pidx ++ j :: rest ∧ i ≤ j := by
  intro t
  induction t with
  | nil => intro pidx i p h; simp [leafPaths] at h
  | leaf f rest ih =>
    intro pidx i p h
    simp only [leafPaths, List.mem_cons] at h
    rcases h with h | h
    · exact ⟨i, [], h, Nat.le_refl i⟩
    · obtain ⟨j, r, e, hj⟩ := ih pidx (i + 1) p h
      exact ⟨j, r, e, by omega⟩
  | strct hdr anon kids rest ihk ihr =>
    intro pidx i p h
    simp only [leafPaths, List.mem_append] at h
    rcases h with h | h
    · obtain ⟨j, r, e, _⟩ := ihk (pidx ++ [i]) 0 p h
      exact ⟨i, j :: r, by simp [e], Nat.le_refl i⟩
    · obtain ⟨j, r, e, hj⟩ := ihr pidx (i + 1) p h
      exact ⟨j, r, e, by omega⟩

/-- **two different leaves never get the same index path** -/
theorem leafPaths_nodup : ∀ (t : Forest) (pidx : Path) (i : Nat), (leafPaths pidx i t).Nodup := by
  intro t
  induction t with
  | nil => intro pidx i; simp [leafPaths]
  | leaf f rest ih =>
    intro pidx i
    simp only [leafPaths, List.nodup_cons]
    refine ⟨?_, ih pidx (i + 1)⟩
    intro h
    obtain ⟨j, r, e, hj⟩ := leafPaths_shape rest pidx (i + 1) _ h
    have := List.append_cancel_left e
    simp at this
    omega
  | strct hdr anon kids rest ihk ihr =>
    intro pidx i
    simp only [leafPaths]
    rw [List.nodup_append]
    refine ⟨ihk _ 0, ihr pidx (i + 1), ?_⟩
    intro a ha b hb hab
    obtain ⟨j, r, e, _⟩ := leafPaths_shape kids (pidx ++ [i]) 0 a ha
    obtain ⟨j', r', e', hj'⟩ := leafPaths_shape rest pidx (i + 1) b hb
    rw [e, e', List.append_assoc] at hab
    have := List.append_cancel_left hab
    simp at this
    omega

/-- the leaf decoders built by `getFieldDecoder` address exactly the leaves, in field order -/
theorem compileN_paths : ∀ (t : Forest) (pidx : Path) (pj : List Bytes) (i : Nat),
    ((compileN pidx pj i t).filter (fun d => !d.isStruct)).map (fun d => d.parentIdx ++ [d.index]) = leafPaths pidx i t := by
  intro t
  induction t with
  | nil => intro pidx pj i; simp [compileN, leafPaths]
  | leaf f rest ih => intro pidx pj i; simp [compileN, leafPaths, ih]
  | strct hdr anon kids rest ihk ihr => intro pidx pj i; simp [compileN, leafPaths, ihk, ihr, List.filter_append]

theorem seen_afterBody (q : NReq) : q.afterBody.seen = q.seen := by
  cases q with
  | mk r deep st => cases st <;> rfl

theorem seen_st (q : NReq) (s : BodySt) (h : s ≠ .drained) (h' : q.st ≠ .drained) : ({ q with st := s } : NReq).seen = q.seen := by
  cases q with
  | mk r deep st => cases st <;> cases s <;> simp_all [NReq.seen]

/-! ## a nested leaf is a top-level field of the focused request -/

theorem getter_focus (q : NReq) (P : List Bytes) (s : Src) (k : Bytes) : getter q.r s k = getter (focus q P) s k := by
  cases s <;> rfl

theorem sliceGetter_focus (q : NReq) (P : List Bytes) (s : Src) (k : Bytes) :
    sliceGetter q.r s k = sliceGetter (focus q P) s k := by
  cases s <;> rfl

theorem ctFold_focus (q : NReq) (P : List Bytes) : ctFold (focus q P) = ctFold q.r := rfl

theorem bodyMembers_focus (q : NReq) (P : List Bytes) : bodyMembers (focus q P) = exactMembers q P := by
  unfold bodyMembers focus exactMembers
  cases h : q.r.body <;> simp

theorem hasBody_focus (q : NReq) (P : List Bytes) : hasBody (focus q P) = hasBody q.r := by
  unfold hasBody focus
  cases h : q.r.body <;> simp <;> rfl

theorem bodyHasKey_focus (q : NReq) (P : List Bytes) (k : Bytes) : bodyHasKey (focus q P) k = nodeExists q P k := by
  unfold bodyHasKey nodeExists
  rw [bodyMembers_focus]

theorem keyExistAt_eq (q : NReq) (P : List Bytes) (ti : TagInfo) : keyExistAt q P ti = keyExist (focus q P) ti := by
  unfold keyExistAt keyExist
  rw [ctFold_focus, bodyHasKey_focus]

/-- the two checks differ only in the waiver: a required name that is absent together with its superior -/
theorem checkRequireJSONAt_eq (q : NReq) (P : List Bytes) (ti : TagInfo)
    (hw : (ti.required && ctFold q.r && !nodeExists q P ti.jsonName && superiorAbsent q P) = false) :
    checkRequireJSONAt q P ti = checkRequireJSON (focus q P) ti := by
  unfold checkRequireJSONAt checkRequireJSON
  rw [ctFold_focus, bodyHasKey_focus]
  revert hw
  generalize ti.required = a, ctFold q.r = b, nodeExists q P ti.jsonName = c, superiorAbsent q P = d
  revert a b c d
  decide

theorem jsonBranchG_eq (r : Req) (ti : TagInfo) (err : Option ErrKind) :
    jsonBranchG (checkRequireJSON r) (keyExist r) ti err = jsonBranch r ti err := rfl

/-- at a json tag the JSON branch of a field below `P` is that of a top-level field on the focused request, the waiver apart -/
theorem jsonBranchG_focus (q : NReq) (P : List Bytes) (ti : TagInfo)
    (h : checkRequireJSONAt q P ti = checkRequireJSON (focus q P) ti) :
    jsonBranchG (checkRequireJSONAt q P) (keyExistAt q P) ti = jsonBranch (focus q P) ti := by
  funext e
  unfold jsonBranchG jsonBranch
  rw [h, keyExistAt_eq]

theorem textPresent_focus (q : NReq) (P : List Bytes) (t : TagInfo) :
    textPresent q.r t = textPresent (focus q P) t ∧ (getter q.r t.key t.value).1 = (getter (focus q P) t.key t.value).1 :=
  ⟨congrArg (·.2) (getter_focus q P _ _), congrArg (·.1) (getter_focus q P _ _)⟩

theorem textsPresent_focus (q : NReq) (P : List Bytes) (t : TagInfo) :
    textsPresent q.r t = textsPresent (focus q P) t ∧ sliceGetter q.r t.key t.value = sliceGetter (focus q P) t.key t.value :=
  ⟨congrArg (· != []) (sliceGetter_focus q P _ _), sliceGetter_focus q P _ _⟩

theorem waived_tag {q : NReq} {P : List Bytes} {f : Field} (hw : clsWaived q P f = false) :
    ∀ ti ∈ fieldTagInfos f, ti.key = .json →
      jsonBranchG (checkRequireJSONAt q P) (keyExistAt q P) ti = jsonBranch (focus q P) ti := by
  intro ti hti hk
  unfold clsWaived at hw
  rw [List.any_eq_false] at hw
  have := hw ti hti
  exact jsonBranchG_focus q P ti (checkRequireJSONAt_eq q P ti (by simpa [hk] using this))

/-- **a leaf decoder of a nested type runs as the decoder of a top-level field on the focused request**: the loop sees
the request only through the getters, and the JSON predicates only at json tags (`tagLoop_congr`) -/
theorem leaf_run_focus (q : NReq) (P : List Bytes) (f : Field) (pre : FieldVal) (pidx : Path) (i : Nat)
    (hw : clsWaived q P f = false) :
    ({ parentIdx := pidx, index := i, jparent := P, dec := compileField f } : NDec).run q pre =
      (compileField f).run (focus q P) pre := by
  unfold NDec.run FieldDec.run
  simp only [Bool.false_eq_true, if_false, compileField, decodeSliceG_eq, decodeBaseG_eq, decodeSlice_eq, decodeBase_eq]
  rw [tagLoop_congr _ _ (waived_tag hw) (textsPresent_focus q P),
    tagLoop_congr _ _ (waived_tag hw) (textPresent_focus q P)]

/-! ## struct-typed fields without `required` and without a default -/

/-- the struct-typed field carries no `required` option and no default, and is not a slice -/
def HdrPlain (hdr : Field) : Prop :=
  (∀ t ∈ fieldTagInfos hdr, t.required = false) ∧ hdr.dflt.getD [] = [] ∧ hdr.ty.slice = false

instance (hdr : Field) : Decidable (HdrPlain hdr) := by unfold HdrPlain; infer_instance

/-- every field well-formed (`FieldWF`); struct-typed fields without `required` and without a default.  Embedded structs
whose fields the unmarshaller promotes are included: the decoders look where the unmarshaller stores (`keepsParentJSON`) -/
def ForestWF : Forest → Prop
  | .nil => True
  | .leaf f rest => FieldWF f ∧ ForestWF rest
  | .strct hdr _ kids rest => FieldWF hdr ∧ HdrPlain hdr ∧ ForestWF kids ∧ ForestWF rest

instance decForestWF : (t : Forest) → Decidable (ForestWF t)
  | .nil => isTrue trivial
  | .leaf f rest => by
    unfold ForestWF
    exact @instDecidableAnd _ _ _ (decForestWF rest)
  | .strct hdr _ kids rest => by
    unfold ForestWF
    exact @instDecidableAnd _ _ _ (@instDecidableAnd _ _ _ (@instDecidableAnd _ _ (decForestWF kids) (decForestWF rest)))

theorem tagLoop_idle {α : Type} {r : Req} {p : TagInfo → Bool} {val : TagInfo → α} : ∀ {tis : List TagInfo},
    (∀ t ∈ tis, t.required = false ∧ t.dflt = []) → (∀ t ∈ tis, t.isText → p t = false) →
    tagLoop (jsonBranch r) p val tis {} = {}
  | [], _, _ => rfl
  | t :: tis, h, hn => by
    obtain ⟨hq, hd⟩ := h t List.mem_cons_self
    have ih := tagLoop_idle (r := r) (val := val) (List.forall_mem_cons.1 h).2 (List.forall_mem_cons.1 hn).2
    by_cases hk : t.key = .json
    · rw [tagLoop_json hk]
      simpa [jsonBranch, checkRequireJSON, hq, hd] using ih
    · cases hs : t.skip
      · rw [tagLoop_miss hs hk (hn t List.mem_cons_self ⟨hs, hk⟩), hq, hd]
        exact ih
      · rw [tagLoop_skip hs hk]
        exact ih

theorem struct_run_spec (q : NReq) (P : List Bytes) (hdr : Field) (pidx : Path) (i : Nat) (pre : FieldVal)
    (hp : HdrPlain hdr) :
    ({ parentIdx := pidx, index := i, jparent := P, dec := compileField hdr, isStruct := true } : NDec).run q pre =
      specStruct hdr (focus q P) := by
  obtain ⟨hreq, hd, _⟩ := hp
  have hdf : ∀ t ∈ fieldTagInfos hdr, t.dflt = [] := fun t ht => by rw [fieldTagInfos_dflt hdr t ht, hd]
  have hany : anyRequired hdr = false := by
    rw [anyRequired_eq, List.any_eq_false]
    intro t ht
    simp [hreq t ht]
  -- nothing is `required`, so the waiver of `checkRequireJSONAt` plays no role
  have hw : ∀ t ∈ fieldTagInfos hdr, t.key = .json →
      jsonBranchG (checkRequireJSONAt q P) (keyExistAt q P) t = jsonBranch (focus q P) t :=
    fun t ht _ => jsonBranchG_focus q P t (checkRequireJSONAt_eq q P t (by simp [hreq t ht]))
  unfold NDec.run
  simp only [if_true, compileField]
  unfold decodeStructG specStruct
  rw [show ({} : LoopSt) = LoopSt.ofV {} from rfl, baseLoopG_tagLoop,
    tagLoop_congr _ _ hw (textPresent_focus q P), firstText_eq]
  cases hf : (fieldTagInfos hdr).find? (hitB (focus q P)) with
  | some ti =>
    rw [tagLoop_find hf]
    simp [LoopSt.ofV]
  | none =>
    rw [tagLoop_idle (fun t ht => ⟨hreq t ht, hdf t ht⟩) (find_hit_none (p := textPresent _) hf)]
    simp only [dfltOf, hd, hany]
    cases named hdr .json with
    | none => simp [LoopSt.ofV]
    | some x => cases x with
      | mk n b => simp [LoopSt.ofV]

/-! ## the pre-bind of a nested document, leaf by leaf -/

theorem ciPathEq_refl : ∀ P : List Bytes, ciPathEq P P = true
  | [] => rfl
  | a :: t => by simp [ciPathEq, ciEq_refl a, ciPathEq_refl t]

theorem nestedClass_empty {q : NReq} {f : Field} {b : Bool} {P : List Bytes} {D : Option (List Bytes)}
    (h : nestedClass q (f, b, P, D) = "") :
    clsWaived q P f = false ∧ clsPathExtra q P D = false ∧ fieldClass f (focus q P) = "" := by
  unfold nestedClass at h
  cases h1 : clsWaived q P f
  · cases h2 : clsPathExtra q P D
    · simpa [h1, h2] using h
    · simp only [h1, h2, Bool.false_eq_true, if_false, if_true] at h
      split at h <;> (try split at h) <;> simp at h
  · simp [h1] at h

theorem pathExtra_D {q : NReq} {P : List Bytes} {D : Option (List Bytes)} (h : clsPathExtra q P D = false) : D = some P := by
  unfold clsPathExtra at h
  simp only [Bool.or_eq_false_iff] at h
  simpa using h.1

theorem members_eq {q : NReq} {P : List Bytes} (hj : isJSONReq q = true) (hx : clsPathExtra q P (some P) = false) :
    membersUnder q P = exactMembers q P := by
  unfold clsPathExtra at hx
  simp only [Bool.or_eq_false_iff, hj, Bool.true_and, List.any_eq_false] at hx
  unfold membersUnder exactMembers
  cases q.r.body with
  | json top =>
    simp only
    split
    · rfl
    · congr 1
      apply List.filter_congr
      intro e he
      have := hx.2 e he
      by_cases hp : e.parents = P
      · simp [hp, ciPathEq_refl]
      · simpa [hp, beq_eq_false_iff_ne.2 hp] using this
  | _ => rfl

theorem preLeaf_eq_preFieldS (s : Bool) (q : NReq) (P : List Bytes) (f : Field) (top : List (Bytes × JVal))
    (hj : isJSONReq q = true) (hb : q.r.body = .json top) (hx : clsPathExtra q P (some P) = false) :
    preLeaf s q (some P) f = preFieldS s (focus q P) f := by
  unfold preLeaf preFieldS
  rw [hasBody_focus, ctFold_focus]
  have hj' : (hasBody q.r && ctFold q.r) = true := hj
  simp only [hj', if_true, preBindField, bodyMembers_focus, members_eq hj hx]
  unfold focus
  simp [hb]

/-- the decoders keep the parent's JSON name exactly for the structs whose fields the unmarshaller promotes (/repo 1242bf1) -/
theorem keepsParentJSON_eq_promoted (hdr : Field) (anon : Bool) : keepsParentJSON hdr anon = promoted hdr anon := by
  unfold keepsParentJSON promoted structJSONName
  cases ht : hdr.tags.lookup .json with
  | none => cases anon <;> simp
  | some content =>
    by_cases hd : content = dash
    · subst hd
      have : (headComma dash).1 ≠ [] := by decide
      cases anon <;> simp [this]
    · by_cases hh : (headComma content).1 = [] <;> cases anon <;> simp [hd, hh]

theorem mem_ctx_strct_self {hdr : Field} {anon : Bool} {kids rest : Forest} {P : List Bytes} {D : Option (List Bytes)} :
    (hdr, true, P, D) ∈ fieldCtx P D (.strct hdr anon kids rest) := by simp [fieldCtx]

/-- per leaf, in field order, the pre-bind of a top-level field on the request focused on the leaf's enclosing object -/
def preSpec (q : NReq) : List Bytes → Forest → List (Conv FieldVal)
  | _, .nil => []
  | P, .leaf f rest => preFieldS false (focus q P) f :: preSpec q P rest
  | P, .strct hdr anon kids rest => preSpec q (if promoted hdr anon then P else P ++ [specName hdr]) kids ++ preSpec q P rest

/-- what either JSON decoder leaves in the leaves is `preSpec`: outside the classes the unmarshaller fills a leaf from
the object the tags name, and its verdict does not depend on the decoder (class `sonic-uint32-wrap`).  `P` / `D`: the key path of the enclosing object
as the specification / the unmarshaller sees it (`fieldCtx`) -/
theorem preLeaves_eq (s : Bool) (q : NReq) (top : List (Bytes × JVal)) (hj : isJSONReq q = true) (hb : q.r.body = .json top) :
    ∀ (t : Forest) (P : List Bytes) (D : Option (List Bytes)),
    (∀ x ∈ fieldCtx P D t, nestedClass q x = "") → preLeaves s q D t = preSpec q P t := by
  intro t
  induction t with
  | nil => intro P D _; rfl
  | leaf f rest ih =>
    intro P D hc
    obtain ⟨hcf, hcr⟩ := List.forall_mem_cons.1 hc
    obtain ⟨_, hx, hcl⟩ := nestedClass_empty hcf
    obtain rfl := pathExtra_D hx
    rw [preLeaves, preSpec, ih P _ hcr, preLeaf_eq_preFieldS s q P f top hj hb hx]
    cases s
    · rfl
    · rw [preFieldS_sonic _ _ (fieldClass_empty.1 hcl).1]
  | strct hdr anon kids rest ihk ihr =>
    intro P D hc
    obtain ⟨hck, hcr⟩ := List.forall_mem_append.1 (List.forall_mem_cons.1 hc).2
    rw [preLeaves, preSpec, ihk _ _ hck, ihr P D hcr]

theorem preSpec_unset (q : NReq) (hj : isJSONReq q = false) : ∀ (t : Forest) (P : List Bytes),
    preSpec q P t = (leaves t).map (fun _ => .ok .unset) := by
  intro t
  induction t with
  | nil => intro P; rfl
  | leaf f rest ih =>
    intro P
    have hj' : (hasBody q.r && ctFold q.r) = false := hj
    rw [preSpec, leaves, List.map_cons, ih P, preFieldS, hasBody_focus, ctFold_focus, hj']
    rfl
  | strct hdr anon kids rest ihk ihr => intro P; rw [preSpec, leaves, List.map_append, ihk, ihr]

theorem preBindN_sonic (q : NReq) (t : Forest) (hc : ∀ x ∈ fieldCtx [] (some []) t, nestedClass q x = "") :
    preBindN true q t = preBindN false q t := by
  unfold preBindN
  by_cases hj : isJSONReq q = true
  · simp only [hj, if_true]
    cases hb : q.r.body with
    | none => rfl
    | notJson => rfl
    | json top => simp only [preLeaves_eq _ q top hj hb t [] (some []) hc]
  · simp only [hj, Bool.false_eq_true, if_false]

/-! ## the JSON name a struct-typed field hands to its fields -/

theorem mkTagInfo_jsonName {s : Src} (hs : s ≠ .json) (f : Field) (c : Bytes) : (mkTagInfo f s c).jsonName = f.name := by
  simp [mkTagInfo, hs]

theorem mkTagInfo_jsonName_json (f : Field) (c : Bytes) :
    (mkTagInfo f .json c).jsonName = if (mkTagInfo f .json c).skip then f.name else (mkTagInfo f .json c).value := by
  simp only [mkTagInfo, true_and, Bool.not_eq_true]
  cases (if (headComma c).1 = [] then f.name else (headComma c).1) == dash <;> rfl

/-- the last tag `lookupFieldTags` goes through is the json tag when there is one; any other tag has the Go name as
its JSON name -/
theorem newParentName_eq (hdr : Field) : newParentName hdr = specName hdr := by
  have hl : lookupFieldTags hdr = textSources.filterMap (fun s => (hdr.tags.lookup s).map (mkTagInfo hdr s)) ++
      ((hdr.tags.lookup .json).map (mkTagInfo hdr .json)).toList := by
    unfold lookupFieldTags
    rw [show lookupOrder = textSources ++ [.json] from lookupOrder_eq, List.filterMap_append]
    congr 1
  unfold newParentName specName
  rw [hl, named_eq, tagOf]
  cases hj : hdr.tags.lookup .json with
  | none =>
    simp only [Option.map_none, Option.toList_none, List.append_nil]
    cases hg : (textSources.filterMap (fun s => (hdr.tags.lookup s).map (mkTagInfo hdr s))).getLast? with
    | none => cases hdr.tags.isEmpty <;> rfl
    | some t =>
      obtain ⟨s, hs, hst⟩ := List.mem_filterMap.1 (List.mem_of_getLast? hg)
      obtain ⟨c, _, rfl⟩ := Option.map_eq_some_iff.1 hst
      have hsj : s ≠ .json := by intro h; subst h; simp [textSources] at hs
      simp only [mkTagInfo_jsonName hsj]
      cases hdr.tags.isEmpty <;> rfl
  | some c =>
    have hne : hdr.tags.isEmpty = false := by
      cases ht : hdr.tags with
      | nil => rw [ht] at hj; cases hj
      | cons a b => rfl
    simp only [Option.map_some, Option.toList_some, List.getLast?_append, List.getLast?_singleton, Option.some_or, hne,
      Bool.false_eq_true, if_false, Option.bind_some]
    rw [mkTagInfo_jsonName_json]
    cases (mkTagInfo hdr .json c).skip <;> rfl

theorem lookup_mid (done r : Store) (p : Path) (v : FieldVal) (h : p ∉ done.map (·.1)) :
    (done ++ (p, v) :: r).lookup p = some v :=
  List.lookup_eq_some_iff.2 ⟨done, r, rfl, fun _ he => bne_iff_ne.2 fun e => h (e ▸ List.mem_map_of_mem he)⟩

theorem set_notin (s : Store) (p : Path) (v : FieldVal) (h : p ∉ s.map (·.1)) : Store.set s p v = s := by
  unfold Store.set
  refine (List.map_congr_left fun e he => ?_).trans (List.map_id' s)
  exact if_neg fun (e' : e.1 = p) => h (e' ▸ List.mem_map_of_mem he)

theorem set_mid (done r : Store) (p : Path) (v v' : FieldVal) (h1 : p ∉ done.map (·.1)) (h2 : p ∉ r.map (·.1)) :
    Store.set (done ++ (p, v) :: r) p v' = done ++ (p, v') :: r := by
  have a := set_notin done p v' h1
  have b := set_notin r p v' h2
  unfold Store.set at a b ⊢
  rw [List.map_append, List.map_cons, a, b, if_pos rfl]

theorem runN_cons_leaf (q : NReq) (d : NDec) (ds : List NDec) (s : Store) (pre : FieldVal) (h : d.isStruct = false)
    (hl : s.lookup (d.parentIdx ++ [d.index]) = some pre) :
    runN q (d :: ds) s = (match d.run q pre with
      | .err e => .err e
      | .unk => .unk
      | .ok v => runN q ds (s.set (d.parentIdx ++ [d.index]) v)) := by
  rw [runN]
  simp only [h, Bool.false_eq_true, if_false, hl]
  rfl

theorem runN_cons_struct (q : NReq) (d : NDec) (ds : List NDec) (s : Store) (h : d.isStruct = true) :
    runN q (d :: ds) s = (match d.run q .unset with
      | .err e => .err e
      | .unk => .unk
      | .ok _ => runN q ds s) := by
  rw [runN]
  simp only [h, if_true]
  rfl

/-- `runN` without the store: a leaf decoder takes what the pre-bind left in its leaf from the head of a list -/
def runSeq (q : NReq) : List NDec → List FieldVal → NOutcome
  | [], _ => .ok []
  | d :: ds, pres =>
    if d.isStruct then
      match d.run q .unset with
      | .err e => .err e
      | .unk => .unk
      | .ok _ => runSeq q ds pres
    else consOut (d.run q (pres.headD .unset)) (runSeq q ds pres.tail)

theorem runSeq_ne_fault (q : NReq) : ∀ (decs : List NDec) (pres : List FieldVal), runSeq q decs pres ≠ .fault
  | [], _ => by simp [runSeq]
  | d :: ds, pres => by
    unfold runSeq
    split
    · split
      · simp
      · simp
      · exact runSeq_ne_fault q ds pres
    · have := runSeq_ne_fault q ds pres.tail
      generalize runSeq q ds pres.tail = o at this ⊢
      cases d.run q (pres.headD .unset) <;> cases o <;> simp_all [consOut]

/-- On a store whose keys are pairwise different and whose part `todo` lists, in order, the leaves the decoders address,
the store is a detour: each leaf decoder finds its value at the head of `todo` and leaves its result there (`done` is
handed on as it is).  Nothing is asked of the request. -/
theorem runN_runSeq (q : NReq) : ∀ (decs : List NDec) (done todo : Store),
    (decs.filter (fun d => !d.isStruct)).map (fun d => d.parentIdx ++ [d.index]) = todo.map (·.1) →
    ((done ++ todo).map (·.1)).Nodup →
    runN q decs (done ++ todo) = appendOut (.ok (done.map (·.2))) (runSeq q decs (todo.map (·.2)))
  | [], done, todo, hp, _ => by
    obtain rfl := List.map_eq_nil_iff.1 hp.symm
    simp [runN, runSeq, appendOut]
  | d :: ds, done, todo, hp, hnd => by
    cases hst : d.isStruct
    · rw [List.filter_cons_of_pos (by simp [hst]), List.map_cons] at hp
      obtain ⟨⟨p, pre⟩, todo', rfl, hpe, hp'⟩ := List.map_eq_cons_iff.1 hp.symm
      obtain rfl : p = d.parentIdx ++ [d.index] := hpe
      simp only [List.map_append, List.map_cons] at hnd
      have hn1 : (d.parentIdx ++ [d.index]) ∉ done.map (·.1) :=
        fun h => (List.nodup_append.1 hnd).2.2 _ h _ List.mem_cons_self rfl
      rw [runN_cons_leaf q d ds _ pre hst (lookup_mid done _ _ pre hn1), runSeq]
      simp only [hst, Bool.false_eq_true, if_false, List.map_cons, List.headD_cons, List.tail_cons]
      cases d.run q pre with
      | err e => rfl
      | unk => rfl
      | ok v =>
        have ih := runN_runSeq q ds (done ++ [(d.parentIdx ++ [d.index], v)]) todo' hp'.symm
          (by simpa only [List.append_assoc, List.cons_append, List.nil_append, List.map_append, List.map_cons] using hnd)
        simp only [List.append_assoc, List.cons_append, List.nil_append] at ih
        simp only
        rw [set_mid done _ _ pre v hn1 (List.nodup_cons.1 (List.nodup_append.1 hnd).2.1).1, ih]
        cases runSeq q ds (todo'.map (·.2)) <;> simp [appendOut, consOut]
    · rw [List.filter_cons_of_neg (by simp [hst])] at hp
      rw [runN_cons_struct q d ds _ hst, runSeq]
      simp only [hst, if_true]
      cases d.run q .unset with
      | err e => rfl
      | unk => rfl
      | ok v => exact runN_runSeq q ds done todo hp hnd

theorem appendOut_consOut (x : FOut) (a b : NOutcome) : appendOut (consOut x a) b = consOut x (appendOut a b) := by
  cases x with
  | ok v => cases a <;> cases b <;> rfl
  | _ => rfl

theorem appendOut_assoc (a b c : NOutcome) : appendOut (appendOut a b) c = appendOut a (appendOut b c) := by
  cases a with
  | ok va =>
    cases b with
    | ok vb => cases c <;> simp [appendOut]
    | _ => rfl
  | _ => rfl

/-- the decoders of the fields `i, i+1, …` of a struct, followed by the decoders `more`, on what the pre-bind left in
these fields' leaves (`pres`) followed by `tail`: the outcome is that of the specification, then that of `more` -/
theorem runSeq_forest (q : NReq) : ∀ (t : Forest) (pidx : Path) (P : List Bytes) (D : Option (List Bytes)) (i : Nat)
    (pres tail : List FieldVal) (more : List NDec),
    ForestWF t → (∀ x ∈ fieldCtx P D t, nestedClass q x = "") → preSpec q P t = pres.map .ok →
    runSeq q (compileN pidx P i t ++ more) (pres ++ tail) = appendOut (specForest q P t) (runSeq q more tail) := by
  intro t
  induction t with
  | nil =>
    intro pidx P D i pres tail more _ _ hp
    obtain rfl := List.map_eq_nil_iff.1 hp.symm
    cases h : runSeq q more tail <;> simp [compileN, specForest, appendOut, h]
  | leaf f rest ih =>
    intro pidx P D i pres tail more hwf hc hp
    obtain ⟨w0, vs, rfl, hpre, hrest⟩ := List.map_eq_cons_iff.1 hp.symm
    obtain ⟨hcf, hcr⟩ := List.forall_mem_cons.1 hc
    obtain ⟨hw, _, hcl⟩ := nestedClass_empty hcf
    simp only [compileN, specForest, List.cons_append, runSeq, Bool.false_eq_true, if_false, List.headD_cons, List.tail_cons]
    rw [leaf_run_focus q P f w0 pidx i hw, field_refines f (focus q P) w0 hwf.1 hcl hpre.symm,
      ih pidx P D (i + 1) vs tail more hwf.2 hcr hrest.symm, appendOut_consOut]
  | strct hdr anon kids rest ihk ihr =>
    intro pidx P D i pres tail more hwf hc hp
    obtain ⟨_, hplain, hwfk, hwfr⟩ := hwf
    obtain ⟨a, b, rfl, hpa, hpb⟩ := List.map_eq_append_iff.1 hp.symm
    obtain ⟨hck, hcr⟩ := List.forall_mem_append.1 (List.forall_mem_cons.1 hc).2
    simp only [compileN, specForest, List.cons_append, runSeq, if_true, List.append_assoc,
      struct_run_spec q P hdr pidx i .unset hplain, keepsParentJSON_eq_promoted, newParentName_eq]
    cases specStruct hdr (focus q P) with
    | err e => rfl
    | unk => rfl
    | ok u =>
      simp only
      rw [ihk (pidx ++ [i]) _ (stepD D hdr anon) 0 a _ _ hwfk hck hpa.symm,
        ihr pidx P D (i + 1) b tail more hwfr hcr hpb.symm, appendOut_assoc]

theorem preBindN_ok {s : Bool} {q : NReq} {t : Forest} {pres : List FieldVal} (h : preBindN s q t = .ok pres) :
    (isJSONReq q = true ∧ (∃ top, q.r.body = .json top) ∧ preLeaves s q (some []) t = pres.map .ok) ∨
    (isJSONReq q = false ∧ pres = (leaves t).map (fun _ => .unset)) := by
  unfold preBindN at h
  cases hj : isJSONReq q
  · simp only [hj, Bool.false_eq_true, if_false] at h
    cases h
    exact Or.inr ⟨rfl, rfl⟩
  · simp only [hj, if_true] at h
    cases hb : q.r.body with
    | none => simp [hb] at h
    | notJson => simp [hb] at h
    | json top =>
      refine Or.inl ⟨rfl, ⟨top, rfl⟩, collect_ok_map _ _ ?_⟩
      simp only [hb] at h
      revert h
      cases collect (preStructs q (some []) t) <;> cases collect (preLeaves s q (some []) t) <;> simp

theorem preLeaves_length (s : Bool) (q : NReq) : ∀ (t : Forest) (D : Option (List Bytes)) (pidx : Path) (i : Nat),
    (preLeaves s q D t).length = (leafPaths pidx i t).length := by
  intro t
  induction t with
  | nil => intro D pidx i; rfl
  | leaf f rest ih => intro D pidx i; simp [preLeaves, leafPaths, ih D pidx (i + 1)]
  | strct hdr anon kids rest ihk ihr =>
    intro D pidx i
    simp [preLeaves, leafPaths, ihk (stepD D hdr anon) (pidx ++ [i]) 0, ihr D pidx (i + 1)]

theorem leaves_length : ∀ (t : Forest) (pidx : Path) (i : Nat), (leaves t).length = (leafPaths pidx i t).length := by
  intro t
  induction t with
  | nil => intro pidx i; rfl
  | leaf f rest ih => intro pidx i; simp [leaves, leafPaths, ih pidx (i + 1)]
  | strct hdr anon kids rest ihk ihr => intro pidx i; simp [leaves, leafPaths, ihk (pidx ++ [i]) 0, ihr pidx (i + 1)]

theorem preBindN_length (s : Bool) (q : NReq) (t : Forest) (pres : List FieldVal) (h : preBindN s q t = .ok pres) :
    pres.length = (leafPaths [] 0 t).length := by
  rcases preBindN_ok h with ⟨_, _, hl⟩ | ⟨_, rfl⟩
  · rw [← preLeaves_length s q t (some []) [] 0, hl, List.length_map]
  · rw [List.length_map, leaves_length t [] 0]

/-- the leaf decoders `getFieldDecoder` builds address exactly the keys of the store `bindNWith` hands them, in order:
for ALL requests the run is the store-free one (in particular no `fault`: no `reflect` panic) -/
theorem runN_compileN (q : NReq) (t : Forest) (pres : List FieldVal) (h : pres.length = (leafPaths [] 0 t).length) :
    runN q (compileN [] [] 0 t) ((leafPaths [] 0 t).zip pres) = runSeq q (compileN [] [] 0 t) pres := by
  have hk := List.map_fst_zip (Nat.le_of_eq h.symm)
  have hr := runN_runSeq q (compileN [] [] 0 t) [] ((leafPaths [] 0 t).zip pres) (by rw [compileN_paths, hk])
    (by rw [List.nil_append, hk]; exact leafPaths_nodup t [] 0)
  rw [List.nil_append, List.map_snd_zip (Nat.le_of_eq h)] at hr
  rw [hr]
  cases runSeq q (compileN [] [] 0 t) pres <;> rfl

/-- every field of the tree is outside the known-finding classes -/
def NoClass (q : NReq) (t : Forest) : Prop := ∀ x ∈ fieldCtx [] (some []) t, nestedClass q x = ""

/-- `NoClass` through the boolean class predicates: decidable on concrete trees and requests (`noClass_of`) -/
def NoClassB (q : NReq) (t : Forest) : Prop :=
  ∀ x ∈ fieldCtx [] (some []) t,
    clsWaived q x.2.2.1 x.1 = false ∧ clsPathExtra q x.2.2.1 x.2.2.2 = false ∧
    clsSonicU32 x.1 (focus q x.2.2.1) = false ∧ clsDashOnly x.1 = false ∧ clsJsonDash x.1 = false ∧
    clsPrebindExtra x.1 (focus q x.2.2.1) = false

instance (q : NReq) (t : Forest) : Decidable (NoClassB q t) := by unfold NoClassB; infer_instance

theorem noClass_of {q : NReq} {t : Forest} (h : NoClassB q t) : NoClass q t := by
  intro x hx
  obtain ⟨h1, h2, h3, h4, h5, h6⟩ := h x hx
  unfold nestedClass
  simp only [h1, h2, Bool.false_eq_true, if_false]
  exact fieldClass_empty.2 ⟨h3, h4, h5, h6⟩

theorem bindNWith_refines (t : Forest) (q : NReq) (hwf : ForestWF t) (hc : NoClass q t) :
    bindNWith (compileN [] [] 0 t) t q =
      (match preBindN false q t with
        | .err => .err .body
        | .unk => .unk
        | .ok _ => specForest q [] t) := by
  unfold bindNWith
  rw [preBindN_sonic q t hc]
  cases hpb : preBindN false q t with
  | err => rfl
  | unk => rfl
  | ok pres =>
    simp only
    have hpres : preSpec q [] t = pres.map .ok := by
      rcases preBindN_ok hpb with ⟨hj, ⟨top, hb⟩, hl⟩ | ⟨hj, rfl⟩
      · rw [← hl, preLeaves_eq false q top hj hb t [] (some []) hc]
      · rw [preSpec_unset q hj, List.map_map]; rfl
    have h := runSeq_forest q t [] [] (some []) 0 pres [] [] hwf hc hpres
    rw [List.append_nil, List.append_nil] at h
    rw [runN_compileN q t pres (preBindN_length false q t pres hpb), h]
    cases specForest q [] t <;> simp [appendOut, runSeq]

theorem bindN_delivery (t : Forest) (q : NReq) (s s' : BodySt) (h : s ≠ .drained) (h' : s' ≠ .drained) :
    (bindN t { q with st := s }).1 = (bindN t { q with st := s' }).1 :=
  congrArg (bindNWith _ t) (seen_st { q with st := s' } s h h')

end Hertz.Bind

