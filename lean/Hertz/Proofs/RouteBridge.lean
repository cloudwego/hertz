import Hertz.Proofs.RouteDefs
/-!
Bridge between the two formulations of route-pattern matching: token lists of `Spec.Route`
(`matchToks`, `prefer`) and keys (`matchS`, `preferS`; a key is a pattern with the parameter names
removed).
-/
namespace Hertz.Route
open Hertz.Spec.Route

/-- key of a token list -/
def strip : List Tok → Bytes
  | [] => []
  | .lit c :: t => c :: strip t
  | .param _ :: t => 58 :: strip t
  | .any _ :: _ => [42]

/-- parameter names of a token list, in order (a catch-all ends the pattern) -/
def names : List Tok → List Bytes
  | [] => []
  | .lit _ :: t => names t
  | .param n :: t => n :: names t
  | .any n :: _ => [n]

/-- all literal tokens are real literals -/
def LitOK : List Tok → Prop
  | [] => True
  | .lit c :: t => c ≠ 58 ∧ c ≠ 42 ∧ LitOK t
  | .param _ :: t => LitOK t
  | .any _ :: _ => True

/-- a catch-all token is the last token -/
def AnyLast : List Tok → Prop
  | [] => True
  | .lit _ :: t => AnyLast t
  | .param _ :: t => AnyLast t
  | .any _ :: t => t = []

theorem seg_eq (p : Bytes) : seg p = segValue p := rfl
theorem afterSeg_eq (p : Bytes) : afterSeg p = segRest p := rfl

theorem seg_append_afterSeg (p : Bytes) : seg p ++ afterSeg p = p := by
  unfold seg afterSeg; exact List.takeWhile_append_dropWhile

theorem parseGo_litOK (nm : Option Bytes) (p : Bytes) : LitOK (parseGo nm p) := by
  fun_induction parseGo nm p <;> simp_all [LitOK]

theorem parse_litOK (p : Bytes) : LitOK (parsePattern p) := parseGo_litOK none p

theorem parseGo_anyLast (nm : Option Bytes) (p : Bytes) : AnyLast (parseGo nm p) := by
  fun_induction parseGo nm p <;> simp_all [AnyLast]

theorem parse_anyLast (p : Bytes) : AnyLast (parsePattern p) := parseGo_anyLast none p

theorem matchS_lit_cons {c : UInt8} {k s : Bytes} (h1 : c ≠ 58) (h2 : c ≠ 42) :
    matchS (c :: k) s = match s with
      | [] => none
      | d :: s' => if c = d then matchS k s' else none := by
  cases s <;> simp [matchS, h1, h2]

theorem matchS_lit_prefix {pfx k s : Bytes} (h : Lit pfx) :
    matchS (pfx ++ k) s = if pfx.isPrefixOf s then matchS k (s.drop pfx.length) else none := by
  induction pfx generalizing s with
  | nil => simp
  | cons c pfx ih =>
    have hc := h c (by simp)
    have hl : Lit pfx := fun x hx => h x (by simp [hx])
    rw [List.cons_append, matchS_lit_cons hc.1 hc.2]
    cases s with
    | nil => simp
    | cons d s' =>
      by_cases e : c = d
      · subst e; simp [ih hl]
      · simp [e]

theorem matchS_lit_append (pfx k s : Bytes) (h : Lit pfx) :
    matchS (pfx ++ k) (pfx ++ s) = matchS k s := by
  rw [matchS_lit_prefix h]; simp

theorem preferS_append (pfx a b : Bytes) : preferS (pfx ++ a) (pfx ++ b) = preferS a b := by
  induction pfx with
  | nil => rfl
  | cons c pfx ih => simp [preferS, ih]

theorem matchS_strip (ts : List Tok) (p : Bytes) (h : LitOK ts) :
    matchS (strip ts) p = (matchToks ts p).map (fun ps => ps.map Prod.snd) := by
  induction ts generalizing p with
  | nil => cases p <;> simp [strip, matchS, matchToks]
  | cons t ts ih =>
    cases t with
    | lit c =>
      obtain ⟨h1, h2, h3⟩ := h
      rw [strip, matchS_lit_cons h1 h2]
      cases p with
      | nil => simp [matchToks]
      | cons d p' =>
        by_cases e : c = d
        · simp [matchToks, e, ih p' h3]
        · simp [matchToks, e]
    | param nm =>
      have h3 : LitOK ts := h
      simp only [strip, matchS, matchToks]
      by_cases e : p.isEmpty = true
      · simp [e]
      · simp only [e, if_true, if_false, Bool.false_eq_true]
        rw [ih _ h3, ← afterSeg_eq, ← seg_eq]
        cases matchToks ts (afterSeg p) <;> simp
    | any nm => simp [strip, matchS, matchToks]

/-- A successful match binds the names of the pattern, in order, to substrings of the path: substituting them back
into the pattern gives the path. -/
theorem matchToks_some (ts : List Tok) (p : Bytes) (ps : List (Bytes × Bytes)) (h : matchToks ts p = some ps) :
    ps.map Prod.fst = names ts ∧ zipKeys (names ts) (ps.map Prod.snd) = ps ∧ instantiate ts ps = p := by
  fun_induction matchToks ts p generalizing ps with
  | case1 => cases h; exact ⟨rfl, rfl, rfl⟩
  | case4 ts c p ih => exact ⟨(ih ps h).1, (ih ps h).2.1, congrArg (c :: ·) (ih ps h).2.2⟩
  | case8 nm ts p _ r hm ih =>
    cases h
    exact ⟨congrArg (nm :: ·) (ih r hm).1, congrArg ((nm, seg p) :: ·) (ih r hm).2.1,
      (congrArg (seg p ++ ·) (ih r hm).2.2).trans (seg_append_afterSeg p)⟩
  | case9 => cases h; exact ⟨rfl, rfl, rfl⟩
  | case2 | case3 | case5 | case6 | case7 => cases h

theorem wild_strip (ts : List Tok) (h : LitOK ts) : wild (strip ts) = (names ts).length := by
  induction ts with
  | nil => simp [strip, names, wild]
  | cons t ts ih =>
    cases t with
    | lit c =>
      obtain ⟨h1, h2, h3⟩ := h
      have := ih h3
      unfold wild at this ⊢
      simp [strip, names, h1, h2, this]
    | param nm =>
      have := ih (show LitOK ts from h)
      unfold wild at this ⊢
      simp [strip, names, ← this]
      omega
    | any nm => simp [strip, names, wild]

theorem rankB_lit (c : UInt8) (h1 : c ≠ 58) (h2 : c ≠ 42) : rankB c = 1 := by simp [rankB, h1, h2]
theorem rankB_param : rankB 58 = 2 := by decide
theorem rankB_any : rankB 42 = 3 := by decide

theorem strip_ne_nil (t : Tok) (ts : List Tok) : strip (t :: ts) ≠ [] := by
  cases t <;> simp [strip]

/-- Needs `AnyLast a` (tokens after a catch-all are invisible to `strip` but not to `prefer`);
holds for every parsed pattern (`parse_anyLast`). -/
theorem preferS_strip (a b : List Tok) (ha : LitOK a) (hb : LitOK b) (hl : AnyLast a) :
    preferS (strip a) (strip b) = prefer a b := by
  induction a generalizing b with
  | nil => simp [strip, preferS, prefer]
  | cons x a ih =>
    cases b with
    | nil => cases x <;> simp [strip, preferS, prefer]
    | cons y b =>
      cases x with
      | lit c =>
        obtain ⟨c1, c2, ha⟩ := ha
        cases y with
        | lit d =>
          obtain ⟨d1, d2, hb⟩ := hb
          by_cases e : c = d
          · simp [strip, preferS, prefer, sameShape, e, ih b ha hb hl]
          · simp [strip, preferS, prefer, sameShape, e, rank, rankB_lit, c1, c2, d1, d2]
        | param n => simp [strip, preferS, prefer, sameShape, rank, rankB_lit, c1, c2, rankB_param]
        | any n => simp [strip, preferS, prefer, sameShape, rank, rankB_lit, c1, c2, rankB_any]
      | param m =>
        cases y with
        | lit d =>
          obtain ⟨d1, d2, hb⟩ := hb
          simp [strip, preferS, prefer, sameShape, rank, rankB_lit, d1, d2, rankB_param, Ne.symm d1]
        | param n => simp [strip, preferS, prefer, sameShape, ih b ha hb hl]
        | any n => simp [strip, preferS, prefer, sameShape, rank, rankB_param, rankB_any]
      | any m =>
        cases y with
        | lit d =>
          obtain ⟨d1, d2, hb⟩ := hb
          simp [strip, preferS, prefer, sameShape, rank, rankB_lit, d1, d2, rankB_any, Ne.symm d2]
        | param n => simp [strip, preferS, prefer, sameShape, rank, rankB_param, rankB_any]
        | any n =>
          have : a = [] := hl
          subst this
          simp [strip, preferS, prefer, sameShape]

theorem preferS_strip_parse (p q : Bytes) :
    preferS (strip (parsePattern p)) (strip (parsePattern q)) = prefer (parsePattern p) (parsePattern q) :=
  preferS_strip _ _ (parse_litOK p) (parse_litOK q) (parse_anyLast p)

theorem preferS_refl (a : Bytes) : preferS a a = true := by
  induction a with
  | nil => rfl
  | cons x a ih => simp [preferS, ih]

theorem preferS_antisymm (a b : Bytes) : preferS a b = true → preferS b a = true → a = b := by
  induction a generalizing b with
  | nil => cases b <;> simp [preferS]
  | cons x a ih =>
    cases b with
    | nil => simp [preferS]
    | cons y b =>
      by_cases e : x = y
      · subst e; simp only [preferS, if_true]; intro h1 h2; rw [ih b h1 h2]
      · have e' : ¬ y = x := fun h => e h.symm
        simp only [preferS, e, e', if_false, decide_eq_true_eq]; intro h1 h2; omega

theorem preferS_trans (a b c : Bytes) : preferS a b = true → preferS b c = true → preferS a c = true := by
  induction a generalizing b c with
  | nil => simp [preferS]
  | cons x a ih =>
    cases b with
    | nil => simp [preferS]
    | cons y b =>
      cases c with
      | nil => simp [preferS]
      | cons z c =>
        by_cases e1 : x = y
        · subst e1
          by_cases e2 : x = z
          · subst e2; simp only [preferS, if_true]; exact ih b c
          · simp only [preferS, e2, if_true, if_false]; intro _ h; exact h
        · by_cases e2 : y = z
          · subst e2; simp only [preferS, e1, if_true, if_false]; intro h _; exact h
          · simp only [preferS, e1, e2, if_false, decide_eq_true_eq]
            intro h1 h2
            have e3 : x ≠ z := by intro h; subst h; omega
            simp only [e3, if_false, decide_eq_true_eq]; omega

theorem prefer_refl (a : List Tok) : prefer a a = true := by
  induction a with
  | nil => rfl
  | cons x a ih => cases x <;> simp [prefer, sameShape, ih]


/-- a catch-all marker is the last byte of the key -/
def StarLast : Bytes → Prop
  | [] => True
  | c :: k => (c = 42 → k = []) ∧ StarLast k

theorem strip_starLast (ts : List Tok) (h : LitOK ts) (hl : AnyLast ts) : StarLast (strip ts) := by
  induction ts with
  | nil => simp [strip, StarLast]
  | cons t ts ih =>
    cases t with
    | lit c =>
      obtain ⟨_, h2, h3⟩ := h
      exact ⟨fun e => absurd e h2, ih h3 hl⟩
    | param n => exact ⟨fun e => by simp at e, ih h hl⟩
    | any n => simp [strip, StarLast]

theorem rankB_eq (x y : UInt8) (h : rankB x = rankB y) (e : x ≠ y) :
    (x ≠ 58 ∧ x ≠ 42) ∧ (y ≠ 58 ∧ y ≠ 42) := by
  unfold rankB at h
  by_cases x1 : x = 58 <;> by_cases x2 : x = 42 <;> by_cases y1 : y = 58 <;> by_cases y2 : y = 42 <;>
    simp_all

/-- two keys that match the same path are comparable (keys with the catch-all marker last; without
that restriction `[42,1]` and `[42,2]` both match everything and are incomparable) -/
theorem preferS_total (a b p : Bytes) (ha : StarLast a) (hb : StarLast b)
    (ma : matchS a p ≠ none) (mb : matchS b p ≠ none) : preferS a b = true ∨ preferS b a = true := by
  induction a generalizing b p with
  | nil => simp [preferS]
  | cons x a ih =>
    cases b with
    | nil => simp [preferS]
    | cons y b =>
      by_cases e : x = y
      · subst e
        simp only [preferS, if_true]
        by_cases x1 : x = 58
        · subst x1
          simp only [matchS, if_true] at ma mb
          by_cases pe : p.isEmpty = true
          · simp [pe] at ma
          · simp only [pe, if_false, Bool.false_eq_true] at ma mb
            apply ih b (segRest p) ha.2 hb.2
            · intro h; simp [h] at ma
            · intro h; simp [h] at mb
        · by_cases x2 : x = 42
          · have : a = [] := ha.1 x2
            subst this; simp [preferS]
          · rw [matchS_lit_cons x1 x2] at ma mb
            cases p with
            | nil => simp at ma
            | cons d p' =>
              by_cases xd : x = d
              · simp only [xd, if_true] at ma mb
                exact ih b p' ha.2 hb.2 ma mb
              · simp [xd] at ma
      · have e' : ¬ y = x := fun h => e h.symm
        simp only [preferS, e, e', if_false, decide_eq_true_eq]
        by_cases hr : rankB x = rankB y
        · exfalso
          obtain ⟨⟨x1, x2⟩, ⟨y1, y2⟩⟩ := rankB_eq x y hr e
          rw [matchS_lit_cons x1 x2] at ma
          rw [matchS_lit_cons y1 y2] at mb
          cases p with
          | nil => simp at ma
          | cons d p' =>
            by_cases xd : x = d
            · by_cases yd : y = d
              · exact e (xd.trans yd.symm)
              · simp [yd] at mb
            · simp [xd] at ma
        · omega

theorem prefer_trans_parse (q1 q2 q3 : Bytes)
    (h1 : prefer (parsePattern q1) (parsePattern q2) = true)
    (h2 : prefer (parsePattern q2) (parsePattern q3) = true) :
    prefer (parsePattern q1) (parsePattern q3) = true := by
  rw [← preferS_strip_parse] at h1 h2 ⊢
  exact preferS_trans _ _ _ h1 h2

theorem prefer_total_parse (q1 q2 p : Bytes)
    (h1 : (matchToks (parsePattern q1) p).isSome = true)
    (h2 : (matchToks (parsePattern q2) p).isSome = true) :
    prefer (parsePattern q1) (parsePattern q2) = true ∨ prefer (parsePattern q2) (parsePattern q1) = true := by
  rw [← preferS_strip_parse, ← preferS_strip_parse]
  apply preferS_total _ _ p (strip_starLast _ (parse_litOK _) (parse_anyLast _))
    (strip_starLast _ (parse_litOK _) (parse_anyLast _))
  · rw [matchS_strip _ _ (parse_litOK _)]
    cases hm : matchToks (parsePattern q1) p <;> simp [hm] at h1 ⊢
  · rw [matchS_strip _ _ (parse_litOK _)]
    cases hm : matchToks (parsePattern q2) p <;> simp [hm] at h2 ⊢

theorem matches_some {r : Route} {m p : Bytes} {ps : List (Bytes × Bytes)} (h : r.matches m p = some ps) :
    r.method = m ∧ matchToks (parsePattern r.pattern) p = some ps := by
  unfold Route.matches at h
  split at h
  · exact ⟨‹_›, h⟩
  · cases h

theorem selected_unique (rs : List Route) (m p : Bytes) (r r' : Route) (ps ps' : List (Bytes × Bytes))
    (h : Selected rs m p r ps) (h' : Selected rs m p r' ps') :
    strip (parsePattern r.pattern) = strip (parsePattern r'.pattern) := by
  obtain ⟨hin, hm, hb⟩ := h
  obtain ⟨hin', hm', hb'⟩ := h'
  have a := hb r' hin' (by simp [hm'])
  have b := hb' r hin (by simp [hm])
  rw [← preferS_strip_parse] at a b
  exact preferS_antisymm _ _ a b

theorem selected_perm (rs rs' : List Route) (hp : ∀ x, x ∈ rs ↔ x ∈ rs') (m p : Bytes) (r : Route)
    (ps : List (Bytes × Bytes)) : Selected rs m p r ps ↔ Selected rs' m p r ps := by
  unfold Selected
  constructor
  · rintro ⟨a, b, c⟩; exact ⟨(hp r).1 a, b, fun r' hr' => c r' ((hp r').2 hr')⟩
  · rintro ⟨a, b, c⟩; exact ⟨(hp r).2 a, b, fun r' hr' => c r' ((hp r').1 hr')⟩

theorem noMatch_perm (rs rs' : List Route) (hp : ∀ x, x ∈ rs ↔ x ∈ rs') (m p : Bytes) :
    NoMatch rs m p ↔ NoMatch rs' m p := by
  unfold NoMatch
  constructor
  · intro h r hr; exact h r ((hp r).2 hr)
  · intro h r hr; exact h r ((hp r).1 hr)

theorem selected_noMatch_excl (rs : List Route) (m p : Bytes) (r : Route) (ps : List (Bytes × Bytes)) :
    Selected rs m p r ps → ¬ NoMatch rs m p := by
  rintro ⟨hin, hm, _⟩ hn
  rw [hn r hin] at hm
  cases hm

/-- invariant of `selectGo`: `best` is the selection among the routes seen so far -/
def SelInv (m p : Bytes) (seen : List Route) : Option (Route × List (Bytes × Bytes)) → Prop
  | none => NoMatch seen m p
  | some (b, bps) => Selected seen m p b bps

theorem selected_keep {m p : Bytes} {seen : List Route} {b r : Route} {bps : List (Bytes × Bytes)}
    (h : Selected seen m p b bps)
    (hr : (r.matches m p).isSome = true → prefer (parsePattern b.pattern) (parsePattern r.pattern) = true) :
    Selected (seen ++ [r]) m p b bps :=
  ⟨List.mem_append_left _ h.1, h.2.1, fun x hx hs => (List.mem_append.mp hx).elim (fun hx => h.2.2 x hx hs)
    fun hx => by cases List.mem_singleton.mp hx; exact hr hs⟩

theorem selected_take {m p : Bytes} {seen : List Route} {r : Route} {ps : List (Bytes × Bytes)}
    (hm : r.matches m p = some ps)
    (hr : ∀ x ∈ seen, (x.matches m p).isSome = true → prefer (parsePattern r.pattern) (parsePattern x.pattern) = true) :
    Selected (seen ++ [r]) m p r ps :=
  ⟨List.mem_append_right _ (List.mem_singleton_self r), hm, fun x hx hs => (List.mem_append.mp hx).elim (fun hx => hr x hx hs)
    fun hx => by cases List.mem_singleton.mp hx; exact prefer_refl _⟩

theorem selectGo_inv (m p : Bytes) (rs : List Route) : ∀ (seen : List Route) best, SelInv m p seen best →
    SelInv m p (seen ++ rs) (selectGo m p best rs) := by
  induction rs with
  | nil =>
    intro seen best h
    rwa [List.append_nil]
  | cons r rs ih =>
    intro seen best h
    have step : ∀ best', SelInv m p (seen ++ [r]) best' → SelInv m p (seen ++ r :: rs) (selectGo m p best' rs) :=
      fun best' h' => List.append_assoc seen [r] rs ▸ ih _ best' h'
    unfold selectGo
    cases hm : r.matches m p with
    | none =>
      simp only
      apply step
      cases best with
      | none => exact fun x hx => (List.mem_append.mp hx).elim (h x) fun hx => List.mem_singleton.mp hx ▸ hm
      | some bb => exact selected_keep h fun hs => by simp [hm] at hs
    | some ps =>
      simp only
      cases best with
      | none =>
        simp only
        exact step _ (selected_take hm fun x hx hs => by simp [h x hx] at hs)
      | some bb =>
        obtain ⟨b, bps⟩ := bb
        simp only
        by_cases hpf : prefer (parsePattern b.pattern) (parsePattern r.pattern) = true
        · simp only [hpf, if_true]
          exact step _ (selected_keep h fun _ => hpf)
        · simp only [hpf, if_false, Bool.false_eq_true]
          -- `r` and `b` both match `p`, so they are comparable
          have hrb : prefer (parsePattern r.pattern) (parsePattern b.pattern) = true :=
            (prefer_total_parse b.pattern r.pattern p (by rw [(matches_some h.2.1).2]; rfl)
              (by rw [(matches_some hm).2]; rfl)).resolve_left hpf
          exact step _ (selected_take hm fun x hx hs => prefer_trans_parse _ _ _ hrb (h.2.2 x hx hs))

theorem select_inv (rs : List Route) (m p : Bytes) : SelInv m p rs (select rs m p) :=
  selectGo_inv m p rs [] none fun _ h => nomatch h

end Hertz.Route
