import Hertz.Proofs.ReqRoundtripOws
import Hertz.Spec.Trailers
/-!
C01: trailer sections that differ from their announcement, and the announcement in every spelling.

`ext.ReadTrailer` on any section is `readTrailerReq_any` (`Proofs/ReqOwsLine.lean`).  Here: `Trailer.SetTrailers` on
any value (`setTrailers_list`), and the requests whose trailer section is any list of well-formed field lines (`wfOReqT`,
with what the handler is to see of them, `expectedSeenT`): they are the requests `WfAny` of the round trip
(`Proofs/ReqAny.lean`).
-/
namespace Hertz.H1.RT
open Hertz Hertz.H1 Hertz.Gen.Str Hertz.Spec.Http Hertz.Spec.Trailers

/-! ### the `Trailer` declaration in every spelling (`Trailer.SetTrailers`) -/

theorem splitOn_eq_splitOnComma : ∀ v : Bytes, splitOn 44 v = splitOnComma v
  | [] => rfl
  | c :: t => by
    have ih := splitOn_eq_splitOnComma t
    simp only [splitOn, splitOnComma, ih]
    rfl

theorem splitOn_snoc (sep : UInt8) : ∀ a : Bytes, splitOn sep (a ++ [sep]) = splitOn sep a ++ [[]]
  | [] => by simp [splitOn]
  | c :: a => by
    have ih := splitOn_snoc sep a
    by_cases hc : c = sep
    · simp [splitOn, hc, ih]
    · simp only [List.cons_append, splitOn, hc, if_false, ih]
      cases hs : splitOn sep a with
      | nil => exact absurd hs (splitOn_ne_nil sep a)
      | cons s r => simp

theorem splitOn_mem (sep : UInt8) : ∀ (v : Bytes), ∀ e ∈ splitOn sep v, ∀ c ∈ e, c ∈ v := by
  intro v
  fun_induction splitOn sep v with
  | case1 => simp
  | case2 t ih =>
    intro e he x hx
    rcases List.mem_cons.mp he with rfl | he
    · simp at hx
    · exact List.mem_cons_of_mem _ (ih e he x hx)
  | case3 c t hc hs ih => simp
  | case4 c t hc s r hs ih =>
    rw [hs] at ih
    intro e he x hx
    rcases List.mem_cons.mp he with rfl | he
    · rcases List.mem_cons.mp hx with rfl | hx
      · simp
      · exact List.mem_cons_of_mem _ (ih s (by simp) x hx)
    · exact List.mem_cons_of_mem _ (ih e (by simp [he]) x hx)

theorem dropWhile_ext (p q : UInt8 → Bool) : ∀ l : Bytes, (∀ x ∈ l, p x = q x) → l.dropWhile p = l.dropWhile q
  | [], _ => rfl
  | c :: t, h => by
    have hc := h c (by simp)
    have ih := dropWhile_ext p q t (fun x hx => h x (by simp [hx]))
    simp only [List.dropWhile_cons, hc, ih]

/-- what `Trailer.AddTrailers` strips around a list element is the optional whitespace of RFC 7230 -/
theorem stripOWS_eq_trimOWS : stripOWS = trimOWS := rfl

/-- `Trailer.SetTrailers` on ANY value = the RFC 7230 `#field-name` list rule (elements separated by
commas, optional whitespace around them stripped, empty elements ignored), then: names normalised, forbidden names
dropped, and the declaration is refused exactly when its LAST element is forbidden. -/
theorem setTrailers_list (dn : Bool) (v : Bytes) :
    setTrailers dn v =
      (((listElems v).map (normalizeKey dn)).filter (fun k => !isBadTrailer k),
       match ((listElems v).map (normalizeKey dn)).getLast? with
       | some k => isBadTrailer k
       | none => false) := by
  unfold setTrailers listElems
  by_cases hv : v = []
  · subst hv; simp [splitOnComma, trimOWS]
  · have hve : v.isEmpty = false := by simpa using hv
    simp only [hve, Bool.false_eq_true, if_false]
    rw [← splitOn_eq_splitOnComma]
    by_cases hl : v.getLast? = some 44
    · -- a trailing comma: the code drops the empty last element, the list rule ignores it
      obtain ⟨a, rfl⟩ := List.getLast?_eq_some_iff.mp hl
      have e3 : ((splitOn 44 (a ++ [44])).map trimOWS).filter (fun e => !e.isEmpty) =
          ((splitOn 44 a).map trimOWS).filter (fun e => !e.isEmpty) := by
        rw [splitOn_snoc]; simp [trimOWS]
      simp only [hl, if_true, e3, stripOWS_eq_trimOWS]
      rw [splitOn_snoc, List.dropLast_concat]
      rfl
    · simp only [hl, if_false, stripOWS_eq_trimOWS]
      rfl

/-! ### requests whose trailer section is ANY list of well-formed field lines -/

/-- `wfOReq` with the clause "the trailer section's names are the announced names, in order" replaced by "the last
field of the trailer section is not a forbidden trailer field" (a section that ends in one is answered 400,
`readTrailerReq_any`): the section may leave out announced names, contain names that were not announced, repeat names,
in any order. -/
def wfOReqT (dn : Bool) (r : OReq) : Bool :=
  match r.body with
  | .chunked cs last trs =>
    isToken r.method && wfTarget r.target && r.fields.all wfFLine && trs.all wfFLine &&
    (seenW r).fields.all (fun kv => cls kv.1 != .trailer || declOk dn kv.2) &&
    (!hasCls .cl (seenW r).fields && (teFields (seenW r).fields).length == 1 &&
      (teFields (seenW r).fields).all (fun kv => lowerAll kv.2 == sChunked) &&
      cs.all wfChunk && decide (last.length ≤ 15) && parseHex last == some 0) &&
    !lastBad dn trs
  | _ => wfOReq dn r

/-- what the handler is to see: as `expectedSeen`, the trailers being the specification's view of the section -/
def expectedSeenT (dn : Bool) (r : OReq) : Seen :=
  { expectedSeen dn (seenW r) with
    trailers := match r.body with
      | .chunked _ _ trs => specTrailerView (pickT dn (seenW r).fields []) (secSeen dn trs)
      | _ => (expectedSeen dn (seenW r)).trailers }

theorem wfOReqT_iff {dn : Bool} {r : OReq} : wfOReqT dn r = true ↔ WfAny dn r := by
  -- not chunked: `wfOReqT` is `wfOReq`, and the clause on the section's names is void
  have hno : (∀ cs l trs, (seenW r).body ≠ .chunked cs l trs) → wfOReqT dn r = wfOReq dn r →
      (wfOReqT dn r = true ↔ WfAny dn r) :=
    fun hc hT => hT ▸ ⟨.of_wfOReq, fun W => wfOReq_iff.mpr ⟨W, fun cs l trs e => absurd e (hc cs l trs)⟩⟩
  have hsb : (seenW r).body = r.body.toW hField := rfl
  cases hb : r.body with
  | none => exact hno (fun _ _ _ e => by rw [hsb, hb] at e; cases e) (by simp only [wfOReqT, hb])
  | fixed b => exact hno (fun _ _ _ e => by rw [hsb, hb] at e; cases e) (by simp only [wfOReqT, hb])
  | chunked cs last trs =>
    have hb' := seenW_chunked hb
    simp only [wfOReqT, hb, Bool.and_eq_true, List.all_eq_true, Bool.or_eq_true, bne_iff_ne, ne_eq, Bool.not_eq_true',
      beq_iff_eq, decide_eq_true_eq, ← Decidable.imp_iff_not_or]
    constructor
    · rintro ⟨⟨⟨⟨⟨⟨h1, h2⟩, h3⟩, h4⟩, h5⟩, ⟨⟨⟨⟨⟨h6, h7⟩, h8⟩, h9⟩, h10⟩, h11⟩⟩, h12⟩
      exact ⟨h1, h2, h3, (by rw [hb]; exact h4), h5, (by rw [hb']; exact ⟨h6, h7, h8, h9, h10, h11⟩),
        fun b e => (by rw [hb'] at e; cases e), (by rw [hb]; exact h12)⟩
    · intro W
      obtain ⟨h6, h7, h8, h9, h10, h11⟩ : framingOk _ (.chunked cs last _) := hb' ▸ W.hfr
      exact ⟨⟨⟨⟨⟨⟨W.hm, W.ht⟩, W.hf⟩, by simpa only [hb, OBody.trailers] using W.htw⟩, W.hdecl⟩,
        ⟨⟨⟨⟨⟨h6, h7⟩, h8⟩, h9⟩, h10⟩, h11⟩⟩, by simpa only [hb, OBody.trailers] using W.hlb⟩

/-- on `wfOReq` requests every entry takes its own field: the handler is to see `expectedSeen` of its reading -/
theorem expectedSeenT_eq {dn : Bool} {r : OReq} (h : wfOReq dn r = true) :
    expectedSeenT dn r = expectedSeen dn (seenW r) := by
  obtain ⟨W, hn⟩ := wfOReq_iff.mp h
  cases hb : r.body with
  | none | fixed => simp only [expectedSeenT, hb]
  | chunked cs l trs =>
    have hb' := seenW_chunked hb
    have hn := hn cs l _ hb'
    have hsec : secSeen dn trs = trs.map (tField dn) :=
      List.filter_eq_self.mpr (fun kv hkv => by
        obtain ⟨f, hf, rfl⟩ := List.mem_map.mp hkv
        simp [tField, section_notbad W.hdecl hn f hf])
    have hnames : pickT dn (seenW r).fields [] = (trs.map (tField dn)).map (·.1) := by
      rw [← hn]; simp [tField, hField]
    simp only [expectedSeenT, hb, hsec, hnames, specTrailerView_self]
    simp [expectedSeen, hb', normT, tField, hField]

end Hertz.H1.RT
