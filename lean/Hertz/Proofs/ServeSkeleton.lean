import Hertz.Model.ServeSkeleton
import Hertz.Gen.ServeSkeleton
import Hertz.Proofs.Tracer
/-!
C19 — facts about the control-flow skeleton `serveSk` of `Server.Serve`, checked by the kernel; the tree is
tied to the tokens regenerated from the Go source (`Hertz.Gen.ServeSkeleton`) by `Props.C19.model_matches_gen`.
-/
namespace Hertz.Tracer

/-- position of a name in a generated list (`l.length` when missing) -/
def posOf (l : List String) (s : String) : Nat :=
  match l with
  | [] => 0
  | x :: t => if x == s then 0 else posOf t s + 1

/-- index and level of every predefined event are the ones `event.go` declares, and the event table has
`predefinedEventNum` slots -/
def eventsMatchGen : Bool :=
  Ev.all.all (fun e =>
    match Hertz.Gen.ServeSkeleton.events.find? (fun x => x.1 == e.goName) with
    | some (_, ic, lc) =>
      posOf Hertz.Gen.ServeSkeleton.eventIndices ic == e.index && posOf Hertz.Gen.ServeSkeleton.levels lc == e.level
    | none => false) &&
  posOf Hertz.Gen.ServeSkeleton.eventIndices "predefinedEventNum" == maxEventNum &&
  Hertz.Gen.ServeSkeleton.events.length == 10

/-! `eventMap[idx]` never indexes out of range, and two events never share a slot -/
theorem index_in_range (e : Ev) : e.index < maxEventNum := by cases e <;> decide

theorem index_injective (a b : Ev) (h : a.index = b.index) : a = b := by
  cases a <;> cases b <;> first | rfl | (simp [Ev.index] at h)

/-- what "balanced" means for the end state of a path through one loop iteration -/
def PSt.balanced (en : Bool) (r : PSt × Bool) : Bool :=
  -- discipline respected (no Start while open, no Finish without Start, no pop from an empty stack,
  -- push/pop only on an allocated stack) …
  r.1.ok &&
  -- … every pushed closure has been popped (and therefore run) …
  r.1.stack.isEmpty &&
  -- … no Start is left without its Finish …
  !r.1.opened &&
  -- … and a path that reaches the loop end restores the loop-head state
  (r.2 || (!r.1.started && r.1.hasStack == en))

/-! ### the end states of the paths

`Sk.exec` forks at every opaque condition, and most forks rejoin in the same bookkeeping: one loop iteration has 722
paths with tracing (362 without) and 16 (5) different end states.  The two facts below ask only which end states
there are, so they are checked on `Sk.execD`, which merges equal states wherever branches join. -/

def Sk.execD (en : Bool) : Sk → PSt → List (PSt × Bool)
  | .nil, s => [(s, false)]
  | .atom a n, s =>
    match a with
    | .ret _ => [(s, true)]
    | .serveHTTP => (s.step a, true) :: n.execD en (s.step a)
    | _ => n.execD en (s.step a)
  | .iff c t e n, s =>
    let bs := match c with
      | .enableTrace => if en then t.execD en s else e.execD en s
      | .traceStarted => if s.started then t.execD en s else e.execD en s
      | .hasStack => if s.hasStack then t.execD en s else e.execD en s
      | .other => t.execD en s ++ e.execD en s
    (bs.eraseDups.flatMap (fun r => if r.2 then [r] else n.execD en r.1)).eraseDups
  | .loop b _, s => b.execD en s
  | .defer _ n, s => n.execD en s

theorem Sk.mem_execD (en : Bool) (r : PSt × Bool) : ∀ (sk : Sk) (s : PSt), r ∈ sk.execD en s ↔ r ∈ sk.exec en s
  | .nil, _ => Iff.rfl
  | .atom a n, s => by
    cases a <;> simp only [Sk.execD, Sk.exec, List.mem_cons, Sk.mem_execD en r n]
  | .iff c t e n, s => by
    simp only [Sk.execD, Sk.exec, List.mem_eraseDups, List.mem_flatMap]
    refine exists_congr fun q => and_congr ?_ ?_
    · cases c <;> simp only [] <;> (try split) <;>
        simp only [List.mem_append, Sk.mem_execD en q t s, Sk.mem_execD en q e s]
    · split
      · exact Iff.rfl
      · exact Sk.mem_execD en r n q.1
  | .loop b _, s => Sk.mem_execD en r b s
  | .defer _ n, s => Sk.mem_execD en r n s

def iterPathsD (en : Bool) : List (PSt × Bool) :=
  ((serveSk.execD en {}).flatMap (fun r =>
    if r.2 then (deferSk.execD en r.1).map (fun d => (d.1, true)) else [r])).eraseDups

theorem mem_iterPathsD (en : Bool) (r : PSt × Bool) : r ∈ iterPathsD en ↔ r ∈ iterPaths en := by
  simp only [iterPathsD, iterPaths, List.mem_eraseDups, List.mem_flatMap, Sk.mem_execD]
  refine exists_congr fun q => and_congr_right fun _ => ?_
  split
  · simp only [List.mem_map, Sk.mem_execD]
  · exact Iff.rfl

/-- a pass depends on its position in the connection and on the idle-wait answer only through `idles` -/
theorem iterStep_idles (cfg : Cfg) (first : Bool) (it : Iter) : iterStep cfg first it =
    if idles first it then iterStep cfg false ⟨true, .handled .next⟩ else iterStep cfg true ⟨false, it.outcome⟩ := by
  obtain ⟨pf, oc⟩ := it
  cases first <;> cases pf <;> simp [iterStep_eq, passForm, goesRound, idles]

/-- the pass is one of the paths of the skeleton, action for action -/
def followsSk (cfg : Cfg) (first : Bool) (it : Iter) : Bool :=
  (iterPathsD cfg.enableTrace).any (fun r =>
    r.1.acts == eraseActs (iterStep cfg first it).1 && r.2 == (iterStep cfg first it).2.isNone)

/-- Every end state is balanced, and every pass of the functional model `iter` (+ `epilogue`) ends in one of them: the
pass cut short by the idle wait, and a pass that got past it for every outcome.  One evaluation, so that the end states
are enumerated once. -/
def pathsOK (en : Bool) : Bool :=
  (iterPathsD en).all (PSt.balanced en) &&
  [true, false].all fun iz =>
    followsSk ⟨en, iz⟩ false ⟨true, .handled .next⟩ && allOutcomes.all fun oc => followsSk ⟨en, iz⟩ true ⟨false, oc⟩

theorem pathsOK_check : (pathsOK true && pathsOK false) = true := by decide +kernel

theorem pathsOK_all (en : Bool) : pathsOK en = true := by
  have h := pathsOK_check
  rw [Bool.and_eq_true] at h
  cases en
  · exact h.2
  · exact h.1

theorem skeleton_balanced (en : Bool) (r : PSt × Bool) (h : r ∈ iterPaths en) : PSt.balanced en r = true := by
  have := pathsOK_all en
  simp only [pathsOK, Bool.and_eq_true, List.all_eq_true] at this
  exact this.1 r ((mem_iterPathsD en r).mpr h)

theorem iter_follows_skeleton (cfg : Cfg) (first : Bool) (it : Iter) :
    ∃ r ∈ iterPaths cfg.enableTrace,
      r.1.acts = eraseActs (iterStep cfg first it).1 ∧ r.2 = (iterStep cfg first it).2.isNone := by
  have h := pathsOK_all cfg.enableTrace
  simp only [pathsOK, Bool.and_eq_true, List.all_eq_true] at h
  obtain ⟨hi, ho⟩ := h.2 cfg.idleZero (mem_bools _)
  have hf : followsSk cfg first it = true := by
    unfold followsSk
    rw [iterStep_idles]
    cases idles first it
    · exact ho it.outcome (outcome_mem _)
    · exact hi
  obtain ⟨r, hr, h2⟩ := List.any_eq_true.mp hf
  exact ⟨r, (mem_iterPathsD _ r).mp hr, by simpa using h2⟩

end Hertz.Tracer
