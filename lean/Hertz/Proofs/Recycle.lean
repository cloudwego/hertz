import Hertz.Model.Recycle
import Hertz.Spec.Recycle
/-!
Lemmas for C09: every generated reset function, observed through `obs…`, yields the fresh object.
Proved per type, bottom-up; each proof unfolds the *generated* definitions, so a reset line that
disappears from the Go source makes the corresponding lemma fail.
-/
namespace Hertz.Recycle
open Hertz Hertz.ResetBase Hertz.Gen.Resets

theorem args_reset (o : Oracle) (s : Args) : obsArgs (Args_Reset o s) = obsArgs zero_Args := by
  cases s; rfl

theorem trailer_resetSkip (o : Oracle) (s : Trailer) :
    obsTrailer (Trailer_ResetSkipNormalize o s) = obsTrailer { zero_Trailer with disableNormalizing := s.disableNormalizing } := by
  cases s; rfl

theorem cookie_reset (o : Oracle) (s : Cookie) : obsCookie (Cookie_Reset o s) = obsCookie zero_Cookie := by
  cases s; rfl

theorem uri_reset (o : Oracle) (s : URI) : obsURI (URI_Reset o s) = obsURI zero_URI := by
  cases s; simp [URI_Reset, obsURI, zero_URI, args_reset]

theorem requestHeader_reset (o : Oracle) (s : RequestHeader) :
    obsRequestHeader (RequestHeader_Reset o s) = obsRequestHeader zero_RequestHeader := by
  cases s; rfl

theorem responseHeader_reset (o : Oracle) (s : ResponseHeader) :
    obsResponseHeader (ResponseHeader_Reset o s) = obsResponseHeader zero_ResponseHeader := by
  cases s; rfl

/-- both branches of `RemoveMultipartFormFiles` end in the same state: the one that skips `multipartForm = nil`
is taken when it is nil already -/
theorem Request_RemoveMultipartFormFiles_eq (o : Oracle) (r : Request) : Request_RemoveMultipartFormFiles o r =
    { r with multipartForm := 0, multipartFormBoundary := [], multipartFiles := [], multipartFields := [] } := by
  unfold Request_RemoveMultipartFormFiles
  split
  · rfl
  · cases r; simp_all

theorem Request_CloseBodyStream_eq (o : Oracle) (r : Request) :
    Request_CloseBodyStream o r = { r with bodyStream := 0 } := by
  unfold Request_CloseBodyStream
  split
  · cases r; simp_all
  · rfl

theorem Response_CloseBodyStream_eq (o : Oracle) (r : Response) :
    Response_CloseBodyStream o r = { r with bodyStream := 0 } := by
  unfold Response_CloseBodyStream
  split
  · cases r; simp_all
  · rfl

/-- `Request.ResetWithoutConn` (the keep-alive path): everything but the retention limit and `isTLS` is as in
`new(Request)`. -/
theorem request_resetWithoutConn (o : Oracle) (s : Request) :
    obsRequest (Request_ResetWithoutConn o s) = obsRequest { freshRequest s with isTLS := s.isTLS } := by
  have hh := requestHeader_reset o s.Header
  have hu := uri_reset o s.uri
  have ha := args_reset o s.postArgs
  -- the body buffer is kept (emptied) or dropped; the observation does not tell the two apart
  cases hb : s.body <;> cases hc : o.c_Request_ResetBody_0 <;> cases s <;>
    simp_all [Request_ResetWithoutConn, Request_resetSkipHeaderAndConn, Request_ResetBody,
      Request_RemoveMultipartFormFiles_eq, Request_CloseBodyStream_eq, obsRequest, freshRequest, zero_Request]

/-- `Request.Reset` (the release path) is `ResetWithoutConn` and `isTLS = false`. -/
theorem request_reset (o : Oracle) (s : Request) : obsRequest (Request_Reset o s) = obsRequest (freshRequest s) := by
  have h : Request_Reset o s = { Request_ResetWithoutConn o s with isTLS := false } := by
    simp only [Request_Reset, Request_ResetSkipHeader, Request_ResetWithoutConn, Request_CloseBodyStream_eq]
  rw [h]
  exact congrArg (fun r : Request => { r with isTLS := false }) (request_resetWithoutConn o s)

/-- `Response.Reset` (release path and per-request reset): everything but the retention limit is as in `new(Response)`. -/
theorem response_reset (o : Oracle) (s : Response) :
    obsResponse (Response_Reset o s) = obsResponse (freshResponse s) := by
  have hh := responseHeader_reset o s.Header
  cases hb : s.body <;> cases hc : o.c_Response_ResetBody_0 <;> cases s <;>
    simp_all [Response_Reset, Response_resetSkipHeader, Response_ResetBody, Response_CloseBodyStream_eq, obsResponse,
      freshResponse, zero_Response]

/-- what `RequestContext.ResetWithoutConn` leaves behind, exactly: a fresh context for the same connection
*except* the two fields no reset line writes. -/
def contextResidue (s : RequestContext) : RequestContext :=
  { freshContext s with hijackHandler := s.hijackHandler, exiled := s.exiled }

theorem context_resetWithoutConn (o : Oracle) (s : RequestContext) :
    obsContext (RequestContext_ResetWithoutConn o s) = obsContext (contextResidue s) := by
  have hq := request_resetWithoutConn o s.Request
  have hp := response_reset o s.Response
  by_cases h1 : s.finished = 0 <;> cases he : s.enableTrace <;> cases s <;>
    simp_all [RequestContext_ResetWithoutConn, obsContext, contextResidue, freshContext, zero_RequestContext, newContextIndex]

theorem context_reset (o : Oracle) (s : RequestContext) :
    obsContext (RequestContext_Reset o s) = obsContext { contextResidue s with conn := 0 } :=
  congrArg (fun r : RequestContext => { r with conn := 0 }) (context_resetWithoutConn o s)

theorem contextResidue_fresh (s : RequestContext) (h1 : s.hijackHandler = 0) (h2 : s.exiled = false) :
    contextResidue s = freshContext s := by
  simp [contextResidue, h1, h2, freshContext, zero_RequestContext]

/-- the fresh object is read off the observation: the fields that survive a reset (configuration, retention limits) are
all visible to it -/
theorem freshPooled_of_obs (a b : RequestContext) (h : obsContext a = obsContext b) :
    freshPooledContext a = freshPooledContext b :=
  show freshPooledContext (obsContext a) = freshPooledContext (obsContext b) from congrArg _ h

theorem freshPooled_idem (x : RequestContext) : freshPooledContext (freshPooledContext x) = freshPooledContext x := by
  rfl

/-- `putRequestContext` on a context that is not exiled: `ctxPool.Put` receives what `ctxPool.New` makes, up to the
configuration fields (`hijackHandler` is cleared before the reset, `exiled` is the hypothesis) -/
theorem poolRecycle_fresh (o : Oracle) (x : RequestContext) (h2 : x.exiled = false) :
    obsContext (poolRecycle o x) = obsContext (freshPooledContext (poolRecycle o x)) := by
  have h := context_reset o (RequestContext_SetHijackHandler o 0 x)
  have hr : contextResidue (RequestContext_SetHijackHandler o 0 x) = freshContext x :=
    contextResidue_fresh (RequestContext_SetHijackHandler o 0 x) rfl h2
  have key : obsContext (poolRecycle o x) = obsContext (freshPooledContext x) := by
    simpa [poolRecycle, hr, freshPooledContext] using h
  -- the configuration fields of the reset context are those of `x`
  have hcfg : freshPooledContext (poolRecycle o x) = freshPooledContext x := by
    rw [freshPooled_of_obs _ _ key, freshPooled_idem]
  simpa [hcfg] using key

theorem freshRequest_of_obs (a b : Request) (h : obsRequest a = obsRequest b) : freshRequest a = freshRequest b :=
  show freshRequest (obsRequest a) = freshRequest (obsRequest b) from congrArg _ h

theorem freshResponse_of_obs (a b : Response) (h : obsResponse a = obsResponse b) : freshResponse a = freshResponse b :=
  show freshResponse (obsResponse a) = freshResponse (obsResponse b) from congrArg _ h

/-- If every released object satisfies `Q`, resetting a `Q`-object gives a `P`-object, and new objects are `P`,
then whatever `Get` hands out is `P` — for every history and every choice `Get` makes. -/
theorem pool_gets {α : Type} (reset : Oracle → α → α) (new : α) (P Q : α → Prop) (hnew : P new)
    (hreset : ∀ o x, Q x → P (reset o x)) (es : List (PoolEv α)) (items : List α)
    (hq : ∀ x ∈ putsOf es, Q x) (hitems : ∀ x ∈ items, P x) : ∀ y ∈ poolRun reset new es items, P y := by
  fun_induction poolRun reset new es items
  case case1 => exact nofun
  case case2 o x es items ih =>
    simp only [putsOf, List.forall_mem_cons] at hq
    exact ih hq.2 (List.forall_mem_cons.mpr ⟨hreset o x hq.1, hitems⟩)
  case case3 i es items x hi ih =>
    exact List.forall_mem_cons.mpr ⟨hitems _ (List.mem_of_getElem? hi),
      ih hq fun z hz => hitems z (List.mem_of_mem_eraseIdx hz)⟩
  case case4 i es items hi ih => exact List.forall_mem_cons.mpr ⟨hnew, ih hq hitems⟩

/-- The accounting of every pooled type over the generated field and write tables, in one evaluation: the fields of a
`RequestContext` include a `Request` and a `Response`, whose accounting the kernel then does once. -/
theorem accounted_check :
    (unaccounted "Request" "Reset" = [] ∧ unaccounted "Request" "ResetWithoutConn" = [] ∧
     unaccounted "Response" "Reset" = [] ∧
     unaccounted "URI" "Reset" = [] ∧ unaccounted "Cookie" "Reset" = [] ∧ unaccounted "Args" "Reset" = [] ∧
     unaccounted "Trailer" "Reset" = [] ∧ staleAllow = []) ∧
    unaccounted "RequestContext" "ResetWithoutConn" = ["RequestContext.hijackHandler", "RequestContext.exiled"] ∧
    unaccounted "RequestContext" "Reset" = unaccounted "RequestContext" "ResetWithoutConn" := by
  decide +kernel

end Hertz.Recycle
