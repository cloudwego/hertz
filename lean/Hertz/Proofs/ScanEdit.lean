import Hertz.Proofs.PrefixStableResp
import Hertz.Proofs.Tables
/-!
# The header scanner's in-place edits (C02)

One call of `Next` on a field (`FieldAt`, Proofs/Scanner) leaves the name canonicalised and the value lines replaced by ONE
line of the same length that reads as the same value (`FieldAt.scanE`, `editedRaw_reads`); a one-line field is left as it
is.  So what a call leaves behind is a field again, and scanning it once more changes nothing (`FieldAt.rescan`); the
block-level statements follow by induction over the calls.  `scanNextE` is `Next` without the need-more rule for a fold at
the end of the buffer; the scanner with the rule is built on it (Proofs/ScanEditN).
-/
namespace Hertz.H1.ScanEdit
open Hertz Hertz.H1

theorem normalizeKey_len (dn : Bool) (k : Bytes) : (normalizeKey dn k).length = k.length := by
  unfold normalizeKey; split
  · rfl
  · exact normKeyAux_length true k

theorem normValAux_len (ls : Bool) (b : Bytes) : (normValAux ls b).length ≤ b.length := by
  fun_induction normValAux ls b <;> simp only [List.length_nil, List.length_cons] <;> omega

theorem foldedValue_len (r : Bytes) : (foldedValue r).length ≤ r.length := by
  show (strip isOWS ((normValAux false r).dropWhile isOWS)).length ≤ _
  have h1 := (strip_prefix isOWS ((normValAux false r).dropWhile isOWS)).length_le
  have h2 := (List.dropWhile_suffix isOWS (l := normValAux false r)).length_le
  have h3 := normValAux_len false r
  omega

theorem normValueEdit_len (r : Bytes) : (normValueEdit r).length = r.length := by
  unfold normValueEdit
  have := foldedValue_len r
  simp; omega

theorem trimValue_prefix (r : Bytes) : trimValue r <+: r := by
  unfold trimValue
  simp only []
  split
  · exact (strip_prefix isOWS _).trans (List.dropLast_prefix r)
  · exact strip_prefix isOWS r

theorem trimValue_split (r : Bytes) : trimValue r ++ r.drop (trimValue r).length = r :=
  List.prefix_iff_eq_append.mp (trimValue_prefix r)

/-! ### key canonicalisation is idempotent and keeps what is not a letter -/

theorem normKeyAux_idem : ∀ (up : Bool) (k : Bytes), normKeyAux up (normKeyAux up k) = normKeyAux up k
  | _, [] => by cases ‹Bool› <;> simp [normKeyAux]
  | true, c :: t => by simp [normKeyAux, toUpper_toUpper, normKeyAux_idem false t]
  | false, c :: t => by
    by_cases hc : c = 45
    · subst hc; simp [normKeyAux, normKeyAux_idem true t]
    · have : toLower c ≠ 45 := fun h => hc ((case_keeps 45 c (by decide)).2 h)
      simp [normKeyAux, hc, this, toLower_toLower, normKeyAux_idem false t]

theorem normalizeKey_idem (dn : Bool) (k : Bytes) : normalizeKey dn (normalizeKey dn k) = normalizeKey dn k := by
  unfold normalizeKey; split
  · rfl
  · exact normKeyAux_idem true k

theorem normKeyAux_notin (c : UInt8) (hc : c < 65) (up : Bool) (k : Bytes) (h : ∀ y ∈ k, y ≠ c) :
    ∀ y ∈ normKeyAux up k, y ≠ c := by
  fun_induction normKeyAux up k with
  | case1 => nofun
  | case2 x t ih =>
    rw [List.forall_mem_cons] at h ⊢
    exact ⟨fun he => h.1 ((case_keeps c x hc).1 he), ih h.2⟩
  | case3 t ih =>
    rw [List.forall_mem_cons] at h ⊢
    exact ⟨h.1, ih h.2⟩
  | case4 x t hx ih =>
    rw [List.forall_mem_cons] at h ⊢
    exact ⟨fun he => h.1 ((case_keeps c x hc).2 he), ih h.2⟩

theorem normalizeKey_notin (dn : Bool) (c : UInt8) (hc : c < 65) (k : Bytes) (h : ∀ y ∈ k, y ≠ c) :
    ∀ y ∈ normalizeKey dn k, y ≠ c := by
  unfold normalizeKey; split
  · exact h
  · exact normKeyAux_notin c hc true k h

/-- a canonicalised name is a name: no line feed, no colon -/
theorem normalizeKey_name (dn : Bool) {name : Bytes} (h : ∀ x ∈ name, x ≠ 10 ∧ x ≠ 58) :
    ∀ x ∈ normalizeKey dn name, x ≠ 10 ∧ x ≠ 58 := fun x hx =>
  ⟨normalizeKey_notin dn 10 (by decide) name (fun y hy => (h y hy).1) x hx,
    normalizeKey_notin dn 58 (by decide) name (fun y hy => (h y hy).2) x hx⟩

/-! ### what trimming cuts off, and what a compacted value looks like -/

theorem dropWhile_all_append (p : UInt8 → Bool) : ∀ (a b : Bytes), (∀ x ∈ a, p x = true) →
    List.dropWhile p (a ++ b) = List.dropWhile p b :=
  fun _ _ h => List.dropWhile_append_of_pos h

theorem trimValue_eq (r : Bytes) :
    trimValue r = strip isOWS (if r.getLast? = some 13 then r.dropLast else r) := rfl

/-- what `trimValue` cuts off: blanks, then at most one `\r` -/
theorem trimValue_tail (r : Bytes) : ∃ ws cr, r = trimValue r ++ (ws ++ cr) ∧ (∀ x ∈ ws, isOWS x = true) ∧
    (cr = [] ∨ cr = [13]) ∧ (∀ c, (trimValue r).getLast? = some c → isOWS c = false) := by
  rw [trimValue_eq]
  by_cases h : r.getLast? = some 13
  · simp only [h, if_true]
    obtain ⟨ys, rfl⟩ := List.getLast?_eq_some_iff.mp h
    rw [List.dropLast_concat]
    obtain ⟨s, h1, h2, h3⟩ := strip_split isOWS ys
    exact ⟨s, [13], by rw [← List.append_assoc, ← h1], h2, Or.inr rfl, h3⟩
  · simp only [h, if_false]
    obtain ⟨s, h1, h2, h3⟩ := strip_split isOWS r
    exact ⟨s, [], by simpa using h1, h2, Or.inl rfl, h3⟩

theorem trimValue_append_tail (a ws cr : Bytes) (hws : ∀ x ∈ ws, isOWS x = true) (hcr : cr = [] ∨ cr = [13])
    (hlast : ∀ c, a.getLast? = some c → isOWS c = false) (h13 : ∀ y ∈ a, y ≠ 13) :
    trimValue (a ++ (ws ++ cr)) = a := by
  rw [trimValue_eq]
  rcases hcr with rfl | rfl
  · -- the last byte is one of `a` or a blank
    have hne : (a ++ ws).getLast? ≠ some 13 := fun h =>
      (List.mem_append.mp (List.mem_of_getLast? h)).elim (fun hm => h13 13 hm rfl)
        (fun hm => absurd (hws 13 hm) (by decide))
    rw [List.append_nil, if_neg hne]
    rw [strip_append_of_pos a ws hws, strip_of_last a hlast]
  · have he : (a ++ (ws ++ [13])).getLast? = some 13 := by simp
    have hd : (a ++ (ws ++ [13])).dropLast = a ++ ws := by
      rw [← List.append_assoc, List.dropLast_concat]
    simp only [he, if_true, hd]
    rw [strip_append_of_pos a ws hws, strip_of_last a hlast]

theorem normValAux_nocrlf (ls : Bool) (b : Bytes) : ∀ y ∈ normValAux ls b, y ≠ 10 ∧ y ≠ 13 := by
  fun_induction normValAux ls b with
  | case1 => nofun
  | case2 ls t ih => exact ih
  | case3 ls t _ ih => exact ih
  | case4 ls c t h13 h10 h ih => exact List.forall_mem_cons.mpr ⟨by decide, ih⟩
  | case5 ls c t h13 h10 h ih => exact List.forall_mem_cons.mpr ⟨⟨h10, h13⟩, ih⟩

theorem foldedValue_eq (r : Bytes) : foldedValue r = strip isOWS ((normValAux false r).dropWhile isOWS) := rfl

theorem foldedValue_facts (r : Bytes) :
    (∀ y ∈ foldedValue r, y ≠ 10 ∧ y ≠ 13) ∧ (∀ c t, foldedValue r = c :: t → isOWS c = false) ∧
      (∀ c, (foldedValue r).getLast? = some c → isOWS c = false) := by
  rw [foldedValue_eq]
  have hpre : strip isOWS ((normValAux false r).dropWhile isOWS) <+: (normValAux false r).dropWhile isOWS :=
    strip_prefix isOWS _
  refine ⟨fun y hy => ?_, fun c t h => ?_, (strip_split isOWS _).elim fun _ h => h.2.2⟩
  · exact normValAux_nocrlf false r y ((List.dropWhile_suffix isOWS).subset (hpre.subset hy))
  · rw [h] at hpre
    obtain ⟨s, hs⟩ := hpre
    have := List.head?_dropWhile_not isOWS (normValAux false r)
    rw [← hs] at this
    simpa using this

/-! ### one call of `Next` on a field -/

/-- the line the edit leaves in place of the value lines: the blanks behind the colon, the (compacted, right-aligned) value,
and what the scanner had trimmed from the end of the region -/
def editedRaw (raw C : Bytes) : Bytes :=
  raw.takeWhile isOWS ++
    ((if C.length > 0 then normValueEdit (trimValue (valueRegion raw C)) else trimValue (valueRegion raw C)) ++
     (valueRegion raw C).drop (trimValue (valueRegion raw C)).length)

/-- a value on one line is left as it is -/
theorem editedRaw_nil (raw : Bytes) : editedRaw raw [] = raw := by
  simp only [editedRaw, valueRegion, List.length_nil, Nat.lt_irrefl, gt_iff_lt, if_false, List.take_zero, List.append_nil]
  rw [trimValue_split, List.takeWhile_append_dropWhile]

theorem editedRaw_len (raw C : Bytes) : (editedRaw raw C).length = raw.length + C.length := by
  have hs := congrArg List.length (trimValue_split (valueRegion raw C))
  have hw := takeWhile_len_add isOWS raw
  have ht : ((10 :: C).take C.length).length = C.length := by simp
  simp only [valueRegion, List.length_append, ht] at hs
  -- either way the value region keeps its length
  simp only [editedRaw, valueRegion, List.length_append, apply_ite List.length, normValueEdit_len, ite_self]
  omega

theorem _root_.Hertz.H1.FieldAt.scanE (dn : Bool) {B name raw C rest : Bytes} (F : FieldAt B name raw C rest) :
    scanNextE dn B =
      (.kv (normalizeKey dn name) (fieldValue raw C) rest (name.length + raw.length + C.length + 2),
       normalizeKey dn name ++ 58 :: (editedRaw raw C ++ 10 :: rest)) := by
  obtain ⟨rfl, hn, hr, hC, hstop⟩ := F
  obtain ⟨hi58, hi10, h1, h2⟩ := field_positions name raw (C ++ rest) hn hr
  have p := field_valuePos name raw (C ++ rest) hr
  have hlen := takeWhile_len_add isOWS raw
  have htk : List.take (List.takeWhile isOWS raw).length (raw ++ 10 :: (C ++ rest)) = List.takeWhile isOWS raw := by
    have := List.take_left' (l₂ := raw.dropWhile isOWS ++ 10 :: (C ++ rest)) (rfl : (raw.takeWhile isOWS).length = _)
    rwa [← List.append_assoc, List.takeWhile_append_dropWhile] at this
  have hdrop : List.drop (name.length + 1) (name ++ 58 :: (raw ++ 10 :: (C ++ rest))) = raw ++ 10 :: (C ++ rest) :=
    List.drop_length_add_append 1
  generalize hraw' : raw.dropWhile isOWS = raw' at p hlen
  have hdropT : List.drop (raw'.length + 1) (raw' ++ 10 :: (C ++ rest)) = C ++ rest := List.drop_length_add_append 1
  have htake2 : List.take (raw'.length + C.length) (raw' ++ 10 :: (C ++ rest)) = raw' ++ (10 :: C).take C.length := by
    rw [List.take_length_add_append]
    exact congrArg _ (List.take_append_of_le_length (l₁ := 10 :: C) (by simp))
  have hdrop3 : List.drop (raw'.length + C.length + 1) (raw' ++ 10 :: (C ++ rest)) = rest := by
    rw [Nat.add_assoc, List.drop_length_add_append]; exact List.drop_left
  -- the region ends at a line feed: the one of the first line, or the one of the last continuation line
  have hdrop4 : List.drop (raw'.length + C.length) (raw' ++ 10 :: (C ++ rest)) = 10 :: rest := by
    rw [List.drop_length_add_append]
    rcases hC.ends with rfl | ⟨P, rfl⟩
    · rfl
    · have : 10 :: (P ++ [10] ++ rest) = (10 :: P) ++ 10 :: rest := by simp
      rw [this]; exact List.drop_left' (by simp)
  unfold scanNextE
  split
  · rename_i heq; exact absurd heq (h1 _)
  · rename_i heq; exact absurd heq (h2 _)
  · unfold scanLineE
    rw [hi10, hi58]
    have hlt : ¬ (name.length + (1 + raw.length) < name.length) := by omega
    simp only [hlt, if_false]
    unfold scanValueE
    simp only [List.take_left, ← p.sp_eq, ← p.b1_eq, p.n1_eq]
    simp only [hdrop, htk, hdropT, hC.extra_stop hstop, htake2, hdrop3, hdrop4, fieldValue, editedRaw, valueRegion, hraw', List.append_assoc]
    rw [show name.length + 1 + (List.takeWhile isOWS raw).length + (raw'.length + C.length) + 1 =
      name.length + raw.length + C.length + 2 by omega]

/-- the line the edit leaves has no line feed and reads as the value handed out -/
theorem editedRaw_reads (raw C : Bytes) :
    ((∀ y ∈ raw, y ≠ 10) → ∀ y ∈ editedRaw raw C, y ≠ 10) ∧ fieldValue (editedRaw raw C) [] = fieldValue raw C := by
  by_cases hC : C.length > 0
  case neg =>
    obtain rfl : C = [] := List.eq_nil_of_length_eq_zero (by omega)
    rw [editedRaw_nil]
    exact ⟨id, rfl⟩
  case pos =>
    generalize hR : valueRegion raw C = R
    obtain ⟨ws, cr, hsplit, hws, hcr, _⟩ := trimValue_tail R
    have hT : R.drop (trimValue R).length = ws ++ cr := List.append_cancel_left ((trimValue_split R).trans hsplit)
    obtain ⟨hf1, hf2, hf3⟩ := foldedValue_facts (trimValue R)
    have hv : fieldValue raw C = foldedValue (trimValue R) := by simp only [fieldValue, hR, if_pos hC]
    have hW : ∀ x ∈ raw.takeWhile isOWS ++ List.replicate ((trimValue R).length - (foldedValue (trimValue R)).length) 32,
        isOWS x = true := List.forall_mem_append.mpr
      ⟨fun x hx => List.all_eq_true.mp List.all_takeWhile x hx, fun x hx => by rw [List.eq_of_mem_replicate hx]; rfl⟩
    have e : editedRaw raw C = (raw.takeWhile isOWS ++ List.replicate ((trimValue R).length - (foldedValue (trimValue R)).length) 32) ++
        (foldedValue (trimValue R) ++ (ws ++ cr)) := by
      simp only [editedRaw, hR, if_pos hC, hT, normValueEdit, List.append_assoc]
    rw [hv, show fieldValue (editedRaw raw C) [] = trimValue ((editedRaw raw C).dropWhile isOWS) by simp [fieldValue, valueRegion], e,
      List.dropWhile_append_of_pos hW]
    refine ⟨fun _ => List.forall_mem_append.mpr ⟨fun y hy => isOWS_ne_lf y (hW y hy), List.forall_mem_append.mpr
      ⟨fun y hy => (hf1 y hy).1, List.forall_mem_append.mpr ⟨fun y hy => isOWS_ne_lf y (hws y hy), by
        rcases hcr with rfl | rfl <;> simp⟩⟩⟩, ?_⟩
    generalize foldedValue (trimValue R) = Fv at hf1 hf2 hf3
    match Fv, hf1, hf2, hf3 with
    | [], _, _, _ =>
      -- nothing is left of the value: the blanks `ws` go with the blanks in front
      rw [List.nil_append, List.dropWhile_append_of_pos hws]
      rcases hcr with rfl | rfl <;> rfl
    | f :: ft, hf1, hf2, hf3 =>
      rw [dropWhile_id _ fun c hc => by cases hc; exact hf2 f ft rfl]
      exact trimValue_append_tail _ ws cr hws hcr hf3 fun y hy => (hf1 y hy).2

/-- **One step is idempotent and keeps its reading**: what a call leaves in place of a field is a one-line field with the
same name and value — whatever bytes that do not continue the value stand behind it (e.g. the edited rest of the block). -/
theorem _root_.Hertz.H1.FieldAt.rescan (dn : Bool) {B name raw C rest : Bytes} (F : FieldAt B name raw C rest) (rest' : Bytes)
    (h0 : contExtra rest' = 0) :
    scanNextE dn (normalizeKey dn name ++ 58 :: (editedRaw raw C ++ 10 :: rest')) =
      (.kv (normalizeKey dn name) (fieldValue raw C) rest' (name.length + raw.length + C.length + 2),
       normalizeKey dn name ++ 58 :: (editedRaw raw C ++ 10 :: rest')) := by
  obtain ⟨h10, hval⟩ := editedRaw_reads raw C
  have F' : FieldAt (normalizeKey dn name ++ 58 :: (editedRaw raw C ++ 10 :: rest')) (normalizeKey dn name) (editedRaw raw C) [] rest' :=
    ⟨rfl, normalizeKey_name dn F.name, h10 F.raw, .nil, h0⟩
  rw [F'.scanE dn, normalizeKey_idem, normalizeKey_len, editedRaw_nil, editedRaw_len, hval, List.length_nil, Nat.add_zero,
    ← Nat.add_assoc]

/-- a call that hands out no field returns before the first write -/
theorem scanNextE_nokv (dn : Bool) (B : Bytes) (h : ∀ k v r m, scanNext dn B ≠ .kv k v r m) :
    scanNextE dn B = (scanNext dn B, B) := by
  have r := scanNext_reads dn B
  generalize hs : scanNext dn B = s at r h
  -- a buffer that is not answered `fin` does not start with an empty line
  have line : (∀ n, s ≠ .fin n) → scanNextE dn B = scanLineE dn B := fun hfin => by
    unfold scanNextE
    split
    · exact absurd (hs ▸ scanNext_crlf dn _) (hfin 2)
    · exact absurd (hs ▸ scanNext_lf dn _) (hfin 1)
    · rfl
  cases r with
  | crlf t e => subst e; rfl
  | lf t e => subst e; rfl
  | noLf hx => rw [line nofun]; simp only [scanLineE, hx]
  | noColon x hx hn => rw [line nofun]; simp only [scanLineE, hx, hn]
  | late x n hx hn hlt => rw [line nofun]; simp only [scanLineE, hx, hn, if_pos hlt]
  | field F => exact absurd rfl (h _ _ _ _)

/-- nothing continues a value in front of a header line: the look-ahead stops at the colon -/
theorem contExtra_key (K X : Bytes) (h : ∀ y ∈ K, y ≠ 10 ∧ y ≠ 58) : contExtra (K ++ 58 :: X) = 0 := by
  match K, h with
  | [], _ => exact contExtra_of_nonblank 58 X (by decide)
  | c :: t, h =>
    by_cases hc : c = 32 ∨ c = 9
    · rw [List.cons_append, contExtra_of_blank c _ hc,
        contAux_skip 0 _ t 1 fun y hy => (h y (List.mem_cons_of_mem _ hy)).symm, contAux_colon]
    · exact contExtra_of_nonblank c _ hc

/-- what a `kv` step leaves behind continues no value in front of it, and can be scanned again with any non-continuing
bytes behind it -/
def Rescannable (dn : Bool) (k v : Bytes) (m : Nat) (pre : Bytes) : Prop :=
  (∀ Z, contExtra (pre ++ Z) = 0) ∧
  ∀ rest', contExtra rest' = 0 → scanNextE dn (pre ++ rest') = (.kv k v rest' m, pre ++ rest')

/-- **One step.** Either the call hands out no field and the buffer is untouched, or it hands out a field, consumed `m`
bytes, rewrote only those into bytes that scan as the same field again, and the rest of the buffer is what it was. -/
theorem scanNextE_step_rescannable (dn : Bool) (B : Bytes) :
    (scanNextE dn B = (scanNext dn B, B) ∧ ∀ k v r m, scanNext dn B ≠ .kv k v r m) ∨
    (∃ k v rest m pre, scanNextE dn B = (.kv k v rest m, pre ++ rest) ∧ scanNext dn B = .kv k v rest m ∧
      pre.length = m ∧ m + rest.length = B.length ∧ contExtra rest = 0 ∧ Rescannable dn k v m pre) := by
  by_cases hk : ∃ k v r m, scanNext dn B = .kv k v r m
  · obtain ⟨k, v, rest, m, hk⟩ := hk
    obtain ⟨name, raw, C, F, rfl, rfl, rfl⟩ := FieldAt.of_kv dn B k v rest m hk
    have ea : ∀ Z, normalizeKey dn name ++ 58 :: (editedRaw raw C ++ 10 :: Z) =
        (normalizeKey dn name ++ 58 :: (editedRaw raw C ++ [10])) ++ Z := fun Z => by simp
    refine Or.inr ⟨_, _, rest, _, normalizeKey dn name ++ 58 :: (editedRaw raw C ++ [10]), by rw [F.scanE dn, ea], hk, ?_, ?_,
      F.stop, fun Z => by rw [← ea]; exact contExtra_key _ _ (normalizeKey_name dn F.name),
      fun rest' h0 => by rw [← ea, F.rescan dn rest' h0]⟩
    · simp [normalizeKey_len, editedRaw_len]; omega
    · rw [F.eq]; simp; omega
  · have hno : ∀ k v r m, scanNext dn B ≠ .kv k v r m := fun k v r m h => hk ⟨k, v, r, m, h⟩
    exact Or.inl ⟨scanNextE_nokv dn B hno, hno⟩

/-- `scanNextE_step_rescannable` without what a rescan needs: the rewritten bytes, then `B.drop m` as it was -/
theorem scanNextE_step (dn : Bool) (B : Bytes) :
    (scanNextE dn B = (scanNext dn B, B) ∧ ∀ k v r m, scanNext dn B ≠ .kv k v r m) ∨
    (∃ k v rest m pre, scanNextE dn B = (.kv k v rest m, pre ++ rest) ∧ scanNext dn B = .kv k v rest m ∧
      pre.length = m ∧ B.drop m = rest ∧ m + rest.length = B.length) := by
  rcases scanNextE_step_rescannable dn B with h | ⟨k, v, rest, m, pre, hs, hk, hpre, hlen, _⟩
  · exact Or.inl h
  · exact Or.inr ⟨k, v, rest, m, pre, hs, hk, hpre, (scanNext_rest dn B k v rest m hk).1, hlen⟩

theorem scanNextE_fst (dn : Bool) (B : Bytes) : (scanNextE dn B).1 = scanNext dn B := by
  rcases scanNextE_step dn B with ⟨h, _⟩ | ⟨k, v, rest, m, pre, h, hk, _⟩
  · rw [h]
  · rw [h, hk]

/-! ### a block: the calls of `for s.Next() { … }` -/

theorem scanBlockE_kv (dn : Bool) (fuel : Nat) (B k v rest B' : Bytes) (m : Nat)
    (h : scanNextE dn B = (.kv k v rest m, B')) :
    scanBlockE dn (fuel + 1) B =
      ⟨(k, v) :: (scanBlockE dn fuel rest).fields,
       (match (scanBlockE dn fuel rest).stop with | .fin h => .fin (m + h) | s => s),
       m + (scanBlockE dn fuel rest).consumed, B'.take m ++ (scanBlockE dn fuel rest).buf⟩ := by
  rw [scanBlockE, h]; rfl

theorem scanBlockE_stop (dn : Bool) (fuel : Nat) (B : Bytes) (hk : ∀ k v r m, scanNext dn B ≠ .kv k v r m) :
    (scanBlockE dn (fuel + 1) B).buf = B ∧ (scanBlockE dn (fuel + 1) B).consumed = 0 ∧
      (scanBlockE dn (fuel + 1) B).fields = [] := by
  simp only [scanBlockE, scanNextE_nokv dn B hk]
  cases hs : scanNext dn B with
  | kv k v r m => exact absurd hs (hk k v r m)
  | fin n => simp
  | needMore => simp
  | invalidName => simp

/-- **The edits are local.** After a scan of `B` the buffer has the length of `B`, the scan consumed at most
`B.length` bytes, and behind the consumed bytes the buffer is `B` byte for byte. -/
theorem scanBlockE_local (dn : Bool) : ∀ (fuel : Nat) (B : Bytes),
    (scanBlockE dn fuel B).buf.length = B.length ∧ (scanBlockE dn fuel B).consumed ≤ B.length ∧
      (scanBlockE dn fuel B).buf.drop (scanBlockE dn fuel B).consumed = B.drop (scanBlockE dn fuel B).consumed
  | 0, B => by simp [scanBlockE]
  | fuel + 1, B => by
    rcases scanNextE_step dn B with ⟨_, hk⟩ | ⟨k, v, rest, m, pre, h, _, hpre, hdrop, hlen⟩
    · obtain ⟨h1, h2, _⟩ := scanBlockE_stop dn fuel B hk
      rw [h1, h2]; simp
    · obtain ⟨ih1, ih2, ih3⟩ := scanBlockE_local dn fuel rest
      rw [scanBlockE_kv dn fuel B k v rest _ m h]
      simp only []
      rw [List.take_left' hpre]
      refine ⟨by simp [ih1]; omega, by omega, ?_⟩
      rw [← hpre, List.drop_append, List.drop_of_length_le (by omega)]
      simp only [List.nil_append, Nat.add_sub_cancel_left]
      rw [ih3, ← hdrop, List.drop_drop, hpre]

theorem scanBlockE_reading (dn : Bool) : ∀ (fuel : Nat) (B : Bytes),
    (scanBlockE dn fuel B).reading = readBlock dn fuel B
  | 0, B => by simp [scanBlockE, readBlock, Block.reading]
  | fuel + 1, B => by
    have ih := fun r => scanBlockE_reading dn fuel r
    simp only [Block.reading, Prod.ext_iff] at ih
    -- both sides branch on the answer of the editing scanner
    rw [readBlock, ← scanNextE_fst dn B, scanBlockE]
    cases scanNextE dn B with
    | mk s B' => cases s <;> simp [Block.reading, ih]

/-- the edits of a block scan do not make the buffer begin with a continuation line -/
theorem contExtra_blockbuf (dn : Bool) (fuel : Nat) (rest : Bytes) (h : contExtra rest = 0) :
    contExtra (scanBlockE dn fuel rest).buf = 0 := by
  cases fuel with
  | zero => simpa [scanBlockE] using h
  | succ f =>
    rcases scanNextE_step_rescannable dn rest with ⟨_, hk⟩ | ⟨k, v, r, m, pre, hs, _, hpre, _, _, hc, _⟩
    · rw [(scanBlockE_stop dn f rest hk).1]; exact h
    · rw [scanBlockE_kv dn f rest k v r _ m hs]
      simp only []
      rw [List.take_left' hpre]
      exact hc _

/-- **Scanning the edited buffer again changes nothing**: same fields, same stop, same consumed count, and the
buffer stays as it is (`edit ∘ edit = edit`, and the edit preserves the reading). -/
theorem scanBlockE_idem (dn : Bool) : ∀ (fuel : Nat) (B : Bytes),
    scanBlockE dn fuel (scanBlockE dn fuel B).buf = scanBlockE dn fuel B
  | 0, B => by simp [scanBlockE]
  | fuel + 1, B => by
    rcases scanNextE_step_rescannable dn B with ⟨_, hk⟩ | ⟨k, v, rest, m, pre, hs, _, hpre, _, h0, _, hI⟩
    · rw [(scanBlockE_stop dn fuel B hk).1]
    · have ih := scanBlockE_idem dn fuel rest
      have hs2 := hI _ (contExtra_blockbuf dn fuel rest h0)
      rw [scanBlockE_kv dn fuel B k v rest _ m hs]
      simp only [List.take_left' hpre]
      rw [scanBlockE_kv dn fuel _ k v _ _ m hs2, List.take_left' hpre, ih]

theorem scanBlock_idem (dn : Bool) (B : Bytes) : scanBlock dn (scanBlock dn B).buf = scanBlock dn B := by
  unfold scanBlock
  rw [(scanBlockE_local dn (B.length + 1) B).1]
  exact scanBlockE_idem dn _ B

theorem readBlock_editBlock (dn : Bool) (B : Bytes) :
    readBlock dn (B.length + 1) (editBlock dn B) = readBlock dn (B.length + 1) B := by
  rw [← scanBlockE_reading, ← scanBlockE_reading]
  unfold editBlock scanBlock
  rw [scanBlockE_idem]

/-! ### the first line is outside the edits -/

/-- the client's `parseFirstLine` looks at the bytes it consumes only -/
theorem respFirstLine_local (X Z : Bytes) (hd : RespRead.RespHead) (m : Nat)
    (h : RespRead.parseFirstLine X = .ok (hd, m)) (hZ : X.length ≤ (X.take m ++ Z).length) :
    RespRead.parseFirstLine (X.take m ++ Z) = .ok (hd, m) := by
  obtain ⟨line, ha⟩ := RespRead.parseFirstLine_consumed X hd m h
  obtain ⟨P, R, rfl, _, hm, hl⟩ := parseFirstLineAux_local _ _ 0 line m ha
  rw [List.take_left' (by omega)] at hZ ⊢
  unfold RespRead.parseFirstLine at h ⊢
  rw [hl _ Z (by omega)]
  rw [ha] at h
  exact h

/-- `resp.parse` on a buffer whose header block was replaced by one of the same length that `parseHeaders` reads the
same: the first line is untouched, so the whole head reads the same -/
theorem parseRespHead_block_congr (dn : Bool) (buf more E : Bytes) (hd0 : RespRead.RespHead) (m : Nat)
    (hfl : RespRead.parseFirstLine buf = .ok (hd0, m)) (hel : E.length = (buf.drop m).length)
    (hE : RespRead.parseHeaders dn hd0 (E ++ more) = RespRead.parseHeaders dn hd0 (buf.drop m ++ more)) :
    RespRead.parseRespHead dn (buf.take m ++ E ++ more) = RespRead.parseRespHead dn (buf ++ more) := by
  have hm : m ≤ buf.length := RespRead.parseFirstLine_le buf hd0 m hfl
  have h1 := respFirstLine_local buf (E ++ more) hd0 m hfl (by simp [hel]; omega)
  have h2 := RespRead.parseFirstLine_append buf more _ hfl (by simp)
  have hd1 : (buf.take m ++ (E ++ more)).drop m = E ++ more := List.drop_left' (by simp; omega)
  have hd2 : (buf ++ more).drop m = buf.drop m ++ more := List.drop_append_of_le_length hm
  unfold RespRead.parseRespHead
  rw [List.append_assoc, h1, h2]
  simp only [bind, Except.bind, hd1, hd2, hE]

/-- the bytes a `kv` step leaves behind begin with a field line, whatever follows them -/
theorem pre_noZeroLine (dn : Bool) (pre rest k v : Bytes) (m : Nat) (h : scanNext dn (pre ++ rest) = .kv k v rest m)
    (Z : Bytes) : NoZeroLine (pre ++ Z) := by
  obtain ⟨name, raw, C, F, -⟩ := FieldAt.of_kv dn _ k v rest m h
  have hpre : pre = name ++ 58 :: (raw ++ 10 :: C) :=
    List.append_cancel_right (F.eq.trans (by simp : _ = (name ++ 58 :: (raw ++ 10 :: C)) ++ rest))
  rw [hpre, show name ++ 58 :: (raw ++ 10 :: C) ++ Z = name ++ 58 :: (raw ++ 10 :: (C ++ Z)) by simp]
  exact noZeroLine_field name raw _ F.name

theorem editTrailer_eq (dn : Bool) (B : Bytes) : editTrailer dn B = editBlock dn B := by
  unfold editTrailer editBlock
  simp only []
  split
  · rw [scanBlock_idem]
  · rfl

end Hertz.H1.ScanEdit
