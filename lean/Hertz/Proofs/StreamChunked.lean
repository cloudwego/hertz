import Hertz.Model.Http1.Stream
import Hertz.Proofs.PrefixStable
import Hertz.Proofs.ChunkedWire
import Hertz.Proofs.FieldLine
/-!
Lemmas for C14: the streamed body reader of `Model/Http1/Stream.lean` on every well-formed chunked message (`ChunkedMsg`:
chunks of the general encoding of `ChunkedWire.lean`, the size line of the last chunk, a trailer section).  The file begins
with the terms the statements of `Props/C14.lean` are written in: the message, the trailer-line predicates, `errEnds`.

The consumer `consumeChunked` and the drain `drainChunked` are followed from any position `posState d cs tail` of the
message (`consume_wf`, stated in positions of the de-chunked body; `drain_wf`); what the property theorems say of
`streamBody` is read off these two (`chunked_reads`, `chunked_after`).  The trailer reader is followed field by field
through the parts the header scanner reads (`FieldAt` of `Scanner.lean`).  Its lines (`TrField.Ok`) may hold CR and any
name, which the `wfFLine` lines of `ReqOwsLine.lean` may not; so only where the reader stops is claimed (`TrailerReadExact`).
-/
namespace Hertz.H1.Stream
open Hertz Hertz.H1 Hertz.Gen.Str

deriving instance DecidableEq for After

/-- a whole chunked message body as written on the wire -/
structure ChunkedMsg where
  chunks : List WChunk
  /-- the size line of the last chunk: digits (zeros) and blanks -/
  zdigits : Bytes
  zpad : Nat
  /-- trailer section: everything after the last chunk's size line, up to and including the empty line -/
  trailer : Bytes

def ChunkedMsg.Wf (m : ChunkedMsg) : Prop :=
  (∀ k ∈ m.chunks, WChunk.Wf k) ∧ m.zdigits.length ≤ 15 ∧ Spec.Http.parseHex m.zdigits = some 0

def ChunkedMsg.bytes (m : ChunkedMsg) : Bytes :=
  encChunks m.chunks ++ (sizeLine m.zdigits m.zpad ++ m.trailer)

def ChunkedMsg.body (m : ChunkedMsg) : Bytes := bodyOf m.chunks

/-- a trailer field line as far as `SkipTrailer` cares: not empty, no LF inside -/
def TrLineOk (l : Bytes) : Prop := l ≠ [] ∧ 10 ∉ l

def encLines : List Bytes → Bytes
  | [] => []
  | l :: ls => l ++ 13 :: 10 :: encLines ls

/-- trailer section: field lines, then the empty line -/
def encTrailer (ls : List Bytes) : Bytes := encLines ls ++ [13, 10]

/-- a trailer field line (without its CRLF): no LF, a colon, not starting with a blank (which would
make it a continuation of the line before) -/
def TrFieldOk (l : Bytes) : Prop := 10 ∉ l ∧ 58 ∈ l ∧ ∀ c t, l = c :: t → c ≠ 32 ∧ c ≠ 9

theorem TrFieldOk.cons {a : UInt8} {l : Bytes} (h10 : 10 ∉ a :: l) (h58 : 58 ∈ a :: l) (h32 : a ≠ 32) (h9 : a ≠ 9) :
    TrFieldOk (a :: l) :=
  ⟨h10, h58, fun _ _ h => (List.cons.inj h).1 ▸ ⟨h32, h9⟩⟩

theorem TrFieldOk.lineOk {l : Bytes} (h : TrFieldOk l) : TrLineOk l :=
  ⟨List.ne_nil_of_mem h.2.1, h.1⟩

/-- a continuation line (without its CRLF): starts with a blank, no LF, no colon -/
def TrContOk (l : Bytes) : Prop := 10 ∉ l ∧ 58 ∉ l ∧ ∃ b t, l = b :: t ∧ (b = 32 ∨ b = 9)

/-- a trailer field: its line and its continuation lines -/
abbrev TrField := Bytes × List Bytes

def TrField.Ok (f : TrField) : Prop := TrFieldOk f.1 ∧ ∀ l ∈ f.2, TrContOk l

/-- the lines of a list of fields, in wire order -/
def fieldLines : List TrField → List Bytes
  | [] => []
  | f :: fs => f.1 :: (f.2 ++ fieldLines fs)

theorem TrContOk.lineOk {l : Bytes} (h : TrContOk l) : TrLineOk l := by
  obtain ⟨h10, _, b, t, hl, _⟩ := h
  exact ⟨by rw [hl]; simp, h10⟩

instance (l : Bytes) : Decidable (TrFieldOk l) :=
  decidable_of_iff (10 ∉ l ∧ 58 ∈ l ∧ l.head? ≠ some 32 ∧ l.head? ≠ some 9) (by cases l <;> simp [TrFieldOk])

instance (l : Bytes) : Decidable (TrContOk l) :=
  decidable_of_iff (10 ∉ l ∧ 58 ∉ l ∧ (l.head? = some 32 ∨ l.head? = some 9)) (by cases l <;> simp [TrContOk])

instance (f : TrField) : Decidable f.Ok := inferInstanceAs (Decidable (_ ∧ _))

/-- after a request whose body read failed, the event list ends with that request's response -/
def errEnds : List SEv → Bool
  | [] => true
  | .req r :: t => if r.got.err then (match t with | [.resp _ _] => true | _ => false) else errEnds t
  | _ :: t => errEnds t


/-! ### the consumer (`bodyStream.Read` under the handler's loop) -/

/-- reader state at a position of a well-formed encoding: `d` = unread payload of the current chunk
(`[]` = at a size line), `cs` = the chunks still to come, `tail` = last chunk, trailer and what follows -/
def posState (d : Bytes) (cs : List WChunk) (tail : Bytes) : ChunkSt :=
  match d with
  | [] => { s := encChunks cs ++ tail, chunkLeft := 0 }
  | _ :: _ => { s := d ++ 13 :: 10 :: (encChunks cs ++ tail), chunkLeft := d.length }

theorem posState_last (tail : Bytes) : posState [] [] tail = { s := tail, chunkLeft := 0 } := by
  simp [posState, encChunks]

theorem posState_chunk (e : End) (k : WChunk) (cs : List WChunk) (tail : Bytes) (hk : k.Wf) :
    ∃ n, k.data.length = n + 1 ∧
      posState [] (k :: cs) tail =
        { s := sizeLine k.digits k.pad ++ (k.data ++ 13 :: 10 :: (encChunks cs ++ tail)), chunkLeft := 0 } ∧
      parseChunkSize e (sizeLine k.digits k.pad ++ (k.data ++ 13 :: 10 :: (encChunks cs ++ tail))) =
        .ok (n + 1, k.data ++ 13 :: 10 :: (encChunks cs ++ tail)) := by
  obtain ⟨hl, hh, hne⟩ := hk
  obtain ⟨n, hn⟩ := Nat.exists_eq_add_one_of_ne_zero (mt List.eq_nil_of_length_eq_zero hne)
  refine ⟨n, hn, by simp [posState, encChunks], ?_⟩
  rw [← hn]; exact parseChunkSize_sizeLine e k.digits k.pad _ _ hl hh

theorem posState_ne (d : Bytes) (cs : List WChunk) (tail : Bytes) (h : d ≠ []) :
    posState d cs tail = { s := d ++ 13 :: 10 :: (encChunks cs ++ tail), chunkLeft := d.length } := by
  cases d with
  | nil => exact absurd rfl h
  | cons x d => rfl

theorem posState_eof (d : Bytes) (cs : List WChunk) (tail : Bytes) : (posState d cs tail).chunkEOF = false := by
  cases d <;> rfl

theorem posState_length (d : Bytes) (cs : List WChunk) (tail : Bytes) :
    (encChunks cs ++ tail).length ≤ (posState d cs tail).s.length := by
  cases d with
  | nil => simp [posState]
  | cons x d => simp only [posState, List.length_append, List.length_cons]; omega

section consume
variable (cfg : Cfg) (e : End) (names : List Bytes) (c : Consume)

theorem consume_zero (st : ChunkSt) (acc : Bytes) :
    consumeChunked cfg e names c 0 st acc = ({ bytes := acc, err := true }, st) := rfl

theorem consume_stop (fuel : Nat) (st : ChunkSt) (acc : Bytes) (h : acc.length ≥ c.stopAfter) :
    consumeChunked cfg e names c (fuel + 1) st acc = ({ bytes := acc }, st) := by
  simp only [consumeChunked, h, if_true]

theorem consume_header (fuel : Nat) (s rest acc : Bytes) (n : Nat) (h : ¬ acc.length ≥ c.stopAfter)
    (hp : parseChunkSize e s = .ok (n + 1, rest)) :
    consumeChunked cfg e names c (fuel + 1) { s := s, chunkLeft := 0 } acc =
    consumeChunked cfg e names c (fuel + 1) { s := rest, chunkLeft := n + 1 } acc := by
  simp only [consumeChunked, h, if_false, hp]
  simp

/-- one read inside a chunk, of `min p d.length` bytes; behind the last byte of the chunk its CRLF is skipped -/
theorem consume_inside (fuel : Nat) (d : Bytes) (cs : List WChunk) (tail acc : Bytes) (p : Nat) (hd : d ≠ [])
    (h : ¬ acc.length ≥ c.stopAfter) (hp : p = min c.readSize (c.stopAfter - acc.length)) :
    consumeChunked cfg e names c (fuel + 1) (posState d cs tail) acc =
    consumeChunked cfg e names c fuel (posState (d.drop p) cs tail) (acc ++ d.take p) := by
  have hd0 : ¬ d.length = 0 := mt List.eq_nil_of_length_eq_zero hd
  rw [posState_ne d cs tail hd]
  by_cases hb : p < d.length
  · have hmin : min p d.length = p := by omega
    have hlen : ¬ (d ++ 13 :: 10 :: (encChunks cs ++ tail)).length < p := by simp only [List.length_append]; omega
    have hne : ¬ d.length - p = 0 := by omega
    rw [posState_ne _ cs tail (fun h0 => by have := List.drop_eq_nil_iff.mp h0; omega), List.length_drop]
    simp only [consumeChunked, h, if_false, hd0, Bool.false_eq_true, ← hp, hmin, hlen, hne,
      List.take_append_of_le_length (Nat.le_of_lt hb), List.drop_append_of_le_length (Nat.le_of_lt hb)]
  · have hmin : min p d.length = d.length := by omega
    have hlen : ¬ (d ++ 13 :: 10 :: (encChunks cs ++ tail)).length < d.length := by simp
    rw [List.drop_of_length_le (by omega), List.take_of_length_le (by omega)]
    simp only [consumeChunked, h, if_false, hd0, Bool.false_eq_true, ← hp, hmin, hlen, List.take_left, List.drop_left,
      Nat.sub_self, if_true, strCRLF, List.take, List.drop, posState]

/-- at the size line of the last chunk: the trailer reader decides -/
theorem consume_last (fuel : Nat) (s rest acc : Bytes) (h : ¬ acc.length ≥ c.stopAfter)
    (hp : parseChunkSize e s = .ok (0, rest)) :
    consumeChunked cfg e names c (fuel + 1) { s := s, chunkLeft := 0 } acc =
    match readTrailerReq cfg e names rest with
    | .ok (o, r') => ({ bytes := acc, eof := true }, { s := r', chunkLeft := 0, chunkEOF := o.isSome })
    | .error _ => ({ bytes := acc, err := true }, { s := s, chunkLeft := 0 }) := by
  simp only [consumeChunked, h, if_false, hp]
  cases readTrailerReq cfg e names rest with
  | error x => simp
  | ok v =>
    obtain ⟨o, r'⟩ := v
    cases o <;> simp

/-- the trailer reader accepted `trs` (trailer section and everything behind it) and left the stream in `st` -/
def TrailerDone (trs : Bytes) (st : ChunkSt) : Prop :=
  ∃ o r', readTrailerReq cfg e names trs = .ok (o, r') ∧ st = { s := r', chunkLeft := 0, chunkEOF := o.isSome }

/-- `st` is a position of a well-formed encoding with body bytes `R` still unread; `cs <:+ cs0` bounds the chunks
still to come by those of the message, which is what the drain's fuel is measured against (`chunked_after`) -/
def IsPos (cs0 : List WChunk) (tail : Bytes) (st : ChunkSt) (R : Bytes) : Prop :=
  ∃ d cs, cs <:+ cs0 ∧ (∀ k ∈ cs, WChunk.Wf k) ∧ d ++ bodyOf cs = R ∧ st = posState d cs tail

/-- the result of the consumer loop on the body `B` when the first `i` bytes were read before: it has the first `j`, and
failed, stopped at a position of the encoding, or was told end-of-stream behind the whole body.  The fuel occurs in the
failure case only: with a positive read size and more fuel than bytes still wanted the failure is the trailer reader's,
which is how the model's fuel is shown to suffice. -/
def Outcome (cs0 : List WChunk) (fuel : Nat) (tail trs B : Bytes) (i : Nat) (res : Got × ChunkSt) : Prop :=
  ∃ j, i ≤ j ∧ j ≤ B.length ∧ res.1.bytes = B.take j ∧ (j = i ∨ j ≤ c.stopAfter) ∧
    ((res.1.err = true ∧ (0 < c.readSize → c.stopAfter - i < fuel →
        j = B.length ∧ j < c.stopAfter ∧ ∃ x, readTrailerReq cfg e names trs = .error x)) ∨
     (res.1.err = false ∧ res.1.eof = false ∧ c.stopAfter ≤ j ∧ IsPos cs0 tail res.2 (B.drop j)) ∨
     (res.1.err = false ∧ res.1.eof = true ∧ j = B.length ∧ j < c.stopAfter ∧ TrailerDone cfg e names trs res.2))

/-- one read (of the bytes `x`, within the stop point), then the outcome of the rest of the loop -/
theorem Outcome.lift {cs0 : List WChunk} {fuel : Nat} {tail trs B acc x : Bytes} {res : Got × ChunkSt}
    (h : Outcome cfg e names c cs0 fuel tail trs B (acc ++ x).length res)
    (hs : acc.length + x.length ≤ c.stopAfter) (hpos : 0 < c.readSize → 0 < x.length) :
    Outcome cfg e names c cs0 (fuel + 1) tail trs B acc.length res := by
  rw [List.length_append] at h
  obtain ⟨j, hij, hj, hbytes, hle, hcase⟩ := h
  refine ⟨j, by omega, hj, hbytes, Or.inr (by omega), ?_⟩
  rcases hcase with ⟨he, himp⟩ | h2 | h3
  · exact Or.inl ⟨he, fun hr hfu => himp hr (by have := hpos hr; omega)⟩
  · exact Or.inr (Or.inl h2)
  · exact Or.inr (Or.inr h3)

theorem split_of_append {acc R B : Bytes} (h : acc ++ R = B) :
    acc.length ≤ B.length ∧ acc = B.take acc.length ∧ R = B.drop acc.length := by
  rw [← h]; simp

/-- the consumer loop from any position of a well-formed encoding of the body `B` -/
theorem consume_wf (cs0 : List WChunk) (tail trs B : Bytes) (hp : parseChunkSize e tail = .ok (0, trs)) :
    ∀ (fuel : Nat) (d : Bytes) (cs : List WChunk) (acc : Bytes), cs <:+ cs0 → (∀ k ∈ cs, WChunk.Wf k) →
      acc ++ (d ++ bodyOf cs) = B →
      Outcome cfg e names c cs0 fuel tail trs B acc.length (consumeChunked cfg e names c fuel (posState d cs tail) acc)
  | 0, d, cs, acc, _, _, hB => by
    obtain ⟨hl, ht, _⟩ := split_of_append hB
    exact ⟨_, Nat.le_refl _, hl, ht, Or.inl rfl, Or.inl ⟨rfl, fun _ h => absurd h (Nat.not_lt_zero _)⟩⟩
  | fuel + 1, d, cs, acc, hsuf, hcs, hB => by
    have IH := consume_wf cs0 tail trs B hp fuel
    obtain ⟨hl, ht, hR⟩ := split_of_append hB
    by_cases hstop : acc.length ≥ c.stopAfter
    · rw [consume_stop cfg e names c fuel _ acc hstop]
      exact ⟨_, Nat.le_refl _, hl, ht, Or.inl rfl, Or.inr (Or.inl ⟨rfl, rfl, hstop, ⟨d, cs, hsuf, hcs, hR, rfl⟩⟩)⟩
    · -- a read inside a chunk, then the rest of the loop
      have inside : ∀ (d : Bytes) (cs : List WChunk), d ≠ [] → cs <:+ cs0 → (∀ k ∈ cs, WChunk.Wf k) →
          acc ++ (d ++ bodyOf cs) = B → Outcome cfg e names c cs0 (fuel + 1) tail trs B acc.length
            (consumeChunked cfg e names c (fuel + 1) (posState d cs tail) acc) := by
        intro d cs hd hsuf hcs hB
        have hdl : 0 < d.length := List.length_pos_iff.mpr hd
        rw [consume_inside cfg e names c fuel d cs tail acc _ hd hstop rfl]
        exact Outcome.lift cfg e names c (IH _ cs _ hsuf hcs (by
            rw [← hB, List.append_assoc, ← List.append_assoc (d.take _), List.take_append_drop]))
          (by rw [List.length_take]; omega) (fun hr => by rw [List.length_take]; omega)
      cases d with
      | cons x d => exact inside (x :: d) cs (by simp) hsuf hcs hB
      | nil =>
        cases cs with
        | nil =>
          rw [posState_last, consume_last cfg e names c fuel tail trs acc hstop hp]
          -- nothing is left of the body: `acc` is all of it
          have hall : acc.length = B.length := by rw [← hB]; simp [bodyOf]
          cases htr : readTrailerReq cfg e names trs with
          | error x =>
            exact ⟨_, Nat.le_refl _, hl, ht, Or.inl rfl, Or.inl ⟨rfl, fun _ _ => ⟨hall, by omega, x, htr⟩⟩⟩
          | ok v =>
            obtain ⟨o, r'⟩ := v
            exact ⟨_, Nat.le_refl _, hl, ht, Or.inl rfl, Or.inr (Or.inr ⟨rfl, rfl, hall, by omega, o, r', htr, rfl⟩)⟩
        | cons k0 cs' =>
          have hne : k0.data ≠ [] := (hcs k0 (by simp)).2.2
          obtain ⟨n, hn, hst, hpk⟩ := posState_chunk e k0 cs' tail (hcs k0 (by simp))
          rw [hst, consume_header cfg e names c fuel _ _ acc n hstop hpk, ← hn, ← posState_ne k0.data cs' tail hne]
          exact inside k0.data cs' hne ((List.suffix_cons k0 cs').trans hsuf) (fun k hk => hcs k (by simp [hk])) hB

end consume


/-! ### the drain (`skipRest`) -/

theorem drop_crlf (l t : Bytes) : (l ++ 13 :: 10 :: t).drop (l.length + 2) = t := List.drop_length_add_append 2

theorem skipTr_end (f : Nat) (t : Bytes) : drainChunked.skipTr (f + 1) (13 :: 10 :: t) = some t := by
  simp [drainChunked.skipTr, indexByte, strCRLF]

theorem skipTr_line (f : Nat) (l t : Bytes) (hl : TrLineOk l) :
    drainChunked.skipTr (f + 1) (l ++ 13 :: 10 :: t) = drainChunked.skipTr f t := by
  have h2 : ¬ l ++ [13, 10] = strCRLF := fun h => hl.1 (by simpa [strCRLF] using h)
  simp only [drainChunked.skipTr, indexByte_crlf l t (List.forall_mem_ne'.mpr hl.2), Nat.add_assoc, Nat.reduceAdd, List.take_length_add_append, List.take, h2,
    drop_crlf]
  simp

theorem skipTr_trailer (rest : Bytes) : ∀ (ls : List Bytes) (f : Nat), (∀ l ∈ ls, TrLineOk l) → ls.length < f →
    drainChunked.skipTr f (encTrailer ls ++ rest) = some rest
  | _, 0, _, hf => by omega
  | [], f + 1, _, _ => skipTr_end f rest
  | l :: ls, f + 1, h, hf => by
    have := skipTr_trailer rest ls f (fun x hx => h x (by simp [hx])) (by simp at hf; omega)
    simp only [encTrailer, encLines, List.append_assoc, List.cons_append] at this ⊢
    rw [skipTr_line f l _ (h l (by simp)), this]

theorem length_le_encLines : ∀ ls : List Bytes, ls.length ≤ (encLines ls).length
  | [] => by simp
  | l :: ls => by
    have := length_le_encLines ls
    simp only [encLines, List.length_cons, List.length_append]; omega

section drain
variable (cfg : Cfg) (e : End)

theorem drain_done' (fuel : Nat) (st : ChunkSt) (h : st.chunkEOF = true) :
    drainChunked cfg e (fuel + 1) st = some st.s := by
  simp [drainChunked, h]

theorem drain_done (fuel : Nat) (s : Bytes) (n : Nat) :
    drainChunked cfg e (fuel + 1) { s := s, chunkLeft := n, chunkEOF := true } = some s :=
  drain_done' cfg e fuel _ rfl

theorem drain_inside (fuel : Nat) (d t : Bytes) (hd : d ≠ []) :
    drainChunked cfg e (fuel + 1) { s := d ++ 13 :: 10 :: t, chunkLeft := d.length } =
    drainChunked cfg e fuel { s := t, chunkLeft := 0 } := by
  have hpos : d.length > 0 := List.length_pos_iff.mpr hd
  have h1 : ¬ (d ++ 13 :: 10 :: t).length < d.length + 2 := by simp
  have h2 : ((d ++ 13 :: 10 :: t).drop d.length).take 2 = strCRLF := by simp [strCRLF]
  simp only [drainChunked, Bool.false_eq_true, if_false, hpos, if_true, h1, h2, drop_crlf, ne_eq, not_true_eq_false]

theorem drain_header (fuel : Nat) (s rest : Bytes) (n : Nat) (hp : parseChunkSize e s = .ok (n + 1, rest)) :
    drainChunked cfg e (fuel + 1) { s := s, chunkLeft := 0 } =
    drainChunked cfg e (fuel + 1) { s := rest, chunkLeft := n + 1 } := by
  simp only [drainChunked, Bool.false_eq_true, if_false, Nat.lt_irrefl, gt_iff_lt, hp, Nat.succ_pos, if_true]

theorem drain_last (fuel : Nat) (s rest : Bytes) (hp : parseChunkSize e s = .ok (0, rest)) :
    drainChunked cfg e (fuel + 1) { s := s, chunkLeft := 0 } = drainChunked.skipTr (rest.length + 1) rest := by
  simp only [drainChunked, Bool.false_eq_true, if_false, Nat.lt_irrefl, gt_iff_lt, hp]

/-- the drain from a size line of a well-formed encoding: it ends where `SkipTrailer` ends on the trailer section, one
round of the loop per chunk -/
theorem drain_at_line (tail trs : Bytes) (hp : parseChunkSize e tail = .ok (0, trs)) :
    ∀ (fuel : Nat) (cs : List WChunk), (∀ k ∈ cs, WChunk.Wf k) → cs.length < fuel →
      drainChunked cfg e fuel (posState [] cs tail) = drainChunked.skipTr (trs.length + 1) trs
  | 0, _, _, hf => by omega
  | fuel + 1, [], _, _ => by
    rw [posState_last, drain_last cfg e fuel tail trs hp]
  | fuel + 1, k0 :: cs', hcs, hf => by
    obtain ⟨n, hn, hst, hpk⟩ := posState_chunk e k0 cs' tail (hcs k0 (by simp))
    rw [hst, drain_header cfg e fuel _ _ n hpk, ← hn, drain_inside cfg e fuel k0.data _ (hcs k0 (by simp)).2.2]
    exact drain_at_line tail trs hp fuel cs' (fun k hk => hcs k (by simp [hk])) (by simp at hf; omega)

/-- … and from any position: the rest of the current chunk first -/
theorem drain_wf (tail trs : Bytes) (hp : parseChunkSize e tail = .ok (0, trs)) (fuel : Nat) :
    ∀ (d : Bytes) (cs : List WChunk), (∀ k ∈ cs, WChunk.Wf k) → cs.length + 1 < fuel →
      drainChunked cfg e fuel (posState d cs tail) = drainChunked.skipTr (trs.length + 1) trs
  | [], cs, hcs, hf => drain_at_line cfg e tail trs hp fuel cs hcs (by omega)
  | x :: d, cs, hcs, hf => by
    obtain ⟨f, rfl⟩ : ∃ f, fuel = f + 1 := ⟨fuel - 1, by omega⟩
    rw [posState_ne _ cs tail (List.cons_ne_nil x d), drain_inside cfg e f (x :: d) _ (List.cons_ne_nil x d)]
    exact drain_at_line cfg e tail trs hp f cs hcs (by omega)

end drain


/-! ### the trailer reader (`ReadTrailer`) on a section of field lines with obs-fold continuation lines: rejected, or
consumed exactly -/

theorem readTrailerReq_empty (cfg : Cfg) (e : End) (names : List Bytes) (rest : Bytes) :
    readTrailerReq cfg e names (13 :: 10 :: rest) =
      .ok (some (filledTrailers (names.map (fun k => (k, none)))), rest) := by
  simp [readTrailerReq, parseTrailer, parseTrailerLoop, scanNext]

/-- the trailer reader, if it accepts the section, consumes exactly the section -/
def TrailerReadExact (cfg : Cfg) (e : End) (names : List Bytes) (trailer rest : Bytes) : Prop :=
  ∀ o r', readTrailerReq cfg e names (trailer ++ rest) = .ok (o, r') → o.isSome = true ∧ r' = rest

theorem TrailerDone.exact {cfg : Cfg} {e : End} {names : List Bytes} {trailer rest : Bytes} {st : ChunkSt}
    (hdone : TrailerDone cfg e names (trailer ++ rest) st) (hT : TrailerReadExact cfg e names trailer rest) :
    st.s = rest ∧ st.chunkLeft = 0 ∧ st.chunkEOF = true := by
  obtain ⟨o, r', hrt, rfl⟩ := hdone
  obtain ⟨ho, rfl⟩ := hT o r' hrt
  exact ⟨rfl, rfl, ho⟩

theorem encLines_append : ∀ a b : List Bytes, encLines (a ++ b) = encLines a ++ encLines b
  | [], b => rfl
  | l :: a, b => by simp [encLines, encLines_append a b]

/-- `encLines` is the `encConts` of the round trips (and `TrContOk` is their `ContPos`, by definition) -/
theorem encLines_eq : ∀ cs : List Bytes, encLines cs = RT.encConts cs
  | [] => rfl
  | l :: cs => congrArg (l ++ 13 :: 10 :: ·) (encLines_eq cs)

theorem conts_encLines (cs : List Bytes) (h : ∀ l ∈ cs, TrContOk l) : Conts (encLines cs) :=
  encLines_eq cs ▸ RT.encConts_conts cs h

/-- a trailer field with its continuation lines, in front of a text that continues nothing, in the parts the scanner
reads it by: the name up to the first colon, the first value line with its CR -/
theorem TrField.Ok.fieldAt {f : TrField} (hf : f.Ok) {T : Bytes} (hT : contExtra T = 0) :
    ∃ name raw, FieldAt (f.1 ++ 13 :: 10 :: (encLines f.2 ++ T)) name raw (encLines f.2) T ∧
      name.length + raw.length = f.1.length := by
  obtain ⟨⟨h10, h58, _⟩, hc⟩ := hf
  obtain ⟨n, hn⟩ := indexByte_of_mem 58 f.1 h58
  obtain ⟨P, R, hl, hP, -⟩ := indexByte_some 58 _ n hn
  rw [hl] at h10 ⊢
  refine ⟨P, R ++ [13], ⟨by simp, fun x hx => ⟨fun e => h10 (by simp [← e, hx]), hP x hx⟩, fun x hx e => ?_,
    conts_encLines f.2 hc, hT⟩, by simp⟩
  rcases List.mem_append.mp hx with hx | hx
  · exact h10 (by simp [← e, hx])
  · rw [List.mem_singleton.mp hx] at e; cases e

/-- what follows a field and its continuation lines — the next field or the empty line — is no continuation line -/
theorem noCont_after (rest : Bytes) (fs : List TrField) (h : ∀ f ∈ fs, TrField.Ok f) :
    contExtra (encLines (fieldLines fs) ++ 13 :: 10 :: rest) = 0 := by
  cases fs with
  | nil => exact contExtra_of_nonblank 13 _ (by decide)
  | cons f fs' =>
    obtain ⟨⟨_, h58, hhd⟩, _⟩ := h f (by simp)
    cases hf : f.1 with
    | nil => simp [hf] at h58
    | cons a l' =>
      simp only [fieldLines, encLines, hf, List.cons_append]
      exact contExtra_of_nonblank a _ fun hb => by have := hhd a l' hf; rcases hb with hb | hb <;> simp [hb] at this

/-- the header scanner run over a trailer section of fields with continuation lines, then the empty line: it hands out
one pair per field and stops exactly behind the empty line (the lines may hold CR, so only positions are claimed) -/
theorem readBlock_fields (dn : Bool) (rest : Bytes) : ∀ (fs : List TrField) (fuel : Nat),
    (∀ f ∈ fs, TrField.Ok f) → fs.length < fuel →
    ∃ kvs, ScanEdit.readBlock dn fuel (encLines (fieldLines fs) ++ 13 :: 10 :: rest) =
      (kvs, .fin ((encLines (fieldLines fs)).length + 2))
  | _, 0, _, hf => by omega
  | [], fuel + 1, _, _ => ⟨[], by simp [fieldLines, encLines, ScanEdit.readBlock, scanNext]⟩
  | f :: fs, fuel + 1, h, hf => by
    have hfs : ∀ x ∈ fs, TrField.Ok x := fun x hx => h x (by simp [hx])
    obtain ⟨name, raw, F, hlen⟩ := (h f (by simp)).fieldAt (noCont_after rest fs hfs)
    obtain ⟨kvs, ih⟩ := readBlock_fields dn rest fs fuel hfs (by simp at hf; omega)
    have heq : encLines (fieldLines (f :: fs)) ++ 13 :: 10 :: rest =
        f.1 ++ 13 :: 10 :: (encLines f.2 ++ (encLines (fieldLines fs) ++ 13 :: 10 :: rest)) := by
      simp [fieldLines, encLines, encLines_append]
    refine ⟨(normalizeKey dn name, fieldValue raw (encLines f.2)) :: kvs, ?_⟩
    rw [heq, ScanEdit.readBlock, F.scan dn]
    simp only [ih, fieldLines, encLines, encLines_append, List.length_append, List.length_cons]
    exact congrArg (fun n => (_, ScanEdit.Stop.fin n)) (by omega)

theorem fieldLines_lineOk : ∀ (fs : List TrField), (∀ f ∈ fs, TrField.Ok f) → ∀ l ∈ fieldLines fs, TrLineOk l
  | [], _, l, hl => by simp [fieldLines] at hl
  | f :: fs, h, l, hl => by
    obtain ⟨hf, hc⟩ := h f (by simp)
    simp only [fieldLines, List.mem_cons, List.mem_append] at hl
    rcases hl with hl | hl | hl
    · rw [hl]; exact hf.lineOk
    · exact (hc l hl).lineOk
    · exact fieldLines_lineOk fs (fun x hx => h x (by simp [hx])) l hl

theorem length_le_fieldLines : ∀ fs : List TrField, fs.length ≤ (fieldLines fs).length
  | [] => by simp [fieldLines]
  | f :: fs => by
    have := length_le_fieldLines fs
    simp only [fieldLines, List.length_cons, List.length_append]; omega

theorem readTrailerReq_fields (cfg : Cfg) (e : End) (names : List Bytes) (fs : List TrField) (rest : Bytes)
    (h : ∀ f ∈ fs, TrField.Ok f) :
    TrailerReadExact cfg e names (encTrailer (fieldLines fs)) rest := by
  intro o r' hr
  rw [show encTrailer (fieldLines fs) ++ rest = encLines (fieldLines fs) ++ 13 :: 10 :: rest by simp [encTrailer]] at hr
  have hne : (encLines (fieldLines fs) ++ 13 :: 10 :: rest).isEmpty = false := by simp
  -- the section begins with the empty line or with a field line, not with a repeated `0\r\n` line
  have hnz : NoZeroLine (encLines (fieldLines fs) ++ 13 :: 10 :: rest) := by
    cases fs with
    | nil => exact fun _ e => by cases e
    | cons f fs' =>
      obtain ⟨name, raw, F, -⟩ := (h f (by simp)).fieldAt (noCont_after rest fs' fun x hx => h x (by simp [hx]))
      simpa [fieldLines, encLines, encLines_append] using F.noZeroLine
  -- the trailer loop folds over what the scanner hands out, and the scanner stops behind the empty line
  obtain ⟨kvs, hrb⟩ := readBlock_fields cfg.disableNorm rest fs ((encLines (fieldLines fs) ++ 13 :: 10 :: rest).length + 1) h (by
    have h1 := length_le_encLines (fieldLines fs)
    have h2 := length_le_fieldLines fs
    simp only [List.length_append]; omega)
  simp only [readTrailerReq, hne, Bool.false_eq_true, if_false, parseTrailer_plain _ _ _ hnz, parseTrailerLoop_eq_fold, hrb,
    trailerFold] at hr
  by_cases hb : (kvs.foldl trailerStep (names.map (fun k => (k, none)), false)).2 = true
  · rw [if_pos hb] at hr; cases hr
  · rw [if_neg hb] at hr
    cases hr
    exact ⟨rfl, by rw [Nat.zero_add, drop_crlf]⟩

theorem fieldLines_plain : ∀ ls : List Bytes, fieldLines (ls.map (fun l => (l, []))) = ls
  | [] => rfl
  | l :: ls => by simp [fieldLines, fieldLines_plain ls]

theorem readTrailerReq_lines (cfg : Cfg) (e : End) (names : List Bytes) (ls : List Bytes) (rest : Bytes)
    (h : ∀ l ∈ ls, TrFieldOk l) :
    TrailerReadExact cfg e names (encTrailer ls) rest := by
  have := readTrailerReq_fields cfg e names (ls.map (fun l => (l, []))) rest (by
    intro f hf
    obtain ⟨l, hl, rfl⟩ := List.mem_map.mp hf
    exact ⟨h l hl, fun _ hx => absurd hx List.not_mem_nil⟩)
  rwa [fieldLines_plain] at this


/-! ### `streamBody` on a fixed-length body -/

/-- what the handler's reads obtain of a fixed-length body of `cl` bytes, `s` being what arrives -/
def fixedGot (c : Consume) (cl : Nat) (s : Bytes) : Got :=
  if c.stopAfter = 0 then { bytes := [] }
  else if min c.stopAfter cl ≤ min cl s.length then { bytes := s.take (min c.stopAfter cl), eof := c.stopAfter ≥ cl }
  else { bytes := s.take (min cl s.length), err := true }

theorem streamBody_fixed (cfg : Cfg) (e : End) (hd : ReqHead) (s : Bytes) (c : Consume) (hcl : hd.cl ≠ -2 ∧ hd.cl ≠ -1) :
    streamBody cfg e hd s c =
      if s.length < min hd.cl.toNat (min cfg.maxBody Gen.maxContentLengthInStream.toNat) then
        .error (match e with | .eof => .unexpectedEOF | .stall => .timeout)
      else .ok ({ head := hd, got := fixedGot c hd.cl.toNat s, streamed := true },
        if s.length ≥ hd.cl.toNat then .resync (s.drop hd.cl.toNat) else .closed) := by
  unfold streamBody fixedGot
  rw [if_neg hcl.1, if_neg hcl.2]
  rfl

/-- a read fails only when fewer bytes than `Content-Length` announces have arrived -/
theorem fixedGot_err {c : Consume} {cl : Nat} {s : Bytes} (h : (fixedGot c cl s).err = true) : s.length < cl := by
  unfold fixedGot at h
  split at h
  · cases h
  · split at h
    · cases h
    · omega

theorem fixedGot_prefix (c : Consume) (cl : Nat) (s : Bytes) :
    (fixedGot c cl s).bytes <+: s.take cl ∧ (fixedGot c cl s).bytes.length ≤ c.stopAfter ∧
      ((fixedGot c cl s).eof = true → (fixedGot c cl s).err = false → (fixedGot c cl s).bytes = s.take cl) := by
  unfold fixedGot
  split
  · simp
  · split
    · refine ⟨List.take_prefix_take_left (by omega), by simp only [List.length_take]; omega, fun he _ => ?_⟩
      simp only [decide_eq_true_eq] at he
      simp only
      congr 1; omega
    · exact ⟨List.take_prefix_take_left (by omega), by simp only [List.length_take]; omega, fun he => by simp at he⟩

/-- the whole body has arrived: no read fails, the reads obtain the body up to where the caller stops -/
theorem fixedGot_arrived (c : Consume) {cl : Nat} {s : Bytes} (hl : cl ≤ s.length) :
    (fixedGot c cl s).err = false ∧ (fixedGot c cl s).bytes = (s.take cl).take c.stopAfter ∧
      (cl < c.stopAfter → (fixedGot c cl s).eof = true) := by
  unfold fixedGot
  by_cases h0 : c.stopAfter = 0
  · rw [if_pos h0, h0]; exact ⟨rfl, List.take_zero.symm, fun h => absurd h (Nat.not_lt_zero _)⟩
  · rw [if_neg h0, if_pos (by omega), List.take_take, Nat.min_comm]
    exact ⟨rfl, rfl, fun h => decide_eq_true (Nat.le_of_lt h)⟩

theorem streamBody_arrived (cfg : Cfg) (e : End) (hd : ReqHead) (s : Bytes) (c : Consume) (hcl : 0 ≤ hd.cl)
    (hl : hd.cl.toNat ≤ s.length) :
    streamBody cfg e hd s c =
      .ok ({ head := hd, got := fixedGot c hd.cl.toNat s, streamed := true }, .resync (s.drop hd.cl.toNat)) := by
  rw [streamBody_fixed cfg e hd s c ⟨by omega, by omega⟩, if_neg (by omega), if_pos hl]

/-- fixed length: the connection is closed or goes on right behind the `Content-Length` bytes, which
have all arrived -/
theorem fixed_after (cfg : Cfg) (e : End) (hd : ReqHead) (s : Bytes) (c : Consume) (r : ReqOut) (a : After)
    (hcl : 0 ≤ hd.cl) (h : streamBody cfg e hd s c = .ok (r, a)) :
    a = .closed ∨ a = .resync (s.drop hd.cl.toNat) ∧ hd.cl.toNat ≤ s.length := by
  rw [streamBody_fixed cfg e hd s c ⟨by omega, by omega⟩] at h
  split at h
  · cases h
  · cases h
    by_cases hl : s.length ≥ hd.cl.toNat
    · exact Or.inr ⟨if_pos hl, hl⟩
    · exact Or.inl (if_neg hl)


/-! ### `streamBody` on a well-formed chunked message: the reads and the release -/

/-- what `ReleaseBodyStream` leaves, given the result of the handler's reads -/
def chunkedAfter (cfg : Cfg) (e : End) (s : Bytes) (r : Got × ChunkSt) : After :=
  if r.1.err then After.closed else
    match drainChunked cfg e (s.length + 2) r.2 with
    | none => After.closed
    | some rest => if r.2.chunkEOF then After.resync rest else After.either rest

theorem streamBody_chunked (cfg : Cfg) (e : End) (hd : ReqHead) (s : Bytes) (c : Consume) (h : hd.cl = -1) :
    streamBody cfg e hd s c =
      .ok ({ head := hd, got := (consumeChunked cfg e hd.trailer c (c.stopAfter + s.length + 2) { s := s } []).1,
             streamed := true },
           chunkedAfter cfg e s (consumeChunked cfg e hd.trailer c (c.stopAfter + s.length + 2) { s := s } [])) := by
  simp only [streamBody, h, if_true, chunkedAfter]
  rfl

theorem consume_msg (cfg : Cfg) (e : End) (names : List Bytes) (c : Consume) (m : ChunkedMsg) (hm : m.Wf)
    (rest : Bytes) (fuel : Nat) :
    Outcome cfg e names c m.chunks fuel (sizeLine m.zdigits m.zpad ++ (m.trailer ++ rest)) (m.trailer ++ rest) m.body 0
      (consumeChunked cfg e names c fuel { s := m.bytes ++ rest } []) := by
  obtain ⟨hcs, hzl, hz0⟩ := hm
  have := consume_wf cfg e names c m.chunks _ (m.trailer ++ rest) m.body
    (parseChunkSize_sizeLine e m.zdigits m.zpad 0 _ hzl hz0) fuel [] m.chunks [] (List.suffix_refl _) hcs rfl
  simpa [posState, ChunkedMsg.bytes] using this


section main
variable (cfg : Cfg) (e : End) (names : List Bytes) (c : Consume)

/-- the handler's reads on a well-formed chunked body, whatever follows the last chunk's size line -/
theorem chunked_reads (m : ChunkedMsg) (hm : m.Wf) (rest : Bytes) (fuel : Nat) :
    (consumeChunked cfg e names c fuel { s := m.bytes ++ rest } []).1.bytes <+: m.body ∧
    (consumeChunked cfg e names c fuel { s := m.bytes ++ rest } []).1.bytes.length ≤ c.stopAfter ∧
    ((consumeChunked cfg e names c fuel { s := m.bytes ++ rest } []).1.err = false →
      (consumeChunked cfg e names c fuel { s := m.bytes ++ rest } []).1.bytes = m.body.take c.stopAfter ∧
      ((consumeChunked cfg e names c fuel { s := m.bytes ++ rest } []).1.eof = true ↔ m.body.length < c.stopAfter)) := by
  obtain ⟨k, _, hk, hbytes, hle, hcase⟩ := consume_msg cfg e names c m hm rest fuel
  refine ⟨?_, ?_, ?_⟩
  · rw [hbytes]; exact List.take_prefix _ _
  · rw [hbytes, List.length_take]; omega
  · intro he
    rcases hcase with ⟨he', _⟩ | ⟨_, hf, hst, _⟩ | ⟨_, hf, hk2, hst, _⟩
    · rw [he] at he'; exact absurd he' (by simp)
    · have hks : k = c.stopAfter := by omega
      rw [hbytes, hks, hf]
      exact ⟨rfl, by simp; omega⟩
    · rw [hbytes, hf, hk2, List.take_length, List.take_of_length_le (by omega)]
      exact ⟨rfl, by simp; omega⟩

/-- with a positive read size and the model's fuel, the only possible read error on a well-formed
chunked body is the trailer reader's -/
theorem chunked_no_error (m : ChunkedMsg) (hm : m.Wf) (rest : Bytes) (fuel : Nat)
    (hr : 0 < c.readSize) (hf : c.stopAfter < fuel)
    (ht : ∀ x, readTrailerReq cfg e names (m.trailer ++ rest) ≠ .error x) :
    (consumeChunked cfg e names c fuel { s := m.bytes ++ rest } []).1.err = false := by
  obtain ⟨k, _, _, _, _, hcase⟩ := consume_msg cfg e names c m hm rest fuel
  rcases hcase with ⟨_, himp⟩ | ⟨he, _⟩ | ⟨he, _⟩
  · obtain ⟨_, _, x, hx⟩ := himp hr (by simpa using hf)
    exact absurd hx (ht x)
  · exact he
  · exact he

/-- where `ReleaseBodyStream` leaves the connection after a well-formed chunked body.  `hT` is asked for only when
end-of-stream was reported: a handler that stopped earlier is drained by `SkipTrailer`, which `hls` alone covers -/
theorem chunked_after (m : ChunkedMsg) (hm : m.Wf) (ls : List Bytes) (hls : ∀ l ∈ ls, TrLineOk l)
    (htr : m.trailer = encTrailer ls) (rest : Bytes) (fuel : Nat)
    (hT : (consumeChunked cfg e names c fuel { s := m.bytes ++ rest } []).1.eof = true →
      TrailerReadExact cfg e names m.trailer rest) :
    chunkedAfter cfg e (m.bytes ++ rest) (consumeChunked cfg e names c fuel { s := m.bytes ++ rest } []) =
      if (consumeChunked cfg e names c fuel { s := m.bytes ++ rest } []).1.err then After.closed
      else if (consumeChunked cfg e names c fuel { s := m.bytes ++ rest } []).1.eof then After.resync rest
      else After.either rest := by
  obtain ⟨k, _, _, _, _, hcase⟩ := consume_msg cfg e names c m hm rest fuel
  generalize consumeChunked cfg e names c fuel { s := m.bytes ++ rest } [] = r at hcase hT ⊢
  obtain ⟨hcs, hzl, hz0⟩ := hm
  rcases hcase with ⟨he, _⟩ | ⟨he, hf, _, d, cs, hsuf, hcs', _, hst⟩ | ⟨he, hf, _, _, hdone⟩
  · simp [chunkedAfter, he]
  · have hdr := drain_wf cfg e _ (m.trailer ++ rest) (parseChunkSize_sizeLine e m.zdigits m.zpad 0 _ hzl hz0)
      ((m.bytes ++ rest).length + 2) d cs hcs' (by
        have := hsuf.length_le
        have := length_le_encChunks m.chunks
        simp only [ChunkedMsg.bytes, List.length_append]; omega)
    have hsk := skipTr_trailer rest ls ((m.trailer ++ rest).length + 1) hls (by
      have := length_le_encLines ls
      simp only [htr, encTrailer, List.length_append]; omega)
    rw [← htr] at hsk
    rw [hsk, ← hst] at hdr
    have heof : r.2.chunkEOF = false := by rw [hst]; exact posState_eof _ _ _
    unfold chunkedAfter
    rw [hdr]
    simp [he, hf, heof]
  · obtain ⟨hs, _, heof⟩ := hdone.exact (hT hf)
    have hdd : drainChunked cfg e ((m.bytes ++ rest).length + 2) r.2 = some r.2.s :=
      drain_done' cfg e ((m.bytes ++ rest).length + 1) r.2 heof
    unfold chunkedAfter
    rw [hdd]
    simp [he, hf, heof, hs]

end main

/-- a failed read of the body stream closes the connection, for every kind of body -/
theorem streamBody_err_closed (cfg : Cfg) (e : End) (hd : ReqHead) (s : Bytes) (c : Consume) (r : ReqOut) (a : After)
    (h : streamBody cfg e hd s c = .ok (r, a)) (herr : r.got.err = true) : a = .closed := by
  by_cases h1 : hd.cl = -1
  · rw [streamBody_chunked cfg e hd s c h1] at h
    cases h
    exact if_pos herr
  · by_cases h2 : hd.cl = -2
    · simp only [streamBody, h2, if_true] at h
      cases h; cases herr
    · rw [streamBody_fixed cfg e hd s c ⟨h2, h1⟩] at h
      split at h
      · cases h
      · cases h
        exact if_neg (Nat.not_le.mpr (fixedGot_err herr))

end Hertz.H1.Stream
