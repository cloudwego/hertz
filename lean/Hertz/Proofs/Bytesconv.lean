import Hertz.Proofs.Tables
/-!
Percent-encoding (`Hertz/Model/Bytesconv.lean`): decoding undoes quoting for every byte string
(`decode_quoteArg`, `decodeNoPlus_quotePath`), and which bytes the quoting functions can emit (`quoteArg_all`,
`quotePathBody_all`).  Both decoders are first reduced to `decodeSlow`, their byte-by-byte loop without the fast path
(`decodeArg_eq_slow`, `decodeArgNoPlus_eq_slow`).  The last section states `decodeSlow` at an index of its input, for
the proofs that follow the index-driven loops of the Go decoders (`Proofs/NoFaultCodec.lean`, `Proofs/TieP3.lean`).
-/
namespace Hertz

theorem nibble_lt (c : UInt8) : c >>> 4 < 16 ∧ c &&& 15 < 16 := by
  revert c; exact forall_byte (by decide +kernel)

theorem hex_roundtrip (c : UInt8) :
    hex2int (upperhex (c >>> 4)) ≠ 16 ∧ hex2int (upperhex (c &&& 15)) ≠ 16 ∧
      (hex2int (upperhex (c >>> 4)) <<< 4 ||| hex2int (upperhex (c &&& 15))) = c := by
  simp only [upperhex_eq _ (nibble_lt c).1, upperhex_eq _ (nibble_lt c).2, hex2int_eq]
  revert c; exact forall_byte (by decide +kernel)

theorem upperhex_plain (n : UInt8) (h : n < 16) : argPlain (upperhex n) = true ∧ pathPlain (upperhex n) = true := by
  rw [upperhex_eq n h]
  revert n; exact forall_byte (by decide +kernel)

theorem pctEnc_plain (c x : UInt8) (hx : x ∈ pctEnc c) : x = 37 ∨ (argPlain x = true ∧ pathPlain x = true) := by
  simp only [pctEnc, List.mem_cons, List.mem_nil_iff, or_false] at hx
  rcases hx with rfl | rfl | rfl
  · exact .inl rfl
  · exact .inr (upperhex_plain _ (nibble_lt c).1)
  · exact .inr (upperhex_plain _ (nibble_lt c).2)

/-- a byte of a class (`argPlain`, `pathPlain`, `ishex`) is none of the bytes outside it, `%` and `+` among them -/
theorem ne_of_class {p : UInt8 → Bool} {c d : UInt8} (h : p c = true) (hd : p d = false) : c ≠ d :=
  fun e => Bool.false_ne_true (hd.symm.trans (e ▸ h))

/-! ### one step of `decodeSlow` on any tail (its own equations need the shape of the next two bytes) -/

theorem decodeSlow_cons (p : Bool) (c : UInt8) (t : Bytes) (h : c ≠ 37) :
    decodeSlow p (c :: t) = (if p && c == 43 then 32 else c) :: decodeSlow p t := by
  match t with
  | [] => simp only [decodeSlow]; split <;> rfl
  | [d] => simp [decodeSlow, h]
  | d :: e :: r => simp [decodeSlow, h]

theorem decodeSlow_plain (p : Bool) (c : UInt8) (t : Bytes) (h1 : c ≠ 37) (h2 : c ≠ 43) :
    decodeSlow p (c :: t) = c :: decodeSlow p t := by
  simp [decodeSlow_cons p c t h1, h2]

theorem decodeSlow_plus (t : Bytes) : decodeSlow true (43 :: t) = 32 :: decodeSlow true t :=
  decodeSlow_cons true 43 t (by decide)

theorem decodeSlow_pct_cases (p : Bool) (a b : UInt8) (t : Bytes) :
    decodeSlow p (37 :: a :: b :: t) =
      if hex2int a = 16 ∨ hex2int b = 16 then 37 :: decodeSlow p (a :: b :: t)
      else (hex2int a <<< 4 ||| hex2int b) :: decodeSlow p t := by
  simp [decodeSlow]

theorem decodeSlow_pct (p : Bool) (a b : UInt8) (t : Bytes) (ha : hex2int a ≠ 16) (hb : hex2int b ≠ 16) :
    decodeSlow p (37 :: a :: b :: t) = (hex2int a <<< 4 ||| hex2int b) :: decodeSlow p t := by
  rw [decodeSlow_pct_cases, if_neg (not_or.2 ⟨ha, hb⟩)]

theorem decodeSlow_pctEnc (p : Bool) (c : UInt8) (t : Bytes) :
    decodeSlow p (pctEnc c ++ t) = c :: decodeSlow p t := by
  obtain ⟨h1, h2, h3⟩ := hex_roundtrip c
  simp only [pctEnc, List.cons_append, List.nil_append]
  rw [decodeSlow_pct p _ _ t h1 h2, h3]

/-- The fast path of both decoders is an optimisation only. -/
theorem decodeSlow_id (p : Bool) (s : Bytes) (h1 : s.contains 37 = false) (h2 : p = true → s.contains 43 = false) :
    decodeSlow p s = s := by
  induction s with
  | nil => simp [decodeSlow]
  | cons c t ih =>
    simp only [List.contains_cons, Bool.or_eq_false_iff, beq_eq_false_iff_ne, ne_eq] at h1 h2
    have h43 : (p && c == 43) = false := by
      cases p with
      | false => rfl
      | true => simpa using fun h => (h2 rfl).1 h.symm
    rw [decodeSlow_cons p c t (fun h => h1.1 h.symm), h43, ih h1.2 (fun hp => (h2 hp).2)]
    rfl

theorem decodeArg_eq_slow (s : Bytes) : decodeArg s = decodeSlow true s := by
  unfold decodeArg
  split
  · rename_i h
    simp only [Bool.and_eq_true, Bool.not_eq_true'] at h
    rw [decodeSlow_id true s h.1 (fun _ => h.2)]
  · rfl

theorem decodeArgNoPlus_eq_slow (s : Bytes) : decodeArgNoPlus s = decodeSlow false s := by
  unfold decodeArgNoPlus
  split
  · rename_i h
    simp only [Bool.not_eq_true'] at h
    rw [decodeSlow_id false s h (by simp)]
  · rfl

/-! ### quoting is bytewise

Both quoting functions write each byte on its own (`encArg`, `encPath`), so what holds of every byte's image holds of the
whole: the decoder undoes it (`decodeSlow_flatMap`), and its bytes are those of the images (`quoteArg_all`,
`quotePathBody_all`). -/

/-- what `AppendQuotedArg` writes for one byte -/
def encArg (c : UInt8) : Bytes := if c = 32 then [43] else if argPlain c then [c] else pctEnc c

/-- what `AppendQuotedPath` writes for one byte -/
def encPath (c : UInt8) : Bytes := if pathPlain c then [c] else pctEnc c

theorem quoteArg_eq (b : Bytes) : quoteArg b = b.flatMap encArg := by
  induction b with
  | nil => rfl
  | cons c t ih =>
    simp only [quoteArg, encArg, argShouldEscape_eq, List.flatMap_cons, ih]
    cases argPlain c <;> rfl

theorem quotePathBody_eq (b : Bytes) : quotePathBody b = b.flatMap encPath := by
  induction b with
  | nil => rfl
  | cons c t ih =>
    simp only [quotePathBody, encPath, pathShouldEscape_eq, List.flatMap_cons, ih]
    cases pathPlain c <;> rfl

theorem decodeSlow_flatMap (p : Bool) (enc : UInt8 → Bytes) (h : ∀ c t, decodeSlow p (enc c ++ t) = c :: decodeSlow p t)
    (b t : Bytes) : decodeSlow p (b.flatMap enc ++ t) = b ++ decodeSlow p t := by
  induction b with
  | nil => rfl
  | cons c r ih => rw [List.flatMap_cons, List.append_assoc, h, ih]; rfl

theorem decodeSlow_encArg (c : UInt8) (t : Bytes) : decodeSlow true (encArg c ++ t) = c :: decodeSlow true t := by
  unfold encArg
  split
  · rename_i h32
    rw [h32]; exact decodeSlow_plus t
  · split
    · rename_i hp
      exact decodeSlow_plain _ _ _ (ne_of_class hp rfl) (ne_of_class hp rfl)
    · exact decodeSlow_pctEnc _ _ _

theorem decodeSlow_encPath (c : UInt8) (t : Bytes) : decodeSlow false (encPath c ++ t) = c :: decodeSlow false t := by
  unfold encPath
  split
  · rename_i hp
    exact decodeSlow_cons false c _ (ne_of_class hp rfl)
  · exact decodeSlow_pctEnc _ _ _

theorem decodeSlow_quoteArg (b t : Bytes) :
    decodeSlow true (quoteArg b ++ t) = b ++ decodeSlow true t := by
  rw [quoteArg_eq]; exact decodeSlow_flatMap true encArg decodeSlow_encArg b t

/-- `decodeArgAppend(nil, AppendQuotedArg(nil, b)) = b` for every byte string. -/
theorem decode_quoteArg (b : Bytes) : decodeArg (quoteArg b) = b := by
  have := decodeSlow_quoteArg b []
  simp [decodeSlow] at this
  rw [decodeArg_eq_slow, this]

/-- the alphabet of `quoteArg`: what holds of the bytes it leaves alone, of `+` (for a space) and of `%` (the hex digits of an
escape are among the first) holds of all it writes -/
theorem quoteArg_all {P : UInt8 → Prop} (h : ∀ x, argPlain x = true ∨ x = 43 ∨ x = 37 → P x) (b : Bytes) :
    ∀ x ∈ quoteArg b, P x := by
  intro x hx
  rw [quoteArg_eq, List.mem_flatMap] at hx
  obtain ⟨c, _, hc⟩ := hx
  unfold encArg at hc
  split at hc
  · exact h x (.inr (.inl (List.mem_singleton.1 hc)))
  · split at hc
    · rename_i hp
      rw [List.mem_singleton.1 hc]; exact h c (.inl hp)
    · exact h x ((pctEnc_plain c x hc).elim (fun e => .inr (.inr e)) (fun e => .inl e.1))

/-- the alphabet of `quotePathBody` -/
theorem quotePathBody_all {P : UInt8 → Prop} (h : ∀ x, pathPlain x = true ∨ x = 37 → P x) (p : Bytes) :
    ∀ x ∈ quotePathBody p, P x := by
  intro x hx
  rw [quotePathBody_eq, List.mem_flatMap] at hx
  obtain ⟨c, _, hc⟩ := hx
  unfold encPath at hc
  split at hc
  · rename_i hp
    rw [List.mem_singleton.1 hc]; exact h c (.inl hp)
  · exact h x ((pctEnc_plain c x hc).elim .inr (fun e => .inl e.2))

theorem quoted_no_special : ∀ x : UInt8, argPlain x = true ∨ x = 43 ∨ x = 37 → x ≠ 38 ∧ x ≠ 61 ∧ x ≠ 35 ∧ x ≠ 59 :=
  forall_byte (by decide +kernel)

/-- No byte of `quoteArg b` is one of `& = # ;`. -/
theorem quoteArg_no_special (b : Bytes) : ∀ x ∈ quoteArg b, x ≠ 38 ∧ x ≠ 61 ∧ x ≠ 35 ∧ x ≠ 59 :=
  quoteArg_all quoted_no_special b

theorem quoteArg_ne_nil (b : Bytes) (h : b ≠ []) : quoteArg b ≠ [] := by
  cases b with
  | nil => exact absurd rfl h
  | cons c t =>
    rw [quoteArg_eq, List.flatMap_cons, encArg]
    split
    · exact List.cons_ne_nil _ _
    · split <;> exact List.cons_ne_nil _ _

theorem decodeSlow_quotePathBody (b t : Bytes) :
    decodeSlow false (quotePathBody b ++ t) = b ++ decodeSlow false t := by
  rw [quotePathBody_eq]; exact decodeSlow_flatMap false encPath decodeSlow_encPath b t

/-- `decodeArgAppendNoPlus(nil, AppendQuotedPath(nil, p)) = p`: a path survives quoting and the one decoding `normalizePath` applies. -/
theorem decodeNoPlus_quotePath (p : Bytes) : decodeArgNoPlus (quotePath p) = p := by
  rw [decodeArgNoPlus_eq_slow]
  unfold quotePath
  split
  · rename_i h; subst h; decide
  · have := decodeSlow_quotePathBody p []
    simp [decodeSlow] at this
    exact this

/-! ### `decodeSlow` at an index of its input -/

theorem decodeSlow_short (plus : Bool) (rest : Bytes) (h : rest.length ≤ 1) : decodeSlow plus (37 :: rest) = 37 :: rest := by
  rcases rest with _ | ⟨d, _ | ⟨e, r⟩⟩
  · simp [decodeSlow]
  · simp [decodeSlow]
  · simp at h

theorem decodeSlow_drop_ne (plus : Bool) (src : Bytes) (i : Nat) (h : i < src.length) (h37 : src[i] ≠ 37) :
    decodeSlow plus (src.drop i) = (if plus && src[i] == 43 then 32 else src[i]) :: decodeSlow plus (src.drop (i + 1)) := by
  rw [List.drop_eq_getElem_cons h, decodeSlow_cons plus _ _ h37]

theorem decodeSlow_drop_short (plus : Bool) (src : Bytes) (i : Nat) (h : i < src.length) (h37 : src[i] = 37)
    (hr : src.length ≤ i + 2) : decodeSlow plus (src.drop i) = src.drop i := by
  rw [List.drop_eq_getElem_cons h, h37, decodeSlow_short plus _ (by rw [List.length_drop]; omega)]

theorem decodeSlow_drop_pct (plus : Bool) (src : Bytes) (i : Nat) (h1 : i + 1 < src.length) (h2 : i + 2 < src.length)
    (h37 : src[i] = 37) :
    decodeSlow plus (src.drop i) =
      if hex2int src[i + 1] = 16 ∨ hex2int src[i + 2] = 16 then 37 :: decodeSlow plus (src.drop (i + 1))
      else (hex2int src[i + 1] <<< 4 ||| hex2int src[i + 2]) :: decodeSlow plus (src.drop (i + 3)) := by
  rw [List.drop_eq_getElem_cons h1, List.drop_eq_getElem_cons h2, ← decodeSlow_pct_cases, ← h37,
    ← List.drop_eq_getElem_cons h2, ← List.drop_eq_getElem_cons h1, ← List.drop_eq_getElem_cons]

end Hertz
