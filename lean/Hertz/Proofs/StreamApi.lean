import Hertz.Model.Http1.StreamApi
import Hertz.Proofs.StreamChunked
/-!
Lemmas for C14 on handlers that consume the stream through the request API (`Model/Http1/StreamApi.lean`).
-/
namespace Hertz.H1.Stream
open Hertz Hertz.H1 Hertz.Gen.Str

/-- `streamBodyP` is `streamBody`, whatever the request references when the handler returns -/
theorem streamBodyP_eq (cfg : Cfg) (e : End) (hd : ReqHead) (s : Bytes) (p : Prog) :
    streamBodyP cfg e hd s p = streamBody cfg e hd s p.c := rfl

theorem bodyOf_length_le : ∀ cs : List WChunk, (bodyOf cs).length ≤ (encChunks cs).length
  | [] => by simp [bodyOf, encChunks]
  | k :: cs => by
    have := bodyOf_length_le cs
    simp only [bodyOf, encChunks, List.length_append, List.length_cons]
    omega

theorem body_length_le (m : ChunkedMsg) (rest : Bytes) : m.body.length ≤ (m.bytes ++ rest).length := by
  have := bodyOf_length_le m.chunks
  simp only [ChunkedMsg.body, ChunkedMsg.bytes, List.length_append]
  omega

/-- a handler (or the library on its behalf) that was told end-of-stream on a well-formed chunked message with a
trailer section of field lines left the stream exactly behind the message -/
theorem eof_position (cfg : Cfg) (e : End) (names : List Bytes) (c : Consume) (m : ChunkedMsg) (hm : m.Wf)
    (ls : List Bytes) (hls : ∀ l ∈ ls, TrFieldOk l) (htr : m.trailer = encTrailer ls) (rest : Bytes) (fuel : Nat)
    (herr : (consumeChunked cfg e names c fuel { s := m.bytes ++ rest } []).1.err = false)
    (heof : (consumeChunked cfg e names c fuel { s := m.bytes ++ rest } []).1.eof = true) :
    (consumeChunked cfg e names c fuel { s := m.bytes ++ rest } []).2.s = rest := by
  obtain ⟨k, _, _, _, _, hcase⟩ := consume_msg cfg e names c m hm rest fuel
  generalize consumeChunked cfg e names c fuel { s := m.bytes ++ rest } [] = r at hcase herr heof ⊢
  rcases hcase with ⟨he, _⟩ | ⟨_, hf, _⟩ | ⟨_, _, _, _, hdone⟩
  · rw [herr] at he; cases he
  · rw [heof] at hf; cases hf
  · have hx := readTrailerReq_lines cfg e names ls rest hls
    rw [← htr] at hx
    exact (hdone.exact hx).1

/-- with programs that leave the stream attached `streamLoopP` is `streamLoop`, event by event (`PEv.toSEv` drops `Fin`) -/
theorem streamLoopP_attached (cfg : Cfg) (e : End) (c : Consume) : ∀ (fuel : Nat) (first : Bool) (s : Bytes),
    (streamLoopP cfg e (fun _ _ => ⟨c, .attached⟩) fuel first s).map PEv.toSEv = streamLoop cfg e c fuel first s
  | 0, _, _ => rfl
  | fuel + 1, first, s => by
    have ih := streamLoopP_attached cfg e c fuel
    simp only [streamLoopP, streamLoop]
    by_cases hgo : (!first && decide (s.length < 4)) = true
    · simp [hgo]
    · simp only [hgo, if_false, Bool.false_eq_true]
      cases hp : parseReqHead cfg.disableNorm s with
      | error x =>
        cases x <;> simp only [] <;> (try split) <;> cases e <;> rfl
      | ok v =>
        obtain ⟨hd, n⟩ := v
        simp only []
        rw [streamBodyP_eq]
        cases hb : streamBody cfg e hd (List.drop n s) c with
        | error x =>
          simp only [List.map_append]
          cases errStatus x <;> (by_cases hc : mayContinue hd = true <;> simp [hc, PEv.toSEv])
        | ok v =>
          obtain ⟨r, a⟩ := v
          simp only [List.map_append, List.map_cons, List.map_nil, PEv.toSEv]
          by_cases hc : mayContinue hd = true <;>
            by_cases hk : (cfg.disableKeepalive || r.head.connClose) = true <;>
              simp only [hc, hk, if_true, if_false, List.map_cons, List.map_nil, PEv.toSEv, Bool.false_eq_true] <;>
              (try rfl) <;> (cases a <;> simp [PEv.toSEv, ih])

end Hertz.H1.Stream
