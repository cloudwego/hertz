import Hertz.Model.ArgsProg
import Hertz.Proofs.Args
import Hertz.Proofs.ArgsStd
import Hertz.Proofs.CookieRt
/-!
Setter-side round trips (`Model/ArgsProg.lean`):
* `runArgOps_roundtrip`: after ANY program of `Add/Set/Del/ParseBytes/Reset`, `ParseBytes(QueryString())` yields the visible
  entries, those with both key and value empty excepted;
* `parseReqCookies_appendReqCookies`: well-formed request cookies survive the `Cookie:` line.
-/
namespace Hertz
open Hertz.Uri

/-- `Set` flags no entry "no value": what holds of the entries so flagged holds of them afterwards -/
theorem setArg_inv {Q : ArgKV → Prop} (l : List ArgKV) (k v : Bytes) (h : ∀ kv ∈ l, kv.noValue = true → Q kv) :
    ∀ kv ∈ setArg l k v, kv.noValue = true → Q kv := by
  induction l with
  | nil =>
    intro kv hkv hnv
    simp only [setArg, List.mem_singleton] at hkv
    subst hkv
    cases hnv
  | cons a t ih =>
    unfold setArg
    split
    · intro kv hkv hnv
      rcases List.mem_cons.mp hkv with e | e
      · subst e; cases hnv
      · exact h kv (by simp [e]) hnv
    · intro kv hkv hnv
      rcases List.mem_cons.mp hkv with e | e
      · subst e; exact h _ (by simp) hnv
      · exact ih (fun x hx => h x (by simp [hx])) kv e hnv

/-- only `ParseBytes` makes entries without value: a property of those that every parsed list has is kept by every step -/
theorem argStep_inv {Q : ArgKV → Prop} (hp : ∀ b, ∀ kv ∈ parseArgs b, kv.noValue = true → Q kv) (l : List ArgKV) (op : ArgOp)
    (h : ∀ kv ∈ l, kv.noValue = true → Q kv) : ∀ kv ∈ argStep l op, kv.noValue = true → Q kv := by
  cases op with
  | add k v =>
    intro kv hkv hnv
    simp only [argStep, List.mem_append, List.mem_singleton] at hkv
    rcases hkv with e | e
    · exact h kv e hnv
    · subst e; cases hnv
  | set k v => exact setArg_inv l k v h
  | del k =>
    intro kv hkv hnv
    simp only [argStep, delArgs, List.mem_filter] at hkv
    exact h kv hkv.1 hnv
  | parse b => exact hp b
  | reset => intro kv hkv; cases hkv

theorem foldl_inv (ops : List ArgOp) : ∀ l, ArgsInv l → ArgsInv (ops.foldl argStep l) := by
  induction ops with
  | nil => intro l h; exact h
  | cons o r ih => intro l h; exact ih _ (argStep_inv parseArgs_wf l o h)

/-- every `Args` value reachable through the public mutators keeps "an entry flagged no-value has an empty value" -/
theorem runArgOps_inv (ops : List ArgOp) : ArgsInv (runArgOps ops) :=
  foldl_inv ops [] (fun kv hkv => by cases hkv)

theorem runArgOps_roundtrip (ops : List ArgOp) :
    parseArgs (appendArgs (runArgOps ops)) = (runArgOps ops).filter (fun kv => !kv.bothEmpty) :=
  parseArgs_appendArgs _ (runArgOps_inv ops)

/-! ### request cookies -/

/-- the `Cookie:` line has the shape of a `Set-Cookie` value: a first segment, then each of the others behind `; ` -/
theorem appendReqCookies_eq (kv : Bytes × Bytes) (t : List (Bytes × Bytes)) :
    appendReqCookies (kv :: t) = reqCookieSeg kv ++ semi (t.map fun kv => 32 :: reqCookieSeg kv) := by
  induction t generalizing kv with
  | nil => exact (List.append_nil _).symm
  | cons k2 r ih =>
    show reqCookieSeg kv ++ 59 :: 32 :: appendReqCookies (k2 :: r) = _
    rw [ih k2]; rfl

/-- `parseRequestCookies(appendRequestCookieBytes(l)) = l` minus the entries with neither key nor value, for every list of
well-formed request cookies. -/
theorem parseReqCookies_appendReqCookies (l : List (Bytes × Bytes)) (h : ∀ kv ∈ l, wfReqCookie kv = true) :
    parseReqCookies (appendReqCookies l) = l.filter pairNonEmpty := by
  cases l with
  | nil => rfl
  | cons kv t =>
    have hkv := h kv (by simp)
    have ht : ∀ x ∈ t, wfReqCookie x = true := fun x hx => h x (by simp [hx])
    unfold parseReqCookies
    rw [cookieSegs_eq, appendReqCookies_eq, joinSep_semi, scan_joinSep 59 cookieKV _ (by decide), List.map_cons, List.map_map,
      cookieKV_reqSeg kv hkv]
    · -- the blank that follows `;` is trimmed away
      congr 2
      exact (List.map_congr_left fun x hx => cookieKV_sp_reqSeg x (ht x hx)).trans (List.map_id' t)
    · rw [List.forall_mem_cons, List.forall_mem_map]
      exact ⟨reqSeg_no_semi kv hkv, fun x hx => (goodSeg_sp_reqSeg x (ht x hx)).2⟩

/-- for well-formed request cookies a second round of serialising and parsing changes nothing -/
theorem cookieKV_wf_fixed (l : List (Bytes × Bytes)) (h : ∀ kv ∈ l, wfReqCookie kv = true) :
    parseReqCookies (appendReqCookies (parseReqCookies (appendReqCookies l))) = parseReqCookies (appendReqCookies l) := by
  rw [parseReqCookies_appendReqCookies l h]
  rw [parseReqCookies_appendReqCookies _ (fun kv hkv => h kv (List.mem_filter.mp hkv).1)]
  simp [List.filter_filter]

end Hertz
