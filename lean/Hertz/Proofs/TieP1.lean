import Hertz.Proofs.Tie
import Hertz.Proofs.Fs
/-!
`Hertz.Props.Tie`, part 1: `bytesconv.ParseUintBuf`, `ParseUint` against the models of `Hertz.FS` (C08) and `Hertz.H1` (C01/C03).
-/
open Hertz

namespace Hertz.Tie

/-- the Go error variable a model error stands for -/
def errName : FS.UErr → String
  | .empty => "errEmptyInt"
  | .firstChar => "errUnexpectedFirstChar"
  | .tooLong => "errTooLongInt"
  | .trailing => "errUnexpectedTrailingChar"

/-- `(v, n, err)` of the model as the Go triple -/
def viewBuf (r : Int × Nat × Option FS.UErr) : Int × Int × Option String := (r.1, (r.2.1 : Int), r.2.2.map errName)

theorem guard_eq (k : UInt8) : Go.quo (Go.sub Go.maxInt (Go.intOfByte k)) 10 = (FS.maxInt - (k.toNat : Int)) / 10 := by
  have hk : k.toNat < 256 := k.toNat_lt
  unfold Go.quo Go.sub Go.intOfByte Go.maxInt FS.maxInt
  rw [wrap_id (x := 9223372036854775807 - (k.toNat : Int)) (by omega) (by omega)]
  rw [Int.tdiv_eq_ediv_of_nonneg (by omega)]
  rw [wrap_id (by omega) (by omega)]

theorem step_eq (v : Int) (k : UInt8) : Go.add (Go.mul 10 v) (Go.intOfByte k) = FS.wrap64 (10 * v + (k.toNat : Int)) := by
  unfold Go.add Go.mul Go.intOfByte Go.wrap FS.wrap64; omega

theorem parseUintBuf_eq (b : Bytes) (hlen : b.length < 2^63) :
    Gen.Funcs.parseUintBuf b = .ok (viewBuf (FS.parseUintBuf b)) := by
  unfold Gen.Funcs.parseUintBuf FS.parseUintBuf
  by_cases h0 : b.length = 0
  · simp [Go.len, h0, viewBuf, errName]
  · have hne : ((Go.len b == (0 : Int)) = true) = False := by simp [Go.len]; intro h; exact h0 (by simp [h])
    simp only [hne, h0, if_false]
    -- cursor `b = p ++ t` with the counter at `p.length`: the loop computes the model loop on `t`
    refine forLoop_sim _ _ _ _ (fun a : Bytes × Bytes × Int => ((a.1.length : Int), a.2.2)) (fun a => b = a.1 ++ a.2.1)
      (fun a => a.2.1.length) (fun a => viewBuf (FS.parseUintLoop a.2.1 a.2.2 a.1.length)) (fun ⟨p, t, v⟩ hb => ?_)
      _ ([], b, 0) rfl (by simp [Go.fuelOf, Go.len])
    dsimp only at hb ⊢
    subst hb
    rcases t with _ | ⟨c, t⟩
    · exact .exit (by simp [Go.len]) (by simp [FS.parseUintLoop, viewBuf, Go.len])
    · have hc : (Except.ok (decide ((p.length : Int) < Go.len (p ++ c :: t))) : Go.G Bool) = .ok true := by
        simp [Go.len]; omega
      by_cases hk : c - 48 > 9
      · by_cases hp0 : p.length = 0
        · refine .ret (-1, (p.length : Int), some "errUnexpectedFirstChar") hc ?_
            (by simp [FS.parseUintLoop, hk, hp0, viewBuf, errName])
          simp only [idx_append, bind_ok]; simp [hk, hp0]
        · refine .ret (v, (p.length : Int), none) hc ?_ (by simp [FS.parseUintLoop, hk, hp0, viewBuf])
          simp only [idx_append, bind_ok]; simp [hk, hp0]
      · by_cases hg : v > (FS.maxInt - ((c - 48).toNat : Int)) / 10
        · refine .ret (-1, (p.length : Int), some "errTooLongInt") hc ?_ (by simp [FS.parseUintLoop, hk, hg, viewBuf, errName])
          simp only [idx_append, bind_ok, guard_eq]; simp [hk, hg]
        · refine .next ((p.length : Int), FS.wrap64 (10 * v + ((c - 48).toNat : Int)))
            (p ++ [c], t, FS.wrap64 (10 * v + ((c - 48).toNat : Int))) hc ?_
            (by rw [add_one_snoc p c (by simp at hlen; omega)]) (by simp) (by simp) (by simp [FS.parseUintLoop, hk, hg])
          -- `guard_eq`, `step_eq` first: otherwise `simp` evaluates `Go.wrap` on an open term
          simp only [idx_append, bind_ok, guard_eq, step_eq]; simp [hk, hg]

/-- every error return of the model loop carries the value `-1` (as the Go code does) -/
theorem loop_err_val : ∀ (t : Bytes) (v : Int) (i : Nat) (e : FS.UErr), (FS.parseUintLoop t v i).2.2 = some e →
    (FS.parseUintLoop t v i).1 = -1
  | [], v, i, e, h => by simp [FS.parseUintLoop] at h
  | c :: t, v, i, e, h => by
    unfold FS.parseUintLoop at h ⊢
    by_cases hk : c - 48 > 9
    · by_cases hi : i = 0 <;> simp_all
    · by_cases hg : v > (FS.maxInt - ((c - 48).toNat : Int)) / 10
      · simp only [hk, hg, if_false, if_true]
      · simp only [hk, hg, if_false] at h ⊢
        exact loop_err_val t _ _ e h

/-- the Go pair `(value, err)` a model result of `ParseUint` stands for -/
def viewU : Except FS.UErr Int → Int × Option String
  | .ok v => (v, none)
  | .error e => (-1, some (errName e))

theorem parseUint_eq (b : Bytes) (hlen : b.length < 2^63) :
    Gen.Funcs.parseUint b = .ok (viewU (FS.parseUint b)) := by
  unfold Gen.Funcs.parseUint FS.parseUint
  rw [parseUintBuf_eq b hlen]
  have hv : ∀ e, (FS.parseUintBuf b).2.2 = some e → (FS.parseUintBuf b).1 = -1 := by
    intro e; unfold FS.parseUintBuf
    by_cases h0 : b.length = 0
    · simp [h0]
    · simp only [h0, if_false]; exact loop_err_val b 0 0 e
  rcases hr : FS.parseUintBuf b with ⟨v, n, err⟩
  rw [hr] at hv
  simp only [Except.bind, viewBuf, Go.len]
  by_cases hn : n = b.length
  · subst hn
    cases err with
    | none => simp [viewU]
    | some e => have := hv e rfl; simp at this; simp [viewU, this]
  · have : ¬ ((n : Int) = (b.length : Int)) := by omega
    simp [hn, this, viewU, errName]

/-! ### the second hand model of the same function (`Hertz.H1`, natural numbers, used by C01/C03) -/

/-- an `FS` result as an `H1` result; `parseUintBuf` never yields `.trailing`, so the last clause is only ever `.empty` -/
def toH1 : Int × Nat × Option FS.UErr → Except H1.UintErr (Nat × Nat)
  | (v, n, none) => .ok (v.toNat, n)
  | (_, _, some .firstChar) => .error .firstChar
  | (_, _, some .tooLong) => .error .tooLong
  | (_, _, some _) => .error .empty

theorem two_pow_63 : (2 : Nat) ^ 63 = 9223372036854775808 := by rfl

open FS.Spec in
theorem h1_loop (t : Bytes) : ∀ (v i : Nat), toH1 (FS.parseUintLoop t (v : Int) i) = H1.parseUintAux v i t := by
  induction t with
  | nil => intro v i; rfl
  | cons c t ih =>
    intro v i
    unfold H1.parseUintAux
    rw [two_pow_63]
    -- one step of the `FS` loop on a natural-number accumulator is `FS.parseUintLoop_nondigit/_digit`
    cases hd : isDigit c with
    | false =>
      rw [FS.parseUintLoop_nondigit t _ i hd, if_pos ((FS.not_digit_iff c).2 hd)]
      by_cases hi : i = 0 <;> simp [hi, toH1]
    | true =>
      obtain ⟨hk, h9⟩ := FS.digit_val hd
      have hn : ¬ (c - 48 > 9) := fun h => by rw [(FS.not_digit_iff c).1 h] at hd; cases hd
      rw [FS.parseUintLoop_digit t v i hd, if_neg hn, hk]
      by_cases hf : 10 * v + digitVal c < 9223372036854775808
      · rw [if_pos hf, if_neg (by omega)]; exact ih _ _
      · rw [if_neg hf, if_pos (by omega)]; rfl

theorem h1_buf (b : Bytes) : toH1 (FS.parseUintBuf b) = H1.parseUintBuf b := by
  unfold FS.parseUintBuf H1.parseUintBuf
  cases b with
  | nil => simp [toH1]
  | cons c t => simpa using h1_loop (c :: t) 0 0

/-- `ParseUint` read as "value or rejected" -/
def viewOpt (r : Int × Option String) : Option Nat := if r.2.isNone then some r.1.toNat else none

theorem parseUint_eq_h1 (b : Bytes) (hlen : b.length < 2^63) :
    (Gen.Funcs.parseUint b).map viewOpt = .ok (H1.parseUint b) := by
  rw [parseUint_eq b hlen]
  unfold H1.parseUint FS.parseUint
  rw [← h1_buf]
  rcases FS.parseUintBuf b with ⟨v, n, err⟩
  cases err with
  | none => by_cases hn : n = b.length <;> simp [toH1, viewU, viewOpt, Except.map, hn]
  | some e => by_cases hn : n = b.length <;> cases e <;> simp [toH1, viewU, viewOpt, Except.map, hn]

end Hertz.Tie
