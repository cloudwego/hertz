import Hertz.Proofs.ConnMem
/-!
Ownership of memory blocks in the memory-level model (`RGood`), and the frame property of the reader (`Frame` over the
protected cells `ProtR`): an operation other than `Release` / `Read` writes only behind the written part of the tail block
(`tailWrite_ok`) and into blocks it has just taken from the allocator (`AllocOK`, `newBlock_ok`); `mstep_ok` for every such
operation, `mpeek_ref_prot`: the slice `Peek` returns is protected.
-/
namespace Hertz.ConnMem
open Hertz Hertz.Conn

/-- `(block, end of the written part)` of a node -/
def MNode.core (nd : MNode) : Nat × Nat := (nd.blk, nd.base + nd.malloc)
def MReader.cores (s : MReader) : List (Nat × Nat) := s.nodes.map MNode.core
/-- the blocks the reader holds: chain, `caches`, private peek copies -/
def MReader.blocks (s : MReader) : List Nat := s.cores.map (·.1) ++ s.caches.map (·.2.1) ++ s.priv

/-- cell `k` of block `blk` may be visible through a slice handed out by `Peek`: it lies in the written part
of a node of the chain, or in a peek copy -/
def ProtR (s : MReader) (blk k : Nat) : Prop :=
  (∃ t ∈ s.cores, t.1 = blk ∧ k < t.2) ∨ blk ∈ s.caches.map (·.2.1) ∨ blk ∈ s.priv

/-- the reader's blocks, the other live blocks `L` (writer, caller) and the free list of the allocator are pairwise
distinct, and all were handed out before.  Distinctness is "every block counted at most once" and not `Nodup`: a block that
changes hands is then one linear inequality between counts (`books_of_le`, `AllocOK.le`) -/
def RGood (m : Mem) (s : MReader) (L : List Nat) : Prop :=
  (∀ x, (s.blocks ++ L ++ m.free.map (·.1)).count x ≤ 1) ∧
  (∀ x ∈ s.blocks ++ L ++ m.free.map (·.1), x < m.nextBlk)

/-- what a non-releasing step guarantees: protected cells stay protected and keep their content, and the other
live blocks are not touched -/
def Frame (m : Mem) (s : MReader) (L : List Nat) (m' : Mem) (s' : MReader) : Prop :=
  (∀ blk k, ProtR s blk k → ProtR s' blk k ∧ (m'.heap.get blk)[k]? = (m.heap.get blk)[k]?) ∧
  (∀ b ∈ L, m'.heap.get b = m.heap.get b)

theorem Frame.refl (m : Mem) (s : MReader) (L : List Nat) : Frame m s L m s :=
  ⟨fun _ _ h => ⟨h, rfl⟩, fun _ _ => rfl⟩

theorem Frame.trans {m s L m1 s1 m2 s2} (h1 : Frame m s L m1 s1) (h2 : Frame m1 s1 L m2 s2) : Frame m s L m2 s2 :=
  ⟨fun blk k hp => ⟨(h2.1 blk k (h1.1 blk k hp).1).1, ((h2.1 blk k (h1.1 blk k hp).1).2).trans (h1.1 blk k hp).2⟩,
   fun b hb => (h2.2 b hb).trans (h1.2 b hb)⟩

theorem ProtR.mem {s : MReader} {blk k : Nat} (h : ProtR s blk k) : blk ∈ s.blocks := by
  unfold MReader.blocks
  rcases h with ⟨t, ht, rfl, _⟩ | h | h
  · exact List.mem_append_left _ (List.mem_append_left _ (List.mem_map_of_mem ht))
  · exact List.mem_append_left _ (List.mem_append_right _ h)
  · exact List.mem_append_right _ h

/-- protection only grows with the chain, the caches and the private copies -/
theorem ProtR.mono {s s2 : MReader} {blk k : Nat} (h : ProtR s blk k) (hc : s.cores ⊆ s2.cores) (hca : s.caches ⊆ s2.caches)
    (hp : s.priv ⊆ s2.priv) : ProtR s2 blk k :=
  h.imp (fun ⟨t, ht, h⟩ => ⟨t, hc ht, h⟩) (Or.imp (List.map_subset _ hca ·) (hp ·))

theorem pickFree_perm {l : List (Nat × Nat)} {cap ch b : Nat} {rest : List (Nat × Nat)}
    (h : pickFree l cap ch = some (b, rest)) : l.Perm ((b, cap) :: rest) := by
  fun_induction pickFree l cap ch generalizing rest
  case case1 => cases h
  case case2 => cases h; subst_vars; exact .refl _
  -- every branch but the hit keeps the head and searches the tail
  case case3 ih | case4 ih =>
    obtain ⟨⟨b1, r1⟩, hp, hr⟩ := Option.map_eq_some_iff.1 h
    cases hr
    exact ((ih hp).cons _).trans (List.Perm.swap _ _ _)

theorem pickFree_count {l : List (Nat × Nat)} {cap ch b : Nat} {rest : List (Nat × Nat)}
    (h : pickFree l cap ch = some (b, rest)) (x : Nat) :
    (l.map (·.1)).count x = (rest.map (·.1)).count x + (if b = x then 1 else 0) := by
  rw [((pickFree_perm h).map (·.1)).count_eq x]
  simp only [List.map_cons, List.count_cons, beq_iff_eq]

/-- What the allocator guarantees about the block `a.1` it hands out, `B` being the blocks in use: it is not in use and no
longer free, everything stays below the counter, the other blocks keep their cells. -/
structure AllocOK (m : Mem) (B : List Nat) (a : Nat × Mem) : Prop where
  count : ∀ x, (B ++ a.2.free.map (·.1)).count x + (if a.1 = x then 1 else 0) ≤ 1
  lt : ∀ x ∈ B ++ a.2.free.map (·.1), x < a.2.nextBlk
  new_lt : a.1 < a.2.nextBlk
  heap : ∀ b, b ≠ a.1 → a.2.heap.get b = m.heap.get b

theorem fresh_ok (m : Mem) (cap : Nat) (L : List Nat)
    (hn : ∀ x, (L ++ m.free.map (·.1)).count x ≤ 1) (hl : ∀ x ∈ L ++ m.free.map (·.1), x < m.nextBlk) :
    AllocOK m L (m.fresh cap) := by
  simp only [Mem.fresh]
  refine ⟨fun x => ?_, fun x hx => Nat.lt_succ_of_lt (hl x hx), Nat.lt_succ_self _, fun b hb => ?_⟩
  · by_cases hx : m.nextBlk = x
    · have : (L ++ m.free.map (·.1)).count x = 0 :=
        List.count_eq_zero.2 fun hm => by have := hl x hm; omega
      simp [this, hx]
    · simp only [hx, if_false, Nat.add_zero]; exact hn x
  · rw [Heap.get_set, if_neg (Ne.symm hb)]

theorem alloc_ok (m : Mem) (size ch : Nat) (L : List Nat)
    (hn : ∀ x, (L ++ m.free.map (·.1)).count x ≤ 1) (hl : ∀ x ∈ L ++ m.free.map (·.1), x < m.nextBlk) :
    AllocOK m L (m.alloc size ch) := by
  unfold Mem.alloc
  split
  · exact fresh_ok m size L hn hl
  · split
    · rename_i b rest hp
      have hc := pickFree_count hp
      -- a recycled block leaves the free list; what stays on it was there before
      have hsub : ∀ x ∈ L ++ rest.map (·.1), x ∈ L ++ m.free.map (·.1) := fun x hx => by
        have p := List.count_pos_iff.2 hx
        apply List.count_pos_iff.1
        rw [List.count_append] at p ⊢; rw [hc x]; omega
      refine ⟨fun x => ?_, fun x hx => hl x (hsub x hx), ?_, fun _ _ => rfl⟩
      · have := hn x; rw [List.count_append, hc x] at this
        simp only [List.count_append]; omega
      · apply hl; apply List.mem_append_right
        apply List.count_pos_iff.1; rw [hc b, if_pos rfl]; omega
    · exact fresh_ok m (capOf size) L hn hl

/-- blocks that were in use or free, and possibly the new one: held once, below the counter -/
theorem AllocOK.le {m : Mem} {B X : List Nat} {a : Nat × Mem} (ha : AllocOK m B a)
    (h : ∀ x, X.count x ≤ (B ++ a.2.free.map (·.1)).count x + (if a.1 = x then 1 else 0)) :
    (∀ x, X.count x ≤ 1) ∧ (∀ x ∈ X, x < a.2.nextBlk) := by
  refine ⟨fun x => Nat.le_trans (h x) (ha.count x), fun x hx => ?_⟩
  by_cases he : a.1 = x
  · rw [← he]; exact ha.new_lt
  · have p := List.count_pos_iff.2 hx
    have := h x
    rw [if_neg he] at this
    exact ha.lt x (List.count_pos_iff.1 (by omega))

theorem AllocOK.ne {m : Mem} {B : List Nat} {a : Nat × Mem} (ha : AllocOK m B a) {x : Nat} (hx : x ∈ B) : x ≠ a.1 := by
  intro he
  have := ha.count x
  have c := List.count_pos_iff.2 hx
  rw [List.count_append, if_pos he.symm] at this; omega

/-- nothing is promised about the cells of the new block: its receiver may write into it -/
theorem AllocOK.write {m : Mem} {B : List Nat} {a : Nat × Mem} (ha : AllocOK m B a) (pos : Nat) (bs : Bytes) :
    AllocOK m B (a.1, { a.2 with heap := a.2.heap.write a.1 pos bs }) :=
  ⟨ha.count, ha.lt, ha.new_lt, fun b hb => (Heap.get_write_ne (Ne.symm hb)).trans (ha.heap b hb)⟩

theorem mem_of_count_le {A B : List Nat} (h : ∀ x, A.count x ≤ B.count x) : ∀ x ∈ A, x ∈ B := by
  intro x hx
  have := List.count_pos_iff.2 hx
  exact List.count_pos_iff.1 (Nat.lt_of_lt_of_le this (h x))

/-- fewer blocks in use or free, same counter: the books (`RGood`, for `B = s.blocks ++ L`) stay in order -/
theorem books_of_le {m m' : Mem} {B B' : List Nat}
    (hG : (∀ x, (B ++ m.free.map (·.1)).count x ≤ 1) ∧ (∀ x ∈ B ++ m.free.map (·.1), x < m.nextBlk))
    (hc : ∀ x, (B' ++ m'.free.map (·.1)).count x ≤ (B ++ m.free.map (·.1)).count x) (hn : m'.nextBlk = m.nextBlk) :
    (∀ x, (B' ++ m'.free.map (·.1)).count x ≤ 1) ∧ (∀ x ∈ B' ++ m'.free.map (·.1), x < m'.nextBlk) :=
  ⟨fun x => Nat.le_trans (hc x) (hG.1 x), fun x hx => by rw [hn]; exact hG.2 x (mem_of_count_le hc x hx)⟩

/-- storing bytes behind the written part of the tail node, as `fill` does (which also sets `len` and `err`) -/
theorem tailWrite_ok (m : Mem) (s : MReader) (L : List Nat) (bs : Bytes) (hG : RGood m s L) (l : Nat) (e : Option Err) :
    let m2 : Mem := { m with heap := m.heap.write s.w.blk (s.w.base + s.w.malloc) bs }
    ∀ s2 : MReader, s2 = { s with w := { s.w with malloc := s.w.malloc + bs.length }, len := l, err := e } →
      RGood m2 s2 L ∧ Frame m s L m2 s2 := by
  intro m2 s2 hs2
  have hblocks : s2.blocks = s.blocks := by
    subst hs2
    simp only [MReader.blocks, MReader.cores, MReader.nodes, List.map_append, List.map_map, List.map_cons, List.map_nil,
      Function.comp_def, MNode.core]
  subst hs2
  -- blocks being held once, the tail's block is nobody else's
  have hu := hG.1 s.w.blk
  simp only [MReader.blocks, MReader.cores, MReader.nodes, List.map_append, List.map_cons, List.map_nil,
    List.count_append, List.count_cons, List.count_nil, MNode.core, beq_self_eq_true, if_true] at hu
  have hpos : ∀ {l : List Nat}, s.w.blk ∈ l → 0 < l.count s.w.blk := List.count_pos_iff.2
  refine ⟨books_of_le hG (fun x => by rw [hblocks]; exact Nat.le_refl _) rfl,
    fun blk k hP => ⟨?_, ?_⟩, fun b hb => ?_⟩
  · rcases hP with ⟨t, ht, h1, h2⟩ | h | h
    · left
      simp only [MReader.cores, MReader.nodes, List.map_append, List.mem_append, List.map_cons, List.map_nil,
        List.mem_singleton] at ht ⊢
      rcases ht with (ht | ht) | ht
      · exact ⟨t, Or.inl (Or.inl ht), h1, h2⟩
      · exact ⟨t, Or.inl (Or.inr ht), h1, h2⟩
      · refine ⟨_, Or.inr rfl, by rw [← h1, ht]; rfl, ?_⟩
        rw [ht] at h2
        simp only [MNode.core] at h2 ⊢; omega
    · exact Or.inr (Or.inl h)
    · exact Or.inr (Or.inr h)
  · show ((m.heap.write s.w.blk (s.w.base + s.w.malloc) bs).get blk)[k]? = _
    by_cases hb : s.w.blk = blk
    · subst hb
      rw [Heap.get_write_eq]
      apply splice_getElem?_lt
      rcases hP with ⟨t, ht, h1, h2⟩ | h | h
      · simp only [MReader.cores, MReader.nodes, List.map_append, List.mem_append, List.map_cons, List.map_nil,
          List.mem_singleton] at ht
        rcases ht with (ht | ht) | ht
        · have := hpos (h1 ▸ List.mem_map_of_mem (f := fun t : Nat × Nat => t.1) ht); omega
        · have := hpos (h1 ▸ List.mem_map_of_mem (f := fun t : Nat × Nat => t.1) ht); omega
        · rw [ht] at h2; exact h2
      · have := hpos h; omega
      · have := hpos h; omega
    · rw [Heap.get_write_ne hb]
  · show (m.heap.write s.w.blk (s.w.base + s.w.malloc) bs).get b = _
    by_cases hbe : s.w.blk = b
    · subst hbe; have := hpos hb; omega
    · rw [Heap.get_write_ne hbe]

/-- a reader state that differs only in bookkeeping (`len`, `err`, `maxSize`, `off`, `readOnly`, ids) -/
theorem sameShape_ok {m : Mem} {s : MReader} {L : List Nat} (hG : RGood m s L) {s2 : MReader}
    (hcores : s2.cores = s.cores) (hc : s2.caches = s.caches) (hp : s2.priv = s.priv) :
    RGood m s2 L ∧ Frame m s L m s2 := by
  have hblocks : s2.blocks = s.blocks := by simp only [MReader.blocks, hcores, hc, hp]
  refine ⟨books_of_le hG (fun x => by rw [hblocks]; exact Nat.le_refl _) rfl, fun blk k hP => ⟨?_, rfl⟩, fun _ _ => rfl⟩
  unfold ProtR at hP ⊢
  rw [hcores, hc, hp]; exact hP

/-- a block that comes from the allocator joins the reader -/
theorem newBlock_ok {m : Mem} {s : MReader} {L : List Nat} {a : Nat × Mem} (ha : AllocOK m (s.blocks ++ L) a)
    (s2 : MReader) (hb : ∀ x, s2.blocks.count x = s.blocks.count x + (if a.1 = x then 1 else 0))
    (hc : s.cores ⊆ s2.cores) (hca : s.caches ⊆ s2.caches) (hp : s.priv ⊆ s2.priv) :
    RGood a.2 s2 L ∧ Frame m s L a.2 s2 :=
  ⟨ha.le (X := s2.blocks ++ L ++ a.2.free.map (·.1)) fun x => by simp only [List.count_append, hb x]; omega,
   fun blk k hPr => ⟨hPr.mono hc hca hp, by rw [ha.heap blk (ha.ne (List.mem_append_left _ hPr.mem))]⟩,
   fun b hb' => ha.heap b (ha.ne (List.mem_append_right _ hb'))⟩

theorem ok_trans {m s L m1 s1 m2 s2} (h1 : RGood m1 s1 L ∧ Frame m s L m1 s1)
    (h2 : RGood m2 s2 L ∧ Frame m1 s1 L m2 s2) : RGood m2 s2 L ∧ Frame m s L m2 s2 :=
  ⟨h2.1, h1.2.trans h2.2⟩

theorem mfill_ok {m : Mem} {s : MReader} {wire : Wire} {i ch : Nat} {L : List Nat} (hG : RGood m s L)
    {e : Option Err} {m' : Mem} {s' : MReader} {w' : Wire} (h : mfill m s wire i ch = .ok (e, m', s', w')) :
    RGood m' s' L ∧ Frame m s L m' s' := by
  unfold mfill at h
  split at h
  · cases h; exact ⟨hG, Frame.refl _ _ _⟩
  · split at h
    · split at h <;> (cases h; exact sameShape_ok hG rfl rfl rfl)
    · simp only at h
      generalize hms : (if s.w.cap - s.w.malloc < i - s.len || s.w.readOnly then _ else (m, s)) = ms1 at h
      have h1 : RGood ms1.1 ms1.2 L ∧ Frame m s L ms1.1 ms1.2 := by
        subst hms
        split
        · -- a new, empty tail node in a block from the allocator
          refine newBlock_ok (alloc_ok m _ ch (s.blocks ++ L) hG.1 hG.2) _ (fun x => ?_) ?_
            (List.Subset.refl _) (List.Subset.refl _)
          · simp only [MReader.blocks, MReader.cores, MReader.nodes, List.map_append, List.map_map,
              List.count_append, List.map_cons, List.map_nil, Function.comp_def, MNode.core, List.count_cons,
              List.count_nil, beq_iff_eq]
            omega
          · -- the chain gains a node at its end; the old tail node keeps its core
            simp only [MReader.cores, MReader.nodes, ← List.append_assoc, List.map_append (l₂ := [_])]
            exact List.subset_append_left _ _
        · exact ⟨hG, Frame.refl _ _ _⟩
      -- then the wire is read behind the written part of the tail node
      have key := fun bs l e => ok_trans h1 (tailWrite_ok ms1.1 ms1.2 L bs h1.1 l e _ rfl)
      split at h
      · cases h; exact key _ _ _
      · cases h; exact key _ _ _
      · cases h; exact key _ _ _
      · cases h

theorem mskipWalk_cores {done mid : List MNode} {w : MNode} {n : Nat} {d' m' : List MNode} {w' : MNode}
    (h : mskipWalk done mid w n = .ok (d', m', w')) :
    (d' ++ m' ++ [w']).map MNode.core = (done ++ mid ++ [w]).map MNode.core := by
  fun_induction mskipWalk done mid w n
  case case3 => cases h
  case case5 ih => simpa using ih h
  all_goals cases h; simp [MNode.core]

theorem mskip_ok {m : Mem} {s : MReader} {n : Nat} {L : List Nat} (hG : RGood m s L)
    {e : Option Err} {s' : MReader} (h : mskip s n = .ok (e, s')) :
    RGood m s' L ∧ Frame m s L m s' := by
  unfold mskip at h
  split at h
  · cases h; exact ⟨hG, Frame.refl _ _ _⟩
  · obtain ⟨⟨d', m', w'⟩, hw, h⟩ := bind_eq_ok h
    cases h
    exact sameShape_ok hG (mskipWalk_cores hw) rfl rfl

/-- The ways `Peek` returns, after its `fill` left `m1`, `s1`: the error of `fill`; or, `s2` being `s1` with the stashed error
possibly handed out, a slice of the read node, or a copy in a block `a.1` from the allocator: taken from `mcache` and registered
in `caches`, or fresh and private. -/
theorem mpeek_cases {m : Mem} {s : MReader} {wire : Wire} {i ch1 ch2 : Nat} {pb : Bytes} {ref : Option Ref}
    {e : Option Err} {m' : Mem} {s' : MReader} {w' : Wire}
    (h : mpeek m s wire i ch1 ch2 = .ok ((pb, ref), e, m', s', w')) :
    ∃ e1 m1 s1, mfill m s wire i ch1 = .ok (e1, m1, s1, w') ∧
      ((ref = none ∧ m' = m1 ∧ s' = s1) ∨
       ∃ s2 i', s2.cores = s1.cores ∧ s2.caches = s1.caches ∧ s2.priv = s1.priv ∧
        ((s2.readNode.len ≥ i' ∧
            ref = some ⟨s2.readNode.blk, s2.readNode.base + s2.readNode.off, s2.readNode.base + s2.readNode.off + i'⟩ ∧
            m' = m1 ∧ s' = s2) ∨
         ∃ a : Nat × Mem, ref = some ⟨a.1, 0, i'⟩ ∧ m' = { a.2 with heap := a.2.heap.write a.1 0 pb } ∧
          ((a = m1.alloc i' ch2 ∧
              s' = { s2 with caches := s2.caches ++ [(s2.nextId, a.1, capOf i')], nextId := s2.nextId + 1 }) ∨
           (a = m1.fresh i' ∧ s' = { s2 with priv := a.1 :: s2.priv })))) := by
  unfold mpeek at h
  obtain ⟨⟨e1, m1, s1, w1⟩, hf, h⟩ := bind_eq_ok h
  cases e1 with
  | some e1 => cases h; exact ⟨_, _, _, hf, Or.inl ⟨rfl, rfl, rfl⟩⟩
  | none =>
    simp only at h
    have h2 : (if s1.len < i then { s1 with err := none } else s1).cores = s1.cores ∧
        (if s1.len < i then { s1 with err := none } else s1).caches = s1.caches ∧
        (if s1.len < i then { s1 with err := none } else s1).priv = s1.priv := by
      split <;> exact ⟨rfl, rfl, rfl⟩
    generalize (if s1.len < i then { s1 with err := none } else s1) = s2 at h h2
    generalize (if s1.len < i then s1.len else i) = i' at h
    generalize (if s1.len < i then s1.err else none) = err' at h
    split at h
    · rename_i hlen
      cases h; exact ⟨_, _, _, hf, Or.inr ⟨_, i', h2.1, h2.2.1, h2.2.2, Or.inl ⟨hlen, rfl, rfl, rfl⟩⟩⟩
    · obtain ⟨pp, _, h⟩ := bind_eq_ok h
      split at h
      · cases h; exact ⟨_, _, _, hf, Or.inr ⟨s2, i', h2.1, h2.2.1, h2.2.2, Or.inr ⟨_, rfl, rfl, Or.inl ⟨rfl, rfl⟩⟩⟩⟩
      · cases h; exact ⟨_, _, _, hf, Or.inr ⟨s2, i', h2.1, h2.2.1, h2.2.2, Or.inr ⟨_, rfl, rfl, Or.inr ⟨rfl, rfl⟩⟩⟩⟩

theorem mpeek_ok {m : Mem} {s : MReader} {wire : Wire} {i ch1 ch2 : Nat} {L : List Nat} (hG : RGood m s L)
    {p : Bytes × Option Ref} {e : Option Err} {m' : Mem} {s' : MReader} {w' : Wire}
    (h : mpeek m s wire i ch1 ch2 = .ok (p, e, m', s', w')) :
    RGood m' s' L ∧ Frame m s L m' s' := by
  obtain ⟨e1, m1, s1, hf, hc⟩ := mpeek_cases (pb := p.1) (ref := p.2) h
  have h1 := mfill_ok hG hf
  rcases hc with ⟨_, rfl, rfl⟩ | ⟨s2, i', hco, hca, hpr, hc⟩
  · exact h1
  · have h2 := sameShape_ok h1.1 hco hca hpr
    have h12 := ok_trans h1 h2
    rcases hc with ⟨_, _, rfl, rfl⟩ | ⟨a, _, rfl, ⟨rfl, rfl⟩ | ⟨rfl, rfl⟩⟩
    · exact h12
    · have ha := alloc_ok m1 i' ch2 (s2.blocks ++ L) h2.1.1 h2.1.2
      refine ok_trans h12 (newBlock_ok (ha.write 0 p.1) _ (fun x => ?_) (List.Subset.refl _)
        (List.subset_append_left _ _) (List.Subset.refl _))
      simp only [MReader.blocks, MReader.cores, MReader.nodes, List.map_append, List.count_append, List.map_cons,
        List.map_nil, List.count_cons, List.count_nil, beq_iff_eq]
      omega
    · have ha := fresh_ok m1 i' (s2.blocks ++ L) h2.1.1 h2.1.2
      refine ok_trans h12 (newBlock_ok (ha.write 0 p.1) _ (fun x => ?_) (List.Subset.refl _)
        (List.Subset.refl _) (List.subset_cons_self _ _))
      simp only [MReader.blocks, MReader.cores, MReader.nodes, List.count_append, List.count_cons, beq_iff_eq]
      omega

theorem mpeek_ref_prot {m : Mem} {s : MReader} {wire : Wire} {i ch1 ch2 : Nat}
    {p : Bytes} {ref : Ref} {e : Option Err} {m' : Mem} {s' : MReader} {w' : Wire}
    (h : mpeek m s wire i ch1 ch2 = .ok ((p, some ref), e, m', s', w')) :
    ∀ k, ref.lo ≤ k → k < ref.hi → ProtR s' ref.blk k := by
  obtain ⟨e1, m1, s1, _, hc⟩ := mpeek_cases h
  rcases hc with ⟨hr, _⟩ | ⟨s2, i', _, _, _, ⟨hlen, hr, _, rfl⟩ | ⟨a, hr, _, ⟨_, rfl⟩ | ⟨_, rfl⟩⟩⟩
  · cases hr
  · cases hr
    intro k hlo hhi
    left
    refine ⟨s'.readNode.core, ?_, rfl, ?_⟩
    · simp only [MReader.cores, MReader.nodes, MReader.readNode]
      cases s'.mid with
      | nil => simp
      | cons nd t => simp
    · simp only [MNode.core, MNode.len] at hlen hlo hhi ⊢; omega
  · cases hr
    intro k _ _; right; left; simp
  · cases hr
    intro k _ _; right; right; simp

theorem mstep_ok {m : Mem} {s : MReader} {wire : Wire} {ch1 ch2 : Nat} {op : Op} {L : List Nat} (hG : RGood m s L)
    (hk : op.keeps = true) {o : MOut} {m' : Mem} {s' : MReader} {w' : Wire}
    (h : mstep m s wire ch1 ch2 op = .ok (o, m', s', w')) :
    RGood m' s' L ∧ Frame m s L m' s' := by
  cases op with
  | peek n =>
    simp only [mstep] at h
    obtain ⟨⟨p, e, m1, s1, w1⟩, hp, h⟩ := bind_eq_ok h
    cases h
    exact mpeek_ok hG hp
  | skip n =>
    simp only [mstep] at h
    obtain ⟨⟨e, s1⟩, hp, h⟩ := bind_eq_ok h
    cases h
    exact mskip_ok hG hp
  | readByte =>
    simp only [mstep] at h
    obtain ⟨⟨p, e, m1, s1, w1⟩, hp, h⟩ := bind_eq_ok h
    have h1 := mpeek_ok hG hp
    cases e with
    | some e => cases h; exact h1
    | none =>
      obtain ⟨⟨e2, s2⟩, hs, h⟩ := bind_eq_ok h
      have h2 := mskip_ok h1.1 hs
      cases e2 with
      | some e2 => cases h; exact ok_trans h1 h2
      | none =>
        simp only at h
        split at h
        · cases h
        · cases h; exact ok_trans h1 h2
  | readBinary n =>
    simp only [mstep] at h
    obtain ⟨⟨p, e, m1, s1, w1⟩, hp, h⟩ := bind_eq_ok h
    have h1 := mpeek_ok hG hp
    cases e with
    | some e => cases h; exact h1
    | none =>
      obtain ⟨⟨e2, s2⟩, hs, h⟩ := bind_eq_ok h
      have h2 := mskip_ok h1.1 hs
      cases h; exact ok_trans h1 h2
  | read k => cases hk
  | release => cases hk
  | len => cases h; exact ⟨hG, Frame.refl _ _ _⟩

end Hertz.ConnMem
