import Hertz.Proofs.TieP1
import Hertz.Proofs.Fs
import Hertz.Proofs.IndexByte
/-!
`Hertz.Props.Tie`, part 4: `Gen.Funcs.parseByteRange` (generated from `ParseByteRange`, `pkg/app/fs.go`) against
`FS.parseByteRange`.  The callee `parseUint` is tied in `TieP1.lean` (`parseUint_eq`).
-/
open Hertz

namespace Hertz.Tie

namespace BR

/-- the model's reading of a Go result `(startPos, endPos, err)` of `ParseByteRange`: `err == nil` is the range,
`err != nil` (whatever its text) is `Fault.bad` -/
def viewBR : Int × Int × Option String → Except FS.Fault (Int × Int)
  | (s, e, none) => .ok (s, e)
  | (_, _, some _) => .error .bad

/-- on an error the Go function returns `(0, 0, err)` -/
def viewZ (r : Int × Int × Option String) : Bool := r.2.2 == none || (r.1 == 0 && r.2.1 == 0)

/-- both readings at once, so that `parseByteRange_both` walks the Go text once -/
def viewBoth (r : Int × Int × Option String) : Except FS.Fault (Int × Int) × Bool := (viewBR r, viewZ r)

theorem parseByteRange_both (byteRange : Bytes) (contentLength : Int) (hlen : byteRange.length < 2^63)
    (hcl : 0 ≤ contentLength ∧ contentLength < 2^63) :
    (Gen.Funcs.parseByteRange byteRange contentLength).map viewBoth =
      .ok (FS.parseByteRange byteRange contentLength, true) := by
  -- along the Go text; no `Go.sub`/`Go.add` wraps because parsed positions are below `2^63` (`FS.parseUint_ok`) and `hcl`
  unfold Gen.Funcs.parseByteRange FS.parseByteRange
  have hs : Gen.Str.strBytes = FS.strBytes := rfl
  simp only [hs, Go.hasPrefix]
  by_cases hp : FS.strBytes.isPrefixOf byteRange = true
  · obtain ⟨b1, rfl⟩ := List.isPrefixOf_iff_prefix.1 hp
    have hsf : Go.sliceFrom (FS.strBytes ++ b1) (Go.len FS.strBytes) = .ok b1 := by
      have := sliceFrom_ok (FS.strBytes ++ b1) FS.strBytes.length (by simp)
      rw [List.drop_left] at this; exact this
    simp only [hp, Bool.not_true, Bool.false_eq_true, if_false, hsf,
      bind_ok, FS.sliceFrom, List.length_append, Nat.le_add_right, if_true, List.drop_left]
    cases b1 with
    | nil => rfl
    | cons c0 b2 =>
      have hl0 : (Go.len (c0 :: b2) == 0) = false := by simp [Go.len]; omega
      have hi0 : Go.idx (c0 :: b2) 0 = .ok c0 := by simp [Go.idx]
      simp only [hl0, Bool.false_eq_true, if_false, hi0, bind_ok, FS.idx, List.length_cons,
        List.getElem?_cons_zero, Nat.succ_ne_zero, Nat.le_add_left, if_true, List.drop_succ_cons, List.drop_zero]
      by_cases hc : c0 = 61
      · subst hc
        have hs1 : Go.sliceFrom (61 :: b2) 1 = .ok b2 := sliceFrom_lit (61 :: b2) 1 (by simp)
        have hb2 : b2.length < 2^63 := by simp at hlen; omega
        simp only [bne_self_eq_false, Bool.false_eq_true, if_false, hs1, bind_ok, ne_eq, not_true_eq_false,
          Go.indexByte_eq, FS.indexByte_eq]
        cases hk : H1.indexByte 45 b2 with
        | none => rfl
        | some k =>
          have hkl := H1.indexByte_lt 45 b2 k hk
          have hk0 : ¬ ((k : Int) < 0) := by omega
          simp only [hk0, decide_false, Bool.false_eq_true, if_false]
          by_cases hz : k = 0
          · subst hz
            have ha : Go.add ((0 : Nat) : Int) 1 = ((1 : Nat) : Int) := by decide
            have h1 : 0 + 1 ≤ b2.length := by omega
            simp only [Int.natCast_zero, beq_self_eq_true, if_true, h1, bind_ok] at ha ⊢
            rw [ha, sliceFrom_ok b2 1 (by omega), bind_ok]
            -- the `bytes=-N` branch (`if n == 0`) after `b[n+1:]`
            have ht : (b2.drop 1).length < 2^63 := by rw [List.length_drop]; omega
            rw [parseUint_eq (b2.drop 1) ht]
            cases h : FS.parseUint (b2.drop 1) with
            | error e => rfl
            | ok v =>
              have hv := FS.parseUint_ok h
              have hv' : 0 ≤ v ∧ v < 2^63 := by omega
              simp only [viewU, Except.bind, bne_self_eq_false, Bool.false_eq_true, if_false]
              by_cases hz : (v == 0 || contentLength == 0) = true
              · simp only [hz, if_true]; rfl
              · have h1 : Go.sub contentLength 1 = contentLength - 1 := sub_id (by omega) (by omega)
                have h2 : Go.sub contentLength v = contentLength - v := sub_id (by omega) (by omega)
                simp only [hz, h2, h1]
                unfold FS.suffixRange
                by_cases hn : contentLength - v < 0 <;> simp [hn, Except.map, viewBR, viewZ, viewBoth]
          · have hz' : (((k : Int)) == 0) = false := by simp; omega
            have h1 : k + 1 ≤ b2.length := by omega
            have h2 : k ≤ b2.length := by omega
            simp only [hz', hz, Bool.false_eq_true, if_false, h1, h2, if_true, bind_ok, FS.sliceTo, sliceTo_ok b2 k h2]
            -- the `bytes=A-` / `bytes=A-B` branch (behind `if n == 0`) after `b[:n]`
            have ht : (b2.take k).length < 2^63 := by rw [List.length_take]; omega
            have hd : (b2.drop (k + 1)).length < 2^63 := by rw [List.length_drop]; omega
            rw [parseUint_eq _ ht]
            unfold FS.fromToRange
            cases h : FS.parseUint (b2.take k) with
            | error e => rfl
            | ok s =>
              have hs := FS.parseUint_ok h
              have hs' : 0 ≤ s ∧ s < 2^63 := by omega
              simp only [viewU, bind_ok, bne_self_eq_false, Bool.false_eq_true, if_false]
              by_cases hge : s ≥ contentLength
              · simp [hge, Except.map, viewBR, viewZ, viewBoth]
              · have h1 : Go.sub contentLength 1 = contentLength - 1 := sub_id (by omega) (by omega)
                have ha : Go.add (k : Int) 1 = ((k + 1 : Nat) : Int) := add_nat k 1 (by omega)
                simp only [hge, decide_false, Bool.false_eq_true, if_false, ha,
                  sliceFrom_ok b2 (k + 1) (by omega), h1, bind_ok]
                by_cases hl : (b2.drop (k + 1)).length = 0
                · simp [Go.len, hl, Except.map, viewBR, viewZ, viewBoth]
                · have hl' : ((Go.len (b2.drop (k + 1))) == (0 : Int)) = false := by
                    simp [Go.len]; simpa using hl
                  simp only [hl', hl, Bool.false_eq_true, if_false, parseUint_eq _ hd]
                  cases h2 : FS.parseUint (b2.drop (k + 1)) with
                  | error e => rfl
                  | ok e =>
                    simp only [viewU, bind_ok, bne_self_eq_false, Bool.false_eq_true, if_false]
                    by_cases hge2 : e ≥ contentLength
                    · by_cases hlt : contentLength - 1 < s <;> simp [hge2, hlt, Except.map, viewBR, viewZ, viewBoth]
                    · by_cases hlt : e < s <;> simp [hge2, hlt, Except.map, viewBR, viewZ, viewBoth]
      · simp [hc, Except.map, viewBR, viewZ, viewBoth]
  · simp [hp, Except.map, viewBR, viewZ, viewBoth]


end BR

section
open BR

/-- the translation never panics; its result under both readings -/
theorem parseByteRange_ok (byteRange : Bytes) (contentLength : Int) (hlen : byteRange.length < 2^63)
    (hcl : 0 ≤ contentLength ∧ contentLength < 2^63) :
    ∃ r, Gen.Funcs.parseByteRange byteRange contentLength = .ok r ∧
      viewBR r = FS.parseByteRange byteRange contentLength ∧ viewZ r = true := by
  have h := parseByteRange_both byteRange contentLength hlen hcl
  cases hr : Gen.Funcs.parseByteRange byteRange contentLength with
  | error e => rw [hr] at h; simp [Except.map] at h
  | ok r =>
    rw [hr] at h
    simp only [Except.map, viewBoth, Except.ok.injEq, Prod.mk.injEq] at h
    exact ⟨r, rfl, h⟩

/-- `ParseByteRange`: the translation never panics, and read through `viewBR` it is the model.
`0 ≤ contentLength` is a genuine restriction: see `parseByteRange_fails_at`. -/
theorem parseByteRange_eq_of (byteRange : Bytes) (contentLength : Int) (hlen : byteRange.length < 2^63)
    (hcl : 0 ≤ contentLength ∧ contentLength < 2^63) :
    (Gen.Funcs.parseByteRange byteRange contentLength).map viewBR = .ok (FS.parseByteRange byteRange contentLength) := by
  obtain ⟨r, hr, h, _⟩ := parseByteRange_ok byteRange contentLength hlen hcl
  rw [hr, ← h]; rfl

/-- On an error the Go function returns `(0, 0, err)`: together with `parseByteRange_eq_of` this pins the whole Go
result up to the text of the error. -/
theorem parseByteRange_err_zero (byteRange : Bytes) (contentLength : Int) (hlen : byteRange.length < 2^63)
    (hcl : 0 ≤ contentLength ∧ contentLength < 2^63) :
    ∃ s e err, Gen.Funcs.parseByteRange byteRange contentLength = .ok (s, e, err) ∧ (err ≠ none → s = 0 ∧ e = 0) := by
  obtain ⟨⟨s, e, err⟩, hr, _, hz⟩ := parseByteRange_ok byteRange contentLength hlen hcl
  refine ⟨s, e, err, hr, fun hne => ?_⟩
  simpa [viewZ, hne] using hz

/-! ### the restriction `0 ≤ contentLength` is needed

`contentLength - v` and `contentLength - 1` are 64-bit subtractions in Go (and in the translation); the model computes
them in `Int`.  They differ only for a negative `contentLength` (never the case for a file size).  Witness:
`bytes=-1` with `contentLength = minInt`. -/

theorem parseByteRange_fails_at :
    (Gen.Funcs.parseByteRange [98, 121, 116, 101, 115, 61, 45, 49] (-9223372036854775808)).map viewBR
        = .ok (.ok (9223372036854775807, 9223372036854775807)) ∧
      FS.parseByteRange [98, 121, 116, 101, 115, 61, 45, 49] (-9223372036854775808)
        = .ok (0, -9223372036854775809) := by
  decide +kernel

/-! ### non-vacuity (both sides computed) -/

-- `bytes=0-4`, 10 bytes
example : Gen.Funcs.parseByteRange [98, 121, 116, 101, 115, 61, 48, 45, 52] 10 = .ok (0, 4, none)
    ∧ FS.parseByteRange [98, 121, 116, 101, 115, 61, 48, 45, 52] 10 = .ok (0, 4) := by decide +kernel
-- `bytes=-3`, 10 bytes
example : Gen.Funcs.parseByteRange [98, 121, 116, 101, 115, 61, 45, 51] 10 = .ok (7, 9, none)
    ∧ FS.parseByteRange [98, 121, 116, 101, 115, 61, 45, 51] 10 = .ok (7, 9) := by decide +kernel
-- `bytes=5-`, 10 bytes
example : Gen.Funcs.parseByteRange [98, 121, 116, 101, 115, 61, 53, 45] 10 = .ok (5, 9, none)
    ∧ FS.parseByteRange [98, 121, 116, 101, 115, 61, 53, 45] 10 = .ok (5, 9) := by decide +kernel
-- `bytes=2-99`, 10 bytes: the end is clamped
example : Gen.Funcs.parseByteRange [98, 121, 116, 101, 115, 61, 50, 45, 57, 57] 10 = .ok (2, 9, none)
    ∧ FS.parseByteRange [98, 121, 116, 101, 115, 61, 50, 45, 57, 57] 10 = .ok (2, 9) := by decide +kernel
-- `bytes=-`: `ParseUint` fails, its error is handed on
example : Gen.Funcs.parseByteRange [98, 121, 116, 101, 115, 61, 45] 10 = .ok (0, 0, some "errEmptyInt")
    ∧ FS.parseByteRange [98, 121, 116, 101, 115, 61, 45] 10 = .error .bad := by decide +kernel
-- `bytes=5-x`: `ParseUint` fails, its error is handed on
example : Gen.Funcs.parseByteRange [98, 121, 116, 101, 115, 61, 53, 45, 120] 10 = .ok (0, 0, some "errUnexpectedTrailingChar")
    ∧ FS.parseByteRange [98, 121, 116, 101, 115, 61, 53, 45, 120] 10 = .error .bad := by decide +kernel
-- `bytes=7-3`: `fmt.Errorf`
example : (Gen.Funcs.parseByteRange [98, 121, 116, 101, 115, 61, 55, 45, 51] 10).map viewBR = .ok (.error .bad)
    ∧ FS.parseByteRange [98, 121, 116, 101, 115, 61, 55, 45, 51] 10 = .error .bad := by decide +kernel

end

end Hertz.Tie
