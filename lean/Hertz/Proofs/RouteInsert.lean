import Hertz.Proofs.RouteTree
/-!
`insert` (model of `router.insert`) against the denotation `routes` / `bounds` and the invariants `WF` / `PnOK` of
`RouteDefs`.  `insert_spec`, which the `addRoute` proofs use, is the postcondition `Spec` at the root under `Ready`; it
is `insert_gen`, a mutual induction with the child list (`SpecL`) and the wildcard children (`SpecO`) along the one
decomposition `lcp_decomp`: the edge is split (`spec_split`), the key is the prefix (`spec_exists`), or the search goes
down.  Each branch of `insert` is an equation first (`insert_split`, `insert_exists`, `insert_descend`); `Pre` is the
precondition below a node, `Upd` what a call does to routes and boundaries, lifted through a node by `upd_node`.
-/
namespace Hertz.Route

/-- `lcpLen s p` is the length of the longest common prefix `tk`: behind it one of the two ends or the next bytes
differ -/
theorem lcp_decomp (s p : Bytes) : ∃ tk sr dr, s = tk ++ sr ∧ p = tk ++ dr ∧ lcpLen s p = tk.length ∧
    (sr = [] ∨ dr = [] ∨ sr.headD 0 ≠ dr.headD 0) := by
  fun_induction lcpLen s p with
  | case1 s b p ih =>
    obtain ⟨tk, sr, dr, hs, hp, hl, hd⟩ := ih
    exact ⟨b :: tk, sr, dr, by rw [hs]; rfl, by rw [hp]; rfl, by rw [hl]; rfl, hd⟩
  | case2 a s b p h => exact ⟨[], a :: s, b :: p, rfl, rfl, rfl, Or.inr (Or.inr h)⟩
  | case3 s p hx =>
    refine ⟨[], s, p, rfl, rfl, rfl, ?_⟩
    cases s with
    | nil => exact Or.inl rfl
    | cons a s => cases p with
      | nil => exact Or.inr (Or.inl rfl)
      | cons b p => exact absurd rfl (hx a s b p rfl)

theorem lcpLen_append : ∀ (p x : Bytes), lcpLen (p ++ x) p = p.length
  | [], x => by cases x <;> simp [lcpLen]
  | a :: p, x => by simp [lcpLen, lcpLen_append p x]

theorem lcpLen_nil (s : Bytes) : lcpLen s [] = 0 := by cases s <;> simp [lcpLen]

theorem lcpLen_pos (s p : Bytes) (hp : p ≠ []) (hh : s.head? = p.head?) : lcpLen s p ≠ 0 := by
  cases p with
  | nil => exact absurd rfl hp
  | cons b p =>
    cases s with
    | nil => simp at hh
    | cons a s => simp at hh; simp [lcpLen, hh]

-- `insert n search h t pp pn`: `h` the handlers to store (`none`: `search` only becomes a node boundary), `t` the kind of
-- the node made for the key, `pp` / `pn` the `ppath` / `pnames` stored with the handlers.

theorem insert_split {kind label cs ppath pnames hs pc ac} {tk dr sr : Bytes} {h t pp pn}
    (hl : lcpLen (tk ++ sr) (tk ++ dr) = tk.length) (htk : tk ≠ []) (hdr : dr ≠ []) :
    Route.insert (.mk kind label (tk ++ dr) cs ppath pnames hs pc ac) (tk ++ sr) h t pp pn =
      if sr = [] then
        .ok (.mk t (tk.headD 0) tk [.mk kind (dr.headD 0) dr cs ppath pnames hs pc ac] pp pn h none none)
      else
        .ok (.mk .skind (tk.headD 0) tk
          [.mk kind (dr.headD 0) dr cs ppath pnames hs pc ac, .mk t (sr.headD 0) sr [] pp pn h none none]
          [] [] none none none) := by
  obtain ⟨a, tk', rfl⟩ := List.exists_cons_of_ne_nil htk
  have h1 : (a :: tk').length ≠ 0 := Nat.succ_ne_zero _
  have h2 : (a :: tk').length < (a :: tk' ++ dr).length := by
    rw [List.length_append]; exact Nat.lt_add_of_pos_right (List.length_pos_iff.2 hdr)
  have h3 : ((a :: tk').length = (a :: tk' ++ sr).length) ↔ sr = [] := by
    rw [List.length_append, Nat.left_eq_add, List.length_eq_zero_iff]
  unfold Route.insert
  simp only [hl, h1, h2, h3, if_true, if_false, List.take_left', List.drop_left']
  rfl

theorem insert_exists {kind label pfx cs ppath pnames hs pc ac} {h t pp pn} (hp : pfx ≠ []) :
    Route.insert (.mk kind label pfx cs ppath pnames hs pc ac) pfx h t pp pn =
      if hs.isSome && h.isSome then .error .conflict
      else match h with
        | some _ => .ok (.mk kind label pfx cs pp pn h pc ac)
        | none => .ok (.mk kind label pfx cs ppath pnames hs pc ac) := by
  have h1 : lcpLen pfx pfx = pfx.length := by simpa using lcpLen_append pfx []
  have h2 : pfx.length ≠ 0 := by simpa using hp
  unfold Route.insert
  simp only [h1, h2, Nat.lt_irrefl, if_false]
  rfl

theorem insert_descend {kind label pfx cs ppath pnames hs pc ac} {c0 : UInt8} {s' : Bytes} {h t pp pn} (hp : pfx ≠ []) :
    Route.insert (.mk kind label pfx cs ppath pnames hs pc ac) (pfx ++ c0 :: s') h t pp pn =
      match insertL cs c0 (c0 :: s') h t pp pn with
        | .error e => .error e
        | .ok (some cs') => .ok (.mk kind label pfx cs' ppath pnames hs pc ac)
        | .ok none =>
          if c0 = 58 ∧ pc.isSome = true then
            match insertO pc (c0 :: s') h t pp pn with
            | .error e => .error e
            | .ok pc' => .ok (.mk kind label pfx cs ppath pnames hs pc' ac)
          else if c0 = 42 ∧ ac.isSome = true then
            match insertO ac (c0 :: s') h t pp pn with
            | .error e => .error e
            | .ok ac' => .ok (.mk kind label pfx cs ppath pnames hs pc ac')
          else
            match t with
            | .skind => .ok (.mk kind label pfx (cs ++ [.mk t c0 (c0 :: s') [] pp pn h none none]) ppath pnames hs pc ac)
            | .pkind => .ok (.mk kind label pfx cs ppath pnames hs (some (.mk t c0 (c0 :: s') [] pp pn h none none)) ac)
            | .akind => .ok (.mk kind label pfx cs ppath pnames hs pc (some (.mk t c0 (c0 :: s') [] pp pn h none none))) := by
  have h1 : lcpLen (pfx ++ c0 :: s') pfx = pfx.length := lcpLen_append pfx _
  have h2 : pfx.length ≠ 0 := by simpa using hp
  have h42 : (c0 ≠ paramLabel ∧ c0 = anyLabel) ↔ c0 = 42 := and_iff_right_of_imp fun h => h ▸ by decide
  unfold Route.insert
  simp only [h1, h2, Nat.lt_irrefl, if_false, List.length_append, List.length_cons,
    List.drop_left, Nat.lt_add_right_iff_pos, Nat.succ_pos, if_true, Bool.and_eq_true, decide_eq_true_eq, h42]
  rfl

theorem insertL_cons (c : Node) (r : List Node) (l : UInt8) (s : Bytes) (h : Option Nat) (t : Kind) (pp : Bytes)
    (pn : List Bytes) :
    insertL (c :: r) l s h t pp pn =
      if c.label = l then
        match Route.insert c s h t pp pn with
        | .error e => .error e
        | .ok c' => .ok (some (c' :: r))
      else
        match insertL r l s h t pp pn with
        | .error e => .error e
        | .ok none => .ok none
        | .ok (some r') => .ok (some (c :: r')) := rfl

theorem insertO_some (c : Node) (s : Bytes) (h : Option Nat) (t : Kind) (pp : Bytes) (pn : List Bytes) :
    insertO (some c) s h t pp pn =
      match Route.insert c s h t pp pn with
      | .error e => .error e
      | .ok c' => .ok (some c') := rfl

/-- what follows the last wildcard node boundary in the key that is inserted with kind `t` -/
def Rest : Kind → Bytes → Prop
  | .skind, r => Lit r
  | .pkind, r => r = [58]
  | .akind, r => r = [42]

/-- `search` continues a boundary `k` out of `B` (or starts here: `k = []`); `k` is free of `*`, so that the descent never
goes below a catch-all node (a `*` ends the pattern) -/
def Cont (B : List Bytes) (search : Bytes) (t : Kind) : Prop :=
  ∃ k rest, search = k ++ rest ∧ Rest t rest ∧ (k = [] ∨ (k ∈ B ∧ (42 : UInt8) ∉ k))

/-- precondition of `insert` at an inner node: `search` starts with the node's label -/
def Pre (n : Node) (search : Bytes) (t : Kind) : Prop :=
  search.head? = n.pfx.head? ∧ Cont (bounds n) search t

theorem Rest.lit {t : Kind} {r : Bytes} (h : Rest t r) (h1 : r ≠ [58]) (h2 : r ≠ [42]) : t = .skind ∧ Lit r := by
  cases t
  · exact ⟨rfl, h⟩
  · exact absurd h h1
  · exact absurd h h2

theorem Lit_append {a b : Bytes} : Lit (a ++ b) ↔ Lit a ∧ Lit b := List.forall_mem_append

theorem lit_slash : Lit [47] := fun c hc => List.mem_singleton.1 hc ▸ by decide

theorem head_of_append {k rest s' : Bytes} {c0 a : UInt8} (hk : k.head? = some a) (h : c0 :: s' = k ++ rest) :
    c0 = a := by
  cases k with
  | nil => simp at hk
  | cons x k => simp at hk h; rw [h.1, hk]

/-- split only happens for literal keys -/
theorem cont_split {kind label pfx cs ppath pnames hs pc ac} {search : Bytes} {t : Kind}
    (hc : Cont (bounds (.mk kind label pfx cs ppath pnames hs pc ac)) search t)
    (hhd : search.head? = pfx.head?) (hlit : Lit pfx) (hlt : lcpLen search pfx < pfx.length) :
    t = .skind ∧ Lit search := by
  obtain ⟨k, rest, rfl, hr, hk⟩ := hc
  rcases hk with rfl | ⟨hk, -⟩
  · rw [List.nil_append] at hhd ⊢
    have ha : ∀ a, rest.head? = some a → a ≠ 58 ∧ a ≠ 42 := fun a h => hlit a (List.mem_of_mem_head? (hhd ▸ h))
    exact hr.lit (fun e => (ha 58 (e ▸ rfl)).1 rfl) (fun e => (ha 42 (e ▸ rfl)).2 rfl)
  · rw [bounds_mk] at hk
    obtain ⟨x, -, rfl⟩ := List.mem_map.1 hk
    rw [List.append_assoc, lcpLen_append] at hlt
    exact absurd hlt (Nat.lt_irrefl _)

theorem cont_descend {kind label pfx cs ppath pnames hs pc ac} {s2 : Bytes} {t : Kind}
    (hc : Cont (bounds (.mk kind label pfx cs ppath pnames hs pc ac)) (pfx ++ s2) t)
    (hne : pfx ≠ []) (h2 : s2 ≠ []) : (42 : UInt8) ∉ pfx ∧ Cont (boundsL cs ++ boundsO pc ++ boundsO ac) s2 t := by
  obtain ⟨k, rest, he, hr, hk⟩ := hc
  rcases hk with rfl | ⟨hk, h42⟩
  · simp only [List.nil_append] at he
    subst he
    have hlong : ∀ c, pfx ++ s2 ≠ [c] := fun c e =>
      (List.append_eq_singleton_iff.1 e).elim (fun h => hne h.1) (fun h => h2 h.2)
    obtain ⟨rfl, hl⟩ := hr.lit (hlong 58) (hlong 42)
    exact ⟨fun h => ((Lit_append.1 hl).1 _ h).2 rfl, [], s2, rfl, (Lit_append.1 hl).2, Or.inl rfl⟩
  · rw [bounds_mk] at hk
    obtain ⟨x, hx, rfl⟩ := List.mem_map.1 hk
    rw [List.append_assoc] at he
    have he' := List.append_cancel_left he
    refine ⟨fun h => h42 (List.mem_append_left _ h), x, rest, he', hr, ?_⟩
    rcases List.mem_cons.1 hx with rfl | hx
    · exact Or.inl rfl
    · exact Or.inr ⟨hx, fun h => h42 (List.mem_append_right _ h)⟩

theorem Cont.mono {B B' : List Bytes} {s : Bytes} {t : Kind} (hc : Cont B s t)
    (h : ∀ k rest, s = k ++ rest → k ∈ B → (42 : UInt8) ∉ k → k ∈ B') : Cont B' s t := by
  obtain ⟨k, rest, he, hr, hk⟩ := hc
  exact ⟨k, rest, he, hr, hk.imp_right fun ⟨hk, h42⟩ => ⟨h k rest he hk h42, h42⟩⟩

theorem nodup_label_inj : ∀ (cs : List Node), (cs.map Node.label).Nodup → ∀ a b, a ∈ cs → b ∈ cs →
    a.label = b.label → a = b
  | [], _ => by simp
  | c :: r, hnd => by
    simp only [List.map_cons, List.nodup_cons, List.mem_map, not_exists, not_and] at hnd
    intro a b ha hb hl
    rcases List.mem_cons.1 ha with ha1 | ha1 <;> rcases List.mem_cons.1 hb with hb1 | hb1
    · rw [ha1, hb1]
    · subst ha1; exact absurd hl.symm (hnd.1 b hb1)
    · subst hb1; exact absurd hl (hnd.1 a ha1)
    · exact nodup_label_inj r hnd.2 a b ha1 hb1 hl

section children
variable {cs : List Node} {pc ac : Option Node} {c0 : UInt8} {s' : Bytes} {t : Kind}
  (hcs : WFL cs) (hpc : WFO pc .pkind) (hac : WFO ac .akind)
include hcs hpc hac

/-- a boundary below a node that the key starts with belongs to the child that carries the key's first byte -/
theorem bound_owner {k rest : Bytes} (hk : k ∈ boundsL cs ++ boundsO pc ++ boundsO ac) (he : c0 :: s' = k ++ rest) :
    k.head? = some c0 ∧ ((∃ c ∈ cs, c.label = c0 ∧ k ∈ bounds c) ∨ (∃ p, pc = some p ∧ c0 = 58 ∧ k ∈ bounds p) ∨
      (∃ p, ac = some p ∧ c0 = 42 ∧ k ∈ bounds p)) := by
  simp only [List.mem_append] at hk
  rcases hk with (hk | hk) | hk
  · obtain ⟨c, hm, hk'⟩ := mem_boundsL cs k hk
    have h1 := bounds_head c _ (WFL_mem cs c hcs hm) k hk'
    have h2 := head_of_append h1 he
    exact ⟨h2 ▸ h1, Or.inl ⟨c, hm, h2.symm, hk'⟩⟩
  · obtain ⟨p, rfl, hk', h1⟩ := boundsO_head pc _ hpc k hk
    have h2 := head_of_append h1 he
    exact ⟨h2 ▸ h1, Or.inr (Or.inl ⟨p, rfl, h2.trans (WF_label p _ hpc), hk'⟩)⟩
  · obtain ⟨p, rfl, hk', h1⟩ := boundsO_head ac _ hac k hk
    have h2 := head_of_append h1 he
    exact ⟨h2 ▸ h1, Or.inr (Or.inr ⟨p, rfl, h2.trans (WF_label p _ hac), hk'⟩)⟩

variable (hc : Cont (boundsL cs ++ boundsO pc ++ boundsO ac) (c0 :: s') t)
include hc

theorem pre_static (hnd : (cs.map Node.label).Nodup) (c : Node) (hm : c ∈ cs) (hl : c.label = c0) : Pre c (c0 :: s') t := by
  have hwc := WFL_mem cs c hcs hm
  refine ⟨by rw [WF_pfx c _ hwc, hl]; rfl, hc.mono fun k rest he hk _ => ?_⟩
  have hlc : c.label ≠ 58 ∧ c.label ≠ 42 := WF_label c _ hwc
  rcases (bound_owner hcs hpc hac hk he).2 with ⟨c', hm', hl', hk'⟩ | ⟨p, -, h58, -⟩ | ⟨p, -, h42', -⟩
  · exact nodup_label_inj cs hnd c' c hm' hm (hl'.trans hl.symm) ▸ hk'
  · exact absurd (hl.trans h58) hlc.1
  · exact absurd (hl.trans h42') hlc.2

theorem pre_param (c : Node) (hm : pc = some c) (hl : c0 = 58) : Pre c (c0 :: s') t := by
  have hwc : WF c .pkind := by rw [hm] at hpc; exact hpc
  have h3 : c.label = 58 := WF_label c _ hwc
  refine ⟨by rw [WF_pfx c _ hwc, hl, h3]; rfl, hc.mono fun k rest he hk _ => ?_⟩
  rcases (bound_owner hcs hpc hac hk he).2 with ⟨c', hm', hl', -⟩ | ⟨p, hp, -, hk'⟩ | ⟨p, -, h42', -⟩
  · have hlc : c'.label ≠ 58 ∧ c'.label ≠ 42 := WF_label c' _ (WFL_mem cs c' hcs hm')
    exact absurd (hl'.trans hl) hlc.1
  · exact Option.some.inj (hp.symm.trans hm) ▸ hk'
  · exact absurd (hl.symm.trans h42') (by decide)

theorem pre_any (c : Node) (hm : ac = some c) (hl : c0 = 42) : Pre c (c0 :: s') t := by
  have hwc : WF c .akind := by rw [hm] at hac; exact hac
  have h3 : c.label = 42 := WF_label c _ hwc
  refine ⟨by rw [WF_pfx c _ hwc, hl, h3]; rfl, hc.mono fun k rest he hk h42 => ?_⟩
  -- a boundary the key continues starts with `*`, which such a boundary may not contain
  exact absurd (hl ▸ List.mem_of_mem_head? (bound_owner hcs hpc hac hk he).1) h42

/-- no child carries the next byte: the rest of the key is the part after the last boundary -/
theorem rest_create (h1 : ∀ c ∈ cs, c.label ≠ c0) (h2 : ¬ (c0 = 58 ∧ pc.isSome = true))
    (h3 : ¬ (c0 = 42 ∧ ac.isSome = true)) : Rest t (c0 :: s') := by
  obtain ⟨k, rest, he, hr, hk⟩ := hc
  rcases hk with rfl | ⟨hk, h42⟩
  · simpa [he] using hr
  · rcases (bound_owner hcs hpc hac hk he).2 with ⟨c', hm', hl', -⟩ | ⟨p, hp, h58, -⟩ | ⟨p, hp, h42', -⟩
    · exact absurd hl' (h1 c' hm')
    · exact absurd ⟨h58, hp ▸ rfl⟩ h2
    · exact absurd ⟨h42', hp ▸ rfl⟩ h3
end children

/-- `kv` is what a call with handlers `h` stores under the key `s`; nothing when `h = none` -/
def newRoute (s : Bytes) (h : Option Nat) (pp : Bytes) (pn : List Bytes) (kv : Bytes × Val) : Prop :=
  ∃ x, h = some x ∧ kv = (s, Val.mk x pp pn)

/-- `R'` is `R` plus the new route; the boundaries `B` are kept and `s` is one of `B'` -/
def Upd (R R' : List (Bytes × Val)) (B B' : List Bytes) (s : Bytes) (h : Option Nat) (pp : Bytes)
    (pn : List Bytes) : Prop :=
  (∀ kv, kv ∈ R' ↔ (kv ∈ R ∨ newRoute s h pp pn kv)) ∧ (∀ b, b ∈ B → b ∈ B') ∧ s ∈ B'

/-- the call is to store handlers at a key that has some: the "already registered" panic -/
def Conf (R : List (Bytes × Val)) (s : Bytes) (h : Option Nat) : Prop := h.isSome = true ∧ s ∈ keys R

theorem map_pref_pref (a b : Bytes) (R : List (Bytes × Val)) :
    (R.map (pref b)).map (pref a) = R.map (pref (a ++ b)) := by
  simp [pref, Function.comp_def, List.append_assoc]

theorem upd_lift {R R' B B' s h pp pn} (p : Bytes) (hu : Upd R R' B B' s h pp pn) :
    Upd (R.map (pref p)) (R'.map (pref p)) (B.map (fun k => p ++ k)) (B'.map (fun k => p ++ k)) (p ++ s) h pp pn := by
  obtain ⟨h1, h2, h3⟩ := hu
  refine ⟨fun kv => ?_, fun b hb => ?_, List.mem_map.2 ⟨s, h3, rfl⟩⟩
  · simp only [List.mem_map, h1, or_and_right, exists_or]
    refine or_congr Iff.rfl ⟨?_, ?_⟩
    · rintro ⟨_, ⟨x, hx, rfl⟩, rfl⟩; exact ⟨x, hx, rfl⟩
    · rintro ⟨x, hx, rfl⟩; exact ⟨_, ⟨x, hx, rfl⟩, rfl⟩
  · obtain ⟨x, hx, rfl⟩ := List.mem_map.1 hb
    exact List.mem_map.2 ⟨x, h2 x hx, rfl⟩

theorem upd_app_left {R R' X : List (Bytes × Val)} {B B' Y : List Bytes} {s h pp pn}
    (hu : Upd R R' B B' s h pp pn) : Upd (R ++ X) (R' ++ X) (B ++ Y) (B' ++ Y) s h pp pn := by
  obtain ⟨h1, h2, h3⟩ := hu
  refine ⟨fun kv => ?_, fun b hb => ?_, List.mem_append_left _ h3⟩
  · rw [List.mem_append, List.mem_append, h1 kv, or_right_comm]
  · rcases List.mem_append.1 hb with hb | hb
    · exact List.mem_append_left _ (h2 b hb)
    · exact List.mem_append_right _ hb

theorem upd_app_right {R R' X : List (Bytes × Val)} {B B' Y : List Bytes} {s h pp pn}
    (hu : Upd R R' B B' s h pp pn) : Upd (X ++ R) (X ++ R') (Y ++ B) (Y ++ B') s h pp pn := by
  obtain ⟨h1, h2, h3⟩ := hu
  refine ⟨fun kv => ?_, fun b hb => ?_, List.mem_append_right _ h3⟩
  · rw [List.mem_append, List.mem_append, h1 kv, or_assoc]
  · rcases List.mem_append.1 hb with hb | hb
    · exact List.mem_append_left _ hb
    · exact List.mem_append_right _ (h2 b hb)

/-- an update of the routes below a node is an update of the node -/
theorem upd_node {kind label pfx cs cs' ppath pnames hs pc pc' ac ac' s h pp pn}
    (hu : Upd (routesL cs ++ routesO pc ++ routesO ac) (routesL cs' ++ routesO pc' ++ routesO ac')
      (boundsL cs ++ boundsO pc ++ boundsO ac) (boundsL cs' ++ boundsO pc' ++ boundsO ac') s h pp pn) :
    Upd (routes (.mk kind label pfx cs ppath pnames hs pc ac)) (routes (.mk kind label pfx cs' ppath pnames hs pc' ac'))
      (bounds (.mk kind label pfx cs ppath pnames hs pc ac)) (bounds (.mk kind label pfx cs' ppath pnames hs pc' ac'))
      (pfx ++ s) h pp pn := by
  simp only [routes_mk, bounds_mk, List.append_assoc] at hu ⊢
  exact upd_lift pfx (upd_app_right (X := hsPart hs ppath pnames) (Y := [[]]) hu)

theorem mem_new (s : Bytes) (h : Option Nat) (pp : Bytes) (pn : List Bytes) (kv : Bytes × Val) :
    kv ∈ (hsPart h pp pn).map (pref s) ↔ newRoute s h pp pn kv := by
  cases h <;> simp [hsPart, pref, newRoute]

/-- a new leaf beside the nodes that denote `L` with boundaries `BL` -/
theorem upd_new (L : List (Bytes × Val)) (BL : List Bytes) (t : Kind) (l : UInt8) (s : Bytes) (h : Option Nat) (pp : Bytes)
    (pn : List Bytes) :
    Upd L (L ++ routes (.mk t l s [] pp pn h none none)) BL (BL ++ bounds (.mk t l s [] pp pn h none none)) s h pp pn := by
  rw [routes_leaf, bounds_leaf]
  exact ⟨fun kv => by rw [List.mem_append, mem_new], fun _ hb => List.mem_append_left _ hb,
    List.mem_append_right _ (List.mem_singleton_self s)⟩

theorem conf_lift (R : List (Bytes × Val)) (p s : Bytes) (h : Option Nat) :
    Conf (R.map (pref p)) (p ++ s) h ↔ Conf R s h := by
  simp only [Conf, keys, List.map_map, List.mem_map, Function.comp, pref, List.append_cancel_left_eq]

theorem conf_append {R S : List (Bytes × Val)} {s : Bytes} {h : Option Nat} :
    Conf (R ++ S) s h ↔ Conf R s h ∨ Conf S s h := by
  simp only [Conf, keys, List.map_append, List.mem_append, and_or_left]

theorem wild_append (a b : Bytes) : wild (a ++ b) = wild a + wild b := by
  simp only [wild, List.count_append]; exact Nat.add_add_add_comm _ _ _ _

theorem wild_lit (a : Bytes) (h : Lit a) : wild a = 0 := by
  have h1 : (58 : UInt8) ∉ a := fun hm => (h _ hm).1 rfl
  have h2 : (42 : UInt8) ∉ a := fun hm => (h _ hm).2 rfl
  simp [wild, List.count_eq_zero.2 h1, List.count_eq_zero.2 h2]

theorem wild_rest (t : Kind) (r : Bytes) (h : Rest t r) (j : Nat) : depthAt t j = j + wild r := by
  cases t
  · simp only [Rest] at h; simp [depthAt, wild_lit r h]
  · simp only [Rest] at h; subst h; simp [depthAt, wild]
  · simp only [Rest] at h; subst h; simp [depthAt, wild]

theorem wild_pfx {kind label pfx cs ppath pnames hs pc ac pos}
    (h : WF (.mk kind label pfx cs ppath pnames hs pc ac) pos) (j : Nat) : depthAt kind j = j + wild pfx := by
  rw [WF_mk] at h
  obtain ⟨rfl, -, hp, -⟩ := h
  cases kind
  · exact wild_rest .skind pfx hp.2 j
  · exact wild_rest .pkind pfx hp j
  · exact wild_rest .akind pfx hp.1 j

theorem WF_replace {kind label pfx cs ppath pnames hs pc ac pos} (cs' ppath' pnames' hs' pc' ac')
    (h : WF (.mk kind label pfx cs ppath pnames hs pc ac) pos) (hpos : pos ≠ .akind)
    (h1 : WFL cs') (h2 : (cs'.map Node.label).Nodup) (h3 : WFO pc' .pkind) (h4 : WFO ac' .akind) :
    WF (.mk kind label pfx cs' ppath' pnames' hs' pc' ac') pos := by
  rw [WF_mk] at h ⊢
  obtain ⟨hk, hl, hp, -⟩ := h
  refine ⟨hk, hl, ?_, h1, h2, h3, h4⟩
  cases pos
  · exact hp
  · exact hp
  · exact absurd rfl hpos

/-- the parameter bookkeeping `P` of a subtree entered at depth `j` carries over to the updated subtree (`P'`) when the
new names, if a handler is stored, number `j` plus the wildcards of the key below, and that number fits the capacity -/
def PnStep (P P' : Nat → Nat → Prop) (s : Bytes) (h : Option Nat) (pn : List Bytes) : Prop :=
  ∀ j cap, P j cap → (h.isSome = true → pn.length = j + wild s) → j + wild s ≤ cap → P' j cap

/-- postcondition of `insert n s h …`: a conflict exactly when a handler is to be stored at a key that has one; otherwise
a well-formed node with the old label that denotes the old routes and, if a handler is stored, the new one, keeps the
boundaries and the parameter bookkeeping -/
def Spec (n : Node) (pos : Kind) (s : Bytes) (h : Option Nat) (pp : Bytes) (pn : List Bytes)
    (r : Except Fault Node) : Prop :=
  (Conf (routes n) s h ∧ r = .error .conflict) ∨
  (¬ Conf (routes n) s h ∧ ∃ n', r = .ok n' ∧ WF n' pos ∧ n'.label = n.label ∧
    Upd (routes n) (routes n') (bounds n) (bounds n') s h pp pn ∧ PnStep (PnOK n) (PnOK n') s h pn)

/-- the same for `insertL` on a child list: `none` when no child carries the byte `c0`, else the outcome at that child -/
def SpecL (cs : List Node) (c0 : UInt8) (s : Bytes) (h : Option Nat) (pp : Bytes) (pn : List Bytes)
    (r : Except Fault (Option (List Node))) : Prop :=
  ((∀ c ∈ cs, c.label ≠ c0) ∧ r = .ok none) ∨
  ((∃ c ∈ cs, c.label = c0) ∧
    ((Conf (routesL cs) s h ∧ r = .error .conflict) ∨
     (¬ Conf (routesL cs) s h ∧ ∃ cs', r = .ok (some cs') ∧ WFL cs' ∧ cs'.map Node.label = cs.map Node.label ∧
       Upd (routesL cs) (routesL cs') (boundsL cs) (boundsL cs') s h pp pn ∧
       PnStep (PnOKL cs) (PnOKL cs') s h pn)))

/-- the same for `insertO` on a parameter or catch-all child, `none` when there is no such child -/
def SpecO (o : Option Node) (pos : Kind) (s : Bytes) (h : Option Nat) (pp : Bytes) (pn : List Bytes)
    (r : Except Fault (Option Node)) : Prop :=
  (o = none ∧ r = .ok none) ∨
  (Conf (routesO o) s h ∧ r = .error .conflict) ∨
  (¬ Conf (routesO o) s h ∧ ∃ o', r = .ok o' ∧ WFO o' pos ∧
    Upd (routesO o) (routesO o') (boundsO o) (boundsO o') s h pp pn ∧ PnStep (PnOKO o) (PnOKO o') s h pn)

theorem nil_not_keysL (cs : List Node) (hcs : WFL cs) (h : Option Nat) : ¬ Conf (routesL cs) [] h := by
  rintro ⟨-, hk⟩
  obtain ⟨c, -, hc⟩ := keysL_head cs hcs [] hk
  simp at hc

theorem nil_not_keysO (o : Option Node) (pos : Kind) (ho : WFO o pos) (h : Option Nat) : ¬ Conf (routesO o) [] h := by
  rintro ⟨-, hk⟩
  obtain ⟨c, -, hc⟩ := keysO_head o pos ho [] hk
  simp at hc

theorem conf_body (kind label pfx cs ppath pnames hs pc ac) (s : Bytes) (h : Option Nat) :
    Conf (routes (.mk kind label pfx cs ppath pnames hs pc ac)) (pfx ++ s) h ↔
      (Conf (hsPart hs ppath pnames) s h ∨ Conf (routesL cs) s h ∨ Conf (routesO pc) s h ∨ Conf (routesO ac) s h) := by
  rw [routes_mk, conf_lift, conf_append, conf_append, conf_append]
  simp only [or_assoc]

theorem conf_self {kind label pfx cs ppath pnames hs pc ac pos}
    (hwf : WF (.mk kind label pfx cs ppath pnames hs pc ac) pos) (h : Option Nat) :
    Conf (routes (.mk kind label pfx cs ppath pnames hs pc ac)) pfx h ↔ (h.isSome = true ∧ hs.isSome = true) := by
  have := conf_body kind label pfx cs ppath pnames hs pc ac [] h
  rw [List.append_nil] at this
  rw [this]
  rw [WF_mk] at hwf
  obtain ⟨-, -, -, hcs, -, hpc, hac⟩ := hwf
  have h1 := nil_not_keysL cs hcs h
  have h2 := nil_not_keysO pc _ hpc h
  have h3 := nil_not_keysO ac _ hac h
  simp only [h1, h2, h3, or_false]
  cases hs <;> simp [Conf, hsPart, keys]

theorem pfx_ne {kind label pfx cs ppath pnames hs pc ac pos}
    (hwf : WF (.mk kind label pfx cs ppath pnames hs pc ac) pos) : pfx ≠ [] := by
  have := WF_pfx _ _ hwf
  intro h; subst h; simp [Node.pfx] at this

theorem spec_exists (kind label pfx cs ppath pnames hs pc ac pos h t pp pn)
    (hwf : WF (.mk kind label pfx cs ppath pnames hs pc ac) pos) :
    Spec (.mk kind label pfx cs ppath pnames hs pc ac) pos pfx h pp pn
      (Route.insert (.mk kind label pfx cs ppath pnames hs pc ac) pfx h t pp pn) := by
  have hne := pfx_ne hwf
  have hself : pfx ∈ bounds (.mk kind label pfx cs ppath pnames hs pc ac) := by simp [bounds_mk]
  rw [insert_exists hne]
  unfold Spec
  rw [conf_self hwf]
  cases h with
  | none =>
    right
    refine ⟨by simp, ?_⟩
    simp only [Option.isSome_none, Bool.and_false, Bool.false_eq_true, if_false]
    exact ⟨_, rfl, hwf, rfl, ⟨fun kv => by simp [newRoute], fun _ hb => hb, hself⟩, fun j cap hp _ _ => hp⟩
  | some x =>
    cases hs with
    | some a => left; simp
    | none =>
      right
      refine ⟨by simp, ?_⟩
      simp only [Option.isSome_none, Bool.false_and, Bool.false_eq_true, if_false]
      refine ⟨_, rfl, ?_, rfl, ?_, ?_⟩
      · obtain ⟨-, -, hp, hcs, hnd, hpc, hac⟩ := (WF_mk ..).1 hwf
        have hpos : pos ≠ .akind := fun e => by subst e; simp at hp
        exact WF_replace cs pp pn (some x) pc ac hwf hpos hcs hnd hpc hac
      · -- `bounds` does not read the handler fields
        refine ⟨fun kv => ?_, fun _ hb => hb, hself⟩
        have h0 : hsPart none ppath pnames = [] := rfl
        simp only [routes_mk, List.map_append, List.mem_append, mem_new, h0, List.map_nil, List.not_mem_nil, false_or]
        rw [or_comm (a := newRoute _ _ _ _ _), or_right_comm (b := newRoute _ _ _ _ _),
          or_right_comm (b := newRoute _ _ _ _ _)]
      · intro j cap hp hlen hcap
        rw [PnOK_mk] at hp ⊢
        refine ⟨hp.1, fun _ => ?_, hp.2.2⟩
        rw [hlen rfl, wild_pfx hwf]

theorem map_app_app (a b : Bytes) (B : List Bytes) :
    (B.map (fun k => b ++ k)).map (fun k => a ++ k) = B.map (fun k => (a ++ b) ++ k) := by
  simp [Function.comp_def, List.append_assoc]

/-- the node below a split, seen from above the split, is the node before the split -/
theorem routes_map_pref (a : Bytes) (kind l l' b cs ppath pnames hs pc ac) :
    (routes (.mk kind l b cs ppath pnames hs pc ac)).map (pref a) =
      routes (.mk kind l' (a ++ b) cs ppath pnames hs pc ac) := by
  rw [routes_mk, routes_mk, map_pref_pref]

theorem bounds_map_app (a : Bytes) (kind l l' b cs ppath pnames hs pc ac) :
    (bounds (.mk kind l b cs ppath pnames hs pc ac)).map (fun k => a ++ k) =
      bounds (.mk kind l' (a ++ b) cs ppath pnames hs pc ac) := by
  rw [bounds_mk, bounds_mk, map_app_app]

theorem upd_split_parent (kind label cs ppath pnames hs pc ac) (tk dr : Bytes) (l1 l2 : UInt8) (h pp pn) :
    Upd (routes (.mk kind label (tk ++ dr) cs ppath pnames hs pc ac))
      (routes (.mk .skind l1 tk [.mk kind l2 dr cs ppath pnames hs pc ac] pp pn h none none))
      (bounds (.mk kind label (tk ++ dr) cs ppath pnames hs pc ac))
      (bounds (.mk .skind l1 tk [.mk kind l2 dr cs ppath pnames hs pc ac] pp pn h none none)) tk h pp pn := by
  rw [routes_mk .skind l1 tk, bounds_mk .skind l1 tk]
  simp only [routesL, routesO, boundsL, boundsO, List.append_nil, List.map_append, List.map_cons,
    routes_map_pref tk kind l2 label, bounds_map_app tk kind l2 label]
  exact ⟨fun kv => by rw [List.mem_append, mem_new, or_comm], fun b hb => List.mem_cons_of_mem _ hb, List.mem_cons_self⟩

theorem upd_split_child (kind label cs ppath pnames hs pc ac) (tk dr sr : Bytes) (l1 l2 l3 : UInt8) (h pp pn) :
    Upd (routes (.mk kind label (tk ++ dr) cs ppath pnames hs pc ac))
      (routes (.mk .skind l1 tk [.mk kind l2 dr cs ppath pnames hs pc ac, .mk .skind l3 sr [] pp pn h none none]
        [] [] none none none))
      (bounds (.mk kind label (tk ++ dr) cs ppath pnames hs pc ac))
      (bounds (.mk .skind l1 tk [.mk kind l2 dr cs ppath pnames hs pc ac, .mk .skind l3 sr [] pp pn h none none]
        [] [] none none none)) (tk ++ sr) h pp pn := by
  rw [routes_mk .skind l1 tk, bounds_mk .skind l1 tk]
  have h0 : hsPart none ([] : Bytes) [] = [] := rfl
  simp only [routesL, routesO, boundsL, boundsO, h0, List.append_nil, List.nil_append, List.map_append, List.map_cons,
    List.map_nil, routes_map_pref tk kind l2 label, bounds_map_app tk kind l2 label, routes_leaf, bounds_leaf, map_pref_pref]
  refine ⟨fun kv => by rw [List.mem_append, mem_new], fun b hb => ?_, ?_⟩
  · exact List.mem_cons_of_mem _ (List.mem_append_left _ hb)
  · exact List.mem_cons_of_mem _ (List.mem_append_right _ List.mem_cons_self)

/-- key and node prefix part after `tk`: the prefix goes on with `dr`, the key ends there or goes on with another
byte (`sr`), so the edge is split at `tk` -/
theorem spec_split (kind label cs ppath pnames hs pc ac pos) (tk dr sr : Bytes) (h t pp pn)
    (hwf : WF (.mk kind label (tk ++ dr) cs ppath pnames hs pc ac) pos)
    (hpre : Pre (.mk kind label (tk ++ dr) cs ppath pnames hs pc ac) (tk ++ sr) t)
    (hl : lcpLen (tk ++ sr) (tk ++ dr) = tk.length) (hdr : dr ≠ []) (hd : sr = [] ∨ sr.headD 0 ≠ dr.headD 0) :
    Spec (.mk kind label (tk ++ dr) cs ppath pnames hs pc ac) pos (tk ++ sr) h pp pn
      (Route.insert (.mk kind label (tk ++ dr) cs ppath pnames hs pc ac) (tk ++ sr) h t pp pn) := by
  obtain ⟨hhd, hcont⟩ := hpre
  simp only [Node.pfx] at hhd
  have htk : tk ≠ [] := fun h0 => lcpLen_pos _ _ (pfx_ne hwf) hhd (by rw [hl, h0]; rfl)
  have hlt : lcpLen (tk ++ sr) (tk ++ dr) < (tk ++ dr).length := by
    rw [hl, List.length_append]; exact Nat.lt_add_of_pos_right (List.length_pos_iff.2 hdr)
  obtain ⟨hk, hlab, hp, hcs, hnd, hpc, hac⟩ := (WF_mk ..).1 hwf
  -- a wildcard node has a one-byte prefix, which cannot be split
  have hlong : ∀ c : UInt8, tk ++ dr ≠ [c] := fun c e =>
    (List.append_eq_singleton_iff.1 e).elim (fun h => htk h.1) (fun h => hdr h.2)
  have hpos : pos = .skind := by
    cases pos
    · rfl
    · exact absurd hp (hlong 58)
    · exact absurd hp.1 (hlong 42)
  subst hpos
  subst hk
  simp only at hp
  obtain ⟨ht, hlit⟩ := cont_split hcont hhd hp.2 hlt
  subst ht
  have hnc : ¬ Conf (routes (.mk .skind label (tk ++ dr) cs ppath pnames hs pc ac)) (tk ++ sr) h := by
    rintro ⟨-, hkk⟩
    obtain ⟨x, hx⟩ := keys_pfx hkk
    rw [hx, lcpLen_append] at hlt
    exact Nat.lt_irrefl _ hlt
  obtain ⟨hltk, hldr⟩ := Lit_append.1 hp.2
  have hwc : WF (.mk .skind (dr.headD 0) dr cs ppath pnames hs pc ac) .skind := by
    rw [WF_mk]; exact ⟨rfl, rfl, ⟨hdr, hldr⟩, hcs, hnd, hpc, hac⟩
  have hlab' : tk.headD 0 = label := by
    obtain ⟨a, tk', rfl⟩ := List.exists_cons_of_ne_nil htk
    exact hlab.symm
  have hw0 : wild (tk ++ sr) = 0 := wild_lit _ hlit
  have hj : ∀ {j cap : Nat}, j + wild (tk ++ sr) ≤ cap → j ≤ cap := fun hc => by rw [hw0] at hc; exact hc
  rw [insert_split hl htk hdr]
  right
  refine ⟨hnc, ?_⟩
  by_cases hsr : sr = []
  · subst hsr
    simp only [if_true, List.append_nil] at hw0 hj ⊢
    refine ⟨_, rfl, ?_, hlab', upd_split_parent .., ?_⟩
    · rw [WF_mk]
      exact ⟨rfl, rfl, ⟨htk, hltk⟩, ⟨hwc, trivial⟩, by simp, trivial, trivial⟩
    · intro j cap hpn hlen hcap
      rw [PnOK_mk]
      -- `PnOK` reads neither label nor prefix: `hpn` holds of the node below the split as well
      exact ⟨hj hcap, fun hh => by rw [hlen hh, hw0]; rfl, ⟨hpn, trivial⟩, trivial, trivial⟩
  · simp only [hsr, if_false]
    refine ⟨_, rfl, ?_, hlab', upd_split_child .., ?_⟩
    · rw [WF_mk]
      refine ⟨rfl, rfl, ⟨htk, hltk⟩, ⟨hwc, ?_, trivial⟩, ?_, trivial, trivial⟩
      · rw [WF_mk]
        exact ⟨rfl, rfl, ⟨hsr, (Lit_append.1 hlit).2⟩, trivial, by simp, trivial, trivial⟩
      · simpa [Node.label] using (hd.resolve_left hsr).symm
    · intro j cap hpn hlen hcap
      rw [PnOK_mk]
      refine ⟨hj hcap, fun hh => by simp at hh, ⟨hpn, ?_, trivial⟩, trivial, trivial⟩
      rw [PnOK_mk]
      exact ⟨hj hcap, fun hh => by rw [hlen hh, hw0]; rfl, trivial, trivial, trivial⟩

/-- a key with a handler below a parameter or catch-all child starts with that child's byte -/
theorem conf_O {o : Option Node} {pos : Kind} (ho : WFO o pos) {c0 : UInt8} {s' : Bytes} {h : Option Nat}
    (hc : Conf (routesO o) (c0 :: s') h) :
    (match pos with | .skind => c0 ≠ 58 ∧ c0 ≠ 42 | .pkind => c0 = 58 | .akind => c0 = 42) ∧ o.isSome = true := by
  obtain ⟨c, rfl, hl⟩ := keysO_head o pos ho _ hc.2
  obtain rfl : c0 = c.label := Option.some.inj hl
  cases pos <;> exact ⟨WF_label c _ ho, rfl⟩

/-- a `Rest t` is what the prefix of a new node of kind `t` may be -/
theorem WF_leaf (t : Kind) (c0 : UInt8) (r : Bytes) (pp : Bytes) (pn : List Bytes) (h : Option Nat) (hr : Rest t (c0 :: r))
    (hak : t = .akind → h.isSome = true) : WF (.mk t c0 (c0 :: r) [] pp pn h none none) t := by
  refine (WF_mk ..).2 ⟨rfl, rfl, ?_, trivial, List.nodup_nil, trivial, trivial⟩
  cases t
  · exact ⟨List.cons_ne_nil _ _, hr⟩
  · exact hr
  · exact ⟨hr, rfl, rfl, rfl, hak rfl⟩

theorem PnStep.refl {P : Nat → Nat → Prop} {s : Bytes} {h : Option Nat} {pn : List Bytes} : PnStep P P s h pn :=
  fun _ _ hp _ _ => hp

theorem pnstep_node {kind label pfx cs cs' ppath pnames hs pc pc' ac ac' pos s2 h pn}
    (hwf : WF (.mk kind label pfx cs ppath pnames hs pc ac) pos)
    (hL : PnStep (PnOKL cs) (PnOKL cs') s2 h pn) (hP : PnStep (PnOKO pc) (PnOKO pc') s2 h pn)
    (hA : PnStep (PnOKO ac) (PnOKO ac') s2 h pn) :
    PnStep (PnOK (.mk kind label pfx cs ppath pnames hs pc ac)) (PnOK (.mk kind label pfx cs' ppath pnames hs pc' ac'))
      (pfx ++ s2) h pn := by
  intro j cap hpk hlen hcap
  rw [wild_append, ← Nat.add_assoc, ← wild_pfx hwf j] at hlen hcap
  rw [PnOK_mk] at hpk ⊢
  exact ⟨hpk.1, hpk.2.1, hL _ cap hpk.2.2.1 hlen hcap, hP _ cap hpk.2.2.2.1 hlen hcap, hA _ cap hpk.2.2.2.2 hlen hcap⟩

/- A child is entered in its own position and `WF` differs by position, hence `pos`.  `SpecL` answers `none` when no
static child carries the byte; the node then tries its wildcard children or makes a leaf.  `Spec` keeps the label so
that the parent's labels stay `Nodup`. -/
mutual
theorem insert_gen : (n : Node) → (pos : Kind) → (search : Bytes) → (h : Option Nat) → (t : Kind) → (pp : Bytes) →
    (pn : List Bytes) → WF n pos → Pre n search t → (t = .akind → h.isSome = true) →
    Spec n pos search h pp pn (Route.insert n search h t pp pn)
  | .mk kind label pfx cs ppath pnames hs pc ac, pos, search, h, t, pp, pn, hwf, hpre, hak => by
    obtain ⟨tk, sr, dr, rfl, rfl, hl, hd⟩ := lcp_decomp search pfx
    cases dr with
    | cons d dr' =>
      exact spec_split kind label cs ppath pnames hs pc ac pos tk (d :: dr') sr h t pp pn hwf hpre hl (List.cons_ne_nil _ _)
        (hd.imp_right fun h => h.resolve_left (List.cons_ne_nil _ _))
    | nil =>
      rw [List.append_nil] at hwf hpre ⊢
      cases sr with
      | nil =>
        rw [List.append_nil]
        exact spec_exists kind label tk cs ppath pnames hs pc ac pos h t pp pn hwf
      | cons c0 s' =>
        have hne := pfx_ne hwf
        obtain ⟨-, -, hp, hcs, hnd, hpc, hac⟩ := (WF_mk ..).1 hwf
        obtain ⟨h42p, hcont⟩ := cont_descend hpre.2 hne (List.cons_ne_nil c0 s')
        -- a catch-all node has the prefix `*`, which a key that goes on below it may not contain
        have hpos : pos ≠ .akind := by rintro rfl; exact h42p (hp.1 ▸ List.mem_singleton_self _)
        rw [insert_descend hne]
        unfold Spec
        rw [conf_body]
        have hnH : ¬ Conf (hsPart hs ppath pnames) (c0 :: s') h := by cases hs <;> simp [Conf, hsPart, keys]
        rcases insertL_gen cs c0 (c0 :: s') h t pp pn hcs hnd (fun c hm hl => pre_static hcs hpc hac hcont hnd c hm hl) rfl
            hak with
          ⟨hnone, hr⟩ | ⟨⟨c, hcm, hcl⟩, ⟨hconf, hr⟩ | ⟨hnconf, cs', hr, hwl, hlabs, hupd, hpn⟩⟩
        · rw [hr]
          simp only
          have hnL : ¬ Conf (routesL cs) (c0 :: s') h := fun hc => by
            obtain ⟨c, hm, hl⟩ := keysL_head cs hcs _ hc.2
            exact hnone c hm (Option.some.inj hl).symm
          by_cases h58 : c0 = 58 ∧ pc.isSome = true
          · rw [if_pos h58]
            have hnA : ¬ Conf (routesO ac) (c0 :: s') h := fun hc =>
              absurd ((conf_O hac hc).1.symm.trans h58.1) (by decide)
            rcases insertO_gen pc .pkind (c0 :: s') h t pp pn hpc (fun c hm => pre_param hcs hpc hac hcont c hm h58.1)
                hak with
              ⟨h0, -⟩ | ⟨hconf, hr⟩ | ⟨hnconf, o', hr, hwo, hupd, hpn⟩
            · rw [h0] at h58; simp at h58
            · rw [hr]; left; exact ⟨Or.inr (Or.inr (Or.inl hconf)), rfl⟩
            · rw [hr]; right
              exact ⟨by simp [hnH, hnL, hnconf, hnA], _, rfl, WF_replace cs ppath pnames hs o' ac hwf hpos hcs hnd hwo hac, rfl,
                upd_node (upd_app_left (upd_app_right hupd)), pnstep_node hwf .refl hpn .refl⟩
          · rw [if_neg h58]
            have hnP : ¬ Conf (routesO pc) (c0 :: s') h := fun hc => h58 (conf_O hpc hc)
            by_cases h42 : c0 = 42 ∧ ac.isSome = true
            · rw [if_pos h42]
              rcases insertO_gen ac .akind (c0 :: s') h t pp pn hac (fun c hm => pre_any hcs hpc hac hcont c hm h42.1)
                  hak with
                ⟨h0, -⟩ | ⟨hconf, hr⟩ | ⟨hnconf, o', hr, hwo, hupd, hpn⟩
              · rw [h0] at h42; simp at h42
              · rw [hr]; left; exact ⟨Or.inr (Or.inr (Or.inr hconf)), rfl⟩
              · rw [hr]; right
                exact ⟨by simp [hnH, hnL, hnconf, hnP], _, rfl, WF_replace cs ppath pnames hs pc o' hwf hpos hcs hnd hpc hwo, rfl,
                  upd_node (upd_app_right hupd), pnstep_node hwf .refl .refl hpn⟩
            · rw [if_neg h42]
              have hnA : ¬ Conf (routesO ac) (c0 :: s') h := fun hc => h42 (conf_O hac hc)
              have hrest := rest_create hcs hpc hac hcont hnone h58 h42
              have hpnew : ∀ j cap, (h.isSome = true → pn.length = j + wild (c0 :: s')) → j + wild (c0 :: s') ≤ cap →
                  PnOK (.mk t c0 (c0 :: s') [] pp pn h none none) j cap := by
                intro j cap hlen hcap
                rw [PnOK_mk, wild_rest t _ hrest]
                exact ⟨hcap, hlen, trivial, trivial, trivial⟩
              right
              refine ⟨by simp [hnH, hnL, hnP, hnA], ?_⟩
              have hwl := WF_leaf t c0 s' pp pn h hrest hak
              cases t with
              | skind =>
                refine ⟨_, rfl, ?_, rfl, upd_node (upd_app_left (upd_app_left ?_)), pnstep_node hwf
                  (fun j cap hp h1 h2 => (PnOKL_append _ _ _ _).2 ⟨hp, hpnew j cap h1 h2, trivial⟩) .refl .refl⟩
                · refine WF_replace _ ppath pnames hs pc ac hwf hpos ((WFL_append _ _).2 ⟨hcs, hwl, trivial⟩) ?_ hpc hac
                  rw [List.map_append, List.nodup_append]
                  refine ⟨hnd, by simp, ?_⟩
                  intro a ha b hb
                  simp [Node.label] at hb
                  obtain ⟨c, hm, rfl⟩ := List.mem_map.1 ha
                  rw [hb]; exact hnone c hm
                · rw [routesL_append, boundsL_append]
                  simp only [routesL, boundsL, List.append_nil]
                  exact upd_new _ _ .skind c0 (c0 :: s') h pp pn
              | pkind =>
                obtain rfl : pc = none := Option.not_isSome_iff_eq_none.1 fun hs => h58 ⟨(List.cons.inj hrest).1, hs⟩
                exact ⟨_, rfl, WF_replace cs ppath pnames hs _ ac hwf hpos hcs hnd hwl hac, rfl,
                  upd_node (upd_app_left (upd_app_right (upd_new [] [] .pkind c0 (c0 :: s') h pp pn))),
                  pnstep_node hwf .refl (fun j cap _ => hpnew j cap) .refl⟩
              | akind =>
                obtain rfl : ac = none := Option.not_isSome_iff_eq_none.1 fun hs => h42 ⟨(List.cons.inj hrest).1, hs⟩
                exact ⟨_, rfl, WF_replace cs ppath pnames hs pc _ hwf hpos hcs hnd hpc hwl, rfl,
                  upd_node (upd_app_right (upd_new [] [] .akind c0 (c0 :: s') h pp pn)),
                  pnstep_node hwf .refl .refl (fun j cap _ => hpnew j cap)⟩
        · rw [hr]; left; exact ⟨Or.inr (Or.inl hconf), rfl⟩
        · rw [hr]; right
          have hlc : c.label ≠ 58 ∧ c.label ≠ 42 := WF_label c _ (WFL_mem cs c hcs hcm)
          have hnP : ¬ Conf (routesO pc) (c0 :: s') h := fun hc => hlc.1 (hcl.trans (conf_O hpc hc).1)
          have hnA : ¬ Conf (routesO ac) (c0 :: s') h := fun hc => hlc.2 (hcl.trans (conf_O hac hc).1)
          exact ⟨by simp [hnH, hnconf, hnP, hnA], _, rfl, WF_replace cs' ppath pnames hs pc ac hwf hpos hwl (hlabs ▸ hnd) hpc hac,
            rfl, upd_node (upd_app_left (upd_app_left hupd)), pnstep_node hwf hpn .refl .refl⟩
theorem insertL_gen : (cs : List Node) → (c0 : UInt8) → (s : Bytes) → (h : Option Nat) → (t : Kind) → (pp : Bytes) →
    (pn : List Bytes) → WFL cs → (cs.map Node.label).Nodup → (∀ c ∈ cs, c.label = c0 → Pre c s t) →
    s.head? = some c0 → (t = .akind → h.isSome = true) →
    SpecL cs c0 s h pp pn (insertL cs c0 s h t pp pn)
  | [], c0, s, h, t, pp, pn, _, _, _, _, _ => by
    exact Or.inl ⟨fun _ hc => absurd hc List.not_mem_nil, rfl⟩
  | c :: r, c0, s, h, t, pp, pn, hw, hnd, hpre, hhd, hak => by
    simp only [WFL] at hw
    simp only [List.map_cons, List.nodup_cons] at hnd
    rw [insertL_cons]
    unfold SpecL
    simp only [routesL, boundsL]
    by_cases hl : c.label = c0
    · simp only [hl, if_true]
      right
      refine ⟨⟨c, by simp, hl⟩, ?_⟩
      have hnr : ¬ Conf (routesL r) s h := fun hc => by
        obtain ⟨c', hm, hh⟩ := keysL_head r hw.2 s hc.2
        exact hnd.1 (List.mem_map.2 ⟨c', hm, (Option.some.inj (hh.symm.trans hhd)).trans hl.symm⟩)
      rcases insert_gen c .skind s h t pp pn hw.1 (hpre c (by simp) hl) hak with
        ⟨hconf, hr⟩ | ⟨hnconf, c', hr, hwc, hlab, hupd, hpn⟩
      · rw [hr]; left; exact ⟨conf_append.2 (Or.inl hconf), rfl⟩
      · rw [hr]; right
        refine ⟨fun hc => (conf_append.1 hc).elim hnconf hnr, c' :: r, rfl, ⟨hwc, hw.2⟩, by simp [hlab],
          upd_app_left hupd, ?_⟩
        intro j cap hpk hlen hcap
        simp only [PnOKL] at hpk ⊢
        exact ⟨hpn j cap hpk.1 hlen hcap, hpk.2⟩
    · simp only [hl, if_false]
      have hnc : ¬ Conf (routes c) s h := fun hc =>
        hl (Option.some.inj ((keys_head c _ hw.1 s hc.2).symm.trans hhd))
      rcases insertL_gen r c0 s h t pp pn hw.2 hnd.2 (fun c' hm => hpre c' (List.mem_cons_of_mem _ hm)) hhd hak with
        ⟨hnone, hr⟩ | ⟨⟨c', hm, hl'⟩, ⟨hconf, hr⟩ | ⟨hnconf, r', hr, hwr, hlabs, hupd, hpn⟩⟩
      · rw [hr]; left
        refine ⟨fun x hx => ?_, rfl⟩
        rcases List.mem_cons.1 hx with rfl | hx
        · exact hl
        · exact hnone x hx
      · rw [hr]; right
        exact ⟨⟨c', List.mem_cons_of_mem _ hm, hl'⟩, Or.inl ⟨conf_append.2 (Or.inr hconf), rfl⟩⟩
      · rw [hr]; right
        refine ⟨⟨c', List.mem_cons_of_mem _ hm, hl'⟩, Or.inr ⟨fun hc => (conf_append.1 hc).elim hnc hnconf,
          c :: r', rfl, ⟨hw.1, hwr⟩, by simp [hlabs], upd_app_right hupd, ?_⟩⟩
        intro j cap hpk hlen hcap
        simp only [PnOKL] at hpk ⊢
        exact ⟨hpk.1, hpn j cap hpk.2 hlen hcap⟩
theorem insertO_gen : (o : Option Node) → (pos : Kind) → (s : Bytes) → (h : Option Nat) → (t : Kind) → (pp : Bytes) →
    (pn : List Bytes) → WFO o pos → (∀ c, o = some c → Pre c s t) → (t = .akind → h.isSome = true) →
    SpecO o pos s h pp pn (insertO o s h t pp pn)
  | none, pos, s, h, t, pp, pn, _, _, _ => by
    exact Or.inl ⟨rfl, rfl⟩
  | some c, pos, s, h, t, pp, pn, hw, hpre, hak => by
    simp only [WFO] at hw
    rw [insertO_some]
    unfold SpecO
    simp only [routesO, boundsO]
    right
    rcases insert_gen c pos s h t pp pn hw (hpre c rfl) hak with
      ⟨hconf, hr⟩ | ⟨hnconf, c', hr, hwc, hlab, hupd, hpn⟩
    · rw [hr]; left; exact ⟨hconf, rfl⟩
    · rw [hr]; right
      refine ⟨hnconf, some c', rfl, hwc, hupd, ?_⟩
      intro j cap hpk hlen hcap
      simp only [PnOKO] at hpk ⊢
      exact hpn j cap hpk hlen hcap
end

/-- precondition under which `router.addRoute` calls `insert` -/
def Ready (n : Node) (search : Bytes) (t : Kind) : Prop :=
  match t with
  | .skind => search ≠ [] ∧ ∃ b lit, search = b ++ lit ∧ Lit lit ∧ (b = [] ∨ (b ∈ bounds n ∧ (42 : UInt8) ∉ b))
  | .pkind => ∃ b, b ∈ bounds n ∧ (42 : UInt8) ∉ b ∧ search = b ++ [58]
  | .akind => ∃ b, b ∈ bounds n ∧ (42 : UInt8) ∉ b ∧ search = b ++ [42]

theorem head_of_bound (n : Node) (pos : Kind) (hwf : WF n pos) (b rest : Bytes) (hb : b ∈ bounds n) :
    (b ++ rest).head? = n.pfx.head? := by
  rw [WF_pfx n pos hwf, List.head?_append, bounds_head n pos hwf b hb, Option.some_or]

theorem ready_pre (n : Node) (search : Bytes) (t : Kind) (hwf : WF n .skind) (hr : Ready n search t)
    (hhd : t = .skind → search.head? = n.pfx.head?) : Pre n search t := by
  cases t with
  | skind =>
    obtain ⟨-, b, lit, he, hl, hb⟩ := hr
    exact ⟨hhd rfl, b, lit, he, hl, hb⟩
  | pkind =>
    obtain ⟨b, hb, h42, he⟩ := hr
    exact ⟨he ▸ head_of_bound n _ hwf b _ hb, b, [58], he, rfl, Or.inr ⟨hb, h42⟩⟩
  | akind =>
    obtain ⟨b, hb, h42, he⟩ := hr
    exact ⟨he ▸ head_of_bound n _ hwf b _ hb, b, [42], he, rfl, Or.inr ⟨hb, h42⟩⟩

/-- On a well-formed tree, under the precondition with which `router.addRoute` calls it, `insert` meets `Spec` at the
root.  The statement is false without `hhd` and `hak` (see `insert_spec_needs_head`, `insert_spec_needs_handler`
below): a literal key that does not continue a boundary must start with the first byte of the root
prefix (in `addRoute` both are `/`), and a catch-all node is only ever created with handlers. -/
theorem insert_spec (n : Node) (search : Bytes) (h : Option Nat) (t : Kind) (pp : Bytes) (pn : List Bytes)
    (hwf : WF n .skind) (hr : Ready n search t)
    (hhd : t = .skind → search.head? = n.pfx.head?) (hak : t = .akind → h.isSome = true) :
    Spec n .skind search h pp pn (Route.insert n search h t pp pn) :=
  insert_gen n .skind search h t pp pn hwf (ready_pre n search t hwf hr hhd) hak

/-- first insertion into the empty root (`Node.empty`), the "At root node" branch: the root becomes a leaf -/
theorem insert_empty_eq (c0 : UInt8) (r : Bytes) (h : Option Nat) (pp : Bytes) (pn : List Bytes) :
    Route.insert Node.empty (c0 :: r) h .skind pp pn =
      .ok (match h with
        | some _ => .mk .skind c0 (c0 :: r) [] pp pn h none none
        | none => .mk .skind c0 (c0 :: r) [] [] [] none none none) := by
  cases h <;> simp [Node.empty, Route.insert, lcpLen_nil]

theorem insert_empty (search : Bytes) (h : Option Nat) (pp : Bytes) (pn : List Bytes) (hs : search ≠ [])
    (hl : Lit search) :
    ∃ n', Route.insert Node.empty search h .skind pp pn = .ok n' ∧ WF n' .skind ∧
      (∀ kv, kv ∈ routes n' ↔ ∃ x, h = some x ∧ kv = (search, Val.mk x pp pn)) ∧ search ∈ bounds n' := by
  cases search with
  | nil => exact absurd rfl hs
  | cons c0 r =>
    refine ⟨_, insert_empty_eq c0 r h pp pn, ?_⟩
    cases h with
    | none =>
      obtain ⟨hu, -, hb⟩ := upd_new [] [] .skind c0 (c0 :: r) none [] []
      exact ⟨WF_leaf .skind c0 r [] [] none hl nofun, fun kv => by simpa [newRoute] using hu kv, hb⟩
    | some x =>
      obtain ⟨hu, -, hb⟩ := upd_new [] [] .skind c0 (c0 :: r) (some x) pp pn
      exact ⟨WF_leaf .skind c0 r pp pn (some x) hl nofun, fun kv => by simpa [newRoute] using hu kv, hb⟩

mutual
theorem pnok_mono : (n : Node) → ∀ j cap cap', PnOK n j cap → cap ≤ cap' → PnOK n j cap'
  | .mk kind label pfx cs ppath pnames hs pc ac => by
    intro j cap cap' hp hc
    rw [PnOK_mk] at hp ⊢
    exact ⟨Nat.le_trans hp.1 hc, hp.2.1, pnokL_mono cs _ _ _ hp.2.2.1 hc, pnokO_mono pc _ _ _ hp.2.2.2.1 hc,
      pnokO_mono ac _ _ _ hp.2.2.2.2 hc⟩
theorem pnokL_mono : (l : List Node) → ∀ j cap cap', PnOKL l j cap → cap ≤ cap' → PnOKL l j cap'
  | [] => by intros; trivial
  | c :: r => by
    intro j cap cap' hp hc
    simp only [PnOKL] at hp ⊢
    exact ⟨pnok_mono c _ _ _ hp.1 hc, pnokL_mono r _ _ _ hp.2 hc⟩
theorem pnokO_mono : (o : Option Node) → ∀ j cap cap', PnOKO o j cap → cap ≤ cap' → PnOKO o j cap'
  | none => by intros; trivial
  | some c => by
    intro j cap cap' hp hc
    simp only [PnOKO] at hp ⊢
    exact pnok_mono c _ _ _ hp hc
end

/-- without `hhd`: root `/` (with a handler), key `a`: the "At root node" branch overwrites the prefix -/
theorem insert_spec_needs_head :
    let n : Node := .mk .skind 47 [47] [] [] [] (some 1) none none
    WF n .skind ∧ Ready n [97] .skind ∧
      Route.insert n [97] (some 2) .skind [] [] = .ok (.mk .skind 97 [97] [] [] [] (some 2) none none) ∧
      (([47] : Bytes), Val.mk 1 [] []) ∈ routes n ∧
      (([47] : Bytes), Val.mk 1 [] []) ∉ routes (.mk .skind 97 [97] [] [] [] (some 2) none none) := by
  refine ⟨WF_leaf .skind 47 [] [] [] _ lit_slash nofun, ?_, rfl, ?_, ?_⟩
  · exact ⟨List.cons_ne_nil _ _, [], [97], rfl, fun c hc => List.mem_singleton.1 hc ▸ by decide, Or.inl rfl⟩
  · rw [routes_leaf]; decide
  · rw [routes_leaf]; decide

/-- without `hak`: a catch-all child created without handlers is not `WF` -/
theorem insert_spec_needs_handler :
    let n : Node := .mk .skind 47 [47] [] [] [] none none none
    WF n .skind ∧ Ready n [47, 42] .akind ∧
      Route.insert n [47, 42] none .akind [] [] =
        .ok (.mk .skind 47 [47] [] [] [] none none (some (.mk .akind 42 [42] [] [] [] none none none))) ∧
      ¬ WF (.mk .skind 47 [47] [] [] [] none none (some (.mk .akind 42 [42] [] [] [] none none none))) .skind := by
  refine ⟨WF_leaf .skind 47 [] [] [] _ lit_slash nofun, ?_, rfl, ?_⟩
  · exact ⟨[47], by rw [bounds_leaf]; exact List.mem_singleton_self _, by decide, rfl⟩
  · rw [WF_mk]; simp only [WFO]; rw [WF_mk]; simp

end Hertz.Route
