import Hertz.Proofs.Resp
import Hertz.Proofs.Dec
import Hertz.Model.Fs
import Hertz.Model.Http1.RespMsg
import Hertz.Proofs.Fs
/-!
Lemmas for the end-to-end statement of C04: the whole response (header block of the C05 model with
the framing fields `ResponseHeader.SetContentLength` puts in, followed by the body bytes of
`H1.Resp.frame`) is read by the strict reader `Spec.Resp.decodeOne` as exactly one message.  `decodeOne` is cut into the
framing decision `framingOf` and the body step `bodyOf`; `decode_head` reads back any header state in `HeadInv`, and a message
theorem is `decode_head` plus one `bodyOf_*` lemma.  Both namespaces are open: a bare `Framing` is the writer's
(`H1.Resp.Framing`), the reader's is written `Spec.Resp.Framing` (`toSpec`, `effFraming` go from one to the other).
-/
namespace Hertz.H1.Resp
open Hertz Hertz.Gen.Str Hertz.Spec.Resp Hertz.Spec.Head Hertz.HW

theorem sCL_eq : sCL = [99, 111, 110, 116, 101, 110, 116, 45, 108, 101, 110, 103, 116, 104] :=
  (Dec.toUTF8_ofList ['c','o','n','t','e','n','t','-','l','e','n','g','t','h']).trans (by decide)

theorem sTE_eq : sTE = [116, 114, 97, 110, 115, 102, 101, 114, 45, 101, 110, 99, 111, 100, 105, 110, 103] :=
  (Dec.toUTF8_ofList ['t','r','a','n','s','f','e','r','-','e','n','c','o','d','i','n','g']).trans (by decide)

theorem sChunked_eq : sChunked = [99, 104, 117, 110, 107, 101, 100] :=
  (Dec.toUTF8_ofList ['c','h','u','n','k','e','d']).trans (by decide)

def isDig (c : UInt8) : Bool := 48 ≤ c && c ≤ 57
def decStep (n : Nat) (c : UInt8) : Nat := n * 10 + (c - 48).toNat

theorem parseDec_eq (b : Bytes) :
    parseDec b = if b.isEmpty || !b.all isDig then none else some (b.foldl decStep 0) := rfl

theorem foldl_decStep_eq_decAcc (t : Bytes) (acc : Nat) (h : t.all isDig = true) :
    t.foldl decStep acc = FS.Spec.decAcc t acc :=
  (Dec.foldl_eq_val t acc).trans (FS.decAcc_eq_val t acc h).symm

/-- `10 ^ 20`: what the 20-byte scratch buffer of `AppendUint` holds; beyond it `FS.decDigits 20` faults and `decimal` is `[]` -/
theorem decimal_eq (n : Nat) (h : n < 10 ^ 20) : decimal n = Dec.decD n := by
  rw [decimal, FS.decDigits_eq_decD 19 n h]; rfl

theorem decimal_spec (n : Nat) (h : n < 10 ^ 20) :
    FS.decDigits 20 n = some (decimal n) ∧ decimal n ≠ [] ∧ (decimal n).all isDig = true ∧
      (decimal n).foldl decStep 0 = n := by
  rw [decimal_eq n h]
  exact ⟨FS.decDigits_eq_decD 19 n h, Dec.decD_ne_nil n, FS.decD_all_isDigit n,
    (Dec.foldl_eq_val _ 0).trans (Dec.val_decD n)⟩

theorem parseDec_decimal (n : Nat) (h : n < 10 ^ 20) : parseDec (decimal n) = some n := by
  rw [decimal_eq n h]; exact Dec.parseDec_decD n

theorem two63_lt : (2 : Nat) ^ 63 < 10 ^ 20 := by decide

/-- `FS.appendUint`: the model of `bytesconv.AppendUint` used by C08, with its panics -/
theorem appendUint_decimal (n : Nat) (h : n < 10 ^ 20) : FS.appendUint (n : Int) = .ok (decimal n) := by
  unfold FS.appendUint
  have : ¬ ((n : Int) < 0) := by omega
  simp [this, (decimal_spec n h).1]

theorem isDig_clean {c : UInt8} (h : isDig c = true) : c ≠ 13 ∧ c ≠ 10 := by
  constructor <;> (intro e; subst e; exact absurd h (by decide))

theorem newlineToSpace_digits (d : Bytes) (h : d.all isDig = true) : newlineToSpace d = d := by
  induction d with
  | nil => rfl
  | cons c t ih =>
    simp only [List.all_cons, Bool.and_eq_true] at h
    have hc := isDig_clean h.1
    simp only [newlineToSpace, List.map_cons, newlineToSpaceTable_eq, hc.1, hc.2, or_self, if_false] at ih ⊢
    rw [ih h.2]

def NoCRLF (b : Bytes) : Prop := ∀ x ∈ b, x ≠ 13 ∧ x ≠ 10

theorem statusOf_statusLineOf (n : Nat) (reason : Bytes) (h1 : 100 ≤ n) (h2 : n < 1000) :
    statusOf (statusLineOf n reason) = some n := by
  obtain ⟨a, b, c, habc⟩ : ∃ a b c, decimal n = [a, b, c] := decimal_eq n (by omega) ▸ Dec.decD_three n h1 (by omega)
  have hp := parseDec_decimal n (by omega)
  rw [habc] at hp
  unfold statusLineOf
  rw [habc]
  simp [statusOf, strHTTP11Sp, hp]

theorem statusLineOf_clean (n : Nat) (reason : Bytes) (hn : n < 10 ^ 20) (hr : NoCRLF reason) :
    NoCRLF (statusLineOf n reason) := by
  intro x hx
  simp only [statusLineOf, List.mem_append, List.mem_cons] at hx
  rcases hx with (hx | hx) | hx | hx
  · revert x; decide
  · exact isDig_clean (List.all_eq_true.mp (decimal_spec n hn).2.2.1 x hx)
  · subst hx; decide
  · exact hr x hx

/-- the values a strict reader finds under the lower-cased name `name` in the block written for `fs` -/
def named (name : Bytes) (fs : List (Bytes × Bytes)) : List Bytes :=
  ((kept fs).filter (fun kv => lowerAll kv.1 == name)).map (·.2)

theorem kept_append (a b : List (Bytes × Bytes)) : kept (a ++ b) = kept a ++ kept b := by
  simp [kept]

theorem named_append (name : Bytes) (a b : List (Bytes × Bytes)) :
    named name (a ++ b) = named name a ++ named name b := by
  simp [named, kept_append]

theorem named_nil (name : Bytes) : named name [] = [] := rfl

theorem named_of_forall_ne (name : Bytes) (fs : List (Bytes × Bytes))
    (h : ∀ kv ∈ fs, lowerAll kv.1 ≠ name) : named name fs = [] := by
  simp only [named, kept, List.map_eq_nil_iff, List.filter_eq_nil_iff, List.mem_map, List.mem_filter]
  rintro kv ⟨a, ⟨ha, _⟩, rfl⟩
  simpa using h a ha

theorem named_single_ne (name k v : Bytes) (h : lowerAll k ≠ name) : named name [(k, v)] = [] :=
  named_of_forall_ne name _ (by simpa using h)

theorem named_single_eq (name k v : Bytes) (hv : validName k = true) (h : lowerAll k = name) :
    named name [(k, v)] = [newlineToSpace v] := by
  simp [named, kept, hv, h]

theorem mem_kept (fs : List (Bytes × Bytes)) (kv : Bytes × Bytes) (h : kv ∈ fs) (hv : validName kv.1 = true) :
    (kv.1, newlineToSpace kv.2) ∈ kept fs := by
  simp only [kept, List.mem_map, List.mem_filter]
  exact ⟨kv, ⟨h, hv⟩, rfl⟩

theorem named_ne_nil {name : Bytes} {fs : List (Bytes × Bytes)} {kv : Bytes × Bytes} (hm : kv ∈ fs)
    (hv : validName kv.1 = true) (hn : lowerAll kv.1 = name) : named name fs ≠ [] := by
  intro h
  have : (kv.1, newlineToSpace kv.2) ∈ (kept fs).filter (fun kv => lowerAll kv.1 == name) :=
    List.mem_filter.mpr ⟨mem_kept fs kv hm hv, beq_iff_eq.mpr hn⟩
  rw [List.map_eq_nil_iff.mp h] at this
  cases this

/-- the only fields of a serialised response header that can be called Content-Length or
Transfer-Encoding are the `contentLengthBytes` line and the generic fields `h` -/
theorem named_fields (r : RespHdr) (name : Bytes) (hn : name = sCL ∨ name = sTE) :
    named name r.fields =
      named name (if r.clBytes.isEmpty then [] else [(strContentLength, r.clBytes)]) ++
      named name (r.h.filter (fun kv => r.date.isNone || kv.1 != strDate)) := by
  obtain ⟨c1, c2, c3, c4, c5, c6, c7⟩ : lowerAll strServer ≠ name ∧ lowerAll strDate ≠ name ∧
      lowerAll strContentType ≠ name ∧ lowerAll strContentEncoding ≠ name ∧ lowerAll strTrailer ≠ name ∧
      lowerAll strSetCookie ≠ name ∧ lowerAll strConnection ≠ name := by
    rcases hn with rfl | rfl <;> simp only [sCL_eq, sTE_eq] <;> decide
  have ck : named name (r.cookies.map (fun c => (strSetCookie, c))) = [] :=
    named_of_forall_ne name _ (by simp only [List.mem_map]; rintro _ ⟨c, _, rfl⟩; exact c6)
  unfold RespHdr.fields
  cases r.date <;>
    simp only [named_append, apply_ite (named name), named_nil, named_single_ne name _ _ c1, named_single_ne name _ _ c2,
      named_single_ne name _ _ c3, named_single_ne name _ _ c4, named_single_ne name _ _ c5,
      named_single_ne name _ _ c7, ck, ite_self, List.append_nil, List.nil_append]

/-- the framing decision of `decodeOne` -/
def framingOf (fs : List (Bytes × Bytes)) : Option Spec.Resp.Framing :=
  match (fs.filter (fun kv => lowerAll kv.1 == sCL)).map (·.2), (fs.filter (fun kv => lowerAll kv.1 == sTE)).map (·.2) with
  | [], [] => some Spec.Resp.Framing.none
  | [c], [] => (parseDec c).map Spec.Resp.Framing.cl
  | [], [t] => if lowerAll t == sChunked then some Spec.Resp.Framing.chunked else none
  | _, _ => none

/-- the body step of `decodeOne` -/
def bodyOf (isHead : Bool) (status : Nat) (fs : List (Bytes × Bytes)) (framing : Spec.Resp.Framing) (rest : Bytes) :
    Option (Msg × Bytes) :=
  if isHead || noBodyStatus status then
    some ({ status, fields := fs, framing, raw := [], body := [], trailers := [] }, rest)
  else match framing with
    | .none => some ({ status, fields := fs, framing, raw := [], body := [], trailers := [] }, rest)
    | .cl n =>
      if rest.length < n then none
      else some ({ status, fields := fs, framing, raw := rest.take n, body := rest.take n, trailers := [] }, rest.drop n)
    | .chunked =>
      (chunks (rest.length + 1) rest []).bind fun r =>
        some ({ status, fields := fs, framing, raw := rest.take (rest.length - r.2.2.length), body := r.1, trailers := r.2.1 }, r.2.2)

theorem decodeOne_eq (isHead : Bool) {s start rest : Bytes} {fs : List (Bytes × Bytes)}
    (h1 : parseHead s = some (start, fs, rest)) :
    decodeOne isHead s =
      (statusOf start).bind fun st => (framingOf fs).bind fun fr => bodyOf isHead st fs fr rest := by
  unfold framingOf decodeOne
  simp only [h1, Option.bind_eq_bind, Option.bind_some]
  cases statusOf start with
  | none => rfl
  | some st =>
    generalize (fs.filter (fun kv => lowerAll kv.1 == sCL)).map (·.2) = cls
    generalize (fs.filter (fun kv => lowerAll kv.1 == sTE)).map (·.2) = tes
    rcases cls with _ | ⟨c, _ | ⟨c2, cs⟩⟩ <;> rcases tes with _ | ⟨t, _ | ⟨t2, ts⟩⟩ <;> try rfl
    -- one `Transfer-Encoding` field and no `Content-Length`: `chunked` or nothing
    cases h : lowerAll t == sChunked <;> simp only [h] <;> rfl

theorem decodeOne_of (isHead : Bool) {s start rest : Bytes} {fs : List (Bytes × Bytes)} (st : Nat)
    (fr : Spec.Resp.Framing) (h1 : parseHead s = some (start, fs, rest)) (h2 : statusOf start = some st)
    (h3 : framingOf fs = some fr) : decodeOne isHead s = bodyOf isHead st fs fr rest := by
  rw [decodeOne_eq isHead h1, h2, h3]; rfl

theorem decodeOne_none_of_framing (isHead : Bool) {s start rest : Bytes} {fs : List (Bytes × Bytes)} (st : Nat)
    (h1 : parseHead s = some (start, fs, rest)) (h2 : statusOf start = some st)
    (h3 : framingOf fs = none) : decodeOne isHead s = none := by
  rw [decodeOne_eq isHead h1, h2, h3]; rfl

theorem decodeOne_none_of_status (isHead : Bool) {s start rest : Bytes} {fs : List (Bytes × Bytes)}
    (h1 : parseHead s = some (start, fs, rest)) (h2 : statusOf start = none) : decodeOne isHead s = none := by
  rw [decodeOne_eq isHead h1, h2]; rfl

theorem bodyOf_bodiless {isHead : Bool} {st : Nat} {fs : List (Bytes × Bytes)} {fr : Spec.Resp.Framing} {rest : Bytes}
    (hb : (isHead || noBodyStatus st) = true) :
    bodyOf isHead st fs fr rest =
      some ({ status := st, fields := fs, framing := fr, raw := [], body := [], trailers := [] }, rest) := by
  simp only [bodyOf, hb, if_true]

theorem bodyOf_cl {isHead : Bool} {st : Nat} {fs : List (Bytes × Bytes)} {n : Nat} {wire rest : Bytes}
    (hb : (isHead || noBodyStatus st) = false) (hl : wire.length = n) :
    bodyOf isHead st fs (.cl n) (wire ++ rest) =
      some ({ status := st, fields := fs, framing := .cl n, raw := wire, body := wire, trailers := [] }, rest) := by
  have h1 : ¬ (wire ++ rest).length < n := by simp [hl]
  simp only [bodyOf, hb, Bool.false_eq_true, if_false, h1]
  subst hl
  simp

theorem bodyOf_chunked {isHead : Bool} {st : Nat} {fs : List (Bytes × Bytes)} {wire rest body : Bytes}
    {tr : List (Bytes × Bytes)} (hb : (isHead || noBodyStatus st) = false)
    (hc : chunks ((wire ++ rest).length + 1) (wire ++ rest) [] = some (body, tr, rest)) :
    bodyOf isHead st fs .chunked (wire ++ rest) =
      some ({ status := st, fields := fs, framing := .chunked, raw := wire, body := body, trailers := tr }, rest) := by
  simp only [bodyOf, hb, Bool.false_eq_true, if_false, hc, Option.bind_some]
  simp

/-- the response header before anything touched its framing fields: a status line `HTTP/1.1 NNN reason`, no
Content-Length yet, and no generic field called Content-Length or Transfer-Encoding (`Set`, `Add`, `SetCanonical` route
both names to `setSpecialHeader`, which does not store them in `h`; `SetContentLength(<0)`, `SetArgBytes`, `AddArgBytes` do) -/
def HeadOK (r : RespHdr) (status : Nat) : Prop :=
  100 ≤ status ∧ status < 1000 ∧ (∃ reason, NoCRLF reason ∧ r.statusLine = statusLineOf status reason) ∧
  r.clBytes = [] ∧ ∀ kv ∈ r.h, lowerAll kv.1 ≠ sCL ∧ lowerAll kv.1 ≠ sTE

/-- the response writer's `setArgBytes` is the request reader's, written twice -/
theorem setArgKV_eq : setArgKV = H1.setArg := by
  funext h k v
  induction h with
  | nil => rfl
  | cons a t ih => simp only [setArgKV, H1.setArg, ih]

theorem setArgKV_absent (h : List (Bytes × Bytes)) (k v : Bytes) (hh : ∀ kv ∈ h, kv.1 ≠ k) :
    setArgKV h k v = h ++ [(k, v)] :=
  setArgKV_eq ▸ H1.setArg_absent h k v hh

theorem mem_setArgKV : ∀ {h : List (Bytes × Bytes)} {k v : Bytes} {kv : Bytes × Bytes},
    kv ∈ setArgKV h k v → kv ∈ h ∨ kv = (k, v)
  | [], k, v, kv, hm => by simp [setArgKV] at hm; exact Or.inr hm
  | (k', v') :: t, k, v, kv, hm => by
    simp only [setArgKV] at hm
    split at hm
    · simp only [List.mem_cons] at hm ⊢
      rcases hm with hm | hm
      · exact Or.inr hm
      · exact Or.inl (Or.inr hm)
    · simp only [List.mem_cons] at hm ⊢
      rcases hm with hm | hm
      · exact Or.inl (Or.inl hm)
      · rcases mem_setArgKV hm with h1 | h1
        · exact Or.inl (Or.inr h1)
        · exact Or.inr h1

theorem setArgKV_present : ∀ (a b : List (Bytes × Bytes)) (k v0 v : Bytes), (∀ kv ∈ a, kv.1 ≠ k) →
    setArgKV (a ++ (k, v0) :: b) k v = a ++ (k, v) :: b
  | [], b, k, v0, v, _ => by simp [setArgKV]
  | (k', v') :: t, b, k, v0, v, hh => by
    have h1 : k' ≠ k := hh (k', v') (by simp)
    simp only [List.cons_append, setArgKV, h1, if_false]
    rw [setArgKV_present t b k v0 v (fun kv hkv => hh kv (by simp [hkv]))]

theorem lowerAll_TE : lowerAll strTransferEncoding = sTE := by rw [sTE_eq]; decide
theorem lowerAll_CL : lowerAll strContentLength = sCL := by rw [sCL_eq]; decide
theorem validName_TE : validName strTransferEncoding = true := by rw [validName_eq]; decide +kernel
theorem validName_CL : validName strContentLength = true := by rw [validName_eq]; decide +kernel

theorem framingOf_kept (fs : List (Bytes × Bytes)) :
    framingOf (kept fs) = (match named sCL fs, named sTE fs with
      | [], [] => some Spec.Resp.Framing.none
      | [c], [] => (parseDec c).map Spec.Resp.Framing.cl
      | [], [t] => if lowerAll t == sChunked then some Spec.Resp.Framing.chunked else none
      | _, _ => none) := rfl

theorem framingOf_both (fs : List (Bytes × Bytes)) (h1 : named sCL fs ≠ []) (h2 : named sTE fs ≠ []) :
    framingOf (kept fs) = none := by
  rw [framingOf_kept]
  cases hc : named sCL fs with
  | nil => exact absurd hc h1
  | cons c cs =>
    cases ht : named sTE fs with
    | nil => exact absurd ht h2
    | cons t ts => cases cs <;> rfl

theorem withFraming_statusLine (r : RespHdr) (f : Framing) : (withFraming r f).statusLine = r.statusLine := by
  cases f <;> rfl

theorem withFraming_connClose (r : RespHdr) (f : Framing) : (withFraming r f).connClose = r.connClose := by
  cases f <;> rfl

/-! ### header states whose framing fields have been set (`HeadInv`)

`HeadOK` describes the header before anything touched its framing fields.  A handler can get further:
`SetBodyStream(r, n)` already calls `SetContentLength`, `Header.Set("Content-Length", "5")` stores the
value (if it parses), and a later change of status can turn the writer's own call into a no-op.
`Declares r d` says what such a state announces by itself; the writer overrides it when it sets a
framing and leaves it alone when it does not (HEAD, 1xx, 204, 304 without a call). -/

def NoName (name : Bytes) (h : List (Bytes × Bytes)) : Prop := ∀ kv ∈ h, lowerAll kv.1 ≠ name

inductive Declares (r : RespHdr) : Spec.Resp.Framing → Prop
  | none : r.clBytes = [] → NoName sTE r.h → Declares r .none
  | cl : r.clBytes ≠ [] → r.clBytes.all isDig = true → NoName sTE r.h →
      Declares r (.cl (r.clBytes.foldl decStep 0))
  | chunked (a b : List (Bytes × Bytes)) : r.clBytes = [] → r.h = a ++ (strTransferEncoding, strChunked) :: b →
      NoName sTE a → NoName sTE b → Declares r .chunked

def HeadInv (r : RespHdr) (status : Nat) (d : Spec.Resp.Framing) : Prop :=
  100 ≤ status ∧ status < 1000 ∧ (∃ reason, NoCRLF reason ∧ r.statusLine = statusLineOf status reason) ∧
  NoName sCL r.h ∧ Declares r d

theorem HeadOK.inv {r : RespHdr} {st : Nat} (h : HeadOK r st) : HeadInv r st .none :=
  ⟨h.1, h.2.1, h.2.2.1, fun kv hkv => (h.2.2.2.2 kv hkv).1, .none h.2.2.2.1 (fun kv hkv => (h.2.2.2.2 kv hkv).2)⟩

theorem effFraming_none (f : Framing) : effFraming .none f = toSpec f := by
  cases f <;> rfl

/-- The entries a reader files under `name`.  A filter, so it commutes with the two edits the writer makes to the generic
fields (`sel_filter`, `sel_setArgKV`); what a state declares is read off `sel sTE` (`declares_iff`). -/
def sel (name : Bytes) (h : List (Bytes × Bytes)) : List (Bytes × Bytes) := h.filter (fun kv => lowerAll kv.1 == name)

theorem noName_iff (name : Bytes) (h : List (Bytes × Bytes)) : NoName name h ↔ sel name h = [] := by
  simp only [NoName, sel, List.filter_eq_nil_iff, beq_iff_eq]

theorem sel_filter (name : Bytes) (p : Bytes × Bytes → Bool) (h : List (Bytes × Bytes)) :
    sel name (h.filter p) = (sel name h).filter p := by
  simp only [sel, List.filter_filter, Bool.and_comm]

/-- setting a key touches only the entries filed under its own name, and there it is the same edit -/
theorem sel_setArgKV (name k v : Bytes) : ∀ h : List (Bytes × Bytes),
    sel name (setArgKV h k v) = if lowerAll k == name then setArgKV (sel name h) k v else sel name h
  | [] => by cases hk : lowerAll k == name <;> simp [sel, setArgKV, hk]
  | (k', v') :: t => by
    have ih := sel_setArgKV name k v t
    by_cases e : k' = k
    · subst e
      cases hk : lowerAll k' == name <;> simp [sel, setArgKV, hk]
    · cases hk' : lowerAll k' == name <;> cases hk : lowerAll k == name <;>
        simp only [sel, setArgKV, e, if_false, List.filter_cons, hk', hk, Bool.false_eq_true, if_true] at ih ⊢ <;> rw [ih]

/-- what a header state declares, read off the `Transfer-Encoding` entries -/
theorem declares_iff (r : RespHdr) (d : Spec.Resp.Framing) : Declares r d ↔
    (r.clBytes = [] ∧ sel sTE r.h = [] ∧ d = .none) ∨
    (r.clBytes ≠ [] ∧ r.clBytes.all isDig = true ∧ sel sTE r.h = [] ∧ d = .cl (r.clBytes.foldl decStep 0)) ∨
    (r.clBytes = [] ∧ sel sTE r.h = [(strTransferEncoding, strChunked)] ∧ d = .chunked) := by
  constructor
  · intro hd
    cases hd with
    | none h1 h2 => exact .inl ⟨h1, (noName_iff _ _).mp h2, rfl⟩
    | cl h1 h2 h3 => exact .inr (.inl ⟨h1, h2, (noName_iff _ _).mp h3, rfl⟩)
    | chunked a b h1 h2 h3 h4 =>
      refine .inr (.inr ⟨h1, ?_, rfl⟩)
      have ha := (noName_iff _ _).mp h3
      have hb := (noName_iff _ _).mp h4
      rw [h2]
      simp only [sel, List.filter_append, List.filter_cons, lowerAll_TE, beq_self_eq_true, if_true] at ha hb ⊢
      rw [ha, hb]; rfl
  · rintro (⟨h1, h2, rfl⟩ | ⟨h1, h2, h3, rfl⟩ | ⟨h1, h2, rfl⟩)
    · exact .none h1 ((noName_iff _ _).mpr h2)
    · exact .cl h1 h2 ((noName_iff _ _).mpr h3)
    · obtain ⟨a, b, hab, ha, _, hb⟩ := List.filter_eq_cons_iff.mp h2
      exact .chunked a b h1 hab (fun kv hkv => by simpa using ha kv hkv) ((noName_iff _ _).mpr hb)

theorem teCL : (lowerAll strTransferEncoding == sCL) = false := by rw [sCL_eq]; decide
theorem teTE : (lowerAll strTransferEncoding == sTE) = true := by rw [lowerAll_TE]; exact beq_self_eq_true _

theorem sel_TE_filter {r : RespHdr} {d : Spec.Resp.Framing} (hd : Declares r d) :
    sel sTE (r.h.filter (fun kv => kv.1 != strTransferEncoding)) = [] := by
  rw [sel_filter]
  rcases (declares_iff r d).mp hd with ⟨_, h, _⟩ | ⟨_, _, h, _⟩ | ⟨_, h, _⟩ <;> rw [h] <;> rfl

theorem named_eq (name : Bytes) (fs : List (Bytes × Bytes)) : named name fs = (kept (sel name fs)).map (·.2) := by
  simp only [named, kept, sel, List.filter_map, List.filter_filter, Function.comp_def, Bool.and_comm]

/-- Only the `clBytes` line and `h` can carry the two names (`named_fields`); `named_eq` turns both into `sel`, where `hcl` empties
`sel sCL` and `declares_iff` gives the three shapes of `sel sTE r.h`. -/
theorem framingOf_declared (r : RespHdr) (d : Spec.Resp.Framing) (hcl : NoName sCL r.h) (hd : Declares r d) :
    framingOf (kept r.fields) = some d := by
  rw [noName_iff] at hcl
  rw [framingOf_kept, named_fields _ sCL (Or.inl rfl), named_fields _ sTE (Or.inr rfl)]
  have cte : lowerAll strContentLength ≠ sTE := by rw [sTE_eq]; decide
  have hch : (kept [(strTransferEncoding, strChunked)]).map (·.2) = [strChunked] := by rw [kept_arith]; decide +kernel
  have hch2 : (lowerAll strChunked == sChunked) = true := by rw [sChunked_eq]; decide
  simp only [named_eq _ (List.filter _ _), sel_filter, hcl, List.filter_nil]
  rcases (declares_iff r d).mp hd with ⟨h0, h, rfl⟩ | ⟨hne, hall, h, rfl⟩ | ⟨h0, h, rfl⟩
  · simp only [h, h0, List.isEmpty_nil, if_true, named_nil, List.filter_nil]; rfl
  · have he : r.clBytes.isEmpty = false := by simpa using hne
    have hp : parseDec r.clBytes = some (r.clBytes.foldl decStep 0) := by
      rw [parseDec_eq]; simp [he, hall]
    simp only [h, he, Bool.false_eq_true, if_false, named_single_eq sCL strContentLength _ validName_CL lowerAll_CL,
      named_single_ne sTE strContentLength _ cte, newlineToSpace_digits _ hall, List.filter_nil]
    show Option.map Spec.Resp.Framing.cl (parseDec r.clBytes) = _
    rw [hp]; rfl
  · have hd : (strTransferEncoding != strDate) = true := by decide
    simp only [h, h0, List.isEmpty_nil, if_true, named_nil, List.filter_cons, hd, Bool.or_true, List.filter_nil, hch]
    show (if (lowerAll strChunked == sChunked) = true then some Spec.Resp.Framing.chunked else none) = _
    rw [if_pos hch2]

/-- `SetContentLength` keeps the invariant and makes the header declare the writer's framing -/
theorem withFraming_inv {r : RespHdr} {st : Nat} {d : Spec.Resp.Framing} {f : Framing} (hr : HeadInv r st d)
    (hn : ∀ n, f = .cl n → n < 10 ^ 20) : HeadInv (withFraming r f) st (effFraming d f) := by
  obtain ⟨h1, h2, h3, hcl, hd⟩ := hr
  refine ⟨h1, h2, withFraming_statusLine r f ▸ h3, ?_⟩
  rw [noName_iff] at hcl ⊢
  cases f with
  | none => exact ⟨hcl, hd⟩
  | cl n =>
    obtain ⟨_, hne, hall, hval⟩ := decimal_spec n (hn n rfl)
    refine ⟨by simp only [withFraming, sel_filter, hcl, List.filter_nil],
      (declares_iff _ _).mpr (.inr (.inl ⟨hne, hall, sel_TE_filter hd, ?_⟩))⟩
    simp only [withFraming, effFraming, hval]
  | chunked =>
    refine ⟨by simp only [withFraming, sel_setArgKV, teCL, Bool.false_eq_true, if_false, hcl],
      (declares_iff _ _).mpr (.inr (.inr ⟨rfl, ?_, rfl⟩))⟩
    simp only [withFraming, sel_setArgKV, teTE, if_true]
    rcases (declares_iff r d).mp hd with ⟨_, h, _⟩ | ⟨_, _, h, _⟩ | ⟨_, h, _⟩ <;> rw [h] <;> simp [setArgKV]

/-- a header state inside the invariant reads back as its status, exactly the kept fields and the framing it declares -/
theorem decode_head {r : RespHdr} {st : Nat} {d : Spec.Resp.Framing} (isHead : Bool) (tail : Bytes)
    (hr : HeadInv r st d) : decodeOne isHead (r.bytes ++ tail) = bodyOf isHead st (kept r.fields) d tail := by
  obtain ⟨h1, h2, ⟨reason, hre, hsl⟩, hcl, hd⟩ := hr
  refine decodeOne_of isHead st d
    (parseHead_block r.statusLine r.fields tail (hsl ▸ statusLineOf_clean st reason (by omega) hre)) ?_
    (framingOf_declared _ _ hcl hd)
  rw [hsl]
  exact statusOf_statusLineOf st reason h1 h2

/-- bytes written through the hijacked writer, in order -/
def writtenBytes (script : List WOp) : Bytes :=
  (script.filterMap (fun o => match o with | .write b => some b | .flush => none)).flatten

/-- the body the handler produced, as the peer must see it -/
def payload (p : Prog) (isHead : Bool) : Bytes :=
  if isHead || noBodyStatus p.status then [] else
  match p.body with
  | .bytes b => b
  | .stream d reads => if d ≥ 0 then takeStream d.toNat reads else reads.flatten
  | .limited l reads => takeStream l reads
  | .writer s => writtenBytes s

/-- the one message a strict reader must see -/
def expected (r : RespHdr) (p : Prog) (isHead : Bool) : Msg :=
  { status := p.status,
    fields := kept (withFraming r (frame p isHead).framing).fields,
    framing := toSpec (frame p isHead).framing,
    raw := (frame p isHead).wire,
    body := payload p isHead,
    trailers := if isHead || noBodyStatus p.status then [] else
      match (frame p isHead).framing with
      | .chunked => kept p.trailers
      | _ => [] }

/-- by `simp only`: `rfl` has the elaborator unfold both sides as far as they go -/
theorem expected_fields (r : RespHdr) (p : Prog) (isHead : Bool) :
    (expected r p isHead).fields = kept (withFraming r (frame p isHead).framing).fields := by
  simp only [expected]

/-- the one message a strict reader must see, for a header state that declares `d` by itself -/
def expectedInv (d : Spec.Resp.Framing) (r : RespHdr) (p : Prog) (isHead : Bool) : Msg :=
  { expected r p isHead with framing := effFraming d (frame p isHead).framing }

theorem expectedInv_eq {d : Spec.Resp.Framing} {r : RespHdr} {p : Prog} {isHead : Bool}
    (h : effFraming d (frame p isHead).framing = toSpec (frame p isHead).framing) :
    expectedInv d r p isHead = expected r p isHead := by
  simp only [expectedInv, expected, h]

/-- lengths are Go `int`s -/
def SizesFit (p : Prog) : Prop :=
  match p.body with
  | .bytes b => b.length < 2 ^ 63
  | .stream d reads => d < 2 ^ 63 ∧ ∀ r ∈ reads, r.length < 2 ^ 63
  | .limited l reads => l < 2 ^ 63 ∧ ∀ r ∈ reads, r.length < 2 ^ 63
  | .writer s => ∀ o ∈ s, ∀ b, o = .write b → b.length < 2 ^ 63

/-- the documented exclusion: the hijacked writer is only used on a response that may have a body -/
def WriterHasBody (p : Prog) (isHead : Bool) : Prop :=
  ∀ s, p.body = .writer s → isHead = false ∧ noBodyStatus p.status = false

theorem two63_lt16 : (2 : Nat) ^ 63 < 16 ^ 16 := by decide

theorem frame_cl_bound (p : Prog) (isHead : Bool) (hs : SizesFit p) (n : Nat)
    (hf : (frame p isHead).framing = .cl n) : n < 10 ^ 20 := by
  have := two63_lt
  obtain ⟨st, body, tr⟩ := p
  cases body with
  | bytes b => simp only [frame, SizesFit] at hf hs; split at hf <;> simp at hf; omega
  | stream d reads =>
    simp only [frame, SizesFit] at hf hs
    split at hf
    · simp at hf
    · split at hf <;> simp at hf; omega
  | limited l reads => simp only [frame, SizesFit] at hf hs; split at hf <;> simp at hf; omega
  | writer s => simp only [frame] at hf; split at hf <;> simp at hf

theorem frame_wire_bodiless (p : Prog) (isHead : Bool) (hw : WriterHasBody p isHead)
    (hb : (isHead || noBodyStatus p.status) = true) : (frame p isHead).wire = [] := by
  unfold frame
  rw [mustSkipCL_eq]
  have hs : (!(isHead || noBodyStatus p.status)) = false := by simp [hb]
  cases hbody : p.body with
  | bytes b => simp [hs]
  | stream d reads => simp only; split <;> (try split) <;> simp [hs]
  | limited l reads => simp only; split <;> simp [hs]
  | writer s =>
    have := hw s hbody
    simp [this.1, this.2] at hb

/-- `chunks_encode` with the fuel `decodeOne` uses -/
theorem chunks_encode_len (cs : List Bytes) (tr : List (Bytes × Bytes)) (rest : Bytes)
    (h : ∀ c ∈ cs, c ≠ [] ∧ c.length < 16 ^ 16) :
    chunks ((encodeChunks cs ++ writeChunk [] ++ trailerBlock tr ++ rest).length + 1)
      (encodeChunks cs ++ writeChunk [] ++ trailerBlock tr ++ rest) [] = some (cs.flatten, kept tr, rest) := by
  have := chunks_encode cs tr rest [] ((encodeChunks cs ++ writeChunk [] ++ trailerBlock tr ++ rest).length + 1) h
    (by have := encodeChunks_length cs; simp only [List.length_append]; omega)
  simpa using this

theorem chunkedWire_decodes (reads : List Bytes) (tr : List (Bytes × Bytes)) (rest : Bytes)
    (h : ∀ r ∈ reads, r.length < 2 ^ 63) :
    chunks ((chunkedWire reads tr ++ rest).length + 1) (chunkedWire reads tr ++ rest) [] =
      some (reads.flatten, kept tr, rest) := by
  have := chunks_encode_len (reads.filter (fun r => !r.isEmpty)) tr rest
    (filter_nonempty_bound reads (fun r hr => Nat.lt_trans (h r hr) two63_lt16))
  rw [List.flatten_filter_not_isEmpty] at this
  exact this

/-- the chunks the hijacked writer emits: one per non-empty write -/
def wchunks (script : List WOp) : List Bytes :=
  script.filterMap (fun o => match o with | .write b => if b.isEmpty then none else some b | .flush => none)

theorem writerWire_eq (script : List WOp) (tr : List (Bytes × Bytes)) :
    writerWire script tr = encodeChunks (wchunks script) ++ writeChunk [] ++ trailerBlock tr := rfl

theorem wchunks_flatten (script : List WOp) : (wchunks script).flatten = writtenBytes script := by
  induction script with
  | nil => rfl
  | cons o t ih =>
    cases o with
    | flush => simpa [wchunks, writtenBytes] using ih
    | write b =>
      cases b with
      | nil => simpa [wchunks, writtenBytes] using ih
      | cons x xs => simp [wchunks, writtenBytes] at ih ⊢; rw [ih]

theorem wchunks_bound {n : Nat} (script : List WOp) (h : ∀ o ∈ script, ∀ b, o = .write b → b.length < n) :
    ∀ c ∈ wchunks script, c ≠ [] ∧ c.length < n := by
  intro c hc
  simp only [wchunks, List.mem_filterMap] at hc
  obtain ⟨o, ho, hoc⟩ := hc
  cases o with
  | flush => cases hoc
  | write b =>
    dsimp only at hoc
    split at hoc
    · cases hoc
    · next hb => cases hoc; exact ⟨fun e => hb (e ▸ rfl), h _ ho c rfl⟩

theorem writerWire_decodes (script : List WOp) (tr : List (Bytes × Bytes)) (rest : Bytes)
    (h : ∀ o ∈ script, ∀ b, o = .write b → b.length < 2 ^ 63) :
    chunks ((writerWire script tr ++ rest).length + 1) (writerWire script tr ++ rest) [] =
      some (writtenBytes script, kept tr, rest) := by
  rw [writerWire_eq]
  have := chunks_encode_len (wchunks script) tr rest
    (wchunks_bound script (fun o ho b hb => Nat.lt_trans (h o ho b hb) two63_lt16))
  rw [wchunks_flatten] at this
  exact this

theorem frame_sending (st : Nat) (body : BodyMode) (tr : List (Bytes × Bytes)) (hb : noBodyStatus st = false) :
    frame ⟨st, body, tr⟩ false = match body with
      | .bytes b => { framing := .cl b.length, wire := b }
      | .stream d reads =>
        if d ≥ 0 then { framing := .cl d.toNat, wire := takeStream d.toNat reads,
                        failed := (takeStream d.toNat reads).length != d.toNat }
        else { framing := .chunked, wire := chunkedWire reads tr }
      | .limited l reads => { framing := .cl l, wire := takeStream l reads, failed := (takeStream l reads).length != l }
      | .writer s => { framing := .chunked, wire := writerWire s tr } := by
  have hsk : mustSkipCL st = false := by rw [mustSkipCL_eq]; exact hb
  cases body <;> simp [frame, hsk]

/-- HEAD, 1xx, 204, 304: the reader stops after the header block; the bytes it leaves behind are the body bytes the
writer sent anyway -/
theorem message_bodiless_leftover (r : RespHdr) (d : Spec.Resp.Framing) (p : Prog) (isHead : Bool) (rest : Bytes)
    (hr : HeadInv r p.status d) (hs : SizesFit p) (hb : (isHead || noBodyStatus p.status) = true) :
    decodeOne isHead (message r p isHead ++ rest) =
      some ({ status := p.status, fields := kept (withFraming r (frame p isHead).framing).fields,
              framing := effFraming d (frame p isHead).framing, raw := [], body := [], trailers := [] },
            (frame p isHead).wire ++ rest) := by
  unfold message
  rw [List.append_assoc, decode_head isHead _ (withFraming_inv hr (frame_cl_bound p isHead hs))]
  exact bodyOf_bodiless hb

/-- HEAD, 1xx, 204, 304: header block only -/
theorem message_bodiless_inv (r : RespHdr) (d : Spec.Resp.Framing) (p : Prog) (isHead : Bool) (rest : Bytes)
    (hr : HeadInv r p.status d) (hs : SizesFit p) (hw : WriterHasBody p isHead)
    (hb : (isHead || noBodyStatus p.status) = true) :
    decodeOne isHead (message r p isHead ++ rest) = some (expectedInv d r p isHead, rest) := by
  have hwire := frame_wire_bodiless p isHead hw hb
  rw [message_bodiless_leftover r d p isHead rest hr hs hb]
  simp only [expectedInv, expected, payload, hwire, hb, if_true, List.nil_append]

/-- a response that carries a body (not HEAD, not 1xx/204/304); the writer sets a framing of its own, which
overrides what the header declared -/
theorem message_with_body_inv (r : RespHdr) (d : Spec.Resp.Framing) (p : Prog) (rest : Bytes)
    (hr : HeadInv r p.status d) (hs : SizesFit p) (hok : (frame p false).failed = false)
    (hb : noBodyStatus p.status = false) :
    decodeOne false (message r p false ++ rest) = some (expectedInv d r p false, rest) := by
  have hb' : (false || noBodyStatus p.status) = false := by simp [hb]
  unfold message
  rw [List.append_assoc, decode_head false _ (withFraming_inv hr (frame_cl_bound p false hs))]
  obtain ⟨st, body, tr⟩ := p
  -- every sending frame announces a length or `chunked`, and on those `effFraming d` is the writer's framing
  have hf := frame_sending st body tr hb
  cases body with
  | bytes b =>
    simp only [expectedInv, expected, payload, hf, hb', toSpec, effFraming, Bool.false_eq_true, if_false]
    exact bodyOf_cl hb' rfl
  | stream len reads =>
    by_cases hd : len ≥ 0
    · simp only [hf, hd, if_true] at hok
      simp only [expectedInv, expected, payload, hf, hb', toSpec, effFraming, Bool.false_eq_true, if_false, hd, if_true]
      exact bodyOf_cl hb' (by simpa using hok)
    · simp only [expectedInv, expected, payload, hf, hb', toSpec, effFraming, Bool.false_eq_true, if_false, hd]
      exact bodyOf_chunked hb' (chunkedWire_decodes reads tr rest hs.2)
  | limited l reads =>
    simp only [hf] at hok
    simp only [expectedInv, expected, payload, hf, hb', toSpec, effFraming, Bool.false_eq_true, if_false]
    exact bodyOf_cl hb' (by simpa using hok)
  | writer s =>
    simp only [expectedInv, expected, payload, hf, hb', toSpec, effFraming, Bool.false_eq_true, if_false]
    exact bodyOf_chunked hb' (writerWire_decodes s tr rest hs)

/-- for every `HeadInv` header state: exactly one message, correctly framed, nothing left over, nothing swallowed -/
theorem message_decodes_inv (r : RespHdr) (d : Spec.Resp.Framing) (p : Prog) (isHead : Bool) (rest : Bytes)
    (hr : HeadInv r p.status d) (hs : SizesFit p) (hw : WriterHasBody p isHead)
    (hok : (frame p isHead).failed = false) :
    decodeOne isHead (message r p isHead ++ rest) = some (expectedInv d r p isHead, rest) := by
  by_cases hb : (isHead || noBodyStatus p.status) = true
  · exact message_bodiless_inv r d p isHead rest hr hs hw hb
  · have hb' : isHead = false ∧ noBodyStatus p.status = false := by simpa using hb
    obtain ⟨h1, h2⟩ := hb'
    subst h1
    exact message_with_body_inv r d p rest hr hs hok h2

/-- the same for a header whose framing fields nothing has touched yet (`HeadOK`) -/
theorem message_decodes (r : RespHdr) (p : Prog) (isHead : Bool) (rest : Bytes)
    (hr : HeadOK r p.status) (hs : SizesFit p) (hw : WriterHasBody p isHead)
    (hok : (frame p isHead).failed = false) :
    decodeOne isHead (message r p isHead ++ rest) = some (expected r p isHead, rest) := by
  rw [message_decodes_inv r .none p isHead rest hr.inv hs hw hok, expectedInv_eq (effFraming_none _)]

/-- what `protocol.ParseContentLength` accepting a value means for the strict reader -/
theorem parseUint_digits {v : Bytes} {n : Int} (h : FS.parseUint v = .ok n) :
    v ≠ [] ∧ v.all isDig = true ∧ ((v.foldl decStep 0 : Nat) : Int) = n ∧ v.foldl decStep 0 < 2 ^ 63 := by
  obtain ⟨hd, hfit, hn⟩ := FS.parseUint_ok h
  unfold FS.Spec.isDigits at hd
  simp only [Bool.and_eq_true, Bool.not_eq_true', List.isEmpty_eq_false_iff] at hd
  have hall : v.all isDig = true := hd.2
  have he := foldl_decStep_eq_decAcc v 0 hall
  refine ⟨hd.1, hall, ?_, ?_⟩
  · rw [he, hn]; rfl
  · rw [he]; unfold FS.Spec.decVal at hfit; omega

theorem setLengthHeader_statusLine (r : RespHdr) (v : Bytes) : (setLengthHeader r v).statusLine = r.statusLine := by
  unfold setLengthHeader; split <;> rfl

/-- the `Content-Length` setter keeps the invariant and makes the header declare the number it parsed -/
theorem setLengthHeader_inv {r : RespHdr} {st : Nat} {d : Spec.Resp.Framing} {v : Bytes} {n : Int}
    (hr : HeadInv r st d) (hp : FS.parseUint v = .ok n) : HeadInv (setLengthHeader r v) st (.cl n.toNat) := by
  obtain ⟨h1, h2, h3, hcl, hd⟩ := hr
  obtain ⟨hne, hall, hval, _⟩ := parseUint_digits hp
  have hn : n.toNat = v.foldl decStep 0 := by omega
  refine ⟨h1, h2, setLengthHeader_statusLine r v ▸ h3, ?_⟩
  rw [noName_iff] at hcl ⊢
  simp only [setLengthHeader, hp]
  exact ⟨by rw [sel_filter, hcl]; rfl, (declares_iff _ _).mpr (.inr (.inl ⟨hne, hall, sel_TE_filter hd, by rw [hn]⟩))⟩

end Hertz.H1.Resp
