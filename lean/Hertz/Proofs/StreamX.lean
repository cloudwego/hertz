import Hertz.Model.Http1.StreamX
import Hertz.Proofs.StreamChunked
/-!
Lemmas about the extended streaming loop (`Model/Http1/StreamX.lean`): idle style and read
time-outs in the middle of the stream.  On a single segment every segment-aware reader is the plain one
(`*_nil`, up to `streamLoopX_single`), so what is proved of the extended loop (`streamLoopX_errEnds`) holds of the plain one.
-/
namespace Hertz.H1.Stream
open Hertz Hertz.H1 Hertz.Gen.Str

theorem parseChunkSizeX_nil (e : End) (v : Bytes) :
    parseChunkSizeX e v [] =
      match parseChunkSize e v with
      | .error x => .error x
      | .ok (n, r) => .ok (n, r, []) := by
  unfold parseChunkSizeX parseChunkSize
  simp only [viewEnd]
  cases h : readHexInt e v with
  | error x => cases x <;> rfl
  | ok p =>
    obtain ⟨n, r⟩ := p
    cases r with
    | nil => simp only []; cases chunkSizeTail e [] <;> rfl
    | cons c t => simp only []; cases chunkSizeTail e (c :: t) <;> rfl

/-- the pairing with "no segments left" moves to the leaves of a tree of tests -/
theorem pair_nil_ite (p : Prop) [Decidable p] (x y : Got × ChunkSt) :
    ((ite p x y).1, (ite p x y).2, ([] : List Bytes)) = ite p (x.1, x.2, []) (y.1, y.2, []) := by
  split <;> rfl

theorem consumeChunkedX_nil (cfg : Cfg) (e : End) (names : List Bytes) (c : Consume) :
    ∀ (fuel : Nat) (st : ChunkSt) (acc : Bytes),
      consumeChunkedX cfg e names c fuel st [] acc =
        ((consumeChunked cfg e names c fuel st acc).1, (consumeChunked cfg e names c fuel st acc).2, [])
  | 0, st, acc => rfl
  | fuel + 1, st, acc => by
    unfold consumeChunkedX consumeChunked
    by_cases h1 : acc.length ≥ c.stopAfter
    · simp only [h1, if_true]
    · simp only [h1, if_false]
      by_cases h2 : st.chunkEOF = true
      · simp only [h2, if_true]
      · simp only [h2, Bool.false_eq_true, if_false]
        by_cases h3 : st.chunkLeft = 0
        · simp only [h3, if_true, parseChunkSizeX_nil]
          cases hp : parseChunkSize e st.s with
          | error x => simp only []
          | ok p =>
            obtain ⟨n, r⟩ := p
            cases n with
            | zero =>
              simp only [viewEnd]
              cases ht : readTrailerReq cfg e names r with
              | error x => simp only []
              | ok q =>
                obtain ⟨o, r'⟩ := q
                cases o <;> simp only [if_true]
            | succ n =>
              simp only [Bool.false_eq_true, if_false]
              simp only [pair_nil_ite, consumeChunkedX_nil cfg e names c fuel]
        · simp only [h3, if_false, Bool.false_eq_true]
          simp only [pair_nil_ite, consumeChunkedX_nil cfg e names c fuel]

theorem skipTrX_eq : ∀ (f : Nat) (s : Bytes), skipTrX f s = drainChunked.skipTr f s
  | 0, _ => rfl
  | f + 1, s => by
    unfold skipTrX drainChunked.skipTr
    cases Hertz.H1.indexByte 10 s with
    | none => rfl
    | some i =>
      simp only []
      split
      · rfl
      · split
        · rfl
        · split
          · exact skipTrX_eq f _
          · rfl

theorem drainChunkedX_nil (cfg : Cfg) (e : End) : ∀ (fuel : Nat) (st : ChunkSt),
    drainChunkedX e fuel st [] = (drainChunked cfg e fuel st).map (fun r => (r, []))
  | 0, _ => rfl
  | fuel + 1, st => by
    unfold drainChunkedX drainChunked
    by_cases h1 : st.chunkEOF = true
    · simp only [h1, if_true, Option.map_some]
    · simp only [h1, Bool.false_eq_true, if_false]
      by_cases h2 : st.chunkLeft > 0
      · simp only [h2, if_true, apply_ite (Option.map fun r : Bytes => (r, ([] : List Bytes))), drainChunkedX_nil cfg e fuel]
        rfl
      · simp only [h2, if_false, parseChunkSizeX_nil]
        cases hp : parseChunkSize e st.s with
        | error x => rfl
        | ok p =>
          obtain ⟨n, r⟩ := p
          cases n with
          | zero =>
            simp only [skipTrX_eq]
            cases drainChunked.skipTr (r.length + 1) r <;> rfl
          | succ n =>
            simp only [apply_ite (Option.map fun r : Bytes => (r, ([] : List Bytes))), drainChunkedX_nil cfg e fuel]
            rfl

theorem streamBodyX_nil (cfg : Cfg) (e : End) (hd : ReqHead) (v : Bytes) (c : Consume) :
    streamBodyX cfg e hd v [] c =
      match streamBody cfg e hd v c with
      | .error x => .error x
      | .ok (r, a) => .ok (r, a, []) := by
  by_cases h1 : hd.cl = -1
  · rw [streamBody_chunked cfg e hd v c h1]
    simp only [streamBodyX, h1, if_true, consumeChunkedX_nil, List.map_nil, List.sum_nil, Nat.add_zero,
      drainChunkedX_nil cfg, chunkedAfter]
    split
    · rfl
    · cases drainChunked cfg e (v.length + 2) _ <;> rfl
  · simp only [streamBodyX, h1, if_false, viewEnd]
    cases streamBody cfg e hd v c with
    | error x => rfl
    | ok p => obtain ⟨r, a⟩ := p; rfl

/-- in-loop idle wait, no time-out: the extended loop is the plain loop -/
theorem streamLoopX_single (cfg : Cfg) (e : End) (c : Consume) : ∀ (fuel : Nat) (first : Bool) (s : Bytes),
    streamLoopX cfg false e c fuel first [s] = streamLoop cfg e c fuel first s
  | 0, _, _ => rfl
  | fuel + 1, first, s => by
    unfold streamLoopX streamLoop
    simp only [viewEnd, streamBodyX_nil]
    split
    · rfl
    · cases parseReqHead cfg.disableNorm s with
      | error x => cases x <;> rfl
      | ok p =>
        obtain ⟨hd, n⟩ := p
        simp only []
        cases streamBody cfg e hd (s.drop n) c with
        | error x => rfl
        | ok q =>
          obtain ⟨r, a⟩ := q
          simp only [nextState, Bool.false_eq_true, if_false]
          cases a with
          | resync rest => simp only [streamLoopX_single cfg e c fuel false rest]
          | closed => rfl
          | either rest => simp only [streamLoopX_single cfg e c fuel false rest]

/-! ### a failed body read closes the connection, in every idle style and with time-outs -/

theorem streamBodyX_err_closed (cfg : Cfg) (e : End) (hd : ReqHead) (v : Bytes) (more : List Bytes) (c : Consume)
    (r : ReqOut) (a : After) (m : List Bytes)
    (h : streamBodyX cfg e hd v more c = .ok (r, a, m)) (herr : r.got.err = true) : a = .closed := by
  by_cases h1 : hd.cl = -1
  · simp only [streamBodyX, h1, if_true] at h
    split at h
    · simp only [Except.ok.injEq, Prod.mk.injEq] at h
      exact h.2.1.symm
    · rename_i hne
      split at h
      · simp only [Except.ok.injEq, Prod.mk.injEq] at h
        exact h.2.1.symm
      · simp only [Except.ok.injEq, Prod.mk.injEq] at h
        rw [← h.1] at herr
        simp only at herr
        exact absurd herr hne
  · simp only [streamBodyX, h1, if_false] at h
    cases hb : streamBody cfg (viewEnd e more) hd v c with
    | error x => rw [hb] at h; cases h
    | ok p =>
      obtain ⟨r', a'⟩ := p
      rw [hb] at h
      simp only [Except.ok.injEq, Prod.mk.injEq] at h
      rw [← h.1] at herr
      rw [← h.2.1]
      exact streamBody_err_closed cfg _ hd v c r' a' hb herr

theorem streamLoopX_errEnds (cfg : Cfg) (poll : Bool) (e : End) (c : Consume) : ∀ (fuel : Nat) (first : Bool) (segs : List Bytes),
    errEnds (streamLoopX cfg poll e c fuel first segs) = true
  | 0, _, _ => rfl
  | _ + 1, _, [] => rfl
  | fuel + 1, first, v :: more => by
    unfold streamLoopX
    split
    · rfl
    · split
      · rfl
      · split <;> (dsimp only; cases viewEnd e more <;> rfl)
      · rename_i hd n _
        have hpre : ∀ t : List SEv, errEnds ((if mayContinue hd = true then [SEv.continue100] else []) ++ t) = errEnds t := by
          intro t; split <;> simp [errEnds]
        dsimp only
        split
        · rename_i x _
          simp only [hpre]
          cases errStatus x with
          | some st => rfl
          | none => by_cases hc : mayContinue hd = true <;> simp [hc, errEnds]
        · rename_i r after more' hsb
          simp only [List.append_assoc, hpre]
          -- the one case with content: a failed read leaves `.closed`, so the list ends with this request's response
          by_cases herr : r.got.err = true
          · have := streamBodyX_err_closed cfg e hd _ more c r after more' hsb herr
            subst this
            have hnil : (if (cfg.disableKeepalive || r.head.connClose) = true then ([] : List SEv) else []) = [] := by
              split <;> rfl
            simp only [List.cons_append, List.nil_append, errEnds, herr, if_true, hnil]
          · simp only [List.cons_append, List.nil_append, errEnds, herr, Bool.false_eq_true, if_false]
            split
            · rfl
            · split
              · split
                · rfl
                · exact streamLoopX_errEnds cfg poll e c fuel _ _
              · rfl
              · simp only [errEnds]
                split
                · rfl
                · exact streamLoopX_errEnds cfg poll e c fuel _ _

/-- how the connection goes on after a kept-alive request -/
def contX (cfg : Cfg) (poll : Bool) (e : End) (c : Consume) (fuel : Nat) (rest : Bytes) (more : List Bytes) : List SEv :=
  match nextState poll rest more with
  | none => []
  | some (f, segs) => streamLoopX cfg poll e c fuel f segs

/-! ### the time-out `ReadHexInt` swallows -/

/-- a number that ended with the wire goes on being read as that number when the next byte is no hex digit
(`H1.readHexIntAux_append` is the case of a number that ended at a byte) -/
theorem readHexIntAux_resume (e1 e2 : End) (d : UInt8) (t : Bytes) (hd : hex2int d = 16) (v : Bytes) (n i m : Nat)
    (h : readHexIntAux e1 n i v = .ok (m, [])) : readHexIntAux e2 n i (v ++ d :: t) = .ok (m, d :: t) := by
  fun_induction readHexIntAux e1 n i v with
  | case1 n i hi =>
    cases h
    simp only [List.nil_append, readHexIntAux, hd, if_true, Nat.ne_of_gt hi, if_false]
  | case2 | case3 | case4 | case5 => simp at h
  | case6 n i c t k hk hi ih =>
    rw [List.cons_append, readHexIntAux]
    simp only [k, hk, hi, if_false] at ih ⊢
    exact ih h

end Hertz.H1.Stream
