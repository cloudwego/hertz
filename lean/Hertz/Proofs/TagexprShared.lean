import Hertz.Model.TagexprShared
/-!
# One compiled expression, many evaluations — lemmas (C20)

* the verdict for a value is the same whether the expression is compiled for it alone
  (`validate`), compiled once for a batch (`validateShared`) or found in the validator's cache
  after any history of other validations (`session`);
* `funcExprNode.Run` executed by several evaluations at once: under every schedule each evaluation
  is in exactly the state its own steps alone would have produced (`run_get`), so a finished one
  has the sequential answer (`run_private`); with the argument buffer owned by the node instead
  of the evaluation this is false (`runShared_fails_at`).
-/
namespace Hertz.Tagexpr

theorem validate_eq_runCompiled (expr : List Char) (env : Env) :
    validate expr env = runCompiled (parseExpr expr) env := by
  unfold validate runCompiled
  rfl

/-- every entry of the cache is what compiling the type's expression gives -/
def Cache.Sound (exprOf : Nat → List Char) (c : Cache) : Prop :=
  ∀ ty comp, c.find ty = some comp → comp = parseExpr (exprOf ty)

theorem Cache.sound_nil (exprOf : Nat → List Char) : Cache.Sound exprOf [] := by
  intro ty comp h
  simp [Cache.find] at h

theorem validateVia_sound (exprOf : Nat → List Char) (c : Cache) (hc : c.Sound exprOf) (ty : Nat) (env : Env) :
    (validateVia exprOf c ty env).2 = validate (exprOf ty) env ∧ (validateVia exprOf c ty env).1.Sound exprOf := by
  unfold validateVia
  cases hf : c.find ty with
  | some comp =>
    simp only
    rw [hc ty comp hf, validate_eq_runCompiled]
    exact ⟨rfl, hc⟩
  | none =>
    simp only
    refine ⟨(validate_eq_runCompiled _ _).symm, ?_⟩
    intro ty' comp' h
    unfold Cache.find at h
    split at h
    · next hty =>
      cases h
      rw [eq_of_beq hty]
    · exact hc ty' comp' h

theorem session_eq (exprOf : Nat → List Char) : ∀ (steps : List (Nat × Env)) (c : Cache), c.Sound exprOf →
    session exprOf c steps = steps.map (fun s => validate (exprOf s.1) s.2)
  | [], _, _ => rfl
  | (ty, env) :: rest, c, hc => by
    have h := validateVia_sound exprOf c hc ty env
    unfold session
    simp only [List.map_cons]
    rw [h.1, session_eq exprOf rest _ h.2]

namespace Func
variable {ε α β : Type}

def iter {τ : Type} (f : τ → τ) : Nat → τ → τ
  | 0, x => x
  | n + 1, x => iter f n (f x)

theorem iter_succ_outer {τ : Type} (f : τ → τ) : ∀ (n : Nat) (x : τ), iter f (n + 1) x = f (iter f n x)
  | 0, _ => rfl
  | n + 1, x => by
    show iter f (n + 1) (f x) = f (iter f n (f x))
    exact iter_succ_outer f n (f x)

theorem stepAt_eq_modify (args : List (ε → α)) (fn : List α → β) :
    ∀ (ts : List (ε × Thread α β)) (j : Nat), stepAt args fn ts j = ts.modify j fun p => (p.1, step args fn p.1 p.2)
  | [], _ => by simp [stepAt]
  | _ :: _, 0 => rfl
  | p :: r, j + 1 => by rw [stepAt, List.modify_succ_cons, stepAt_eq_modify args fn r j]

theorem getElem?_stepAt (args : List (ε → α)) (fn : List α → β) (ts : List (ε × Thread α β)) (j i : Nat) :
    (stepAt args fn ts j)[i]? = if i = j then ts[i]?.map (fun p => (p.1, step args fn p.1 p.2)) else ts[i]? := by
  rw [stepAt_eq_modify, List.getElem?_modify]
  by_cases h : j = i
  · subst h; simp
  · simp [h, Ne.symm h]

/-- **schedule independence**: after any schedule, evaluation `i` is in the state that its own
steps alone produce - what the other evaluations did, and when, has left no trace in it -/
theorem run_get (args : List (ε → α)) (fn : List α → β) :
    ∀ (sched : List Nat) (ts : List (ε × Thread α β)) (i : Nat),
      (run args fn ts sched)[i]? =
        ts[i]?.map (fun p => (p.1, iter (step args fn p.1) (sched.count i) p.2))
  | [], ts, i => by
    simp only [run, List.foldl_nil, List.count_nil, iter]
    cases ts[i]? <;> rfl
  | j :: s, ts, i => by
    have ih := run_get args fn s (stepAt args fn ts j) i
    simp only [run, List.foldl_cons] at ih ⊢
    rw [ih, getElem?_stepAt]
    by_cases hij : i = j
    · subst hij
      simp only [if_true, List.count_cons_self]
      cases ts[i]? <;> rfl
    · have hji : ¬ (j = i) := fun h => hij h.symm
      have hb : (j == i) = false := by simpa using hji
      simp only [hij, if_false, List.count_cons, hb]
      rfl

theorem step_done (args : List (ε → α)) (fn : List α → β) (e : ε) (t : Thread α β) (r : β)
    (h : t.res = some r) : step args fn e t = t := by
  unfold step
  rw [h]

theorem iter_done (args : List (ε → α)) (fn : List α → β) (e : ε) :
    ∀ (k : Nat) (t : Thread α β) (r : β), t.res = some r → iter (step args fn e) k t = t
  | 0, _, _, _ => rfl
  | k + 1, t, r, h => by
    show iter (step args fn e) k (step args fn e t) = t
    rw [step_done args fn e t r h]
    exact iter_done args fn e k t r h

theorem iter_add {τ : Type} (f : τ → τ) : ∀ (a b : Nat) (x : τ), iter f (a + b) x = iter f b (iter f a x)
  | 0, b, x => by rw [Nat.zero_add]; rfl
  | a + 1, b, x => by rw [Nat.add_right_comm]; exact iter_add f a b (f x)

theorem iter_fill (args : List (ε → α)) (fn : List α → β) (e : ε) : ∀ m, m ≤ args.length →
    iter (step args fn e) m {} = { buf := (args.take m).map (· e), res := none }
  | 0, _ => rfl
  | m + 1, h => by
    have hm : m < args.length := h
    have hlen : ((args.take m).map (· e)).length = m := by
      rw [List.length_map, List.length_take, Nat.min_eq_left (Nat.le_of_lt hm)]
    rw [iter_succ_outer, iter_fill args fn e m (Nat.le_of_lt hm)]
    unfold step
    simp only [hlen, List.getElem?_eq_getElem hm, List.take_add_one, List.map_append, Option.toList_some,
      List.map_cons, List.map_nil]

theorem iter_finished (args : List (ε → α)) (fn : List α → β) (e : ε) {m : Nat} (hm : args.length < m) :
    iter (step args fn e) m {} = { buf := args.map (· e), res := some (seq args fn e) } := by
  obtain ⟨k, rfl⟩ : ∃ k, m = args.length + (1 + k) := ⟨m - args.length - 1, by omega⟩
  rw [iter_add, iter_fill args fn e _ (Nat.le_refl _), List.take_length, iter_add]
  have h1 : iter (step args fn e) 1 { buf := args.map (· e), res := none } =
      { buf := args.map (· e), res := some (seq args fn e) } := by
    refine (iter_succ_outer (step args fn e) 0 _).trans ?_
    simp [iter, step, seq]
  rw [h1]
  exact iter_done args fn e k _ _ rfl

/-- whatever the schedule: an evaluation that has a result has the answer of the undisturbed
evaluation of its own value -/
theorem run_private (args : List (ε → α)) (fn : List α → β) (envs : List ε) (sched : List Nat)
    (i : Nat) (e : ε) (t : Thread α β) (r : β)
    (h : (run args fn (start envs) sched)[i]? = some (e, t)) (hr : t.res = some r) :
    envs[i]? = some e ∧ r = seq args fn e := by
  rw [run_get] at h
  unfold start at h
  simp only [List.getElem?_map, Option.map_map] at h
  cases he : envs[i]? with
  | none => simp [he] at h
  | some e' =>
    simp only [he, Option.map_some, Function.comp, Option.some.injEq, Prod.mk.injEq] at h
    obtain ⟨h1, h2⟩ := h
    subst h1
    refine ⟨rfl, ?_⟩
    by_cases hc : sched.count i ≤ args.length
    · rw [← h2, iter_fill args fn e' _ hc] at hr
      cases hr
    · rw [← h2, iter_finished args fn e' (Nat.lt_of_not_le hc)] at hr
      exact (Option.some.inj hr).symm

/-- and it does get there: once the schedule has given evaluation `i` one step per argument and
one more, it holds the sequential answer -/
theorem run_completes (args : List (ε → α)) (fn : List α → β) (envs : List ε) (sched : List Nat)
    (i : Nat) (e : ε) (he : envs[i]? = some e) (hc : args.length < sched.count i) :
    (run args fn (start envs) sched)[i]? = some (e, { buf := args.map (· e), res := some (seq args fn e) }) := by
  rw [run_get]
  unfold start
  simp only [List.getElem?_map, he, Option.map_some]
  rw [iter_finished args fn e hc]

/-! the node-owned buffer: a concrete schedule on which an evaluation answers for the other's value -/

/-- `in(x, 1, 2)` on naturals -/
def demoArgs : List (Nat → Nat) := [id, fun _ => 1, fun _ => 2]
def demoIn : List Nat → Bool
  | [] => true
  | x :: set => set.contains x

def demoSched : List Nat := [0, 0, 1, 1, 1, 1, 0, 0]

theorem runShared_fails_at :
    ((runShared demoArgs demoIn { buf := [0, 0, 0], ts := [(1, {}), (9, {})] } demoSched).ts.map (fun p => p.2.res))
      = [some false, some false] ∧ seq demoArgs demoIn 1 = true := by
  decide

end Func

/-! ## `funcNode` is the step machine's sequential answer -/

theorem mapM_map_id (env : Env) : ∀ (args : List Operand),
    (args.map (fun a => a.run env)).mapM id = args.mapM (fun a => a.run env)
  | [] => rfl
  | a :: t => by
    simp only [List.map_cons, List.mapM_cons, id]
    rw [mapM_map_id env t]

theorem funcNode_run_eq_seq (name : String) (args : List Operand) (bo so : Option Bool) (env : Env) :
    (funcNode name args bo so).run env = Func.seq (args.map (fun (a : Operand) => a.run)) (funcBody name bo so) env := by
  show (do
      let vs ← args.mapM (fun (a : Operand) => a.run env)
      let r := applyFn name vs
      return realValue r bo so) = _
  unfold Func.seq funcBody
  simp only [List.map_map]
  have : (List.map ((fun x => x env) ∘ fun (a : Operand) => a.run) args) = args.map (fun a => a.run env) := rfl
  rw [this, mapM_map_id]

end Hertz.Tagexpr
