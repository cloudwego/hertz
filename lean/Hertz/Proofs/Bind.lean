import Hertz.Model.BindNested
/-!
Lemmas about the binding model (C15): the tag loop of the field decoders, the order of the tag list, the decoder cache.

The model has the tag loop four times (`baseLoop`, `sliceLoop` and their versions `baseLoopG`, `sliceLoopG` with the JSON
predicates as parameters).  `tagLoop` is that loop once, with the JSON branch and what a source hands over as parameters;
each loop of the model equals it, each `Decode` method is `tagLoop` followed by a function of its result, and what the loop
does is proved about `tagLoop`.
-/
namespace Hertz.Bind
open Hertz

/-- the tag is consulted as a text source by the loop (not skipped, not json) -/
def TagInfo.isText (t : TagInfo) : Prop := t.skip = false ∧ t.key ≠ .json

/-- the tag takes part in the loop at all -/
def TagInfo.effective (t : TagInfo) : Prop := t.key = .json ∨ t.skip = false

instance (t : TagInfo) : Decidable t.isText := by unfold TagInfo.isText; infer_instance
instance (t : TagInfo) : Decidable t.effective := by unfold TagInfo.effective; infer_instance

def textPresent (r : Req) (t : TagInfo) : Bool := (getter r t.key t.value).2

def textsPresent (r : Req) (t : TagInfo) : Bool := sliceGetter r t.key t.value != []

/-- the JSON body carries the name of `t` (JSON content type compared case-insensitively).  Not `Spec.Bind.jsonCarries`,
which takes the name itself; the two agree on the tag's JSON name (`carries_eq`, Proofs/BindRefine.lean) -/
def jsonCarries (r : Req) (t : TagInfo) : Bool := ctFold r && bodyHasKey r t.jsonName

theorem keyExist_eq_jsonCarries (r : Req) (t : TagInfo) : keyExist r t = jsonCarries r t := by
  unfold keyExist jsonCarries
  cases ctFold r <;> simp

theorem checkRequire_of_not_carried (r : Req) (t : TagInfo) (hreq : t.required = true)
    (h : jsonCarries r t = false) : checkRequireJSON r t = false := by
  unfold checkRequireJSON
  cases hf : ctFold r
  · simp [hreq]
  · simpa [hreq, jsonCarries, hf] using h

theorem getter_absent (r : Req) (s : Src) (k : Bytes) (h : (getter r s k).2 = false) :
    (getter r s k).1 = [] := by
  cases s <;> simp only [getter] at h ⊢
  · cases hp : peek r.params k <;> simp [hp] at h ⊢
  · cases hp : peek r.form k
    · simp only [hp] at h ⊢
      by_cases hm : (peek r.mform k).getD [] ≠ []
      · simp [hm] at h
      · simp only [hm, if_false] at h ⊢
        cases hq : peek r.query k <;> simp [hq] at h ⊢
    · simp [hp] at h
  · cases hp : peek r.query k <;> simp [hp] at h ⊢
  · cases hp : peek r.cookies k <;> simp [hp] at h ⊢
  · cases hp : peek (normHeaders r) (H1.normalizeKey false k) <;> simp [hp] at h ⊢

/-- the variables all tag loops share; `got` = what the first source that carries the field handed over -/
structure LoopV (α : Type) where
  err : Option ErrKind := none
  got : Option α := none
  dflt : Bytes := []

section loop
variable {α : Type}

/-- the tag loop: `jb` is the json branch, `p t` = the source named by the text tag `t` carries the field, `val t` = what
it hands over -/
def tagLoop (jb : TagInfo → Option ErrKind → Option ErrKind × Bytes) (p : TagInfo → Bool) (val : TagInfo → α) :
    List TagInfo → LoopV α → LoopV α
  | [], v => v
  | t :: rest, v =>
    if t.key = .json then tagLoop jb p val rest { v with err := (jb t v.err).1, dflt := (jb t v.err).2 }
    else if t.skip then tagLoop jb p val rest v
    else if p t then { err := none, got := some (val t), dflt := t.dflt }
    else tagLoop jb p val rest { err := if t.required then some .required else v.err, got := none, dflt := t.dflt }

/-- the local variables of the two `Decode` methods as the loop leaves them: a source that does not carry the field
hands over the empty text (`getter_absent`) resp. no texts -/
def LoopSt.ofV (v : LoopV Bytes) : LoopSt := { err := v.err, text := v.got.getD [], exist := v.got.isSome, dflt := v.dflt }

def SLoopSt.ofV (v : LoopV (List Bytes)) : SLoopSt := { err := v.err, texts := v.got.getD [], dflt := v.dflt }

section steps
variable {jb : TagInfo → Option ErrKind → Option ErrKind × Bytes} {p : TagInfo → Bool} {val : TagInfo → α}
  {t : TagInfo} {rest : List TagInfo} {v : LoopV α}

theorem tagLoop_json (hk : t.key = .json) :
    tagLoop jb p val (t :: rest) v = tagLoop jb p val rest { v with err := (jb t v.err).1, dflt := (jb t v.err).2 } := by
  simp [tagLoop, hk]

theorem tagLoop_skip (hs : t.skip = true) (hk : t.key ≠ .json) : tagLoop jb p val (t :: rest) v = tagLoop jb p val rest v := by
  simp [tagLoop, hk, hs]

theorem tagLoop_hit (hs : t.skip = false) (hk : t.key ≠ .json) (hg : p t = true) :
    tagLoop jb p val (t :: rest) v = { err := none, got := some (val t), dflt := t.dflt } := by
  simp [tagLoop, hk, hs, hg]

theorem tagLoop_miss (hs : t.skip = false) (hk : t.key ≠ .json) (hg : p t = false) :
    tagLoop jb p val (t :: rest) v =
      tagLoop jb p val rest { err := if t.required then some .required else v.err, got := none, dflt := t.dflt } := by
  simp [tagLoop, hk, hs, hg]
end steps

theorem baseLoopG_tagLoop (r : Req) (chk ke : TagInfo → Bool) : ∀ (tis : List TagInfo) (v : LoopV Bytes),
    baseLoopG r chk ke tis (LoopSt.ofV v) =
      LoopSt.ofV (tagLoop (jsonBranchG chk ke) (textPresent r) (fun t => (getter r t.key t.value).1) tis v)
  | [], _ => rfl
  | t :: tis, v => by
    have ih := baseLoopG_tagLoop r chk ke tis
    unfold baseLoopG tagLoop
    by_cases hk : t.key = .json
    · simp only [hk, or_true, if_true]; exact ih { v with err := _, dflt := _ }
    · cases hs : t.skip
      · cases hg : textPresent r t
        · have hg' : (getter r t.key t.value).2 = false := hg
          simp only [hk, hg', Bool.false_eq_true, or_self, if_false, getter_absent r _ _ hg']
          exact ih { err := _, got := none, dflt := _ }
        · have hg' : (getter r t.key t.value).2 = true := hg
          simp only [hk, hg', Bool.false_eq_true, or_self, if_false, if_true]; rfl
      · simp only [hk, or_false, if_true, if_false]; exact ih v

theorem sliceLoopG_tagLoop (r : Req) (chk ke : TagInfo → Bool) : ∀ (tis : List TagInfo) (v : LoopV (List Bytes)),
    sliceLoopG r chk ke tis (SLoopSt.ofV v) =
      SLoopSt.ofV (tagLoop (jsonBranchG chk ke) (textsPresent r) (fun t => sliceGetter r t.key t.value) tis v)
  | [], _ => rfl
  | t :: tis, v => by
    have ih := sliceLoopG_tagLoop r chk ke tis
    unfold sliceLoopG tagLoop
    by_cases hk : t.key = .json
    · simp only [hk, or_true, if_true]; exact ih { v with err := _, dflt := _ }
    · cases hs : t.skip
      · cases hg : textsPresent r t
        · have hg' : sliceGetter r t.key t.value = [] := by simpa [textsPresent] using hg
          simp only [hk, hg', Bool.false_eq_true, or_self, if_false, ne_eq, not_true_eq_false]
          exact ih { err := _, got := none, dflt := _ }
        · have hg' : sliceGetter r t.key t.value ≠ [] := by simpa [textsPresent] using hg
          simp only [hk, hg', Bool.false_eq_true, or_self, if_false, ne_eq, not_false_eq_true, if_true]; rfl
      · simp only [hk, or_false, if_true, if_false]; exact ih v

theorem baseLoop_G (r : Req) : ∀ (tis : List TagInfo) (st : LoopSt),
    baseLoop r tis st = baseLoopG r (checkRequireJSON r) (keyExist r) tis st
  | [], _ => rfl
  | t :: tis, st => by simp only [baseLoop, baseLoopG, baseLoop_G r tis]; rfl

theorem sliceLoop_G (r : Req) : ∀ (tis : List TagInfo) (st : SLoopSt),
    sliceLoop r tis st = sliceLoopG r (checkRequireJSON r) (keyExist r) tis st
  | [], _ => rfl
  | t :: tis, st => by simp only [sliceLoop, sliceLoopG, sliceLoop_G r tis]; rfl

/-- tags whose sources do not carry the field are passed over (json tags among them, whatever they do to `err` and `dflt`):
the loop goes on behind them, still with nothing found -/
theorem tagLoop_pass (jb : TagInfo → Option ErrKind → Option ErrKind × Bytes) (p : TagInfo → Bool) (val : TagInfo → α)
    (pre post : List TagInfo) (v : LoopV α) (hpre : ∀ t ∈ pre, t.isText → p t = false) :
    ∃ v', tagLoop jb p val (pre ++ post) v = tagLoop jb p val post v' ∧ (v.got = none → v'.got = none) := by
  induction pre generalizing v with
  | nil => exact ⟨v, rfl, id⟩
  | cons t pre ih =>
    have hrest := (List.forall_mem_cons.1 hpre).2
    rw [List.cons_append]
    by_cases hk : t.key = .json
    · rw [tagLoop_json hk]; exact ih _ hrest
    · cases hs : t.skip
      · rw [tagLoop_miss hs hk (hpre t List.mem_cons_self ⟨hs, hk⟩)]
        obtain ⟨v', h, hg⟩ := ih _ hrest
        exact ⟨v', h, fun _ => hg rfl⟩
      · rw [tagLoop_skip hs hk]; exact ih _ hrest

/-- first present wins -/
theorem tagLoop_first {jb : TagInfo → Option ErrKind → Option ErrKind × Bytes} {p : TagInfo → Bool} {val : TagInfo → α}
    {pre : List TagInfo} {ti : TagInfo} {post : List TagInfo} {v : LoopV α}
    (hpre : ∀ t ∈ pre, t.isText → p t = false) (hti : ti.isText) (hg : p ti = true) :
    tagLoop jb p val (pre ++ ti :: post) v = { err := none, got := some (val ti), dflt := ti.dflt } := by
  obtain ⟨v', h, _⟩ := tagLoop_pass jb p val pre (ti :: post) v hpre
  rw [h]
  exact tagLoop_hit hti.1 hti.2 hg

/-- the loop looks at the JSON branch only at json tags, and at the sources only through `p` and `val` -/
theorem tagLoop_congr {jb jb' : TagInfo → Option ErrKind → Option ErrKind × Bytes} {p p' : TagInfo → Bool}
    {val val' : TagInfo → α} : ∀ (tis : List TagInfo) (v : LoopV α),
    (∀ t ∈ tis, t.key = .json → jb t = jb' t) → (∀ t, p t = p' t ∧ val t = val' t) →
    tagLoop jb p val tis v = tagLoop jb' p' val' tis v
  | [], _, _, _ => rfl
  | t :: tis, v, hj, hg => by
    have ih := fun v => tagLoop_congr (jb := jb) (jb' := jb') (p := p) (p' := p') (val := val) (val' := val') tis v
      (List.forall_mem_cons.1 hj).2 hg
    unfold tagLoop
    rw [(hg t).1, (hg t).2]
    by_cases hk : t.key = .json
    · simp only [hk, if_true, hj t List.mem_cons_self hk, ih]
    · simp only [hk, if_false, ih]


/-- nothing carries the field: no consulted text source has the key (`p`: how a source is asked) and no json tag finds
its name -/
def NoneCarriesV (r : Req) (p : TagInfo → Bool) (tis : List TagInfo) : Prop :=
  (∀ t ∈ tis, t.isText → p t = false) ∧ (∀ t ∈ tis, t.key = .json → jsonCarries r t = false)

/-- `NoneCarriesV r (textPresent r)`, for scalars -/
def NoneCarries (r : Req) (tis : List TagInfo) : Prop :=
  (∀ t ∈ tis, t.isText → textPresent r t = false) ∧ (∀ t ∈ tis, t.key = .json → jsonCarries r t = false)

instance (r : Req) (tis : List TagInfo) : Decidable (NoneCarries r tis) := by
  unfold NoneCarries; infer_instance

/-- `NoneCarriesV r (textsPresent r)`, for slices -/
def NoneCarriesS (r : Req) (tis : List TagInfo) : Prop :=
  (∀ t ∈ tis, t.isText → textsPresent r t = false) ∧ (∀ t ∈ tis, t.key = .json → jsonCarries r t = false)

instance (r : Req) (tis : List TagInfo) : Decidable (NoneCarriesS r tis) := by
  unfold NoneCarriesS; infer_instance

theorem NoneCarriesV.tail {r : Req} {p : TagInfo → Bool} {t : TagInfo} {tis : List TagInfo}
    (h : NoneCarriesV r p (t :: tis)) : NoneCarriesV r p tis :=
  ⟨(List.forall_mem_cons.1 h.1).2, (List.forall_mem_cons.1 h.2).2⟩

/-- a json tag whose name the body does not carry acts as a text tag whose source does not carry the key -/
theorem jsonBranch_absent (r : Req) (t : TagInfo) (e : Option ErrKind) (hc : jsonCarries r t = false) :
    jsonBranch r t e = (if t.required then some .required else e, t.dflt) := by
  unfold jsonBranch
  rw [keyExist_eq_jsonCarries, hc]
  cases hreq : t.required
  · simp [checkRequireJSON, hreq]
  · simp [checkRequire_of_not_carried r t hreq hc]

/-- … and one whose name it carries clears the error and the default: the pre-bind has stored the value -/
theorem jsonBranch_carried (r : Req) (t : TagInfo) (e : Option ErrKind) (hc : jsonCarries r t = true) :
    jsonBranch r t e = (none, []) := by
  rw [jsonCarries, Bool.and_eq_true] at hc
  simp [jsonBranch, keyExist, checkRequireJSON, hc.1, hc.2]

section notfound
variable {r : Req} {p : TagInfo → Bool} {val : TagInfo → α}

/-- what the loop computes when nothing carries the field: `err` becomes `required` if a tag that takes part asks for it,
`dflt` is the default of the last tag that takes part; without such tags they stay -/
theorem tagLoop_quiet {tis : List TagInfo} {v : LoopV α} (hn : NoneCarriesV r p tis) (h0 : v.got = none) :
    tagLoop (jsonBranch r) p val tis v =
      { err := if tis.any (fun t => decide t.effective && t.required) then some .required else v.err, got := none,
        dflt := ((tis.filter (fun t => decide t.effective)).getLast?.map (·.dflt)).getD v.dflt } := by
  induction tis generalizing v with
  | nil => obtain ⟨_, _, _⟩ := v; cases h0; rfl
  | cons t tis ih =>
    obtain ⟨e, _, d0⟩ := v
    cases h0
    by_cases he : t.effective
    · -- a json tag whose name the body lacks and a text tag whose source lacks the key leave the same state
      have hstep : tagLoop (jsonBranch r) p val (t :: tis) ⟨e, none, d0⟩ = tagLoop (jsonBranch r) p val tis
          { err := if t.required then some .required else e, got := none, dflt := t.dflt } := by
        by_cases hk : t.key = .json
        · rw [tagLoop_json hk, jsonBranch_absent r t _ (hn.2 t List.mem_cons_self hk)]
        · have hs := he.resolve_left hk
          exact tagLoop_miss hs hk (hn.1 t List.mem_cons_self ⟨hs, hk⟩)
      rw [hstep, ih hn.tail rfl, List.any_cons, List.filter_cons, decide_eq_true he, if_pos rfl, List.getLast?_cons]
      congr 1
      · cases t.required <;> cases tis.any _ <;> rfl
      · cases (tis.filter _).getLast? <;> rfl
    · have hk : t.key ≠ .json := fun h => he (.inl h)
      have hs : t.skip = true := eq_true_of_ne_false fun h => he (.inr h)
      rw [tagLoop_skip hs hk, ih hn.tail rfl, List.any_cons, List.filter_cons, decide_eq_false he]
      rfl

theorem tagLoop_required {tis : List TagInfo} {v : LoopV α} (hn : NoneCarriesV r p tis) (h0 : v.got = none)
    (hreq : ∃ t ∈ tis, t.effective ∧ t.required = true) : (tagLoop (jsonBranch r) p val tis v).err = some .required := by
  obtain ⟨t, ht, he, hr⟩ := hreq
  rw [tagLoop_quiet hn h0]
  exact if_pos (List.any_eq_true.2 ⟨t, ht, by rw [decide_eq_true he, hr]; rfl⟩)

/-- `hst`: when no tag takes part the loop leaves `v.dflt` as it is, so it must be `d` already -/
theorem tagLoop_default {tis : List TagInfo} {v : LoopV α} {d : Bytes}
    (hn : NoneCarriesV r p tis) (hr : ∀ t ∈ tis, t.effective → t.required = false) (hd : ∀ t ∈ tis, t.dflt = d)
    (he : v.err = none) (h0 : v.got = none) (hst : v.dflt = d ∨ ∃ t ∈ tis, t.effective) :
    tagLoop (jsonBranch r) p val tis v = { err := none, got := none, dflt := d } := by
  rw [tagLoop_quiet hn h0, he, if_neg]
  · congr 1
    cases hl : (tis.filter fun t => decide t.effective).getLast? with
    | none =>
      rw [List.getLast?_eq_none_iff, List.filter_eq_nil_iff] at hl
      exact hst.resolve_right fun ⟨t, ht, he⟩ => hl t ht (decide_eq_true he)
    | some t => exact hd t (List.mem_filter.1 (List.mem_of_getLast? hl)).1
  · simp only [List.any_eq_true, Bool.and_eq_true, decide_eq_true_eq, not_exists, not_and, Bool.not_eq_true]
    exact fun t ht he => hr t ht he

/-- a json tag that finds its name, behind tags that find nothing: whatever those left in `err` and `dflt` is cleared -/
theorem tagLoop_json_last {pre : List TagInfo} {tj : TagInfo} {v : LoopV α}
    (hpre : ∀ t ∈ pre, t.isText → p t = false) (h0 : v.got = none) (hk : tj.key = .json) (he : jsonCarries r tj = true) :
    tagLoop (jsonBranch r) p val (pre ++ [tj]) v = { err := none, got := none, dflt := [] } := by
  obtain ⟨v', h, hg⟩ := tagLoop_pass _ p val pre [tj] v hpre
  obtain ⟨_, _, _⟩ := v'
  cases hg h0
  rw [h, tagLoop_json hk, jsonBranch_carried r tj _ he]
  rfl
end notfound
end loop

/-- the two orders read from `decoder/tag.go`, evaluated -/
theorem lookupOrder_eq : lookupOrder = [.path, .form, .query, .cookie, .header, .json] := by decide +kernel

theorem defaultOrder_eq : defaultOrder = [.path, .form, .query, .cookie, .header, .json] := by decide +kernel

theorem key_mkTagInfo (f : Field) (s : Src) (c : Bytes) : (mkTagInfo f s c).key = s := rfl

/-- an empty text counts as no text when a default is declared -/
def effText (ty : Ty) (v d : Bytes) : Bytes := if v = [] ∧ d ≠ [] then toDefaultValue ty d else v

/-- the value a field keeps when no source carries it -/
def defaultOutcome (ty : Ty) (d : Bytes) (prev : FieldVal) : FOut :=
  if d = [] then .ok prev else textOutcome ty (toDefaultValue ty d)

def defaultOutcomeS (ty : Ty) (d : Bytes) (prev : FieldVal) : FOut :=
  if d = [] then .ok prev else jsonFromText ty prev (toDefaultValue ty d)

theorem toDefaultValue_scalar (ty : Ty) (d : Bytes) (h : ty.slice = false) : toDefaultValue ty d = d := by
  simp [toDefaultValue, h]

/-- what `baseTypeFieldTextDecoder.Decode` makes of the loop's result -/
def baseOut (ty : Ty) (prev : FieldVal) (v : LoopV Bytes) : FOut :=
  match v.err with
  | some e => .err e
  | none =>
    match v.got with
    | some x => textOutcome ty (effText ty x v.dflt)
    | none => if v.dflt = [] ∨ toDefaultValue ty v.dflt = [] then .ok prev else textOutcome ty (toDefaultValue ty v.dflt)

/-- what `sliceTypeFieldTextDecoder.Decode` makes of the loop's result -/
def sliceOut (ty : Ty) (prev : FieldVal) (v : LoopV (List Bytes)) : FOut :=
  match v.err with
  | some e => .err e
  | none =>
    match v.got with
    | some (t0 :: ts) => textsOutcome ty prev t0 ts
    | _ => defaultOutcomeS ty v.dflt prev

theorem decodeBaseG_eq (r : Req) (chk ke : TagInfo → Bool) (ty : Ty) (tis : List TagInfo) (prev : FieldVal) :
    decodeBaseG r chk ke ty tis prev =
      baseOut ty prev (tagLoop (jsonBranchG chk ke) (textPresent r) (fun t => (getter r t.key t.value).1) tis {}) := by
  unfold decodeBaseG baseOut
  rw [show ({} : LoopSt) = LoopSt.ofV {} from rfl, baseLoopG_tagLoop]
  generalize tagLoop _ _ _ tis {} = v
  obtain ⟨e, g, d⟩ := v
  cases e with
  | some e => rfl
  | none =>
    cases g with
    | some x => simp [LoopSt.ofV, effText]; rfl
    | none => by_cases hd : d = [] <;> simp [LoopSt.ofV, hd]

theorem decodeSliceG_eq (r : Req) (chk ke : TagInfo → Bool) (ty : Ty) (tis : List TagInfo) (prev : FieldVal) :
    decodeSliceG r chk ke ty tis prev =
      sliceOut ty prev (tagLoop (jsonBranchG chk ke) (textsPresent r) (fun t => sliceGetter r t.key t.value) tis {}) := by
  unfold decodeSliceG sliceOut
  rw [show ({} : SLoopSt) = SLoopSt.ofV {} from rfl, sliceLoopG_tagLoop]
  generalize tagLoop _ _ _ tis {} = v
  obtain ⟨e, g, d⟩ := v
  cases e with
  | some e => rfl
  | none =>
    cases g with
    | some l => cases l <;> by_cases hd : d = [] <;> simp [SLoopSt.ofV, defaultOutcomeS, hd]
    | none => by_cases hd : d = [] <;> simp [SLoopSt.ofV, defaultOutcomeS, hd]

theorem decodeBase_eq (r : Req) (ty : Ty) (tis : List TagInfo) (prev : FieldVal) :
    decodeBase r ty tis prev =
      baseOut ty prev (tagLoop (jsonBranch r) (textPresent r) (fun t => (getter r t.key t.value).1) tis {}) := by
  refine Eq.trans ?_ (decodeBaseG_eq r (checkRequireJSON r) (keyExist r) ty tis prev)
  unfold decodeBase decodeBaseG
  rw [baseLoop_G]
  rfl

theorem decodeSlice_eq (r : Req) (ty : Ty) (tis : List TagInfo) (prev : FieldVal) :
    decodeSlice r ty tis prev =
      sliceOut ty prev (tagLoop (jsonBranch r) (textsPresent r) (fun t => sliceGetter r t.key t.value) tis {}) := by
  refine Eq.trans ?_ (decodeSliceG_eq r (checkRequireJSON r) (keyExist r) ty tis prev)
  unfold decodeSlice decodeSliceG
  rw [sliceLoop_G]
  rfl

/-- every cached decoder is the one `GetReqDecoder` builds for its type -/
def Binder.WF (b : Binder) : Prop := ∀ t d, (t, d) ∈ b.cache → d = compile t

theorem lookup_mem {α β} [BEq α] [LawfulBEq α] {l : List (α × β)} {a : α} {b : β} (h : l.lookup a = some b) :
    (a, b) ∈ l := by
  obtain ⟨l₁, l₂, rfl, _⟩ := List.lookup_eq_some_iff.1 h
  exact List.mem_append_right _ List.mem_cons_self

theorem Binder.bind_pure (b : Binder) (hb : b.WF) (t : List Field) (r : Req) :
    (b.bind t r).1 = Hertz.Bind.bind t r ∧ (b.bind t r).2.WF := by
  unfold Binder.bind
  cases h : b.cache.lookup t with
  | none =>
    refine ⟨rfl, ?_⟩
    intro t' d' hm
    simp only [List.mem_cons] at hm
    rcases hm with hm | hm
    · cases hm; rfl
    · exact hb t' d' hm
  | some decs =>
    have := hb t decs (lookup_mem h)
    subst this
    exact ⟨rfl, hb⟩

theorem Binder.empty_wf : (Binder.mk []).WF := by
  intro t d h; cases h

/-- the `tag` whose decoders a cache holds -/
def Slot.tag : Slot → Option Src
  | .all => none | .query => some .query | .header => some .header | .form => some .form | .path => some .path

/-- every entry point loads from and stores into the cache that belongs to its own tag -/
theorem Api.slot_tag (a : Api) : (tagCache a.byTag).tag = a.byTag := by cases a <;> rfl

/-- every cached decoder is the one `GetReqDecoder` builds for its type **with the tag of the cache it sits in** -/
def TagBinder.WF (b : TagBinder) : Prop := ∀ s t d, (t, d) ∈ b.caches s → d = compileBy s.tag t

theorem TagBinder.empty_wf : ({} : TagBinder).WF := by
  intro s t d h; cases h

theorem TagBinder.call_pure (b : TagBinder) (hb : b.WF) (a : Api) (t : List Field) (r : Req) :
    (b.call a t r).1 = bindBy a.byTag t r ∧ (b.call a t r).2.WF := by
  unfold TagBinder.call TagBinder.bindTag
  cases h : (b.caches (tagCache a.byTag)).lookup t with
  | none =>
    refine ⟨rfl, ?_⟩
    intro s t' d' hm
    unfold TagBinder.store at hm
    by_cases hs : s = tagCache a.byTag
    · simp only [hs, if_true, List.mem_cons] at hm
      rcases hm with hm | hm
      · cases hm; rw [hs, Api.slot_tag]
      · rw [hs]; exact hb _ t' d' hm
    · simp only [hs, if_false] at hm
      exact hb s t' d' hm
  | some decs =>
    have := hb _ t decs (lookup_mem h)
    rw [Api.slot_tag] at this
    subst this
    exact ⟨rfl, hb⟩

theorem TagBinder.run_pure (b : TagBinder) (hb : b.WF) (ops : List (Api × List Field × Req)) :
    b.run ops = ops.map (fun o => bindBy o.1.byTag o.2.1 o.2.2) := by
  induction ops generalizing b with
  | nil => rfl
  | cons o ops ih =>
    obtain ⟨a, t, r⟩ := o
    simp only [TagBinder.run, List.map_cons]
    rw [(TagBinder.call_pure b hb a t r).1, ih _ (TagBinder.call_pure b hb a t r).2]

theorem bindBy_none (t : List Field) (r : Req) : bindBy none t r = Hertz.Bind.bind t r := by
  unfold bindBy bindWithBy compileBy Hertz.Bind.bind compile
  have : (compileFieldBy none) = compileField := by funext f; rfl
  rw [this]

end Hertz.Bind

