import Hertz.Model.Tagexpr
import Hertz.Proofs.Tagexpr
/-!
Where evaluation (`evalTree`, the `Run` methods of `spec_operator.go`) can panic (C20).

`Safe P m`: if the computation `m` ends in a Go panic, the panic site satisfies `P`.  The operator
nodes themselves never panic; the only site is the method call on a nil operand (`nil.Run`).
-/
namespace Hertz.Tagexpr

structure Safe {α : Type} (P : String → Prop) (m : EvalM α) : Prop where
  h : ∀ s, m = .error (.fault (.panic s)) → P s

section
variable {P : String → Prop}

theorem Safe.pure {α : Type} (a : α) : Safe P (pure a : EvalM α) := ⟨by intro s h; cases h⟩
theorem Safe.errUnsupported {α : Type} (w : String) : Safe P (Except.error (.unsupported w) : EvalM α) :=
  ⟨by intro s h; cases h⟩
theorem Safe.fault {α : Type} {s : String} (h : P s) : Safe P (throw (.fault (.panic s)) : EvalM α) :=
  ⟨by intro s' h'; cases h'; exact h⟩

theorem Safe.bind {α β : Type} {m : EvalM α} {f : α → EvalM β} (hm : Safe P m) (hf : ∀ a, Safe P (f a)) :
    Safe P (m >>= f) := by
  constructor
  intro s h
  cases m with
  | error e => exact hm.h s (by simpa [Bind.bind, Except.bind] using h)
  | ok a => exact (hf a).h s (by simpa [Bind.bind, Except.bind] using h)

theorem coerceF_safe (c : Coerce Float) (d : Float) : Safe P (coerceF c d) := by
  cases c <;> simp [coerceF] <;> first | exact Safe.pure _ | exact Safe.errUnsupported _
theorem coerceS_safe (c : Coerce String) : Safe P (coerceS c) := by
  cases c <;> simp [coerceS] <;> first | exact Safe.pure _ | exact Safe.errUnsupported _
theorem numOr0_safe (c : Coerce Float) : Safe P (numOr0 c) := by
  cases c <;> simp [numOr0] <;> first | exact Safe.pure _ | exact Safe.errUnsupported _
theorem of_ite {α : Sort _} {Q : α → Prop} {c : Prop} [Decidable c] {a b : α} (ha : Q a) (hb : Q b) :
    Q (if c then a else b) := by
  split
  · exact ha
  · exact hb

theorem opCmp_safe (f : Float → Float → Bool) (g : String → String → Bool) (a b : Val) :
    Safe P (opCmp f g a b) := by
  -- the comparison as strings, reached from two places
  have hstr : Safe P (do
      match ← coerceS (toStr a false) with
      | some s0 =>
        match ← coerceS (toStr b true) with
        | some s1 => return g s0 s1
        | none => return false
      | none => return false : EvalM Bool) :=
    Safe.bind (coerceS_safe _) fun o => by
      cases o with
      | none => exact Safe.pure _
      | some _ =>
        refine Safe.bind (coerceS_safe _) fun o => ?_
        cases o <;> exact Safe.pure _
  unfold opCmp
  refine Safe.bind (coerceF_safe _ _) fun o => ?_
  cases o with
  | none => exact hstr
  | some _ =>
    refine Safe.bind (coerceF_safe _ _) fun o => ?_
    cases o with
    | none => exact hstr
    | some _ => exact Safe.pure _

/-- `==` is `interfaceEqual` first, then the comparison of `opCmp` -/
theorem opEq_safe (a b : Val) : Safe P (opEq a b) := of_ite (Safe.pure _) (opCmp_safe _ _ a b)

/-- every operand node of the tree has a `Run` that panics only at sites in `P` -/
def LeavesSafe (P : String → Prop) (env : Env) : Node → Prop
  | .nil => True
  | .leaf o => Safe P (o.run env)
  | .node _ l r => LeavesSafe P env l ∧ LeavesSafe P env r

def NoNilOperand : Node → Prop
  | .node _ l r => l.isNil = false ∧ r.isNil = false ∧ NoNilOperand l ∧ NoNilOperand r
  | _ => True

/-- the operator nodes add no panic site to those of their operands: each `Run` is a sequence of the operands'
`Run`s, coercions and comparisons -/
theorem evalTree_node_safe {env : Env} {op : Op} {l r : Node} (hl : Safe P (evalTree env l))
    (hr : Safe P (evalTree env r)) : Safe P (evalTree env (.node op l r)) := by
  unfold evalTree
  cases op
  case add =>
    refine Safe.bind hl fun _ => Safe.bind hr fun _ => Safe.bind (coerceF_safe _ _) fun s0 => ?_
    cases s0 with
    | some _ => exact Safe.bind (numOr0_safe _) fun _ => Safe.pure _
    | none =>
      refine Safe.bind (coerceS_safe _) fun s0 => ?_
      cases s0 with
      | some _ => exact Safe.bind (coerceS_safe _) fun _ => Safe.pure _
      | none => exact Safe.pure _
  case mul | sub =>
    exact Safe.bind hl fun _ => Safe.bind (numOr0_safe _) fun _ => Safe.bind hr fun _ =>
      Safe.bind (numOr0_safe _) fun _ => Safe.pure _
  case div | rem =>
    exact Safe.bind hr fun _ => Safe.bind (numOr0_safe _) fun _ => of_ite (Safe.pure _)
      (Safe.bind hl fun _ => Safe.bind (numOr0_safe _) fun _ => Safe.pure _)
  case eq | ne =>
    exact Safe.bind hl fun _ => Safe.bind hr fun _ => Safe.bind (opEq_safe _ _) fun _ => Safe.pure _
  case gt | ge | lt | le =>
    exact Safe.bind hl fun _ => Safe.bind hr fun _ => Safe.bind (opCmp_safe _ _ _ _) fun _ => Safe.pure _
  case and | or =>
    exact Safe.bind hl fun _ => of_ite (Safe.pure _) (Safe.bind hr fun _ => of_ite (Safe.pure _) (Safe.pure _))

/-- evaluation panics only where an operand does, or at the method call on a missing operand if there is one -/
theorem evalTree_safe_ops (env : Env) : ∀ t : Node, (none ∈ Tree.operands t → P "nil.Run") →
    (∀ o, some o ∈ Tree.operands t → Safe P (o.run env)) → Safe P (evalTree env t)
  | .nil, hn, _ => by unfold evalTree; exact Safe.fault (hn (List.mem_singleton.2 rfl))
  | .leaf o, _, hl => by unfold evalTree; exact hl o (List.mem_singleton.2 rfl)
  | .node _ l r, hn, hl =>
    evalTree_node_safe
      (evalTree_safe_ops env l (fun h => hn (List.mem_append_left _ h)) fun o h => hl o (List.mem_append_left _ h))
      (evalTree_safe_ops env r (fun h => hn (List.mem_append_right _ h)) fun o h => hl o (List.mem_append_right _ h))

/-- the same in recursive form (`NoNilOperand`, `LeavesSafe`), as `C20.eval_no_panic` and `groupNode_safe` state it -/
theorem evalTree_safe_noNil (env : Env) :
    ∀ t : Node, t.isNil = false → NoNilOperand t → LeavesSafe P env t → Safe P (evalTree env t)
  | .nil, hne, _, _ => by cases hne
  | .leaf o, _, _, hl => by unfold evalTree; exact hl
  | .node _ l r, _, hnn, hl =>
    evalTree_node_safe (evalTree_safe_noNil env l hnn.1 hnn.2.2.1 hl.1) (evalTree_safe_noNil env r hnn.2.1 hnn.2.2.2 hl.2)

/-! ### the operand nodes the parser builds -/

/-- a tree that can be evaluated without reaching a nil operand -/
def WellFormed (P : String → Prop) (env : Env) (t : Node) : Prop :=
  t.isNil = false ∧ NoNilOperand t ∧ LeavesSafe P env t

theorem constNode_safe (env : Env) (sh : String) (v : Val) : Safe P ((constNode sh v).run env) := Safe.pure _

theorem selectorNode_safe (env : Env) (f : String) (bo so : Option Bool) :
    Safe P ((selectorNode f bo so).run env) := Safe.pure _

/-- `groupExprNode.Run`: an empty group is nil, otherwise the value of the sub-expression -/
theorem groupRun_safe {env : Env} {t : Node} (bo so : Option Bool) (h : t.isNil = false → Safe P (evalTree env t)) :
    Safe P (groupRun t bo so env) := by
  cases t with
  | nil => exact Safe.pure _
  | leaf o => exact Safe.bind (h rfl) fun _ => Safe.pure _
  | node op l r => exact Safe.bind (h rfl) fun _ => Safe.pure _

theorem groupNode_safe (env : Env) (t : Node) (bo so : Option Bool)
    (h : t.isNil = true ∨ WellFormed P env t) : Safe P ((groupNode t bo so).run env) :=
  groupRun_safe bo so fun hn => h.elim (fun ht => nomatch hn.symm.trans ht)
    fun w => evalTree_safe_noNil env t w.1 w.2.1 w.2.2

theorem mapM_safe (env : Env) : ∀ (args : List Operand), (∀ a ∈ args, Safe P (a.run env)) →
    Safe P (args.mapM (fun a => a.run env))
  | [], _ => by simp only [List.mapM_nil]; exact Safe.pure _
  | a :: t, h => by
    simp only [List.mapM_cons]
    refine Safe.bind (h a (by simp)) (fun _ => Safe.bind (mapM_safe env t (fun b hb => h b (by simp [hb]))) (fun _ => Safe.pure _))

/-- `funcExprNode.Run`: every function of `applyFn` (`len`, `in`, the two the harness registers) returns a value for every argument list -/
theorem funcNode_safe (env : Env) (name : String) (args : List Operand) (bo so : Option Bool)
    (h : ∀ a ∈ args, Safe P (a.run env)) : Safe P ((funcNode name args bo so).run env) := by
  show Safe P (do
      let vs ← args.mapM (fun a => a.run env)
      let r := applyFn name vs
      return realValue r bo so)
  exact Safe.bind (mapM_safe env args h) (fun _ => Safe.pure _)

/-- `regexpFuncExprNode.Run` -/
theorem regexpNode_safe (env : Env) (re : Rx) (neg : Bool) (arg : Operand) (h : Safe P (arg.run env)) :
    Safe P ((regexpNode re neg arg).run env) := by
  show Safe P (arg.run env >>= fun v => _)
  refine Safe.bind h (fun v => ?_)
  cases v <;> exact Safe.pure _

end
end Hertz.Tagexpr
