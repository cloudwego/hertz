import Hertz.Model.Tagexpr
import Hertz.Proofs.Tagexpr
import Hertz.Proofs.TagexprEval
/-!
The parser of `internal/tagexpr/expr.go` as a whole (C20).  One induction over the fuel of the mutually recursive
`parseExprNode` / `readOperand` / `parseArgs` (`stepOK`) gives: every operand node returned is `Built` — a literal, a field
reference, or a group / function call / `regexp` call whose sub-expressions are the *precedence trees* (`specParse`) of token
sequences of `Built` operands; no fault is raised (`sortPriority` never reaches the nil dereference of `leftOperandToParent`
on a tree `parseExprNode` built); `2·|s| + 2` fuel is enough (an operand and an operator consume at least one character, the
content of a group or an argument list is at least two characters shorter than the call), and of `parseExpr`'s `4·|expr| + 8`
only `2·|s| + 2 ≤ 4·|s| + 8` is used.  Hence `Run` on the compiled expression can panic at one site only, the method call on
a missing operand, and not at all when no operand is missing.
-/
namespace Hertz.Tagexpr
open Tree

/-- The token sequences `parseExprNode` can read: nothing (empty group), `a op₁ x₁ … opₙ xₙ`, or the
same followed by one more operator whose operand is missing.  `full = true` excludes the two forms
with a missing operand. -/
inductive SeqOK {α : Type} (full : Bool) : Option α → List (Op × Option α) → Prop
  | empty : full = false → SeqOK full none []
  | chain (a : α) (rest : List (Op × α)) : SeqOK full (some a) (toks rest)
  | trailing (a : α) (rest : List (Op × α)) (o : Op) : full = false →
      SeqOK full (some a) (toks rest ++ [(o, none)])

/-- The operand nodes of the expression language, closed under the recursion of the grammar: a
group, each argument of a function call and the argument of `regexp(…)` hold the precedence tree
(`specParse`) of a token sequence whose operands are of the same kind. -/
inductive Built (full : Bool) : Operand → Prop
  | const (sh : String) (v : Val) : Built full (constNode sh v)
  | selector (f : String) (bo so : Option Bool) : Built full (selectorNode f bo so)
  | group (first : Option Operand) (ts : List (Op × Option Operand)) (bo so : Option Bool) :
      SeqOK full first ts → (∀ o, some o ∈ seqOperands first ts → Built full o) →
      Built full (groupNode (specParse first ts) bo so)
  | func (name : String) (gs : List (Option Operand × List (Op × Option Operand))) (bo so : Option Bool) :
      (∀ g ∈ gs, SeqOK full g.1 g.2) → (∀ g ∈ gs, ∀ o, some o ∈ seqOperands g.1 g.2 → Built full o) →
      Built full (funcNode name (gs.map (fun g => groupNode (specParse g.1 g.2) none none)) bo so)
  | regexp (re : Rx) (neg : Bool) (first : Option Operand) (ts : List (Op × Option Operand)) :
      SeqOK full first ts → (∀ o, some o ∈ seqOperands first ts → Built full o) →
      Built full (regexpNode re neg (groupNode (specParse first ts) none none))

/-- a compiled (sub-)expression: the precedence tree of a readable token sequence of built operands -/
def Compiled (full : Bool) (t : Node) : Prop :=
  ∃ first ts, t = specParse first ts ∧ SeqOK full first ts ∧ ∀ o, some o ∈ seqOperands first ts → Built full o

/-- what the induction over the fuel proves of an outcome `e`: it is not a fault, it is "out of fuel" only if `enough`
(a lower bound on the fuel given) fails, and if it is a value the value satisfies `Q` -/
def Out {β : Type} (Q : β → Prop) (enough : Prop) : Except PErr β → Prop
  | .ok b => Q b
  | .error (.fault _) => False
  | .error .fuel => ¬ enough
  | .error _ => True

/-- `Out` without the fuel clause -/
def ResOK {β : Type} (Q : β → Prop) : Except PErr β → Prop
  | .ok b => Q b
  | .error (.fault _) => False
  | .error _ => True

/-- `Out` without the fault clause, the fuel being enough -/
def NoFuel {β : Type} (Q : β → Prop) : Except PErr β → Prop
  | .ok b => Q b
  | .error .fuel => False
  | .error _ => True

theorem Out.err {β γ : Type} {Q : β → Prop} {Q' : γ → Prop} {en en' : Prop} {e : PErr}
    (h : Out Q en (.error e)) (hen : en' → en) : Out Q' en' (.error e) := by
  cases e with
  | fuel => exact fun h' => h (hen h')
  | fault f => exact h
  | _ => trivial

theorem Out.mono {β : Type} {Q Q' : β → Prop} {en en' : Prop} {e : Except PErr β} (h : Out Q en e)
    (hq : ∀ b, Q b → Q' b) (hen : en' → en) : Out Q' en' e := by
  cases e with
  | ok b => exact hq b h
  | error e => exact h.err hen

theorem Out.resOK {β : Type} {Q Q' : β → Prop} {en : Prop} {e : Except PErr β} (h : Out Q en e)
    (hq : ∀ b, Q b → Q' b) : ResOK Q' e := by
  cases e with
  | ok b => exact hq b h
  | error e => cases e <;> first | trivial | exact h

theorem Out.noFuel {β : Type} {Q Q' : β → Prop} {en : Prop} {e : Except PErr β} (h : Out Q en e) (hen : en)
    (hq : ∀ b, Q b → Q' b) : NoFuel Q' e := by
  cases e with
  | ok b => exact hq b h
  | error e => cases e <;> first | trivial | exact h hen

theorem ResOK.err {β γ : Type} {Q : β → Prop} {Q' : γ → Prop} {e : PErr}
    (h : ResOK Q (.error e)) : ResOK Q' (.error e) := by
  cases e <;> first | trivial | exact h

theorem ResOK.ok_of {β : Type} {Q : β → Prop} {e : Except PErr β} {b : β} (h : ResOK Q e) (he : e = .ok b) : Q b := by
  subst he; exact h

theorem ResOK.not_fault {β : Type} {Q : β → Prop} {e : Except PErr β} (h : ResOK Q e) (f : Fault) :
    e ≠ .error (.fault f) := by
  intro he; subst he; exact h

def withTrail (t : Node) : Option Op → Node
  | none => t
  | some o => node o t nil

/-- what `parseExprNode … cur` returns: the holder closed with a nil operand, or the left-leaning
chain over the operands read, possibly with one more operator at the end -/
def Parsed (cur : Option (Op × Node)) (t : Node) : Prop :=
  t = close cur nil ∨
  ∃ x rest trail, t = withTrail (chainAux (close cur (leaf x)) rest) trail ∧
    Built false x ∧ ∀ p ∈ rest, Built false p.2

theorem liftSort_of_sort {t t' : Node} (h : sortPriority t = .ok (some t')) : liftSort t = .ok t' := by
  unfold liftSort
  rw [h]

theorem mem_seqOperands_toks {α : Type} {a o : α} {rest : List (Op × α)} :
    some o ∈ seqOperands (some a) (toks rest) ↔ o = a ∨ ∃ p ∈ rest, p.2 = o := by
  simp [seqOperands, toks]

/-- what `parseExprNode` returns at the top of a (sub-)expression, in terms of the tokens it read: `sortPriority`
makes it their precedence tree -/
theorem parsed_sorted {t : Node} (h : Parsed none t) : ∃ first ts, flat t = (first, ts) ∧
    liftSort t = .ok (specParse first ts) ∧ SeqOK false first ts ∧ ∀ o, some o ∈ seqOperands first ts → Built false o := by
  rcases h with rfl | ⟨x, rest, trail, rfl, hx, hr⟩
  · exact ⟨none, [], rfl, rfl, .empty rfl, by simp [seqOperands]⟩
  · have hops : ∀ o, some o ∈ seqOperands (some x) (toks rest) → Built false o := by
      intro o ho
      rcases mem_seqOperands_toks.mp ho with rfl | ⟨p, hp, rfl⟩
      · exact hx
      · exact hr p hp
    cases trail with
    | none => exact ⟨some x, toks rest, chain_flat x rest, liftSort_of_sort (sort_chain x rest), .chain x rest, hops⟩
    | some o' =>
      refine ⟨some x, toks rest ++ [(o', none)], ?_, liftSort_of_sort (sort_chain_trailing x rest o'),
        .trailing x rest o' rfl, fun o ho => hops o ?_⟩
      · show flat (node o' (chain x rest) nil) = _
        simp only [flat, chain_flat]
      · have : seqOperands (some x) (toks rest ++ [(o', none)]) = seqOperands (some x) (toks rest) ++ [none] := by
          simp [seqOperands]
        rw [this] at ho
        simpa using ho

theorem liftSort_parsed {t : Node} (h : Parsed none t) : ResOK (Compiled false) (liftSort t) := by
  obtain ⟨first, ts, _, hs, h1, h2⟩ := parsed_sorted h
  rw [hs]
  exact ⟨first, ts, rfl, h1, h2⟩

theorem liftSort_parsed_flat {t : Node} (h : Parsed none t) :
    liftSort t = .ok (specParse (flat t).1 (flat t).2) := by
  obtain ⟨first, ts, hf, hs, _⟩ := parsed_sorted h
  rw [hf]
  exact hs

/-! ## lengths: what each reader leaves unread is no longer than what it was given -/

theorem length_dropWhile_le' {α} (p : α → Bool) (l : List α) : (l.dropWhile p).length ≤ l.length :=
  (List.dropWhile_sublist p).length_le

theorem trimLeft_length (s : List Char) : (trimLeft s).length ≤ s.length := length_dropWhile_le' _ _

theorem of_ite_eq {α : Type} {c : Prop} [Decidable c] {a b x : α} {G : Prop} (h : (if c then a else b) = x)
    (ha : a = x → G) (hb : b = x → G) : G :=
  of_ite (Q := fun o => o = x → G) ha hb h

theorem pairedLoop_length {left right : Char} {sub rest : List Char} {t : List Char} {l1 l2 : Char} {ll rl : Nat}
    {acc : List Char} (h : pairedLoop left right t l1 l2 ll rl acc = some (sub, rest)) :
    sub.length + rest.length + 1 ≤ acc.length + t.length := by
  fun_induction pairedLoop left right t l1 l2 ll rl acc
  case case1 => cases h
  case case2 =>
    cases h
    simp only [List.length_reverse, List.length_cons]
    omega
  all_goals
    -- every recursive call adds `r` to `acc` or to its tail
    rename_i ih
    have := ih h
    simp only [List.length_cons, List.length_tail] at this ⊢
    omega

theorem readPaired_length {s : List Char} {l r : Char} {sub rest : List Char}
    (h : readPaired s l r = some (sub, rest)) : sub.length + rest.length + 2 ≤ s.length := by
  unfold readPaired at h
  split at h
  · split at h
    · have := pairedLoop_length h
      simp only [List.length_cons, List.length_nil] at this ⊢; omega
    · cases h
  · cases h

theorem getOpposite_length (s : List Char) (c : Char) : (getOpposite s c).1.length ≤ s.length :=
  length_dropWhile_le' _ _

theorem getBoolSign_length (s : List Char) : (getBoolSign s).1.length ≤ s.length :=
  Nat.le_trans (length_dropWhile_le' _ _) <| Nat.le_trans (length_dropWhile_le' _ _) <|
    Nat.le_trans (length_dropWhile_le' _ _) (length_dropWhile_le' _ _)

theorem parseOperator_length {s s3 : List Char} {op : Op} (h : parseOperator s = some (op, s3)) :
    s3.length < s.length := by
  revert h
  -- in every case the rest is what follows the one or two characters matched
  fun_cases parseOperator s <;> intro h <;> cases h <;> simp only [List.length_cons] <;> omega

theorem readDigits_length {s rest ip fp : List Char} {neg : Bool}
    (h : readDigits s = some (neg, ip, fp, rest)) : rest.length ≤ s.length := by
  revert h
  fun_cases readDigits s with
  | case1 | case3 | case5 => nofun
  | case2 neg' r hs ip' r1 _ r2 hr1 fp' r3 =>
    intro h
    simp only [Option.some.injEq, Prod.mk.injEq] at h
    rw [← h.2.2.2]
    have hr : r.length ≤ s.length := by split at hs <;> cases hs <;> simp
    have h1 : r1.length ≤ r.length := length_dropWhile_le' _ _
    have h2 : r3.length ≤ r2.length := length_dropWhile_le' _ _
    rw [hr1, List.length_cons] at h1
    omega
  | case4 neg' r hs ip' r1 =>
    intro h
    simp only [Option.some.injEq, Prod.mk.injEq] at h
    rw [← h.2.2.2]
    have hr : r.length ≤ s.length := by split at hs <;> cases hs <;> simp
    have h1 : r1.length ≤ r.length := length_dropWhile_le' _ _
    omega

theorem findSelector_length {s rest : List Char} {f : String} {bo so : Option Bool}
    (h : findSelector s = .found f bo so rest) : rest.length ≤ s.length := by
  unfold findSelector at h
  simp only at h
  have h0 := length_dropWhile_le' (inSet "!+-") s
  split at h
  · cases h
  · next field r heq =>
    have hr : r.length ≤ s.length := by
      split at heq
      · simp only [Option.some.injEq, Prod.mk.injEq] at heq
        rw [← heq.2]; exact h0
      · next r1 hd =>
        rw [hd] at h0
        have h1 := length_dropWhile_le' (inSet " \t") r1
        split at heq
        · refine of_ite_eq heq (fun heq => ?_) nofun
          have h2 := length_dropWhile_le' isNameChar (List.dropWhile (inSet " \t") r1)
          have h3 := length_dropWhile_le' (inSet " \t") (List.dropWhile isNameChar (List.dropWhile (inSet " \t") r1))
          split at heq
          · next r4 hd4 =>
            simp only [Option.some.injEq, Prod.mk.injEq] at heq
            rw [hd4] at h3
            rw [← heq.2]
            simp only [List.length_cons] at h0 h3; omega
          · cases heq
        · cases heq
      · cases heq
    split at h
    · next rest' =>
      have hfound : ∀ {b1 b2 : Option Bool}, Sel.found field b1 b2 rest' = .found f bo so rest →
          rest.length ≤ s.length := fun h => by
        cases h
        rw [List.length_cons] at hr
        omega
      refine of_ite_eq h nofun (fun h => ?_)
      split at h
      · exact of_ite_eq h nofun hfound
      · exact hfound h
    · cases h

/-! ## the induction over the parser's fuel

One induction gives both what the functions return and that the fuel suffices (`2·|s| + 1` for an operand). -/

abbrev ArgSeq := Option Operand × List (Op × Option Operand)

def argNode (g : ArgSeq) : Operand := groupNode (specParse g.1 g.2) none none

def GoodArgs (gs : List ArgSeq) : Prop :=
  (∀ g ∈ gs, SeqOK false g.1 g.2) ∧ (∀ g ∈ gs, ∀ o, some o ∈ seqOperands g.1 g.2 → Built false o)

theorem GoodArgs.cons {g : ArgSeq} {gs : List ArgSeq} (h1 : SeqOK false g.1 g.2)
    (h2 : ∀ o, some o ∈ seqOperands g.1 g.2 → Built false o) (h : GoodArgs gs) : GoodArgs (g :: gs) :=
  ⟨List.forall_mem_cons.mpr ⟨h1, h.1⟩, List.forall_mem_cons.mpr ⟨h2, h.2⟩⟩

theorem GoodArgs.reverse {gs : List ArgSeq} (h : GoodArgs gs) : GoodArgs gs.reverse :=
  ⟨fun g hg => h.1 g (List.mem_reverse.mp hg), fun g hg => h.2 g (List.mem_reverse.mp hg)⟩

/-- the argument list `parseArgs` returns, given that the arguments read before are compiled sub-expressions -/
def ArgsOK (acc as : List Operand) : Prop :=
  ∀ gs, acc = gs.map argNode → GoodArgs gs → ∃ gs', GoodArgs gs' ∧ as = gs'.map argNode

/-- the statements proved together, for one amount of fuel -/
structure StepOK (n : Nat) : Prop where
  expr : ∀ s cur, Out (fun p => Parsed cur p.1 ∧ p.2.length ≤ s.length) (2 * s.length + 2 ≤ n) (parseExprNode n s cur)
  operand : ∀ s, Out (fun p => Built false p.1 ∧ p.2.length ≤ s.length) (2 * s.length + 1 ≤ n) (readOperand n s)
  args : ∀ s acc, Out (ArgsOK acc) (2 * s.length + 2 ≤ n) (parseArgs n s acc)

theorem parseExprNode_step (n : Nat) (ih : StepOK n) (s : List Char) (cur : Option (Op × Node)) :
    Out (fun p => Parsed cur p.1 ∧ p.2.length ≤ s.length) (2 * s.length + 2 ≤ n + 1) (parseExprNode (n + 1) s cur) := by
  rw [parseExprNode.eq_def]
  simp only
  have ht := trimLeft_length s
  split
  · exact ⟨.inl (by cases cur <;> rfl), Nat.zero_le _⟩
  · have ho := ih.operand (trimLeft s)
    split
    · next e he => rw [he] at ho; exact ho.err (by omega)
    · next x s1 he =>
      rw [he] at ho
      obtain ⟨hx, h1⟩ : Built false x ∧ s1.length ≤ (trimLeft s).length := ho
      have h2 := trimLeft_length s1
      split
      · exact ⟨.inr ⟨x, [], none, rfl, hx, by simp⟩, by dsimp only; omega⟩
      · next op s3 hop =>
        have h3 := parseOperator_length hop
        refine (ih.expr s3 (some (op, close cur (leaf x)))).mono (fun p hp => ⟨?_, Nat.le_trans hp.2 (by omega)⟩) (by omega)
        rcases hp.1 with h | ⟨x', rest, trail, h, hx', hrest⟩
        · exact .inr ⟨x, [], some op, h, hx, by simp⟩
        · exact .inr ⟨x, (op, x') :: rest, trail, h, hx, List.forall_mem_cons.mpr ⟨hx', hrest⟩⟩

theorem parseArgs_step (n : Nat) (ih : StepOK n) (s : List Char) (acc : List Operand) :
    Out (ArgsOK acc) (2 * s.length + 2 ≤ n + 1) (parseArgs (n + 1) s acc) := by
  rw [parseArgs.eq_def]
  simp only
  split
  · next s1 =>
    have ht := trimLeft_length s1
    have hp := ih.expr (trimLeft s1) none
    split
    · next e he => rw [he] at hp; exact hp.err (by simp only [List.length_cons]; omega)
    · next t s2 he =>
      rw [he] at hp
      obtain ⟨hP, h1⟩ : Parsed none t ∧ s2.length ≤ (trimLeft s1).length := hp
      have h2 := trimLeft_length s2
      obtain ⟨first, ts, _, hs, hq1, hq2⟩ := parsed_sorted hP
      rw [hs]
      have hcons : ∀ gs, acc = gs.map argNode → GoodArgs gs →
          groupNode (specParse first ts) none none :: acc = ((first, ts) :: gs).map argNode ∧ GoodArgs ((first, ts) :: gs) :=
        fun gs hacc hg => ⟨by rw [hacc]; rfl, hg.cons hq1 hq2⟩
      refine of_ite (fun gs hacc hg => ?_) ((ih.args _ _).mono (fun as h gs hacc hg => ?_)
        (by simp only [List.length_cons]; omega))
      · exact ⟨((first, ts) :: gs).reverse, (hcons gs hacc hg).2.reverse, by rw [(hcons gs hacc hg).1, List.map_reverse]⟩
      · exact h _ (hcons gs hacc hg).1 (hcons gs hacc hg).2
  · trivial

/-- The alternatives of `readOperand` in source order.  Whatever is read recursively (the content of a group, the
argument of `regexp`, the arguments of a function) lies inside a pair of brackets found by `readPaired`, hence is at least
two characters shorter than `s`; every alternative leaves no more than `getBoolSign` or `getOpposite` left. -/
theorem readOperand_step (n : Nat) (ih : StepOK n) (s : List Char) :
    Out (fun p => Built false p.1 ∧ p.2.length ≤ s.length) (2 * s.length + 1 ≤ n + 1) (readOperand (n + 1) s) := by
  have hl := getBoolSign_length s
  rw [readOperand.eq_def]
  simp only
  generalize getBoolSign s = g at hl ⊢
  obtain ⟨last, bo, so⟩ := g
  simp only at hl ⊢
  split
  · trivial
  · next heq => exact ⟨.selector _ _ _, findSelector_length heq⟩
  · refine of_ite trivial ?_
    split
    · next sub rest hrp =>
      have h1 := readPaired_length hrp
      have hp := ih.expr sub none
      split
      · next e he => rw [he] at hp; exact hp.err (by omega)
      · next t s2 he =>
        rw [he] at hp
        obtain ⟨first, ts, _, hs, hq1, hq2⟩ := parsed_sorted hp.1
        rw [hs]
        exact ⟨.group first ts _ _ hq1 hq2, by dsimp only; omega⟩
    · refine of_ite trivial (of_ite ?regexp (of_ite ?func ?literal))
      case regexp =>
        have hd : (last.drop 6).length ≤ last.length := by rw [List.length_drop]; omega
        split
        · trivial
        · next sub rest hrp =>
          have h1 := readPaired_length hrp
          have h3 := trimLeft_length sub
          split
          · trivial
          · next pat sub2 hrp2 =>
            have h2 := readPaired_length hrp2
            have h4 := trimLeft_length sub2
            split
            · trivial
            · next re _ =>
              split
              · trivial
              · next e _ he =>
                split at he
                · next sub3 hc =>
                  have hp := ih.expr (trimLeft sub3) none
                  have h5 := trimLeft_length sub3
                  rw [hc, List.length_cons] at h4
                  rw [he] at hp
                  exact hp.err (by omega)
                · cases he
              · next t sub4 he =>
                -- the argument: an expression after a comma, or the field itself
                have hparsed : Parsed none t := by
                  split at he
                  · next sub3 _ =>
                    have hp := ih.expr (trimLeft sub3) none
                    rw [he] at hp
                    exact hp.1
                  · cases he
                    exact .inr ⟨selectorNode "" none none, [], none, rfl, Built.selector _ _ _, by simp⟩
                split
                · trivial
                · obtain ⟨first, ts, _, hs, hq1, hq2⟩ := parsed_sorted hparsed
                  rw [hs]
                  exact ⟨.regexp re _ first ts hq1 hq2, by dsimp only; omega⟩
      case func =>
        split
        · trivial
        · next sub rest hrp =>
          have h1 := readPaired_length hrp
          rw [List.length_drop] at h1
          have ha := ih.args (',' :: sub) []
          split
          · trivial
          · next e _ he => rw [he] at ha; exact ha.err (by simp only [List.length_cons]; omega)
          · next args he =>
            rw [he] at ha
            obtain ⟨gs, hg, rfl⟩ := ha [] rfl ⟨nofun, nofun⟩
            exact ⟨.func _ gs _ _ hg.1 hg.2, by dsimp only; omega⟩
      case literal =>
        have hb := getOpposite_length s '!'
        have hdrop : ∀ k, ((getOpposite s '!').1.drop k).length ≤ s.length := fun k => by rw [List.length_drop]; omega
        split
        · next str rest hrp =>
          have := readPaired_length hrp
          exact ⟨.const _ _, by dsimp only; omega⟩
        · split
          · next neg ip fp rest hrd =>
            have := readDigits_length hrd
            exact ⟨.const _ _, by dsimp only; omega⟩
          · refine of_ite ⟨.const _ _, hdrop 4⟩ (of_ite ⟨.const _ _, hdrop 5⟩ (of_ite ⟨.const _ _, hdrop 3⟩ ?_))
            split
            · have := length_dropWhile_le' isIdentChar (getOpposite s '!').1
              exact of_ite ⟨.const _ _, by dsimp only; omega⟩ trivial
            · trivial

theorem stepOK : ∀ n, StepOK n
  | 0 => ⟨fun _ _ => by rw [parseExprNode.eq_def]; exact fun h => by omega,
      fun _ => by rw [readOperand.eq_def]; exact fun h => by omega,
      fun _ _ => by rw [parseArgs.eq_def]; exact fun h => by omega⟩
  | n + 1 =>
    have ih := stepOK n
    ⟨parseExprNode_step n ih, readOperand_step n ih, parseArgs_step n ih⟩

/-- what the three functions return, for one amount of fuel -/
structure ParserOK (n : Nat) : Prop where
  expr : ∀ s cur, ResOK (fun p => Parsed cur p.1) (parseExprNode n s cur)
  operand : ∀ s, ResOK (fun p => Built false p.1) (readOperand n s)
  args : ∀ s gs, GoodArgs gs →
    ResOK (fun as => ∃ gs', GoodArgs gs' ∧ as = gs'.map argNode) (parseArgs n s (gs.map argNode))

theorem parserOK (n : Nat) : ParserOK n :=
  ⟨fun s cur => ((stepOK n).expr s cur).resOK fun _ h => h.1, fun s => ((stepOK n).operand s).resOK fun _ h => h.1,
    fun s gs hg => ((stepOK n).args s _).resOK fun _ h => h gs rfl hg⟩

/-- … and that the fuel is enough for them -/
structure FuelOK (n : Nat) : Prop where
  expr : ∀ s cur, 2 * s.length + 2 ≤ n → NoFuel (fun p => p.2.length ≤ s.length) (parseExprNode n s cur)
  operand : ∀ s, 2 * s.length + 1 ≤ n → NoFuel (fun p => p.2.length ≤ s.length) (readOperand n s)
  args : ∀ s acc, 2 * s.length + 2 ≤ n → NoFuel (fun _ => True) (parseArgs n s acc)

theorem fuelOK (n : Nat) : FuelOK n :=
  ⟨fun s cur hn => ((stepOK n).expr s cur).noFuel hn fun _ h => h.2,
    fun s hn => ((stepOK n).operand s).noFuel hn fun _ h => h.2,
    fun s acc hn => ((stepOK n).args s acc).noFuel hn fun _ _ => trivial⟩

theorem SeqOK.no_none {α : Type} {first : Option α} {ts : List (Op × Option α)} (h : SeqOK true first ts) :
    none ∉ seqOperands first ts := by
  cases h with
  | empty h => cases h
  | chain a rest => simp [seqOperands, toks]
  | trailing a rest o h => cases h

/-- `groupExprNode.Run` on a compiled sub-expression -/
theorem compiled_run_safe {P : String → Prop} {full : Bool} (hn : full = false → P "nil.Run") (env : Env)
    {first : Option Operand} {ts : List (Op × Option Operand)} (hs : SeqOK full first ts)
    (hl : ∀ o, some o ∈ seqOperands first ts → Safe P (o.run env)) (bo so : Option Bool) :
    Safe P (groupRun (specParse first ts) bo so env) := by
  refine groupRun_safe bo so fun _ => evalTree_safe_ops env _ (fun h => ?_) (by rw [operands_specParse]; exact hl)
  rw [operands_specParse] at h
  cases full with
  | true => exact absurd h hs.no_none
  | false => exact hn rfl

/-- the `Run` method of every operand node of the language panics at most at the missing-operand
site, and nowhere when no operand is missing -/
theorem built_run_safe {P : String → Prop} {full : Bool} (hn : full = false → P "nil.Run") (env : Env)
    {o : Operand} (h : Built full o) : Safe P (o.run env) := by
  induction h with
  | const sh v => exact constNode_safe env sh v
  | selector f bo so => exact selectorNode_safe env f bo so
  | group first ts bo so hs _ ih => exact compiled_run_safe hn env hs ih bo so
  | func name gs bo so hs _ ih =>
    refine funcNode_safe env name _ bo so (fun a ha => ?_)
    obtain ⟨g, hg, rfl⟩ := List.mem_map.mp ha
    exact compiled_run_safe hn env (hs g hg) (ih g hg) none none
  | regexp re neg first ts hs _ ih =>
    exact regexpNode_safe env re neg _ (compiled_run_safe hn env hs ih none none)

theorem parseExprNode_parsed (n : Nat) (s : List Char) {t : Node} {r : List Char}
    (h : parseExprNode n s none = .ok (t, r)) : Parsed none t :=
  ((parserOK n).expr s none).ok_of h

theorem parseExpr_ok (s : List Char) : ResOK (Compiled false) (parseExpr s) := by
  unfold parseExpr
  have hp := (parserOK (4 * s.length + 8)).expr s none
  split
  · next e he => rw [he] at hp; exact hp.err
  · next t r he => rw [he] at hp; exact liftSort_parsed hp

/-- the parser never panics (`leftOperandToParent` is never reached with a missing right operand) -/
theorem parseExpr_no_fault (s : List Char) (f : Fault) : parseExpr s ≠ .error (.fault f) :=
  (parseExpr_ok s).not_fault f

theorem liftSort_noFuel (t : Node) : NoFuel (fun _ => True) (liftSort t) := by
  unfold liftSort
  split
  · trivial
  · next heq => exact absurd heq (sortLoop_fuel _ t (Nat.lt_succ_self _))
  · trivial

theorem compiled_safe {P : String → Prop} {full : Bool} (hn : full = false → P "nil.Run") (env : Env) {t : Node}
    (hc : Compiled full t) : Safe P (groupRun t none none env) := by
  obtain ⟨first, ts, rfl, hs, hb⟩ := hc
  exact compiled_run_safe hn env hs (fun o ho => built_run_safe hn env (hb o ho)) none none

/-- `Validate` panics only where `Run` on the compiled tree does -/
theorem validate_panic {expr : List Char} {env : Env} {site : String} (h : (validate expr env).1 = .panic site) :
    ∃ t, parseExpr expr = .ok t ∧ groupRun t none none env = .error (.fault (.panic site)) := by
  unfold validate at h
  split at h
  · cases h
  · cases h
  · cases h
  · next he => exact absurd he (parseExpr_no_fault expr _)
  · next t he =>
    refine ⟨t, he, ?_⟩
    split at h
    · next he' => cases h; exact he'
    · cases h
    · cases h
    · split at h <;> cases h

/-! ## expressions without a missing operand

The rendering `shapeOf` (the string the correspondence check compares with the tree the real
`parseExpr` built) shows a missing operand as `~`, at every depth. -/

theorem mem_intersperse_of_mem {α : Type} (sep : α) : ∀ (xs : List α) (a : α), a ∈ xs → a ∈ xs.intersperse sep
  | [x], a, h => by simpa using h
  | x :: y :: zs, a, h => by
    rw [List.intersperse_cons_cons]
    rcases List.mem_cons.mp h with rfl | h
    · simp
    · exact List.mem_cons_of_mem _ (List.mem_cons_of_mem _ (mem_intersperse_of_mem sep (y :: zs) a h))

theorem mem_intercalate {α : Type} (sep : List α) (xs : List (List α)) (a : List α) (c : α) (ha : a ∈ xs)
    (hc : c ∈ a) : c ∈ sep.intercalate xs := by
  unfold List.intercalate
  exact List.mem_flatten.mpr ⟨a, mem_intersperse_of_mem sep xs a ha, hc⟩

def ShowsMissing (sh : String) : Prop := '~' ∈ sh.toList

instance (sh : String) : Decidable (ShowsMissing sh) := by unfold ShowsMissing; infer_instance

theorem showsMissing_append (a b : String) : ShowsMissing (a ++ b) ↔ ShowsMissing a ∨ ShowsMissing b := by
  unfold ShowsMissing
  rw [String.toList_append, List.mem_append]

theorem showsMissing_mid {a b c : String} (h : ¬ ShowsMissing (a ++ b ++ c)) : ¬ ShowsMissing b := by
  simp only [showsMissing_append, not_or] at h
  exact h.1.2

theorem shape_complete (t : Node) : ¬ ShowsMissing (shapeOf t) →
    none ∉ operands t ∧ ∀ o, some o ∈ operands t → ¬ ShowsMissing o.shape := by
  induction t with
  | nil => exact fun h => absurd (show ShowsMissing "~" by decide) h
  | leaf a =>
    intro h
    refine ⟨by simp [operands], fun o ho => ?_⟩
    rw [operands, List.mem_singleton, Option.some.injEq] at ho
    exact ho ▸ h
  | node op l r ihl ihr =>
    intro h
    rw [shapeOf] at h
    simp only [showsMissing_append, not_or] at h
    have hl := ihl h.1.1.1.2
    have hr := ihr h.1.2
    simp only [operands, List.mem_append, not_or]
    exact ⟨⟨hl.1, hr.1⟩, fun o ho => ho.elim (hl.2 o) (hr.2 o)⟩

theorem SeqOK.full_of_no_none {α : Type} {first : Option α} {ts : List (Op × Option α)}
    (h : SeqOK false first ts) (hn : none ∉ seqOperands first ts) : SeqOK true first ts := by
  cases h with
  | empty _ => simp [seqOperands] at hn
  | chain a rest => exact .chain a rest
  | trailing a rest o _ => simp [seqOperands] at hn

theorem compiled_complete_aux {first : Option Operand} {ts : List (Op × Option Operand)}
    (hs : SeqOK false first ts)
    (ih : ∀ o, some o ∈ seqOperands first ts → ¬ ShowsMissing o.shape → Built true o)
    (hsh : ¬ ShowsMissing (shapeOf (specParse first ts))) :
    SeqOK true first ts ∧ ∀ o, some o ∈ seqOperands first ts → Built true o := by
  have h := shape_complete _ hsh
  rw [operands_specParse] at h
  exact ⟨hs.full_of_no_none h.1, fun o ho => ih o ho (h.2 o ho)⟩

theorem built_complete {o : Operand} (h : Built false o) : ¬ ShowsMissing o.shape → Built true o := by
  induction h with
  | const sh v => exact fun _ => .const sh v
  | selector f bo so => exact fun _ => .selector f bo so
  | group first ts bo so hs _ ih =>
    intro hsh
    have hsh' : ¬ ShowsMissing ("G[" ++ shapeOf (specParse first ts) ++ "]") := hsh
    obtain ⟨h1, h2⟩ := compiled_complete_aux hs ih (showsMissing_mid hsh')
    exact .group first ts bo so h1 h2
  | func name gs bo so hs _ ih =>
    intro hsh
    have hsh' : ¬ ShowsMissing ("F[" ++ ";".intercalate ((gs.map argNode).map (·.shape)) ++ "]") := hsh
    have hmid := showsMissing_mid hsh'
    have hg : ∀ g ∈ gs, ¬ ShowsMissing (shapeOf (specParse g.1 g.2)) := by
      intro g hg hc
      apply hmid
      unfold ShowsMissing at hc ⊢
      rw [String.toList_intercalate]
      refine mem_intercalate _ _ ("G[" ++ shapeOf (specParse g.1 g.2) ++ "]").toList _ ?_ ?_
      · refine List.mem_map.mpr ⟨_, List.mem_map.mpr ⟨_, List.mem_map.mpr ⟨g, hg, rfl⟩, rfl⟩, rfl⟩
      · simp only [String.toList_append, List.mem_append]
        exact .inl (.inr hc)
    exact .func name gs bo so (fun g hg' => (compiled_complete_aux (hs g hg') (ih g hg') (hg g hg')).1)
      (fun g hg' => (compiled_complete_aux (hs g hg') (ih g hg') (hg g hg')).2)
  | regexp re neg first ts hs _ ih =>
    intro hsh
    have hsh' : ¬ ShowsMissing ("R[" ++ ("G[" ++ shapeOf (specParse first ts) ++ "]") ++ "]") := hsh
    obtain ⟨h1, h2⟩ := compiled_complete_aux hs ih (showsMissing_mid (showsMissing_mid hsh'))
    exact .regexp re neg first ts h1 h2

theorem compiled_complete {t : Node} (h : Compiled false t) (hsh : ¬ ShowsMissing (shapeOf t)) : Compiled true t := by
  obtain ⟨first, ts, rfl, hs, hb⟩ := h
  obtain ⟨h1, h2⟩ := compiled_complete_aux hs (fun o ho => built_complete (hb o ho)) hsh
  exact ⟨first, ts, rfl, h1, h2⟩

theorem validate_no_panic_of_compiled (expr : List Char) (env : Env) (t : Node) (he : parseExpr expr = .ok t)
    (hc : Compiled true t) (site : String) : (validate expr env).1 ≠ .panic site := by
  intro h
  obtain ⟨t', he', hr⟩ := validate_panic h
  cases he.symm.trans he'
  exact (compiled_safe (P := fun _ => False) (full := true) nofun env hc).h _ hr

end Hertz.Tagexpr
