import Hertz.Proofs.Resp
import Hertz.Proofs.Dec
import Hertz.Proofs.ReqOwsLine
/-!
The strict decoder `Spec.Http.decodeOne` on what the request writer writes.  Three facts shared with the response side
stand with their subjects: hertz's "valid field name" is the decoder's token (`validName_tchar`, Proofs/HeaderWrite), a block
`appendHeaderLine` writes is the spelling `name ": " value` of its fields (`block_spell_of`, Proofs/FieldLine), the chunks
of `WriteBodyChunked` are `WChunk`s (`writer_chunks`, Proofs/Resp).  Behind a request line and a block in any accepted spelling the decoder is at `afterHead`, the framing
decision (`decodeOne_lines`, also under the C01 round trip); `decodes` reads a written head and body by the framing datum
`Framed`.  The request writer model is `HW.ReqHdr.bytes` followed by `ReqBody.wire` (`reqWire`); `request_decodes` is the
strict-decoder half of the C11 request side.
-/
namespace Hertz.ReqDecodes
open Hertz Hertz.Gen.Str Hertz.Spec.Http

def blank (c : UInt8) : Bool := c == 32 || c == 9

/-- a value with no optional white space at either end -/
def trimmed (v : Bytes) : Bool := trimOWS v == v

theorem trimOWS_of_trimmed (v : Bytes) (h : trimmed v = true) : trimOWS v = v := by
  simpa [trimmed] using h

theorem trimOWS_noblank (b : Bytes) (h : ∀ x ∈ b, blank x = false) : trimOWS b = b :=
  H1.strip_clean b h

theorem vchar_id (c : UInt8) (h : isFieldVchar c = true) : tget Gen.newlineToSpaceTable c = c := by
  have h13 : c ≠ 13 := by rintro rfl; exact absurd h (by decide)
  have h10 : c ≠ 10 := by rintro rfl; exact absurd h (by decide)
  rw [newlineToSpaceTable_eq, if_neg (by simp [h10, h13])]

theorem token_ne_nil (k : Bytes) (h : isToken k = true) : k ≠ [] := (H1.RT.token_facts k h).1

theorem newlineToSpace_vchar : ∀ (v : Bytes), v.all isFieldVchar = true → HW.newlineToSpace v = v
  | [], _ => rfl
  | c :: t, h => by
    simp only [List.all_cons, Bool.and_eq_true] at h
    have ih := newlineToSpace_vchar t h.2
    simp only [HW.newlineToSpace, List.map_cons] at ih ⊢
    rw [ih, vchar_id c h.1]

def wfField (kv : Bytes × Bytes) : Bool := isToken kv.1 && kv.2.all isFieldVchar && trimmed kv.2

/-- every name a token, every value made of field characters with no blank at either end: what the STRICT decoder returns
as written (`H1.RT.wfFields dn` of `Proofs/RespRoundtrip.lean` is the condition for hertz's own response reader) -/
def wfFields (F : List (Bytes × Bytes)) : Bool := F.all wfField

theorem wfField_iff {kv : Bytes × Bytes} :
    wfField kv = true ↔ isToken kv.1 = true ∧ kv.2.all isFieldVchar = true ∧ trimmed kv.2 = true := by
  simp only [wfField, Bool.and_eq_true, and_assoc]

theorem headerLine_wf (kv : Bytes × Bytes) (h : wfField kv = true) :
    HW.headerLine kv = kv.1 ++ 58 :: 32 :: (kv.2 ++ [13, 10]) := by
  obtain ⟨hk, hv, _⟩ := wfField_iff.1 h
  simp [HW.headerLine, token_validName _ hk, newlineToSpace_vchar _ hv, HW.strCRLF_eq, HW.strColonSpace_eq]

theorem block_spell (F : List (Bytes × Bytes)) (rest : Bytes) (hF : wfFields F = true) :
    HW.block F ++ rest = H1.RT.encFLines (F.map H1.RT.spell) ++ 13 :: 10 :: rest :=
  block_spell_of F rest fun kv hkv => headerLine_wf kv (List.all_eq_true.mp hF kv hkv)

/-- the spelled lines are lines the strict decoder accepts, and it reads each as the field it spells -/
theorem spell_wf {F : List (Bytes × Bytes)} (hF : wfFields F = true) :
    (∀ f ∈ F.map H1.RT.spell, H1.RT.wfFLine f = true) ∧ (F.map H1.RT.spell).map H1.RT.sField = F := by
  have h := fun kv hkv => wfField_iff.1 (List.all_eq_true.mp hF kv hkv)
  constructor
  · intro f hf
    obtain ⟨kv, hkv, rfl⟩ := List.mem_map.mp hf
    simp [H1.RT.wfFLine, H1.RT.spell, (h kv hkv).1, (h kv hkv).2.1, isFieldVchar]
  · rw [List.map_map]
    conv => rhs; rw [← List.map_id F]
    exact List.map_congr_left fun kv hkv => by
      simp [H1.RT.sField, H1.RT.sval, H1.RT.spell, trimOWS_space, trimOWS_of_trimmed _ (h kv hkv).2.2]

theorem fieldsAux_block_self (F : List (Bytes × Bytes)) (rest : Bytes) (hF : wfFields F = true) :
    fieldsAux ((HW.block F ++ rest).length + 1) (HW.block F ++ rest) [] = some (F, rest) := by
  rw [block_spell F rest hF, H1.RT.fieldsAux_encO _ [] rest _ (by
      simp only [List.length_append]; omega) (spell_wf hF).1, (spell_wf hF).2]
  rfl

theorem hexDigitVal_eq : hexDigitVal = Spec.Resp.hexVal := rfl
theorem trimOWS_writeHexInt (n : Nat) (h : n < 16 ^ 16) : trimOWS (H1.Resp.writeHexInt n) = H1.Resp.writeHexInt n :=
  trimOWS_noblank _ fun x hx => by
    have := hexDigitVal_clean x (parseHex_digits _ n (parseHex_writeHexInt n h) x hx)
    simp [blank, this.2.2.1, this.2.2.2]

theorem chunksAux_encode (cs : List Bytes) (X acc : Bytes) (fuel : Nat) (hc : ∀ c ∈ cs, c ≠ [] ∧ c.length < 16 ^ 15)
    (hf : cs.length < fuel) :
    chunksAux fuel (H1.Resp.encodeChunks cs ++ H1.Resp.writeChunk [] ++ X) acc = some (acc ++ cs.flatten, X) := by
  obtain ⟨h1, h2, h3⟩ := writer_chunks cs hc
  have := H1.Stream.spec_decodes [48] 0 X (by decide) (by decide) _ fuel acc h3 (by simpa using Nat.succ_le_of_lt hf)
  rw [h1, h2] at this
  simpa [H1.Resp.writeChunk_nil, H1.Stream.sizeLine] using this

/-- the message head the request writer produces from a method, a target and a field list -/
def head (method target : Bytes) (F : List (Bytes × Bytes)) : Bytes :=
  method ++ [32] ++ target ++ [32] ++ strHTTP11 ++ strCRLF ++ HW.block F

theorem head_eq (method target : Bytes) (F : List (Bytes × Bytes)) (Y : Bytes) :
    head method target F ++ Y = (method ++ 32 :: (target ++ 32 :: sHTTP11)) ++ 13 :: 10 :: (HW.block F ++ Y) := by
  simp [head, HW.strCRLF_eq, strHTTP11_eq, List.append_assoc]

/-- the framing decision and body extraction of `decodeOne`, after the head has been read -/
def afterHead (method target : Bytes) (fields : List (Bytes × Bytes)) (fc : Bool) (rest : Bytes) :
    Option (Req × Bytes) := do
  match lookupAll fields sContentLength, lookupAll fields sTransferEncoding with
  | [], [] => pure ({ method, target, fields, body := [], trailers := [], foldedColon := fc }, rest)
  | cl :: more, [] =>
    if !more.all (· == cl) then none
    let n ← parseDec cl
    if rest.length < n then none
    pure ({ method, target, fields, body := rest.take n, trailers := [], foldedColon := fc }, rest.drop n)
  | [], [te] =>
    if lowerAll te != sChunked then none
    let (body, rest) ← chunksAux (rest.length + 1) rest []
    let (trailers, rest) ← fieldsAux (rest.length + 1) rest []
    pure ({ method, target, fields, body, trailers, foldedColon := fc }, rest)
  | _, _ => none

/-- the strict decoder behind a request line and a block of field lines in any accepted spelling (values `sval`) -/
theorem decodeOne_lines (method target : Bytes) (fs : List H1.RT.FLine) (Y : Bytes)
    (hm : isToken method = true) (ht : validTarget target = true) (hf : ∀ f ∈ fs, H1.RT.wfFLine f = true) :
    decodeOne ((method ++ 32 :: (target ++ 32 :: sHTTP11)) ++ 13 :: 10 :: (H1.RT.encFLines fs ++ 13 :: 10 :: Y)) =
      afterHead method target (fs.map H1.RT.sField) false Y := by
  unfold decodeOne afterHead
  rw [crlfLine_append _ _ (startLine_clean method target hm ht)]
  simp only [bind, Option.bind]
  rw [splitAt1_append 32 method _ (fun x hx => (token_clean _ hm x hx).2.2.2.1)]
  simp only
  rw [splitAt1_append 32 target _ (fun x hx => (target_clean _ ht x hx).2.2)]
  simp only
  have ht' := ht
  simp only [validTarget, Bool.and_eq_true, Bool.not_eq_true'] at ht'
  rw [H1.RT.fieldsAux_encO fs [] Y _ (by
      simp only [List.length_append, List.length_cons]; omega) hf, H1.RT.hasFoldedColon_encO fs Y hf]
  simp only [hm, ht'.1, ht'.2, bne_self_eq_false, Bool.not_true, Bool.or_self, Bool.false_eq_true, if_false]
  rfl

theorem decodeOne_head (method target : Bytes) (F : List (Bytes × Bytes)) (Y : Bytes)
    (hm : isToken method = true) (ht : validTarget target = true) (hF : wfFields F = true) :
    decodeOne (head method target F ++ Y) = afterHead method target F false Y := by
  rw [head_eq, block_spell F Y hF, decodeOne_lines _ _ _ Y hm ht (spell_wf hF).1, (spell_wf hF).2]

/-- every piece of the body stream is shorter than 16^15 bytes (its size line has at most 15 hex digits) -/
def readsOk (reads : List Bytes) : Bool := reads.all (fun r => decide (r.length < 16 ^ 15))

theorem chunksAux_chunkedWire (reads : List Bytes) (tr : List (Bytes × Bytes)) (rest : Bytes)
    (hr : readsOk reads = true) :
    chunksAux ((H1.Resp.chunkedWire reads tr ++ rest).length + 1) (H1.Resp.chunkedWire reads tr ++ rest) [] =
      some (reads.flatten, HW.block tr ++ rest) := by
  rw [chunkedWire_append, chunksAux_encode _ _ [] _
    (H1.Resp.filter_nonempty_bound reads fun c hc => by simpa using List.all_eq_true.mp hr c hc),
    List.flatten_filter_not_isEmpty]
  · rfl
  · have := H1.Resp.encodeChunks_length (reads.filter (fun r => !r.isEmpty))
    simp only [List.length_append]; omega

/-- what the client application asked to send as body -/
inductive ReqBody where
  | none                                                        -- no body, no framing field
  | fixed (b : Bytes)                                           -- body bytes / stream of known length: Content-Length
  | chunked (reads : List Bytes) (tr : List (Bytes × Bytes))    -- stream of unknown length: chunked, then the trailer fields
deriving Repr, DecidableEq

def ReqBody.wire : ReqBody → Bytes
  | .none => []
  | .fixed b => b
  | .chunked reads tr => H1.Resp.chunkedWire reads tr

def ReqBody.content : ReqBody → Bytes
  | .none => []
  | .fixed b => b
  | .chunked reads _ => reads.flatten

def ReqBody.trailers : ReqBody → List (Bytes × Bytes)
  | .chunked _ tr => tr
  | _ => []

/-- what the framing fields say of the body: nothing; one `Content-Length` holding its length; or one
`Transfer-Encoding: chunked`, pieces whose size lines the reader accepts and well-formed trailer fields -/
def Framed (F : List (Bytes × Bytes)) : ReqBody → Prop
  | .none => lookupAll F sContentLength = [] ∧ lookupAll F sTransferEncoding = []
  | .fixed body => (∃ cl, lookupAll F sContentLength = [cl] ∧ parseDec cl = some body.length) ∧
      lookupAll F sTransferEncoding = []
  | .chunked reads tr => lookupAll F sContentLength = [] ∧
      (∃ te, lookupAll F sTransferEncoding = [te] ∧ lowerAll te = sChunked) ∧ readsOk reads = true ∧ wfFields tr = true

/-- the strict decoder on a written head followed by the body as `req.Write` encodes it: the body is what was meant,
the trailer fields come back as written, what follows is left over -/
theorem decodes (method target : Bytes) (F : List (Bytes × Bytes)) (b : ReqBody) (rest : Bytes)
    (hm : isToken method = true) (ht : validTarget target = true) (hF : wfFields F = true) (hfr : Framed F b) :
    decodeOne (head method target F ++ b.wire ++ rest) =
      some ({ method, target, fields := F, body := b.content, trailers := b.trailers, foldedColon := false }, rest) := by
  rw [List.append_assoc, decodeOne_head method target F _ hm ht hF]
  cases b with
  | none =>
    simp only [afterHead, hfr.1, hfr.2]
    rfl
  | fixed body =>
    obtain ⟨⟨cl, hcl, hn⟩, hte⟩ := hfr
    simp only [afterHead, hcl, hte, hn, ReqBody.wire]
    simp [ReqBody.content, ReqBody.trailers]
  | chunked reads tr =>
    obtain ⟨hcl, ⟨te, hte, hch⟩, hr, htr⟩ := hfr
    simp only [afterHead, hcl, hte, hch, bne_self_eq_false, Bool.false_eq_true, if_false, bind, Option.bind, ReqBody.wire]
    rw [chunksAux_chunkedWire reads tr rest hr]
    simp only
    rw [fieldsAux_block_self tr rest htr]
    rfl

def reqTarget (r : HW.ReqHdr) : Bytes := if r.uri.isEmpty then strSlash else r.uri

/-- method a token (or unset: GET is written), request URI a valid target (or unset: `/` is written),
all field lines well formed -/
def wfReq (r : HW.ReqHdr) : Bool :=
  (r.method.isEmpty || isToken r.method) && (r.uri.isEmpty || validTarget r.uri) && wfFields r.fields

theorem wfReq_method (r : HW.ReqHdr) (h : wfReq r = true) : isToken r.methodOrGet = true := by
  simp only [wfReq, Bool.and_eq_true, Bool.or_eq_true] at h
  unfold HW.ReqHdr.methodOrGet
  cases he : r.method.isEmpty
  · simpa [he] using h.1.1
  · simp only [if_true]; decide

theorem wfReq_target (r : HW.ReqHdr) (h : wfReq r = true) : validTarget (reqTarget r) = true := by
  simp only [wfReq, Bool.and_eq_true, Bool.or_eq_true] at h
  unfold reqTarget
  cases he : r.uri.isEmpty
  · simpa [he] using h.1.2
  · simp only [if_true]; decide

/-- /repo 910b0dd: method and target go through `appendRequestLinePart`, which leaves a token and a valid target alone -/
theorem reqhdr_bytes_eq (r : HW.ReqHdr) (hw : wfReq r = true) : r.bytes = head r.methodOrGet (reqTarget r) r.fields := by
  have hm : HW.reqLinePart r.methodOrGet = r.methodOrGet :=
    HW.reqLinePart_id _ (fun x hx => by
      have := token_clean _ (wfReq_method r hw) x hx
      simp [HW.lineSpecial, this.1, this.2.1, this.2.2])
  have ht : HW.reqLinePart (reqTarget r) = reqTarget r :=
    HW.reqLinePart_id _ (fun x hx => by
      have := target_clean _ (wfReq_target r hw) x hx
      simp [HW.lineSpecial, this.1, this.2.1, this.2.2])
  unfold HW.ReqHdr.bytes HW.ReqHdr.startLine head
  unfold reqTarget at ht ⊢
  rw [hm, ht]

theorem wfReq_fields (r : HW.ReqHdr) (h : wfReq r = true) : wfFields r.fields = true := by
  simp only [wfReq, Bool.and_eq_true] at h
  exact h.2

/-- nothing is dropped or rewritten by `appendHeaderLine` when the fields are well formed -/
theorem kept_wf : ∀ (F : List (Bytes × Bytes)), wfFields F = true → HW.kept F = F
  | [], _ => rfl
  | kv :: F, hw => by
    simp only [wfFields, List.all_cons, Bool.and_eq_true] at hw
    have ih := kept_wf F hw.2
    obtain ⟨hk, hv, _⟩ := wfField_iff.1 hw.1
    simp only [HW.kept] at ih ⊢
    simp [token_validName _ hk, newlineToSpace_vchar _ hv, ih]

theorem reqhdr_kept (r : HW.ReqHdr) (h : wfReq r = true) : HW.kept r.fields = r.fields :=
  kept_wf _ (wfReq_fields r h)

theorem reqhdr_decodes (r : HW.ReqHdr) (b : ReqBody) (rest : Bytes) (hw : wfReq r = true) (hfr : Framed r.fields b) :
    decodeOne (r.bytes ++ b.wire ++ rest) =
      some ({ method := r.methodOrGet, target := reqTarget r, fields := r.fields, body := b.content,
              trailers := b.trailers, foldedColon := false }, rest) := by
  rw [reqhdr_bytes_eq r hw]
  exact decodes _ _ _ b rest (wfReq_method r hw) (wfReq_target r hw) (wfReq_fields r hw) hfr

theorem lookupAll_append (A B : List (Bytes × Bytes)) (n : Bytes) :
    lookupAll (A ++ B) n = lookupAll A n ++ lookupAll B n := by
  simp [lookupAll]

theorem lookupAll_unless (c : Bool) (k v n : Bytes) (h : (lowerAll k == n) = false) :
    lookupAll (if c = true then [] else [(k, v)]) n = [] := by
  cases c <;> simp [lookupAll, h]

theorem lookupAll_when (c : Bool) (k v n : Bytes) (h : (lowerAll k == n) = false) :
    lookupAll (if c = true then [(k, v)] else []) n = [] := by
  cases c <;> simp [lookupAll, h]

theorem lookupAll_reqfields_cl (r : HW.ReqHdr) :
    lookupAll r.fields sContentLength =
      (if r.clBytes.isEmpty then [] else [r.clBytes]) ++ lookupAll r.h sContentLength := by
  unfold HW.ReqHdr.fields
  simp only [lookupAll_append]
  rw [lookupAll_unless _ strUserAgent _ _ (by decide), lookupAll_unless _ strHost _ _ (by decide),
    lookupAll_unless _ strContentType _ _ (by decide), lookupAll_unless _ strTrailer _ _ (by decide),
    lookupAll_unless _ strCookie _ _ (by decide), lookupAll_when _ strConnection _ _ (by decide)]
  cases r.clBytes.isEmpty <;> simp [lookupAll, show (lowerAll strContentLength == sContentLength) = true by decide]

theorem lookupAll_reqfields_te (r : HW.ReqHdr) :
    lookupAll r.fields sTransferEncoding = lookupAll r.h sTransferEncoding := by
  unfold HW.ReqHdr.fields
  simp only [lookupAll_append]
  rw [lookupAll_unless _ strUserAgent _ _ (by decide), lookupAll_unless _ strHost _ _ (by decide),
    lookupAll_unless _ strContentType _ _ (by decide), lookupAll_unless _ strContentLength _ _ (by decide),
    lookupAll_unless _ strTrailer _ _ (by decide),
    lookupAll_unless _ strCookie _ _ (by decide), lookupAll_when _ strConnection _ _ (by decide)]
  simp

/-- the request writer model: `RequestHeader.AppendBytes`, then the body as `req.Write` encodes it -/
def reqWire (r : HW.ReqHdr) (b : ReqBody) : Bytes := r.bytes ++ b.wire

/-- well-formed request: token method, visible-ASCII target, token field names, clean trimmed values
(`wfReq`), no framing field among the free-form fields except `Transfer-Encoding: chunked` for a
chunked body, `Content-Length` bytes = decimal body length for a fixed body, stream pieces below
`16^15` bytes and well-formed trailer fields for a chunked one (the bound and `trimmed` cannot go:
`sizeLine_16digits_refused`, `untrimmed_value_differs`) -/
structure WfRequest (r : HW.ReqHdr) (b : ReqBody) : Prop where
  hdr : wfReq r = true
  noCL : lookupAll r.h sContentLength = []
  framing : match b with
    | .none => r.clBytes = [] ∧ lookupAll r.h sTransferEncoding = []
    | .fixed body => r.clBytes = H1.appendUintDec body.length ∧ lookupAll r.h sTransferEncoding = []
    | .chunked reads tr => r.clBytes = [] ∧ (∃ te, lookupAll r.h sTransferEncoding = [te] ∧ lowerAll te = sChunked) ∧
        readsOk reads = true ∧ wfFields tr = true

/-- **C11 request side, the independent decoder**: what the request writer model emits decodes, with the strict decoder,
to the same method, target, fields, body and trailers, and the decoder stops exactly at the end of the request.  (The
server's own reader on these bytes is compared per case, not proved.) -/
theorem request_decodes (r : HW.ReqHdr) (b : ReqBody) (rest : Bytes) (h : WfRequest r b) :
    decodeOne (reqWire r b ++ rest) =
      some ({ method := r.methodOrGet, target := reqTarget r, fields := r.fields, body := b.content,
              trailers := b.trailers, foldedColon := false }, rest) := by
  obtain ⟨hw, hncl, hf⟩ := h
  refine reqhdr_decodes r b rest hw ?_
  cases b with
  | none => exact ⟨by rw [lookupAll_reqfields_cl, hf.1, hncl]; rfl, by rw [lookupAll_reqfields_te, hf.2]⟩
  | fixed body =>
    have hne : r.clBytes.isEmpty = false := by
      rw [hf.1]; simpa using H1.Dec.appendUintDec_ne_nil body.length
    exact ⟨⟨r.clBytes, by rw [lookupAll_reqfields_cl, hncl, hne]; rfl,
      by rw [hf.1]; exact H1.Dec.specHttp_parseDec_appendUintDec _⟩, by rw [lookupAll_reqfields_te, hf.2]⟩
  | chunked reads tr =>
    obtain ⟨hcl, ⟨te, hte, hch⟩, hr, htr⟩ := hf
    exact ⟨by rw [lookupAll_reqfields_cl, hcl, hncl]; rfl, ⟨te, by rw [lookupAll_reqfields_te, hte], hch⟩, hr, htr⟩

/-- the 16^15 bound is tight: the size line of a 16^15-byte chunk has 16 digits and the strict reader refuses it -/
theorem sizeLine_16digits_refused (X acc : Bytes) (f : Nat) :
    chunksAux (f + 1) (H1.Resp.writeHexInt (16 ^ 15) ++ 13 :: 10 :: X) acc = none := by
  simp only [chunksAux]
  rw [crlfLine_append (H1.Resp.writeHexInt (16 ^ 15)) _ (H1.Resp.writeHexInt_clean _ (by decide))]
  simp only [trimOWS_writeHexInt (16 ^ 15) (by decide)]
  have : (H1.Resp.writeHexInt (16 ^ 15)).length = 16 := by decide
  simp [this]

/-- a value written with a leading blank does not come back as written (optional white space is not part
of a field value): `trimmed` cannot be dropped from `wfFields` -/
theorem untrimmed_value_differs :
    decodeOne (head [71, 69, 84] [47] [([88], [32, 97])]) =
      some ({ method := [71, 69, 84], target := [47], fields := [([88], [97])], body := [], trailers := [],
              foldedColon := false }, []) := by
  decide +kernel

/-! ### the hypotheses can be met -/

/-- `GET /a?b=1 HTTP/1.1`, `Host: a.b`, `X-Y: 1 2` -/
example : decodeOne (head [71, 69, 84] [47, 97, 63, 98, 61, 49] [([72, 111, 115, 116], [97, 46, 98]), ([88, 45, 89], [49, 32, 50])]
      ++ [71, 69, 84, 32]) =
    some ({ method := [71, 69, 84], target := [47, 97, 63, 98, 61, 49],
            fields := [([72, 111, 115, 116], [97, 46, 98]), ([88, 45, 89], [49, 32, 50])],
            body := [], trailers := [], foldedColon := false }, [71, 69, 84, 32]) :=
  by simpa only [ReqBody.wire, ReqBody.content, ReqBody.trailers, List.append_nil] using
    decodes _ _ _ .none _ (by decide +kernel) (by decide +kernel) (by decide +kernel) ⟨by decide +kernel, by decide +kernel⟩

/-- `POST /p HTTP/1.1`, `Host: a.b`, `Content-Type: t/p`, `Content-Length: 3`, body `xyz`, then `G` -/
example : decodeOne (head [80, 79, 83, 84] [47, 112]
        [([72, 111, 115, 116], [97, 46, 98]), ([67, 111, 110, 116, 101, 110, 116, 45, 84, 121, 112, 101], [116, 47, 112]),
         ([67, 111, 110, 116, 101, 110, 116, 45, 76, 101, 110, 103, 116, 104], [51])]
      ++ [120, 121, 122] ++ [71]) =
    some ({ method := [80, 79, 83, 84], target := [47, 112],
            fields := [([72, 111, 115, 116], [97, 46, 98]), ([67, 111, 110, 116, 101, 110, 116, 45, 84, 121, 112, 101], [116, 47, 112]),
              ([67, 111, 110, 116, 101, 110, 116, 45, 76, 101, 110, 103, 116, 104], [51])],
            body := [120, 121, 122], trailers := [], foldedColon := false }, [71]) :=
  decodes _ _ _ (.fixed _) _ (by decide +kernel) (by decide +kernel) (by decide +kernel)
    ⟨⟨[51], by decide +kernel, by decide +kernel⟩, by decide +kernel⟩

/-- `POST /p HTTP/1.1`, `Transfer-Encoding: Chunked`, stream pieces `hi`, ``, `!`, trailer `X-T: ok`, then `G` -/
example : decodeOne (head [80, 79, 83, 84] [47, 112]
        [([84, 114, 97, 110, 115, 102, 101, 114, 45, 69, 110, 99, 111, 100, 105, 110, 103], [67, 104, 117, 110, 107, 101, 100])]
      ++ H1.Resp.chunkedWire [[104, 105], [], [33]] [([88, 45, 84], [111, 107])] ++ [71]) =
    some ({ method := [80, 79, 83, 84], target := [47, 112],
            fields := [([84, 114, 97, 110, 115, 102, 101, 114, 45, 69, 110, 99, 111, 100, 105, 110, 103], [67, 104, 117, 110, 107, 101, 100])],
            body := [104, 105, 33], trailers := [([88, 45, 84], [111, 107])], foldedColon := false }, [71]) :=
  decodes _ _ _ (.chunked _ _) _ (by decide +kernel) (by decide +kernel) (by decide +kernel)
    ⟨by decide +kernel, ⟨[67, 104, 117, 110, 107, 101, 100], by decide +kernel, by decide +kernel⟩, by decide +kernel, by decide +kernel⟩

/-- a header object with nothing set but the host: `GET / HTTP/1.1`, `Host: a.b` -/
def exGet : HW.ReqHdr :=
  { method := [], uri := [], userAgent := [], host := [97, 46, 98], contentType := [], noDefaultContentType := false,
    clBytes := [], h := [], trailer := [], cookies := [], connClose := false }

example : decodeOne (exGet.bytes ++ [71]) =
    some ({ method := [71, 69, 84], target := [47], fields := [([72, 111, 115, 116], [97, 46, 98])],
            body := [], trailers := [], foldedColon := false }, [71]) :=
  by
  have h := reqhdr_decodes exGet .none [71] (by decide +kernel) ⟨by decide +kernel, by decide +kernel⟩
  simp only [ReqBody.wire, List.append_nil] at h
  exact h

/-- `POST /p`, User-Agent `ua`, Host `a.b`, Content-Type `t/p`, Content-Length `3`, a cookie `k=v`, `Connection: close` -/
def exPost : HW.ReqHdr :=
  { method := [80, 79, 83, 84], uri := [47, 112], userAgent := [117, 97], host := [97, 46, 98], contentType := [116, 47, 112],
    noDefaultContentType := false, clBytes := [51], h := [([88, 45, 89], [49, 32, 50])], trailer := [],
    cookies := [([107], [118])], connClose := true }

example : decodeOne (exPost.bytes ++ [120, 121, 122] ++ [71]) =
    some ({ method := [80, 79, 83, 84], target := [47, 112], fields := exPost.fields,
            body := [120, 121, 122], trailers := [], foldedColon := false }, [71]) :=
  reqhdr_decodes exPost (.fixed [120, 121, 122]) [71] (by decide +kernel) ⟨⟨[51], by decide +kernel, by decide +kernel⟩, by decide +kernel⟩

/-- `POST /p`, default content type, `Transfer-Encoding: chunked`, `Trailer: X-T` -/
def exChunked : HW.ReqHdr :=
  { method := [80, 79, 83, 84], uri := [47, 112], userAgent := [], host := [97, 46, 98], contentType := [],
    noDefaultContentType := false, clBytes := [],
    h := [([84, 114, 97, 110, 115, 102, 101, 114, 45, 69, 110, 99, 111, 100, 105, 110, 103], [99, 104, 117, 110, 107, 101, 100])],
    trailer := [[88, 45, 84]], cookies := [], connClose := false }

example : decodeOne (exChunked.bytes ++ H1.Resp.chunkedWire [[104, 105], [], [33]] [([88, 45, 84], [111, 107])] ++ [71]) =
    some ({ method := [80, 79, 83, 84], target := [47, 112], fields := exChunked.fields,
            body := [104, 105, 33], trailers := [([88, 45, 84], [111, 107])], foldedColon := false }, [71]) :=
  reqhdr_decodes exChunked (.chunked _ _) [71] (by decide +kernel)
    ⟨by decide +kernel, ⟨[99, 104, 117, 110, 107, 101, 100], by decide +kernel, by decide +kernel⟩, by decide +kernel, by decide +kernel⟩

theorem appendUintDec_3 : H1.appendUintDec 3 = [51] := by
  rw [H1.Dec.appendUintDec_eq, H1.Dec.decD_lt 3 (by decide)]; rfl

/-- non-vacuity: the three kinds of request -/
example : WfRequest exGet .none := ⟨by decide, by decide, ⟨rfl, by decide⟩⟩
theorem exPost_wf : WfRequest exPost (.fixed [120, 121, 122]) := ⟨by decide +kernel, by decide +kernel, ⟨appendUintDec_3.symm, by decide +kernel⟩⟩
example : WfRequest exPost (.fixed [120, 121, 122]) := exPost_wf
example : WfRequest exChunked (.chunked [[104, 105], [], [33]] [([88, 45, 84], [111, 107])]) :=
  ⟨by decide +kernel, by decide +kernel, ⟨rfl, ⟨[99, 104, 117, 110, 107, 101, 100], by decide +kernel, by decide +kernel⟩, by decide +kernel, by decide +kernel⟩⟩

end Hertz.ReqDecodes
