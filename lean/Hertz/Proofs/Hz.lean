import Hertz.Model.Hz
import Hertz.Spec.Hz
/-!
Lemmas for C16.

Part A (`buildWith_routes`): the tree built by `Update` for a method list carries exactly the declared routes — for
ANY sorting function that permutes its input, so independent of `sort.Sort`'s algorithm.
Part B (`dye_names`): the names `DyeGroupName` hands out are pairwise distinct, hence the group variables of
`Register` are, and in camel style the functions of middleware.go.
Part C: naming does not touch what a route is (`SameRoute`); the snake pass keeps the routes (`snakePass_keeps`).
What `DyeGroupName` keeps is said once, in `dye_pres` (HzDenote, where the tree predicates it speaks of are
defined); `generate_routes` follows it there.

Each monadic function of the model has one lemma saying what a successful run went through (`updateWith_ok`,
`dyeHook_ok`, `dye_ok`, `dyeL_ok`, `snakePass_ok`, `snakePassL_ok`, `generate_ok`); the proofs about a run start
from these.
-/
namespace Hertz.Hz

/-! ## Part A: the route set of the tree -/

mutual
/-- handler nodes below (and including) a node, each with the list of node `Path`s leading to it;
`pre` already contains the node's own path -/
def routesN : List Bytes → Node → List (List Bytes × Info)
  | pre, .mk i cs => (if i.handler.isEmpty then [] else [(pre, i)]) ++ routesL pre cs
def routesL : List Bytes → List Node → List (List Bytes × Info)
  | _, [] => []
  | pre, c :: r => routesN (pre ++ [c.info.path]) c ++ routesL pre r
end

/-- routes of a whole tree (the root's own path `/` is the base of `r.Group("/")`, not a path element) -/
def routes (root : Node) : List (List Bytes × Info) := routesN [] root

theorem routesL_eq (pre : List Bytes) (cs : List Node) :
    routesL pre cs = cs.flatMap (fun c => routesN (pre ++ [c.info.path]) c) := by
  induction cs with
  | nil => simp [routesL]
  | cons c r ih => simp [routesL, ih]

theorem routesN_mk (pre : List Bytes) (i : Info) (cs : List Node) :
    routesN pre (.mk i cs) = (if i.handler.isEmpty then [] else [(pre, i)]) ++
      cs.flatMap (fun c => routesN (pre ++ [c.info.path]) c) := by
  rw [routesN, routesL_eq]

theorem routesL_perm (pre : List Bytes) {a b : List Node} (h : a.Perm b) :
    (routesL pre a).Perm (routesL pre b) := by
  rw [routesL_eq, routesL_eq]; exact h.flatMap_right _

/-- the child `FindNearest` descends into, as a place in the list of children -/
theorem firstMatch_split (s : Bool) (seg : Bytes) (cs : List Node) (k0 k : Nat) (c : Node)
    (h : firstMatch s seg cs k0 = some (k, c)) :
    ∃ l1 l2, cs = l1 ++ c :: l2 ∧ k = k0 + l1.length ∧ c.info.path = sl :: seg ∧ (s = true → c.info.httpMethod = []) := by
  fun_induction firstMatch s seg cs k0 with
  | case1 => cases h
  | case2 d r k0 hc =>
    cases h
    simp only [Bool.and_eq_true, decide_eq_true_eq] at hc
    exact ⟨[], r, rfl, rfl, hc.1, fun hs => by simpa [hs] using hc.2⟩
  | case3 d r k0 hc ih =>
    obtain ⟨l1, l2, rfl, rfl, h3⟩ := ih h
    exact ⟨d :: l1, l2, rfl, by simp [Nat.add_assoc, Nat.add_comm 1], h3⟩

theorem firstMatch_none (seg : Bytes) (cs : List Node) (k0 : Nat) (h : firstMatch true seg cs k0 = none) :
    ∀ d ∈ cs, d.info.httpMethod = [] → d.info.path ≠ sl :: seg := by
  fun_induction firstMatch true seg cs k0 with
  | case1 => nofun
  | case2 => cases h
  | case3 c r k0 hc ih =>
    intro d hd hm hp
    rcases List.mem_cons.1 hd with rfl | hd
    · exact hc (by simp [hp, hm])
    · exact ih h d hd hm hp

/-- `last < paths.length` always: a match of the last path element returns the node above it (`return cur, i - 1`), so the
"has been registered" branch of `Update` is dead.  The cases of `findNearest`: no path element (panic), no child matches,
the last element matches, descent into the matching child returned, descent failed. -/
theorem findNearest_lt {s : Bool} {paths : List Bytes} {n : Node} {addr : List Nat} {last : Nat}
    (h : findNearest s n paths = .ok (addr, last)) : last < paths.length := by
  fun_induction findNearest s n paths generalizing addr last with
  | case1 => cases h
  | case2 => cases h; exact Nat.zero_lt_succ _
  | case3 => cases h; exact Nat.zero_lt_succ _
  | case4 _ _ _ _ _ _ _ _ a n' hrec ih => cases h; exact Nat.succ_lt_succ (ih hrec)
  | case5 => cases h

theorem findNearest_no_panic (s : Bool) (paths : List Bytes) (n : Node) (hp : paths ≠ []) :
    ∃ r, findNearest s n paths = .ok r := by
  fun_induction findNearest s n paths with
  | case1 => exact absurd rfl hp
  | case2 => exact ⟨_, rfl⟩
  | case3 => exact ⟨_, rfl⟩
  | case4 => exact ⟨_, rfl⟩
  | case5 _ _ _ _ _ _ _ _ _ hrec ih =>
    obtain ⟨r, hr⟩ := ih (by simp)
    rw [hr] at hrec
    cases hrec

theorem modNth_append (f : Node → Node) (l1 l2 : List Node) (c : Node) :
    modNth f (l1 ++ c :: l2) l1.length = l1 ++ f c :: l2 := by
  induction l1 with
  | nil => rfl
  | cons d l1 ih => simp [modNth, ih]

/-- What `Update` does to a tree.  Below the node reached through children called `q` (with sort-router:
children without HTTP method) the new chain `c` joins the children, which are permuted; with sort-router a chain
that is a group finds no group of its name there.  Everything `Update` keeps is proved by induction on this. -/
inductive Ins (s : Bool) (c : Node) : List Bytes → Node → Node → Prop
  | here {i : Info} {cs cs' : List Node} (hp : cs'.Perm (cs ++ [c]))
      (hd : s = true → c.children.isEmpty = false → ∀ d ∈ cs, d.info.httpMethod = [] → d.info.path ≠ c.info.path) :
      Ins s c [] (.mk i cs) (.mk i cs')
  | under {i : Info} {l1 l2 : List Node} {d d' : Node} {q : List Bytes}
      (hm : s = true → d.info.httpMethod = []) (h : Ins s c q d d') :
      Ins s c (d.info.path :: q) (.mk i (l1 ++ d :: l2)) (.mk i (l1 ++ d' :: l2))

theorem Ins.info {s : Bool} {c n n' : Node} {q : List Bytes} (h : Ins s c q n n') : n'.info = n.info := by
  cases h <;> rfl

/-- `FindNearest`, then `Insert` and `Sort` at the node it returns; `hc`: a chain that is a group is called as the
first path element that was not matched -/
theorem findNearest_ins (srt : List Node → List Node) (hs : ∀ l, (srt l).Perm l) (s : Bool) (c : Node)
    (paths : List Bytes) (n : Node) (addr : List Nat) (last : Nat)
    (h : findNearest s n paths = .ok (addr, last))
    (hc : c.children.isEmpty = false → last + 1 < paths.length ∧ c.info.path = sl :: (paths.drop last).headD []) :
    Ins s c ((paths.take last).map (sl :: ·)) n (insertAt srt c addr n) := by
  fun_induction findNearest s n paths generalizing addr last with
  | case1 => cases h
  | case2 _ cs p rest hm =>
    cases h
    refine .here (hs _) fun hs' hcc d hd hdm => ?_
    subst hs'
    rw [(hc hcc).2]
    exact firstMatch_none p cs 0 hm d hd hdm
  | case3 =>
    cases h
    exact .here (hs _) fun _ hcc => absurd (hc hcc).1 (Nat.lt_irrefl 1)
  | case4 _ cs p k c0 hm q rest' a n' hrec ih =>
    cases h
    obtain ⟨l1, l2, rfl, rfl, hp, hmeth⟩ := firstMatch_split s p cs 0 k c0 hm
    rw [insertAt, Nat.zero_add, modNth_append, List.take_succ_cons, List.map_cons, ← hp]
    exact .under hmeth (ih a n' hrec fun hcc => ⟨Nat.lt_of_succ_lt_succ (hc hcc).1, (hc hcc).2⟩)
  | case5 => cases h

theorem Ins.routes {s : Bool} {c n n' : Node} {q : List Bytes} (h : Ins s c q n n') (pre : List Bytes) :
    (routesN pre n').Perm (routesN pre n ++ routesN (pre ++ q ++ [c.info.path]) c) := by
  induction h generalizing pre with
  | here hp _ =>
    simp only [routesN, List.append_nil, List.append_assoc, List.perm_append_left_iff]
    refine (routesL_perm pre hp).trans ?_
    simp [routesL_eq]
  | @under i l1 l2 d d' q _ h ih =>
    have := ih (pre ++ [d.info.path])
    simp only [routesN, routesL_eq, List.flatMap_append, List.flatMap_cons, h.info,
      List.append_assoc, List.perm_append_left_iff, List.singleton_append] at this ⊢
    -- the new routes, found behind those of the child passed through, go to the end
    refine (this.append_right _).trans ?_
    rw [List.append_assoc, List.perm_append_left_iff]
    exact List.perm_append_comm

/-- the fields of a leaf `Info` as `Insert` builds it for `m`, its path aside -/
def IsLeafFor (m : Method) (li : Info) : Prop :=
  li.httpMethod = getHttpMethod m.verb ∧ li.handler = li.handlerAlias ++ [46] ++ m.name ∧ li.middleWare = []

theorem leafInfo_isLeaf (cfg : Cfg) (m : Method) (seg : Bytes) (st : PkgSt) :
    IsLeafFor m (leafInfo cfg m seg st).1 := by
  simp [leafInfo, IsLeafFor]

/-- The chain `Insert` builds for the path elements `rest`: the leaf `li`, called as the last of them, below one
inner node (a path and nothing else) for each of the others.  What holds of it is proved by induction on this. -/
inductive Chain (li : Info) : List Bytes → Node → Prop
  | leaf {p : Bytes} (hp : li.path = sl :: p) : Chain li [p] (.mk li [])
  | inner {p q : Bytes} {r : List Bytes} {c : Node} (h : Chain li (q :: r) c) :
      Chain li (p :: q :: r) (.mk { path := sl :: p } [c])

theorem chain_isChain {li : Info} {rest : List Bytes} {c : Node} (hp : li.path = sl :: rest.getLast?.getD [])
    (h : chain (fun _ => li) rest = some c) : Chain li rest c := by
  fun_induction chain (fun _ => li) rest generalizing c with
  | case1 => cases h
  | case2 p => cases h; exact .leaf hp
  | case3 p q r c' hc' ih => cases h; exact .inner (ih (by simpa [List.getLast?_cons_cons] using hp) hc')
  | case4 => cases h

theorem chain_ne_none (leaf : Bytes → Info) (rest : List Bytes) (h : rest ≠ []) : chain leaf rest ≠ none := by
  fun_induction chain leaf rest with
  | case1 => exact absurd rfl h
  | case2 => nofun
  | case3 => nofun
  | case4 p q r hn ih => exact absurd hn (ih (by simp))

theorem Chain.ne_nil {li : Info} {rest : List Bytes} {c : Node} (h : Chain li rest c) : rest ≠ [] := by
  cases h <;> simp

/-- the head of the chain: the leaf itself, or an inner node (no HTTP method) for the first of at least two path
elements -/
theorem Chain.head {li : Info} {rest : List Bytes} {c : Node} (h : Chain li rest c) :
    (c.children.isEmpty = true → c.info = li) ∧
      (c.children.isEmpty = false → c.info.httpMethod = [] ∧ 1 < rest.length ∧ c.info.path = sl :: rest.headD []) := by
  cases h with
  | leaf => exact ⟨fun _ => rfl, nofun⟩
  | inner => exact ⟨nofun, fun _ => ⟨rfl, by simp, rfl⟩⟩

theorem Chain.routes {li : Info} {rest : List Bytes} {c : Node} (h : Chain li rest c)
    (hh : li.handler.isEmpty = false) (pre : List Bytes) :
    routesN (pre ++ [c.info.path]) c = [(pre ++ rest.map (sl :: ·), li)] := by
  induction h generalizing pre with
  | leaf hp => simp [routesN, routesL, hh, Node.info, hp]
  | @inner p q r c _ ih =>
    have e : (Node.mk ({ path := sl :: p } : Info) [c]).info.path = sl :: p := rfl
    have : ({ path := sl :: p } : Info).handler.isEmpty = true := rfl
    rw [e, routesN_mk]
    simp only [this, if_true, List.nil_append, List.flatMap_cons, List.flatMap_nil, List.append_nil]
    rw [ih]
    simp

/-- the path elements `Update` works with: `strings.Split(path, "/")` without a leading empty element -/
def segsOf (p : Bytes) : List Bytes :=
  match splitSlash p with
  | [] :: r => r
  | l => l

theorem splitSlash_ne_nil (b : Bytes) : splitSlash b ≠ [] := by
  fun_cases splitSlash b <;> simp [*]

theorem segsOf_slash (t : Bytes) : segsOf (sl :: t) = splitSlash t := by
  simp [segsOf, splitSlash]

theorem segsOf_ne_nil (p : Bytes) (hp : p ≠ []) : segsOf p ≠ [] := by
  cases p with
  | nil => exact absurd rfl hp
  | cons c t =>
    by_cases hc : c = sl
    · rw [hc, segsOf_slash]; exact splitSlash_ne_nil t
    · cases hs : splitSlash t with
      | nil => exact absurd hs (splitSlash_ne_nil t)
      | cons h r =>
        have : segsOf (c :: t) = (c :: h) :: r := by simp [segsOf, splitSlash, hc, hs]
        rw [this]; simp

theorem updateWith_eq (srt : List Node → List Node) (cfg : Cfg) (root : Node) (st : PkgSt) (m : Method) :
    updateWith srt cfg root st m =
      if m.path.isEmpty then .error .emptyPath
      else match findNearest cfg.sortRouter root (segsOf m.path) with
        | .error e => .error e
        | .ok (addr, last) =>
          if last = (segsOf m.path).length then .error .registered
          else match chain (fun _ => (leafInfo cfg m (((segsOf m.path).drop last).getLast?.getD []) st).1)
              ((segsOf m.path).drop last) with
            | none => .ok (root, st)
            | some c => .ok (insertAt srt c addr root,
                (leafInfo cfg m (((segsOf m.path).drop last).getLast?.getD []) st).2) :=
  rfl

/-- a successful `Update`: `FindNearest` matches the path elements `q`, not all of them, and the chain for the
remaining ones is hung below the node they lead to -/
theorem updateWith_ok {srt : List Node → List Node} (hs : ∀ l, (srt l).Perm l) {cfg : Cfg} {root root' : Node}
    {st st' : PkgSt} {m : Method} (h : updateWith srt cfg root st m = .ok (root', st')) :
    ∃ q rest li c, segsOf m.path = q ++ rest ∧ IsLeafFor m li ∧ Chain li rest c ∧
      Ins cfg.sortRouter c (q.map (sl :: ·)) root root' := by
  rw [updateWith_eq] at h
  split at h
  · cases h
  · split at h
    · cases h
    · rename_i addr last hf
      have hl := findNearest_lt hf
      rw [if_neg (Nat.ne_of_lt hl)] at h
      split at h
      · rename_i hn
        exact absurd hn (chain_ne_none _ _ (mt List.drop_eq_nil_iff.1 (Nat.not_le_of_lt hl)))
      · rename_i c hc
        cases h
        have hch := chain_isChain rfl hc
        refine ⟨_, _, _, c, (List.take_append_drop last _).symm, leafInfo_isLeaf .., hch,
          findNearest_ins srt hs _ c _ root addr last hf fun hcc => ?_⟩
        obtain ⟨_, h1, h2⟩ := hch.head.2 hcc
        exact ⟨Nat.lt_sub_iff_add_lt'.1 (List.length_drop ▸ h1), h2⟩

/-- key of a declared method and of a route of the tree: verb as rendered, path elements, handler name -/
def declKey (m : Method) : Bytes × List Bytes × Bytes :=
  (getHttpMethod m.verb, (segsOf m.path).map (sl :: ·), m.name)
def routeKey (r : List Bytes × Info) : Bytes × List Bytes × Bytes :=
  (r.2.httpMethod, r.1, r.2.handler.drop (r.2.handlerAlias.length + 1))

theorem update_routes {srt : List Node → List Node} (hs : ∀ l, (srt l).Perm l) {cfg : Cfg}
    {root root' : Node} {st st' : PkgSt} {m : Method}
    (h : updateWith srt cfg root st m = .ok (root', st')) :
    ((routes root').map routeKey).Perm ((routes root).map routeKey ++ [declKey m]) := by
  obtain ⟨q, rest, li, c, e, ⟨hv, hh, _⟩, hc, hins⟩ := updateWith_ok hs h
  have hcr := hc.routes (by rw [hh]; simp) (q.map (sl :: ·))
  refine ((hins.routes []).map routeKey).trans ?_
  rw [List.map_append]
  apply List.Perm.append_left
  simp only [List.nil_append] at hcr ⊢
  rw [hcr]
  simp only [List.map_cons, List.map_nil, routeKey, declKey]
  rw [← List.map_append, ← e, hv, hh]
  simp

theorem buildWith_routes {srt : List Node → List Node} (hs : ∀ l, (srt l).Perm l) {cfg : Cfg}
    {ms : List Method} {root root' : Node} {st st' : PkgSt}
    (h : buildWith srt cfg root st ms = .ok (root', st')) :
    ((routes root').map routeKey).Perm ((routes root).map routeKey ++ ms.map declKey) := by
  fun_induction buildWith srt cfg root st ms with
  | case1 => cases h; simp
  | case2 => cases h
  | case3 root st m ms r1 s1 hu ih =>
    refine (ih h).trans ?_
    rw [List.map_cons, ← List.singleton_append, ← List.append_assoc]
    exact List.Perm.append_right _ (update_routes hs hu)

theorem buildWith_inv {srt : List Node → List Node} {cfg : Cfg} (P : Node → Prop)
    {ms : List Method} {root root' : Node} {st st' : PkgSt}
    (hu : ∀ m ∈ ms, ∀ r r' s s', updateWith srt cfg r s m = .ok (r', s') → P r → P r')
    (h : buildWith srt cfg root st ms = .ok (root', st')) (hp : P root) : P root' := by
  fun_induction buildWith srt cfg root st ms with
  | case1 => cases h; exact hp
  | case2 => cases h
  | case3 root st m ms r1 s1 h1 ih =>
    exact ih (fun m' hm' => hu m' (List.mem_cons_of_mem _ hm')) h (hu m List.mem_cons_self _ _ _ _ h1 hp)

/-- `Update` never panics and fails only on an empty path -/
theorem updateWith_error {srt : List Node → List Node} {cfg : Cfg} {root : Node} {st : PkgSt} {m : Method}
    {e : Err} (h : updateWith srt cfg root st m = .error e) : e = .emptyPath ∧ m.path = [] := by
  rw [updateWith_eq] at h
  split at h
  · rename_i he
    cases h
    exact ⟨rfl, by simpa using he⟩
  · rename_i hne
    obtain ⟨⟨addr, last⟩, hf⟩ := findNearest_no_panic cfg.sortRouter (segsOf m.path) root
      (segsOf_ne_nil m.path (by simpa using hne))
    have hl := findNearest_lt hf
    rw [hf] at h
    simp only at h
    rw [if_neg (Nat.ne_of_lt hl)] at h
    split at h <;> cases h

theorem buildWith_error {srt : List Node → List Node} {cfg : Cfg}
    {ms : List Method} {root : Node} {st : PkgSt} {e : Err}
    (h : buildWith srt cfg root st ms = .error e) : e = .emptyPath ∧ ∃ m ∈ ms, m.path = [] := by
  fun_induction buildWith srt cfg root st ms with
  | case1 => cases h
  | case2 root st m ms e' hu =>
    cases h
    obtain ⟨h1, h2⟩ := updateWith_error hu
    exact ⟨h1, m, by simp, h2⟩
  | case3 root st m ms r1 s1 _ ih =>
    obtain ⟨h1, m', hm, h2⟩ := ih h
    exact ⟨h1, m', by simp [hm], h2⟩

theorem buildWith_ok (srt : List Node → List Node) (cfg : Cfg) :
    ∀ (ms : List Method) (root : Node) (st : PkgSt), (∀ m ∈ ms, m.path ≠ []) →
      ∃ r, buildWith srt cfg root st ms = .ok r := by
  intro ms root st h
  cases hb : buildWith srt cfg root st ms with
  | ok r => exact ⟨r, rfl⟩
  | error e =>
    obtain ⟨_, m, hm, hp⟩ := buildWith_error hb
    exact absurd hp (h m hm)

/-! ### the Go sort permutes -/

theorem sinkLeft_perm (x : Node) (l : List Node) : (sinkLeft x l).Perm (x :: l) := by
  fun_induction sinkLeft x l with
  | case1 => exact .refl _
  | case2 p r _ ih => exact (ih.cons p).trans (.swap x p r)
  | case3 => exact .refl _

theorem insertionSortAux_perm (acc t : List Node) : (insertionSortAux acc t).Perm (acc ++ t) := by
  fun_induction insertionSortAux acc t with
  | case1 acc => simp
  | case2 acc x t ih =>
    exact ih.trans (((sinkLeft_perm x acc).append_right t).trans List.perm_middle.symm)

theorem goSort_perm (l : List Node) : (goSort l).Perm l := by
  simpa [goSort] using insertionSortAux_perm [] l

theorem updSort_perm (s : Bool) (l : List Node) : (updSort s l).Perm l := by
  unfold updSort
  split
  · exact (goSort_perm _).trans (goSort_perm _)
  · exact goSort_perm _

/-! ### path elements and the declared path string -/

theorem flatten_split (t : Bytes) : ((splitSlash t).map (sl :: ·)).flatten = sl :: t := by
  fun_induction splitSlash t with
  | case1 => rfl
  | case2 t ih => simp [ih]
  | case3 c t hc h r heq ih =>
    rw [heq] at ih
    simpa using ih
  | case4 c t hc heq ih => exact absurd heq (splitSlash_ne_nil t)

theorem segs_spell_path (t : Bytes) : ((segsOf (sl :: t)).map (sl :: ·)).flatten = sl :: t := by
  rw [segsOf_slash, flatten_split]

/-! ## Part B: identifiers -/

mutual
/-- `MiddleWare` of every node with children, in DFS order: the variables `Register` declares -/
def groupVars : Node → List Bytes
  | .mk i cs => (if cs.isEmpty then [] else [i.middleWare]) ++ groupVarsL cs
def groupVarsL : List Node → List Bytes
  | [] => []
  | c :: r => groupVars c ++ groupVarsL r
end

mutual
/-- no node of the subtree has been named yet (as `Insert` creates them) -/
def FreshN : Node → Prop
  | .mk i cs => i.middleWare = [] ∧ FreshL cs
def FreshL : List Node → Prop
  | [] => True
  | c :: r => FreshN c ∧ FreshL r
end

theorem freshL_iff (l : List Node) : FreshL l ↔ ∀ c ∈ l, FreshN c := by
  induction l with
  | nil => simp [FreshL]
  | cons c r ih => simp [FreshL, ih]

theorem freshN_iff (n : Node) : FreshN n ↔ n.info.middleWare = [] ∧ FreshL n.children := by
  cases n; simp [FreshN, Node.info, Node.children]

theorem Chain.fresh {li : Info} {rest : List Bytes} {c : Node} (h : Chain li rest c) (hl : li.middleWare = []) :
    FreshN c := by
  induction h with
  | leaf => simp [FreshN, FreshL, hl]
  | inner _ ih => simp [FreshN, FreshL, ih]

theorem forall_mem_of_perm_snoc {P : Node → Prop} {cs cs' : List Node} {c : Node} (hp : cs'.Perm (cs ++ [c]))
    (h : ∀ x ∈ cs, P x) (hc : P c) : ∀ x ∈ cs', P x := fun x hx =>
  (List.mem_append.1 (hp.mem_iff.1 hx)).elim (h x) fun e => List.mem_singleton.1 e ▸ hc

theorem Ins.fresh {s : Bool} {c n n' : Node} {q : List Bytes} (h : Ins s c q n n') (hc : FreshN c)
    (hn : FreshL n.children) : FreshL n'.children := by
  induction h with
  | here hp _ =>
    simp only [Node.children, freshL_iff] at hn ⊢
    exact forall_mem_of_perm_snoc hp hn hc
  | @under i l1 l2 d d' q _ h ih =>
    simp only [Node.children, freshL_iff, List.forall_mem_append, List.forall_mem_cons] at hn ⊢
    obtain ⟨h1, h2⟩ := (freshN_iff d).1 hn.2.1
    exact ⟨hn.1, (freshN_iff d').2 ⟨h.info ▸ h1, ih h2⟩, hn.2.2⟩

theorem updateWith_fresh {srt : List Node → List Node} (hs : ∀ l, (srt l).Perm l) {cfg : Cfg}
    {root root' : Node} {st st' : PkgSt} {m : Method}
    (h : updateWith srt cfg root st m = .ok (root', st')) (hf : FreshL root.children) :
    FreshL root'.children ∧ root'.info = root.info := by
  obtain ⟨_, _, li, c, _, hleaf, hc, hins⟩ := updateWith_ok hs h
  exact ⟨hins.fresh (hc.fresh hleaf.2.2) hf, hins.info⟩

theorem buildWith_fresh {srt : List Node → List Node} (hs : ∀ l, (srt l).Perm l) {cfg : Cfg}
    {ms : List Method} {root root' : Node} {st st' : PkgSt}
    (h : buildWith srt cfg root st ms = .ok (root', st')) (hf : FreshL root.children) :
    FreshL root'.children ∧ root'.info = root.info :=
  buildWith_inv (fun r => FreshL r.children ∧ r.info = root.info)
    (fun m _ r r' s s' hu hr =>
      let ⟨h1, h2⟩ := updateWith_fresh hs hu hr.1
      ⟨h1, h2.trans hr.2⟩) h ⟨hf, rfl⟩

/-! ### `getUniqueName` hands out a name that is not taken -/

theorem probeName_spec (name : Bytes) (used : List Bytes) (fuel i : Nat) (u : Bytes)
    (h : probeName name used fuel i = some u) : u ∉ used := by
  fun_induction probeName name used fuel i with
  | case1 => cases h
  | case2 f i hc ih => exact ih h
  | case3 f i hc =>
    cases h
    simpa using hc

theorem getUniqueName_spec {name : Bytes} {used : List Bytes} {u : Bytes} {used' : List Bytes}
    (h : getUniqueName name used = .ok (u, used')) : u ∉ used ∧ used' = u :: used := by
  unfold getUniqueName at h
  split at h
  · split at h
    · rename_i v hv
      cases h
      exact ⟨probeName_spec name used _ _ _ hv, rfl⟩
    · cases h
  · rename_i hc
    cases h
    exact ⟨by simpa using hc, rfl⟩

def wrapMw (a : Bytes) : Bytes := us :: a ++ mwSuffix
def wrapVar (a : Bytes) : Bytes := us :: a

theorem wrapMw_inj {a b : Bytes} (h : wrapMw a = wrapMw b) : a = b := by
  simpa [wrapMw] using h

theorem wrapVar_inj {a b : Bytes} (h : wrapVar a = wrapVar b) : a = b := by
  simpa [wrapVar] using h

/-- the identifiers `F` are pairwise distinct and each is `w a` for a name `a` among `A` -/
def Good (w : Bytes → Bytes) (F A : List Bytes) : Prop := F.Nodup ∧ ∀ f ∈ F, ∃ a ∈ A, f = w a

theorem Good.nil (w : Bytes → Bytes) (A : List Bytes) : Good w [] A := by simp [Good]

theorem Good.single (w : Bytes → Bytes) (a : Bytes) : Good w [w a] [a] :=
  ⟨List.pairwise_singleton _ _, fun _ hf => ⟨a, List.mem_singleton_self a, List.mem_singleton.1 hf⟩⟩

theorem Good.mono {w : Bytes → Bytes} {F A B : List Bytes} (h : Good w F A) (hs : ∀ a ∈ A, a ∈ B) : Good w F B :=
  ⟨h.1, fun f hf => let ⟨a, ha, e⟩ := h.2 f hf; ⟨a, hs a ha, e⟩⟩

theorem Good.append {w : Bytes → Bytes} (hw : ∀ a b, w a = w b → a = b) {F1 F2 A1 A2 : List Bytes}
    (h1 : Good w F1 A1) (h2 : Good w F2 A2) (hd : ∀ a ∈ A2, a ∉ A1) : Good w (F1 ++ F2) (A2 ++ A1) := by
  refine ⟨List.nodup_append.2 ⟨h1.1, h2.1, ?_⟩, fun f hf => ?_⟩
  · intro f hf1 g hf2 e
    obtain ⟨a1, ha1, rfl⟩ := h1.2 f hf1
    obtain ⟨a2, ha2, e2⟩ := h2.2 g hf2
    exact hd a2 ha2 (hw a1 a2 (e.trans e2) ▸ ha1)
  · rcases List.mem_append.1 hf with hf | hf
    · obtain ⟨a, ha, e⟩ := h1.2 f hf
      exact ⟨a, List.mem_append_right _ ha, e⟩
    · obtain ⟨a, ha, e⟩ := h2.2 f hf
      exact ⟨a, List.mem_append_left _ ha, e⟩

theorem Good.ite {w : Bytes → Bytes} {F A : List Bytes} (b : Bool) (h : Good w F A) :
    Good w (if b then [] else F) A := by
  cases b
  · simpa using h
  · simpa using Good.nil w A

/-- Between the name sets `used` and `used'` some names were handed out, all free before and pairwise distinct;
the variables `V` are `_` + distinct ones of them, and in camel style the functions `F` are `_` + distinct ones of
them + `Mw`.  (In snake style the functions are built from the handler name and the path prefix, which may
repeat.) -/
def Handed (snake : Bool) (used used' V F : List Bytes) : Prop :=
  ∃ A, used' = A ++ used ∧ A.Nodup ∧ (∀ a ∈ A, a ∉ used) ∧ Good wrapVar V A ∧ (snake = false → Good wrapMw F A)

theorem Handed.nil (snake : Bool) (used : List Bytes) : Handed snake used used [] [] :=
  ⟨[], rfl, List.nodup_nil, nofun, Good.nil _ _, fun _ => Good.nil _ _⟩

/-- the names handed out below a node, then those handed out below its right siblings -/
theorem Handed.append {snake : Bool} {u0 u1 u2 V1 V2 F1 F2 : List Bytes} (h1 : Handed snake u0 u1 V1 F1)
    (h2 : Handed snake u1 u2 V2 F2) : Handed snake u0 u2 (V1 ++ V2) (F1 ++ F2) := by
  obtain ⟨A1, rfl, hn1, hd1, gv1, gf1⟩ := h1
  obtain ⟨A2, rfl, hn2, hd2, gv2, gf2⟩ := h2
  have hdis : ∀ a ∈ A2, a ∉ A1 := fun a ha h1 => hd2 a ha (List.mem_append_left _ h1)
  exact ⟨A2 ++ A1, (List.append_assoc ..).symm,
    List.nodup_append.2 ⟨hn2, hn1, fun a ha b hb e => hdis a ha (e ▸ hb)⟩,
    List.forall_mem_append.2 ⟨fun a ha h0 => hd2 a ha (List.mem_append_right _ h0), hd1⟩,
    Good.append (fun _ _ => wrapVar_inj) gv1 gv2 hdis,
    fun hp => Good.append (fun _ _ => wrapMw_inj) (gf1 hp) (gf2 hp) hdis⟩

theorem Handed.ite {snake : Bool} {u u' V F : List Bytes} (b : Bool) (h : Handed snake u u' V F) :
    Handed snake u u' (if b then [] else V) F :=
  let ⟨A, h1, h2, h3, gv, gf⟩ := h
  ⟨A, h1, h2, h3, Good.ite b gv, gf⟩

/-- the names chosen for a fresh node: one name for a leaf with a handler, two otherwise -/
theorem dyeNames_spec (snake : Bool) (pp : Option Bytes) (i : Info) (hc : Bool) (used used' : List Bytes)
    (p mw hmw gmw : Bytes) (h : dyeNames snake pp i hc used = .ok ((p, mw, hmw, gmw), used')) :
    Handed snake used used' [mw] ((if hc then [gmw ++ mwSuffix] else []) ++
      (if i.handler.isEmpty then [] else [hmw ++ mwSuffix])) := by
  unfold Handed
  unfold dyeNames at h
  simp only at h
  generalize hl : (!i.handler.isEmpty && !hc) = l at h
  split at h
  · cases h
  · rename_i pn hn' used1 hnames
    cases h
    cases l with
    | true =>
      simp only [if_true] at hnames
      split at hnames
      · rename_i hu
        cases hnames
        obtain ⟨h1, rfl⟩ := getUniqueName_spec hu
        simp only [Bool.and_eq_true, Bool.not_eq_true'] at hl
        refine ⟨[pn], rfl, by simp, by simpa using h1, Good.single wrapVar pn, ?_⟩
        rintro rfl
        rw [hl.1, hl.2]
        exact Good.single wrapMw pn
      · cases hnames
    | false =>
      simp only [Bool.false_eq_true, if_false] at hnames
      split at hnames
      · cases hnames
      · rename_i hu
        split at hnames
        · cases hnames
        · rename_i hu'
          cases hnames
          obtain ⟨h1, rfl⟩ := getUniqueName_spec hu
          obtain ⟨h2, rfl⟩ := getUniqueName_spec hu'
          simp only [List.mem_cons, not_or] at h2
          refine ⟨[hn', pn], rfl, by simp [h2.1], List.forall_mem_cons.2 ⟨h2.2, List.forall_mem_singleton.2 h1⟩,
            (Good.single wrapVar pn).mono (by simp), ?_⟩
          rintro rfl
          refine Good.append (A1 := [pn]) (A2 := [hn']) (fun _ _ => wrapMw_inj) ?_ ?_ (by simpa using h2.1)
          · cases hc
            · exact Good.nil _ _
            · exact Good.single wrapMw pn
          · cases i.handler.isEmpty
            · exact Good.single wrapMw hn'
            · exact Good.nil _ _

/-- a successful hook: `GroupName` is the stack's entry at `layer`; the other names are the node's own or, for
a node without `MiddleWare`, those of `dyeNames`; `MiddleWare` becomes the stack's entry at `layer + 1` -/
theorem dyeHook_ok {snake : Bool} {layer : Nat} {pp : Option Bytes} {i i' : Info} {hc : Bool} {st st' : DyeSt}
    (h : dyeHook snake layer pp i hc st = .ok (i', st')) :
    ∃ gname nm, st.groups[layer]? = some gname ∧
      (if i.middleWare.isEmpty then dyeNames snake pp i hc st.used
        else .ok ((i.pathPrefix, i.middleWare, i.handlerMw, i.groupMw), st.used)) = .ok (nm, st'.used) ∧
      i' = { i with groupName := gname, pathPrefix := nm.1, middleWare := nm.2.1, handlerMw := nm.2.2.1,
                    groupMw := nm.2.2.2 } ∧
      st'.groups = if layer + 1 ≥ st.groups.length then st.groups ++ [nm.2.1]
                   else setNth st.groups (layer + 1) nm.2.1 := by
  unfold dyeHook at h
  split at h
  · cases h
  · rename_i gname hg
    split at h
    · cases h
    · rename_i nm used1 hn
      cases h
      exact ⟨gname, nm, hg, hn, rfl, rfl⟩

theorem dyeHook_spec {snake : Bool} {layer : Nat} {pp : Option Bytes} {i i' : Info} {hc : Bool} {st st' : DyeSt}
    (h : dyeHook snake layer pp i hc st = .ok (i', st')) (hf : i.middleWare = []) :
    Handed snake st.used st'.used [i'.middleWare] ((if hc then [i'.groupMw ++ mwSuffix] else []) ++
      (if i'.handler.isEmpty then [] else [i'.handlerMw ++ mwSuffix])) := by
  obtain ⟨gname, ⟨p, mw, hmw, gmw⟩, _, hn, rfl, _⟩ := dyeHook_ok h
  simp only [hf, List.isEmpty_nil, if_true] at hn
  exact dyeNames_spec snake pp i hc st.used st'.used p mw hmw gmw hn

theorem dye_ok {snake : Bool} {layer : Nat} {pp : Option Bytes} {i : Info} {cs : List Node} {st st' : DyeSt}
    {n' : Node} (h : dye snake layer pp (.mk i cs) st = .ok (n', st')) :
    ∃ i' st1 cs', dyeHook snake layer pp i (!cs.isEmpty) st = .ok (i', st1) ∧
      dyeL snake (layer + 1) (some i'.pathPrefix) cs st1 = .ok (cs', st') ∧ n' = .mk i' cs' := by
  unfold dye at h
  split at h
  · cases h
  · rename_i i' st1 hh
    split at h
    · cases h
    · rename_i cs' st2 hl
      cases h
      exact ⟨i', st1, cs', hh, hl, rfl⟩

theorem dyeL_ok {snake : Bool} {layer : Nat} {pp : Option Bytes} {c : Node} {r l' : List Node} {st st' : DyeSt}
    (h : dyeL snake layer pp (c :: r) st = .ok (l', st')) :
    ∃ c' st1 r', dye snake layer pp c st = .ok (c', st1) ∧ dyeL snake layer pp r st1 = .ok (r', st') ∧
      l' = c' :: r' := by
  unfold dyeL at h
  split at h
  · cases h
  · rename_i c' st1 hc
    split at h
    · cases h
    · rename_i r' st2 hr
      cases h
      exact ⟨c', st1, r', hc, hr, rfl⟩

theorem dyeL_isEmpty {snake : Bool} {layer : Nat} {pp : Option Bytes} {cs cs' : List Node} {st st' : DyeSt}
    (h : dyeL snake layer pp cs st = .ok (cs', st')) : cs'.isEmpty = cs.isEmpty := by
  cases cs with
  | nil => cases h; rfl
  | cons c r =>
    obtain ⟨_, _, _, _, _, rfl⟩ := dyeL_ok h
    rfl

mutual
/-- `DyeGroupName` on a subtree whose nodes are unnamed -/
theorem dye_names : (n : Node) → ∀ (snake : Bool) (layer : Nat) (pp : Option Bytes) (st : DyeSt) (n' : Node) (st' : DyeSt),
    dye snake layer pp n st = .ok (n', st') → FreshN n → Handed snake st.used st'.used (groupVars n') (mwFuncs n')
  | .mk i cs => by
    intro snake layer pp st n' st' h hf
    obtain ⟨i', st1, cs', hh, hl, rfl⟩ := dye_ok h
    simp only [FreshN] at hf
    have hemp := dyeL_isEmpty hl
    have e1 : mwFuncs (.mk i' cs') =
        ((if !cs.isEmpty then [i'.groupMw ++ mwSuffix] else []) ++
         (if i'.handler.isEmpty then [] else [i'.handlerMw ++ mwSuffix])) ++ mwFuncsL cs' := by
      rw [mwFuncs, hemp]; cases cs.isEmpty <;> simp
    rw [e1, groupVars, hemp]
    exact ((dyeHook_spec hh hf.1).ite _).append (dyeL_names cs _ _ _ st1 cs' st' hl hf.2)
theorem dyeL_names : (l : List Node) → ∀ (snake : Bool) (layer : Nat) (pp : Option Bytes) (st : DyeSt) (l' : List Node) (st' : DyeSt),
    dyeL snake layer pp l st = .ok (l', st') → FreshL l → Handed snake st.used st'.used (groupVarsL l') (mwFuncsL l')
  | [] => by
    intro snake layer pp st l' st' h _
    cases h
    exact Handed.nil _ _
  | c :: r => by
    intro snake layer pp st l' st' h hf
    obtain ⟨c', st1, r', hc, hr, rfl⟩ := dyeL_ok h
    simp only [FreshL] at hf
    exact (dye_names c _ _ _ st c' st1 hc hf.1).append (dyeL_names r _ _ _ st1 r' st' hr hf.2)
end

theorem dye_spec : (n : Node) → ∀ (layer : Nat) (pp : Option Bytes) (st : DyeSt) (n' : Node) (st' : DyeSt),
    dye false layer pp n st = .ok (n', st') → FreshN n →
    ∃ A, st'.used = A ++ st.used ∧ A.Nodup ∧ (∀ a ∈ A, a ∉ st.used) ∧
      Good wrapMw (mwFuncs n') A ∧ Good wrapVar (groupVars n') A := fun n layer pp st n' st' h hf =>
  let ⟨A, h1, h2, h3, gv, gf⟩ := dye_names n false layer pp st n' st' h hf
  ⟨A, h1, h2, h3, gf rfl, gv⟩

/-- below the root of `NewRouterTree` the variables `Register` declares are pairwise distinct and none is
called `root`; in camel style the functions of middleware.go are, and none is called `rootMw` -/
theorem dyeL_idents_root (snake : Bool) (layer : Nat) (pp : Option Bytes) (cs cs' : List Node) (st st' : DyeSt)
    (h : dyeL snake layer pp cs st = .ok (cs', st')) (hf : FreshL cs) :
    ((groupVarsL cs').Nodup ∧ rootName ∉ groupVarsL cs') ∧
      (snake = false → (mwFuncsL cs').Nodup ∧ rootName ++ mwSuffix ∉ mwFuncsL cs') := by
  obtain ⟨A, _, _, _, gv, gf⟩ := dyeL_names cs _ _ _ st cs' st' h hf
  refine ⟨⟨gv.1, fun hm => ?_⟩, fun hs => ⟨(gf hs).1, fun hm => ?_⟩⟩
  · obtain ⟨a, _, ea⟩ := gv.2 _ hm
    simp [wrapVar, rootName, us] at ea
  · obtain ⟨a, _, ea⟩ := (gf hs).2 _ hm
    simp [wrapMw, rootName, us] at ea

/-- the root of `NewRouterTree` keeps its names; its children are dyed at layer 1 under the variable `root` -/
theorem dyeGroupName_root {snake : Bool} {cs : List Node} {used used' : List Bytes} {root' : Node}
    (h : dyeGroupName snake (.mk newRouterTree.info cs) used = .ok (root', used')) :
    ∃ cs' st2, root' = .mk newRouterTree.info cs' ∧
      dyeL snake 1 (some []) cs { groups := [rootName, rootName], used := used } = .ok (cs', st2) := by
  unfold dyeGroupName at h
  split at h
  · cases h
  · rename_i r st hd
    cases h
    obtain ⟨i', st1, cs', hh, hl, rfl⟩ := dye_ok hd
    -- the root is named already: the hook only pushes its `MiddleWare` on the stack
    have : dyeHook snake 0 none newRouterTree.info (!cs.isEmpty) { groups := [rootName], used := used } =
        .ok (newRouterTree.info, { groups := [rootName, rootName], used := used }) := rfl
    cases hh.symm.trans this
    exact ⟨cs', _, rfl, hl⟩

/-! ### the variables of the rendered statements are the group variables -/

theorem declaredVars_append (a b : List Stmt) :
    HzSpec.declaredVars (a ++ b) = HzSpec.declaredVars a ++ HzSpec.declaredVars b := by
  induction a with
  | nil => rfl
  | cons x r ih => cases x <;> simp [HzSpec.declaredVars, ih]

mutual
theorem declaredVars_stmts : (n : Node) → HzSpec.declaredVars (stmts n) = groupVars n
  | .mk i cs => by
    rw [stmts, groupVars, declaredVars_append, declaredVars_append, declaredVars_stmtsL cs]
    cases i.handler.isEmpty <;> cases cs.isEmpty <;> simp [HzSpec.declaredVars]
theorem declaredVars_stmtsL : (l : List Node) → HzSpec.declaredVars (stmtsL l) = groupVarsL l
  | [] => by simp [stmtsL, groupVarsL, HzSpec.declaredVars]
  | .mk i cs :: r => by
    rw [stmtsL, groupVarsL, declaredVars_append, declaredVars_stmtsL r]
    cases i.handler.isEmpty
    · simp [declaredVars_stmts (.mk i cs)]
    · simp [declaredVars_append, HzSpec.declaredVars, declaredVars_stmts (.mk i cs)]
end

/-! ## Part C: naming does not touch what a route is -/

/-- two `Info`s that agree on everything a route consists of -/
def SameRoute (a b : Info) : Prop :=
  a.path = b.path ∧ a.httpMethod = b.httpMethod ∧ a.handler = b.handler ∧ a.handlerAlias = b.handlerAlias

theorem dyeHook_keeps {snake : Bool} {layer : Nat} {pp : Option Bytes} {i i' : Info} {hc : Bool} {st st' : DyeSt}
    (h : dyeHook snake layer pp i hc st = .ok (i', st')) : SameRoute i' i := by
  obtain ⟨_, _, _, _, rfl, _⟩ := dyeHook_ok h
  exact ⟨rfl, rfl, rfl, rfl⟩

theorem routesN_congr_info (pre : List Bytes) (i i' : Info) (cs cs' : List Node) (h : SameRoute i' i)
    (hl : (routesL pre cs').map routeKey = (routesL pre cs).map routeKey) :
    (routesN pre (.mk i' cs')).map routeKey = (routesN pre (.mk i cs)).map routeKey := by
  obtain ⟨_, h2, h3, h4⟩ := h
  simp only [routesN, List.map_append, hl, h3]
  cases i.handler.isEmpty <;> simp [routeKey, h2, h3, h4]

/-- a successful snake-style pass over a node: new `GroupMiddleware` and `HandlerMiddleware` (the old ones for
a node without children), the children passed over -/
theorem snakePass_ok {i : Info} {cs : List Node} {mws mws' : List Bytes} {n' : Node}
    (h : snakePass (.mk i cs) mws = .ok (n', mws')) :
    ∃ g hm mws2 cs', snakePassL cs mws2 = .ok (cs', mws') ∧ n' = .mk { i with groupMw := g, handlerMw := hm } cs' := by
  unfold snakePass at h
  split at h
  · rename_i he
    cases h
    obtain rfl : cs = [] := by simpa using he
    exact ⟨i.groupMw, i.handlerMw, mws, [], rfl, rfl⟩
  · split at h
    · cases h
    · rename_i g hm mws2 _
      split at h
      · cases h
      · rename_i cs' mws3 hl
        cases h
        exact ⟨g, hm, mws2, cs', hl, rfl⟩

theorem snakePassL_ok {c : Node} {r l' : List Node} {mws mws' : List Bytes}
    (h : snakePassL (c :: r) mws = .ok (l', mws')) :
    ∃ c' m1 r', snakePass c mws = .ok (c', m1) ∧ snakePassL r m1 = .ok (r', mws') ∧ l' = c' :: r' := by
  unfold snakePassL at h
  split at h
  · cases h
  · rename_i c' m1 hc
    split at h
    · cases h
    · rename_i r' m2 hr
      cases h
      exact ⟨c', m1, r', hc, hr, rfl⟩

mutual
theorem snakePass_keeps : (n : Node) → ∀ (mws : List Bytes) (n' : Node) (mws' : List Bytes),
    snakePass n mws = .ok (n', mws') →
    n'.info.path = n.info.path ∧ ∀ pre, (routesN pre n').map routeKey = (routesN pre n).map routeKey
  | .mk i cs => by
    intro mws n' mws' h
    obtain ⟨g, hm, mws2, cs', hl, rfl⟩ := snakePass_ok h
    exact ⟨rfl, fun pre => routesN_congr_info pre i _ cs cs' ⟨rfl, rfl, rfl, rfl⟩
      (snakePassL_keeps cs _ cs' mws' hl pre)⟩
theorem snakePassL_keeps : (l : List Node) → ∀ (mws : List Bytes) (l' : List Node) (mws' : List Bytes),
    snakePassL l mws = .ok (l', mws') →
    ∀ pre, (routesL pre l').map routeKey = (routesL pre l).map routeKey
  | [] => by
    intro mws l' mws' h pre
    cases h
    rfl
  | c :: r => by
    intro mws l' mws' h pre
    obtain ⟨c', m1, r', hc, hr, rfl⟩ := snakePassL_ok h
    obtain ⟨hp, hrt⟩ := snakePass_keeps c _ c' m1 hc
    simp only [routesL, List.map_append, hp, hrt, snakePassL_keeps r _ r' mws' hr pre]
end

/-- a successful generation step: the tree `Update` builds below the root of `NewRouterTree` consists of
unnamed nodes; its children are named at layer 1; in snake style the snake pass follows; statements and
functions are rendered from the result -/
theorem generate_ok {cfg : Cfg} {ms : List Method} {used : List Bytes} {ex : Option (List Bytes)} {o : Output}
    (h : generate cfg ms used ex = .ok o) :
    (∃ cs st cs1 st2, build cfg ms = .ok (.mk newRouterTree.info cs, st) ∧ FreshL cs ∧
      dyeL cfg.snake 1 (some []) cs { groups := [rootName, rootName], used := used } = .ok (cs1, st2) ∧
      (cfg.snake = false → o.tree = .mk newRouterTree.info cs1) ∧
      (cfg.snake = true → ∃ m', snakePass (.mk newRouterTree.info cs1) [] = .ok (o.tree, m'))) ∧
      o.stmts = stmts o.tree ∧
      o.funcs = match (generalizing := false) ex with
        | none => mwFuncs o.tree
        | some fs => updateMwFile cfg.snake fs (mwList o.tree) := by
  unfold generate at h
  split at h
  · cases h
  · rename_i t st hb
    obtain ⟨hfresh, hinfo⟩ := buildWith_fresh (updSort_perm cfg.sortRouter) hb trivial
    obtain ⟨ti, tcs⟩ := t
    cases hinfo
    split at h
    · cases h
    · rename_i t1 u1 hd
      obtain ⟨cs1, st2, rfl, hl⟩ := dyeGroupName_root hd
      cases hsn : cfg.snake with
      | false =>
        simp only [hsn, Bool.false_eq_true, if_false, Except.ok.injEq] at h
        subst h
        exact ⟨⟨tcs, st, cs1, st2, hb, hfresh, hsn ▸ hl, fun _ => rfl, nofun⟩, rfl, rfl⟩
      | true =>
        simp only [hsn, if_true] at h
        cases hsp : snakePass (.mk newRouterTree.info cs1) [] with
        | error e => simp [hsp] at h
        | ok r =>
          obtain ⟨t2, m'⟩ := r
          simp only [hsp, Except.ok.injEq] at h
          subst h
          exact ⟨⟨tcs, st, cs1, st2, hb, hfresh, hsn ▸ hl, nofun, fun _ => ⟨m', hsp⟩⟩, rfl, rfl⟩

end Hertz.Hz
