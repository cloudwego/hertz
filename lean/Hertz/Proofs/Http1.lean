import Hertz.Model.Http1.Serve
import Hertz.Proofs.Tables
/-!
Facts about the HTTP/1 model that the proofs of several properties share: header-name comparison, key
normalisation and `setArg`, the position of the first occurrence of a byte (`indexByte`), trimming and splitting, the
value of a `Trailer` field, a body of known length and what the readers of a body can fail with; then the stability
of the header-block pre-check under appended bytes and the shape of the traces of the keep-alive loop.
-/
namespace Hertz.H1
open Hertz

/-- ASCII lower-casing by arithmetic (the specification of `ToLowerTable`) -/
def lowerSpec (c : UInt8) : UInt8 := if 65 ≤ c ∧ c ≤ 90 then c + 32 else c

theorem toLower_eq (c : UInt8) : toLower c = lowerSpec c := toLower_eq_arith c

theorem ciEq_iff : ∀ a b : Bytes, ciEq a b = true ↔ a.map lowerSpec = b.map lowerSpec
  | [], [] => by simp [ciEq]
  | [], _ :: _ => by simp [ciEq]
  | _ :: _, [] => by simp [ciEq]
  | x :: s, y :: t => by
    simp only [ciEq, Bool.and_eq_true, beq_iff_eq, List.map_cons, List.cons.injEq, toLower_eq]
    rw [ciEq_iff s t]

theorem normKeyAux_lower (up : Bool) (k : Bytes) : (normKeyAux up k).map lowerSpec = k.map lowerSpec := by
  fun_induction normKeyAux up k <;> simp [*, ← toLower_eq, toLower_toUpper, toLower_toLower]

theorem normKeyAux_length (up : Bool) (k : Bytes) : (normKeyAux up k).length = k.length := by
  fun_induction normKeyAux up k <;> simp [*]

theorem setArg_absent : ∀ (l : List (Bytes × Bytes)) (k v : Bytes), (∀ e ∈ l, e.1 ≠ k) → setArg l k v = l ++ [(k, v)]
  | [], _, _, _ => rfl
  | e :: l, k, v, h => by
    have h1 := h e (by simp)
    simp [setArg, h1, setArg_absent l k v (fun x hx => h x (by simp [hx]))]

/-! ### the position of the first `c`

`indexByte c b = some n` says that `b` splits at its first `c`, `n` bytes in; the position facts are read off that. -/

theorem indexByte_skip' (c : UInt8) : ∀ (l r : Bytes) (n : Nat), (∀ x ∈ l, x ≠ c) →
    indexByte c r = some n → indexByte c (l ++ r) = some (l.length + n)
  | [], r, n, _, hr => by simpa using hr
  | y :: t, r, n, h, hr => by
    have hy : y ≠ c := h y (by simp)
    have ih := indexByte_skip' c t r n (fun x hx => h x (by simp [hx])) hr
    simp [indexByte, hy, ih]; omega

theorem indexByte_skip (c : UInt8) (l r : Bytes) (h : ∀ x ∈ l, x ≠ c) : indexByte c (l ++ c :: r) = some l.length :=
  indexByte_skip' c l (c :: r) 0 h (by simp [indexByte])

theorem indexByte_some (c : UInt8) : ∀ (b : Bytes) (n : Nat), indexByte c b = some n →
    ∃ P R, b = P ++ c :: R ∧ (∀ y ∈ P, y ≠ c) ∧ P.length = n
  | [], _, h => by simp [indexByte] at h
  | y :: t, n, h => by
    by_cases hy : y = c
    · refine ⟨[], t, by simp [hy], by simp, ?_⟩
      simpa [indexByte, hy] using h
    · simp only [indexByte, hy, if_false, Option.map_eq_some_iff] at h
      obtain ⟨m, hm, rfl⟩ := h
      obtain ⟨P, R, rfl, hP, rfl⟩ := indexByte_some c t m hm
      exact ⟨y :: P, R, rfl, by simpa [hy] using hP, rfl⟩

theorem indexByte_append (c : UInt8) (b x : Bytes) (n : Nat) (h : indexByte c b = some n) : indexByte c (b ++ x) = some n := by
  obtain ⟨P, R, rfl, hP, rfl⟩ := indexByte_some c b n h
  rw [List.append_assoc, List.cons_append]
  exact indexByte_skip c P (R ++ x) hP

theorem indexByte_crlf (line rest : Bytes) (h : ∀ x ∈ line, x ≠ 10) :
    indexByte 10 (line ++ 13 :: 10 :: rest) = some (line.length + 1) := by
  have := indexByte_skip 10 (line ++ [13]) rest (by
    intro x hx
    rcases List.mem_append.mp hx with hx | hx
    · exact h x hx
    · rw [List.mem_singleton.mp hx]; decide)
  rwa [List.append_assoc, List.length_append] at this

theorem nextLine_crlf (line rest : Bytes) (h : ∀ x ∈ line, x ≠ 10) :
    nextLine (line ++ 13 :: 10 :: rest) = some (line, rest) := by
  unfold nextLine
  rw [indexByte_crlf line rest h]
  simp only [Nat.add_assoc, List.take_length_add_append, List.drop_length_add_append]
  simp

theorem indexByte_lt (c : UInt8) (b : Bytes) (n : Nat) (h : indexByte c b = some n) : n < b.length := by
  obtain ⟨P, R, rfl, _, rfl⟩ := indexByte_some c b n h
  simp

theorem indexByte_split (c : UInt8) (b : Bytes) (n : Nat) (h : indexByte c b = some n) :
    b = b.take n ++ c :: b.drop (n + 1) := by
  obtain ⟨P, R, rfl, _, rfl⟩ := indexByte_some c b n h
  simp

theorem indexByte_take_ne (c : UInt8) (b : Bytes) (n : Nat) (h : indexByte c b = some n) :
    ∀ y ∈ b.take n, y ≠ c := by
  obtain ⟨P, R, rfl, hP, rfl⟩ := indexByte_some c b n h
  rwa [List.take_left]

theorem indexByte_get (c : UInt8) (b : Bytes) (n : Nat) (h : indexByte c b = some n) : b[n]? = some c := by
  obtain ⟨P, R, rfl, _, rfl⟩ := indexByte_some c b n h
  simp

theorem indexByte_ne {c d : UInt8} (hcd : c ≠ d) (b : Bytes) (n m : Nat) (h1 : indexByte c b = some n)
    (h2 : indexByte d b = some m) : n ≠ m := by
  rintro rfl
  exact hcd (Option.some.inj ((indexByte_get c b n h1).symm.trans (indexByte_get d b n h2)))

theorem indexByte_drop (c : UInt8) (b : Bytes) (n m : Nat) (h : indexByte c b = some n) (hm : m ≤ n) :
    indexByte c (b.drop m) = some (n - m) := by
  obtain ⟨P, R, rfl, hP, rfl⟩ := indexByte_some c b n h
  rw [List.drop_append_of_le_length hm, ← List.length_drop]
  exact indexByte_skip c _ R (fun y hy => hP y (List.mem_of_mem_drop hy))

theorem indexByte_of_mem (c : UInt8) (l : Bytes) (h : c ∈ l) : ∃ i, indexByte c l = some i := by
  obtain ⟨s, t, rfl, hs⟩ := List.eq_append_cons_of_mem h
  exact ⟨s.length, indexByte_skip c s t (List.forall_mem_ne'.mpr hs)⟩

theorem indexByte_of_append_lt (c : UInt8) (a b : Bytes) (i : Nat) (h : indexByte c (a ++ b) = some i)
    (hl : i < a.length) : indexByte c a = some i := by
  have hg := indexByte_get c _ i h
  rw [List.getElem?_append_left hl] at hg
  obtain ⟨j, hj⟩ := indexByte_of_mem c a (List.mem_of_getElem? hg)
  rw [← h, indexByte_append c a b j hj, hj]

theorem indexByte_append_ge (c : UInt8) (B x : Bytes) (n : Nat) (h : indexByte c B = none)
    (h' : indexByte c (B ++ x) = some n) : B.length ≤ n := by
  apply Nat.le_of_not_lt
  intro hl
  rw [indexByte_of_append_lt c B x n h' hl] at h
  cases h

theorem indexByte_append_none (c : UInt8) : ∀ (L S : Bytes), (∀ y ∈ L, y ≠ c) → indexByte c S = none →
    indexByte c (L ++ S) = none
  | [], _, _, h => h
  | y :: t, S, hL, h => by
    have hy : y ≠ c := hL y (by simp)
    simp only [List.cons_append, indexByte, hy, if_false]
    rw [indexByte_append_none c t S (fun z hz => hL z (by simp [hz])) h]; rfl

theorem indexByte_cons_none (c y : UInt8) (t : Bytes) (h : indexByte c (y :: t) = none) :
    y ≠ c ∧ indexByte c t = none := by
  simp only [indexByte] at h
  by_cases hy : y = c
  · simp [hy] at h
  · simp only [hy, if_false] at h
    cases ht : indexByte c t with
    | none => exact ⟨hy, rfl⟩
    | some _ => simp [ht] at h

theorem dropWhile_id {p : UInt8 → Bool} : ∀ (l : Bytes), (∀ c, l.head? = some c → p c = false) → l.dropWhile p = l
  | [], _ => rfl
  | c :: t, h => by simp [List.dropWhile, h c rfl]

theorem takeWhile_app_stop (p : UInt8 → Bool) : ∀ (l : Bytes) (c : UInt8) (X : Bytes), p c = false →
    (l ++ c :: X).takeWhile p = l.takeWhile p
  | [], c, X, h => by simp [List.takeWhile, h]
  | y :: t, c, X, h => by
    simp only [List.cons_append, List.takeWhile_cons]
    rw [takeWhile_app_stop p t c X h]

theorem dropWhile_app_stop (p : UInt8 → Bool) : ∀ (l : Bytes) (c : UInt8) (X : Bytes), p c = false →
    (l ++ c :: X).dropWhile p = l.dropWhile p ++ c :: X
  | [], c, X, h => by simp [List.dropWhile, h]
  | y :: t, c, X, h => by
    by_cases hy : p y = true
    · rw [List.cons_append, List.dropWhile_cons_of_pos hy, List.dropWhile_cons_of_pos hy, dropWhile_app_stop p t c X h]
    · rw [List.cons_append, List.dropWhile_cons_of_neg hy, List.dropWhile_cons_of_neg hy]; rfl

theorem head_dropWhile_not (p : UInt8 → Bool) (l : Bytes) (c : UInt8) (h : (l.dropWhile p).head? = some c) : p c = false := by
  have := List.head?_dropWhile_not p l
  rwa [h] at this

theorem drop_takeWhile_app (p : UInt8 → Bool) : ∀ (l X : Bytes),
    (l ++ X).drop (l.takeWhile p).length = l.dropWhile p ++ X
  | [], X => by simp
  | y :: t, X => by
    by_cases hy : p y = true
    · simp [hy, drop_takeWhile_app p t X]
    · simp [hy]

theorem takeWhile_len_add (p : UInt8 → Bool) (l : Bytes) : (l.takeWhile p).length + (l.dropWhile p).length = l.length := by
  have := congrArg List.length (List.takeWhile_append_dropWhile (p := p) (l := l))
  rw [List.length_append] at this
  exact this

/-- every element writes at least one byte: the fuel `length + 1` of the chunk readers covers the elements -/
theorem length_le_flatMap {α : Type} (enc : α → Bytes) (h : ∀ a, 0 < (enc a).length) : ∀ cs : List α,
    cs.length ≤ (cs.flatMap enc).length
  | [] => Nat.le_refl 0
  | a :: cs => by
    have := length_le_flatMap enc h cs
    have := h a
    simp only [List.flatMap_cons, List.length_cons, List.length_append]; omega

/-- `strip p l`: `l` without its trailing bytes that satisfy `p` -/
def strip (p : UInt8 → Bool) (l : Bytes) : Bytes := (l.reverse.dropWhile p).reverse

theorem strip_split (p : UInt8 → Bool) (w : Bytes) :
    ∃ s, w = strip p w ++ s ∧ (∀ x ∈ s, p x = true) ∧ ∀ c, (strip p w).getLast? = some c → p c = false := by
  unfold strip
  refine ⟨(w.reverse.takeWhile p).reverse, ?_, ?_, ?_⟩
  · have h2 := List.takeWhile_append_dropWhile (p := p) (l := w.reverse)
    rw [← List.reverse_append, h2, List.reverse_reverse]
  · intro x hx
    rw [List.mem_reverse] at hx
    exact List.all_eq_true.mp List.all_takeWhile x hx
  · intro c hc
    rw [List.getLast?_reverse] at hc
    have := List.head?_dropWhile_not p w.reverse
    rwa [hc] at this

theorem strip_prefix (p : UInt8 → Bool) (l : Bytes) : strip p l <+: l :=
  (strip_split p l).elim fun s h => ⟨s, h.1.symm⟩

theorem strip_append_of_pos {p : UInt8 → Bool} (w s : Bytes) (hs : ∀ x ∈ s, p x = true) : strip p (w ++ s) = strip p w := by
  unfold strip
  rw [List.reverse_append, List.dropWhile_append_of_pos (fun x hx => hs x (List.mem_reverse.mp hx))]

theorem strip_of_last {p : UInt8 → Bool} (l : Bytes) (hl : ∀ c, l.getLast? = some c → p c = false) : strip p l = l := by
  rw [strip, dropWhile_id l.reverse (by simpa using hl), List.reverse_reverse]

/-- `stripSpace`, `stripOWS` and `Spec.Http.trimOWS` cut at BOTH ends, `strip p (l.dropWhile p)`: on a text whose ends are
clean they do nothing -/
theorem strip_id {p : UInt8 → Bool} (l : Bytes) (hh : ∀ c, l.head? = some c → p c = false)
    (hl : ∀ c, l.getLast? = some c → p c = false) : strip p (l.dropWhile p) = l := by
  rw [dropWhile_id l hh, strip_of_last l hl]

theorem strip_clean {p : UInt8 → Bool} (l : Bytes) (h : ∀ x ∈ l, p x = false) : strip p (l.dropWhile p) = l :=
  strip_id l (fun c hc => h c (List.mem_of_head? hc)) (fun c hc => h c (List.mem_of_getLast? hc))

/-- the value region of a line that ends in CRLF: the CR goes, then the blanks in front of it -/
theorem trimValue_line (y : Bytes) : trimValue (y ++ [13]) = strip isOWS y := by
  unfold trimValue strip
  simp

theorem trimValue_line_id (v : Bytes) (h : ∀ c, v.getLast? = some c → isOWS c = false) : trimValue (v ++ [13]) = v := by
  rw [trimValue_line, strip_of_last v h]

theorem stripSpace_clean (k : Bytes) (h : ∀ x ∈ k, x ≠ 32) : stripSpace k = k :=
  strip_clean k fun x hx => beq_false_of_ne (h x hx)

theorem RT.stripSpace_sp (k : Bytes) (h : ∀ x ∈ k, x ≠ 32) : stripSpace (32 :: k) = k := by
  have : stripSpace (32 :: k) = stripSpace k := by simp [stripSpace, List.dropWhile]
  rw [this, stripSpace_clean k h]

theorem stripOWS_clean (k : Bytes) (h : ∀ x ∈ k, x ≠ 32 ∧ x ≠ 9) : stripOWS k = k :=
  strip_clean k fun x hx => by simp [h x hx]

theorem stripOWS_sp (k : Bytes) (h : ∀ x ∈ k, x ≠ 32 ∧ x ≠ 9) : stripOWS (32 :: k) = k := by
  have : stripOWS (32 :: k) = stripOWS k := by simp [stripOWS, List.dropWhile]
  rw [this, stripOWS_clean k h]

theorem splitOn_nosep (sep : UInt8) : ∀ (a : Bytes), (∀ x ∈ a, x ≠ sep) → splitOn sep a = [a]
  | [], _ => rfl
  | c :: t, h => by
    have hc : c ≠ sep := h c (by simp)
    simp [splitOn, hc, splitOn_nosep sep t (fun x hx => h x (by simp [hx]))]

theorem splitOn_append (sep : UInt8) : ∀ (a b : Bytes), (∀ x ∈ a, x ≠ sep) →
    splitOn sep (a ++ sep :: b) = a :: splitOn sep b
  | [], b, _ => by simp [splitOn]
  | c :: t, b, h => by
    have hc : c ≠ sep := h c (by simp)
    simp [splitOn, hc, splitOn_append sep t b (fun x hx => h x (by simp [hx]))]

/-- one element of a `Trailer` declaration, behind the blank that follows a comma or not: it has no comma, and
`stripOWS` gives the name back -/
theorem name_piece {k : Bytes} (hk : ∀ x ∈ k, x ≠ 44 ∧ (x ≠ 32 ∧ x ≠ 9)) (sp : Bool) :
    (∀ x ∈ (if sp then [32] else []) ++ k, x ≠ 44) ∧ stripOWS ((if sp then [32] else []) ++ k) = k := by
  cases sp
  · exact ⟨fun x hx => (hk x hx).1, stripOWS_clean k (fun x hx => (hk x hx).2)⟩
  · refine ⟨fun x hx => ?_, stripOWS_sp k (fun x hx => (hk x hx).2)⟩
    rcases List.mem_cons.mp hx with rfl | hx
    · decide
    · exact (hk x hx).1

/-! ### names joined by `", "`: the value of a `Trailer` field, and what `Trailer.SetTrailers` makes of it

`J` stands for the join, which the request encoder and the response writer (`Trailer.GetBytes`) each define. -/

section joined
variable {J : List Bytes → Bytes} (hJ1 : ∀ k, J [k] = k) (hJ2 : ∀ k k2 t, J (k :: k2 :: t) = k ++ 44 :: 32 :: J (k2 :: t))
include hJ1 hJ2

theorem joined_ne_nil : ∀ (names : List Bytes), names ≠ [] → (∀ k ∈ names, k ≠ []) → J names ≠ []
  | [], h, _ => absurd rfl h
  | [k], _, hk => by rw [hJ1]; exact hk k (by simp)
  | k :: k2 :: t, _, _ => by rw [hJ2]; simp

theorem split_joined : ∀ (names : List Bytes) (sp : Bool), names ≠ [] → (∀ k ∈ names, ∀ x ∈ k, x ≠ 44 ∧ (x ≠ 32 ∧ x ≠ 9)) →
    (splitOn 44 ((if sp then [32] else []) ++ J names)).map stripOWS = names
  | [], _, h, _ => absurd rfl h
  | [k], sp, _, hw => by
    obtain ⟨h44, hs⟩ := name_piece (hw k (by simp)) sp
    rw [hJ1, splitOn_nosep 44 _ h44, List.map_singleton, hs]
  | k :: k2 :: t, sp, _, hw => by
    obtain ⟨h44, hs⟩ := name_piece (hw k (by simp)) sp
    have ih := split_joined (k2 :: t) true (by simp) (fun y hy => hw y (by simp [hy]))
    have e : (if sp then [32] else []) ++ J (k :: k2 :: t) =
        ((if sp then [32] else []) ++ k) ++ 44 :: ((if true then [32] else []) ++ J (k2 :: t)) := by
      simp [hJ2, List.append_assoc]
    rw [e, splitOn_append 44 _ _ h44, List.map_cons, ih, hs]

theorem joined_getLast? : ∀ (names : List Bytes) (hne : names ≠ []), (∀ k ∈ names, k ≠ []) →
    (J names).getLast? = (names.getLast hne).getLast?
  | [], h, _ => absurd rfl h
  | [k], _, _ => by rw [hJ1]; rfl
  | k :: k2 :: t, _, hk => by
    have hk' : ∀ y ∈ k2 :: t, y ≠ [] := fun y hy => hk y (List.mem_cons_of_mem _ hy)
    have ih := joined_getLast? (k2 :: t) (by simp) hk'
    cases hx : (J (k2 :: t)).getLast? with
    | none => exact absurd (List.getLast?_eq_none_iff.mp hx) (joined_ne_nil hJ1 hJ2 (k2 :: t) (by simp) hk')
    | some x =>
      rw [hJ2, List.append_cons, List.append_cons, List.getLast?_append, hx, Option.some_or, ← hx, ih]
      rfl

/-- `Trailer.SetTrailers` on allowed names joined by `", "`: exactly those names (normalised), no error -/
theorem setTrailers_joined (dn : Bool) (names : List Bytes) (hne : names ≠ [])
    (hw : ∀ k ∈ names, k ≠ [] ∧ (∀ x ∈ k, x ≠ 44 ∧ (x ≠ 32 ∧ x ≠ 9)) ∧ isBadTrailer (normalizeKey dn k) = false) :
    setTrailers dn (J names) = (names.map (normalizeKey dn), false) := by
  unfold setTrailers
  have h1 : (J names).isEmpty = false :=
    List.isEmpty_eq_false_iff.mpr (joined_ne_nil hJ1 hJ2 names hne (fun k hk => (hw k hk).1))
  have h2 : ¬ ((J names).getLast? = some 44) := by
    rw [joined_getLast? hJ1 hJ2 names hne (fun k hk => (hw k hk).1)]
    exact fun h => ((hw _ (List.getLast_mem hne)).2.1 44 (List.mem_of_getLast? h)).1 rfl
  have h3 := split_joined hJ1 hJ2 names false hne (fun k hk => (hw k hk).2.1)
  simp only [Bool.false_eq_true, if_false, List.nil_append] at h3
  simp only [h1, Bool.false_eq_true, if_false, h2, h3]
  have h4 : names.filter (fun e => !e.isEmpty) = names := by
    rw [List.filter_eq_self]
    intro k hk
    simpa using (hw k hk).1
  have h6 : (names.map (normalizeKey dn)).filter (fun k => !isBadTrailer k) = names.map (normalizeKey dn) := by
    rw [List.filter_eq_self]
    intro k hk
    obtain ⟨k', hk', rfl⟩ := List.mem_map.mp hk
    simp [(hw k' hk').2.2]
  rw [h4, h6]
  congr 1
  rw [List.getLast?_map]
  cases hl : names.getLast? with
  | none => rfl
  | some k => exact (hw k (List.mem_of_getLast? hl)).2.2

end joined

/-- `Peek(n)` + `Skip(n)` succeed exactly when the `n` bytes have arrived, and cut them off -/
theorem takeN_ok {e : End} {n : Nat} {s b r : Bytes} :
    takeN e n s = .ok (b, r) ↔ n ≤ s.length ∧ b = s.take n ∧ r = s.drop n := by
  by_cases hn : s.length ≥ n <;> simp [takeN, hn, eq_comm]

theorem takeBody_ok {e : End} {n : Nat} {s b r : Bytes} :
    takeBody e n s = .ok (b, r) ↔ n ≤ s.length ∧ b = s.take n ∧ r = s.drop n := by
  rw [← takeN_ok (e := e)]
  unfold takeBody
  split
  · rename_i h; simp [h]
  · rfl

theorem takeN_len (e : End) (n : Nat) (s b rest : Bytes) (h : takeN e n s = .ok (b, rest)) : b.length = n := by
  obtain ⟨hn, rfl, _⟩ := takeN_ok.mp h
  exact List.length_take_of_le hn

theorem takeBody_left (e : End) (l r : Bytes) : takeBody e l.length (l ++ r) = .ok (l, r) :=
  takeBody_ok.mpr ⟨by simp, List.take_left.symm, List.drop_left.symm⟩

theorem takeBody_enc (e : End) (data rest : Bytes) :
    takeBody e (data.length + 2) (data ++ 13 :: 10 :: rest) = .ok (data ++ [13, 10], rest) := by
  have := takeBody_left e (data ++ [13, 10]) rest
  rwa [List.append_assoc, List.length_append] at this

/-! ### what the readers of the body can fail with -/

theorem takeN_err {e : End} {n : Nat} {s : Bytes} {x : RdErr} (h : takeN e n s = .error x) : x = endErr e := by
  unfold takeN at h
  split at h <;> cases h
  rfl

theorem takeBody_err {e : End} {n : Nat} {s : Bytes} {x : RdErr} (h : takeBody e n s = .error x) :
    x = endErr e ∨ x = .unexpectedEOF := by
  unfold takeBody at h
  split at h
  · cases h; exact .inr rfl
  · exact .inl (takeN_err h)

theorem readHexIntAux_err {e : End} {s : Bytes} {n i : Nat} {x : RdErr} (h : readHexIntAux e n i s = .error x) :
    x = .bad ∨ x = endErr e := by
  revert h
  fun_induction readHexIntAux e n i s <;> intro h
  case case6 ih => exact ih h
  all_goals cases h
  all_goals first | exact .inl rfl | exact .inr rfl

theorem chunkSizeTail_err {e : End} {r : Bytes} {x : RdErr} (h : chunkSizeTail e r = .error x) : x = .bad := by
  revert h
  fun_induction chunkSizeTail e r <;> intro h
  case case2 ih => exact ih h
  all_goals cases h
  all_goals rfl

/-- the chunk-size line fails as malformed or with the end of the stream (a raw EOF as `io.ErrUnexpectedEOF`) -/
theorem parseChunkSize_err {e : End} {s : Bytes} {x : RdErr} (h : parseChunkSize e s = .error x) :
    x = .bad ∨ x = endErr e ∨ x = .unexpectedEOF := by
  revert h
  fun_cases parseChunkSize e s <;> intro h <;> cases h
  · exact .inr (.inr rfl)
  · exact (readHexIntAux_err ‹_›).imp_right .inl
  · exact .inl (chunkSizeTail_err ‹_›)

/-- so neither "too large" nor the hand-over to `mime/multipart` comes from them -/
theorem wireErr_ne {e : End} {x : RdErr} (h : x = .bad ∨ x = endErr e ∨ x = .unexpectedEOF) :
    x ≠ .tooLarge ∧ x ≠ .unmodelled := by
  rcases h with rfl | rfl | rfl <;> cases e <;> exact ⟨nofun, nofun⟩

/-! ### the completeness pre-check of the request header block is stable under appended bytes -/

theorem rawHeadersAux_append : ∀ (b x : Bytes) (l : Nat) (cr : Bool) (n : Nat),
    rawHeadersAux l cr b = some n → rawHeadersAux l cr (b ++ x) = some n
  | [], _, _, _, _, h => by simp [rawHeadersAux] at h
  | c :: t, x, l, cr, n, h => by
    simp only [rawHeadersAux, List.cons_append] at h ⊢
    split
    · rename_i hc
      simp only [hc, if_true] at h
      split
      · rename_i hb; simpa [hb] using h
      · rename_i hb
        simp only [hb, if_false] at h
        cases hr : rawHeadersAux 0 false t with
        | none => simp [hr] at h
        | some m => rw [rawHeadersAux_append t x 0 false m hr]; simpa [hr] using h
    · rename_i hc
      simp only [hc, if_false] at h
      cases hr : rawHeadersAux (l + 1) (l == 0 && c == 13) t with
      | none => simp [hr] at h
      | some m => rw [rawHeadersAux_append t x _ _ m hr]; simpa [hr] using h

/-- `ext.ReadRawHeaders`: once the blank line has arrived its position never changes. -/
theorem rawHeadersLen_append (b x : Bytes) (n : Nat) (h : rawHeadersLen b = some n) :
    rawHeadersLen (b ++ x) = some n := rawHeadersAux_append b x 0 false n h

/-! ### the keep-alive loop only produces clean traces -/

/-- shape of everything the loop can emit: handled requests each immediately answered by their 200,
optionally preceded by `100 Continue`; an error response (400/413/408) carries `Connection: close`
and ends the trace; a closing 200 ends the trace. -/
def cleanTrace : List Ev → Bool
  | [] => true
  | [.unmodelled] => true           -- handed over to mime/multipart: no claim
  | [.continue100, .unmodelled] => true
  | [.continue100] => true          -- interim response, then the peer vanished (raw EOF)
  | .continue100 :: .req s :: t => cleanTrace (.req s :: t)
  | .continue100 :: .resp st c :: t => cleanTrace (.resp st c :: t)
  | .req _ :: .resp st c :: t => st == 200 && (if c then t.isEmpty else cleanTrace t)
  | [.resp st c] => c && (st == 400 || st == 413 || st == 408)
  | _ => false

theorem errStatus_clean (x : RdErr) (st : Nat) (h : errStatus x = some st) :
    (st = 400 ∨ st = 413) ∨ st = 408 := by
  cases x <;> simp [errStatus] at h <;> subst h <;> simp

theorem serveLoop_clean (cfg : Cfg) (e : End) : ∀ (fuel : Nat) (first : Bool) (s : Bytes),
    cleanTrace (serveLoop cfg e fuel first s) = true
  | 0, _, _ => by simp [serveLoop, cleanTrace]
  | fuel + 1, first, s => by
    have ih := serveLoop_clean cfg e fuel
    unfold serveLoop
    split
    · simp [cleanTrace]
    · split
      · simp [cleanTrace]
      · split
        · split <;> simp [cleanTrace]
        · split <;> simp [cleanTrace]
      · rename_i hd n _
        simp only
        cases hb : continueReadBody cfg e hd (List.drop n s) with
        | err x =>
          cases x <;> cases hc : mayContinue hd <;> simp [cleanTrace, errStatus]
        | ok hd' body tr rest =>
          -- a handled request: the trace goes on (`ih`) exactly when its 200 does not close
          cases hc : mayContinue hd <;> cases hk : (cfg.disableKeepalive || hd'.connClose)
          all_goals first
            | (have h12 := Bool.or_eq_false_iff.mp hk
               simp [cleanTrace, ih, h12.1, h12.2])
            | (have h12 : cfg.disableKeepalive = true ∨ hd'.connClose = true := by simpa using hk
               simp [cleanTrace, h12])

/-- C03 (reject is clean) / C01 (one response per request, in order) on the loop model, for every
configuration, every inbound byte stream and both ways the stream can end. -/
theorem serve_clean (cfg : Cfg) (e : End) (s : Bytes) : cleanTrace (serve cfg e s) = true :=
  serveLoop_clean cfg e _ true s

/-- in a clean trace every response that is not a handler's 200 is a closing 400/413/408 -/
theorem cleanTrace_err (l : List Ev) : cleanTrace l = true → ∀ st c, Ev.resp st c ∈ l → st ≠ 200 →
    c = true ∧ (st = 400 ∨ st = 413 ∨ st = 408) := by
  fun_induction cleanTrace l with
  | case1 => intro _ st c hm; cases hm
  | case2 | case3 | case4 => intro _ st c hm; simp at hm
  | case5 s t ih => intro h st c hm; exact ih h st c (by simpa using hm)
  | case6 st' c' t ih => intro h st c hm; exact ih h st c (by simpa using hm)
  | case7 s st' c' t ih =>
    -- a request and its answer `resp st' c'`, which is a 200; then the end (if it closes) or a clean trace
    intro h st c hm hne
    simp only [Bool.and_eq_true, beq_iff_eq] at h
    simp only [List.mem_cons, reduceCtorEq, false_or, Ev.resp.injEq] at hm
    rcases hm with ⟨rfl, rfl⟩ | hm
    · exact absurd h.1 hne
    · cases c' with
      | true =>
        have ht : t = [] := by simpa using h.2
        rw [ht] at hm; cases hm
      | false => exact ih (by simpa using h.2) st c hm hne
  | case8 st' c' =>
    intro h st c hm _
    simp only [List.mem_singleton, Ev.resp.injEq] at hm
    rw [hm.1, hm.2]; simpa [or_assoc] using h
  | case9 => intro h; cases h

end Hertz.H1
