import Hertz.Proofs.RouteAdd
import Hertz.Proofs.RouteFind
/-!
C06, engine level.  `EngineOKc`: the method trees are well formed and denote exactly the routes registered so far.
`addRoute_cases` says what one `Engine.addRoute` does under that invariant (`Refused`, or accepted with the invariant
kept), `addRoutes_cases` folds it over a list with both outcomes.  From these two: an accepted list yields an engine
(`addRoutes_ok`) whose `Engine.serve` follows the priority rule of `Spec.Route` (`serve_spec`), and a list is accepted
exactly when every registration is valid on its own (`ValidReg`) and no two share method and key
(`addRoutes_accepts_iff`), a property of the multiset of registrations.  The model refuses with `.assert` (empty path or
method, path not starting with `/`), `.invalid` (`checkPathValid`) or `.conflict` (the key has handlers in the method's
tree; `/:a` vs `/:b` and `/*a` vs `/*b` are such conflicts, their keys coincide), never with a run-time panic.
-/
namespace Hertz.Route
open Hertz.Spec.Route

/-- registrations as routes of the specification -/
def toSpec (rs : List (Bytes × Bytes × Nat)) : List Spec.Route.Route := rs.map (fun r => ⟨r.1, r.2.1, r.2.2⟩)

/-- the invariant of registration, for params capacity `cap`: tree methods are pairwise distinct; every method tree is
well formed, rooted at `/`, has its parameter bookkeeping within `cap` and holds exactly the routes of `rs` with its
method; every route's method has a tree -/
def EngineOKc (e : Engine) (cap : Nat) (rs : List Spec.Route.Route) : Prop :=
  (e.trees.map (·.method)).Nodup ∧
  (∀ t ∈ e.trees, WF t.root .skind ∧ t.root.pfx.head? = some 47 ∧ PnOK t.root 0 cap ∧ Denotes t.root rs t.method) ∧
  (∀ r ∈ rs, ∃ t ∈ e.trees, t.method = r.method)

/-- the invariant at the engine's own `maxParams`, the capacity `serve` allocates -/
def EngineOK (e : Engine) (rs : List Spec.Route.Route) : Prop := EngineOKc e e.maxParams rs

def Distinct (r r' : Spec.Route.Route) : Prop := ¬ (r.method = r'.method ∧ keyOf r = keyOf r')

/-- a registration that `Engine.addRoute` accepts on an engine without conflicting route -/
def ValidReg (r : Bytes × Bytes × Nat) : Prop := r.1 ≠ [] ∧ checkPathValid r.2.1 = true

instance (r : Bytes × Bytes × Nat) : Decidable (ValidReg r) := by unfold ValidReg; infer_instance

/-- why the registration `r` is refused after the routes `rs`, and with which fault: it is not valid on its own (`.assert`
or `.invalid`; which of the two is not said), or it is and an earlier route has its method and key (`.conflict`) -/
def Refused (rs : List Spec.Route.Route) (r : Bytes × Bytes × Nat) (f : Fault) : Prop :=
  (¬ ValidReg r ∧ (f = .assert ∨ f = .invalid)) ∨
  (ValidReg r ∧ f = .conflict ∧ ∃ r' ∈ rs, ¬ Distinct r' ⟨r.1, r.2.1, r.2.2⟩)

theorem distinct_symm {r r' : Spec.Route.Route} (h : Distinct r r') : Distinct r' r :=
  fun hh => h ⟨hh.1.symm, hh.2.symm⟩

theorem treesGet_some : ∀ (ts : List Router) (m : Bytes) (t : Router), treesGet ts m = some t → t ∈ ts ∧ t.method = m
  | [], _, _, h => by simp [treesGet] at h
  | t0 :: r, m, t, h => by
    simp only [treesGet] at h
    split at h
    · cases h; exact ⟨by simp, by assumption⟩
    · have := treesGet_some r m t h
      exact ⟨List.mem_cons_of_mem _ this.1, this.2⟩

theorem treesGet_none : ∀ (ts : List Router) (m : Bytes), treesGet ts m = none → ∀ t ∈ ts, t.method ≠ m
  | [], _, _ => by simp
  | t0 :: r, m, h => by
    simp only [treesGet] at h
    split at h
    · cases h
    · intro t ht
      rcases List.mem_cons.1 ht with rfl | ht
      · assumption
      · exact treesGet_none r m h t ht

theorem treesGet_of_mem : ∀ (ts : List Router) (m : Bytes), m ∈ ts.map (·.method) → ∃ t, treesGet ts m = some t
  | [], _, h => by simp at h
  | t0 :: r, m, h => by
    simp only [treesGet]
    by_cases h0 : t0.method = m
    · simp [h0]
    · simp only [h0, if_false]
      apply treesGet_of_mem r m
      simp only [List.map_cons, List.mem_cons] at h
      rcases h with h | h
      · exact absurd h.symm h0
      · exact h

theorem treesSet_methods : ∀ (ts : List Router) (m : Bytes) (n : Node),
    (treesSet ts m n).map (·.method) = ts.map (·.method)
  | [], _, _ => rfl
  | t0 :: r, m, n => by
    simp only [treesSet]
    split
    · simp
    · simp [treesSet_methods r m n]

theorem treesSet_mem : ∀ (ts : List Router) (m : Bytes) (n : Node), (ts.map (·.method)).Nodup →
    ∀ t', t' ∈ treesSet ts m n → (t' ∈ ts ∧ t'.method ≠ m) ∨ (t'.method = m ∧ t'.root = n)
  | [], _, _, _, t', h => by simp [treesSet] at h
  | t0 :: r, m, n, hnd, t', h => by
    simp only [List.map_cons, List.nodup_cons] at hnd
    simp only [treesSet] at h
    split at h
    · rename_i h0
      rcases List.mem_cons.1 h with rfl | h
      · exact Or.inr ⟨h0, rfl⟩
      · left
        refine ⟨List.mem_cons_of_mem _ h, ?_⟩
        intro hm
        apply hnd.1
        rw [h0, ← hm]
        exact List.mem_map.2 ⟨t', h, rfl⟩
    · rename_i h0
      rcases List.mem_cons.1 h with rfl | h
      · exact Or.inl ⟨by simp, h0⟩
      · rcases treesSet_mem r m n hnd.2 t' h with ⟨h1, h2⟩ | h1
        · exact Or.inl ⟨List.mem_cons_of_mem _ h1, h2⟩
        · exact Or.inr h1

/-- the routes of a tree after one more route `r0` was registered: the tree of `r0`'s method gains its key, the others nothing -/
theorem denotes_snoc {root root' : Node} {rs : List Spec.Route.Route} {m : Bytes} {r0 : Spec.Route.Route}
    (hd : Denotes root rs m)
    (h : ∀ kv, kv ∈ routes root' ↔ (kv ∈ routes root ∨ (r0.method = m ∧ kv = (keyOf r0, valOf r0)))) :
    Denotes root' (rs ++ [r0]) m := by
  intro kv
  rw [h kv, hd kv]
  simp only [List.mem_append, List.mem_singleton, or_and_right, exists_or, exists_eq_left]

theorem denotes_empty {e : Engine} {rs : List Spec.Route.Route} {m : Bytes}
    (hcover : ∀ r ∈ rs, ∃ t ∈ e.trees, t.method = r.method) (hg : treesGet e.trees m = none) :
    Denotes Node.empty rs m := by
  intro kv; rw [routes_empty]
  constructor
  · intro hk; cases hk
  · rintro ⟨r, hr, hrm, -⟩
    obtain ⟨t, ht, htm⟩ := hcover r hr
    exact absurd (htm.trans hrm) (treesGet_none _ _ hg t ht)

theorem denotes_key {root : Node} {rs : List Spec.Route.Route} {m : Bytes} (hd : Denotes root rs m) (k : Bytes) :
    k ∈ keys (routes root) ↔ ∃ r ∈ rs, r.method = m ∧ keyOf r = k := by
  simp only [keys, List.mem_map]
  constructor
  · rintro ⟨kv, hkv, rfl⟩
    obtain ⟨r, hr, hrm, rfl⟩ := (hd kv).1 hkv
    exact ⟨r, hr, hrm, rfl⟩
  · rintro ⟨r, hr, hrm, rfl⟩
    exact ⟨_, (hd _).2 ⟨r, hr, hrm, rfl⟩, rfl⟩

theorem engineOKc_mono {e : Engine} {cap cap' : Nat} {rs : List Spec.Route.Route} (h : EngineOKc e cap rs) (hcc : cap ≤ cap') :
    EngineOKc e cap' rs :=
  ⟨h.1, fun t ht => ⟨(h.2.1 t ht).1, (h.2.1 t ht).2.1, pnok_mono _ _ _ _ (h.2.1 t ht).2.2.1 hcc, (h.2.1 t ht).2.2.2⟩, h.2.2⟩

/-- **What one `Engine.addRoute` does** on an engine that satisfies the invariant for the routes `rs`, at a capacity that
covers the wildcards of the new path: refused as `Refused` says, else accepted with the invariant kept.  In particular
never a run-time panic. -/
theorem addRoute_cases (e : Engine) (cap : Nat) (rs : List Spec.Route.Route) (m p : Bytes) (h : Nat)
    (hok : EngineOKc e cap rs) (hcp : p.count 58 + p.count 42 ≤ cap) :
    (∃ f, e.addRoute m p h = .error f ∧ Refused rs (m, p, h) f) ∨
    (ValidReg (m, p, h) ∧ (∀ r ∈ rs, Distinct r ⟨m, p, h⟩) ∧ ∃ e', e.addRoute m p h = .ok e' ∧
      EngineOKc e' cap (rs ++ [⟨m, p, h⟩]) ∧ e'.maxParams = max e.maxParams (countParams p)) := by
  obtain ⟨hnd, htrees, hcover⟩ := hok
  -- the assertions of `Engine.addRoute`
  by_cases hass : p.head? = some 47 ∧ m ≠ []
  case neg =>
    refine Or.inl ⟨_, ?_, Or.inl ⟨fun hv => hass ⟨?_, hv.1⟩, Or.inl rfl⟩⟩
    · unfold Engine.addRoute
      cases p with
      | nil => rfl
      | cons c r =>
        by_cases hc : c = 47
        · subst hc
          have : m = [] := Decidable.not_not.1 fun hm => hass ⟨rfl, hm⟩
          subst this; rfl
        · simp [slash, hc]
    · obtain ⟨r, hr⟩ := checkPathValid_head p hv.2
      rw [hr]; rfl
  obtain ⟨hhd, hm⟩ := hass
  obtain ⟨r, rfl⟩ := cons_of_head hhd
  have hme : m.isEmpty = false := by cases m with | nil => exact absurd rfl hm | cons _ _ => rfl
  -- past them it is `routerAddRoute` on the root of the method's tree, which is created empty if need be
  obtain ⟨trees0, root, hrun, hnd0, hm0, hsub, hsup, hroot, hden⟩ : ∃ trees0 root,
      e.addRoute m (47 :: r) h = (match routerAddRoute root (47 :: r) h with
        | .error f => .error f
        | .ok root' => .ok ⟨treesSet trees0 m root', max e.maxParams (countParams (47 :: r))⟩) ∧
      (trees0.map (·.method)).Nodup ∧ m ∈ trees0.map (·.method) ∧
      (∀ t ∈ trees0, t.method ≠ m → t ∈ e.trees) ∧ (∀ t ∈ e.trees, t ∈ trees0) ∧
      RootOK root cap ∧ Denotes root rs m := by
    cases hg : treesGet e.trees m with
    | some t =>
      obtain ⟨htm, hmm⟩ := treesGet_some _ _ _ hg
      obtain ⟨h1, h2, h3, h4⟩ := htrees t htm
      refine ⟨e.trees, t.root, ?_, hnd, List.mem_map.2 ⟨t, htm, hmm⟩, fun t ht _ => ht, fun t ht => ht,
        Or.inr ⟨h1, h2, h3⟩, hmm ▸ h4⟩
      simp only [Engine.addRoute, slash, bne_self_eq_false, hme, hg, Bool.false_eq_true, if_false]
      rfl
    | none =>
      have hno := treesGet_none _ _ hg
      refine ⟨e.trees ++ [⟨m, Node.empty⟩], Node.empty, ?_, ?_, by simp, ?_, fun t ht => List.mem_append_left _ ht,
        Or.inl rfl, denotes_empty hcover hg⟩
      · simp only [Engine.addRoute, slash, bne_self_eq_false, hme, hg, Bool.false_eq_true, if_false]
        rfl
      · rw [List.map_append, List.nodup_append]
        refine ⟨hnd, by simp, ?_⟩
        intro a ha b hb
        simp at hb; subst hb
        obtain ⟨t, ht, rfl⟩ := List.mem_map.1 ha
        exact hno t ht
      · intro t ht hne
        rcases List.mem_append.1 ht with ht | ht
        · exact ht
        · simp at ht; subst ht; exact absurd rfl hne
  rw [hrun]
  rcases routerAddRoute_spec root (47 :: r) h cap hroot hcp with
    ⟨hv, hr⟩ | ⟨hv, hK, hr⟩ | ⟨hv, hK, root', hr, hwf', hhead', hpn', hrt⟩
  · rw [hr]
    exact Or.inl ⟨_, rfl, Or.inl ⟨fun hv' => Bool.noConfusion (hv.symm.trans hv'.2), Or.inr rfl⟩⟩
  · rw [hr]
    obtain ⟨r0, hr0, hr0m, hk⟩ := (denotes_key hden _).1 hK
    exact Or.inl ⟨_, rfl, Or.inr ⟨⟨hm, hv⟩, rfl, r0, hr0, fun hd => hd ⟨hr0m, hk⟩⟩⟩
  · rw [hr]
    refine Or.inr ⟨⟨hm, hv⟩, fun r0 hr0 ⟨hrm, hk⟩ => hK ((denotes_key hden _).2 ⟨r0, hr0, hrm, hk⟩), _, rfl,
      ⟨?_, ?_, ?_⟩, rfl⟩
    · show ((treesSet trees0 m root').map (·.method)).Nodup
      rw [treesSet_methods]; exact hnd0
    · intro t' ht'
      rcases treesSet_mem trees0 m root' hnd0 t' ht' with ⟨h1, h2⟩ | ⟨h1, h2⟩
      · obtain ⟨a1, a2, a3, a4⟩ := htrees t' (hsub t' h1 h2)
        exact ⟨a1, a2, a3, denotes_snoc a4 fun kv => by simp [Ne.symm h2]⟩
      · rw [h2, h1]
        exact ⟨hwf', hhead', hpn', denotes_snoc hden fun kv => by rw [hrt kv]; simp [keyOf, valOf]⟩
    · intro r0 hr0
      have hin : r0.method ∈ (treesSet trees0 m root').map (·.method) := by
        rw [treesSet_methods]
        rcases List.mem_append.1 hr0 with hr0 | hr0
        · obtain ⟨t, ht, htm⟩ := hcover r0 hr0
          exact List.mem_map.2 ⟨t, hsup t ht, htm⟩
        · simp at hr0; subst hr0; exact hm0
      obtain ⟨t, ht, htm⟩ := List.mem_map.1 hin
      exact ⟨t, ht, htm⟩

/-- a byte is a `:` or a `*`, not both: the `*`s are among the bytes that are not `:` -/
theorem count_wild_le (p : Bytes) : p.count 58 + p.count 42 ≤ p.length := by
  rw [List.length_eq_countP_add_countP (· == (58 : UInt8)) (l := p)]
  refine Nat.add_le_add_left (List.countP_mono_left fun x _ h => ?_) _
  rw [beq_iff_eq] at h
  subst h
  decide

theorem countParams_eq (p : Bytes) (h : p.length < 65536) : countParams p = p.count 58 + p.count 42 := by
  have := count_wild_le p
  simp only [countParams, paramLabel, anyLabel]
  omega

theorem toSpec_cons (m p : Bytes) (h : Nat) (r : List (Bytes × Bytes × Nat)) :
    toSpec ((m, p, h) :: r) = ⟨m, p, h⟩ :: toSpec r := rfl

theorem engineOK_empty : EngineOK {} [] := by
  refine ⟨by simp, ?_, ?_⟩
  · intro t ht; simp at ht
  · intro r hr; simp at hr

/-- **What `Engine.addRoutes` does** after the routes `rs0`: either every registration of `rs` is valid, the whole
list has pairwise distinct (method, key), and the invariant holds of the result for every capacity that covers the
wildcards of each path; or it stops at the first registration that is invalid or collides with an earlier one. -/
theorem addRoutes_cases (rs : List (Bytes × Bytes × Nat)) : ∀ (e0 : Engine) (rs0 : List Spec.Route.Route) (cap : Nat),
    EngineOKc e0 cap rs0 → rs0.Pairwise Distinct →
    (∃ e, Engine.addRoutes e0 rs = .ok e ∧ (∀ r ∈ rs, ValidReg r) ∧ (rs0 ++ toSpec rs).Pairwise Distinct ∧
      e0.maxParams ≤ e.maxParams ∧ (∀ r ∈ rs, countParams r.2.1 ≤ e.maxParams) ∧
      ∀ cap', cap ≤ cap' → (∀ r ∈ rs, r.2.1.count 58 + r.2.1.count 42 ≤ cap') → EngineOKc e cap' (rs0 ++ toSpec rs)) ∨
    (∃ f pre r post, Engine.addRoutes e0 rs = .error f ∧ rs = pre ++ r :: post ∧
      (∃ e1, Engine.addRoutes e0 pre = .ok e1) ∧
      Refused (rs0 ++ toSpec pre) r f) := by
  induction rs with
  | nil =>
    intro e0 rs0 cap hok hp
    exact Or.inl ⟨e0, rfl, (fun _ h => nomatch h), by simpa [toSpec] using hp, Nat.le_refl _, (fun _ h => nomatch h),
      fun cap' hcc _ => by rw [show toSpec [] = [] from rfl, List.append_nil]; exact engineOKc_mono hok hcc⟩
  | cons x rest ih =>
    intro e0 rs0 cap hok hp
    obtain ⟨m, p, hd⟩ := x
    rcases addRoute_cases e0 _ rs0 m p hd (engineOKc_mono hok (Nat.le_max_left cap _)) (Nat.le_max_right _ _) with
      ⟨f, hf, hcls⟩ | ⟨hv, hdist, e1, hadd, hok1, hmax⟩
    · exact Or.inr ⟨f, [], _, rest, by simp only [Engine.addRoutes, hf], rfl, ⟨e0, rfl⟩, (List.append_nil rs0).symm ▸ hcls⟩
    have hp1 : (rs0 ++ [(⟨m, p, hd⟩ : Spec.Route.Route)]).Pairwise Distinct := by
      rw [List.pairwise_append]
      exact ⟨hp, by simp, fun a ha b hb => by simp at hb; subst hb; exact hdist a ha⟩
    have hrun : Engine.addRoutes e0 ((m, p, hd) :: rest) = Engine.addRoutes e1 rest := by
      simp only [Engine.addRoutes, hadd]
    have happ : ∀ l, (rs0 ++ [(⟨m, p, hd⟩ : Spec.Route.Route)]) ++ toSpec l = rs0 ++ toSpec ((m, p, hd) :: l) := fun l => by
      rw [toSpec_cons, List.append_assoc]; rfl
    rw [hrun]
    rcases ih e1 _ _ hok1 hp1 with ⟨e, he, hval, hpw, hmp, hcnt, hinv⟩ | ⟨f, pre, r, post, hf, hrs, ⟨e2, he2⟩, hcls⟩
    · refine Or.inl ⟨e, he, ?_, happ rest ▸ hpw, Nat.le_trans (hmax ▸ Nat.le_max_left _ _) hmp, ?_, ?_⟩
      · intro r hr
        rcases List.mem_cons.1 hr with rfl | hr
        · exact hv
        · exact hval r hr
      · intro r hr
        rcases List.mem_cons.1 hr with rfl | hr
        · exact Nat.le_trans (hmax ▸ Nat.le_max_right _ _) hmp
        · exact hcnt r hr
      · intro cap' hcc hall
        rw [← happ]
        exact hinv cap' (Nat.max_le.2 ⟨hcc, hall _ List.mem_cons_self⟩) fun r hr => hall r (List.mem_cons_of_mem _ hr)
    · refine Or.inr ⟨f, (m, p, hd) :: pre, r, post, hf, by rw [hrs]; rfl, ⟨e2, by simp only [Engine.addRoutes, hadd, he2]⟩, ?_⟩
      rw [← happ]; exact hcls

theorem addRoutes_ok (rs : List (Bytes × Bytes × Nat)) (e : Engine)
    (hlen : ∀ r ∈ rs, r.2.1.length < 65536) (h : Engine.addRoutes {} rs = .ok e) : EngineOK e (toSpec rs) := by
  rcases addRoutes_cases rs {} [] 0 engineOK_empty .nil with ⟨e', he, -, -, -, hcnt, hinv⟩ | ⟨f, _, _, _, hf, -⟩
  · cases he.symm.trans h
    -- `countParams` is the number of wildcards when it does not wrap, and `maxParams` is the largest `countParams`
    exact hinv _ (Nat.zero_le _) fun r hr => countParams_eq _ (hlen r hr) ▸ hcnt r hr
  · cases hf.symm.trans h

/-- On an engine whose trees hold exactly the routes `rs` (every accepted registration list gives one, `addRoutes_ok`),
for every method and path: the engine runs the handler of the route the priority rule selects, with that route's
pattern as full path and the matched substrings as parameters; if no pattern matches no route handler runs; it
never panics. -/
theorem serve_spec (e : Engine) (rs : List Spec.Route.Route) (hok : EngineOK e rs) (m p : Bytes) :
    (∃ r ps, Spec.Route.Selected rs m p r ps ∧ e.serve m p = .handler ⟨r.handler, r.pattern, ps⟩) ∨
    (Spec.Route.NoMatch rs m p ∧ e.serve m p = .noRoute) := by
  obtain ⟨-, htrees, hcover⟩ := hok
  cases hg : treesGet e.trees m with
  | none =>
    right
    refine ⟨?_, by simp [Engine.serve, hg]⟩
    intro r hr
    by_cases hm : r.method = m
    · obtain ⟨t, ht, htm⟩ := hcover r hr
      exact absurd (htm.trans hm) (treesGet_none _ _ hg t ht)
    · simp [Route.matches, hm]
  | some t =>
    obtain ⟨htm, hmm⟩ := treesGet_some _ _ _ hg
    obtain ⟨h1, -, h3, h4⟩ := htrees t htm
    rw [hmm] at h4
    rcases find_selected t.root e.maxParams rs m p h1 h3 h4 with ⟨r, ps, hsel, hf⟩ | ⟨hno, hf⟩
    · exact Or.inl ⟨r, ps, hsel, by simp [Engine.serve, hg, hf]⟩
    · exact Or.inr ⟨hno, by simp [Engine.serve, hg, hf]⟩

/-- **Acceptance, characterised.**  A list of registrations is accepted by a fresh engine iff every
registration is valid on its own and no two share method and key. -/
theorem addRoutes_accepts_iff (rs : List (Bytes × Bytes × Nat)) :
    (∃ e, Engine.addRoutes {} rs = .ok e) ↔ ((∀ r ∈ rs, ValidReg r) ∧ (toSpec rs).Pairwise Distinct) := by
  rcases addRoutes_cases rs {} [] 0 engineOK_empty .nil with ⟨e', he, hv, hpw, -⟩ | ⟨f, pre, r, post, hf, rfl, -, hcls⟩
  · exact ⟨fun _ => ⟨hv, hpw⟩, fun _ => ⟨e', he⟩⟩
  · refine ⟨fun ⟨e, he⟩ => (nomatch hf.symm.trans he), fun ⟨hv, hpw⟩ => ?_⟩
    rcases hcls with ⟨hnv, -⟩ | ⟨-, -, r', hr', hnd⟩
    · exact absurd (hv r (by simp)) hnv
    · -- `r'` stands before `r` in the list, so the two are distinct
      have : toSpec (pre ++ r :: post) = toSpec pre ++ ⟨r.1, r.2.1, r.2.2⟩ :: toSpec post := by simp [toSpec]
      rw [this, List.pairwise_append] at hpw
      exact absurd (hpw.2.2 r' hr' _ List.mem_cons_self) hnd

theorem toSpec_perm {rs rs' : List (Bytes × Bytes × Nat)} (h : rs.Perm rs') : (toSpec rs).Perm (toSpec rs') :=
  List.Perm.map _ h

theorem addRoutes_accepts_perm (rs rs' : List (Bytes × Bytes × Nat)) (h : rs.Perm rs') :
    (∃ e, Engine.addRoutes {} rs = .ok e) ↔ (∃ e', Engine.addRoutes {} rs' = .ok e') := by
  rw [addRoutes_accepts_iff, addRoutes_accepts_iff]
  have hmem : (∀ r ∈ rs, ValidReg r) ↔ (∀ r ∈ rs', ValidReg r) :=
    ⟨fun hh r hr => hh r (h.mem_iff.2 hr), fun hh r hr => hh r (h.mem_iff.1 hr)⟩
  rw [hmem, (toSpec_perm h).pairwise_iff (fun hxy => distinct_symm hxy)]

/-- what a client can observe of a registration list: `none` if registration is refused (the Go
program panics while the routes are set up), else the outcome of the request `(m, p)` -/
def observe (rs : List (Bytes × Bytes × Nat)) (m p : Bytes) : Option Served :=
  match Engine.addRoutes {} rs with
  | .ok e => some (e.serve m p)
  | .error _ => none

end Hertz.Route
