import Hertz.Model.HeaderWrite
import Hertz.Spec.Head
import Hertz.Proofs.Bytesconv
import Hertz.Proofs.SpecHex
/-!
The three header serialisers (`Model/HeaderWrite.lean`) under the strict line reader `Spec.Head`: a line `appendHeaderLine`
writes holds no CR/LF, so a block reads back as its kept fields for EVERY state (`fields_block`, `parseHead_block`); the
request line through `appendRequestLinePart`; the names `ResponseHeader.AppendBytes` writes by itself (`frontFields_names`).
`headerLine_arith` / `kept_arith` are the equations to evaluate concrete headers with.  A valid field name is a token of
the strict request decoder (`validName_tchar`).
-/
namespace Hertz.HW
open Hertz Hertz.Gen.Str Hertz.Spec.Head

theorem validName_eq (k : Bytes) : validName k = k.all nameChar := by
  simp only [validName, validHeaderFieldNameTable_eq]

theorem validName_clean (k : Bytes) (h : validName k = true) : ∀ x ∈ k, x ≠ 13 ∧ x ≠ 10 ∧ x ≠ 58 := by
  rw [validName_eq, List.all_eq_true] at h
  intro x hx
  have hn : nameChar x = true := h x hx
  refine ⟨?_, ?_, ?_⟩ <;> (rintro rfl; exact absurd hn (by decide))

theorem newlineToSpace_clean (v : Bytes) : ∀ x ∈ newlineToSpace v, x ≠ 13 ∧ x ≠ 10 := by
  intro x hx
  simp only [newlineToSpace, List.mem_map] at hx
  obtain ⟨c, _, rfl⟩ := hx
  rw [newlineToSpaceTable_eq]
  split
  · decide
  · rename_i h
    exact ⟨fun e => h (Or.inr e), fun e => h (Or.inl e)⟩

theorem strCRLF_eq : strCRLF = [13, 10] := by decide
theorem strColonSpace_eq : strColonSpace = [58, 32] := by decide

theorem line_clean {k : Bytes} (hk : validName k = true) (v : Bytes) :
    ∀ x ∈ k ++ strColonSpace ++ newlineToSpace v, x ≠ 13 ∧ x ≠ 10 := by
  intro x hx
  simp only [strColonSpace_eq, List.mem_append, List.mem_cons, List.mem_nil_iff, or_false] at hx
  rcases hx with (hx | rfl | rfl) | hx
  · exact ⟨(validName_clean k hk x hx).1, (validName_clean k hk x hx).2.1⟩
  · decide
  · decide
  · exact newlineToSpace_clean v x hx

theorem newlineToSpace_eq (v : Bytes) : newlineToSpace v = v.map (fun c => if c = 10 ∨ c = 13 then 32 else c) := by
  simp only [newlineToSpace, newlineToSpaceTable_eq]

/-- `appendHeaderLine` with both tables in closed form: evaluating a concrete header through this equation walks no
table (a look-up in a 256-entry array literal costs the kernel a pass over the literal, once per header byte) -/
theorem headerLine_arith : headerLine = fun kv =>
    if kv.1.all nameChar then
      kv.1 ++ strColonSpace ++ kv.2.map (fun c => if c = 10 ∨ c = 13 then 32 else c) ++ strCRLF
    else [] := by
  funext kv
  simp only [headerLine, validName_eq, newlineToSpace_eq]

theorem kept_arith : kept = fun fs =>
    (fs.filter (fun kv => kv.1.all nameChar)).map
      (fun kv => (kv.1, kv.2.map (fun c => if c = 10 ∨ c = 13 then 32 else c))) := by
  funext fs
  simp only [kept, validName_eq, newlineToSpace_eq]

/-- the two strict decoders cut lines with the same function, written twice -/
theorem crlfLine_same : ∀ s : Bytes, Spec.Http.crlfLine s = crlfLine s
  | [] => rfl
  | [_] => rfl
  | c :: d :: t => by
    rw [Spec.Http.crlfLine, crlfLine, crlfLine_same (d :: t)]
    rfl

theorem crlfLine_append (l rest : Bytes) (h : ∀ x ∈ l, x ≠ 13 ∧ x ≠ 10) :
    crlfLine (l ++ 13 :: 10 :: rest) = some (l, rest) :=
  crlfLine_same _ ▸ Spec.Http.crlfLine_append l rest h

theorem splitField_append : ∀ (k v : Bytes), (∀ x ∈ k, x ≠ 58) →
    splitField (k ++ 58 :: 32 :: v) = some (k, v)
  | [], v, _ => by simp [splitField]
  | [c], v, h => by
    have hc := h c (by simp)
    simp [splitField, hc]
  | c :: d :: t, v, h => by
    have hc := h c (by simp)
    have ih := splitField_append (d :: t) v (fun x hx => h x (by simp [hx]))
    simp only [List.cons_append] at ih ⊢
    simp [splitField, hc, ih]

/-- whatever the value holds, `appendHeaderLine` with a valid name writes ONE line -/
theorem crlfLine_headerLine {k : Bytes} (hk : validName k = true) (v rest : Bytes) :
    crlfLine (headerLine (k, v) ++ rest) = some (k ++ strColonSpace ++ newlineToSpace v, rest) := by
  simpa [headerLine, hk, strCRLF_eq, List.append_assoc] using crlfLine_append _ rest (line_clean hk v)

theorem reqLineTail_id : ∀ (p : Bytes), (∀ x ∈ p, lineSpecial x = false) → reqLineTail p = p
  | [], _ => rfl
  | c :: t, h => by
    have hc := h c (by simp)
    have ih := reqLineTail_id t (fun x hx => h x (by simp [hx]))
    simp [reqLineTail, hc, ih]

/-- the fast path changes nothing: the result is the byte-by-byte encoding of the whole part -/
theorem reqLinePart_eq : ∀ (p : Bytes), reqLinePart p = reqLineTail p
  | [] => rfl
  | c :: t => by
    cases hc : lineSpecial c with
    | true => simp [reqLinePart, List.takeWhile, List.dropWhile, hc]
    | false =>
      have ih := reqLinePart_eq t
      simp only [reqLinePart] at ih
      simp [reqLinePart, List.takeWhile, List.dropWhile, hc, reqLineTail, ih]

theorem reqLinePart_id (p : Bytes) (h : ∀ x ∈ p, lineSpecial x = false) : reqLinePart p = p := by
  rw [reqLinePart_eq]; exact reqLineTail_id p h

theorem plain_line (c : UInt8) (h : argPlain c = true ∨ pathPlain c = true) : lineSpecial c = false := by
  cases hl : lineSpecial c with
  | false => rfl
  | true =>
    have : c = 32 ∨ c = 13 ∨ c = 10 := by simpa [lineSpecial, or_assoc] using hl
    rcases this with rfl | rfl | rfl <;> exact absurd h (by decide)

theorem pctEnc_plain (c x : UInt8) (hx : x ∈ pctEnc c) : lineSpecial x = false := by
  rcases Hertz.pctEnc_plain c x hx with rfl | ⟨h, _⟩
  · decide
  · exact plain_line x (.inl h)

theorem reqLineTail_clean : ∀ (p : Bytes), ∀ x ∈ reqLineTail p, lineSpecial x = false
  | [], x, hx => by cases hx
  | c :: t, x, hx => by
    simp only [reqLineTail, List.mem_append] at hx
    rcases hx with hx | hx
    · cases hc : lineSpecial c with
      | true =>
        simp only [hc, if_true] at hx
        exact pctEnc_plain c x hx
      | false =>
        simp only [hc, Bool.false_eq_true, if_false, List.mem_singleton] at hx
        subst hx; exact hc
    · exact reqLineTail_clean t x hx

theorem reqLinePart_clean (p : Bytes) : ∀ x ∈ reqLinePart p, x ≠ 32 ∧ x ≠ 13 ∧ x ≠ 10 := by
  intro x hx
  rw [reqLinePart_eq] at hx
  have := reqLineTail_clean p x hx
  simpa [lineSpecial, and_assoc] using this

theorem reqLine_clean (m u : Bytes) : ∀ x ∈ reqLinePart m ++ [32] ++ reqLinePart u ++ [32] ++ strHTTP11, x ≠ 13 ∧ x ≠ 10 := by
  intro x hx
  have h11 : ∀ x ∈ strHTTP11, x ≠ 13 ∧ x ≠ 10 := by decide
  simp only [List.mem_append, List.mem_singleton] at hx
  rcases hx with (((h | h) | h) | h) | h
  · exact (reqLinePart_clean _ x h).2
  · subst h; decide
  · exact (reqLinePart_clean _ x h).2
  · subst h; decide
  · exact h11 x h

theorem startLine_clean (r : ReqHdr) : ∀ x ∈ r.startLine, x ≠ 13 ∧ x ≠ 10 :=
  reqLine_clean _ _

theorem kept_length_le (fs : List (Bytes × Bytes)) : (kept fs).length ≤ fs.length := by
  simp only [kept, List.length_map]
  exact List.length_filter_le _ _

theorem fields_block : ∀ (fs : List (Bytes × Bytes)) (rest : Bytes) (fuel : Nat), (kept fs).length < fuel →
    fields fuel (block fs ++ rest) = some (kept fs, rest)
  | [], rest, fuel, hf => by
    obtain ⟨f, rfl⟩ : ∃ f, fuel = f + 1 := ⟨fuel - 1, by omega⟩
    simp [block, kept, fields, strCRLF_eq, crlfLine]
  | kv :: fs, rest, fuel, hf => by
    obtain ⟨f, rfl⟩ : ∃ f, fuel = f + 1 := ⟨fuel - 1, by omega⟩
    by_cases hv : validName kv.1 = true
    · have ih := fields_block fs rest f (by simp [kept, hv] at hf ⊢; omega)
      have e : block (kv :: fs) ++ rest =
          (kv.1 ++ strColonSpace ++ newlineToSpace kv.2) ++ 13 :: 10 :: (block fs ++ rest) := by
        simp [block, headerLine, hv, strCRLF_eq]
      rw [e]
      simp only [fields]
      rw [crlfLine_append _ _ (line_clean hv kv.2)]
      have hne : (kv.1 ++ strColonSpace ++ newlineToSpace kv.2).isEmpty = false := by simp [strColonSpace_eq]
      simp only [hne, Bool.false_eq_true, if_false]
      rw [List.append_assoc, show strColonSpace ++ newlineToSpace kv.2 = 58 :: 32 :: newlineToSpace kv.2 from rfl,
        splitField_append _ _ (fun x hx => (validName_clean kv.1 hv x hx).2.2), ih]
      simp [kept, hv]
    · have e : block (kv :: fs) ++ rest = block fs ++ rest := by
        simp [block, headerLine, hv]
      rw [e]
      have : kept (kv :: fs) = kept fs := by simp [kept, hv]
      rw [this]
      -- more fuel than needed is harmless: redo with the larger fuel
      exact fields_block fs rest (f + 1) (by rw [this] at hf; exact hf)

theorem kept_len_le_block : ∀ fs : List (Bytes × Bytes), (kept fs).length ≤ (block fs).length
  | [] => by simp [kept]
  | kv :: fs => by
    have ih := kept_len_le_block fs
    by_cases hv : validName kv.1 = true
    · simp [kept, block, headerLine, hv, strCRLF_eq, strColonSpace_eq] at ih ⊢; omega
    · simp [kept, block, headerLine, hv] at ih ⊢; omega

/-- Whatever the state, a serialised message head reads back as: the start line, exactly the kept
fields (names valid, values with CR/LF neutralised), and the bytes that followed. -/
theorem parseHead_block (start : Bytes) (fs : List (Bytes × Bytes)) (rest : Bytes)
    (hs : ∀ x ∈ start, x ≠ 13 ∧ x ≠ 10) :
    parseHead (start ++ strCRLF ++ block fs ++ rest) = some (start, kept fs, rest) := by
  unfold parseHead
  have e : start ++ strCRLF ++ block fs ++ rest = start ++ 13 :: 10 :: (block fs ++ rest) := by
    simp [strCRLF_eq]
  rw [e, crlfLine_append _ _ hs]
  simp only
  have hlen : (kept fs).length < (block fs ++ rest).length + 1 := by
    have := kept_len_le_block fs
    simp only [List.length_append]
    omega
  rw [fields_block fs rest _ hlen]
  rfl

theorem name_ite_nil_single {c : Prop} [Decidable c] {k v : Bytes} {kv : Bytes × Bytes} {l : List Bytes} (hk : k ∈ l)
    (h : kv ∈ (if c then [] else [(k, v)])) : kv.1 ∈ l := by
  split at h
  · cases h
  · rw [List.mem_singleton.mp h]; exact hk

theorem name_ite_single_nil {c : Prop} [Decidable c] {k v : Bytes} {kv : Bytes × Bytes} {l : List Bytes} (hk : k ∈ l)
    (h : kv ∈ (if c then [(k, v)] else [])) : kv.1 ∈ l := by
  split at h
  · rw [List.mem_singleton.mp h]; exact hk
  · cases h

/-- what `ResponseHeader.AppendBytes` writes before the `Connection` line -/
def frontFields (r : RespHdr) : List (Bytes × Bytes) :=
  (if r.server.isEmpty then [] else [(strServer, r.server)]) ++
  (match r.date with | some d => [(strDate, d)] | none => []) ++
  (if (r.contentLength != 0 || !r.contentType.isEmpty) && !r.contentType.isEmpty then [(strContentType, r.contentType)] else []) ++
  (if r.contentEncoding.isEmpty then [] else [(strContentEncoding, r.contentEncoding)]) ++
  (if r.clBytes.isEmpty then [] else [(strContentLength, r.clBytes)]) ++
  (r.h.filter (fun kv => r.date.isNone || kv.1 != strDate)) ++
  (if r.trailer.isEmpty then [] else [(strTrailer, trailerNames r.trailer)]) ++
  r.cookies.map (fun c => (strSetCookie, c))

theorem fields_split (r : RespHdr) :
    r.fields = frontFields r ++ (if r.connClose then [(strConnection, strClose)] else []) := rfl

/-- the names `frontFields` writes by itself -/
def frontNames : List Bytes :=
  [strServer, strDate, strContentType, strContentEncoding, strContentLength, strTrailer, strSetCookie]

theorem frontFields_names (r : RespHdr) : ∀ kv ∈ frontFields r, kv.1 ∈ frontNames ∨ kv ∈ r.h := by
  intro kv hm
  simp only [frontFields, List.mem_append] at hm
  rcases hm with ((((((h | h) | h) | h) | h) | h) | h) | h
  · exact .inl (name_ite_nil_single (by decide) h)
  · split at h
    · rw [List.mem_singleton.mp h]; exact .inl (show strDate ∈ frontNames by decide)
    · cases h
  · exact .inl (name_ite_single_nil (by decide) h)
  · exact .inl (name_ite_nil_single (by decide) h)
  · exact .inl (name_ite_nil_single (by decide) h)
  · exact .inr (List.mem_filter.mp h).1
  · exact .inl (name_ite_nil_single (by decide) h)
  · obtain ⟨c, _, rfl⟩ := List.mem_map.mp h
    exact .inl (show strSetCookie ∈ frontNames by decide)

end Hertz.HW

namespace Hertz.ReqDecodes
open Hertz Hertz.Spec.Http

/-- hertz's "valid field name" and the strict decoder's "token" are the same notion -/
theorem nameChar_tchar (c : UInt8) : nameChar c = isTchar c := by
  revert c; exact forall_byte (by decide +kernel)

theorem validName_tchar (k : Bytes) : HW.validName k = k.all isTchar := by
  rw [HW.validName_eq, funext nameChar_tchar]

theorem token_validName (k : Bytes) (h : isToken k = true) : HW.validName k = true := by
  simp only [isToken, Bool.and_eq_true] at h
  rw [validName_tchar, h.2]

theorem token_of_validName {k : Bytes} (h0 : k ≠ []) (h : HW.validName k = true) : isToken k = true := by
  rw [validName_tchar] at h
  simp [isToken, h, h0]

end Hertz.ReqDecodes
