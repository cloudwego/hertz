import Hertz.Model.ConnMem
import Hertz.Proofs.Conn
/-!
The memory-level model of the buffered connection (`Model/ConnMem.lean`): how `Heap.get`, `splice` and `slice` compute
(`Heap.get_set`, `slice_congr`, `slice_sub`, `slice_splice_self'`), and the writer on its own: a successful `Flush` sends what the pending
references read at that moment and empties the chain (`mwFlush_spec`), a slice returned by `Malloc` or
copied by `WriteBinary` is covered by the chain until then (`Covered`, `mwReserve_covered`, `mwWriteBinary_keeps`,
`covered_sent`).
-/
namespace Hertz.ConnMem
open Hertz Hertz.Conn

theorem Heap.get_filter_ne (h : Heap) (b b' : Nat) (hne : b ≠ b') :
    Heap.get (h.filter (fun e => e.1 != b)) b' = Heap.get h b' := by
  induction h with
  | nil => rfl
  | cons e t ih =>
    obtain ⟨k, v⟩ := e
    by_cases hk : k = b
    · subst hk
      have : ¬ k = b' := hne
      simp [List.filter, Heap.get, this, ih]
    · have : (k != b) = true := by simpa using hk
      simp [List.filter, this, Heap.get, ih]

theorem Heap.get_set (h : Heap) (b b' : Nat) (v : Bytes) :
    (h.set b v).get b' = if b = b' then v else h.get b' := by
  by_cases hb : b = b'
  · simp [Heap.set, Heap.get, hb]
  · simp [Heap.set, Heap.get, hb, Heap.get_filter_ne h b b' hb]

theorem Heap.get_write_ne {h : Heap} {b b' pos : Nat} {bs : Bytes} (hne : b ≠ b') :
    (h.write b pos bs).get b' = h.get b' := by
  simp [Heap.write, Heap.get_set, hne]

theorem Heap.get_write_eq (h : Heap) (b pos : Nat) (bs : Bytes) :
    (h.write b pos bs).get b = splice (h.get b) pos bs := by
  simp [Heap.write, Heap.get_set]

theorem splice_length (cells : Bytes) (pos : Nat) (bs : Bytes) : (splice cells pos bs).length = cells.length := by
  simp only [splice, List.length_append, List.length_take, List.length_drop]; omega

theorem splice_getElem?_lt (cells : Bytes) (pos : Nat) (bs : Bytes) (k : Nat) (hk : k < pos) :
    (splice cells pos bs)[k]? = cells[k]? := by
  unfold splice
  by_cases hp : pos ≤ cells.length
  · rw [List.append_assoc, List.getElem?_append_left (by simp; omega)]
    simp [hk]
  · have h0 : cells.length - pos = 0 := by omega
    simp [h0, List.take_of_length_le (show cells.length ≤ pos by omega),
      List.drop_eq_nil_of_le (show cells.length ≤ pos + bs.length by omega)]

theorem slice_getElem? (cells : Bytes) (lo hi i : Nat) :
    (slice cells lo hi)[i]? = if i < hi - lo then cells[lo + i]? else none := by
  simp only [slice, List.getElem?_take, List.getElem?_drop]

theorem slice_congr {a b : Bytes} {lo hi : Nat} (h : ∀ k, lo ≤ k → k < hi → a[k]? = b[k]?) :
    slice a lo hi = slice b lo hi := by
  apply List.ext_getElem?
  intro i
  rw [slice_getElem?, slice_getElem?]
  split
  · exact h _ (by omega) (by omega)
  · rfl

theorem slice_empty (cells : Bytes) (lo hi : Nat) (h : hi ≤ lo) : slice cells lo hi = [] := by
  simp [slice, show hi - lo = 0 by omega]

theorem slice_sub (cells : Bytes) (lo lo' hi' hi : Nat) (h1 : lo ≤ lo') (h2 : lo' ≤ hi') (h3 : hi' ≤ hi) :
    ∃ a b, slice cells lo hi = a ++ slice cells lo' hi' ++ b := by
  refine ⟨slice cells lo lo', slice cells hi' hi, ?_⟩
  unfold slice
  have e1 : hi - lo = (lo' - lo) + ((hi' - lo') + (hi - hi')) := by omega
  have d1 : List.drop (lo' - lo) (List.drop lo cells) = List.drop lo' cells := by
    rw [List.drop_drop]; congr 1; omega
  have d2 : List.drop (hi' - lo') (List.drop lo' cells) = List.drop hi' cells := by
    rw [List.drop_drop]; congr 1; omega
  rw [e1, List.take_add, List.take_add, d1, d2, List.append_assoc]

theorem slice_length (cells : Bytes) (lo hi : Nat) : (slice cells lo hi).length = min (hi - lo) (cells.length - lo) := by
  simp only [slice, List.length_take, List.length_drop]

theorem slice_splice_self' (cells : Bytes) (pos : Nat) (bs : Bytes) (h : pos + bs.length ≤ cells.length) :
    slice (splice cells pos bs) pos (pos + bs.length) = bs := by
  unfold slice splice
  have h1 : bs.take (cells.length - pos) = bs := List.take_of_length_le (by omega)
  rw [h1, List.append_assoc, List.drop_append_of_le_length (by simp; omega)]
  have : (List.take pos cells).length = pos := by simp; omega
  rw [List.drop_eq_nil_of_le (by omega), List.nil_append]
  simp

theorem Mem.release_heap (m : Mem) (b c : Nat) : (m.release b c).heap = m.heap := by
  unfold Mem.release; split <;> rfl

theorem MNode.release_heap (m : Mem) (nd : MNode) : (nd.release m).heap = m.heap := by
  unfold MNode.release; split <;> simp [Mem.release_heap]

/-! ## writer: `Flush` sends what the pending references read at that moment -/

theorem MNode.read_unreadRef_nil (h : Heap) (nd : MNode) (hl : nd.len = 0) : h.read nd.unreadRef = [] :=
  slice_empty _ _ _ (by simp only [MNode.len, MNode.unreadRef] at hl ⊢; omega)

theorem MNode.unreadRef_reset_read (h : Heap) (w : MNode) : h.read (w.reset).unreadRef = [] :=
  MNode.read_unreadRef_nil h _ rfl

/-- `mflushLoop` returns `(failed?, sent, mem, pre', w', len', script)`: `.2.2.1` is the memory, `.2.2.2.1` and
`.2.2.2.2.1` the chain it leaves. -/
theorem mflushLoop_spec (m : Mem) (pre : List MNode) (w : MNode) (len : Nat) (sc : WScript) :
    ∀ r, mflushLoop m pre w len sc = r → r.2.2.1.heap = m.heap ∧
      (r.1 = false → r.2.1 = ((pre ++ [w]).map MNode.unreadRef).flatMap m.heap.read ∧ r.2.2.2.1 = [] ∧ r.2.2.2.2.1.len = 0) := by
  fun_induction mflushLoop m pre w len sc <;> rintro _ rfl
  case case5 ih =>
    replace ih := ih _ rfl
    rw [MNode.release_heap] at ih
    refine ⟨ih.1, fun hf => ?_⟩
    have h2 := ih.2 hf
    simp +zetaDelta [h2.1, h2.2.1, h2.2.2]
  all_goals simp +zetaDelta [MNode.len, MNode.reset]
  omega

/-- `Flush` only reads the heap.  When it returns nil it handed the peer, for every node of the output chain in order, the
cells the node refers to in the heap *as it is when `Flush` runs*; afterwards nothing is pending. -/
theorem mwFlush_spec (m : Mem) (s : MWriter) (sc : WScript) :
    (mwFlush m s sc).2.2.1.heap = m.heap ∧
    ((mwFlush m s sc).1 = false →
      (mwFlush m s sc).2.1 = s.pendingRefs.flatMap m.heap.read ∧
      (mwFlush m s sc).2.2.2.1.pre = [] ∧ (mwFlush m s sc).2.2.2.1.w.len = 0) := by
  unfold mwFlush
  cases hp : s.pre with
  | nil =>
    simp only
    by_cases hl : s.w.len = 0
    · rw [if_pos hl]
      exact ⟨rfl, fun _ => ⟨by simp [MWriter.pendingRefs, hp, MNode.read_unreadRef_nil _ _ hl], hp, hl⟩⟩
    · rw [if_neg hl]
      have := mflushLoop_spec m [] s.w s.len sc _ rfl
      exact ⟨this.1, fun hok => ⟨by simp [(this.2 hok).1, MWriter.pendingRefs, hp], (this.2 hok).2⟩⟩
  | cons h pre =>
    simp only
    by_cases hl : h.len = 0
    · simp only [hl, if_true]
      have := mflushLoop_spec (h.release m) pre s.w s.len sc _ rfl
      rw [MNode.release_heap] at this
      refine ⟨this.1, fun hok => ⟨?_, (this.2 hok).2⟩⟩
      simp [(this.2 hok).1, MWriter.pendingRefs, hp, MNode.read_unreadRef_nil _ _ hl]
    · simp only [hl, if_false]
      have := mflushLoop_spec m (h :: pre) s.w s.len sc _ rfl
      exact ⟨this.1, fun hok => ⟨by simp [(this.2 hok).1, MWriter.pendingRefs, hp], (this.2 hok).2⟩⟩

/-! ## writer: what `WriteBinary` and `Malloc` leave in the chain -/

/-- `WriteBinary(b)` with `len(b) ≥ block4k`: one more pending reference — `b` itself, not a copy -/
theorem mwWriteBinary_big (m : Mem) (s : MWriter) (r : Ref) (ch : Nat) (hbig : block4k ≤ r.len) :
    ∃ m1 s1, mwWriteBinary m s r ch = .ok (r.len, m1, s1) ∧ s1.pendingRefs = s.pendingRefs ++ [r] := by
  have hlt : ¬ r.len < block4k := by omega
  have hlo : r.lo ≤ r.hi := by unfold Ref.len block4k at hbig; omega
  refine ⟨_, _, by simp only [mwWriteBinary, hlt, if_false]; rfl, ?_⟩
  · simp [MWriter.pendingRefs, MNode.unreadRef, Ref.len]
    cases r; simp at hlo ⊢; omega

/-- a reference lies inside the not yet sent part of a node of the output chain -/
def Covered (s : MWriter) (d : Ref) : Prop :=
  ∃ nd ∈ s.pre ++ [s.w], d.blk = nd.blk ∧ nd.base + nd.off ≤ d.lo ∧ d.lo ≤ d.hi ∧ d.hi ≤ nd.base + nd.malloc

/-- the three ways `Malloc(n)` returns: nothing to do, room in the tail node, a new tail node -/
theorem mwReserve_cases {m : Mem} {s : MWriter} {n ch : Nat} {o : Option Ref} {m1 : Mem} {s1 : MWriter}
    (h : mwReserve m s n ch = .ok (o, m1, s1)) :
    (n = 0 ∧ o = none ∧ m1 = m ∧ s1 = s) ∨
    (n ≠ 0 ∧ n < s.len ∧ s.w.malloc + n ≤ s.w.cap ∧
      o = some ⟨s.w.blk, s.w.base + s.w.malloc, s.w.base + s.w.malloc + n⟩ ∧ m1 = m ∧
      s1 = { s with w := { s.w with malloc := s.w.malloc + n }, len := s.len - n }) ∨
    (n ≠ 0 ∧ ¬ n < s.len ∧ ∃ size a, size = (if n < defaultMallocSize then defaultMallocSize else n) ∧ a = m.alloc size ch ∧
      o = some ⟨a.1, 0, n⟩ ∧ m1 = a.2 ∧
      s1 = { s with pre := s.pre ++ [s.w], w := { id := s.nextId, blk := a.1, cap := capOf size, malloc := n },
                    len := capOf size - n, nextId := s.nextId + 1 }) := by
  unfold mwReserve at h
  by_cases hn : n = 0
  · rw [if_pos hn] at h; cases h; exact Or.inl ⟨hn, rfl, rfl, rfl⟩
  · rw [if_neg hn] at h
    by_cases hl : s.len > n
    · rw [if_pos hl] at h
      by_cases hc : s.w.malloc + n > s.w.cap
      · rw [if_pos hc] at h; cases h
      · rw [if_neg hc] at h; cases h
        exact Or.inr (Or.inl ⟨hn, hl, Nat.le_of_not_lt hc, rfl, rfl, rfl⟩)
    · rw [if_neg hl] at h; cases h
      exact Or.inr (Or.inr ⟨hn, hl, _, _, rfl, rfl, rfl, rfl, rfl⟩)

theorem mwReserve_covered (m : Mem) (s : MWriter) (n ch : Nat) (d : Ref) (m1 : Mem) (s1 : MWriter)
    (hoff : s.w.off ≤ s.w.malloc)
    (h : mwReserve m s n ch = .ok (some d, m1, s1)) : Covered s1 d ∧ d.len = n := by
  rcases mwReserve_cases h with ⟨_, ho, _⟩ | ⟨_, _, _, ho, _, rfl⟩ | ⟨_, _, size, a, _, _, ho, _, rfl⟩
  · cases ho
  · cases ho
    exact ⟨⟨_, List.mem_append_right _ (List.mem_singleton_self _), rfl, by simp only; omega, Nat.le_add_right _ _,
      by simp only; omega⟩, by simp only [Ref.len]; omega⟩
  · cases ho
    exact ⟨⟨_, List.mem_append_right _ (List.mem_singleton_self _), rfl, Nat.le_refl _, Nat.zero_le _, by simp⟩, rfl⟩

/-- later `Malloc`s keep an earlier reservation in the chain -/
theorem mwReserve_keeps (m : Mem) (s : MWriter) (n ch : Nat) (o : Option Ref) (m1 : Mem) (s1 : MWriter) (d : Ref)
    (hc : Covered s d) (h : mwReserve m s n ch = .ok (o, m1, s1)) : Covered s1 d := by
  obtain ⟨nd, hm, hb, h1, h2, h3⟩ := hc
  rcases mwReserve_cases h with ⟨_, _, _, rfl⟩ | ⟨_, _, _, _, _, rfl⟩ | ⟨_, _, size, a, _, _, _, _, rfl⟩
  · exact ⟨nd, hm, hb, h1, h2, h3⟩
  · rcases List.mem_append.1 hm with hm | hm
    · exact ⟨nd, List.mem_append_left _ hm, hb, h1, h2, h3⟩
    · have : nd = s.w := List.mem_singleton.1 hm
      subst this
      exact ⟨_, List.mem_append_right _ (List.mem_singleton_self _), hb, h1, h2, by simp only; omega⟩
  · exact ⟨nd, List.mem_append_left _ hm, hb, h1, h2, h3⟩

/-- the two ways `WriteBinary(r)` returns: below `block4k` a `Malloc(len(r))` whose slice, if there is one, is then filled with
what `r` reads; otherwise a new tail node that refers to `r` (the block taken from the allocator for it is dropped) -/
theorem mwWriteBinary_cases {m : Mem} {s : MWriter} {r : Ref} {ch n : Nat} {m1 : Mem} {s1 : MWriter}
    (h : mwWriteBinary m s r ch = .ok (n, m1, s1)) :
    (∃ dst m2, mwReserve m s r.len ch = .ok (dst, m2, s1) ∧
      m1 = match dst with
        | none => m2
        | some d => { m2 with heap := m2.heap.write d.blk d.lo (m2.heap.read r) }) ∨
    (¬ r.len < block4k ∧ m1 = (m.alloc 0 ch).2 ∧
      s1 = { s with pre := s.pre ++ [s.w], len := 0, nextId := s.nextId + 1,
                    w := { id := s.nextId, blk := r.blk, base := r.lo, cap := r.len, malloc := r.len, readOnly := true } }) := by
  unfold mwWriteBinary at h
  split at h
  · obtain ⟨⟨dst, m2, s2⟩, hr, h⟩ := bind_eq_ok h
    cases dst <;> (cases h; exact Or.inl ⟨_, _, hr, rfl⟩)
  · rename_i hs
    cases h; exact Or.inr ⟨hs, rfl, rfl⟩

theorem mwWriteBinary_keeps (m : Mem) (s : MWriter) (r : Ref) (ch n : Nat) (m1 : Mem) (s1 : MWriter) (d : Ref)
    (hc : Covered s d) (h : mwWriteBinary m s r ch = .ok (n, m1, s1)) : Covered s1 d := by
  rcases mwWriteBinary_cases h with ⟨dst, m2, hr, _⟩ | ⟨_, _, rfl⟩
  · exact mwReserve_keeps m s r.len ch dst m2 s1 d hc hr
  · obtain ⟨nd, hm, hb, h1, h2, h3⟩ := hc
    exact ⟨nd, List.mem_append_left _ hm, hb, h1, h2, h3⟩

/-- a covered reference is sent by the next successful `Flush`, with the contents it has then -/
theorem covered_sent (s : MWriter) (d : Ref) (h' : Heap) (hc : Covered s d) :
    ∃ a b, s.pendingRefs.flatMap h'.read = a ++ h'.read d ++ b := by
  obtain ⟨nd, hm, hb, h1, h2, h3⟩ := hc
  obtain ⟨l1, l2, hl⟩ := List.append_of_mem hm
  obtain ⟨a, b, hab⟩ := slice_sub (h'.get nd.blk) (nd.base + nd.off) d.lo d.hi (nd.base + nd.malloc) h1 h2 h3
  refine ⟨(l1.map MNode.unreadRef).flatMap h'.read ++ a, b ++ (l2.map MNode.unreadRef).flatMap h'.read, ?_⟩
  simp only [MWriter.pendingRefs, hl, List.map_append, List.map_cons, List.flatMap_append, List.flatMap_cons]
  have : h'.read nd.unreadRef = a ++ h'.read d ++ b := by
    simp only [Heap.read, MNode.unreadRef, hb]; exact hab
  rw [this]; simp [List.append_assoc]

end Hertz.ConnMem
