import Hertz.Proofs.Path
import Hertz.Spec.Path
/-!
The segment view of a byte path.  `render` and `splitSlash` are inverse to each other on slash-free
segments; a byte pattern `/mid/` or a trailing `/mid` is the same thing as a segment `mid` in an inner
or in the last position (`infix_render_iff`, `suffix_render_iff`), so the byte-level normal form
`Good` and the property's predicate `Spec.contained` say the same (`good_iff_contained`).
Independently of `normalizePath`: whatever the stack machine `Spec.resolve` returns is contained
(`resolve_good`, `spec_normalize_contained`).
-/
namespace Hertz.PathSeg
open Hertz Hertz.Spec

theorem splitSlash_ne_nil (b : Bytes) : splitSlash b ≠ [] := by
  fun_induction splitSlash b with
  | case1 | case2 | case3 | case4 => nofun

theorem splitSlash_single : ∀ s : Bytes, 47 ∉ s → splitSlash s = [s]
  | [], _ => rfl
  | c :: t, h => by
    have hc : c ≠ 47 := fun e => h (by simp [e])
    have ht : 47 ∉ t := fun e => h (List.mem_cons_of_mem _ e)
    simp [splitSlash, hc, splitSlash_single t ht]

theorem splitSlash_append (a b : Bytes) : splitSlash (a ++ 47 :: b) = splitSlash a ++ splitSlash b := by
  fun_induction splitSlash a with
  | case1 => simp [splitSlash]
  | case2 t ih => simp [splitSlash, ih]
  | case3 c t _ h => exact absurd h (splitSlash_ne_nil t)
  | case4 c t hc s r h ih => simp only [List.cons_append, splitSlash, hc, if_false, ih, h]

theorem render_cons (s : Bytes) (r : List Bytes) : render (s :: r) = 47 :: s ++ render r := by
  simp [render]

theorem render_splitSlash (b : Bytes) : render (splitSlash b) = 47 :: b := by
  fun_induction splitSlash b with
  | case1 => rfl
  | case2 t ih => rw [render_cons, ih]; rfl
  | case3 c t _ h => exact absurd h (splitSlash_ne_nil t)
  | case4 c t _ s r h ih =>
    rw [h, render_cons] at ih
    rw [render_cons, List.cons_append, List.cons_append, show s ++ render r = t from (List.cons.inj ih).2]

theorem render_head (s : Bytes) (r : List Bytes) : ∃ t, render (s :: r) = 47 :: t := ⟨_, render_cons s r⟩

theorem contained_slash (b : Bytes) : contained (47 :: b) = segsContained (splitSlash b) := rfl

theorem render_append (a b : List Bytes) : render (a ++ b) = render a ++ render b := by
  simp [render]

theorem render_single (l : Bytes) : render [l] = 47 :: l := by simp [render]

theorem render_concat (pre : List Bytes) (s : Bytes) : render (pre ++ [s]) = render pre ++ 47 :: s := by
  rw [render_append, render_single]

theorem ne_slash_of_sf {l : Bytes} (h : 47 ∉ l) : ∀ a ∈ l, (a != 47) = true :=
  fun _ ha => bne_iff_ne.mpr fun e => h (e ▸ ha)

theorem dropWhile_sf (l1 l2 : Bytes) (h : 47 ∉ l1) : (l1 ++ 47 :: l2).dropWhile (· != 47) = 47 :: l2 := by
  rw [List.dropWhile_append_of_pos (ne_slash_of_sf h), List.dropWhile_cons_of_neg (by simp)]

theorem dropWhile_reverse_sf (a s : Bytes) (hs : 47 ∉ s) :
    (a ++ 47 :: s).reverse.dropWhile (· != 47) = 47 :: a.reverse := by
  rw [List.reverse_append, List.reverse_cons, List.append_assoc]
  exact dropWhile_sf _ _ (fun hm => hs (List.mem_reverse.mp hm))

theorem takeWhile_sf : ∀ (l1 l2 : Bytes), 47 ∉ l1 → (l1 ++ 47 :: l2).takeWhile (· != 47) = l1 := by
  intro l1 l2 h
  rw [List.takeWhile_append_of_pos (ne_slash_of_sf h), List.takeWhile_cons_of_neg (by simp), List.append_nil]

theorem eq_of_prefix_slash {p s y : Bytes} (hp : 47 ∉ p) (hs : 47 ∉ s) (h : p ++ [47] <+: s ++ 47 :: y) : s = p := by
  obtain ⟨t, ht⟩ := h
  have := congrArg (List.takeWhile (· != 47)) ht
  rwa [List.append_assoc, List.singleton_append, takeWhile_sf p _ hp, takeWhile_sf s _ hs, eq_comm] at this

/-- every segment is slash-free (`_sf` in a name: a slash-free byte string) -/
def SF (segs : List Bytes) : Prop := ∀ s ∈ segs, 47 ∉ s

theorem SF_cons {s : Bytes} {r : List Bytes} (h : SF (s :: r)) : 47 ∉ s ∧ SF r :=
  ⟨h s (by simp), fun x hx => h x (by simp [hx])⟩

theorem splitSlash_SF (b : Bytes) : SF (splitSlash b) := by
  fun_induction splitSlash b with
  | case1 => exact List.forall_mem_cons.mpr ⟨List.not_mem_nil, nofun⟩
  | case2 t ih => exact List.forall_mem_cons.mpr ⟨List.not_mem_nil, ih⟩
  | case3 c t _ h => exact absurd h (splitSlash_ne_nil t)
  | case4 c t hc s r h ih =>
    rw [h] at ih
    exact List.forall_mem_cons.mpr
      ⟨fun hm => (List.mem_cons.mp hm).elim (fun e => hc e.symm) (SF_cons ih).1, (SF_cons ih).2⟩

theorem splitSlash_render : ∀ (s : Bytes) (r : List Bytes), 47 ∉ s → SF r → splitSlash (s ++ render r) = s :: r
  | s, [], h, _ => by simpa [render] using splitSlash_single s h
  | s, s2 :: r, h, hr => by
    rw [render_cons, List.cons_append, splitSlash_append, splitSlash_single s h,
      splitSlash_render s2 r (SF_cons hr).1 (SF_cons hr).2]
    rfl

theorem segsOf_render (segs : List Bytes) (hne : segs ≠ []) (hsf : SF segs) : segsOf (render segs) = some segs := by
  cases segs with
  | nil => exact absurd rfl hne
  | cons s r =>
    rw [render_cons]
    simp only [List.cons_append, segsOf]
    rw [splitSlash_render s r (SF_cons hsf).1 (SF_cons hsf).2]

theorem infix_sf_append {x : Bytes} : ∀ {s y : Bytes}, 47 ∉ s → (47 :: x) <:+: s ++ y → (47 :: x) <:+: y
  | [], _, _, h => h
  | c :: s, y, hs, h => by
    rcases List.infix_cons_iff.mp h with hp | hi
    · exact absurd (List.cons_prefix_cons.mp hp).1 (fun e => hs (by simp [e]))
    · exact infix_sf_append (fun hm => hs (List.mem_cons_of_mem _ hm)) hi

theorem infix_render_iff {mid : Bytes} (hmid : 47 ∉ mid) : ∀ segs : List Bytes, SF segs →
    ((47 :: mid ++ [47]) <:+: render segs ↔ mid ∈ segs.dropLast)
  | [], _ => by simp [render]
  | s :: r, hsf => by
    obtain ⟨hs, hr⟩ := SF_cons hsf
    have ih := infix_render_iff hmid r hr
    rw [render_cons, List.cons_append, List.cons_append, List.infix_cons_iff, List.cons_prefix_cons]
    cases r with
    | nil =>
      simp only [render, List.flatMap_nil, List.append_nil, List.dropLast_singleton, List.not_mem_nil, iff_false]
      rintro (⟨_, hp⟩ | hi)
      · exact hs (hp.subset (by simp))
      · exact hs (hi.subset (by simp))
    | cons s2 rest =>
      obtain ⟨y, hy⟩ := render_head s2 rest
      rw [List.dropLast_cons_of_ne_nil (by simp), List.mem_cons]
      constructor
      · rintro (⟨_, hp⟩ | hi)
        · rw [hy] at hp; exact Or.inl (eq_of_prefix_slash hmid hs hp).symm
        · exact Or.inr (ih.mp (infix_sf_append hs hi))
      · rintro (e | hm)
        · subst e; rw [hy]; exact Or.inl ⟨rfl, y, by simp⟩
        · exact Or.inr ((ih.mpr hm).trans (List.suffix_append s _).isInfix)

theorem suffix_render_iff {mid : Bytes} (hmid : 47 ∉ mid) (segs : List Bytes) (hsf : SF segs) :
    (47 :: mid) <:+ render segs ↔ segs.getLast? = some mid := by
  rcases List.eq_nil_or_concat segs with rfl | ⟨pre, last, rfl⟩
  · simp [render]
  · rw [List.concat_eq_append] at hsf ⊢
    have hl : 47 ∉ last.reverse := fun h => hsf last (by simp) (List.mem_reverse.mp h)
    rw [render_concat, List.getLast?_concat, Option.some.injEq, ← List.reverse_prefix]
    constructor
    · intro h
      -- read backwards, `/mid` at the end is `mid⁻¹/` at the front
      have := eq_of_prefix_slash (p := mid.reverse) (y := (render pre).reverse) (by simpa using hmid) hl (by simpa using h)
      simpa using congrArg List.reverse this
    · rintro rfl; exact List.reverse_prefix.mpr (List.suffix_append _ _)

theorem render_dotdot (segs : List Bytes) (hsf : SF segs) (h : dotdot ∈ segs) :
    DDS <:+: render segs ∨ SDD <:+ render segs := by
  rcases List.eq_nil_or_concat segs with rfl | ⟨pre, last, rfl⟩
  · cases h
  · rw [List.concat_eq_append] at h hsf ⊢
    rcases List.mem_append.mp h with hm | hm
    · exact Or.inl ((infix_render_iff (mid := dotdot) (by decide) _ hsf).mpr (by rwa [List.dropLast_concat]))
    · exact Or.inr ((suffix_render_iff (mid := dotdot) (by decide) _ hsf).mpr
        (by rw [List.getLast?_concat, List.mem_singleton.mp hm]))

/-- a segment that may stand anywhere in a contained path -/
def Plain (s : Bytes) : Prop := s ≠ [] ∧ s ≠ dot ∧ s ≠ dotdot

theorem segsContained_iff : ∀ segs : List Bytes, segsContained segs = true ↔
    (∀ s ∈ segs.dropLast, Plain s) ∧ segs.getLast? ≠ some dotdot
  | [] => by simp [segsContained]
  | [l] => by simp [segsContained]
  | s :: s2 :: rest => by
    have ih := segsContained_iff (s2 :: rest)
    rw [List.dropLast_cons_of_ne_nil (by simp), List.getLast?_cons_cons]
    simp only [segsContained, Bool.and_eq_true, bne_iff_ne, ne_eq, Bool.not_eq_true', List.isEmpty_eq_false_iff,
      List.forall_mem_cons, ih, Plain]
    constructor
    · rintro ⟨⟨⟨a, b⟩, c⟩, d, e⟩; exact ⟨⟨⟨c, b, a⟩, d⟩, e⟩
    · rintro ⟨⟨⟨c, b, a⟩, d⟩, e⟩; exact ⟨⟨⟨a, b⟩, c⟩, d, e⟩

theorem segsContained_append (good : List Bytes) (last : Bytes)
    (hg : ∀ s ∈ good, Plain s) (hl : last ≠ dotdot) : segsContained (good ++ [last]) = true := by
  rw [segsContained_iff, List.dropLast_concat, List.getLast?_concat]
  exact ⟨hg, fun e => hl (Option.some.inj e)⟩

/-- The five byte-level facts and the property's segment-level predicate are the same condition: `//`, `/./`, `/../`
inside are an empty, a `.`, a `..` inner segment, and a trailing `/..` is a last segment `..`. -/
theorem good_iff_contained (p : Bytes) : Good p ↔ contained p = true := by
  cases p with
  | nil => simp [Good, contained, segsOf]
  | cons c body =>
    by_cases hc : c = 47
    · subst hc
      have hsf := splitSlash_SF body
      have d (m : Bytes) (hm : 47 ∉ m) := infix_render_iff hm _ hsf
      have e := suffix_render_iff (mid := dotdot) (by decide) _ hsf
      rw [render_splitSlash] at d e
      have d0 := d [] (by decide); have d1 := d dot (by decide); have d2 := d dotdot (by decide)
      rw [contained_slash, segsContained_iff]
      simp only [Plain, dot, dotdot, List.nil_append, List.cons_append] at d0 d1 d2 e ⊢
      unfold Good
      rw [d0, d1, d2, e]
      simp only [List.head?_cons, true_and]
      constructor
      · rintro ⟨a, b, c, d⟩; exact ⟨fun s hs => ⟨fun e => a (e ▸ hs), fun e => b (e ▸ hs), fun e => c (e ▸ hs)⟩, d⟩
      · rintro ⟨h, d⟩; exact ⟨fun m => (h _ m).1 rfl, fun m => (h _ m).2.1 rfl, fun m => (h _ m).2.2 rfl, d⟩
    · have : contained (c :: body) = false := by
        unfold contained segsOf; split
        · rename_i h; split at h
          · rename_i h2; exact absurd (List.cons.inj h2).1 hc
          · cases h
        · rfl
      simp [Good, this, hc]

theorem resolve_cons (st : List Bytes) (s : Bytes) (rest : List Bytes) (h : rest ≠ []) :
    resolve st (s :: rest) =
      if s.isEmpty ∨ s = dot then resolve st rest
      else if s = dotdot then resolve (st.drop 1) rest else resolve (s :: st) rest := by
  cases rest with
  | nil => exact absurd rfl h
  | cons s2 r => simp only [resolve]

theorem resolve_good (st segs : List Bytes) (hne : segs ≠ []) (hst : ∀ s ∈ st, Plain s) :
    segsContained (resolve st segs) = true := by
  fun_induction resolve st segs with
  | case1 => exact absurd rfl hne
  | case2 st =>
    exact segsContained_append _ [] (fun s hs => hst s (List.mem_of_mem_drop (List.mem_reverse.mp hs))) (by decide)
  | case3 st last hl => exact segsContained_append _ last (fun s hs => hst s (List.mem_reverse.mp hs)) hl
  | case4 st s rest hr _ ih => exact ih hr hst
  | case5 st rest hr _ ih => exact ih hr fun x hx => hst x (List.mem_of_mem_drop hx)
  | case6 st s rest hr h1 h2 ih =>
    exact ih hr (List.forall_mem_cons.mpr ⟨⟨fun e => h1 (Or.inl (by simp [e])), fun e => h1 (Or.inr e), h2⟩, hst⟩)

/-- the stack machine invents no segment but the empty one -/
theorem resolve_all {Q : Bytes → Prop} (h0 : Q []) (st segs : List Bytes) (hne : segs ≠ [])
    (hst : ∀ s ∈ st, Q s) (hs : ∀ s ∈ segs, Q s) : resolve st segs ≠ [] ∧ ∀ x ∈ resolve st segs, Q x := by
  fun_induction resolve st segs with
  | case1 => exact absurd rfl hne
  | case2 st =>
    exact ⟨List.append_ne_nil_of_right_ne_nil _ nofun, List.forall_mem_append.mpr
      ⟨fun x h => hst x (List.mem_of_mem_drop (List.mem_reverse.mp h)), List.forall_mem_singleton.mpr h0⟩⟩
  | case3 st last =>
    exact ⟨List.append_ne_nil_of_right_ne_nil _ nofun,
      List.forall_mem_append.mpr ⟨fun x h => hst x (List.mem_reverse.mp h), hs⟩⟩
  | case4 st s rest hr _ ih => exact ih hr hst (List.forall_mem_cons.mp hs).2
  | case5 st rest hr _ ih => exact ih hr (fun x hx => hst x (List.mem_of_mem_drop hx)) (List.forall_mem_cons.mp hs).2
  | case6 st s rest hr _ _ ih =>
    exact ih hr (List.forall_mem_cons.mpr ⟨(List.forall_mem_cons.mp hs).1, hst⟩) (List.forall_mem_cons.mp hs).2

/-- the `body` of `Spec.normalize` -/
def stripSlash (d : Bytes) : Bytes :=
  match d with
  | 47 :: b => b
  | _ => d

theorem spec_normalize_eq (src : Bytes) :
    Spec.normalize src = render (resolve [] (splitSlash (stripSlash (decodeArgNoPlus src)))) := rfl

theorem spec_normalize_contained (src : Bytes) : contained (Spec.normalize src) = true := by
  rw [spec_normalize_eq]
  generalize stripSlash (decodeArgNoPlus src) = body
  obtain ⟨hne, hsf⟩ :=
    resolve_all (Q := (47 ∉ ·)) List.not_mem_nil [] _ (splitSlash_ne_nil body) nofun (splitSlash_SF body)
  simp only [contained, segsOf_render _ hne hsf]
  exact resolve_good [] _ (splitSlash_ne_nil body) (by simp)

end Hertz.PathSeg
