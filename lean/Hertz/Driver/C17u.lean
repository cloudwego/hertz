import Hertz.Driver.Core
import Hertz.Model.Uri
namespace Hertz.Driver.C17u
open Hertz Hertz.Driver Hertz.Uri

def uriTokens (u : URI) : List String :=
  [encHex u.schemeOrHTTP, encHex u.host, encHex u.pathOrSlash, encHex u.pathOriginal, encHex u.query, encHex u.hash,
   encHex u.username, encHex u.password]

def ssTok : SameSite → String
  | .disabled => "0" | .default => "1" | .lax => "2" | .strict => "3" | .none => "4"

def cookieTokens (c : Cookie) : List String :=
  [encHex c.key, encHex c.value, toString c.maxAge, encHex c.domain, encHex c.path, boolTok c.httpOnly, boolTok c.secure,
   ssTok c.sameSite, boolTok c.partitioned]

def hasCtl (b : Bytes) : Bool := b.any (fun c => c < 32 || c == 127)

def takePairs : Nat → List String → Option (List (Bytes × Bytes) × List String)
  | 0, t => some ([], t)
  | n + 1, k :: v :: t => do
    let k ← hx k; let v ← hx v
    let (r, rest) ← takePairs n t
    pure ((k, v) :: r, rest)
  | _, _ => none

def lowerB (b : Bytes) : Bytes := b.map toLower

/-- the well-formedness under which a URI built with the setters must survive `FullURI` → `Parse`:
host free of `/ ? # @` and control bytes, scheme made of scheme characters (or empty), no control byte in
path (it is percent-encoded) — for the fragment a control byte is the known finding F15. -/
def wfUri (scheme host : Bytes) : Bool :=
  (scheme.isEmpty || (scheme.all (fun c => isAlpha c || (48 ≤ c && c ≤ 57) || c == 43 || c == 45 || c == 46) && (scheme.head?.map isAlpha).getD false)) &&
  !host.isEmpty && host.all (fun c => c != 47 && c != 63 && c != 35 && c != 64 && c ≥ 32 && c != 127)

def handle : Handler
  | ["uriparse", host, uri], _ => do
    let host ← hx host; let uri ← hx uri
    let u := parse host uri
    pure { out := uriTokens u ++ [encHex (u.fullURI [])],
           tag := "uriparse:" ++ boolTok host.isEmpty ++ boolTok (containsSub Gen.Str.strColonSlashSlash uri) ++ boolTok (hasCTL uri) ++
                  boolTok (!u.query.isEmpty) ++ boolTok (!u.hash.isEmpty) ++ boolTok (!u.username.isEmpty) }
  | "urirt" :: scheme :: host :: path :: hash :: n :: rest, impl => do
    let scheme ← hx scheme; let host ← hx host; let path ← hx path; let hash ← hx hash
    let (kvs, _) ← takePairs n.toNat! rest
    let qa : List ArgKV := kvs.map (fun kv => { key := kv.1, value := kv.2, noValue := false })
    let u0 : URI := { scheme := lowerB scheme, host := lowerB host, pathOriginal := path, path := normalizePath path, hash := hash }
    let full := u0.fullURI qa
    let v := parse [] full
    let vq := parseArgs v.query
    -- the harness calls `v.QueryArgs()` before `v.FullURI()`: the flag is set and the arguments are the query (none when every
    -- parsed pair was dropped), /repo 97b0e80
    let out := [encHex full] ++ uriTokens v ++ [toString vq.length] ++ vq.flatMap (fun kv => [encHex kv.key, encHex kv.value]) ++ [encHex (v.fullURIp true vq)]
    -- spec on the implementation's tokens: same scheme, host, path, query list and fragment; formatting again is a fixed point
    let wf := wfUri scheme host
    let (ok, why) := match impl with
      | f :: sc :: ho :: pa :: _po :: _q :: ha :: _us :: _pw :: m :: t =>
        match takePairs m.toNat! t with
        | some (q2, [full2]) =>
          let c1 := sc == encHex u0.schemeOrHTTP
          let c2 := ho == encHex u0.host
          let c3 := pa == encHex u0.pathOrSlash
          let c4 := ha == encHex hash
          let c5 := q2 == (kvs.filter (fun kv => !(kv.1.isEmpty && kv.2.isEmpty)))
          -- entries with both key and value empty are dropped by the parser (excepted by the property)
          let c6 := full2 == f || kvs.any (fun kv => kv.1.isEmpty && kv.2.isEmpty)
          (c1 && c2 && c3 && c4 && c5 && c6, s!"scheme={c1} host={c2} path={c3} hash={c4} query={c5} fixedpoint={c6}")
        | _ => (false, "unparsable")
      | _ => (false, "unparsable")
    pure { out, spec := !wf || ok,
           cls := if hasCtl hash then "uri-fragment-ctl" else "",
           specNote := "URI assembled through the setters survives FullURI -> Parse and formats to a fixed point: " ++ why,
           tag := "urirt:" ++ boolTok wf ++ boolTok (hasCtl hash) ++ sizeClass kvs.length ++ boolTok (!hash.isEmpty) ++ boolTok (path.contains 37) }
  | ["cookieparse", src], impl => do
    let src ← hx src
    -- `expires` is outside `parseCookie`: such inputs are compared by `cookieparsex` (`Driver/C17x.lean`)
    let hasExpires := (cookieSegs src).any (fun seg => ciEq' Gen.Str.strCookieExpires (cookieKV seg).1)
    if hasExpires then pure { out := impl, tag := "cookieparse:expires" } else
    match parseCookie src with
    | none => pure { out := ["err"], tag := "cookieparse:err" }
    | some c => pure { out := "ok" :: cookieTokens c, tag := "cookieparse:ok:" ++ boolTok (c.maxAge > 0) ++ ssTok c.sameSite ++ boolTok c.httpOnly ++ boolTok c.secure ++ boolTok (!c.domain.isEmpty) }
  | ["cookiert", key, value, maxAge, domain, path, ho, se, ss, pa, ex], impl => do
    let key ← hx key; let value ← hx value; let domain ← hx domain
    let pathSet := path != "N"          -- "N": `SetPath` is never called
    let path ← if pathSet then hx path else some []
    let sameSite := match ss with | "1" => SameSite.default | "2" => .lax | "3" => .strict | "4" => .none | _ => .disabled
    let secure := se == "1" || sameSite == .none || pa == "1"
    let path := if pathSet then normalizePath path else []     -- `SetPath` normalises
    let c : Cookie := { key, value, maxAge := (if maxAge.toInt! > 0 then maxAge.toNat! else 0), domain, path, httpOnly := ho == "1",
                        secure, sameSite, partitioned := pa == "1" }
    -- attribute values the serialiser writes verbatim must not contain the separators, and the scanner trims
    -- blanks and one pair of quotes: outside that the round trip is not claimed
    let plain (b : Bytes) := !b.contains 59 && b == decodeCookieArg b true
    let wf := !key.contains 61 && !key.contains 59 && key == decodeCookieArg key false && plain value && plain domain && plain path &&
              !(key.isEmpty && value.contains 61) &&
              -- the entirely empty cookie serialises to the empty string, which is no cookie (`cookie_roundtrip_fails_at`)
              !(appendCookie c).isEmpty
    let withExpire := ex != "0" && c.maxAge == 0
    let ok := match impl with
      | _s :: "ok" :: t => t.take 9 == cookieTokens c && (t.drop 9).head? == some "1"
      | _ => false
    -- with an expiry the serialised text contains Go's date: the model copies the implementation's string
    let ser := if withExpire then impl.take 1 else [encHex (appendCookie c)]
    let back := if withExpire then impl.drop 1 else
      match parseCookie (appendCookie c) with
      | none => ["err"]
      | some d => "ok" :: cookieTokens d ++ ["1", boolTok c.secure]
    pure { out := ser ++ back, spec := !wf || ok,
           specNote := "parsing a response cookie's string form returns the same key, value and attributes",
           tag := "cookiert:" ++ boolTok wf ++ boolTok withExpire ++ ssTok sameSite ++ boolTok (c.maxAge > 0) ++ boolTok c.partitioned }
  | _, _ => none

end Hertz.Driver.C17u
