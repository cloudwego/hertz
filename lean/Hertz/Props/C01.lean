import Hertz.Proofs.Http1
import Hertz.Proofs.ReqRoundtrip
import Hertz.Proofs.ReqRoundtripOws
import Hertz.Proofs.ReqOwsBlank
import Hertz.Proofs.Trailers
import Hertz.Proofs.ReqAny
/-!
# C01 — the server frames and orders pipelined requests exactly as the wire says

Model: `Hertz.H1.serve` (`Model/Http1/*.lean`) mirrors `req.parse`, `ext.HeaderScanner.Next`,
`req.ContinueReadBody`, `ext.ReadBody/readBodyChunked/ReadTrailer` and the keep-alive loop of
`Server.Serve` function by function; it is compared with the real server (echo middleware on the real
Engine, scripted connection) on every run, under arbitrary segmentation.

Proved here, for all configurations, all inbound byte streams and both stream ends:
* `framing_names_exact`: a field name is taken for `Content-Length` / `Transfer-Encoding` iff it is
  equal to it ignoring ASCII case (the `ToLowerTable` regenerated from the Go source is exactly ASCII
  lower-casing);  `cr_is_not_dash`: `Content\rLength` (CR is the bit-5 neighbour of `-`) is not accepted.
* `one_response_per_request_in_order`: every handled request is immediately followed by its own final
  response, nothing follows a closing response, an interim `100 Continue` only precedes a request's
  body.

Proved for every stream that is the encoding of well-formed requests (`Proofs/ReqRoundtrip.lean`; the encoding is one of
the spellings of `Proofs/ReqRoundtripOws.lean`, and these are instances of the general statements of `Proofs/ReqAny.lean`):
* `head_roundtrip`, `body_roundtrip`, `request_roundtrip`, `serve_roundtrip` (+ `serve_roundtrip_all`,
  `serve_own_bytes`, `seen_fields`): for every list of well-formed wire requests `rs : List WReq` (predicate
  `wfReq`: token method, target without SP/CTL, token field names, OWS-trimmed field values without CR/LF/CTL,
  framing fields as the strict decoder demands — none / equal `Content-Length` fields < 2^63 / exactly one
  `Transfer-Encoding: chunked` —, chunks with size lines of ≤ 15 hex digits, every `Trailer` field a clean
  declaration `n1, n2, …` of allowed names, and the trailer section of a chunked request = well-formed fields
  whose names are, in order, the declared names (possibly none)), every configuration whose limits the requests respect (`withinLimits`: `MaxRequestBodySize`,
  multipart pre-parse not triggered), both stream ends and any bytes after a request: the head is parsed to
  exactly the request's method, target and fields (`expectedHead`), consuming exactly the head; the body reader
  returns exactly the body and leaves exactly what follows; and the handler is handed exactly the requests to be
  served (up to and including the first `Connection: close`), in order, with their own method, target, fields,
  body and trailers (`seen_trailers`; trailer names starting with the byte `0` included).  Fields may repeat, come in any order and any letter case; encoding is the canonical
  `name ": " value CRLF` (every other spelling: `serve_roundtrip_ows` below).
* `spec_decodes_encoding`, `serve_refines_spec`: the independent strict decoder `Spec.Http.decodeAll` reads
  `encAll rs` back as exactly `rs` (so `wfReq`/`encAll` describe streams of the specification's language, and the
  encoder is a right inverse of the specification), and what the handler is handed agrees with what the strict
  decoder assigns to each request.

Proved for every spelling of a field line the strict decoder accepts (`Proofs/ReqOwsLine.lean`, `ReqOwsCanon.lean`,
`ReqRoundtripOws.lean`, `ReqOwsBlank.lean`, `ReqAny.lean`; second half of this file):
* `field_line_scan`, `field_value_ows`, `field_value_canon`, `canon_is_canonVal`, `value_without_blanks_same`,
  `strict_value_without_blanks_same`, `head_roundtrip_ows`, `request_roundtrip_ows`, `serve_roundtrip_ows`,
  `serve_roundtrip_ows_trimmed`, `serve_refines_spec_ows`, `close_readings_agree`: a field line is
  `name ":" raw CRLF (cont CRLF)*` with `raw` any field-vchars (any optional whitespace, SP / HTAB, none or several, before
  and after the value) and obs-fold continuation lines `cont` (start with SP / HTAB, field-vchars, no colon), in the
  header section and in the trailer section.  The handler is handed `hval f`, the strict decoder returns `sval f`.
  Without obs-fold both are `trimOWS raw`, and the handler is handed exactly the strict decoder's reading of the requests
  to be served (`serve_roundtrip_ows_trimmed`, conditions on the trimmed values).  With obs-fold `hval f` = `trimOWS` of the
  lines joined (CRLF removed, leading HTABs of a continuation line turned into SPs, nothing compacted);
  `sval f` = OWS-trimmed lines joined by one SP; for every
  list of such requests (`wfOReq`) the handler gets exactly the requests to be served in the reading `seenW`, the strict
  decoder reads the stream back in the reading `strictW`, and the two readings are equal modulo `canon` = the driver's
  `canonVal` (proved equal for all values).  A value without blanks is the same in both readings.
* Handler and strict decoder agree on every value without blanks in either reading, in particular on `Connection: close`,
  so `serve_refines_spec_ows` has no side hypothesis.  Regression theorems on two witnesses: HTAB next to the value of
  `Connection` / `Content-Length` / `Expect` (`htab_connection_close_closes`,
  `htab_content_length_accepted`, `htab_expect_continue`; /repo 4c60fb1) and the obs-fold corner "blank first line,
  continuation line starting with SPs followed by a HTAB" (`fold_tab_connection_close_closes`,
  `fold_tab_content_length_accepted`; /repo 6637594); the letter case of `close`: `connection_close_any_case_closes`.
* `blank_lines_ignored`, `serve_roundtrip_blank_lines`, `spec_refuses_blank_line`: any number of empty lines (CRLF) in
  front of a request line are skipped by the server; the round trip holds with them (the strict decoder refuses them).

Proved for trailer sections that differ from their announcement, and for every spelling of the announcement
(`Spec/Trailers.lean`, `Proofs/ReqOwsLine.lean`, `Proofs/Trailers.lean`, `Proofs/ReqAny.lean`; last part of this file):
* `trailer_view`: for EVERY list of announced names and EVERY trailer section of well-formed field lines (any spelling),
  `ext.ReadTrailer` hands the handler exactly `specTrailerView names section` — the announced names in announcement
  order, the i-th entry of a name with the value of the i-th field of that name, entries without a field empty, fields
  not announced dropped, fields with a forbidden name (`IsBadTrailer`) ignored — and consumes exactly the section;
  EXCEPT when the LAST field of the section has a forbidden name: then the request is refused (400).  (A forbidden
  field that is not the last one is silently dropped: `parseTrailer` overwrites its `err` with every field — see
  `forbidden_trailer_field_order_dependent`.)  `trailer_view_exchange`: the code's loop (field by field, first
  empty entry of that name) = the specification's (entry by entry, first field not yet taken).
* `serve_roundtrip_any_trailers` (+ `any_trailers_generalises`, `serve_any_trailers_in_sync`, `spec_decodes_any_trailers`,
  `serve_refines_spec_any_trailers`): `serve_roundtrip_ows` with
  the clause "names of the section = announced names, in order" replaced by "last field not forbidden" (`wfOReqT`).
* `trailer_decl_spellings`: `Trailer.SetTrailers` on ANY value = the RFC 7230 `#field-name` list rule
  (split at commas, optional whitespace SP / HTAB stripped, empty elements — `a,,b`, trailing comma — ignored), names
  normalised, forbidden names dropped, refused exactly when the LAST element is forbidden.  Regression theorems for
  `/repo` 117944e (`patches/trailer-decl-list.diff`: HTAB around an element, several `Trailer` fields):
  `trailer_decl_htab_repaired`, `trailer_decl_two_fields_combine`.

TODO-OPEN (still decided per explored case by the spec step, `Driver/H1Spec.lean:c01`, which compares what the
implementation's handler saw with the independent strict decoder `Spec/Http.lean`):
* `serve_roundtrip` for the part of the strict decoder's language outside `wfReq` / `wfOReq` / `wfOReqT`:
  - `Trailer` declarations in another spelling than `n1, n2` INSIDE the loop theorem (`wfOReqT` still asks for `declOk`;
    `trailer_decl_spellings` is the statement about `SetTrailers` alone, the function `req.parse` calls);
  - requests whose framing / `Trailer` conditions hold of the strict reading `sval` but are spelled with obs-fold: `wfOReq`
    states them on `hval`; they coincide for values without blanks (`strict_value_without_blanks_same`: numbers, `chunked`)
    but the transfer `wfOReqS → wfOReq` is proved only without obs-fold (`wfOReq_eq_wfOReqS`), a folded `Trailer` list may
    differ in inner whitespace;
  - obs-fold continuation lines that contain a colon (refused by hertz with 400, `foldedColon` in the strict decoder: no claim);
  - bare LF line ends, empty lines after the last request, HTTP/1.0 request lines (the strict decoder refuses all of them).
* the transports: netpoll's reader and the sense-client-disconnection goroutine are not modelled; they are run
  (`harness/c01net.go`, op `netserve`, tags `netpoll:` / `std:` / `sense:` / `+hold`) against the model's single answer.
-/
namespace Hertz.Props.C01
open Hertz Hertz.H1

theorem framing_names_exact (key : Bytes) :
    (ciEq key Gen.Str.strContentLength = true ↔ key.map lowerSpec = Gen.Str.strContentLength.map lowerSpec) ∧
    (ciEq key Gen.Str.strTransferEncoding = true ↔ key.map lowerSpec = Gen.Str.strTransferEncoding.map lowerSpec) :=
  ⟨ciEq_iff _ _, ciEq_iff _ _⟩

/-- `Content\rLength` (bit-5 neighbour of `-`) is not a framing header name. -/
theorem cr_is_not_dash :
    ciEq [67, 111, 110, 116, 101, 110, 116, 13, 76, 101, 110, 103, 116, 104] Gen.Str.strContentLength = false := by
  decide +kernel

example : ciEq [99, 79, 78, 116, 101, 110, 116, 45, 76, 101, 110, 103, 116, 72] Gen.Str.strContentLength = true := by
  decide +kernel

theorem one_response_per_request_in_order (cfg : Cfg) (e : End) (s : Bytes) :
    cleanTrace (serve cfg e s) = true := serve_clean cfg e s

/-! ### round trip: what is written on the wire is what the handler gets (`Proofs/ReqRoundtrip.lean`)

`WReq` is a request as written on the wire (method, target, field list incl. the framing fields, body as
sent: nothing / `Content-Length` bytes / chunks with their size lines and the zero size line).
`wfReq` is the explicit well-formedness predicate (the conditions of the strict decoder `Spec.Http.decodeOne`
plus: field values OWS-trimmed, `Trailer` fields clean declarations of allowed names, the trailer section's names
= the declared names in order, chunk size lines of at most 15 hex digits, `Content-Length` below 2^63; it takes the
server's `DisableNormalizing` flag because that decides which spelling of a trailer name matches a declared one).  `encHeadOf`/`encBody`/`encReq`/`encAll` are the encoders. -/

open Hertz.H1.RT

/-- `POST /a?b HTTP/1.1`, `Host: h`, `content-LENGTH: 3`, `X-y: a b`, body `abc` -/
def exFixed : WReq :=
  { method := [80, 79, 83, 84], target := [47, 97, 63, 98],
    fields := [([72, 111, 115, 116], [104]), ([99, 111, 110, 116, 101, 110, 116, 45, 76, 69, 78, 71, 84, 72], [51]),
               ([88, 45, 121], [97, 32, 98])],
    body := .fixed [97, 98, 99] }

/-- `POST / HTTP/1.1`, `transfer-encoding: Chunked`, chunks `3 abc`, `0A <10 bytes>`, last size line `0` -/
def exChunked : WReq :=
  { method := [80, 79, 83, 84], target := [47],
    fields := [([116, 114, 97, 110, 115, 102, 101, 114, 45, 101, 110, 99, 111, 100, 105, 110, 103],
                [67, 104, 117, 110, 107, 101, 100])],
    body := .chunked [⟨[51], [97, 98, 99]⟩, ⟨[48, 65], [1, 2, 3, 4, 5, 6, 7, 8, 9, 10]⟩] [48] [] }

/-- `POST /t HTTP/1.1`, `Trailer: 0a, x-sum`, `Transfer-Encoding: chunked`, chunk `3 abc`, last size line `0`,
trailer section `0a: b:c`, `X-Sum: 9` (a trailer name that starts with the byte `0`) -/
def exTrailers : WReq :=
  { method := [80, 79, 83, 84], target := [47, 116],
    fields := [([84, 114, 97, 105, 108, 101, 114], [48, 97, 44, 32, 120, 45, 115, 117, 109]),
               ([84, 114, 97, 110, 115, 102, 101, 114, 45, 69, 110, 99, 111, 100, 105, 110, 103],
                [99, 104, 117, 110, 107, 101, 100])],
    body := .chunked [⟨[51], [97, 98, 99]⟩] [48] [([48, 97], [98, 58, 99]), ([88, 45, 83, 117, 109], [57])] }

/-- `GET /x HTTP/1.1`, `Host: h`, `Connection: close` -/
def exClose : WReq :=
  { method := [71, 69, 84], target := [47, 120],
    fields := [([72, 111, 115, 116], [104]), ([67, 111, 110, 110, 101, 99, 116, 105, 111, 110], [99, 108, 111, 115, 101])],
    body := .none }

/-- For every well-formed request and every continuation of the stream, `req.parse` returns the
request's own method and target, the special fields (`Host`, `User-Agent`, `Content-Type`: last one of that
name), the framing decision, the close flag, and the generic header list in wire order with names as normalised
(all spelled out in `expectedHead`), and consumes exactly the bytes of the head. -/
theorem head_roundtrip (dn : Bool) (r : WReq) (h : wfReq dn r = true) (rest : Bytes) :
    parseReqHead dn (encHeadOf r ++ rest) = .ok (expectedHead dn r, (encHeadOf r).length) := by
  have := parseReqHead_any (.of_wfOReq (wfOReq_spell r h)) rest
  rwa [seenW_spell r h, encHeadOfO_spell] at this

example : (∀ dn, wfReq dn exFixed = true ∧ wfReq dn exChunked = true ∧ wfReq dn exClose = true) := by decide +kernel
set_option maxRecDepth 100000 in
example : wfReq false exTrailers = true ∧ (expectedHead false exTrailers).trailer = [[48, 97], [88, 45, 83, 117, 109]] := by
  decide +kernel
example : (expectedHead false exFixed).h = [([88, 45, 89], [97, 32, 98])] ∧ (expectedHead false exFixed).cl = 3 := by decide +kernel

/-- After the head, `ContinueReadBody` (fixed length, chunked, or no body) yields exactly the body
and leaves exactly the bytes that follow the body's encoding, for either way the stream may end later. -/
theorem body_roundtrip (cfg : Cfg) (e : End) (r : WReq) (h : wfReq cfg.disableNorm r = true)
    (hlim : withinLimits cfg r = true) (rest : Bytes) :
    continueReadBody cfg e (expectedHead cfg.disableNorm r) (encBody r.body ++ rest) =
      .ok (expectedSeen cfg.disableNorm r).head (bodyOf r.body) (expectedSeen cfg.disableNorm r).trailers rest := by
  have hs := seenW_spell r h
  have := continueReadBody_any cfg e (.of_wfOReq (wfOReq_spell r h)) (by rwa [hs]) rest
  rwa [expectedSeenT_eq (wfOReq_spell r h), hs, show r.spell.body = r.body.spell from rfl, encBodyO_spell] at this

example : wfReq false exChunked = true ∧ withinLimits {} exChunked = true ∧
    bodyOf exChunked.body = [97, 98, 99, 1, 2, 3, 4, 5, 6, 7, 8, 9, 10] := by decide +kernel

/-- One turn of the keep-alive loop on an encoded request followed by anything: the handler gets
exactly this request (preceded by `100 Continue` if it asked for it), 200 is written, and the loop goes on
with exactly the bytes after the request unless the request (or the configuration) closes. -/
theorem request_roundtrip (cfg : Cfg) (e : End) (r : WReq) (h : wfReq cfg.disableNorm r = true)
    (hlim : withinLimits cfg r = true) (fuel : Nat) (first : Bool) (rest : Bytes) :
    serveLoop cfg e (fuel + 1) first (encReq r ++ rest) =
      (if mayContinue (expectedHead cfg.disableNorm r) then [Ev.continue100] else []) ++
      [.req (expectedSeen cfg.disableNorm r), .resp 200 (cfg.disableKeepalive || closes r)] ++
      (if (cfg.disableKeepalive || closes r) = true then [] else serveLoop cfg e fuel false rest) := by
  have hs := seenW_spell r h
  have := serveLoop_step_any cfg e (.of_wfOReq (wfOReq_spell r h)) (by rwa [hs]) 0 fuel first rest
  rwa [expectedSeenT_eq (wfOReq_spell r h), hs, encReqO_spell] at this

/-- For every list of well-formed requests, every configuration whose limits
they respect, and both stream ends: the requests handed to the handler are exactly the requests to be served
(all up to and including the first that says `Connection: close`; the first only if keep-alive is disabled),
in order, each as `expectedSeen` spells out. -/
theorem serve_roundtrip (cfg : Cfg) (e : End) (rs : List WReq)
    (hw : ∀ r ∈ rs, wfReq cfg.disableNorm r = true ∧ withinLimits cfg r = true) :
    handled (serve cfg e (encAll rs)) = (served cfg.disableKeepalive rs).map (expectedSeen cfg.disableNorm) := by
  have := serve_encO cfg e (rs.map WReq.spell) (by
    intro r' hr'
    obtain ⟨r, hr, rfl⟩ := List.mem_map.mp hr'
    exact ⟨wfOReq_spell r (hw r hr).1, by rw [seenW_spell r (hw r hr).1]; exact (hw r hr).2⟩)
  rwa [encAllO_spell, show seenW = OReq.toW hField from rfl,
    map_toW_spell rs (fun r hr => (hw r hr).1) hField (fun kv hkv => (spell_facts kv hkv).2.1)] at this

/-- … in particular, with keep-alive and no `Connection: close` except possibly on the last request, every
request is handed over, in order. -/
theorem serve_roundtrip_all (cfg : Cfg) (e : End) (rs : List WReq)
    (hw : ∀ r ∈ rs, wfReq cfg.disableNorm r = true ∧ withinLimits cfg r = true) (hk : cfg.disableKeepalive = false)
    (hc : ∀ r ∈ rs.dropLast, closes r = false) :
    handled (serve cfg e (encAll rs)) = rs.map (expectedSeen cfg.disableNorm) := by
  rw [serve_roundtrip cfg e rs hw, hk, served_all rs hc]

set_option maxRecDepth 100000 in
example : (∀ r ∈ [exFixed, exTrailers, exChunked, exClose], wfReq false r = true ∧ withinLimits {} r = true) ∧
    (∀ r ∈ [exFixed, exTrailers, exChunked, exClose].dropLast, closes r = false) := by decide +kernel

/-- No byte of one request is delivered as part of another: method, target and body the handler sees are the
request's own, request by request. -/
theorem serve_own_bytes (cfg : Cfg) (e : End) (rs : List WReq)
    (hw : ∀ r ∈ rs, wfReq cfg.disableNorm r = true ∧ withinLimits cfg r = true) :
    (handled (serve cfg e (encAll rs))).map (fun s => (s.head.method, s.head.uri, s.body)) =
      (served cfg.disableKeepalive rs).map (fun r => (r.method, r.target, bodyOf r.body)) := by
  rw [serve_roundtrip cfg e rs hw, List.map_map]
  apply List.map_congr_left
  intro r _
  obtain ⟨h1, h2, h3⟩ := expectedSeen_own cfg.disableNorm r
  simp [h1, h2, h3]

/-- What `expectedSeen` of the theorems above says of the header fields (see `expectedSeen_fields` for the reading of `pick` /
`generic`). -/
theorem seen_fields (dn : Bool) (r : WReq) :
    (expectedSeen dn r).head.host = pick .host r.fields [] ∧
    (expectedSeen dn r).head.userAgent = pick .ua r.fields [] ∧
    (expectedSeen dn r).head.contentType = pick .ct r.fields [] ∧
    ((expectedSeen dn r).head.h = r.fields.filterMap (generic dn) ∨
     (expectedSeen dn r).head.h = (r.fields.filterMap (generic dn)).filter (fun kv => kv.1 != Gen.Str.strTransferEncoding)) :=
  expectedSeen_fields dn r

/-- What `expectedSeen` says of the trailers: for a chunked request the fields of its own trailer section, in order,
names normalised, values untouched (this includes names that start with the byte `0`); for any other request the
declared names with empty values. -/
theorem seen_trailers (dn : Bool) (r : WReq) :
    (expectedSeen dn r).trailers =
      (match r.body with
       | .chunked _ _ trs => trs.map (fun kv => (normalizeKey dn kv.1, kv.2))
       | _ => (pickT dn r.fields []).map (fun k => (k, []))) := rfl

set_option maxRecDepth 100000 in
example : (expectedSeen false exTrailers).trailers = [([48, 97], [98, 58, 99]), ([88, 45, 83, 117, 109], [57])] := by
  decide +kernel

/-- The encoder of the theorems above is a right inverse of the independent strict decoder (`Spec/Http.lean`):
a stream of encoded well-formed requests is in the specification's language and decodes to those requests. -/
theorem spec_decodes_encoding (dn : Bool) (rs : List WReq) (hw : ∀ r ∈ rs, wfReq dn r = true) :
    Spec.Http.decodeAll (encAll rs) = some (rs.map toSpec) := by
  have := decodeAll_any (rs.map WReq.spell) (by
    intro r' hr'
    obtain ⟨r, hr, rfl⟩ := List.mem_map.mp hr'
    exact .of_wfOReq (wfOReq_spell r (hw r hr)))
  rw [encAllO_spell, List.map_map] at this
  rw [this]
  exact congrArg some (List.map_congr_left (fun r hr => congrArg toSpec (strictW_spell r (hw r hr))))

example : (toSpec exChunked).body = [97, 98, 99, 1, 2, 3, 4, 5, 6, 7, 8, 9, 10] ∧ (toSpec exChunked).fields = exChunked.fields := by
  decide +kernel

/-- Model refines specification on these streams: the strict decoder accepts the stream, and method, target and
body of what the handler is handed are, request by request, what the strict decoder assigns (for the requests
that are to be served). -/
theorem serve_refines_spec (cfg : Cfg) (e : End) (rs : List WReq)
    (hw : ∀ r ∈ rs, wfReq cfg.disableNorm r = true ∧ withinLimits cfg r = true) :
    Spec.Http.decodeAll (encAll rs) = some (rs.map toSpec) ∧
    (handled (serve cfg e (encAll rs))).map (fun s => (s.head.method, s.head.uri, s.body)) =
      ((served cfg.disableKeepalive rs).map toSpec).map (fun q => (q.method, q.target, q.body)) := by
  refine ⟨spec_decodes_encoding cfg.disableNorm rs (fun r hr => (hw r hr).1), ?_⟩
  rw [serve_own_bytes cfg e rs hw, List.map_map]
  rfl

/-! ### round trip for every spelling of a field line (`Proofs/ReqOwsLine.lean`, `ReqOwsCanon.lean`, `ReqRoundtripOws.lean`)

`FLine` is a field as spelled on the wire: `name ":" raw CRLF (cont CRLF)*` — `raw` is the text between the colon and
the first CRLF, blanks included (so any optional whitespace, SP or HTAB, none or several, on either side of the value),
`conts` are obs-fold continuation lines.  `wfFLine` = the strict decoder's conditions (token name, field-vchars, a
continuation line starts with SP / HTAB) plus "no colon in a continuation line" (hertz refuses those; the strict decoder
flags them `foldedColon`, no claim).  `hval f` is what the handler is handed, `sval f` what the strict decoder returns:

  `hval f = trimOWS (raw ++ continuation lines with their leading HTABs turned into SPs)`,
  `sval f = trimOWS (… trimOWS (trimOWS raw ++ SP ++ trimOWS cont₁) … ++ SP ++ trimOWS contₙ)`.

Without obs-fold both readings are `trimOWS raw` (`field_value_ows`) and the handler is handed exactly the strict
decoder's reading (`serve_roundtrip_ows_trimmed`); with obs-fold the CRLFs are removed, the continuation line's leading HTABs become SPs and nothing is compacted, so the readings
differ in inner whitespace only (equal modulo `canon`; equal outright when either has no blank).  `OReq` is a request with
such fields (header and trailer section), `seenW r` (values `hval`) / `strictW r` (values `sval`) its two readings as `WReq`,
`wfOReq` the explicit well-formedness predicate: every line a `wfFLine`, and the framing / `Trailer` conditions of `wfReq`
on the values as hertz reads them; `wfOReqS` the same with these conditions on the values `sval` (equivalent when there is
no obs-fold, `wfOReq_eq_wfOReqS`). -/

/-- `POST /o HTTP/1.1`, `Host:h`, `Content-Length:␠␠␠3␠␠`, `X-A:⇥a␠␠b⇥␠`, `X-Fold:␠a CRLF ⇥␠b CRLF ␠␠c␠`, body `abc` -/
def exOws : OReq :=
  { method := [80, 79, 83, 84], target := [47, 111],
    fields := [⟨[72, 111, 115, 116], [104], []⟩,
               ⟨[67, 111, 110, 116, 101, 110, 116, 45, 76, 101, 110, 103, 116, 104], [32, 32, 32, 51, 32, 32], []⟩,
               ⟨[88, 45, 65], [9, 97, 32, 32, 98, 9, 32], []⟩,
               ⟨[88, 45, 70, 111, 108, 100], [32, 97], [[9, 32, 98], [32, 32, 99, 32]]⟩],
    body := .fixed [97, 98, 99] }

/-- `POST /c HTTP/1.1`, `Trailer:␠␠X-T`, `Transfer-Encoding:chunked`, chunk `3 abc`, `0`, trailer `X-T:␠1 CRLF ⇥2` -/
def exOwsChunked : OReq :=
  { method := [80, 79, 83, 84], target := [47, 99],
    fields := [⟨[84, 114, 97, 105, 108, 101, 114], [32, 32, 88, 45, 84], []⟩,
               ⟨[84, 114, 97, 110, 115, 102, 101, 114, 45, 69, 110, 99, 111, 100, 105, 110, 103], [99, 104, 117, 110, 107, 101, 100], []⟩],
    body := .chunked [⟨[51], [97, 98, 99]⟩] [48] [⟨[88, 45, 84], [32, 49], [[9, 50]]⟩] }

/-- One call of `HeaderScanner.Next` on any spelled field followed by something that is not a continuation line:
key = normalised name, value = `hval f`, exactly the field's bytes consumed. -/
theorem field_line_scan (dn : Bool) (f : FLine) (rest : Bytes) (hf : wfFLine f = true)
    (hr : ∀ c, rest.head? = some c → c ≠ 32 ∧ c ≠ 9) :
    scanNext dn (encFLine f ++ rest) = .kv (normalizeKey dn f.name) (hval f) rest (encFLine f).length :=
  scanNext_fline dn f rest hf hr

example : wfFLine ⟨[88, 45, 70], [32, 97], [[9, 32, 98], [32, 32, 99, 32]]⟩ = true ∧
    hval ⟨[88, 45, 70], [32, 97], [[9, 32, 98], [32, 32, 99, 32]]⟩ = [97, 32, 32, 98, 32, 32, 99] ∧
    sval ⟨[88, 45, 70], [32, 97], [[9, 32, 98], [32, 32, 99, 32]]⟩ = [97, 32, 98, 32, 99] := by decide +kernel

/-- Optional whitespace only, no obs-fold: hertz and the strict decoder both strip SP and HTAB at both ends. -/
theorem field_value_ows (k raw : Bytes) :
    hval { name := k, raw := raw, conts := [] } = Spec.Http.trimOWS raw ∧
    sval { name := k, raw := raw, conts := [] } = Spec.Http.trimOWS raw := ⟨hval_nofold k raw, sval_nofold k raw⟩

example : hval ⟨[88], [32, 9, 97, 9, 32], []⟩ = [97] ∧ sval ⟨[88], [32, 9, 97, 9, 32], []⟩ = [97] := by decide +kernel

/-- `canon` (whitespace runs collapsed to one SP, ends trimmed) is the function `canonVal` the per-case check
(`Driver/H1Spec.lean`) compares field values with. -/
theorem canon_is_canonVal (v : Bytes) : canon v = Driver.H1Spec.canonVal v := canon_eq_canonVal v

/-- What the handler is handed and what the strict decoder returns for a spelled field are equal modulo `canon`:
they consist of the same words. -/
theorem field_value_canon (f : FLine) (hf : wfFLine f = true) : canon (hval f) = canon (sval f) :=
  canon_hval_sval f hf

/-- If the value the handler is handed contains no SP / HTAB, the strict decoder returns exactly the same value (so
numbers, `chunked`, `close`, tokens read the same; a difference needs a blank that hertz keeps). -/
theorem value_without_blanks_same (f : FLine) (hf : wfFLine f = true) (hnb : ∀ c ∈ hval f, c ≠ 32 ∧ c ≠ 9) :
    sval f = hval f := sval_eq_hval_of_nb f hf hnb

example : wfFLine ⟨[88], [32, 32], [[9, 99, 108, 111, 115, 101], [32]]⟩ = true ∧
    hval ⟨[88], [32, 32], [[9, 99, 108, 111, 115, 101], [32]]⟩ = [99, 108, 111, 115, 101] := by decide +kernel

/-- … and conversely: a value the strict decoder returns without blanks is handed over unchanged. -/
theorem strict_value_without_blanks_same (f : FLine) (hf : wfFLine f = true)
    (hnb : ∀ c ∈ sval f, c ≠ 32 ∧ c ≠ 9) : hval f = sval f := hval_eq_sval_of_nb f hf hnb

example : wfFLine ⟨[88], [9], [[32, 9, 51, 9]]⟩ = true ∧ sval ⟨[88], [9], [[32, 9, 51, 9]]⟩ = [51] ∧
    hval ⟨[88], [9], [[32, 9, 51, 9]]⟩ = [51] := by decide +kernel

/-- `head_roundtrip` for spelled fields: the head is parsed to `expectedHead` of the handler's reading, consuming exactly the head. -/
theorem head_roundtrip_ows (dn : Bool) (r : OReq) (h : wfOReq dn r = true) (rest : Bytes) :
    parseReqHead dn (encHeadOfO r ++ rest) = .ok (expectedHead dn (seenW r), (encHeadOfO r).length) :=
  parseReqHead_any (.of_wfOReq h) rest

/-- One turn of the keep-alive loop on a request with spelled fields followed by anything. -/
theorem request_roundtrip_ows (cfg : Cfg) (e : End) (r : OReq) (h : wfOReq cfg.disableNorm r = true)
    (hlim : withinLimits cfg (seenW r) = true) (fuel : Nat) (first : Bool) (rest : Bytes) :
    serveLoop cfg e (fuel + 1) first (encReqO r ++ rest) =
      (if mayContinue (expectedHead cfg.disableNorm (seenW r)) then [Ev.continue100] else []) ++
      [.req (expectedSeen cfg.disableNorm (seenW r)), .resp 200 (cfg.disableKeepalive || closes (seenW r))] ++
      (if (cfg.disableKeepalive || closes (seenW r)) = true then [] else serveLoop cfg e fuel false rest) :=
  expectedSeenT_eq h ▸ serveLoop_step_any cfg e (.of_wfOReq h) hlim 0 fuel first rest

/-- `serve_roundtrip` for every spelling of the field lines (header and trailer section): for every list of
well-formed requests with spelled fields, every configuration whose limits they respect, both stream ends,
(1) the handler is handed exactly the requests to be served, in order, each as `expectedSeen` of its reading `seenW`
(values `hval`); (2) the independent strict decoder reads the same stream back as the readings `strictW` (values
`sval`); (3) the two readings are the same request modulo the value canonicalisation `canon` (= `canonVal`): same
method, target, field names, body; field and trailer values equal after collapsing whitespace. -/
theorem serve_roundtrip_ows (cfg : Cfg) (e : End) (rs : List OReq)
    (hw : ∀ r ∈ rs, wfOReq cfg.disableNorm r = true ∧ withinLimits cfg (seenW r) = true) :
    handled (serve cfg e (encAllO rs)) =
      (served cfg.disableKeepalive (rs.map seenW)).map (expectedSeen cfg.disableNorm) ∧
    Spec.Http.decodeAll (encAllO rs) = some (rs.map (fun r => toSpec (strictW r))) ∧
    ∀ r ∈ rs, canonW (seenW r) = canonW (strictW r) :=
  ⟨serve_encO cfg e rs hw, decodeAll_any rs (fun r hr => .of_wfOReq (hw r hr).1), fun r hr =>
    have W := WfAny.of_wfOReq (hw r hr).1; canonW_seen_strict r W.hf W.htw⟩

set_option maxRecDepth 100000 in
example : (∀ r ∈ [exOws, exOwsChunked], wfOReq false r = true ∧ withinLimits {} (seenW r) = true) ∧
    (seenW exOws).fields.map (·.2) = [[104], [51], [97, 32, 32, 98], [97, 32, 32, 98, 32, 32, 99]] ∧
    (strictW exOws).fields.map (·.2) = [[104], [51], [97, 32, 32, 98], [97, 32, 98, 32, 99]] ∧
    (expectedSeen false (seenW exOwsChunked)).trailers = [([88, 45, 84], [49, 32, 50])] := by decide +kernel

/-- The canonical spelling of `serve_roundtrip` is one of the spellings. -/
theorem canonical_spelling (k v : Bytes) : encFLine { name := k, raw := 32 :: v, conts := [] } = encField (k, v) :=
  encFLine_canonical k v

/-- Without obs-fold (any optional whitespace, SP / HTAB, around the values; conditions stated on the OWS-trimmed
values) the handler is handed exactly the strict decoder's reading of every request to be served. -/
theorem serve_roundtrip_ows_trimmed (cfg : Cfg) (e : End) (rs : List OReq)
    (hw : ∀ r ∈ rs, noFold r = true ∧ wfOReqS cfg.disableNorm r = true ∧ withinLimits cfg (strictW r) = true) :
    handled (serve cfg e (encAllO rs)) =
      (served cfg.disableKeepalive (rs.map strictW)).map (expectedSeen cfg.disableNorm) ∧
    Spec.Http.decodeAll (encAllO rs) = some (rs.map (fun r => toSpec (strictW r))) := by
  -- without obs-fold the two readings are the same request
  have hw' : ∀ r ∈ rs, wfOReq cfg.disableNorm r = true ∧ withinLimits cfg (seenW r) = true := by
    intro r hr
    obtain ⟨h1, h2, h3⟩ := hw r hr
    rw [wfOReq_eq_wfOReqS _ r h1, seenW_eq_strictW_of_noFold r h1]
    exact ⟨h2, h3⟩
  have hmap : rs.map seenW = rs.map strictW :=
    List.map_congr_left (fun r hr => seenW_eq_strictW_of_noFold r (hw r hr).1)
  exact ⟨hmap ▸ serve_encO cfg e rs hw', decodeAll_any rs (fun r hr => .of_wfOReq (hw' r hr).1)⟩

/-- `GET /a`, `Host:⇥h`, `Connection:⇥close`; then `GET /b` -/
def exTabClose : List OReq :=
  [{ method := [71, 69, 84], target := [47, 97],
     fields := [⟨[72, 111, 115, 116], [9, 104], []⟩, ⟨[67, 111, 110, 110, 101, 99, 116, 105, 111, 110], [9, 99, 108, 111, 115, 101], []⟩],
     body := .none },
   { method := [71, 69, 84], target := [47, 98], fields := [], body := .none }]

example : (∀ r ∈ exTabClose, noFold r = true ∧ wfOReqS false r = true ∧ withinLimits {} (strictW r) = true) ∧
    exTabClose.map (fun r => (strictW r).fields.map (·.2)) = [[[104], [99, 108, 111, 115, 101]], []] := by decide +kernel

/-- Handler and strict decoder agree on which requests say `Connection: close` (the value `close` has no blank, so it is
the same in both readings, whatever the spelling). -/
theorem close_readings_agree (dn : Bool) (r : OReq) (h : wfOReq dn r = true) : closes (seenW r) = closes (strictW r) :=
  closes_seen_eq_strict r (WfAny.of_wfOReq h).hf

/-- Model refines specification on every stream of well-formed requests with spelled fields: the strict decoder accepts
the stream, and method, target and body of what the handler is handed are, request by request, what the strict decoder
assigns to the requests that are to be served (decided by the strict reading). -/
theorem serve_refines_spec_ows (cfg : Cfg) (e : End) (rs : List OReq)
    (hw : ∀ r ∈ rs, wfOReq cfg.disableNorm r = true ∧ withinLimits cfg (seenW r) = true) :
    Spec.Http.decodeAll (encAllO rs) = some (rs.map (fun r => toSpec (strictW r))) ∧
    (handled (serve cfg e (encAllO rs))).map (fun s => (s.head.method, s.head.uri, s.body)) =
      ((served cfg.disableKeepalive (rs.map strictW)).map toSpec).map (fun q => (q.method, q.target, q.body)) := by
  refine ⟨decodeAll_any rs (fun r hr => .of_wfOReq (hw r hr).1), ?_⟩
  -- the same requests close in both readings
  rw [serve_any_own cfg e rs (fun r hr => ⟨.of_wfOReq (hw r hr).1, (hw r hr).2⟩), served_map,
    ← servedBy_congr _ _ _ rs (fun r hr => closes_seen_eq_strict r (WfAny.of_wfOReq (hw r hr).1).hf), List.map_map, List.map_map]
  rfl

/-- `GET /a`, `Connection: CRLF ␠⇥close`; then `GET /b` -/
def exFoldTabClose : List OReq :=
  [{ method := [71, 69, 84], target := [47, 97],
     fields := [⟨[67, 111, 110, 110, 101, 99, 116, 105, 111, 110], [], [[32, 9, 99, 108, 111, 115, 101]]⟩],
     body := .none },
   { method := [71, 69, 84], target := [47, 98], fields := [], body := .none }]

set_option maxRecDepth 100000 in
example : ∀ r ∈ [exOws, exOwsChunked] ++ exTabClose ++ exFoldTabClose,
    wfOReq false r = true ∧ withinLimits {} (seenW r) = true := by decide +kernel

/-! #### regression for `/repo` 4c60fb1 (HTAB is optional whitespace: `Connection:⇥close`, `Content-Length:⇥3`,
`Expect:⇥100-continue`) and, between them, for `/repo` 9dcdbe5 (the letter case of `close`) -/

/-- `Connection:⇥close`: the server closes after the first request; only it is handed to the handler, as the strict
decoder says. -/
theorem htab_connection_close_closes :
    (handled (serve {} .eof (encAllO exTabClose))).map (fun s => s.head.uri) = [[47, 97]] ∧
    (serve {} .eof (encAllO exTabClose)).getLast? = some (.resp 200 true) ∧
    (served false (exTabClose.map strictW)).length = 1 := by
  decide +kernel

/-- `GET /a`, `Host: h`, `Connection: Close` (another letter case); then `GET /b` -/
def exCloseCase : List OReq :=
  [{ method := [71, 69, 84], target := [47, 97],
     fields := [⟨[72, 111, 115, 116], [32, 104], []⟩, ⟨[67, 111, 110, 110, 101, 99, 116, 105, 111, 110], [32, 67, 108, 111, 115, 101], []⟩],
     body := .none },
   { method := [71, 69, 84], target := [47, 98], fields := [], body := .none }]

/-- regression for `/repo` 9dcdbe5: the connection option `close` is case-insensitive (RFC 7230 §6.1): after a request with
`Connection: Close` the server closes; only that request is handed to a handler and its response announces the close. -/
theorem connection_close_any_case_closes :
    (handled (serve {} .eof (encAllO exCloseCase))).map (fun s => s.head.uri) = [[47, 97]] ∧
    (serve {} .eof (encAllO exCloseCase)).getLast? = some (.resp 200 true) ∧
    (served false (exCloseCase.map strictW)).length = 1 := by
  decide +kernel

/-- `POST /a HTTP/1.1`, `Content-Length:⇥3`, body `abc`: handled with body `abc`, as the strict decoder says. -/
theorem htab_content_length_accepted :
    (handled (serve {} .eof
      [80, 79, 83, 84, 32, 47, 97, 32, 72, 84, 84, 80, 47, 49, 46, 49, 13, 10, 67, 111, 110, 116, 101, 110, 116, 45, 76, 101, 110, 103, 116, 104, 58, 9, 51, 13, 10, 13, 10, 97, 98, 99])).map (fun s => (s.head.uri, s.head.cl, s.body)) = [([47, 97], 3, [97, 98, 99])] ∧
    (Spec.Http.decodeAll
      [80, 79, 83, 84, 32, 47, 97, 32, 72, 84, 84, 80, 47, 49, 46, 49, 13, 10, 67, 111, 110, 116, 101, 110, 116, 45, 76, 101, 110, 103, 116, 104, 58, 9, 51, 13, 10, 13, 10, 97, 98, 99]).map (fun l => l.map (fun q => (q.target, q.body))) = some [([47, 97], [97, 98, 99])] := by
  decide +kernel

/-- `POST /e HTTP/1.1`, `Expect:⇥100-continue`, `Content-Length: 1`, body `x`: the interim response is sent, then the
request is handled. -/
theorem htab_expect_continue :
    (serve {} .eof
      [80, 79, 83, 84, 32, 47, 101, 32, 72, 84, 84, 80, 47, 49, 46, 49, 13, 10, 69, 120, 112, 101, 99, 116, 58, 9, 49, 48, 48, 45, 99, 111, 110, 116, 105, 110, 117, 101, 13, 10, 67, 111, 110, 116, 101, 110, 116, 45, 76, 101, 110, 103, 116, 104, 58, 32, 49, 13, 10, 13, 10, 120]).head? = some .continue100 ∧
    (handled (serve {} .eof
      [80, 79, 83, 84, 32, 47, 101, 32, 72, 84, 84, 80, 47, 49, 46, 49, 13, 10, 69, 120, 112, 101, 99, 116, 58, 9, 49, 48, 48, 45, 99, 111, 110, 116, 105, 110, 117, 101, 13, 10, 67, 111, 110, 116, 101, 110, 116, 45, 76, 101, 110, 103, 116, 104, 58, 32, 49, 13, 10, 13, 10, 120])).map (fun s => s.body) = [[120]] := by
  decide +kernel

/-! #### regression for `/repo` 6637594: the obs-fold corner "blank first line, continuation line ␠…␠⇥value" -/

/-- `Connection: CRLF ␠⇥close`: both readings are `close`, the server closes after the first request. -/
theorem fold_tab_connection_close_closes :
    exFoldTabClose.map (fun r => (seenW r).fields.map (·.2)) = [[[99, 108, 111, 115, 101]], []] ∧
    exFoldTabClose.map (fun r => (strictW r).fields.map (·.2)) = [[[99, 108, 111, 115, 101]], []] ∧
    (handled (serve {} .eof (encAllO exFoldTabClose))).map (fun s => s.head.uri) = [[47, 97]] ∧
    (serve {} .eof (encAllO exFoldTabClose)).getLast? = some (.resp 200 true) ∧
    (served false (exFoldTabClose.map strictW)).length = 1 := by
  decide +kernel

/-- `POST /a HTTP/1.1`, `Content-Length: CRLF ␠⇥3`, body `abc`: handled with body `abc`, as the strict decoder says. -/
theorem fold_tab_content_length_accepted :
    (handled (serve {} .eof
      [80, 79, 83, 84, 32, 47, 97, 32, 72, 84, 84, 80, 47, 49, 46, 49, 13, 10, 67, 111, 110, 116, 101, 110, 116, 45, 76, 101, 110, 103, 116, 104, 58, 13, 10, 32, 9, 51, 13, 10, 13, 10, 97, 98, 99])).map (fun s => (s.head.uri, s.head.cl, s.body)) = [([47, 97], 3, [97, 98, 99])] ∧
    (Spec.Http.decodeAll
      [80, 79, 83, 84, 32, 47, 97, 32, 72, 84, 84, 80, 47, 49, 46, 49, 13, 10, 67, 111, 110, 116, 101, 110, 116, 45, 76, 101, 110, 103, 116, 104, 58, 13, 10, 32, 9, 51, 13, 10, 13, 10, 97, 98, 99]).map (fun l => l.map (fun q => (q.target, q.body))) = some [([47, 97], [97, 98, 99])] := by
  decide +kernel

/-! #### empty lines in front of a request line (`Proofs/ReqOwsBlank.lean`) -/

/-- The server loop ignores any number of empty lines (CRLF) in front of a request line: same events as without them. -/
theorem blank_lines_ignored (cfg : Cfg) (e : End) (fuel : Nat) (first : Bool) (k : Nat) (c : UInt8) (X : Bytes)
    (h13 : c ≠ 13) (h10 : c ≠ 10) (hlen : 4 ≤ (c :: X).length) :
    serveLoop cfg e (fuel + 1) first (crlfs k ++ c :: X) = serveLoop cfg e (fuel + 1) first (c :: X) :=
  serveLoop_skip cfg e fuel first k c X h13 h10 hlen

/-- `serve_roundtrip_ows` with any number of empty lines in front of every request (`encAllB`: each request comes
with the number of empty lines that precede it).  The strict decoder does not accept such streams
(`spec_refuses_blank_line`), so this is a statement about the server only. -/
theorem serve_roundtrip_blank_lines (cfg : Cfg) (e : End) (rs : List (Nat × OReq))
    (hw : ∀ p ∈ rs, wfOReq cfg.disableNorm p.2 = true ∧ withinLimits cfg (seenW p.2) = true) :
    handled (serve cfg e (encAllB rs)) =
      (served cfg.disableKeepalive (rs.map (fun p => seenW p.2))).map (expectedSeen cfg.disableNorm) := by
  rw [serve_any cfg e rs (fun p hp => ⟨.of_wfOReq (hw p hp).1, (hw p hp).2⟩),
    servedT_eq _ _ (fun r hr => by obtain ⟨p, hp, rfl⟩ := List.mem_map.mp hr; exact (hw p hp).1), List.map_map]
  rfl

set_option maxRecDepth 100000 in
example : (∀ p ∈ [(2, exOws), (1, exOwsChunked)], wfOReq false p.2 = true ∧ withinLimits {} (seenW p.2) = true) ∧
    (encAllB [(2, exOws), (1, exOwsChunked)]).take 8 = [13, 10, 13, 10, 80, 79, 83, 84] := by decide +kernel

theorem spec_refuses_blank_line (X : Bytes) : Spec.Http.decodeAll (13 :: 10 :: X) = none := decodeAll_blank X

/-! ### trailer sections that differ from their announcement; the announcement in every spelling

`Spec/Trailers.lean`: `specTrailerView names section` (entry by entry) and `listElems` (RFC 7230 §7 list rule).
`Proofs/ReqOwsLine.lean`: `secSeen dn trs` = the section as the reader uses it (names normalised, values `hval`, fields
with a forbidden name skipped), `lastBad dn trs` = the last field of the section has a forbidden name. -/

open Hertz.Spec.Trailers

/-- `ext.ReadTrailer` on EVERY announced-name list and EVERY trailer section of well-formed field lines (any optional
whitespace, obs-fold), followed by anything: refused iff the last field is forbidden; otherwise the handler is handed
`specTrailerView names (secSeen dn trs)` and the reader is left at exactly the byte after the section. -/
theorem trailer_view (cfg : Cfg) (e : End) (names : List Bytes) (trs : List FLine) (rest : Bytes)
    (h : ∀ f ∈ trs, wfFLine f = true) :
    readTrailerReq cfg e names (encFLines trs ++ 13 :: 10 :: rest) =
      if lastBad cfg.disableNorm trs = true then .error .bad
      else .ok (some (specTrailerView names (secSeen cfg.disableNorm trs)), rest) :=
  readTrailerReq_any cfg e names trs rest (blockOk_of_wf h) (tokens_of_wf h)

/-- section `a: 1`, `x-u: u`, `A:2`, `Host: h`, `A: 3 CRLF ⇥4` -/
def exSection : List FLine :=
  [⟨[97], [32, 49], []⟩, ⟨[120, 45, 117], [32, 117], []⟩, ⟨[65], [50], []⟩, ⟨[72, 111, 115, 116], [32, 104], []⟩,
   ⟨[65], [32, 51], [[9, 52]]⟩]

set_option maxRecDepth 100000 in
/-- announced `A, A, X-F, B`: the two `A` entries take the first two `A` fields (the third is dropped), `X-F` and `B`
stay empty, `x-u` (not announced) and `Host` (forbidden, not last) are dropped -/
example : (∀ f ∈ exSection, wfFLine f = true) ∧ lastBad false exSection = false ∧
    specTrailerView [[65], [65], [88, 45, 70], [66]] (secSeen false exSection) =
      [([65], [49]), ([65], [50]), ([88, 45, 70], []), ([66], [])] := by decide +kernel

/-- the reader's loop (every field fills the first empty entry of its name) computes the specification's view
(every entry takes the first field of its name not yet taken) -/
theorem trailer_view_exchange (names : List Bytes) (sec : List (Bytes × Bytes)) :
    filledTrailers (sec.foldl (fun t kv => updateTrailer t kv.1 kv.2) (names.map (fun k => (k, none)))) =
      specTrailerView names sec :=
  updAll_unfilled names sec

example : specTrailerView [[65], [66], [65]] [([67], [1]), ([65], [2]), ([65], [3]), ([65], [4])] =
    [([65], [2]), ([66], []), ([65], [3])] := by decide +kernel

/-- A forbidden trailer field is refused only when it is the LAST field of the section (`parseTrailer` overwrites `err`
with every field): section `Host: h`, `A: 1` is accepted (and `Host` dropped), section `A: 1`, `Host: h` is answered
400.  Both streams replayed on the real server (`corpus/C01/x01_trailers.txt`): same. -/
theorem forbidden_trailer_field_order_dependent :
    (readTrailerReq {} .eof [[65]] (encFLines [⟨[72, 111, 115, 116], [32, 104], []⟩, ⟨[65], [32, 49], []⟩] ++ [13, 10])).toOption =
      some (some [([65], [49])], []) ∧
    (match readTrailerReq {} .eof [[65]] (encFLines [⟨[65], [32, 49], []⟩, ⟨[72, 111, 115, 116], [32, 104], []⟩] ++ [13, 10]) with
     | .error .bad => true
     | _ => false) = true := by decide +kernel

/-- `POST /t`, `Trailer: A, A, X-F`, chunked, chunk `3 abc`, trailer section `exSection` -/
def exAnyTrailers : OReq :=
  { method := [80, 79, 83, 84], target := [47, 116],
    fields := [⟨[84, 114, 97, 105, 108, 101, 114], [32, 65, 44, 32, 65, 44, 32, 88, 45, 70], []⟩,
               ⟨[84, 114, 97, 110, 115, 102, 101, 114, 45, 69, 110, 99, 111, 100, 105, 110, 103], [99, 104, 117, 110, 107, 101, 100], []⟩],
    body := .chunked [⟨[51], [97, 98, 99]⟩] [48] exSection }

/-- `serve_roundtrip` for requests whose trailer section is ANY list of well-formed field lines whose last field is not
forbidden (`wfOReqT`; every other condition as in `wfOReq`): the handler is handed exactly the requests to be served,
in order, each with the trailers `specTrailerView announced section` (`expectedSeenT`). -/
theorem serve_roundtrip_any_trailers (cfg : Cfg) (e : End) (rs : List OReq)
    (hw : ∀ r ∈ rs, wfOReqT cfg.disableNorm r = true ∧ withinLimits cfg (seenW r) = true) :
    handled (serve cfg e (encAllO rs)) =
      (servedBy cfg.disableKeepalive (fun r => closes (seenW r)) rs).map (expectedSeenT cfg.disableNorm) :=
  serve_anyO cfg e rs fun r hr => ⟨wfOReqT_iff.mp (hw r hr).1, (hw r hr).2⟩

set_option maxRecDepth 100000 in
example : (∀ r ∈ [exAnyTrailers, exOws], wfOReqT false r = true ∧ withinLimits {} (seenW r) = true) ∧
    wfOReq false exAnyTrailers = false ∧
    (expectedSeenT false exAnyTrailers).trailers = [([65], [49]), ([65], [50]), ([88, 45, 70], [])] ∧
    (expectedSeenT false exAnyTrailers).body = [97, 98, 99] := by decide +kernel

/-- the requests of `serve_roundtrip_ows` are a special case -/
theorem any_trailers_generalises (dn : Bool) (r : OReq) (h : wfOReq dn r = true) : wfOReqT dn r = true :=
  wfOReqT_iff.mpr (.of_wfOReq h)

/-- … and the connection stays in sync: after a request with any trailer section, followed by anything, the loop
goes on with exactly the bytes after the section (or closes). -/
theorem serve_any_trailers_in_sync (cfg : Cfg) (e : End) (r : OReq) (h : wfOReqT cfg.disableNorm r = true)
    (hlim : withinLimits cfg (seenW r) = true) (fuel : Nat) (first : Bool) (rest : Bytes) :
    serveLoop cfg e (fuel + 1) first (encReqO r ++ rest) =
      (if mayContinue (expectedHead cfg.disableNorm (seenW r)) then [Ev.continue100] else []) ++
      [.req (expectedSeenT cfg.disableNorm r), .resp 200 (cfg.disableKeepalive || closes (seenW r))] ++
      (if (cfg.disableKeepalive || closes (seenW r)) = true then [] else serveLoop cfg e fuel false rest) :=
  serveLoop_step_any cfg e (wfOReqT_iff.mp h) hlim 0 fuel first rest

/-- `Trailer.SetTrailers` (called by `req.parse` on the value of a `Trailer` field) on EVERY value:
the names are the elements of the RFC 7230 list (`listElems`: split at commas, optional whitespace stripped, empty
elements ignored — so `a,b`, `a ,b`, `a,,b`, `a, b,` all announce `a`, `b`), normalised, forbidden names dropped; the
declaration is refused (400) exactly when its LAST element is a forbidden name. -/
theorem trailer_decl_spellings (dn : Bool) (v : Bytes) :
    setTrailers dn v =
      (((listElems v).map (normalizeKey dn)).filter (fun k => !isBadTrailer k),
       match ((listElems v).map (normalizeKey dn)).getLast? with
       | some k => isBadTrailer k
       | none => false) :=
  setTrailers_list dn v

/-- `a,b` / `a ,b` / `a,,b` / ` a, b,` / `,a,  b , ,` announce the same two names -/
example : ([[97, 44, 98], [97, 32, 44, 98], [97, 44, 44, 98], [32, 97, 44, 32, 98, 44], [44, 97, 44, 32, 32, 98, 32, 44, 32, 44]].map
    (fun v => setTrailers false v)) = List.replicate 5 ([[65], [66]], false) := by decide +kernel

/-- `x, Host` is refused, `Host, x` announces `x` -/
example : setTrailers false [120, 44, 32, 72, 111, 115, 116] = ([[88]], true) ∧
    setTrailers false [72, 111, 115, 116, 44, 32, 120] = ([[88]], false) := by decide +kernel

/-- regression for `/repo` 117944e: `Trailer: a,<HTAB>b` announces `A` and `B` (HTAB around a list element is optional
whitespace). -/
theorem trailer_decl_htab_repaired :
    setTrailers false [97, 44, 9, 98] = ([[65], [66]], false) ∧ listElems [97, 44, 9, 98] = [[97], [98]] := by
  decide +kernel

/-- `POST /`, `Trailer: a`, `Trailer: b`, chunked, `1 x`, `0`, trailer section `a: 1`, `b: 2`: the two `Trailer` fields
combine (RFC 7230 §3.2.2) and the handler is handed `A: 1`, `B: 2` (regression for `/repo` 117944e). -/
theorem trailer_decl_two_fields_combine :
    (handled (serve {} .eof
      [80, 79, 83, 84, 32, 47, 32, 72, 84, 84, 80, 47, 49, 46, 49, 13, 10,
       84, 114, 97, 105, 108, 101, 114, 58, 32, 97, 13, 10, 84, 114, 97, 105, 108, 101, 114, 58, 32, 98, 13, 10,
       84, 114, 97, 110, 115, 102, 101, 114, 45, 69, 110, 99, 111, 100, 105, 110, 103, 58, 32, 99, 104, 117, 110, 107, 101, 100, 13, 10, 13, 10,
       49, 13, 10, 120, 13, 10, 48, 13, 10, 97, 58, 32, 49, 13, 10, 98, 58, 32, 50, 13, 10, 13, 10])).map (fun s => (s.body, s.trailers)) =
      [([120], [([65], [49]), ([66], [50])])] := by
  decide +kernel

/-- These streams are in the specification's language: the independent strict decoder accepts every stream of requests
with ANY well-formed trailer sections and reads it back as the readings `strictW` (trailer section in wire order, names as
sent, values `sval`) — so `trailer_view` / `serve_roundtrip_any_trailers` are statements about streams the strict decoder
accepts, and `expectedSeenT` is `specTrailerView` of the announced names over the strict reading's trailer section (names
normalised, forbidden names skipped, values in the handler's reading, equal to the strict ones modulo `canon`). -/
theorem spec_decodes_any_trailers (dn : Bool) (rs : List OReq) (hw : ∀ r ∈ rs, wfOReqT dn r = true) :
    Spec.Http.decodeAll (encAllO rs) = some (rs.map (fun r => toSpec (strictW r))) :=
  decodeAll_any rs fun r hr => wfOReqT_iff.mp (hw r hr)

set_option maxRecDepth 100000 in
example : (toSpec (strictW exAnyTrailers)).trailers =
    [([97], [49]), ([120, 45, 117], [117]), ([65], [50]), ([72, 111, 115, 116], [104]), ([65], [51, 32, 52])] ∧
    (toSpec (strictW exAnyTrailers)).body = [97, 98, 99] := by decide +kernel

/-- Model refines specification on every stream of requests with ANY well-formed trailer sections: the strict decoder
accepts the stream, and method, target and body of what the handler is handed are, request by request, those of the
requests to be served. -/
theorem serve_refines_spec_any_trailers (cfg : Cfg) (e : End) (rs : List OReq)
    (hw : ∀ r ∈ rs, wfOReqT cfg.disableNorm r = true ∧ withinLimits cfg (seenW r) = true) :
    Spec.Http.decodeAll (encAllO rs) = some (rs.map (fun r => toSpec (strictW r))) ∧
    (handled (serve cfg e (encAllO rs))).map (fun s => (s.head.method, s.head.uri, s.body)) =
      (servedBy cfg.disableKeepalive (fun r => closes (seenW r)) rs).map
        (fun r => ((toSpec (strictW r)).method, (toSpec (strictW r)).target, (toSpec (strictW r)).body)) :=
  ⟨decodeAll_any rs (fun r hr => wfOReqT_iff.mp (hw r hr).1),
    serve_any_own cfg e rs fun r hr => ⟨wfOReqT_iff.mp (hw r hr).1, (hw r hr).2⟩⟩

end Hertz.Props.C01
