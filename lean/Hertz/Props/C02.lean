import Hertz.Proofs.Http1
import Hertz.Proofs.PrefixStable
import Hertz.Proofs.PrefixStableResp
import Hertz.Proofs.ScanEdit
import Hertz.Proofs.ScanEditN
import Hertz.Proofs.Drain
import Hertz.Gen.SkipRest
/-!
# C02 — message parsing does not depend on how bytes are split into reads

The loop model `Hertz.H1.serve` is a function of the *concatenated* inbound stream; the check runs
the real server on the same bytes under every two-way split, byte-wise delivery and random k-way
splits and compares each run with that single model answer, so any dependence of the
implementation on segmentation is a disagreement.

The real server parses the request head from whatever is buffered; on "need more" it reads more bytes
and parses again **from the start**.  That retry scheme is independent of segmentation iff parsing a
prefix either says "need more" or already gives the final answer.  Proved here, for all inputs:

* `header_block_end_stable`, `first_delimiter_stable`: the completeness pre-check and `bytes.IndexByte`
  results do not move when bytes are appended;
* `head_prefix_stable` (**the statement above**): if `parseReqHead dn b` is `ok (head, n)` or `bad`, then
  `parseReqHead dn (b ++ x)` is the same outcome — same head (method, uri, header list, framing, trailer
  names), same consumed count — for every `x`; `head_ok_prefix_stable` adds `n ≤ b.length` (what was consumed
  lies inside the bytes that had been received).  The buffer the scanner edits is the subject of the two sections
  on the in-place edits below;
* `retry_eq_whole`, `retry_eq_whole_segments`: "parse `a`; if need-more parse `a ++ b`" equals "parse `a ++ b`",
  and the same for any number of segments (`retryParse`);
* `needMore_after_precheck_never_ok`: the only way the header scanner itself (after the completeness pre-check
  passed) can ask for more is a line without a colon before the blank line, and then no extension is ever
  accepted — so the in-place edits the real scanner has made to the buffer by that time (key normalisation,
  obs-fold compaction; `ScanEdit.reqParseE`) can never reach a handler;
* `body_prefix_stable`: `continueReadBody` (fixed length / chunked + trailers / no body): if the read
  completes on `s` while the stream merely stalls after `s`, then on every `s ++ x` and under either way the
  stream can end the same head, body, trailers are delivered and exactly `x` more is left;
  `chunked_body_prefix_stable`, `chunk_size_prefix_stable`, `fixed_body_prefix_stable`,
  `trailer_prefix_stable` are the same for the parts, `body_tooLarge_prefix_stable` for the 413 verdict;
* `served_prefix_stable` (loop level): everything the loop has emitted on the bytes received so far, except
  possibly one final error response / hand-over marker, is a prefix of what it emits on any extension.

False, kept as `…_fails_at` + partial: "every body-reader *error* other than eof/timeout is
prefix stable" — `body_error_prefix_stable_fails_at`: the chunk-size line `5` cut before its `\r` is `bad`
("cannot read '\r' char" is a public 400 error whatever the cause), while `5\r\nhello\r\n0\r\n` is a body.
This is not a segmentation dependence of the server: the body reader is not a retry parser, it blocks on the
connection (C13) and the error only arises when the stream *ends* there (`End`); it means the model's `.bad`
does not tell "malformed" from "cut short", so error stability is stated for `tooLarge` only.

* client side (`RespRead`): `resp_head_prefix_stable` (the response-head parser, which has no pre-check: a `kv`
  answer of the scanner is either stable or its obs-fold look-ahead ran dry, and then the rest has no line feed
  and the next call says "need more"), `client_read_segmentation_invariant` (the `resp.ReadHeader` retry loop
  over any segmentation equals one parse of the concatenation), `client_response_prefix_stable` (a whole framed
  response read to its end is read identically from every extension).

TODO-OPEN: nothing of the prefix-stability statements remains open at the level of the models (request and response
side).  Not claimed:
(a) error verdicts of the body readers other than `tooLarge` (see `body_error_prefix_stable_fails_at`);
(b) unframed ("read until close") responses, which by definition depend on what follows;
(c) what the in-place buffer edits leave on the REQUEST side (`ScanEdit.reqParseE`; `needMore_after_precheck_never_ok`
shows they cannot matter there; response and trailer side: the two sections on the edits, with their own TODO-OPEN);
(d) the step from the model to the Go code stays the sampled correspondence check (every two-way split, byte-wise and
random k-way delivery).  The last section is the drain of an unread chunk in streaming mode.
-/
namespace Hertz.Props.C02
open Hertz Hertz.H1

/-- decidable equality of parser results, for the concrete examples below only -/
local instance decEqExcept {ε α : Type} [DecidableEq ε] [DecidableEq α] : DecidableEq (Except ε α)
  | .ok a, .ok b => if h : a = b then isTrue (by rw [h]) else isFalse (fun h' => h (Except.ok.inj h'))
  | .error a, .error b => if h : a = b then isTrue (by rw [h]) else isFalse (fun h' => h (Except.error.inj h'))
  | .ok _, .error _ => isFalse (fun h => by cases h)
  | .error _, .ok _ => isFalse (fun h => by cases h)

theorem header_block_end_stable (b x : Bytes) (n : Nat) (h : rawHeadersLen b = some n) :
    rawHeadersLen (b ++ x) = some n := rawHeadersLen_append b x n h

theorem first_delimiter_stable (c : UInt8) (b x : Bytes) (n : Nat) (h : indexByte c b = some n) :
    indexByte c (b ++ x) = some n := indexByte_append c b x n h

example : rawHeadersLen [72, 58, 32, 97, 13, 10, 13, 10] = some 8 := by decide

/-! ## request head -/

/-- `GET / HTTP/1.1\r\nA: b\r\n c\r\nHost: a\r\n\r\n` (with an obs-fold continuation line) -/
def exReq : Bytes :=
  [71,69,84,32,47,32,72,84,84,80,47,49,46,49,13,10, 65,58,32,98,13,10, 32,99,13,10, 72,111,115,116,58,32,97,13,10, 13,10]
/-- `GET / HTTP/1.1\r\nA b\r\n\r\n` — a header line without a colon -/
def exNoColon : Bytes := [71,69,84,32,47,32,72,84,84,80,47,49,46,49,13,10, 65,32,98,13,10, 13,10]

/-- **Prefix stability of `req.parse`.** Whatever the parser answers on the bytes received so far — a
complete head with its consumed count, or a rejection — it answers on every extension of those bytes, unless
the answer was "need more". -/
theorem head_prefix_stable (dn : Bool) (b x : Bytes) (r : Except HeadErr (ReqHead × Nat))
    (h : parseReqHead dn b = r) (hr : r ≠ .error .needMore) : parseReqHead dn (b ++ x) = r :=
  parseReqHead_append dn b x r h hr

theorem head_ok_prefix_stable (dn : Bool) (b x : Bytes) (hd : ReqHead) (n : Nat)
    (h : parseReqHead dn b = .ok (hd, n)) : parseReqHead dn (b ++ x) = .ok (hd, n) ∧ n ≤ b.length :=
  ⟨parseReqHead_append dn b x _ h (by simp), parseReqHead_le dn b hd n h⟩

theorem head_bad_prefix_stable (dn : Bool) (b x : Bytes) (h : parseReqHead dn b = .error .bad) :
    parseReqHead dn (b ++ x) = .error .bad := parseReqHead_append dn b x _ h (by simp)

set_option maxRecDepth 100000 in
example : parseReqHead false exReq =
    .ok ({ method := [71,69,84], uri := [47], host := [97], h := [([65], [98,32,99])] }, 37) := by decide +kernel
set_option maxRecDepth 100000 in
example : parseReqHead false [71,69,84,13,10,13,10] = .error .bad := by decide +kernel
set_option maxRecDepth 100000 in
/-- the hypothesis `≠ needMore` excludes something: a proper prefix of a request -/
example : parseReqHead false (exReq.take 30) = .error .needMore := by decide +kernel

/-- **Retrying equals parsing the whole.** The server's scheme "parse what is buffered; on need-more read on
and parse again from the start" gives, for every stream and every split `a ++ b` of it, the answer of one
parse of the whole. -/
theorem retry_eq_whole (dn : Bool) (a b : Bytes) :
    (match parseReqHead dn a with
     | .error .needMore => parseReqHead dn (a ++ b)
     | r => r) = parseReqHead dn (a ++ b) := by
  split
  · rfl
  · rename_i r hr
    exact (parseReqHead_append dn a b _ rfl (fun h => hr h)).symm

/-- the same for any number of reads: `retryParse` takes the segments into the buffer one at a time -/
theorem retry_eq_whole_segments (dn : Bool) (buf : Bytes) (segs : List Bytes) :
    retryParse dn buf segs = parseReqHead dn (buf ++ segs.flatten) := retryParse_eq dn segs buf

set_option maxRecDepth 100000 in
example : retryParse false [] [exReq.take 5, (exReq.drop 5).take 20, exReq.drop 25, [71, 69]] =
    .ok ({ method := [71,69,84], uri := [47], host := [97], h := [([65], [98,32,99])] }, 37) := by decide +kernel

/-- After the completeness pre-check has passed (`rawHeadersLen = some _`), a need-more answer of `req.parse` is followed
by an accepted head on no extension (the scanner then asks for more only on a line without a colon:
`scanNext_needMore_append`).  So buffer edits made by the real scanner before that point never reach a handler. -/
theorem needMore_after_precheck_never_ok (dn : Bool) (b x : Bytes) (hd0 : ReqHead) (m k : Nat)
    (h1 : parseFirstLine b = .ok (hd0, m)) (h2 : rawHeadersLen (b.drop m) = some k)
    (h3 : parseReqHead dn b = .error .needMore) (hd : ReqHead) (n : Nat) :
    parseReqHead dn (b ++ x) ≠ .ok (hd, n) :=
  parseReqHead_needMore_never_ok dn b x hd0 m k h1 h2 h3 hd n

set_option maxRecDepth 100000 in
example : (∃ hd0 m k, parseFirstLine exNoColon = .ok (hd0, m) ∧ rawHeadersLen (exNoColon.drop m) = some k) ∧
    parseReqHead false exNoColon = .error .needMore :=
  ⟨⟨{ method := [71,69,84], uri := [47] }, 16, 7, by decide +kernel, by decide +kernel⟩, by decide +kernel⟩

/-! ## body -/

/-- `3\r\nabc\r\n0\r\nX: y\r\n\r\n` -/
def exChunked : Bytes := [51,13,10,97,98,99,13,10,48,13,10,88,58,32,121,13,10,13,10]

/-- **`req.ContinueReadBody`**: a body read that completes on `s` (with the stream merely stalling after `s`)
gives the same head, body and trailers on every extension `s ++ x` under either way the stream can end, and
leaves exactly `x` more. -/
theorem body_prefix_stable (cfg : Cfg) (e : End) (hd : ReqHead) (s x : Bytes)
    (hd' : ReqHead) (body : Bytes) (tr : List (Bytes × Bytes)) (rest : Bytes)
    (h : continueReadBody cfg .stall hd s = .ok hd' body tr rest) :
    continueReadBody cfg e hd (s ++ x) = .ok hd' body tr (rest ++ x) :=
  continueReadBody_append cfg e hd s x hd' body tr rest h

set_option maxRecDepth 100000 in
example : (match continueReadBody {} .stall { cl := -1, trailer := [[88]] } exChunked with
    | .ok _ body tr rest => body == [97,98,99] && tr == [([88],[121])] && rest == []
    | .err _ => false) = true := by decide +kernel
set_option maxRecDepth 100000 in
example : (match continueReadBody {} .stall { cl := 3 } [97,98,99,100] with
    | .ok _ body _ rest => body == [97,98,99] && rest == [100]
    | .err _ => false) = true := by decide +kernel

theorem chunked_body_prefix_stable (e e' : End) (maxBody fuel fuel' : Nat) (dst s x body rest : Bytes)
    (h : readBodyChunked e maxBody fuel dst s = .ok (body, rest)) (hf : fuel ≤ fuel') :
    readBodyChunked e' maxBody fuel' dst (s ++ x) = .ok (body, rest ++ x) :=
  readBodyChunked_append e e' maxBody x fuel fuel' dst s body rest h hf

theorem chunk_size_prefix_stable (e e' : End) (s x : Bytes) (n : Nat) (rest : Bytes)
    (h : parseChunkSize e s = .ok (n, rest)) : parseChunkSize e' (s ++ x) = .ok (n, rest ++ x) :=
  parseChunkSize_append e e' s x n rest h

theorem fixed_body_prefix_stable (e e' : End) (n : Nat) (s x b rest : Bytes) (h : takeBody e n s = .ok (b, rest)) :
    takeBody e' n (s ++ x) = .ok (b, rest ++ x) := takeBody_append e e' n s x b rest h

theorem trailer_prefix_stable (dn : Bool) (tr : List (Bytes × Option Bytes)) (buf x : Bytes)
    (p : List (Bytes × Option Bytes) × Nat) (h : parseTrailer dn tr buf = .ok p) :
    parseTrailer dn tr (buf ++ x) = .ok p ∧ p.2 ≤ buf.length := parseTrailer_append dn tr buf x p h

theorem body_tooLarge_prefix_stable (e e' : End) (maxBody fuel fuel' : Nat) (dst s x : Bytes)
    (h : readBodyChunked e maxBody fuel dst s = .error .tooLarge) (hf : fuel ≤ fuel') :
    readBodyChunked e' maxBody fuel' dst (s ++ x) = .error .tooLarge :=
  readBodyChunked_tooLarge_append e e' maxBody x fuel fuel' dst s h hf

set_option maxRecDepth 100000 in
example : readBodyChunked .stall 0 20 [] exChunked = .ok ([97,98,99], [88,58,32,121,13,10,13,10]) := by
  decide +kernel
set_option maxRecDepth 100000 in
example : readBodyChunked .stall 2 20 [] exChunked = .error .tooLarge := by decide +kernel
set_option maxRecDepth 100000 in
example : parseTrailer false [([88], none)] [88,58,32,121,13,10,13,10] = .ok ([([88], some [121])], 8) := by
  decide +kernel

/-- the full statement for errors: every verdict of the chunked reader other than "the wire ended" survives
appended bytes -/
def BodyErrorPrefixStable : Prop :=
  ∀ (e : End) (maxBody fuel : Nat) (s x : Bytes) (err : RdErr),
    readBodyChunked e maxBody fuel [] s = .error err →
    err ≠ .eof → err ≠ .timeout → err ≠ .unexpectedEOF → err ≠ .hzTimeout →
    readBodyChunked e maxBody (fuel + x.length) [] (s ++ x) = .error err

/-- FALSE of the model: `5` (chunk-size line cut before `\r`) is `bad`; `5\r\nhello\r\n0\r\n` is a body. -/
theorem body_error_prefix_stable_fails_at : ¬ BodyErrorPrefixStable := by
  intro h
  have h1 : readBodyChunked .stall 0 2 [] [53] = .error .bad := by decide +kernel
  have h2 := h .stall 0 2 [53] [13,10,104,101,108,108,111,13,10,48,13,10] .bad h1
    (by decide) (by decide) (by decide) (by decide)
  revert h2
  decide +kernel

/-- partial: see `chunked_body_prefix_stable` (every completed read) and `body_tooLarge_prefix_stable`. -/
theorem body_error_prefix_stable_partial (e e' : End) (maxBody fuel : Nat) (s x : Bytes)
    (h : readBodyChunked e maxBody fuel [] s = .error .tooLarge) :
    readBodyChunked e' maxBody (fuel + x.length) [] (s ++ x) = .error .tooLarge :=
  body_tooLarge_prefix_stable e e' maxBody fuel _ [] s x h (by omega)

/-! ## the loop -/

/-- **Loop level.** Everything the server has emitted on the bytes `s` received so far (while it merely waits
for more) — except possibly one final closing error response (status ≠ 200) or the hand-over marker — is a
prefix of what it emits on every extension `s ++ x`, however that longer stream ends.  Handled requests and
their responses are never revised by later bytes. -/
theorem served_prefix_stable (cfg : Cfg) (e : End) (s x : Bytes) :
    ∃ pre tail more, serve cfg .stall s = pre ++ tail ∧
      (tail = [] ∨ tail = [.unmodelled] ∨ ∃ st, st ≠ 200 ∧ tail = [.resp st true]) ∧
      serve cfg e (s ++ x) = pre ++ more := serveLoop_extension cfg e x _ _ true s (by simp)

set_option maxRecDepth 100000 in
/-- one complete request followed by the first bytes of the next: the request is handled, the 408 for the
incomplete one is the replaceable tail -/
example : serve {} .stall (exReq ++ [71, 69, 84, 32]) =
    [.req { head := { method := [71,69,84], uri := [47], host := [97], h := [([65], [98,32,99])] },
            body := [], trailers := [] }, .resp 200 false] ++ [.resp 408 true] := by decide +kernel

/-! ## client side: the response reader -/

/-- `HTTP/1.1 200 OK\r\nContent-Length: 2\r\n\r\nhi` -/
def exResp : Bytes :=
  [72,84,84,80,47,49,46,49,32,50,48,48,32,79,75,13,10, 67,111,110,116,101,110,116,45,76,101,110,103,116,104,58,32,50,13,10,
   13,10, 104,105]

/-- **Prefix stability of the client's `resp.parse`** (which has no completeness pre-check): an answer other
than "need more" on the bytes received so far is the answer on every extension. -/
theorem resp_head_prefix_stable (dn : Bool) (b x : Bytes) (r : Except HeadErr (RespRead.RespHead × Nat))
    (h : RespRead.parseRespHead dn b = r) (hr : r ≠ .error .needMore) : RespRead.parseRespHead dn (b ++ x) = r :=
  RespRead.parseRespHead_append dn b x r h hr

theorem resp_head_ok_prefix_stable (dn : Bool) (b x : Bytes) (hd : RespRead.RespHead) (n : Nat)
    (h : RespRead.parseRespHead dn b = .ok (hd, n)) :
    RespRead.parseRespHead dn (b ++ x) = .ok (hd, n) ∧ n ≤ b.length :=
  ⟨RespRead.parseRespHead_append dn b x _ h (by simp), RespRead.parseRespHead_le dn b hd n h⟩

/-- **The client's `resp.ReadHeader` retry loop does not depend on segmentation**: taking the segments into
the buffer one at a time and parsing again from the start on every "need more" gives the answer of one parse
of the concatenation — the buffer taken as it arrived; with the scanner's edits: `client_read_with_edits_segmentation_invariant`. -/
theorem client_read_segmentation_invariant (dn : Bool) (buf : Bytes) (segs : List Bytes) :
    RespRead.retryParse dn buf segs = RespRead.parseRespHead dn (buf ++ segs.flatten) :=
  RespRead.retryParse_eq dn segs buf

/-- **Whole response.** A framed response (any interim heads, head, fixed-length or chunked body,
trailers) read completely from `s` while the stream merely stalls after `s` is read identically from every
extension `s ++ x`, under either way the stream can end, leaving exactly `x` more.  (A response without
framing is "read until close" and is excluded by `Framed`.) -/
theorem client_response_prefix_stable (dn : Bool) (maxBody : Nat) (e : End) (s x : Bytes) (res : RespRead.Result)
    (hf : ∀ hd s1, RespRead.readHeaders dn .stall s = .ok (hd, s1) → RespRead.Framed hd)
    (h : RespRead.readResponse dn maxBody .stall s = .ok res) :
    RespRead.readResponse dn maxBody e (s ++ x) = .ok { res with rest := res.rest ++ x } :=
  RespRead.readResponse_append dn maxBody e s x res hf h

set_option maxRecDepth 100000 in
example : RespRead.parseRespHead false exResp = .ok ({ status := 200, cl := 2, clBytes := [50] }, 38) := by
  decide +kernel
set_option maxRecDepth 100000 in
example : RespRead.retryParse false [] [exResp.take 11, (exResp.drop 11).take 9, exResp.drop 20] =
    .ok ({ status := 200, cl := 2, clBytes := [50] }, 38) := by decide +kernel
set_option maxRecDepth 100000 in
example : RespRead.readResponse false 0 .stall exResp =
      .ok { head := { status := 200, cl := 2, clBytes := [50] }, body := [104,105], trailers := [], rest := [] } ∧
    RespRead.readHeaders false .stall exResp = .ok ({ status := 200, cl := 2, clBytes := [50] }, [104,105]) ∧
    RespRead.Framed { status := 200, cl := 2, clBytes := [50] } :=
  ⟨by decide +kernel, by decide +kernel, Or.inr (by decide)⟩

/-! ## the in-place edits of the header scanner, without its need-more rule (`Model/Http1/ScanEdit`, `Proofs/ScanEdit`)

`ScanEdit.scanNextE : buffer → (answer, buffer')` is `HeaderScanner.Next` with the writes it performs (key canonicalised
where it lies; an obs-folded value compacted, right aligned in its region, blanks in front) but WITHOUT its need-more answer
for a folded value that reaches the end of the buffer.  The scanner with that rule — the code, and what the correspondence
check compares buffer for buffer (ops `scanblk`, `hdrbuf`) — is `scanNextN` of the next section and is built on this one.
`scanBlock` is the loop `for s.Next() {}`, `retryScanE` the scheme of `resp.ReadHeader` / `ext.ReadTrailer`: "scan buf₀; on
need-more scan (edit buf₀ ++ more)".

Proved for all buffers: the answers are the pure scanner's, which the theorems above are about; the edits are confined to
the consumed bytes — length kept, everything behind the consumed bytes and every byte appended later untouched; scanning the
edited buffer again gives the same fields, stop and consumed count and leaves the buffer alone (so the second pass of
`ext.parseTrailer` changes nothing).

**False without the rule** — `rescan_without_needmore_rule_fails_at`: "for every segmentation the retry scheme WITH the
edits returns the reading of one scan of the whole block".  Witness `X: a \r\n \r\n` ‖ ` c\r\n\r\n`: the value is
`a   c` (three blanks) in one scan and `a  c` after the cut.  A value whose obs-fold look-ahead ran out of buffered
bytes is compacted all the same; the compaction drops the blanks at the END of the value so far, and when the value
goes on they are missing.  That is what the rule is for.

The `_partial` statements, for all buffers and all segmentations: if no stage of the retry compacted a value whose look-ahead
ended at the end of the buffer (`ScanEdit.anyDryFold` / `retryClean`), the retry scheme WITH the edits reads what one scan
of the whole reads.  The same then holds of the header objects, of `resp.parse` (`parseFirstLine` looks only at the bytes
it consumes, which no edit touches: `respFirstLine_local`) with the retry loop of `resp.ReadHeader`, and of
`ext.parseTrailer` on the whole peeked buffer (optional `0\r\n` in front, two passes).

TODO-OPEN: the request side needs no rescan statement (`needMore_after_precheck_never_ok`: nothing is scanned, hence
written, before the completeness pre-check passed — `reqParseE`); a multi-read version of the trailer theorem (like
`client_read_without_needmore_rule_partial`) is not stated.
-/
section Edits
open Hertz.H1.ScanEdit

/-- The answer of the editing scanner is the answer of the pure scanner `scanNext` — the function all theorems
above (prefix stability, retry = whole) are about. -/
theorem edit_answer_is_scan (dn : Bool) (B : Bytes) : (scanNextE dn B).1 = scanNext dn B := scanNextE_fst dn B

theorem edit_block_reading_is_scan (dn : Bool) (B : Bytes) :
    (scanBlock dn B).reading = readBlock dn (B.length + 1) B := scanBlockE_reading dn _ B

/-- **One call of `Next`.** Either it hands out no field and has written nothing, or it hands out a field, consumed
`m` bytes, and the buffer afterwards is `m` rewritten bytes followed by the unconsumed rest exactly as it was. -/
theorem edit_step_local (dn : Bool) (B : Bytes) :
    (scanNextE dn B = (scanNext dn B, B) ∧ ∀ k v r m, scanNext dn B ≠ .kv k v r m) ∨
    (∃ k v rest m pre, scanNextE dn B = (.kv k v rest m, pre ++ rest) ∧ scanNext dn B = .kv k v rest m ∧
      pre.length = m ∧ B.drop m = rest ∧ m + rest.length = B.length) := scanNextE_step dn B

/-- **The edits of a scan are local**: the buffer keeps its length, and behind the bytes the scan consumed it is
unchanged — whatever the buffer holds there (body, next message) and however the scan stopped. -/
theorem edit_prefix_local (dn : Bool) (B : Bytes) :
    (scanBlock dn B).buf.length = B.length ∧ (scanBlock dn B).consumed ≤ B.length ∧
      (scanBlock dn B).buf.drop (scanBlock dn B).consumed = B.drop (scanBlock dn B).consumed :=
  scanBlockE_local dn _ B

/-- what the retry loop hands to the parser after a need-more — the edited buffer followed by the bytes read since —
agrees with the stream behind the consumed bytes: the appended bytes are untouched -/
theorem edit_appended_untouched (dn : Bool) (B more : Bytes) :
    ((scanBlock dn B).buf ++ more).drop (scanBlock dn B).consumed = (B ++ more).drop (scanBlock dn B).consumed := by
  obtain ⟨h1, h2, h3⟩ := scanBlockE_local dn (B.length + 1) B
  unfold scanBlock
  rw [List.drop_append_of_le_length (by omega), List.drop_append_of_le_length h2, h3]

/-- **`edit_idempotent` and `edit_preserves_reading` in one**: scanning the buffer a scan has left behind hands out
the same fields, stops the same way after the same number of bytes, and leaves the buffer as it is — for every
buffer, whatever it holds and however the first scan stopped.  (This is also what `ext.parseTrailer` relies on: its
second pass over the section reads what the first, checking pass read.) -/
theorem edit_idempotent (dn : Bool) (B : Bytes) : scanBlock dn (scanBlock dn B).buf = scanBlock dn B :=
  scanBlock_idem dn B

theorem edit_preserves_reading (dn : Bool) (B : Bytes) :
    (scanBlock dn (editBlock dn B)).reading = (scanBlock dn B).reading ∧ editBlock dn (editBlock dn B) = editBlock dn B := by
  unfold editBlock; rw [edit_idempotent]; exact ⟨rfl, rfl⟩

/-- one call of `Next` on what a call of `Next` has left behind: same answer, nothing new written -/
theorem edit_step_idempotent (dn : Bool) (B : Bytes) : scanNextE dn (scanNextE dn B).2 = scanNextE dn B := by
  rcases scanNextE_step_rescannable dn B with ⟨hs, _⟩ | ⟨k, v, rest, m, pre, hs, _, _, _, h0, _, hI⟩
  · rw [hs]; exact hs
  · rw [hs]; exact hI rest h0

/-- `utils.NormalizeHeaderKey` on its own output changes nothing (the key part of the edit) -/
theorem key_edit_idempotent (dn : Bool) (k : Bytes) : normalizeKey dn (normalizeKey dn k) = normalizeKey dn k :=
  normalizeKey_idem dn k

/-- the trailer reader's two passes: the second pass writes nothing the first has not written -/
theorem trailer_second_pass_writes_nothing (dn : Bool) (B : Bytes) : editTrailer dn B = editBlock dn B :=
  editTrailer_eq dn B

set_option maxRecDepth 100000 in
/-- non-vacuity: a block whose scan rewrites key and value; the second scan reads the same and leaves the bytes -/
example : (scanBlock false [88,58,32,97,13,10,32,98,13,10,13,10,97,98,99,100,101,102,103,104]).buf ≠ [88,58,32,97,13,10,32,98,13,10,13,10,97,98,99,100,101,102,103,104] ∧
    scanBlock false (scanBlock false [88,58,32,97,13,10,32,98,13,10,13,10,97,98,99,100,101,102,103,104]).buf =
      scanBlock false [88,58,32,97,13,10,32,98,13,10,13,10,97,98,99,100,101,102,103,104] := by decide +kernel

/-- `X-Note: first\r\n second\r\n` -/
def exNoteA : Bytes := [88,45,78,111,116,101,58,32,102,105,114,115,116,13,10,32,115,101,99,111,110,100,13,10]
/-- `\tthird\r\n\r\nabcdefgh` -/
def exNoteB : Bytes := [9,116,104,105,114,100,13,10,13,10,97,98,99,100,101,102,103,104]
/-- `X-Fold: a\r\n \r\r\n` -/
def exFoldA : Bytes := [88,45,70,111,108,100,58,32,97,13,10,32,13,13,10]
/-- `X: a\r\n b\r\n\r\nabcdefgh` -/
def exFoldBody : Bytes := [88,58,32,97,13,10,32,98,13,10,13,10,97,98,99,100,101,102,103,104]
/-- `X: a \r\n \r\n` -/
def exDryA : Bytes := [88,58,32,97,32,13,10,32,13,10]
/-- ` c\r\n\r\n` -/
def exDryB : Bytes := [32,99,13,10,13,10]

set_option maxRecDepth 100000 in
/-- non-vacuity of `edit_prefix_local` / `edit_step_local`: a scan that rewrites the key and compacts a folded value,
with a body behind the block -/
example : scanBlock false exFoldBody =
    { fields := [([88], [97,32,98])], stop := .fin 12, consumed := 10,
      buf := [88,58,32,32,32,97,32,98,13,10,13,10,97,98,99,100,101,102,103,104] } := by decide +kernel
set_option maxRecDepth 100000 in
example : (scanNextE false [120,45,97,58,32,98,13,10,13,10]).2 = [88,45,65,58,32,98,13,10,13,10] := by decide +kernel

/-- regression for /repo 29d098b: `X-Note: first\r\n second\r\n\tthird` cut after line 2 — the first scan
compacts `first second`, the rescan of the edited buffer plus the rest reads what one scan of the whole reads -/
theorem rescan_note_cut_after_line2 :
    (retryScanE false exNoteA [exNoteB]).reading = (scanBlock false (exNoteA ++ exNoteB)).reading ∧
    (scanBlock false exNoteA).stop = .needMore ∧ (scanBlock false exNoteA).buf ≠ exNoteA := by decide +kernel

/-- regression for /repo 4b3fd87: `X-Fold: a\r\n \r\r\n` (continuation line of blanks only), then the blank line -/
theorem rescan_fold_blank_only :
    (retryScanE false exFoldA [[13,10]]).reading = (scanBlock false (exFoldA ++ [13,10])).reading ∧
    (retryScanE false exFoldA [[13,10]]).fields = [([88,45,70,111,108,100], [97])] := by decide +kernel

/-- regression for /repo 28ce34e: a folded header, the buffer ending inside the body — the body bytes
are where they were -/
theorem fold_then_body_untouched (k : Nat) (hk : 12 ≤ k) :
    ((scanBlock false (exFoldBody.take k)).buf).drop 12 = (exFoldBody.take k).drop 12 := by
  have h20 : ∀ j, j ≤ 20 → j < 12 ∨ ((scanBlock false (exFoldBody.take j)).buf).drop 12 = (exFoldBody.take j).drop 12 := by
    decide +kernel
  by_cases h : k ≤ 20
  · rcases h20 k h with h' | h'
    · omega
    · exact h'
  · have : exFoldBody.take k = exFoldBody.take 20 := by
      rw [List.take_of_length_le (by decide : exFoldBody.length ≤ 20), List.take_of_length_le (by simp [exFoldBody]; omega)]
    rw [this]
    rcases h20 20 (by omega) with h' | h'
    · omega
    · exact h'

/-- the full statement: for every segmentation the retry scheme WITH the edits reads what one scan of the whole reads -/
def RescanAfterEditEqWhole : Prop :=
  ∀ (dn : Bool) (buf : Bytes) (segs : List Bytes),
    (retryScanE dn buf segs).reading = (scanBlock dn (buf ++ segs.flatten)).reading

/-- FALSE without the rule: `X: a \r\n \r\n` ‖ ` c\r\n\r\n` reads `a  c` after the cut and `a   c` whole. -/
theorem rescan_without_needmore_rule_fails_at : ¬ RescanAfterEditEqWhole := by
  intro h
  have h1 := h false exDryA [exDryB]
  revert h1
  decide +kernel

set_option maxRecDepth 100000 in
/-- the witness is inside the class the driver names: the first scan compacted a value whose look-ahead had run dry -/
example : anyDryFold false (exDryA.length + 1) exDryA = true ∧ (scanBlock false exDryA).stop = .needMore ∧
    (retryScanE false exDryA [exDryB]).fields = [([88], [97,32,32,99])] ∧
    (scanBlock false (exDryA ++ exDryB)).fields = [([88], [97,32,32,32,99])] := by decide +kernel

/-- **Partial: rescan after edit = whole, two reads.**  If the scan of what was buffered did not compact a value
whose obs-fold look-ahead ended at the end of the buffer, then scanning the EDITED buffer followed by the bytes read
since gives the reading of one scan of the whole — for every buffer, every continuation, normalising on or off. -/
theorem rescan_after_edit_eq_whole_partial (dn : Bool) (buf more : Bytes)
    (h : anyDryFold dn (buf.length + 1) buf = false) :
    (scanBlock dn ((scanBlock dn buf).buf ++ more)).reading = (scanBlock dn (buf ++ more)).reading := by
  rw [edit_block_reading_is_scan, edit_block_reading_is_scan]
  have hl : ((scanBlock dn buf).buf ++ more).length = (buf ++ more).length := by
    simp [(edit_prefix_local dn buf).1]
  rw [hl]
  exact rescan_partial dn _ buf more _ (Nat.le_refl _) (Nat.le_refl _) h

/-- **… and for every segmentation into any number of reads**: the retry scheme WITH the edits
(`retryScanE`: scan; on need-more append the next segment to the edited buffer and scan again) reads what one scan
of the concatenation reads, provided no stage compacted prematurely (`retryClean`). -/
theorem rescan_without_needmore_rule_segments_partial (dn : Bool) : ∀ (segs : List Bytes) (buf : Bytes),
    retryClean dn buf segs = true →
    (retryScanE dn buf segs).reading = (scanBlock dn (buf ++ segs.flatten)).reading
  | [], buf, _ => by simp [retryScanE]
  | seg :: segs, buf, h => by
    unfold retryScanE
    unfold retryClean at h
    simp only
    split
    · rename_i hstop
      simp only [hstop, Bool.and_eq_true, Bool.not_eq_true'] at h
      rw [rescan_without_needmore_rule_segments_partial dn segs _ h.2, List.append_assoc,
        rescan_after_edit_eq_whole_partial dn buf _ h.1]
      simp
    · rename_i hne
      rw [edit_block_reading_is_scan, edit_block_reading_is_scan]
      have hs : (readBlock dn (buf.length + 1) buf).2 ≠ .needMore := by
        rw [← edit_block_reading_is_scan]; exact fun h => hne h
      exact (readBlock_stable dn _ _ _ buf (by simp) hs).symm

set_option maxRecDepth 100000 in
/-- non-vacuity: `x-a: 1\r\nX-No` ‖ `te: first\r\n second\r\n` ‖ `\tthird\r\n\r\nabcdefgh` would compact prematurely at
the second stage; `x-a: 1\r\nX-No` ‖ the rest does not: the first scan hands out `X-A` (key rewritten in the buffer) and
asks for more, the rescan of the edited buffer plus the rest reads both fields -/
example : retryClean false ([120,45,97,58,32,49,13,10] ++ exNoteA.take 4) [exNoteA.drop 4 ++ exNoteB] = true ∧
    (scanBlock false ([120,45,97,58,32,49,13,10] ++ exNoteA.take 4)).stop = .needMore ∧
    (scanBlock false ([120,45,97,58,32,49,13,10] ++ exNoteA.take 4)).buf ≠ [120,45,97,58,32,49,13,10] ++ exNoteA.take 4 ∧
    (retryScanE false ([120,45,97,58,32,49,13,10] ++ exNoteA.take 4) [exNoteA.drop 4 ++ exNoteB]).fields =
      [([88,45,65], [49]),
       ([88,45,78,111,116,101], [102,105,114,115,116,32,115,101,99,111,110,100,32,116,104,105,114,100])] := by
  decide +kernel

set_option maxRecDepth 100000 in
/-- the hypothesis excludes something: the witness of `rescan_after_edit_eq_whole_fails_at` -/
example : retryClean false exDryA [exDryB] = false := by decide +kernel

/-! ### the header objects of the callers

`resp.parseHeaders` and `ext.parseTrailer` run `Next` in a loop and fold the fields into the header object; both loops
are functions of the block reading (`headersLoop_eq_fold`, `parseTrailerLoop_eq_fold`), so what holds for readings holds
for the objects. -/

/-- client, response head: the header object parsed from the EDITED header block is the one parsed from the original -/
theorem resp_headers_edit_preserved (dn : Bool) (hd : RespRead.RespHead) (B : Bytes) :
    RespRead.parseHeaders dn hd (editBlock dn B) = RespRead.parseHeaders dn hd B := by
  have hl : (editBlock dn B).length = B.length := (edit_prefix_local dn B).1
  unfold RespRead.parseHeaders
  rw [hl, RespRead.headersLoop_eq_fold, RespRead.headersLoop_eq_fold, readBlock_editBlock]

/-- client, response head, **rescan after edit with more bytes**: the header object parsed from the edited block
followed by the bytes read since is the one parsed from the whole — unless a value was compacted before it was complete -/
theorem resp_headers_rescan_partial (dn : Bool) (hd : RespRead.RespHead) (B more : Bytes)
    (h : anyDryFold dn (B.length + 1) B = false) :
    RespRead.parseHeaders dn hd (editBlock dn B ++ more) = RespRead.parseHeaders dn hd (B ++ more) := by
  have hl : (editBlock dn B ++ more).length = (B ++ more).length := by simp [(edit_prefix_local dn B).1, editBlock]
  unfold RespRead.parseHeaders
  rw [hl, RespRead.headersLoop_eq_fold, RespRead.headersLoop_eq_fold]
  unfold editBlock scanBlock
  rw [rescan_partial dn _ B more _ (Nat.le_refl _) (Nat.le_refl _) h]

/-- trailer section (client and server side; `parseTrailerLoop` is the loop of `ext.parseTrailer`), same two statements -/
theorem trailer_edit_preserved (dn : Bool) (tr : List (Bytes × Option Bytes)) (err : Bool) (hl : Nat) (B : Bytes) :
    parseTrailerLoop dn (B.length + 1) (editBlock dn B) tr err hl = parseTrailerLoop dn (B.length + 1) B tr err hl := by
  rw [parseTrailerLoop_eq_fold, parseTrailerLoop_eq_fold, readBlock_editBlock]

theorem trailer_rescan_partial (dn : Bool) (tr : List (Bytes × Option Bytes)) (err : Bool) (hl : Nat) (B more : Bytes)
    (h : anyDryFold dn (B.length + 1) B = false) :
    parseTrailerLoop dn ((B ++ more).length + 1) (editBlock dn B ++ more) tr err hl =
      parseTrailerLoop dn ((B ++ more).length + 1) (B ++ more) tr err hl := by
  rw [parseTrailerLoop_eq_fold, parseTrailerLoop_eq_fold]
  unfold editBlock scanBlock
  rw [rescan_partial dn _ B more _ (Nat.le_refl _) (Nat.le_refl _) h]

set_option maxRecDepth 100000 in
/-- non-vacuity: `x-a: 1\r\nX-No` ‖ `te: first\r\n second\r\n\tthird\r\n\r\n…` as a response header block -/
example : anyDryFold false 13 ([120,45,97,58,32,49,13,10] ++ exNoteA.take 4) = false ∧
    (match RespRead.parseHeaders false { status := 200 }
        (editBlock false ([120,45,97,58,32,49,13,10] ++ exNoteA.take 4) ++ (exNoteA.drop 4 ++ exNoteB)) with
     | .ok (hd, n) => hd.h.length == 3 && n == 42
     | .error _ => false) = true := by decide +kernel

/-- the answer of `resp.parse` with the buffer is the answer of the pure `parseRespHead` -/
theorem resp_parse_edit_answer (dn : Bool) (buf : Bytes) : (respParseE dn buf).1 = RespRead.parseRespHead dn buf := by
  unfold respParseE
  cases hfl : RespRead.parseFirstLine buf with
  | error e => simp [RespRead.parseRespHead, hfl, bind, Except.bind]
  | ok p => rfl

/-- **Client, whole response head (`resp.parse`), rescan after edit.**  `resp.tryRead` parses the peeked buffer; on
need-more the SAME buffer — first line untouched, header block edited — followed by the bytes read since is parsed
again.  That second parse answers what one parse of the concatenation answers (status line, every header field,
framing, consumed length, or the error), for every buffer and every continuation, provided the first scan did not
compact a value before it was complete. -/
theorem resp_head_rescan_partial (dn : Bool) (buf more : Bytes)
    (h : ∀ hd0 m, RespRead.parseFirstLine buf = .ok (hd0, m) →
      anyDryFold dn ((buf.drop m).length + 1) (buf.drop m) = false) :
    RespRead.parseRespHead dn ((respParseE dn buf).2 ++ more) = RespRead.parseRespHead dn (buf ++ more) := by
  unfold respParseE
  cases hfl : RespRead.parseFirstLine buf with
  | error e => rfl
  | ok p =>
    obtain ⟨hd0, m⟩ := p
    exact parseRespHead_block_congr dn buf more _ hd0 m hfl (edit_prefix_local dn _).1
      (resp_headers_rescan_partial dn hd0 (buf.drop m) more (h hd0 m hfl))

set_option maxRecDepth 100000 in
/-- non-vacuity: `HTTP/1.1 200 OK\r\nx-a: 1\r\nX-No` ‖ `te: first\r\n second\r\n\tthird\r\n\r\n…`: need-more with the key
`x-a` rewritten in the buffer, then the whole head -/
example :
    let buf : Bytes := [72,84,84,80,47,49,46,49,32,50,48,48,32,79,75,13,10] ++ [120,45,97,58,32,49,13,10] ++ exNoteA.take 4
    (respParseE false buf).1 = .error .needMore ∧ (respParseE false buf).2 ≠ buf ∧
    (match RespRead.parseRespHead false ((respParseE false buf).2 ++ (exNoteA.drop 4 ++ exNoteB)) with
     | .ok (hd, n) => hd.status == 200 && hd.h.length == 3 && n == 59
     | .error _ => false) = true := by decide +kernel

/-- **`resp.ReadHeader` over any number of reads, WITH the edits** — the counterpart of
`client_read_segmentation_invariant` for the real buffer: the retry loop that parses the edited buffer plus each new
read answers what one parse of the concatenation answers, provided no stage compacted a value before it was complete. -/
theorem client_read_without_needmore_rule_partial (dn : Bool) : ∀ (segs : List Bytes) (buf : Bytes),
    respRetryClean dn buf segs = true →
    respRetryE dn buf segs = RespRead.parseRespHead dn (buf ++ segs.flatten)
  | [], buf, _ => by simp [respRetryE, resp_parse_edit_answer]
  | seg :: segs, buf, h => by
    unfold respRetryE
    unfold respRetryClean at h
    rw [resp_parse_edit_answer] at h ⊢
    split
    · rename_i hr
      simp only [hr, Bool.and_eq_true] at h
      rw [client_read_without_needmore_rule_partial dn segs _ h.2, List.append_assoc]
      have hc : ∀ hd0 m, RespRead.parseFirstLine buf = .ok (hd0, m) →
          anyDryFold dn ((buf.drop m).length + 1) (buf.drop m) = false := by
        intro hd0 m hfl
        have := h.1
        simp only [respStageClean, hfl, Bool.not_eq_true'] at this
        exact this
      rw [resp_head_rescan_partial dn buf _ hc]
      simp
    · rename_i r hr
      simp only [List.flatten_cons]
      exact (RespRead.parseRespHead_append dn buf _ _ rfl (fun h => hr h)).symm

set_option maxRecDepth 100000 in
/-- non-vacuity: three reads; the first ends inside the name `X-Note` (the key `x-a` in front of it is rewritten in
the buffer, need-more), the second inside the first line of `X-Note` (need-more again), the third brings the rest -/
example :
    let buf : Bytes := [72,84,84,80,47,49,46,49,32,50,48,48,32,79,75,13,10] ++ [120,45,97,58,32,49,13,10] ++ exNoteA.take 4
    respRetryClean false buf [(exNoteA.drop 4).take 5, exNoteA.drop 9 ++ exNoteB] = true ∧
    (match respRetryE false buf [(exNoteA.drop 4).take 5, exNoteA.drop 9 ++ exNoteB] with
     | .ok (hd, n) => hd.status == 200 && hd.h.length == 3 && n == 59
     | .error _ => false) = true := by decide +kernel

/-- **`ext.parseTrailer` on the whole peeked buffer (client and server side), rescan after edit.**  With the optional
repeated `0\r\n` line in front, the two passes of one call, and the retry of `ext.ReadTrailer`: parsing the EDITED buffer
followed by the bytes read since answers what one parse of the concatenation answers — the filled trailer values,
the consumed length, or the error — provided the scan of the section did not compact a value before it was complete. -/
theorem trailer_parse_rescan_partial (dn : Bool) (tr : List (Bytes × Option Bytes)) (buf more : Bytes)
    (hc : anyDryFold dn ((trailerSection buf).length + 1) (trailerSection buf) = false) :
    parseTrailer dn tr ((trailerParseE dn tr buf).2 ++ more) = parseTrailer dn tr (buf ++ more) :=
  trailerParse_rescan dn tr buf more hc

set_option maxRecDepth 100000 in
/-- non-vacuity: `0\r\nx-a: 1\r\nX-No` ‖ `te: first\r\n second\r\n\tthird\r\n\r\n` with the trailer `X-A` announced -/
example :
    let buf : Bytes := [48,13,10] ++ [120,45,97,58,32,49,13,10] ++ exNoteA.take 4
    anyDryFold false ((trailerSection buf).length + 1) (trailerSection buf) = false ∧
    (match (trailerParseE false [([88,45,65], none)] buf).1 with | .error .needMore => true | _ => false) = true ∧
    (trailerParseE false [([88,45,65], none)] buf).2 ≠ buf ∧
    (match parseTrailer false [([88,45,65], none)]
        ((trailerParseE false [([88,45,65], none)] buf).2 ++ (exNoteA.drop 4 ++ exNoteB.take 10)) with
     | .ok (t, n) => t == [([88,45,65], some [49])] && n == 45
     | .error _ => false) = true := by decide +kernel

end Edits

/-! ## the in-place edits of the header scanner with its need-more rule (`scanNextN`, `scanBlockN`, `respParseN`, `trailerParseN`)

A folded value whose look-ahead ran out of buffered bytes is not handed out and not compacted; `Next` answers need-more
(the key is rewritten by then, `HLen` advanced).  With the rule the hypotheses of the `_partial` theorems above go, for the
block reading, `resp.parseHeaders`, the loop of `ext.parseTrailer` and `resp.parse`.  What these theorems take from the
scanner is the BUFFER it leaves (`editBlockN`); the answers are the pure readers' (`readBlock`, `parseRespHead`: `retryReadN`
and `respParseN` are defined so — a block that ends inside a fold is need-more with and without the rule).
TODO-OPEN: `trailerParseN` on the whole peeked buffer (the counterpart of `trailer_parse_rescan_partial`); the reading
`scanBlockN` itself hands out against `readBlock` (they differ in the fields of a need-more scan), hence `retryScanN` for all
inputs. -/
section EditsWithRule
open Hertz.H1.ScanEdit

/-- **Rescan after edit = whole (two reads), unconditionally.**  What the scanner left in the buffer, followed by the
bytes read since, reads (fields, stop, header length) as one scan of the whole — for every buffer and continuation. -/
theorem rescan_after_edit_eq_whole (dn : Bool) (buf more : Bytes) :
    readBlock dn ((buf ++ more).length + 1) (editBlockN dn buf ++ more) =
      readBlock dn ((buf ++ more).length + 1) (buf ++ more) :=
  rescanN dn _ buf more _ (Nat.le_refl _) (Nat.le_refl _)

/-- **… for every segmentation into any number of reads** (`retryReadN`: the pure reading says when to read on, the scanner
leaves the buffer). -/
theorem rescan_after_edit_eq_whole_segments (dn : Bool) : ∀ (segs : List Bytes) (buf : Bytes),
    retryReadN dn buf segs = readBlock dn ((buf ++ segs.flatten).length + 1) (buf ++ segs.flatten)
  | [], buf => by simp [retryReadN]
  | seg :: segs, buf => by
    unfold retryReadN
    split
    · rw [rescan_after_edit_eq_whole_segments dn segs _, List.append_assoc]
      have hl : (editBlockN dn buf ++ (seg ++ segs.flatten)).length = (buf ++ (seg ++ segs.flatten)).length := by
        simp [editBlockN_len]
      rw [hl, rescan_after_edit_eq_whole]
      simp
    · rename_i hne
      exact (readBlock_stable dn _ _ _ buf (by simp) (fun h => hne h)).symm

/-- client, `resp.parseHeaders`: the header object from the edited block plus more bytes is the one from the whole -/
theorem resp_headers_rescan (dn : Bool) (hd : RespRead.RespHead) (B more : Bytes) :
    RespRead.parseHeaders dn hd (editBlockN dn B ++ more) = RespRead.parseHeaders dn hd (B ++ more) := by
  have hl : (editBlockN dn B ++ more).length = (B ++ more).length := by simp [editBlockN_len]
  unfold RespRead.parseHeaders
  rw [hl, RespRead.headersLoop_eq_fold, RespRead.headersLoop_eq_fold, rescan_after_edit_eq_whole]

/-- trailer section (loop of `ext.parseTrailer`, client and server side) -/
theorem trailer_rescan (dn : Bool) (tr : List (Bytes × Option Bytes)) (err : Bool) (hl : Nat) (B more : Bytes) :
    parseTrailerLoop dn ((B ++ more).length + 1) (editBlockN dn B ++ more) tr err hl =
      parseTrailerLoop dn ((B ++ more).length + 1) (B ++ more) tr err hl := by
  rw [parseTrailerLoop_eq_fold, parseTrailerLoop_eq_fold, rescan_after_edit_eq_whole]

/-- the answer of `respParseN` is the pure parser's, as it is defined (a block that ends inside a fold is need-more with and
without the rule) -/
theorem resp_parse_answer (dn : Bool) (buf : Bytes) : (respParseN dn buf).1 = RespRead.parseRespHead dn buf := by
  unfold respParseN
  cases hfl : RespRead.parseFirstLine buf with
  | error e => simp [RespRead.parseRespHead, hfl, bind, Except.bind]
  | ok p => rfl

/-- **Client, whole response head, rescan after edit — unconditionally.** -/
theorem resp_head_rescan (dn : Bool) (buf more : Bytes) :
    RespRead.parseRespHead dn ((respParseN dn buf).2 ++ more) = RespRead.parseRespHead dn (buf ++ more) := by
  unfold respParseN
  cases hfl : RespRead.parseFirstLine buf with
  | error e => rfl
  | ok p =>
    obtain ⟨hd0, m⟩ := p
    exact parseRespHead_block_congr dn buf more _ hd0 m hfl (editBlockN_len dn _)
      (resp_headers_rescan dn hd0 (buf.drop m) more)

/-- **`resp.ReadHeader` over any number of reads, WITH the edits, unconditionally**: the retry loop on the buffer as the
scanner leaves it (`respRetryN`; each answer is the pure parser's on that buffer) answers what one parse of the concatenation
answers. -/
theorem client_read_with_edits_segmentation_invariant (dn : Bool) : ∀ (segs : List Bytes) (buf : Bytes),
    respRetryN dn buf segs = RespRead.parseRespHead dn (buf ++ segs.flatten)
  | [], buf => by simp [respRetryN, resp_parse_answer]
  | seg :: segs, buf => by
    unfold respRetryN
    rw [resp_parse_answer]
    split
    · rw [client_read_with_edits_segmentation_invariant dn segs _, List.append_assoc, resp_head_rescan]
      simp
    · rename_i r hr
      simp only [List.flatten_cons]
      exact (RespRead.parseRespHead_append dn buf _ _ rfl (fun h => hr h)).symm

/-- regression for /repo c627e0d: `X: a \r\n \r\n` ‖ ` c\r\n\r\n` (need-more
without a field, key rewritten only, then `a   c` as in one scan), `X: a\r\n b \r\r\n` ‖ ` c\r\n\r\n`, `X: a\r\n\t\r\t\r\n` ‖ ` c\r\n\r\n` -/
theorem rescan_after_edit_eq_whole_repaired :
    ((scanBlockN false exDryA).fields = [] ∧ (scanBlockN false exDryA).stop = .needMore ∧
      (scanBlockN false exDryA).touched = 3 ∧ (scanBlockN false exDryA).buf = exDryA ∧
      (retryScanN false exDryA [exDryB]).reading = (scanBlockN false (exDryA ++ exDryB)).reading ∧
      (retryScanN false exDryA [exDryB]).fields = [([88], [97,32,32,32,99])]) ∧
    (retryScanN false [88,58,32,97,13,10,32,98,32,13,13,10] [exDryB]).reading =
      (scanBlockN false ([88,58,32,97,13,10,32,98,32,13,13,10] ++ exDryB)).reading ∧
    (retryScanN false [88,58,32,97,13,10,9,13,9,13,10] [exDryB]).reading =
      (scanBlockN false ([88,58,32,97,13,10,9,13,9,13,10] ++ exDryB)).reading := by decide +kernel

set_option maxRecDepth 100000 in
/-- non-vacuity of the unconditional theorems: a first read that ends inside a fold (`x-a: 1\r\nX-Note: first\r\n second\r\n`) —
`X-A` handed out and rewritten, `X-Note` NOT handed out (need-more, key only), then the rest -/
example :
    let buf : Bytes := [72,84,84,80,47,49,46,49,32,50,48,48,32,79,75,13,10] ++ [120,45,97,58,32,49,13,10] ++ exNoteA
    (scanBlockN false ([120,45,97,58,32,49,13,10] ++ exNoteA)).fields = [([88,45,65], [49])] ∧
    (scanBlockN false ([120,45,97,58,32,49,13,10] ++ exNoteA)).stop = .needMore ∧
    (match respRetryN false buf [exNoteB] with
     | .ok (hd, n) => hd.status == 200 && hd.h.length == 3 && n == 59
     | .error _ => false) = true := by decide +kernel

end EditsWithRule

/-! ## streaming mode: the drain of an unread chunk (`Model/Http1/Drain.lean`)

After the handler of a streamed chunked upload returned, `bodyStream.skipRest` skips what the handler left unread.
`skipChunkLeft` does it piece by piece as the bytes arrive. -/
section Drain
open Hertz.H1.Drain

/-- **the drain is independent of segmentation**: however the bytes of the connection are cut into reads (any number
of segments, empty ones included), skipping `n` bytes of chunk payload leaves exactly what follows the first `n` bytes
of the stream — and it fails only when fewer than `n` bytes ever arrive (the peer is gone). -/
theorem drain_segmentation_independent (buf : Bytes) (segs : List Bytes) (n : Nat) :
    (n ≤ (buf ++ segs.flatten).length →
      ∃ rd', skipLeft n ⟨buf, segs⟩ n = some rd' ∧ rd'.all = (buf ++ segs.flatten).drop n) ∧
    ((buf ++ segs.flatten).length < n → skipLeft n ⟨buf, segs⟩ n = none) :=
  skipLeft_spec n ⟨buf, segs⟩ n (Nat.le_refl n)

/-- … in particular two deliveries of the same bytes give the same rest -/
theorem drain_same_for_two_segmentations (b1 b2 : Bytes) (s1 s2 : List Bytes) (n : Nat)
    (hsame : b1 ++ s1.flatten = b2 ++ s2.flatten) (hn : n ≤ (b1 ++ s1.flatten).length) :
    ∃ r1 r2, skipLeft n ⟨b1, s1⟩ n = some r1 ∧ skipLeft n ⟨b2, s2⟩ n = some r2 ∧ r1.all = r2.all := by
  obtain ⟨r1, h1, e1⟩ := (drain_segmentation_independent b1 s1 n).1 hn
  obtain ⟨r2, h2, e2⟩ := (drain_segmentation_independent b2 s2 n).1 (by rw [← hsame]; exact hn)
  exact ⟨r1, r2, h1, h2, by rw [e1, e2, hsame]⟩

/-- non-vacuity, and regression for /repo 6bc653e: the chunk `world` arriving as `wor` | `ld\r\n…`: the piecewise drain
leaves `\r\n`; one `reader.Skip(5)` for the whole chunk (`skipWhole`) fails ("link buffer skip[5] not enough"), while on the
same bytes delivered at once it succeeds. -/
theorem drain_whole_skip_fails_at :
    (skipLeft 5 ⟨[119, 111, 114], [[108, 100, 13, 10]]⟩ 5).map Rd.all = some [13, 10] ∧
    skipWhole ⟨[119, 111, 114], [[108, 100, 13, 10]]⟩ 5 = none ∧
    skipWhole ⟨[119, 111, 114, 108, 100, 13, 10], []⟩ 5 = some ⟨[13, 10], []⟩ := by decide

/-- the reader calls of `skipChunkLeft` / `skipRest` in the current source, in order: `Len`, `Peek(1)`, `Len`, `Skip(skip)`
as in `skipLeft`, and no `Skip` of a declared chunk size -/
theorem drain_calls_match_source :
    Hertz.Gen.SkipRest.calls =
      [("skipChunkLeft", "rs.reader.Len()"), ("skipChunkLeft", "rs.reader.Peek(1)"), ("skipChunkLeft", "rs.reader.Len()"),
       ("skipChunkLeft", "rs.reader.Skip(skip)"), ("skipChunkLeft", "rs.reader.Release()"),
       ("skipRest", "rs.skipChunkLeft()"), ("skipRest", "utils.SkipCRLF(rs.reader)"),
       ("skipRest", "utils.ParseChunkSize(rs.reader)"), ("skipRest", "SkipTrailer(rs.reader)"),
       ("skipRest", "rs.skipChunkLeft()"), ("skipRest", "rs.reader.Peek(strCRLFLen)"),
       ("skipRest", "rs.reader.Skip(strCRLFLen)"), ("skipRest", "rs.reader.Release()"), ("skipRest", "rs.reader.Len()"),
       ("skipRest", "rs.reader.Peek(1)"), ("skipRest", "rs.reader.Len()"), ("skipRest", "rs.reader.Skip(skip)"),
       ("skipRest", "rs.reader.Release()")] := rfl

end Drain

end Hertz.Props.C02
