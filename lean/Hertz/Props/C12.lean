import Hertz.Proofs.Chain
import Hertz.Proofs.Group
import Hertz.Proofs.GroupLiteral
import Hertz.Gen.Chain
/-!
# C12 — middleware chains run in onion order and Abort stops what has not started

Property theorems only; the lemmas live in `Hertz/Proofs/Chain.lean` (running a chain), `Hertz/Proofs/Group.lean`
(chain assembly) and `Hertz/Proofs/GroupLiteral.lean` (the literal reading of group order).  The statements are about the
models in `Hertz/Model/Chain.lean` (held to `RequestContext.Next/Abort`, `RouterGroup.*`,
`Engine.Use/NoRoute/NoMethod/ServeHTTP` by `bin/check C12`), judged by the trace monitor of
`Hertz/Spec/Chain.lean`, with `AbortIndex` regenerated from `pkg/route/consts/const.go`.
-/
namespace Hertz.Props.C12
open Hertz Hertz.Chain

/-- The model's `abortIndex` is by definition the constant regenerated from the Go source; what the proofs below
use is its value: the bounds `≤ 63` of `onion`, `run_total`, … are that value, and a change in the source breaks
this theorem and them. -/
theorem model_matches_gen : abortIndex = Hertz.Gen.abortIndex ∧ Hertz.Gen.abortIndex = 63 := ⟨rfl, rfl⟩

/-- **The source still has the shape the model was written from.**  `Hertz/Gen/Chain.lean` is printed
from the Go AST on every run; any edit to `Next`, `Abort`, `AbortWithStatus`, `IsAborted`, the type or
the initial value of `index`, `combineHandlers`, `Use`, `Group`, `handle`, `Engine.Use`, `NoRoute`,
`NoMethod`, `rebuild404Handlers`, `rebuild405Handlers` or the `SetHandlers` calls of `ServeHTTP` breaks
this theorem (and the check then says so, with or without a failing input). -/
theorem source_shape :
    Hertz.Gen.Chain.indexType = "int8" ∧
    Hertz.Gen.Chain.next = ["if ctx.index < math.MaxInt8", "ctx.index++", "end",
      "for ctx.index < int8(len(ctx.handlers))", "ctx.handlers[ctx.index](c, ctx)",
      "if ctx.index < math.MaxInt8", "ctx.index++", "end", "end"] ∧
    Hertz.Gen.Chain.abort = ["ctx.index = rConsts.AbortIndex"] ∧
    Hertz.Gen.Chain.abortWithStatus = ["ctx.SetStatusCode(code)", "ctx.Abort()"] ∧
    Hertz.Gen.Chain.isAborted = ["return ctx.index >= rConsts.AbortIndex"] ∧
    Hertz.Gen.Chain.setHandlers = ["ctx.handlers = hc"] ∧
    Hertz.Gen.Chain.indexWrites = ["index: -1", "ctx.index = index", "cp.index = rConsts.AbortIndex",
      "ctx.index = -1", "ctx.index = rConsts.AbortIndex"] ∧
    Hertz.Gen.Chain.groupUse = ["group.Handlers = append(group.Handlers, middleware...)", "return group.returnObj()"] ∧
    Hertz.Gen.Chain.groupGroup = ["return &RouterGroup{ Handlers: group.combineHandlers(handlers), basePath: group.calculateAbsolutePath(relativePath), engine: group.engine, }"] ∧
    Hertz.Gen.Chain.groupHandle = ["absolutePath := group.calculateAbsolutePath(relativePath)",
      "handlers = group.combineHandlers(handlers)", "group.engine.addRoute(httpMethod, absolutePath, handlers)",
      "return group.returnObj()"] ∧
    Hertz.Gen.Chain.combineHandlers = ["finalSize := len(group.Handlers) + len(handlers)",
      "if finalSize >= int(rConsts.AbortIndex)", "panic(\"too many handlers\")", "end",
      "mergedHandlers := make(app.HandlersChain, finalSize)", "copy(mergedHandlers, group.Handlers)",
      "copy(mergedHandlers[len(group.Handlers):], handlers)", "return mergedHandlers"] ∧
    Hertz.Gen.Chain.engineUse = ["engine.RouterGroup.Use(middleware...)", "engine.rebuild404Handlers()",
      "engine.rebuild405Handlers()", "return engine"] ∧
    Hertz.Gen.Chain.noRoute = ["engine.noRoute = handlers", "engine.rebuild404Handlers()"] ∧
    Hertz.Gen.Chain.noMethod = ["engine.noMethod = handlers", "engine.rebuild405Handlers()"] ∧
    Hertz.Gen.Chain.rebuild404Handlers = ["engine.allNoRoute = engine.combineHandlers(engine.noRoute)"] ∧
    Hertz.Gen.Chain.rebuild405Handlers = ["engine.allNoMethod = engine.combineHandlers(engine.noMethod)"] ∧
    Hertz.Gen.Chain.serveSetHandlers = ["ctx.SetHandlers(engine.Handlers)", "ctx.SetHandlers(engine.Handlers)",
      "ctx.SetHandlers(value.handlers)", "ctx.SetHandlers(engine.allNoMethod)", "ctx.SetHandlers(engine.allNoRoute)"] ∧
    Hertz.Gen.Chain.serveError.take 2 = ["ctx.SetStatusCode(code)", "ctx.Next(c)"] :=
  ⟨rfl, rfl, rfl, rfl, rfl, rfl, rfl, rfl, rfl, rfl, rfl, rfl, rfl, rfl, rfl, rfl, rfl, rfl⟩

/-- **Onion order.**  For every chain of at most `AbortIndex` handlers (every chain registration can
produce, see `registered_chains_short`) and every script per handler — any number of `Next`, `Abort`,
`AbortWithStatus` calls in any order — the run ends normally (no panic: the `int8` index saturates at
`MaxInt8` instead of wrapping) with the index past the chain, and its trace is accepted by the onion
monitor: handlers are entered at most once, in registration order, only while no `Abort*` has
happened; they exit innermost first; nothing stays open. -/
theorem onion (hs : List Script) (hlen : hs.length ≤ 63) :
    (∃ j, (run hs).2 = .ok j ∧ (hs.length : Int) ≤ j ∧ j ≤ 127) ∧ onionOK hs.length (run hs).1 = true :=
  ⟨run_ok hs hlen, run_onion hs hlen⟩

/-- non-vacuity: a five-handler chain mixing all behaviours; three handlers are entered (the third aborts). -/
example : enters (run [[.next, .abort], [.probe, .next, .next], [.abortStatus 401, .next], [.next], []]).1 = [0, 1, 2] := by
  decide +kernel

/-- What monitor acceptance says in plain terms: the positions entered are strictly increasing (so
each handler at most once, in registration order), all below the chain length, and no handler is
entered after an `Abort*` event. -/
theorem onion_declarative (hs : List Script) (hlen : hs.length ≤ 63) :
    (enters (run hs).1).Pairwise (· < ·) ∧ (∀ p ∈ enters (run hs).1, p < hs.length) ∧
    noEnterAfterAbort (run hs).1 = true :=
  onionOK_facts _ _ (run_onion hs hlen)

example : noEnterAfterAbort (run [[.next], [.abort, .next], [.next]]).1 = true ∧
    enters (run [[.next], [.abort, .next], [.next]]).1 = [0, 1] := by decide +kernel

/-- The interpreter's fuel is never what ends a run of a registrable chain, and `handlers[index]` is
never out of range: the model's verdicts are about the Go loop, not about the fuel. -/
theorem run_total (hs : List Script) (hlen : hs.length ≤ 63) : ∀ f, (run hs).2 ≠ .error f := by
  intro f hf
  obtain ⟨j, hj, _⟩ := run_ok hs hlen
  rw [hj] at hf; cases hf

example : (run [[.next, .next], [.abort]]).2 = .ok 66 := by decide +kernel

/-- **Regression for /repo eda7e49 (F11).**  62 handlers (a chain registration accepts) each calling `Next` twice: a
wrapping `int8` index would go from 127 to −128 and panic in `handlers[-128]`; with the saturating
increments the run ends with the index at 127, all 62 handlers entered in order, and the trace is accepted. -/
theorem f11_regression :
    (run (List.replicate 62 [.next, .next])).2 = .ok 127 ∧
    enters (run (List.replicate 62 [.next, .next])).1 = List.range 62 ∧
    onionOK 62 (run (List.replicate 62 [.next, .next])).1 = true := by decide +kernel

/-- **`Abort` does not stop a chain longer than `AbortIndex`.**  Such a chain cannot be registered,
but `RequestContext.SetHandlers` is public: with 65 handlers of which the first aborts, handler 64 is
still entered — so the length hypothesis of `onion` cannot be dropped. -/
theorem onion_fails_at_long :
    onionOK 65 (run ([.abort] :: List.replicate 64 [])).1 = false ∧
    enters (run ([.abort] :: List.replicate 64 [])).1 = [0, 64] := by decide +kernel

/-- **Size bound.**  Whatever registration calls succeeded, every chain `ServeHTTP` can select for a
request that has a Host (a route's chain, the 405 chain, the 404 chain) is shorter than `AbortIndex`
(`combineHandlers` refuses `finalSize >= AbortIndex`), and a route's chain is never empty. -/
theorem registered_chains_short (ops : List Op) (e : Engine) (h : Engine.new.applyAll 0 ops = .ok e) :
    (∀ r ∈ e.routes, (r.chain.length : Int) < Hertz.Gen.abortIndex ∧ r.chain ≠ []) ∧
    ∀ me g k, ((e.select me g k false).1.length : Int) < Hertz.Gen.abortIndex :=
  ⟨(history_short ops e h).1, fun me g k => select_mem_short (history_short ops e h) me g k⟩

example : (Engine.new.applyAll 0 [.use 0 [1], .group 0 [2], .handle 1 0 1 [3]]).toOption.map
    (fun e => (e.select 0 1 1 false).1) = some [1, 2, 3] := by decide +kernel

/-- The two halves together: the chain served for any request with a Host, under any registration
history and any behaviour of the handlers, ends normally and is onion-ordered. -/
theorem served_chain_onion (ops : List Op) (e : Engine) (h : Engine.new.applyAll 0 ops = .ok e)
    (me g k : Nat) (script : H → Script) :
    (∃ j, (run ((e.select me g k false).1.map script)).2 = .ok j) ∧
    onionOK ((e.select me g k false).1.map script).length (run ((e.select me g k false).1.map script)).1 = true := by
  have hlen := (registered_chains_short ops e h).2 me g k
  have hg : Hertz.Gen.abortIndex = 63 := rfl
  have hl : ((e.select me g k false).1.map script).length ≤ 63 := by rw [List.length_map]; omega
  obtain ⟨j, hj, _⟩ := run_ok _ hl
  exact ⟨⟨j, hj⟩, run_onion _ hl⟩

/-- **Group order.**  Every route of the engine was put there by a `Handle` call, and its chain is what
the group carried at that moment — the parts contributed along the path engine → … → group, outermost
first (`snapshotMws` flattens the group's lineage in path order) — followed by the route's own handlers. -/
theorem group_order (ops : List Op) (e : Engine) (h : Engine.new.applyAll 0 ops = .ok e) :
    ∀ r ∈ e.routes, ∃ pre hs post, ops = pre ++ Op.handle r.grp r.method r.num hs :: post ∧
      r.chain = snapshotMws (shadowOf pre) r.grp ++ hs :=
  (history_rel ops e h).2

/-- non-vacuity, depth 3 with `Use` before and after registration: engine, three nested groups. -/
example : (Engine.new.applyAll 0 [.use 0 [1], .group 0 [2], .use 1 [3], .group 1 [4], .group 2 [5], .use 3 [6],
      .handle 3 0 1 [7, 8], .use 3 [9], .use 0 [10]]).toOption.map (fun e => e.routes.map (·.chain))
    = some [[1, 2, 3, 4, 5, 6, 7, 8]] := by decide +kernel

/-- At every moment each group's `Handlers` is its lineage flattened (what `Group()` copied from the
parent, then its own). -/
theorem group_handlers (ops : List Op) (e : Engine) (h : Engine.new.applyAll 0 ops = .ok e) :
    e.groups = (shadowOf ops).map (fun l => l.flatMap (·.2)) :=
  (history_rel ops e h).1.1

/-- **404 / 405 / 400.**  As long as middleware is attached to the engine with `Engine.Use` (not with the
shadowed `engine.RouterGroup.Use`), the not-found and method-not-allowed chains are the engine
middleware followed by the `NoRoute` / `NoMethod` handlers, whatever the order of the calls, and a
request without Host runs exactly the engine middleware. -/
theorem notfound_chains (ops : List Op) (e : Engine) (hraw : ∀ op ∈ ops, op.isRaw = false)
    (h : Engine.new.applyAll 0 ops = .ok e) :
    e.allNoRoute = engineMws ops ++ e.noRoute ∧ e.allNoMethod = engineMws ops ++ e.noMethod ∧
    ∀ me g k, e.select me g k true = (engineMws ops, 400) := by
  obtain ⟨h1, h2, h3⟩ := history_notfound ops e hraw h
  exact ⟨h1, h2, fun me g k => by simp only [Engine.select, if_true, h3]⟩

example : (Engine.new.applyAll 0 [.noRoute [5], .use 0 [1], .handle 0 0 1 [3], .use 0 [2]]).toOption.map
    (fun e => ((e.select 0 0 9 false), (e.select 1 0 1 false))) = some (([1, 2, 5], 404), ([1, 2], 405)) := by
  decide +kernel

/-- `engine.RouterGroup.Use` (the promoted method `Engine.Use` shadows) does not rebuild the 404 chain:
the hypothesis of `notfound_chains` cannot be dropped. -/
theorem notfound_fails_at_rawUse :
    (Engine.new.applyAll 0 [.rawUse [1]]).toOption.map (fun e => (e.groups, (e.select 0 0 1 false).1))
      = some ([[1]], []) := by decide +kernel

/-- **The literal reading of "attached before the route is registered" is false of the code.**
`Group()` copies the parent's chain: middleware attached to the engine after the group was created but
before the route is registered (`[7]`) is not in the route's chain. -/
theorem group_order_literal_fails_at :
    (Engine.new.applyAll 0 [.group 0 [], .use 0 [7], .handle 1 0 1 [9]]).toOption.map (fun e => e.routes.map (·.chain))
      = some [[9]] ∧
    literalMws (shadowOf [.group 0 [], .use 0 [7]]) 1 ++ [9] = [7, 9] ∧
    noUseAfterChild shadowInit [.group 0 [], .use 0 [7]] = false := by decide +kernel

/-- **… and true outside that one pattern.**  If no `Use` with a non-empty argument hits a group that
already has a child group (`noUseAfterChild`, decidable; the negation of the class `use-after-group` of
the check), then for every group what it carries *is* the literal reading: everything attached so far
to each group on the path from the engine down, outermost first. -/
theorem group_order_literal_partial (ops : List Op) (h : noUseAfterChild shadowInit ops = true) (g : Nat) :
    snapshotMws (shadowOf ops) g = literalMws (shadowOf ops) g :=
  snapshot_eq_literal (wf_foldl ops shadowInit wf_init h) g

/-- Route form: with `group_order`, a route registered after a history `pre` free of that pattern gets
`literalMws (shadowOf pre) g ++ own handlers`. -/
theorem route_chain_literal_partial (ops : List Op) (e : Engine) (h : Engine.new.applyAll 0 ops = .ok e)
    (hn : noUseAfterChild shadowInit ops = true) :
    ∀ r ∈ e.routes, ∃ pre hs post, ops = pre ++ Op.handle r.grp r.method r.num hs :: post ∧
      r.chain = literalMws (shadowOf pre) r.grp ++ hs := by
  intro r hr
  obtain ⟨pre, hs, post, hops, hc⟩ := (history_rel ops e h).2 r hr
  refine ⟨pre, hs, post, hops, ?_⟩
  have hpre : noUseAfterChild shadowInit pre = true := by
    rw [hops] at hn
    exact noUseAfterChild_prefix _ _ _ hn
  rw [hc, group_order_literal_partial pre hpre]

example : noUseAfterChild shadowInit [.use 0 [1], .group 0 [2], .use 1 [3], .group 1 [4], .use 2 [6],
    .handle 2 0 1 [7, 8], .use 2 [9]] = true := by decide +kernel

end Hertz.Props.C12
