import Hertz.Proofs.Resp
import Hertz.Proofs.RespMessage
import Hertz.Proofs.RespSeq
/-!
# C04 — every response put on the wire is one well-formed, correctly framed message

`H1.Resp.frame` models `resp.Write` / `writeBodyStream` / `ResponseHeader.SetContentLength` /
`MustSkipContentLength` / `Response.MustSkipBody` / `ext.WriteBodyFixedSize` / `ext.WriteBodyChunked` /
`ext.WriteChunk` / `bytesconv.WriteHexInt` and the hijacked `chunkedBodyWriter`; the header block is the
C05 model (`HW.RespHdr.bytes`, proved to read back as exactly the kept fields).  The check runs handler
programs (status × body mode × sizes × method × keep-alive/close × HTTP/1.0/1.1 × sequences) on the real
server, decodes the real bytes with the strict reader `Spec.Resp.decodeOne` *and* with `net/http`, and
compares with the model's framing and body bytes.  The check also compares the **whole
message**: the harness dumps, per handler invocation, the response header state the writer starts from
(all fields `ResponseHeader.AppendBytes` reads + the reason text; at the end of the handler, or immediately
before the first `Write` of a hijacked chunked writer), the driver builds `r : HW.RespHdr` from the dump,
applies the `Connection` edit `Server.Serve` makes after the handler (`close` / HTTP/1.0 `keep-alive`),
takes the `Date` value from the response itself, computes `message r prog isHead`
(`Model/Http1/RespMsg.lean`, the very definition `response_decodes` is about) for every response of the
connection and requires the concatenation to be **equal** to the bytes the real server wrote (a prefix of
them when the model says a body stream fails mid-message).  Handler programs also set
`Content-Length` / `Transfer-Encoding` themselves through `Header.Set`, before or after the body; the
driver follows them with `setLengthHeader` / `withFraming` and cross-checks the framing fields it predicts
(`contentLength`, `contentLengthBytes`, `Transfer-Encoding` in the generic fields) against each dump.

Proved for all inputs:
* `chunk_size_roundtrip`: a hex chunk size written by `WriteHexInt` reads back as the same number;
* `streamed_body_decodes`: for a body stream of unknown length — any sequence of reads, any trailer —
  the strict chunk reader returns exactly the concatenation of the reads, the trailer fields, and the
  bytes that follow (so the next response starts exactly where this one ends);
* `writer_body_decodes`: the same for the hijacked chunked writer under **every** write/flush pattern,
  empty writes included (`Write("ab"); Write(""); Write("cd")` is a regression example below);
* `bodiless_carry_no_body`: HEAD, 1xx, 204, 304 never put body bytes on the wire (hijacked writer
  excluded, as documented);
* `content_length_matches`: with `Content-Length: n` framing and no writer error, the body on the
  wire has exactly `n` bytes, or none;
* `appendUint_roundtrip`: the decimal `AppendUint` writes (Content-Length value) reads back as the same number;
* `head_decodes`: header block + anything: the strict reader gets the status, exactly the kept fields and the
  writer's framing (C05's head theorem joined with the framing fields `SetContentLength` writes);
* `fixed_length_message`, `declared_stream_message`, `chunked_message`, `writer_message`, `bodiless_message`:
  the whole message per body kind, with the decoded message spelled out;
* **`response_decodes`** — the single end-to-end statement: for every header state satisfying `HeadOK`, every
  status 100..999, every body kind (bytes / stream of declared length / `io.LimitedReader` / unknown length /
  hijacked writer), HEAD or not, every trailer, and every `rest`:
  `decodeOne isHead (message r p isHead ++ rest) = some (expected r p isHead, rest)` — exactly one message,
  correctly framed, nothing left over, nothing swallowed; `two_responses_decode` for a pipeline;
* `response_decodes_any_state`: the same for every `HeadInv` header state (Content-Length already set by
  `SetBodyStream`/`Header.Set`, `Transfer-Encoding: chunked` already in the generic fields; what the setters reach
  beyond it: last TODO-OPEN item), and `set_content_length_keeps_invariant`;
* where it is false: `response_decodes_fails_at_writer_on_head` (hijacked writer answering HEAD: the
  documented exclusion, with the leftover bytes), `status_out_of_range_fails_at`
  (`SetStatusCode(1000)`/`(99)` written verbatim) — both replayed on the real server, the bytes in the `example`s
  beside them; `length_set_after_chunked_stream_fails_at`: the header state `rBoth` (both framing fields, an
  unchunked body), which `Header.Set` does not produce (regression for /repo db53447);
* `set_length_header_keeps_invariant`: the setter (`setLengthHeader` = `setSpecialHeader` for
  `Content-Length`) maps every `HeadInv` state and every value `ParseContentLength` accepts to a `HeadInv`
  state declaring exactly that number; `set_length_header_ignores_unparseable`: any other value changes nothing;
* `length_header_after_chunked_stream_repaired`: the regression statement — the state after
  `SetBodyStream(r,-1)` + `Header.Set("Content-Length","5")` is inside the invariant, the message equals the
  bytes the server writes (replayed), and decodes to the body with the rest untouched;
* the connection after a response (last section of this file): a body stream that delivers
  fewer bytes than declared (`failed = true`): `short_stream_closes`, `short_stream_undecodable`,
  `short_stream_is_detected`; the `Connection` decision: `close_decision_cases`, `close_decision_announced`,
  `close_decision_keep_alive_1_0`, `close_decision_announced_fails_at_early_header`; sequencing:
  `responses_decode_in_sequence(_any_state)`, `answered_up_to_first_close`, `wire_is_concatenation`,
  `no_response_after_close(_wire)`.  The model of the loop
  is `Model/Http1/RespSeq.lean`, the client is `Spec/RespSeq.lean`; op `respq` compares the whole wire of
  pipelined connections with `RespSeq.wire 4096` byte for byte.

TODO-OPEN (what remains outside the theorems):
* `message`/`withFraming` are model definitions (`Model/Http1/RespMsg.lean`) and part of the correspondence
  check, see above: every explored case compares `message` byte for byte with the real output.  What the
  driver adds around `message` is a per-case check, not a theorem: the construction of `r` from the dump (incl. "Content-Type line only if
  `ContentLength() != 0` or explicitly set", as in C05), the `Connection` edit of `Serve`, the effective
  program (`effProg`: a `Content-Length` set after `SetBodyStream` replaces the declared length), the `Date`;
* model limitation (not a server defect): for a body stream whose length the header
  already declares, `writeBodyStream` makes no `SetContentLength` call, `message` re-applies
  `withFraming (.cl n)`; the two agree unless the handler wrote a non-canonical decimal
  (`Header.Set("Content-Length","05")` after `SetBodyStream`: real `Content-Length: 05`, model `5`; both
  well-formed, same framing).  The generator only emits canonical decimals after a stream;
* the sequencing theorems assume `Good` / `GoodInv` exchanges — `HeadOK` resp. `HeadInv` header
  states (`responses_decode_in_sequence_any_state`; the short-stream theorems are stated for `HeadOK`), no generic field that reads
  `Connection: close` in any letter case (`Header.Set("Connection", "upgrade")` is inside the hypotheses;
  a stored `Connection: Close` is the excluded state, which `Set`/`Add`/`SetCanonical` do not produce:
  `close_decision_announced_fails_at_close_case`), the header's close flag equal to
  `Response.ConnectionClose()`; what a hijack handler itself writes after `Serve` hands the connection over is
  outside the model; `flushedBody` describes `standard.Conn.ReadFrom` (netpoll's writer has no `ReadFrom`: there
  `copyBuffer` flushes after every read — the theorems hold for every `cap`, the per-case comparison is for the
  standard transport); the request side of the decision (`ReqConn` from the request bytes) is C01's parser;
* header states outside `HeadInv` (generic field literally named Content-Length or Transfer-Encoding through
  `SetArgBytes`/`AddArgBytes`, a Content-Length that does not parse through `SetContentLengthBytes`, `Transfer-Encoding:
  identity` from `SetContentLength(-2)`) are not covered.
-/
namespace Hertz.Props.C04
open Hertz Hertz.H1.Resp Hertz.Spec.Resp

theorem chunk_size_roundtrip (n : Nat) (h : n < 16 ^ 16) : parseHex (writeHexInt n) = some n :=
  parseHex_writeHexInt n h

theorem streamed_body_decodes (reads : List Bytes) (tr : List (Bytes × Bytes)) (rest : Bytes)
    (h : ∀ r ∈ reads, r.length < 16 ^ 16) :
    chunks (reads.length + 1) (chunkedWire reads tr ++ rest) [] = some (reads.flatten, HW.kept tr, rest) := by
  unfold chunkedWire
  have := chunks_encode (reads.filter (fun r => !r.isEmpty)) tr rest [] (reads.length + 1)
    (filter_nonempty_bound reads h) (Nat.lt_succ_of_le (List.length_filter_le _ _))
  rw [this, List.flatten_filter_not_isEmpty]
  rfl

/-- bytes written through the hijacked writer, in order -/
def written (script : List WOp) : Bytes :=
  (script.filterMap (fun o => match o with | .write b => some b | .flush => none)).flatten

theorem writer_body_decodes (script : List WOp) (tr : List (Bytes × Bytes)) (rest : Bytes)
    (h : ∀ o ∈ script, ∀ b, o = .write b → b.length < 16 ^ 16) :
    chunks (script.length + 1) (writerWire script tr ++ rest) [] = some (written script, HW.kept tr, rest) := by
  rw [writerWire_eq]
  have := chunks_encode (wchunks script) tr rest [] (script.length + 1)
    (wchunks_bound script h) (Nat.lt_succ_of_le (List.length_filterMap_le _ _))
  rw [this, wchunks_flatten]
  rfl

theorem bodiless_carry_no_body (p : Prog) (isHead : Bool)
    (hw : ∀ s, p.body ≠ .writer s) (h : isHead = true ∨ noBodyStatus p.status = true) :
    (frame p isHead).wire = [] :=
  frame_wire_bodiless p isHead (fun s hs => absurd hs (hw s)) (by rcases h with h | h <;> simp [h])

theorem content_length_matches (p : Prog) (isHead : Bool) (n : Nat)
    (hf : (frame p isHead).framing = .cl n) (hok : (frame p isHead).failed = false) :
    (frame p isHead).wire.length = n ∨ (frame p isHead).wire = [] := by
  obtain ⟨st, body, tr⟩ := p
  by_cases hb : (isHead || noBodyStatus st) = true
  · -- no body is sent (the hijacked writer, which sends its chunks regardless, never announces a length)
    refine .inr (frame_wire_bodiless _ isHead (fun s hs => ?_) hb)
    rw [show body = .writer s from hs] at hf
    simp only [frame] at hf
    split at hf <;> cases hf
  · -- the body is sent whole; `failed = false` says a stream delivered what was declared
    obtain ⟨rfl, hs⟩ : isHead = false ∧ noBodyStatus st = false := by simpa using hb
    rw [frame_sending st body tr hs] at hf hok ⊢
    left
    cases body with
    | bytes b => cases hf; rfl
    | stream d reads =>
      by_cases hd : d ≥ 0
      · simp only [hd, if_true] at hf hok ⊢
        cases hf; simpa using hok
      · simp only [hd, if_false] at hf; cases hf
    | limited l reads => cases hf; simpa using hok
    | writer s => cases hf

/-- regression (old defect F13): `Write("ab"); Write(""); Write("cd")` decodes to `abcd`, one terminator. -/
example : chunks 4 (writerWire [.write [97, 98], .write [], .write [99, 100]] []) [] = some ([97, 98, 99, 100], [], []) := by
  decide +kernel

example : (frame { status := 204, body := .bytes [120] } false).wire = [] ∧
    (frame { status := 200, body := .bytes [120] } true).framing = .cl 1 := by decide

/-! ## The whole message (head + body) through the strict reader

`message r p isHead` is everything the writer puts on the wire for one response: the header block of
the C05 model for the header state `withFraming r framing` (= `r` after the `SetContentLength` call
`resp.Write` / `writeBodyStream` / the hijacked writer make for the framing `frame` decides) followed by
the body bytes of `frame`.  `expected r p isHead` is the one message a reader must get: the status,
exactly the kept fields, the writer's framing, the handler's payload (nothing for HEAD/1xx/204/304) and
the trailer fields.  Hypotheses, each an explicit predicate:
* `HeadOK r status`: status line `HTTP/1.1 NNN reason` with `100 ≤ NNN ≤ 999` and a reason free of CR/LF;
  no `contentLengthBytes` yet; no generic field called Content-Length / Transfer-Encoding;
* `SizesFit p`: lengths are Go `int`s (`< 2^63`);
* `WriterHasBody p isHead`: the documented exclusion (hijacked writer on a bodiless response);
* `failed = false`: the body stream delivered what was declared (otherwise the writer reports an error
  and the connection is closed). -/

open Hertz.HW in
/-- the decimal `AppendUint` writes reads back as the same number -/
theorem appendUint_roundtrip (n : Nat) (h : n < 2 ^ 63) :
    FS.appendUint (n : Int) = .ok (decimal n) ∧ parseDec (decimal n) = some n :=
  ⟨appendUint_decimal n (Nat.lt_trans h two63_lt), parseDec_decimal n (Nat.lt_trans h two63_lt)⟩

example : FS.appendUint 4096 = .ok [52, 48, 57, 54] ∧ parseDec [52, 48, 57, 54] = some 4096 := by decide

/-- the reader's opinion of the header alone: the status, exactly the kept fields, the writer's framing -/
theorem head_decodes (r : HW.RespHdr) (st : Nat) (f : H1.Resp.Framing) (isHead : Bool) (tail : Bytes)
    (hr : HeadOK r st) (hn : ∀ n, f = .cl n → n < 2 ^ 63) :
    decodeOne isHead ((withFraming r f).bytes ++ tail) =
      bodyOf isHead st (HW.kept (withFraming r f).fields) (toSpec f) tail :=
  effFraming_none f ▸ decode_head isHead tail (withFraming_inv hr.inv fun n e => Nat.lt_trans (hn n e) two63_lt)

/-- fixed length: `SetBody`/`AppendBody`/`Write` with a status that may carry a body, not HEAD -/
theorem fixed_length_message (r : HW.RespHdr) (st : Nat) (b : Bytes) (tr : List (Bytes × Bytes)) (rest : Bytes)
    (hr : HeadOK r st) (hs : b.length < 2 ^ 63) (hb : noBodyStatus st = false) :
    decodeOne false (message r ⟨st, .bytes b, tr⟩ false ++ rest) =
      some ({ status := st, fields := HW.kept (withFraming r (.cl b.length)).fields, framing := .cl b.length,
              raw := b, body := b, trailers := [] }, rest) := by
  rw [message_decodes r ⟨st, .bytes b, tr⟩ false rest hr hs (by intro s h; cases h) (by simp [frame])]
  simp [expected, payload, frame, mustSkipCL_eq, hb, toSpec]

/-- body stream of declared length that delivers it -/
theorem declared_stream_message (r : HW.RespHdr) (st n : Nat) (reads : List Bytes) (tr : List (Bytes × Bytes))
    (rest : Bytes) (hr : HeadOK r st) (hn : n < 2 ^ 63) (hs : ∀ x ∈ reads, x.length < 2 ^ 63)
    (hlen : (takeStream n reads).length = n) (hb : noBodyStatus st = false) :
    decodeOne false (message r ⟨st, .stream n reads, tr⟩ false ++ rest) =
      some ({ status := st, fields := HW.kept (withFraming r (.cl n)).fields, framing := .cl n,
              raw := takeStream n reads, body := takeStream n reads, trailers := [] }, rest) := by
  rw [message_decodes r ⟨st, .stream n reads, tr⟩ false rest hr ⟨by show ((n : Nat) : Int) < 2 ^ 63; omega, hs⟩
    (by intro s h; cases h) (by simp [frame, mustSkipCL_eq, hb, hlen])]
  simp [expected, payload, frame, mustSkipCL_eq, hb, toSpec]

/-- unknown length: chunked, any sequence of reads, any trailer -/
theorem chunked_message (r : HW.RespHdr) (st : Nat) (reads : List Bytes) (tr : List (Bytes × Bytes)) (rest : Bytes)
    (hr : HeadOK r st) (hs : ∀ x ∈ reads, x.length < 2 ^ 63) (hb : noBodyStatus st = false) :
    decodeOne false (message r ⟨st, .stream (-1) reads, tr⟩ false ++ rest) =
      some ({ status := st, fields := HW.kept (withFraming r .chunked).fields, framing := .chunked,
              raw := chunkedWire reads tr, body := reads.flatten, trailers := HW.kept tr }, rest) := by
  rw [message_decodes r ⟨st, .stream (-1) reads, tr⟩ false rest hr ⟨by decide, hs⟩ (by intro s h; cases h)
    (by simp [frame, mustSkipCL_eq, hb])]
  simp [expected, payload, frame, mustSkipCL_eq, hb, toSpec]

/-- the hijacked chunked writer, every write/flush pattern -/
theorem writer_message (r : HW.RespHdr) (st : Nat) (script : List WOp) (tr : List (Bytes × Bytes)) (rest : Bytes)
    (hr : HeadOK r st) (hs : ∀ o ∈ script, ∀ b, o = .write b → b.length < 2 ^ 63) (hb : noBodyStatus st = false) :
    decodeOne false (message r ⟨st, .writer script, tr⟩ false ++ rest) =
      some ({ status := st, fields := HW.kept (withFraming r .chunked).fields, framing := .chunked,
              raw := writerWire script tr, body := writtenBytes script, trailers := HW.kept tr }, rest) := by
  rw [message_decodes r ⟨st, .writer script, tr⟩ false rest hr hs (fun _ _ => ⟨rfl, hb⟩) (by simp [frame])]
  simp [expected, payload, frame, mustSkipCL_eq, hb, toSpec]

/-- `writtenBytes` of the lemma file is `written` above -/
theorem writtenBytes_eq_written (script : List WOp) : writtenBytes script = written script := rfl

/-- HEAD, 1xx, 204, 304: the header block is the whole message, whatever the handler set as body -/
theorem bodiless_message (r : HW.RespHdr) (p : Prog) (isHead : Bool) (rest : Bytes)
    (hr : HeadOK r p.status) (hs : SizesFit p) (hw : WriterHasBody p isHead)
    (hb : isHead = true ∨ noBodyStatus p.status = true) :
    decodeOne isHead (message r p isHead ++ rest) =
      some ({ status := p.status, fields := HW.kept (withFraming r (frame p isHead).framing).fields,
              framing := toSpec (frame p isHead).framing, raw := [], body := [], trailers := [] }, rest) := by
  have hb' : (isHead || noBodyStatus p.status) = true := by rcases hb with h | h <;> simp [h]
  rw [message_bodiless_inv r .none p isHead rest hr.inv hs hw hb', expectedInv_eq (effFraming_none _)]
  simp [expected, payload, hb', frame_wire_bodiless p isHead hw hb']

/-- **every response is exactly one message**: for every `HeadOK` header state, status, body kind, HEAD or
not, and whatever follows on the connection, the strict reader returns the status, exactly the kept
fields, the writer's framing, the handler's payload, the trailer fields — and `rest` untouched. -/
theorem response_decodes (r : HW.RespHdr) (p : Prog) (isHead : Bool) (rest : Bytes)
    (hr : HeadOK r p.status) (hs : SizesFit p) (hw : WriterHasBody p isHead)
    (hok : (frame p isHead).failed = false) :
    decodeOne isHead (message r p isHead ++ rest) = some (expected r p isHead, rest) :=
  message_decodes r p isHead rest hr hs hw hok

/-- consequence: a sequence of responses on one connection is read back one by one -/
theorem two_responses_decode (r1 r2 : HW.RespHdr) (p1 p2 : Prog) (h1 h2 : Bool) (rest : Bytes)
    (hr1 : HeadOK r1 p1.status) (hs1 : SizesFit p1) (hw1 : WriterHasBody p1 h1) (hok1 : (frame p1 h1).failed = false)
    (hr2 : HeadOK r2 p2.status) (hs2 : SizesFit p2) (hw2 : WriterHasBody p2 h2) (hok2 : (frame p2 h2).failed = false) :
    decodeOne h1 (message r1 p1 h1 ++ (message r2 p2 h2 ++ rest)) = some (expected r1 p1 h1, message r2 p2 h2 ++ rest) ∧
    decodeOne h2 (message r2 p2 h2 ++ rest) = some (expected r2 p2 h2, rest) :=
  ⟨message_decodes r1 p1 h1 _ hr1 hs1 hw1 hok1, message_decodes r2 p2 h2 rest hr2 hs2 hw2 hok2⟩

/-- `HTTP/1.1 200 OK`, `Server: h`, `X-A: 1` and a hostile field `X\r\nB: 2` (dropped by `appendHeaderLine`) -/
def r0 : HW.RespHdr :=
  { statusLine := statusLineOf 200 [79, 75], server := [104], date := none, contentType := [], contentLength := 0,
    contentEncoding := [], clBytes := [], h := [([88, 45, 65], [49]), ([88, 13, 10, 66], [50])], trailer := [],
    cookies := [], connClose := false }

theorem r0_ok : HeadOK r0 200 := by
  refine ⟨by decide, by decide, ⟨[79, 75], by unfold NoCRLF; decide, rfl⟩, rfl, ?_⟩
  rw [sCL_eq, sTE_eq]
  decide

/-- `SetBodyString("hi")` -/
example : message r0 ⟨200, .bytes [104, 105], []⟩ false =
    -- HTTP/1.1 200 OK\r\nServer: h\r\nContent-Length: 2\r\nX-A: 1\r\n\r\nhi
    [72, 84, 84, 80, 47, 49, 46, 49, 32, 50, 48, 48, 32, 79, 75, 13, 10, 83, 101, 114, 118, 101, 114, 58, 32, 104, 13, 10,
     67, 111, 110, 116, 101, 110, 116, 45, 76, 101, 110, 103, 116, 104, 58, 32, 50, 13, 10, 88, 45, 65, 58, 32, 49, 13, 10,
     13, 10, 104, 105] := by
  rw [message, HW.RespHdr.bytes, HW.block, HW.headerLine_arith]
  decide +kernel

example (rest : Bytes) : decodeOne false (message r0 ⟨200, .bytes [104, 105], []⟩ false ++ rest) =
    some ({ status := 200, fields := [([83, 101, 114, 118, 101, 114], [104]),
              ([67, 111, 110, 116, 101, 110, 116, 45, 76, 101, 110, 103, 116, 104], [50]), ([88, 45, 65], [49])],
            framing := .cl 2, raw := [104, 105], body := [104, 105], trailers := [] }, rest) := by
  rw [fixed_length_message r0 200 [104, 105] [] rest r0_ok (by decide) (by decide), HW.kept_arith]
  rfl

/-- body stream of unknown length read as "a", "", "bc", with a trailer, on a HEAD request and not -/
example (rest : Bytes) :
    decodeOne false (message r0 ⟨200, .stream (-1) [[97], [], [98, 99]], [([88, 45, 84], [118])]⟩ false ++ rest) =
      some (expected r0 ⟨200, .stream (-1) [[97], [], [98, 99]], [([88, 45, 84], [118])]⟩ false, rest) ∧
    (expected r0 ⟨200, .stream (-1) [[97], [], [98, 99]], [([88, 45, 84], [118])]⟩ false).body = [97, 98, 99] ∧
    (expected r0 ⟨200, .stream (-1) [[97], [], [98, 99]], [([88, 45, 84], [118])]⟩ false).trailers = [([88, 45, 84], [118])] ∧
    (expected r0 ⟨200, .stream (-1) [[97], [], [98, 99]], [([88, 45, 84], [118])]⟩ true).body = [] :=
  ⟨response_decodes r0 _ false rest r0_ok (by simp [SizesFit]) (by intro s h; cases h) (by decide),
   by decide +kernel, by decide +kernel, by decide +kernel⟩

/-- 304 with a body set by the handler, and a HEAD answer -/
example (rest : Bytes) :
    decodeOne false (message { r0 with statusLine := statusLineOf 304 [78] } ⟨304, .bytes [120], []⟩ false ++ rest) =
      some (expected { r0 with statusLine := statusLineOf 304 [78] } ⟨304, .bytes [120], []⟩ false, rest) :=
  response_decodes _ _ false rest
    ⟨by decide, by decide, ⟨[78], by unfold NoCRLF; decide, rfl⟩, rfl, r0_ok.2.2.2.2⟩ (by simp [SizesFit]) (by intro s h; cases h) (by decide)

/-! ### the joined model against bytes the real server wrote

The three byte strings below are the output of the real `Engine.Serve` for the harness programs
`respw M:GET:1.1:0 B:6869`, `respw M:GET:1.1:0 BS:-1:61,,6263 TR:582d54:76` and
`respw M:HEAD:1.1:0 CW:w6869` (replayed with `bin/check C04 quick --replay`), header state as the
engine leaves it (`Server: hertz`, the date, the default content type). -/

def rReal : HW.RespHdr :=
  { statusLine := statusLineOf 200 [79, 75], server := [104, 101, 114, 116, 122],
    date := some [84, 117, 101, 44, 32, 50, 57, 32, 83, 101, 112, 32, 50, 48, 50, 54, 32, 48, 57, 58, 53, 52, 58, 49, 51, 32, 71, 77, 84],
    contentType := [116, 101, 120, 116, 47, 112, 108, 97, 105, 110, 59, 32, 99, 104, 97, 114, 115, 101, 116, 61, 117, 116, 102, 45, 56], contentLength := 0,
    contentEncoding := [], clBytes := [], h := [], trailer := [], cookies := [], connClose := false }

theorem rReal_ok : HeadOK rReal 200 :=
  ⟨by decide, by decide, ⟨[79, 75], by unfold NoCRLF; decide, rfl⟩, rfl, by intro kv h; cases h⟩

example : message rReal ⟨200, .bytes [104, 105], []⟩ false =
    [72, 84, 84, 80, 47, 49, 46, 49, 32, 50, 48, 48, 32, 79, 75, 13, 10, 83, 101, 114, 118, 101, 114, 58, 32, 104, 101, 114, 116, 122, 13, 10, 68, 97, 116, 101, 58, 32, 84, 117, 101, 44, 32, 50, 57, 32, 83, 101, 112, 32, 50, 48, 50, 54, 32, 48, 57, 58, 53, 52, 58, 49, 51, 32, 71, 77, 84, 13, 10, 67, 111, 110, 116, 101, 110, 116, 45, 84, 121, 112, 101, 58, 32, 116, 101, 120, 116, 47, 112, 108, 97, 105, 110, 59, 32, 99, 104, 97, 114, 115, 101, 116, 61, 117, 116, 102, 45, 56, 13, 10, 67, 111, 110, 116, 101, 110, 116, 45, 76, 101, 110, 103, 116, 104, 58, 32, 50, 13, 10, 13, 10, 104, 105] := by
  rw [message, HW.RespHdr.bytes, HW.block, HW.headerLine_arith]
  decide +kernel

example : message { rReal with trailer := [[88, 45, 84]] } ⟨200, .stream (-1) [[97], [], [98, 99]], [([88, 45, 84], [118])]⟩ false =
    [72, 84, 84, 80, 47, 49, 46, 49, 32, 50, 48, 48, 32, 79, 75, 13, 10, 83, 101, 114, 118, 101, 114, 58, 32, 104, 101, 114, 116, 122, 13, 10, 68, 97, 116, 101, 58, 32, 84, 117, 101, 44, 32, 50, 57, 32, 83, 101, 112, 32, 50, 48, 50, 54, 32, 48, 57, 58, 53, 52, 58, 49, 51, 32, 71, 77, 84, 13, 10, 67, 111, 110, 116, 101, 110, 116, 45, 84, 121, 112, 101, 58, 32, 116, 101, 120, 116, 47, 112, 108, 97, 105, 110, 59, 32, 99, 104, 97, 114, 115, 101, 116, 61, 117, 116, 102, 45, 56, 13, 10, 84, 114, 97, 110, 115, 102, 101, 114, 45, 69, 110, 99, 111, 100, 105, 110, 103, 58, 32, 99, 104, 117, 110, 107, 101, 100, 13, 10, 84, 114, 97, 105, 108, 101, 114, 58, 32, 88, 45, 84, 13, 10, 13, 10, 49, 13, 10, 97, 13, 10, 50, 13, 10, 98, 99, 13, 10, 48, 13, 10, 88, 45, 84, 58, 32, 118, 13, 10, 13, 10] := by
  rw [message, HW.RespHdr.bytes, HW.block, HW.headerLine_arith]
  decide +kernel

/-- the documented exclusion, as the real server behaves: a hijacked chunked writer answering a HEAD
request sends its chunks (`2\r\nhi\r\n0\r\n\r\n`) after the header block -/
example : message rReal ⟨200, .writer [.write [104, 105]], []⟩ true =
    [72, 84, 84, 80, 47, 49, 46, 49, 32, 50, 48, 48, 32, 79, 75, 13, 10, 83, 101, 114, 118, 101, 114, 58, 32, 104, 101, 114, 116, 122, 13, 10, 68, 97, 116, 101, 58, 32, 84, 117, 101, 44, 32, 50, 57, 32, 83, 101, 112, 32, 50, 48, 50, 54, 32, 48, 57, 58, 53, 52, 58, 49, 51, 32, 71, 77, 84, 13, 10, 67, 111, 110, 116, 101, 110, 116, 45, 84, 121, 112, 101, 58, 32, 116, 101, 120, 116, 47, 112, 108, 97, 105, 110, 59, 32, 99, 104, 97, 114, 115, 101, 116, 61, 117, 116, 102, 45, 56, 13, 10, 84, 114, 97, 110, 115, 102, 101, 114, 45, 69, 110, 99, 111, 100, 105, 110, 103, 58, 32, 99, 104, 117, 110, 107, 101, 100, 13, 10, 13, 10, 50, 13, 10, 104, 105, 13, 10, 48, 13, 10, 13, 10] := by
  rw [message, HW.RespHdr.bytes, HW.block, HW.headerLine_arith]
  decide +kernel

/-! ### header states whose framing fields have been set

`HeadOK` is the header before anything touched its framing fields.  `HeadInv r status d` is the
invariant `SetContentLength`, `Header.Set("Content-Length", …)` and `Serve`'s `Connection` edit keep: no generic field called Content-Length; `contentLengthBytes` empty or a
decimal number; at most one generic field called Transfer-Encoding, spelled exactly so, with value
`chunked`, and never next to a Content-Length; `d` is what such a state declares by itself
(`Declares`).  The writer's `SetContentLength` overrides the declaration; where the writer makes no call
(HEAD or 1xx/204/304 with nothing to announce) the declaration goes out as it is, e.g. the
`Content-Length` a handler set on the answer to a HEAD request. -/

theorem response_decodes_any_state (r : HW.RespHdr) (d : Spec.Resp.Framing) (p : Prog) (isHead : Bool) (rest : Bytes)
    (hr : HeadInv r p.status d) (hs : SizesFit p) (hw : WriterHasBody p isHead)
    (hok : (frame p isHead).failed = false) :
    decodeOne isHead (message r p isHead ++ rest) =
      some ({ expected r p isHead with framing := effFraming d (frame p isHead).framing }, rest) :=
  message_decodes_inv r d p isHead rest hr hs hw hok

/-- `SetContentLength` keeps the invariant (so the theorem applies again to the next `Write` on the same header) -/
theorem set_content_length_keeps_invariant (r : HW.RespHdr) (st : Nat) (d : Spec.Resp.Framing) (f : H1.Resp.Framing)
    (hr : HeadInv r st d) (hn : ∀ n, f = .cl n → n < 2 ^ 63) : HeadInv (withFraming r f) st (effFraming d f) :=
  withFraming_inv hr fun n e => Nat.lt_trans (hn n e) two63_lt

/-- non-vacuity: `c.Header("Content-Length", "5")` on the answer to a HEAD request (replayed on the real
server: `respw M:HEAD:1.1:0 H:436f6e74656e742d4c656e677468:35`, these bytes) -/
def rDeclared : HW.RespHdr := { rReal with clBytes := [53], contentLength := 5 }

theorem rDeclared_inv : HeadInv rDeclared 200 (.cl 5) :=
  ⟨rReal_ok.1, rReal_ok.2.1, rReal_ok.2.2.1, (by intro kv h; cases h),
   (Declares.cl (r := rDeclared) (by decide) (by decide) (by intro kv h; cases h))⟩

example : message rDeclared ⟨200, .bytes [], []⟩ true =
    [72, 84, 84, 80, 47, 49, 46, 49, 32, 50, 48, 48, 32, 79, 75, 13, 10, 83, 101, 114, 118, 101, 114, 58, 32, 104, 101, 114, 116, 122, 13, 10, 68, 97, 116, 101, 58, 32, 84, 117, 101, 44, 32, 50, 57, 32, 83, 101, 112, 32, 50, 48, 50, 54, 32, 48, 57, 58, 53, 52, 58, 49, 51, 32, 71, 77, 84, 13, 10, 67, 111, 110, 116, 101, 110, 116, 45, 84, 121, 112, 101, 58, 32, 116, 101, 120, 116, 47, 112, 108, 97, 105, 110, 59, 32, 99, 104, 97, 114, 115, 101, 116, 61, 117, 116, 102, 45, 56, 13, 10, 67, 111, 110, 116, 101, 110, 116, 45, 76, 101, 110, 103, 116, 104, 58, 32, 53, 13, 10, 13, 10] := by
  rw [message, HW.RespHdr.bytes, HW.block, HW.headerLine_arith]
  decide +kernel

example (rest : Bytes) : (decodeOne true (message rDeclared ⟨200, .bytes [], []⟩ true ++ rest)).map
      (fun m => (m.1.framing, m.1.body, m.2)) = some (.cl 5, [], rest) := by
  rw [response_decodes_any_state rDeclared (.cl 5) _ true rest rDeclared_inv (by simp [SizesFit])
    (by intro s h; cases h) (by decide)]
  rfl

/-- non-vacuity, chunked declaration overridden: `SetBodyStream(r, -1)` then `SetBody("hi")` -/
example (rest : Bytes) :
    (decodeOne false (message { rReal with h := [([88, 45, 65], [49]), (Gen.Str.strTransferEncoding, Gen.Str.strChunked)] }
        ⟨200, .bytes [104, 105], []⟩ false ++ rest)).map (fun m => (m.1.framing, m.1.body, m.2)) =
      some (.cl 2, [104, 105], rest) := by
  rw [response_decodes_any_state _ .chunked _ false rest
    ⟨by decide, by decide, ⟨[79, 75], by unfold NoCRLF; decide, rfl⟩,
      by unfold NoName; rw [sCL_eq]; decide,
      (Declares.chunked [([88, 45, 65], [49])] [] rfl rfl (by unfold NoName; rw [sTE_eq]; decide) (by intro kv h; cases h))⟩
    (by simp [SizesFit]) (by intro s h; cases h) (by decide)]
  rfl

/-- a header state outside the invariant: `Content-Length: 5` next to the `Transfer-Encoding: chunked` that
`SetBodyStream(r, -1)` puts into the generic fields.  A Content-Length setter that stores the value without deleting that
field leaves it; `writeBodyStream` then sees `ContentLength() = 5 ≥ 0`, makes no `SetContentLength` call and copies the
stream unchunked: both framing headers and a body that is not chunk-encoded.  The strict reader rejects it and so does
`net/http.ReadResponse` (regression for /repo db53447). -/
def rBoth : HW.RespHdr :=
  { rReal with date := some [84, 117, 101, 44, 32, 50, 57, 32, 83, 101, 112, 32, 50, 48, 50, 54, 32, 48, 57, 58, 53, 53, 58, 51, 53, 32, 71, 77, 84], clBytes := [53], contentLength := 5,
               h := [(Gen.Str.strTransferEncoding, Gen.Str.strChunked)] }

theorem length_set_after_chunked_stream_fails_at :
    rBoth.bytes ++ [97, 98, 99, 100, 101] =
      [72, 84, 84, 80, 47, 49, 46, 49, 32, 50, 48, 48, 32, 79, 75, 13, 10, 83, 101, 114, 118, 101, 114, 58, 32, 104, 101, 114, 116, 122, 13, 10, 68, 97, 116, 101, 58, 32, 84, 117, 101, 44, 32, 50, 57, 32, 83, 101, 112, 32, 50, 48, 50, 54, 32, 48, 57, 58, 53, 53, 58, 51, 53, 32, 71, 77, 84, 13, 10, 67, 111, 110, 116, 101, 110, 116, 45, 84, 121, 112, 101, 58, 32, 116, 101, 120, 116, 47, 112, 108, 97, 105, 110, 59, 32, 99, 104, 97, 114, 115, 101, 116, 61, 117, 116, 102, 45, 56, 13, 10, 67, 111, 110, 116, 101, 110, 116, 45, 76, 101, 110, 103, 116, 104, 58, 32, 53, 13, 10, 84, 114, 97, 110, 115, 102, 101, 114, 45, 69, 110, 99, 111, 100, 105, 110, 103, 58, 32, 99, 104, 117, 110, 107, 101, 100, 13, 10, 13, 10, 97, 98, 99, 100, 101] ∧
    decodeOne false (rBoth.bytes ++ [97, 98, 99, 100, 101]) = none := by
  refine ⟨by rw [HW.RespHdr.bytes, HW.block, HW.headerLine_arith]; decide +kernel, ?_⟩
  refine decodeOne_none_of_framing false 200
    (HW.parseHead_block rBoth.statusLine _ [97, 98, 99, 100, 101] (by decide)) (by decide +kernel) ?_
  exact framingOf_both _
    (named_ne_nil (kv := (Gen.Str.strContentLength, [53])) (by decide +kernel) validName_CL lowerAll_CL)
    (named_ne_nil (kv := (Gen.Str.strTransferEncoding, Gen.Str.strChunked)) (by decide +kernel) validName_TE lowerAll_TE)

/-! ### the `Content-Length` setter

`ResponseHeader.setSpecialHeader` for `Content-Length` with a value `protocol.ParseContentLength` accepts stores it and
deletes the generic `Transfer-Encoding` field (as `SetContentLength(n ≥ 0)` does); a value that does not parse is ignored.  `setLengthHeader`
(`Model/Http1/RespMsg.lean`) is the model of that setter; the driver follows every
`Header.Set("Content-Length", v)` of a handler program with it and compares the framing fields it
predicts with the header state dumped from the real server. -/

/-- the setter keeps the invariant and makes the header declare the number it was given:
`Header.Set("Content-Length", v)` with `ParseContentLength(v) = n` on any `HeadInv` state -/
theorem set_length_header_keeps_invariant (r : HW.RespHdr) (st : Nat) (d : Spec.Resp.Framing) (v : Bytes) (n : Int)
    (hr : HeadInv r st d) (hp : FS.parseUint v = .ok n) : HeadInv (setLengthHeader r v) st (.cl n.toNat) :=
  setLengthHeader_inv hr hp

/-- a value `ParseContentLength` rejects (empty, a non-digit anywhere, ≥ 2^63) leaves the header untouched -/
theorem set_length_header_ignores_unparseable (r : HW.RespHdr) (v : Bytes) (e : FS.UErr)
    (h : FS.parseUint v = .error e) : setLengthHeader r v = r := by
  simp only [setLengthHeader, h]

/-- non-vacuity: `x`, the empty value and `5x` are rejected -/
example : setLengthHeader rReal [120] = rReal ∧ setLengthHeader rReal [] = rReal ∧ setLengthHeader rReal [53, 120] = rReal :=
  ⟨set_length_header_ignores_unparseable _ _ .trailing (by decide +kernel),
   set_length_header_ignores_unparseable _ _ .empty (by decide +kernel),
   set_length_header_ignores_unparseable _ _ .trailing (by decide +kernel)⟩

/-- the engine's default header at the time of the replay below -/
def rNow : HW.RespHdr := { rReal with date := some [84, 117, 101, 44, 32, 50, 57, 32, 83, 101, 112, 32, 50, 48, 50, 54, 32, 49, 50, 58, 51, 54, 58, 52, 48, 32, 71, 77, 84] }

theorem rNow_ok : HeadOK rNow 200 := rReal_ok

/-- `SetBodyStream(r, -1)` (→ `SetContentLength(-1)`) followed by `Header.Set("Content-Length", "5")`: the header state
the writer starts from -/
def rRepaired : HW.RespHdr := setLengthHeader (withFraming rNow .chunked) [53]

/-- regression for /repo db53447: the state reached by `SetBodyStream(r, -1)` then
`Header.Set("Content-Length", "5")` is inside the invariant and declares `Content-Length: 5`;
`writeBodyStream` reads `ContentLength() = 5` and sends the stream as a fixed-size body, i.e. the program
the writer sees is `.stream 5 …`; the message is byte for byte what the real server writes for
`respw M:GET:1.1:0 BS:-1:6162636465 H:436f6e74656e742d4c656e677468:35` (replayed, these bytes: one
`Content-Length: 5`, no `Transfer-Encoding`), and the strict reader decodes it to the body `abcde` with the
following bytes untouched.  (Without the deletion the state is `rBoth`: `length_set_after_chunked_stream_fails_at`.) -/
theorem length_header_after_chunked_stream_repaired (rest : Bytes) :
    HeadInv rRepaired 200 (.cl 5) ∧
    message rRepaired ⟨200, .stream 5 [[97, 98, 99, 100, 101]], []⟩ false =
      [72, 84, 84, 80, 47, 49, 46, 49, 32, 50, 48, 48, 32, 79, 75, 13, 10, 83, 101, 114, 118, 101, 114, 58, 32, 104, 101, 114, 116, 122, 13, 10, 68, 97, 116, 101, 58, 32, 84, 117, 101, 44, 32, 50, 57, 32, 83, 101, 112, 32, 50, 48, 50, 54, 32, 49, 50, 58, 51, 54, 58, 52, 48, 32, 71, 77, 84, 13, 10, 67, 111, 110, 116, 101, 110, 116, 45, 84, 121, 112, 101, 58, 32, 116, 101, 120, 116, 47, 112, 108, 97, 105, 110, 59, 32, 99, 104, 97, 114, 115, 101, 116, 61, 117, 116, 102, 45, 56, 13, 10, 67, 111, 110, 116, 101, 110, 116, 45, 76, 101, 110, 103, 116, 104, 58, 32, 53, 13, 10, 13, 10, 97, 98, 99, 100, 101] ∧
    decodeOne false (message rRepaired ⟨200, .stream 5 [[97, 98, 99, 100, 101]], []⟩ false ++ rest) =
      some ({ status := 200, fields := HW.kept (withFraming rRepaired (.cl 5)).fields, framing := .cl 5,
              raw := [97, 98, 99, 100, 101], body := [97, 98, 99, 100, 101], trailers := [] }, rest) := by
  have hinv : HeadInv rRepaired 200 (.cl 5) :=
    set_length_header_keeps_invariant _ 200 _ [53] 5
      (set_content_length_keeps_invariant rNow 200 .none .chunked rNow_ok.inv (by intro n h; cases h))
      (by decide +kernel)
  refine ⟨hinv, by rw [message, HW.RespHdr.bytes, HW.block, HW.headerLine_arith]; decide +kernel, ?_⟩
  rw [response_decodes_any_state rRepaired (.cl 5) _ false rest hinv (by simp [SizesFit]) (by intro s h; cases h)
    (by decide)]
  generalize rRepaired = R
  have hf : frame ⟨200, .stream 5 [[97, 98, 99, 100, 101]], []⟩ false =
      { framing := .cl 5, wire := [97, 98, 99, 100, 101], failed := false } := by decide +kernel
  simp only [expected, payload, hf, effFraming, toSpec]
  rfl

/-- the repaired state no longer carries the `Transfer-Encoding` field, the old one did -/
example : rRepaired.h = [] ∧ rRepaired.clBytes = [53] ∧ rRepaired.contentLength = 5 ∧
    rBoth.h = [(Gen.Str.strTransferEncoding, Gen.Str.strChunked)] := by decide +kernel

/-- Without `WriterHasBody` the statement is false: a hijacked chunked writer on a HEAD request
(`respw M:HEAD:1.1:0 CW:w6869`) writes `2\r\nhi\r\n0\r\n\r\n` after the header block; a reader that
knows the request was HEAD takes these 12 bytes for the start of the next response. -/
theorem response_decodes_fails_at_writer_on_head :
    ¬ (∀ (r : HW.RespHdr) (p : Prog) (isHead : Bool) (rest : Bytes), HeadOK r p.status → SizesFit p →
        (frame p isHead).failed = false →
        decodeOne isHead (message r p isHead ++ rest) = some (expected r p isHead, rest)) := by
  intro H
  have h := H rReal ⟨200, .writer [.write [104, 105]], []⟩ true [] rReal_ok (by simp [SizesFit]) (by decide)
  rw [message_bodiless_leftover rReal .none _ true [] rReal_ok.inv (by simp [SizesFit]) (by decide)] at h
  simp only [Option.some.injEq, Prod.mk.injEq] at h
  exact absurd h.2 (by decide)

/-- what is left over in that case -/
theorem writer_on_head_leftover (rest : Bytes) :
    (decodeOne true (message rReal ⟨200, .writer [.write [104, 105]], []⟩ true ++ rest)).map (·.2) =
      some ([50, 13, 10, 104, 105, 13, 10, 48, 13, 10, 13, 10] ++ rest) := by
  rw [message_bodiless_leftover rReal .none _ true rest rReal_ok.inv (by simp [SizesFit]) (by decide)]
  rfl

/-- `response_decodes` is the `_partial` statement: the same with the excluding hypothesis spelled out -/
theorem response_decodes_partial (r : HW.RespHdr) (p : Prog) (isHead : Bool) (rest : Bytes)
    (hr : HeadOK r p.status) (hs : SizesFit p)
    (hw : ∀ s, p.body = .writer s → isHead = false ∧ noBodyStatus p.status = false)
    (hok : (frame p isHead).failed = false) :
    decodeOne isHead (message r p isHead ++ rest) = some (expected r p isHead, rest) :=
  message_decodes r p isHead rest hr hs hw hok

/-- `Unknown Status Code` -/
def strUnknownStatus : Bytes := [85, 110, 107, 110, 111, 119, 110, 32, 83, 116, 97, 116, 117, 115, 32, 67, 111, 100, 101]

/-- Without `100 ≤ status ≤ 999` in `HeadOK` it is false as well: `SetStatusCode(1000)` and
`SetStatusCode(99)` are written verbatim (`HTTP/1.1 1000 Unknown Status Code`), which is not a status line
(the strict reader and `net/http.ReadResponse` both reject it). -/
theorem status_out_of_range_fails_at :
    decodeOne false (message { rReal with statusLine := statusLineOf 1000 strUnknownStatus } ⟨1000, .bytes [104, 105], []⟩ false) = none ∧
    decodeOne false (message { rReal with statusLine := statusLineOf 99 strUnknownStatus } ⟨99, .bytes [104, 105], []⟩ false) = none := by
  constructor
  · refine decodeOne_none_of_status false
      (HW.parseHead_block (statusLineOf 1000 strUnknownStatus) _ [104, 105] (by decide)) (by decide +kernel)
  · refine decodeOne_none_of_status false
      (HW.parseHead_block (statusLineOf 99 strUnknownStatus) _ [104, 105] (by decide)) (by decide +kernel)

/-- the first of these, as the real server writes it (`respw M:GET:1.1:0 ST:1000 B:6869`) -/
example : message { rReal with statusLine := statusLineOf 1000 strUnknownStatus } ⟨1000, .bytes [104, 105], []⟩ false =
    [72, 84, 84, 80, 47, 49, 46, 49, 32, 49, 48, 48, 48, 32, 85, 110, 107, 110, 111, 119, 110, 32, 83, 116, 97, 116, 117, 115, 32, 67, 111, 100, 101, 13, 10, 83, 101, 114, 118, 101, 114, 58, 32, 104, 101, 114, 116, 122, 13, 10, 68, 97, 116, 101, 58, 32, 84, 117, 101, 44, 32, 50, 57, 32, 83, 101, 112, 32, 50, 48, 50, 54, 32, 48, 57, 58, 53, 52, 58, 49, 51, 32, 71, 77, 84, 13, 10, 67, 111, 110, 116, 101, 110, 116, 45, 84, 121, 112, 101, 58, 32, 116, 101, 120, 116, 47, 112, 108, 97, 105, 110, 59, 32, 99, 104, 97, 114, 115, 101, 116, 61, 117, 116, 102, 45, 56, 13, 10, 67, 111, 110, 116, 101, 110, 116, 45, 76, 101, 110, 103, 116, 104, 58, 32, 50, 13, 10, 13, 10, 104, 105] := by
  rw [message, HW.RespHdr.bytes, HW.block, HW.headerLine_arith]
  decide +kernel

/-! ## The connection after a response: sequencing, short streams, the `Connection` decision

`H1.RespSeq` (Model/Http1/RespSeq.lean) is the write side of `Serve`'s keep-alive loop for a list of exchanges;
`Spec.Resp.decodeSeq` (Spec/RespSeq.lean) is the client reading the connection with the strict reader.  `cap` is
the size of the connection's output buffer (what `standard.Conn.ReadFrom` had flushed of a short stream); every
statement holds for every `cap`. -/
section Seq
open Hertz.H1.RespSeq Hertz.Gen.Str

/-- **each next response starts exactly where the previous one ends**: for every list of exchanges with `HeadOK`
header states (no writer failing), the client reads back exactly the responses of the exchanges `Serve` answered
— all of them up to and including the first one that closes (or hijacks) — and nothing is left over -/
theorem responses_decode_in_sequence (cap : Nat) (xs : List Exch) (hg : ∀ e ∈ xs, Good e ∧ e.early = false)
    (hf : ∀ e ∈ xs, failed e = false) :
    decodeSeq (xs.map (·.isHead)) (wire cap xs) = some ((answered xs).map expMsg, []) := by
  rw [decodeSeq_wire_inv cap (fun _ => .none) xs (fun e he => ⟨(hg e he).1.inv, (hg e he).2⟩) hf]
  simp only [expMsgInv_none]

/-- what "answered" means: the exchanges before the first one that ends `Serve`'s loop (close decision, hijack, writer
error), and that one too unless its writer failed; always an initial segment of the request stream -/
theorem answered_up_to_first_close (pre : List Exch) (e : Exch) (es : List Exch) (hp : ∀ x ∈ pre, stops x = false)
    (hs : stops e = true) : answered (pre ++ e :: es) = if failed e then pre else pre ++ [e] := by
  rw [answered_go pre _ hp]
  rcases stops_true hs with h1 | ⟨h1, h2⟩
  · simp [answered, h1]
  · simp [answered, h1, h2]

theorem answered_is_prefix (xs : List Exch) : answered xs <+: xs := by
  induction xs with
  | nil => exact List.prefix_refl _
  | cons e es ih =>
    simp only [answered]
    split
    · exact List.nil_prefix
    · split
      · exact (List.prefix_cons_inj e).mpr List.nil_prefix
      · exact (List.prefix_cons_inj e).mpr ih

theorem answered_everything_on_keep_alive (xs : List Exch) (h : ∀ x ∈ xs, stops x = false) : answered xs = xs := by
  have := answered_go xs [] h
  simpa [answered] using this

/-- the messages of exchanges that keep the connection stand one behind the other, then the rest of the loop -/
theorem wire_is_concatenation (cap : Nat) (pre es : List Exch) (h : ∀ x ∈ pre, stops x = false) :
    wire cap (pre ++ es) = (pre.map msg).flatten ++ wire cap es :=
  wire_append_go cap pre es h

/-- **a stream shorter than declared is the last thing on the wire**, for every continuation `es` of the request
stream and wherever the exchange stands; what is written of it is the header block and whole buffers of the bytes
delivered (`partialMsg`) -/
theorem short_stream_closes (cap : Nat) (pre : List Exch) (e : Exch) (es : List Exch) (hf : failed e = true) :
    wire cap (pre ++ e :: es) = wire cap (pre ++ [e]) ∧
    ((∀ x ∈ pre, stops x = false) → wire cap (pre ++ e :: es) = (pre.map msg).flatten ++ partialMsg cap e) := by
  have hs : stops e = true := by simp [stops, hf]
  refine ⟨wire_after_stop cap pre e es hs, fun hp => ?_⟩
  rw [wire_after_stop cap pre e es hs, wire_append_go cap pre [e] hp, wire_failed_last cap e hf]

/-- what is written of it cannot be taken for a complete message … -/
theorem short_stream_undecodable (cap : Nat) (e : Exch) (g : Good e) (hf : failed e = true) :
    decodeOne e.isHead (partialMsg cap e) = none :=
  partial_undecodable cap .none e g.inv hf

/-- … so the client gets an error for that connection, never a body the handler did not produce (seed C04-m5
breaks exactly this: the next response was taken for the rest of the body) -/
theorem short_stream_is_detected (cap : Nat) (pre : List Exch) (e : Exch) (es : List Exch) (g : Good e)
    (hf : failed e = true) (hp : ∀ x ∈ pre, Good x ∧ x.early = false ∧ stops x = false) :
    decodeSeq ((pre ++ e :: es).map (·.isHead)) (wire cap (pre ++ e :: es)) = none :=
  decodeSeq_short cap (fun _ => .none) e es g.inv hf pre (fun x hx => ⟨(hp x hx).1.inv, (hp x hx).2⟩)

/-- **close decision, the rule**: `Serve` closes after an exchange exactly for: server not keeping connections,
request `Connection: close`, HTTP/1.0 request without `Connection: keep-alive`, response marked close (handler, or
`Serve`'s own error answer) -/
theorem close_decision_cases (e : Exch) :
    closes e = true ↔ e.srvClose = true ∨ e.reqConn = .close ∨ (e.http11 = false ∧ e.reqConn ≠ .keepAlive) ∨ e.respClose = true := by
  cases h1 : e.http11 <;> cases h2 : e.reqConn <;> simp [closes, reqClose, h1, h2]

/-- **close decision, announced**: the response the client reads carries `Connection: close` exactly when the model
closes (header block not sent early by the hijacked writer) -/
theorem close_decision_announced (e : Exch) (g : Good e) (he : e.early = false) : saysClose (expMsg e) = closes e := by
  rw [← expMsgInv_none, saysClose_expMsgInv .none e g.inv he]

/-- an HTTP/1.0 peer whose connection is kept reads `Connection: keep-alive` -/
theorem close_decision_keep_alive_1_0 (e : Exch) (he : e.early = false) (hc : closes e = false) (hv : e.http11 = false) :
    saysKeepAlive (expMsg e) = true := by
  have h0 : (strConnection, strKeepAlive) ∈ (serveHdr e).h := by
    simp only [serveHdr, he, hc, hv, Bool.false_eq_true, if_false, Bool.not_false, if_true]
    exact mem_setArgKV_self
  have := mem_kept_fields _ (mem_withFraming (serveHdr e) (frame e.p e.isHead).framing h0 (by decide)) (by decide)
    (by rw [HW.validName_eq]; decide +kernel)
  unfold saysKeepAlive
  rw [expMsg_fields, List.any_eq_true]
  exact ⟨_, this, by rw [HW.newlineToSpace_eq]; decide +kernel⟩

/-- **nothing follows** an exchange after which `Serve` leaves its loop (close decision, writer error, hijack) -/
theorem no_response_after_close (cap : Nat) (pre : List Exch) (e : Exch) (es : List Exch) (h : stops e = true) :
    wire cap (pre ++ e :: es) = wire cap (pre ++ [e]) :=
  wire_after_stop cap pre e es h

theorem no_response_after_close_wire (cap : Nat) (pre : List Exch) (e : Exch) (es : List Exch) (h : closes e = true)
    (hok : failed e = false) (hp : ∀ x ∈ pre, stops x = false) :
    wire cap (pre ++ e :: es) = (pre.map msg).flatten ++ msg e := by
  have hs : stops e = true := by simp [stops, h]
  rw [wire_after_stop cap pre e es hs, wire_append_go cap pre [e] hp]
  simp [wire, hok, h]

/-- `GET` HTTP/1.1 answered `200` with body `hi` -/
def xHi : Exch := { http11 := true, reqConn := .absent, isHead := false, r := rReal, p := ⟨200, .bytes [104, 105], []⟩, respClose := false }
/-- `SetBodyStream(r, 5)` whose reader delivers `ab` and then `io.EOF` -/
def xShort : Exch := { xHi with p := ⟨200, .stream 5 [[97, 98]], []⟩ }
/-- an HTTP/1.0 request with `Connection: keep-alive` -/
def xOld : Exch := { xHi with http11 := false, reqConn := .keepAlive }
/-- `ctx.SetConnectionClose()` -/
def xBye : Exch := { xHi with r := { rReal with connClose := true }, respClose := true }

theorem good_of_rReal (e : Exch) (h1 : e.r.h = []) (h2 : e.r.statusLine = rReal.statusLine) (h3 : e.r.clBytes = [])
    (h4 : e.p.status = 200) (hs : SizesFit e.p) (hw : WriterHasBody e.p e.isHead) (hc : e.r.connClose = e.respClose) : Good e :=
  { head := by
      rw [h4]
      exact ⟨rReal_ok.1, rReal_ok.2.1, h2 ▸ rReal_ok.2.2.1, h3, by intro kv h; rw [h1] at h; cases h⟩
    sizes := hs, writer := hw, noConn := by intro kv h; rw [h1] at h; cases h
    flag := hc }

theorem xHi_good : Good xHi := good_of_rReal _ rfl rfl rfl rfl (by simp [xHi, SizesFit]) (by intro s h; cases h) rfl
theorem xOld_good : Good xOld := good_of_rReal _ rfl rfl rfl rfl (by simp [xOld, xHi, SizesFit]) (by intro s h; cases h) rfl
theorem xBye_good : Good xBye := good_of_rReal _ rfl rfl rfl rfl (by simp [xBye, xHi, SizesFit]) (by intro s h; cases h) rfl
theorem xShort_good : Good xShort :=
  good_of_rReal _ rfl rfl rfl rfl (by simp [xShort, xHi, SizesFit]) (by intro s h; cases h) rfl

example : failed xShort = true ∧ failed xHi = false ∧ closes xBye = true ∧ closes xOld = false := by decide

example : answered [xHi, xOld, xBye, xHi] = [xHi, xOld, xBye] ∧ answered [xHi, xShort, xHi] = [xHi] := by
  constructor
  · exact answered_up_to_first_close [xHi, xOld] xBye [xHi] (by decide) (by decide)
  · exact answered_up_to_first_close [xHi] xShort [xHi] (by decide) (by decide)


/-- three requests, the third asks to close, a fourth is never answered -/
example : decodeSeq [false, false, false, false] (wire 4096 [xHi, xOld, xBye, xHi]) = some ([expMsg xHi, expMsg xOld, expMsg xBye], []) :=
  responses_decode_in_sequence 4096 [xHi, xOld, xBye, xHi]
    (by intro e he; simp only [List.mem_cons, List.not_mem_nil, or_false] at he
        rcases he with rfl | rfl | rfl | rfl
        · exact ⟨xHi_good, rfl⟩
        · exact ⟨xOld_good, rfl⟩
        · exact ⟨xBye_good, rfl⟩
        · exact ⟨xHi_good, rfl⟩)
    (by decide)

/-- replayed on the real server (`respq Q:GET:1.1:- ST:200 B:6869 / Q:GET:1.1:- ST:200 BS:5:6162 / Q:GET:1.1:- ST:200 B:6869`):
the first response, then the header block announcing 5 bytes, and nothing else — the two bytes delivered are still in
the output buffer when `Serve` returns -/
example : wire 4096 [xHi, xShort, xHi] = msg xHi ++ (withFraming rReal (.cl 5)).bytes := by
  simp only [wire, msg, partialMsg, message, HW.RespHdr.bytes, HW.block, HW.headerLine_arith]
  decide +kernel

example : decodeSeq [false, false, false] (wire 4096 [xHi, xShort, xHi]) = none :=
  short_stream_is_detected 4096 [xHi] xShort [xHi] xShort_good (by decide)
    (by intro x hx; simp only [List.mem_singleton] at hx; subst hx; exact ⟨xHi_good, rfl, by decide⟩)

example : saysKeepAlive (expMsg xOld) = true ∧ saysClose (expMsg xBye) = true ∧ saysClose (expMsg xHi) = false :=
  ⟨close_decision_keep_alive_1_0 xOld rfl (by decide) rfl,
   by rw [close_decision_announced xBye xBye_good rfl]; decide,
   by rw [close_decision_announced xHi xHi_good rfl]; decide⟩

/-- the hijacked chunked writer sends the header block with its first `Write`; a `ctx.SetConnectionClose()` after
that closes the connection without the response saying so (`respq Q:GET:1.1:- ST:200 CW:w6869 CC / …`) -/
def xEarly : Exch :=
  { xHi with p := ⟨200, .writer [.write [104, 105]], []⟩, respClose := true, early := true }

theorem close_decision_announced_fails_at_early_header :
    ¬ (∀ e : Exch, HeadOK e.r e.p.status → NoConn e.r.h → saysClose (expMsg e) = closes e) := by
  intro H
  have h := H xEarly rReal_ok (by intro kv h; cases h)
  have h1 : closes xEarly = true := by decide
  have h2 : saysClose (expMsg xEarly) = false :=
    saysClose_expMsg_early xEarly (by intro kv h; cases h) rfl
  rw [h1, h2] at h
  cases h

/-- the same **for `HeadInv` header states** (`Content-Length` already set by
`SetBodyStream` / `Header.Set`, `Transfer-Encoding: chunked` already among the generic fields); `d e` is what the header
state of `e` declares by itself, the response read back has the framing `effFraming (d e) (writer's framing)` -/
theorem responses_decode_in_sequence_any_state (cap : Nat) (d : Exch → Spec.Resp.Framing) (xs : List Exch)
    (hg : ∀ e ∈ xs, GoodInv (d e) e ∧ e.early = false) (hf : ∀ e ∈ xs, failed e = false) :
    decodeSeq (xs.map (·.isHead)) (wire cap xs) = some ((answered xs).map (fun e => expMsgInv (d e) e), []) :=
  decodeSeq_wire_inv cap d xs hg hf

/-- `c.Header("Content-Length", "5")` on the answer to a HEAD request, then an ordinary exchange -/
def xDeclared : Exch := { xHi with isHead := true, r := rDeclared, p := ⟨200, .bytes [], []⟩ }

theorem xDeclared_good : GoodInv (.cl 5) xDeclared :=
  { head := rDeclared_inv, sizes := by simp [xDeclared, xHi, SizesFit], writer := by intro s h; cases h
    noConn := by intro kv h; cases h
    flag := rfl }

example : decodeSeq [true, false] (wire 4096 [xDeclared, xHi]) =
    some ([expMsgInv (.cl 5) xDeclared, expMsgInv .none xHi], []) :=
  responses_decode_in_sequence_any_state 4096 (fun e => if e.isHead then .cl 5 else .none) [xDeclared, xHi]
    (by intro e he; simp only [List.mem_cons, List.not_mem_nil, or_false] at he
        rcases he with rfl | rfl
        · exact ⟨xDeclared_good, rfl⟩
        · exact ⟨xHi_good.inv, rfl⟩)
    (by decide)

/-- a header state that holds the generic field `Connection: Close` with the close flag clear (`Set`/`Add`/`SetCanonical` do not produce it) -/
def xCloseCase : Exch := { xHi with r := { rReal with h := [(strConnection, [67, 108, 111, 115, 101])] } }
/-- `Header.Set("Connection", "upgrade")` is inside the hypotheses -/
def xUpgrade : Exch := { xHi with r := { rReal with h := [(strConnection, [117, 112, 103, 114, 97, 100, 101])] } }

theorem xUpgrade_good : Good xUpgrade :=
  { head := ⟨rReal_ok.1, rReal_ok.2.1, rReal_ok.2.2.1, rfl, conn_field_ok _⟩
    sizes := by simp [xUpgrade, xHi, SizesFit], writer := by intro s h; cases h
    noConn := by
      intro kv h
      simp only [xUpgrade, xHi, List.mem_singleton] at h
      subst h
      exact Or.inr (by decide +kernel)
    flag := rfl }

example : saysClose (expMsg xUpgrade) = false := by
  rw [close_decision_announced xUpgrade xUpgrade_good rfl]; decide

/-- **why the hypothesis on the generic fields is there**: in a header STATE that holds the generic field
`Connection: Close` with the close flag clear, the announcement is false — the response reads `Connection: Close`, which every
client takes for the `close` option (RFC 7230 §6.1), while `Serve` keeps the connection.  The setter recognises the option in
any letter case and sets the flag, so `Set`/`Add`/`SetCanonical` do not produce the state; the driver's `respq` cases with `Close` require the
close (regression for /repo 9dcdbe5). -/
theorem close_decision_announced_fails_at_close_case :
    ¬ (∀ e : Exch, HeadOK e.r e.p.status → e.early = false → e.r.connClose = e.respClose →
        saysClose (expMsg e) = closes e) := by
  intro H
  have h := H xCloseCase
    ⟨rReal_ok.1, rReal_ok.2.1, rReal_ok.2.2.1, rfl, conn_field_ok _⟩ rfl rfl
  have h1 : closes xCloseCase = false := by decide
  have h2 : saysClose (expMsg xCloseCase) = true := by
    -- the stored field `Connection: Close` is among those the client reads
    unfold saysClose
    rw [expMsg_fields, HW.kept_arith]
    decide +kernel
  rw [h1, h2] at h
  cases h

end Seq

end Hertz.Props.C04
