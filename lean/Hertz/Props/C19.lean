import Hertz.Proofs.Tracer
import Hertz.Proofs.ServeSkeleton
import Hertz.Proofs.TraceRefine
/-!
# C19 — tracer start/finish calls pair up exactly once per request, in causal order

Model (`Model/Tracer.lean`): `Server.Serve` reduced to its tracer-relevant actions — `DoStart`/`DoFinish`
sites, `eventStack` push/pop, `traceStarted`, every `return`, the deferred epilogue — driven by a
*history* (one `Iter` per loop iteration: does the idle peek fail, and which path the iteration takes:
header error / body error / 100-continue failures / handled and then handler panic, write error, flush
error, body-stream release error, hijack, close, keep-alive), for both idle styles (`idleZero`: return to
the poller after every request) and any number of `Serve` calls per connection; `observe` runs the
actions against `httpStats` (`Record` with the level filter, `eventMap[idx]`, `Reset`) and a recording
tracer.  The property itself is `Spec/Tracer.lean:logOK`, written against the call log only.

Proved, for every configuration with a tracer, every trace level (any `Nat`), every history of every
length and every number of `Serve` calls on the connection:
* `start_finish_alternate`, `no_finish_without_start` — calls alternate `S F S F …` beginning with a
  start; at every moment #F ≤ #S ≤ #F + 1; the log of a finished connection ends on a finish;
* `pairs_bracket_requests` — the full predicate: the n-th pair's start plants n, its handler (if the
  request got that far) and its finish find n, the finish still sees the data of exactly that handled
  request, a start sees an event table holding nothing of an earlier request, a finish sees
  start ≤ read-header ≤ read-body ≤ handle ≤ write ≤ finish with every started stage finished (error
  exits and an unwinding handler panic included);
* `finish_events_ordered` — the stage order alone, the part people quote, extracted;
* `no_tracer_no_calls` — without a tracer nothing is called;
* `model_matches_gen`, `events_match_gen`, `skeleton_balanced`, `iter_follows_skeleton` — the model is
  tied to the source: the hand-written skeleton equals the one regenerated from `server.go`; on every
  control-flow path through a loop iteration every push has its pop, `DoStart`/`DoFinish` alternate and
  the loop-head state is restored; every pass of the functional model is one of these paths; event
  indices and levels are those of `event.go`.

Without the `traceStarted` guard of the deferred function a keep-alive connection that ends while idle gets a
`Finish` with no `Start` (log `S F S F F`, F9): the regression examples below; removing the guard breaks
`skeleton_balanced` as well as the correspondence.

From byte streams to histories (`Proofs/TraceRefine.lean`), for every configuration, stream end and byte
stream of every length:
* `classify_refines_serve` — the history `H1.classify` reads off a byte stream and the event list of the
  keep-alive loop model `H1.serve` project onto the same word over the alphabet they share (`H1.Out`:
  request target reached the handler / response written: handler's or error response, connection kept
  or closed).  The projections are explicit: `H1.projEv` (forgets the parsed request except its target,
  the status except "is it 200", and the interim `100 Continue`) and `H1.projIters` (idle-wait end,
  `ErrNothingRead` and `io.EOF` closes show nothing; a read failure answered by `writeErrorResponse` shows
  `resp false true`; a handled request shows its target and the response).  Neither alphabet embeds in
  the other, so there is no projection from one onto the other: `Ev.req` carries the whole parsed request
  and `Ev.resp` the status, which no `Outcome` has; an `Outcome` tells three silent closes apart, which
  the (empty) event list does not.
  Hypotheses = exactly what `H1.serve` does not model: `poll = false` (in-loop idle handling; `serve` has
  no return-to-poller style), `Common t` for every iteration (not: unwinding handler panic, hijack,
  failing write/flush of the response or of the interim `100 Continue`, handler-initiated
  `Connection: close` — none of them is an event of `serve`, whose handler is the echo handler), and no
  `Ev.unmodelled` (hand-over to `mime/multipart`; `classify_refines_serve_noPreParse`: implied by
  `preParse = false`).  `refinement_needs_*` show on concrete streams that each hypothesis is needed.
  A recovered handler panic and a write failure scheduled for a *later* write are on the common ground.
* `tracer_log_of_every_stream`, `tracer_pairs_per_request` — the tracer theorems applied to byte streams:
  the call log of every stream is accepted by `logOK` (every configuration, `poll` included); on the
  common ground it has exactly one handler run — inside its own `Start … Finish` pair — per `.req`
  event of `serve`, at most one more pair (the exchange that failed before the handler), and as many
  finishes as starts.

* `classify_refines_serve_upto` — for every stream (no hypothesis on the iterations): the projection of the
  longest prefix of the history that stays on the common ground is a prefix of the projection of
  `serve`'s events; i.e. the two models agree up to the first iteration that leaves the common ground.

TODO-OPEN (not part of the property; decided per explored case by the correspondence):
* from the first iteration outside the common ground on, `classify` and `serve` are not compared by a
  theorem: they describe different handlers there (`serve`: echo handler, writes never fail).
* return-to-poller style (`poll = true`): `tracer_log_of_every_stream` covers it; the refinement and the
  count of handler runs per `.req` event are stated for `poll = false` only, because `serve` models the
  in-loop idle wait (`refinement_needs_inloop_idle` is the stream on which the two styles differ).
-/
namespace Hertz.Props.C19
open Hertz Hertz.Tracer

/-- **Pairing, data and stage order.**  The call log of every connection is a sequence of complete pairs
`Start, [handler], Finish` accepted by `Spec.Tracer.logOK`. -/
theorem pairs_bracket_requests (cfg : Cfg) (hen : cfg.enableTrace = true) (lv : Level)
    (hists : List (List Iter)) : logOK lv (observe lv (connection cfg hists)) = true :=
  connection_logOK cfg hen lv hists

/-- **Alternation.**  Start and finish calls strictly alternate, beginning with a start and ending with
a finish (so the end of a keep-alive connection produces no extra call). -/
theorem start_finish_alternate (cfg : Cfg) (hen : cfg.enableTrace = true) (lv : Level)
    (hists : List (List Iter)) : alternates (observe lv (connection cfg hists)) = true :=
  pairsFrom_alternates lv 1 1 _ (connection_logOK cfg hen lv hists)

/-- the same for one call of `Serve` (in-loop idle handling) -/
theorem start_finish_alternate_serve (cfg : Cfg) (hen : cfg.enableTrace = true) (lv : Level)
    (hist : List Iter) : alternates (observe lv (serve cfg hist)) = true := by
  have := start_finish_alternate cfg hen lv [hist]
  simpa [connection] using this

/-- **No finish without an unmatched start**, at every moment: for every prefix `p` of the log,
`#Finish ≤ #Start ≤ #Finish + 1`. -/
theorem no_finish_without_start (cfg : Cfg) (hen : cfg.enableTrace = true) (lv : Level)
    (hists : List (List Iter)) (p q : List Call) (h : observe lv (connection cfg hists) = p ++ q) :
    nFinishes p ≤ nStarts p ∧ nStarts p ≤ nFinishes p + 1 := by
  have ha := start_finish_alternate cfg hen lv hists
  rw [h] at ha
  simpa using alternatesFrom_prefix p q false ha

/-- **Stage order.**  Whatever way the exchange ended, the event table a `Finish` sees is ordered
start ≤ read-header ≤ read-body ≤ handle ≤ write ≤ finish, every started stage is finished, later
stages imply earlier ones, and `Stats().Error()` agrees with the status of `HTTPFinish`. -/
theorem finish_events_ordered (cfg : Cfg) (hen : cfg.enableTrace = true) (lv : Level)
    (hists : List (List Iter)) (c d : Option Nat) (e : Bool) (f : Snap)
    (hm : Call.finish c d e f ∈ observe lv (connection cfg hists)) :
    ordered f = true ∧ finishSnapOK lv d.isSome e f = true :=
  have h := pairsFrom_finish lv 1 1 _ (connection_logOK cfg hen lv hists) c d e f hm
  ⟨finishSnapOK_ordered h, h⟩

/-- **Without a tracer** (`EnableTrace` false) no tracer call is made; handlers run with the caller's context. -/
theorem no_tracer_no_calls (cfg : Cfg) (hen : cfg.enableTrace = false) (lv : Level)
    (hists : List (List Iter)) : logOffOK 1 (observe lv (connection cfg hists)) = true := by
  obtain ⟨_, p⟩ := advances_connection cfg untraced_enter (untraced_pass cfg hen) hists { level := lv } rfl
  have := p []
  simp only [List.append_nil] at this
  simpa [observe, logOffOK] using this

/-! ### tie to the source -/

/-- The skeleton the model is written from is the one `server.go` has (regenerated on every run):
order of `DoStart` / `DoFinish` / `Record` / push / pop / `traceStarted` writes / `return`s, block structure. -/
theorem model_matches_gen : serveSk.flatten = Hertz.Gen.ServeSkeleton.tokens := by rfl

/-- Event indices (slots of `eventMap`), levels and the table size are those declared in `event.go`. -/
theorem events_match_gen : eventsMatchGen = true := by decide +kernel

/-- On every control-flow path through one loop iteration (722 with tracing, deferred function included):
every push has its pop, no pop hits an empty stack, `DoStart`/`DoFinish` alternate, nothing is left
open at exit, and a path reaching the loop end restores the loop-head state. -/
theorem skeleton_balanced (en : Bool) (r : PSt × Bool) (h : r ∈ iterPaths en) : PSt.balanced en r = true :=
  Hertz.Tracer.skeleton_balanced en r h

/-- Every pass of the functional model (whatever configuration, position, idle-wait answer, outcome) is
one of the paths of that skeleton, action for action. -/
theorem iter_follows_skeleton (cfg : Cfg) (first : Bool) (it : Iter) :
    ∃ r ∈ iterPaths cfg.enableTrace,
      r.1.acts = eraseActs (iterStep cfg first it).1 ∧ r.2 = (iterStep cfg first it).2.isNone :=
  Hertz.Tracer.iter_follows_skeleton cfg first it

/-! ### from byte streams to histories -/

/-- **Refinement.**  In-loop idle handling, every iteration on the ground both models cover, no
hand-over to `mime/multipart`: the history read off the byte stream by `H1.classify` and the event list
of the keep-alive loop model `H1.serve` project onto the same sequence of handled request targets,
responses and close decisions. -/
theorem classify_refines_serve (c : H1.TraceCfg) (hp : c.poll = false) (e : H1.End) (s : Bytes)
    (hc : ∀ t ∈ H1.classify c e s, H1.Common t = true) (hu : H1.Ev.unmodelled ∉ H1.serve c.h1 e s) :
    H1.projIters true (H1.classify c e s) = H1.projEv (H1.serve c.h1 e s) :=
  H1.classify_refines_serve c hp e s hc hu

/-- the same with the hypothesis on `serve` replaced by the configuration flag that implies it -/
theorem classify_refines_serve_noPreParse (c : H1.TraceCfg) (hp : c.poll = false) (hpp : c.h1.preParse = false)
    (e : H1.End) (s : Bytes) (hc : ∀ t ∈ H1.classify c e s, H1.Common t = true) :
    H1.projIters true (H1.classify c e s) = H1.projEv (H1.serve c.h1 e s) :=
  H1.classify_refines_serve c hp e s hc (H1.serve_no_unmodelled c.h1 hpp e s)

/-- **Refinement up to divergence**, for every stream: the part of the history before the first iteration
that leaves the common ground projects onto a prefix of what `H1.serve` reports. -/
theorem classify_refines_serve_upto (c : H1.TraceCfg) (hp : c.poll = false) (e : H1.End) (s : Bytes)
    (hu : H1.Ev.unmodelled ∉ H1.serve c.h1 e s) :
    H1.projIters true ((H1.classify c e s).takeWhile (H1.Common ·)) <+: H1.projEv (H1.serve c.h1 e s) := by
  obtain ⟨tail, h, _⟩ := H1.classifyLoop_refines c hp e (s.length + 1) true none s hu
  exact ⟨tail, h.symm⟩

/-- **The tracer theorems apply to every byte stream**: whatever the configuration (idle style included),
the way the stream ends and the bytes, the call log of the connection is a sequence of complete pairs. -/
theorem tracer_log_of_every_stream (c : H1.TraceCfg) (e : H1.End) (s : Bytes) (lv : Level) :
    logOK lv (observe lv (H1.traceActs c true e s)) = true ∧
    alternates (observe lv (H1.traceActs c true e s)) = true :=
  ⟨H1.traceActs_logOK c e s lv, pairsFrom_alternates lv 1 1 _ (H1.traceActs_logOK c e s lv)⟩

/-- **One pair per request.**  On the common ground the call log has exactly one handler run — inside
its own `Start … Finish` pair, by `logOK` — per `.req` event of `H1.serve`, at most one pair more (the
exchange that failed or ended before the handler), and every start has its finish. -/
theorem tracer_pairs_per_request (c : H1.TraceCfg) (hp : c.poll = false) (e : H1.End) (s : Bytes)
    (hc : ∀ t ∈ H1.classify c e s, H1.Common t = true) (hu : H1.Ev.unmodelled ∉ H1.serve c.h1 e s) (lv : Level) :
    logOK lv (observe lv (H1.traceActs c true e s)) = true ∧
    nHandles (observe lv (H1.traceActs c true e s)) = H1.nReqs (H1.serve c.h1 e s) ∧
    H1.nReqs (H1.serve c.h1 e s) ≤ nStarts (observe lv (H1.traceActs c true e s)) ∧
    nStarts (observe lv (H1.traceActs c true e s)) ≤ H1.nReqs (H1.serve c.h1 e s) + 1 ∧
    nFinishes (observe lv (H1.traceActs c true e s)) = nStarts (observe lv (H1.traceActs c true e s)) := by
  have hok := H1.traceActs_logOK c e s lv
  have hacts : H1.traceActs c true e s = .enter :: serveLoop ⟨true, false⟩ true ((H1.classify c e s).map (·.it)) {} := by
    simp [H1.traceActs, H1.histories, hp, connection, serve]
  obtain ⟨hh, hs⟩ := H1.serveLoop_counts ⟨true, false⟩ rfl rfl (H1.classify c e s) true
    (H1.classifyLoop_loopShaped c hp e (s.length + 1) true none s)
  rw [classify_refines_serve c hp e s hc hu, H1.nReqOut_projEv] at hh hs
  obtain ⟨hf, hle⟩ := pairsFrom_counts lv 1 1 _ hok
  have hH : nHandles (observe lv (H1.traceActs c true e s)) = H1.nReqs (H1.serve c.h1 e s) := by
    rw [observe, nHandles_run, hacts]; exact hh
  have hS : nStarts (observe lv (H1.traceActs c true e s)) ≤ H1.nReqs (H1.serve c.h1 e s) + 1 := by
    rw [observe, nStarts_run, hacts]; exact hs
  exact ⟨hok, hH, hH ▸ hle, hS, hf⟩

/-! #### the hypotheses of `classify_refines_serve` are satisfiable and each is needed -/

/-- `GET /a HTTP/1.1\r\nHost: x\r\n\r\n` -/
def reqA : Bytes := [71,69,84,32,47,97,32,72,84,84,80,47,49,46,49,13,10,72,111,115,116,58,32,120,13,10,13,10]
/-- `POST /p HTTP/1.1\r\nHost: x\r\nContent-Length: 2\r\nExpect: 100-continue\r\n\r\nhi` -/
def reqCont : Bytes := [80,79,83,84,32,47,112,32,72,84,84,80,47,49,46,49,13,10,72,111,115,116,58,32,120,13,10,67,111,110,116,101,110,116,45,76,101,110,103,116,104,58,32,50,13,10,69,120,112,101,99,116,58,32,49,48,48,45,99,111,110,116,105,110,117,101,13,10,13,10,104,105]
/-- the same with `Content-Type: multipart/form-data` -/
def reqMp : Bytes := [80,79,83,84,32,47,112,32,72,84,84,80,47,49,46,49,13,10,72,111,115,116,58,32,120,13,10,67,111,110,116,101,110,116,45,84,121,112,101,58,32,109,117,108,116,105,112,97,114,116,47,102,111,114,109,45,100,97,116,97,13,10,67,111,110,116,101,110,116,45,76,101,110,103,116,104,58,32,50,13,10,69,120,112,101,99,116,58,32,49,48,48,45,99,111,110,116,105,110,117,101,13,10,13,10,104,105]
/-- `BAD\r\n\r\n` -/
def reqBad : Bytes := [66,65,68,13,10,13,10]
/-- `GET <target> HTTP/1.1\r\nHost: x\r\n\r\n` -/
def getReq (target : Bytes) : Bytes :=
  [71,69,84,32] ++ target ++ [32,72,84,84,80,47,49,46,49,13,10,72,111,115,116,58,32,120,13,10,13,10]
def tHijack : Bytes := [47,104,105,106,97,99,107]
def tWfailnext : Bytes := [47,119,102,97,105,108,110,101,120,116]
def tClose : Bytes := [47,99,108,111,115,101]
def tPanic : Bytes := [47,112,97,110,105,99]

/-- a plain request, one with `Expect: 100-continue` and a body, then a malformed head: all hypotheses
hold, three iterations, six events -/
example : (∀ t ∈ H1.classify {} .eof (reqA ++ reqCont ++ reqBad), H1.Common t = true) ∧
    H1.Ev.unmodelled ∉ H1.serve {} .eof (reqA ++ reqCont ++ reqBad) ∧
    (H1.classify {} .eof (reqA ++ reqCont ++ reqBad)).length = 3 ∧
    (H1.serve {} .eof (reqA ++ reqCont ++ reqBad)).length = 6 ∧
    H1.projEv (H1.serve {} .eof (reqA ++ reqCont ++ reqBad)) =
      [.req [47, 97], .resp true false, .req [47, 112], .resp true false, .resp false true] := by
  decide +kernel

/-- the configuration hypotheses of `classify_refines_serve(_noPreParse)` / `tracer_pairs_per_request`
hold for the default configuration used above -/
example : ({} : H1.TraceCfg).poll = false ∧ ({} : H1.TraceCfg).h1.preParse = false := ⟨rfl, rfl⟩

/-- a recovered handler panic, and a write failure scheduled for a write that never happens, are on the
common ground -/
example : (∀ t ∈ H1.classify { recovery := true } .stall (getReq tPanic ++ getReq tWfailnext), H1.Common t = true) ∧
    (H1.classify { recovery := true } .stall (getReq tPanic ++ getReq tWfailnext)).length = 3 := by
  decide +kernel

/-- `classify_refines_serve_upto` on a stream that leaves the common ground at its second request
(hijack): the first exchange is common, `serve` goes on with what the echo handler would do -/
example : H1.Ev.unmodelled ∉ H1.serve {} .eof (reqA ++ getReq tHijack ++ reqA) ∧
    H1.projIters true ((H1.classify {} .eof (reqA ++ getReq tHijack ++ reqA)).takeWhile (H1.Common ·)) =
      [.req [47, 97], .resp true false] ∧
    (H1.projEv (H1.serve {} .eof (reqA ++ getReq tHijack ++ reqA))).length = 6 := by decide +kernel

/-- outside the common ground the two models describe different handlers — hijack: -/
theorem refinement_needs_common_hijack :
    H1.projIters true (H1.classify {} .eof (reqA ++ getReq tHijack ++ reqA)) ≠
      H1.projEv (H1.serve {} .eof (reqA ++ getReq tHijack ++ reqA)) := by decide +kernel

/-- … unwinding handler panic (no recovery middleware): -/
theorem refinement_needs_common_panic :
    H1.projIters true (H1.classify {} .eof (getReq tPanic ++ reqA)) ≠
      H1.projEv (H1.serve {} .eof (getReq tPanic ++ reqA)) := by decide +kernel

/-- … a failing write (scheduled by the request before): -/
theorem refinement_needs_common_writeErr :
    H1.projIters true (H1.classify {} .eof (getReq tWfailnext ++ reqA)) ≠
      H1.projEv (H1.serve {} .eof (getReq tWfailnext ++ reqA)) := by decide +kernel

/-- … a handler that closes the connection itself: -/
theorem refinement_needs_common_close :
    H1.projIters true (H1.classify {} .eof (getReq tClose ++ reqA)) ≠
      H1.projEv (H1.serve {} .eof (getReq tClose ++ reqA)) := by decide +kernel

/-- return-to-poller style: a fragment shorter than four bytes after a request is read as a request head
(`Serve` is entered afresh, no idle peek) and answered 400, while the in-loop idle wait of `serve` ends
silently; every iteration is on the common ground -/
theorem refinement_needs_inloop_idle :
    (∀ t ∈ H1.classify { poll := true } .eof (reqA ++ [71]), H1.Common t = true) ∧
    H1.projIters true (H1.classify { poll := true } .eof (reqA ++ [71])) ≠
      H1.projEv (H1.serve {} .eof (reqA ++ [71])) := by decide +kernel

/-- multipart pre-parse: `serve` stops with `unmodelled` (no opinion), `classify` files the request under
"body read failed after `100 Continue`"; every iteration is on the common ground -/
theorem refinement_needs_no_unmodelled :
    (∀ t ∈ H1.classify { h1 := { preParse := true } } .eof reqMp, H1.Common t = true) ∧
    H1.projIters true (H1.classify { h1 := { preParse := true } } .eof reqMp) ≠
      H1.projEv (H1.serve { preParse := true } .eof reqMp) := by decide +kernel

/-! ### non-vacuity and regression examples -/

def okNext : Iter := { outcome := .handled .next }
/-- the idle wait fails; the outcome of such a pass is not looked at (`iterStep_idles`) -/
def idleEnd : Iter := { peekFails := true, outcome := .handled .next }

def kind : Call → String
  | .start .. => "S" | .handle .. => "H" | .finish .. => "F"

/-- the log of the stream `reqA ++ reqCont ++ reqBad` (hypotheses of `tracer_pairs_per_request` hold, see above): three pairs, two handler runs -/
example : (observe 2 (H1.traceActs {} true .eof (reqA ++ reqCont ++ reqBad))).map kind =
    ["S", "H", "F", "S", "H", "F", "S", "F"] := by decide +kernel

/-- F9 regression, in-loop idle handling: two requests, then the idle wait fails (peer close or idle
time-out — the same path).  Before the repair the log was `S H F S H F F`. -/
example : (observe 2 (serve {} [okNext, okNext, idleEnd])).map kind = ["S", "H", "F", "S", "H", "F"] := by decide

/-- F9 regression, return-to-poller style: `Serve` is entered once per request. -/
example : (observe 2 (connection { idleZero := true } [[okNext], [okNext]])).map kind = ["S", "H", "F", "S", "H", "F"] := by
  decide

/-- the ids and data of that log: pair 2 belongs to request 2 -/
example : (observe 0 (serve {} [okNext, okNext, idleEnd])) =
    [.start 1 (List.replicate 10 none), .handle (some 1) 1, .finish (some 1) (some 1) false (List.replicate 10 none),
     .start 2 (List.replicate 10 none), .handle (some 2) 2, .finish (some 2) (some 2) false (List.replicate 10 none)] := by
  decide

/-- a failed exchange: malformed header after one good request; the failed request has its own pair, the
read-header stage is closed with an error status, later stages are absent -/
example : (observe 2 (serve {} [okNext, { outcome := .headerErr .other }])).getLast? =
    some (.finish (some 2) none true
      [some ⟨10, false⟩, some ⟨11, false⟩, some ⟨12, true⟩, none, none, none, none, none, none, some ⟨13, true⟩]) := by
  decide

/-- an unwinding handler panic still closes the handle stage and delivers the finish -/
example : (observe 2 (serve {} [{ outcome := .handled .panic }])).map kind = ["S", "H", "F"] := by decide

/-- hypotheses of `no_finish_without_start` are satisfiable with a non-trivial prefix -/
example : ∃ p q, observe 2 (serve {} [okNext, okNext, idleEnd]) = p ++ q ∧ nStarts p = 2 ∧ nFinishes p = 1 :=
  ⟨(observe 2 (serve {} [okNext, okNext, idleEnd])).take 4, (observe 2 (serve {} [okNext, okNext, idleEnd])).drop 4,
   by decide, by decide, by decide⟩

/-- hypothesis of `finish_events_ordered` is satisfiable -/
example : ∃ c d e f, Call.finish c d e f ∈ observe 2 (connection {} [[okNext]]) := by
  refine ⟨some 1, some 1, false, (List.range 10).map (fun i => some ⟨i, false⟩), ?_⟩
  decide

/-- without a tracer -/
example : observe 2 (connection { enableTrace := false } [[okNext, okNext, idleEnd]]) = [.handle none 1, .handle none 2] := by
  decide

/-- the specification is not trivially true: the log of the pinned snapshot's defect F9 is rejected -/
example : alternates [.start 1 [], .finish (some 1) none false [], .start 2 [], .finish (some 2) none false [],
    .finish (some 2) none false []] = false := by decide

/-- … and so is a finish that sees an event table out of causal order -/
example : finishSnapOK 2 false false
    [some ⟨0, false⟩, some ⟨5, false⟩, some ⟨2, false⟩, none, none, none, none, none, none, some ⟨6, false⟩] = false := by
  decide

/-- the skeleton has paths, with and without tracing -/
example : (iterPaths true).length = 722 ∧ (iterPaths false).length = 362 := by decide +kernel

end Hertz.Props.C19
