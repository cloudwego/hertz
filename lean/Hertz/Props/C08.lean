import Hertz.Proofs.Fs
import Hertz.Proofs.FsTree
import Hertz.Proofs.FsCache
import Hertz.Proofs.FsCachePool
import Hertz.Proofs.FsCacheSrc
/-!
# C08 — static file responses return exactly the requested bytes

The lemmas live in `Hertz/Proofs/Fs.lean` (integers, ranges, the decision), `FsTree.lean` (the open
path) and `FsCache.lean`, `FsCachePool.lean`, `FsCacheSrc.lean` (the cache).  The statements of the
first part are about the model in `Hertz/Model/Fs.lean` (`ParseUint`, `ParseByteRange`, `AppendUint`, `SetContentRange`, the two
`UpdateByteRange`s and the range part of `fsHandler.handleRequest`), which `bin/check C08` holds to
the Go code through a real `Engine` over a temporary directory, and about the statement skeletons in
`Hertz/Gen/Fs.lean`, regenerated from the Go source on every run; `ParseUintBuf`, `ParseUint` and `ParseByteRange` are
also translated from the Go text and proved equal to the model (`Props/Tie.lean`: inputs shorter than 2^63 bytes, `0 ≤ contentLength < 2^63`).  The specification
(`Hertz/Spec/Fs.lean`) is RFC 7233's single-range rule on unbounded naturals.

Quantifiers: all header values (`Bytes`), all file contents, all lengths (below 2^63, a Go `int`,
where `AppendUint`'s 20-byte buffer matters), both methods, all three reader kinds, both settings of
`AcceptByteRange`.  The statements have no exception classes; the examples marked "regression" are for suffix ranges
selecting no bytes (/repo cd97077) and the overflow test of `ParseUintBuf` (/repo 9a17c6f).

The second part (`## which file is served`) is about the open path — `openFSFile`,
`compressAndOpenFSFile`, `compressFileNolock`, the two file caches — over an abstract directory tree
(`Hertz/Model/FsTree.lean`), held to the Go code by the `fsseq` scenarios of `bin/check C08`
(trees that change between requests: planted / stale / newer `.hertz.gz` siblings, roll-backs with
preserved mtimes, restarts, real cache expiry).

Not modelled (exercised by the correspondence only): the gzip encoder itself
(a compressed file is "some gzip stream of these bytes"), generated index pages, path normalisation
(C07).  Directories with an `index.html` and `If-Modified-Since` occur only in the cache state
machine of the third part.
-/
namespace Hertz.Props.C08
open Hertz Hertz.FS Hertz.FS.Spec

/-! ## integers -/

/-- `ParseUint` accepts exactly the non-empty digit strings whose value fits a Go int, and returns
that value: for ALL byte strings. -/
theorem parseUint_exact (b : Bytes) (r : Int) :
    parseUint b = .ok r ↔ (isDigits b = true ∧ (decVal b : Int) < 9223372036854775808 ∧ r = (decVal b : Int)) := by
  refine ⟨parseUint_ok, fun ⟨hd, hfit, hr⟩ => ?_⟩
  rcases parseUint_cases b with ⟨_, _, h⟩ | ⟨hb, _⟩
  · rw [hr]; exact h
  · rcases hb with hb | hb
    · rw [hd] at hb; cases hb
    · omega

/-- Everything else is an error (no wrong value is ever returned). -/
theorem parseUint_rejects (b : Bytes) (h : ¬ (isDigits b = true ∧ (decVal b : Int) < 9223372036854775808)) :
    ∃ e, parseUint b = .error e := by
  rcases parseUint_cases b with ⟨hd, hf, _⟩ | ⟨_, h'⟩
  · exact absurd ⟨hd, by omega⟩ h
  · exact h'

example : parseUint [49, 50, 51] = .ok 123 := by decide +kernel
example : parseUint [57, 50, 50, 51, 51, 55, 50, 48, 51, 54, 56, 53, 52, 55, 55, 53, 56, 48, 55] = .ok 9223372036854775807 := by decide +kernel
/-- regression (former wrap-around witness): 2^63 and 25000000000000000000 are rejected. -/
example : parseUint [57, 50, 50, 51, 51, 55, 50, 48, 51, 54, 56, 53, 52, 55, 55, 53, 56, 48, 56] = .error .trailing ∧
    parseUint [50, 53, 48, 48, 48, 48, 48, 48, 48, 48, 48, 48, 48, 48, 48, 48, 48, 48, 48, 48] = .error .trailing := by decide +kernel

/-! ## `ParseByteRange` -/

/-- Every accepted range lies inside the file: all header values, all lengths. -/
theorem range_ok_bounds (r : Bytes) (n s e : Int) (hn : 0 ≤ n) (h : parseByteRange r n = .ok (s, e)) :
    0 ≤ s ∧ s ≤ e ∧ e < n := parseByteRange_bounds r n s e hn h

/-- `ParseByteRange` has no reachable slice/index panic: it returns a pair or the Go error. -/
theorem range_no_panic (r : Bytes) (n : Int) :
    (∃ p, parseByteRange r n = .ok p) ∨ parseByteRange r n = .error .bad := parseByteRange_no_panic r n

/-- `ParseByteRange` is RFC 7233's single-range rule (satisfiable ↦ that range, invalid or
unsatisfiable ↦ error) for every header value and every length; a header naming a position that
does not fit a Go int is rejected. -/
theorem range_eq_rfc (r : Bytes) (n : Nat) :
    parseByteRange r (n : Int) = if numsFit r then rfcExcept (rfcRange r n) else .error .bad :=
  parseByteRange_rfc r n

/-- Every accepted range is the range the RFC prescribes (no side condition at all). -/
theorem range_sound (r : Bytes) (n : Nat) (s e : Int) (h : parseByteRange r (n : Int) = .ok (s, e)) :
    rfcRange r n = .sat s.toNat e.toNat := by
  obtain ⟨s', e', rfl, rfl, hr⟩ := parseByteRange_ok h
  exact hr

example : parseByteRange [98, 121, 116, 101, 115, 61, 45, 51] 10 = .ok (7, 9) ∧
    rfcRange [98, 121, 116, 101, 115, 61, 45, 51] 10 = .sat 7 9 := by decide +kernel
example : numsFit [98, 121, 116, 101, 115, 61, 50, 45, 57, 57] = true ∧
    parseByteRange [98, 121, 116, 101, 115, 61, 50, 45, 57, 57] 5 = .ok (2, 4) := by decide +kernel
/-- regression (former F14 witnesses): suffix ranges that select nothing are errors. -/
example : parseByteRange [98, 121, 116, 101, 115, 61, 45, 49] 0 = .error .bad ∧
    parseByteRange [98, 121, 116, 101, 115, 61, 45, 48] 10 = .error .bad ∧
    rfcRange [98, 121, 116, 101, 115, 61, 45, 49] 0 = .unsat ∧ rfcRange [98, 121, 116, 101, 115, 61, 45, 48] 10 = .unsat := by decide +kernel
/-- regression (former wrap-around witness): rejected also for an absurdly long file. -/
example : parseByteRange [98, 121, 116, 101, 115, 61, 50, 53, 48, 48, 48, 48, 48, 48, 48, 48, 48, 48, 48, 48, 48, 48, 48, 48, 48, 48, 45]
    7000000000000000000 = .error .bad := by decide +kernel

/-! ## the handler's decision -/

/-- For every reader kind, content, method, `Range`
value and `AcceptByteRange` setting the decision is total (no panic, no short body, no seek error)
and its answer is consistent — 200 with the whole file, or 416 exactly when `ParseByteRange` fails,
or 206 with `first ≤ last < length`, `Content-Length = last - first + 1 = |body|`, a `Content-Range`
that reads back as `(first, last, length)` and the body equal to that slice; HEAD has an empty body. -/
theorem decision_total_consistent (kind : ReaderKind) (content : Bytes) (head : Bool) (r : Bytes) (accept : Bool)
    (hn : (content.length : Int) < 9223372036854775808) :
    ∃ resp, serveDecision kind content head r accept = .ok resp ∧
      (head = true → resp.body = []) ∧ (head = false → (resp.body.length : Int) = resp.contentLength) ∧
      (resp.status = 200 ∧ resp.contentRange = none ∧ resp.contentLength = content.length ∧
          (head = false → resp.body = content) ∨
       resp.status = 416 ∧ resp.contentRange = none ∧ accept = true ∧ parseByteRange r content.length = .error .bad ∨
       ∃ s e : Nat, resp.status = 206 ∧ accept = true ∧ parseByteRange r content.length = .ok ((s : Int), (e : Int)) ∧
          s ≤ e ∧ e < content.length ∧ resp.contentLength = ((e + 1 - s : Nat) : Int) ∧
          (resp.contentRange.bind parseContentRange) = some (s, e, content.length) ∧
          (head = false → resp.body = slice content s e)) := by
  obtain ⟨g, h, hg⟩ := serve_cases content r accept hn
  refine ⟨_, h kind head, fun hh => by simp [sent, hh], ?_⟩
  rcases hg with ⟨_, rfl⟩ | ⟨hacc, _, hbad, rfl⟩ | ⟨s, e, cr, hacc, _, hp, hse, hen, hcr, rfl⟩
  · exact ⟨fun hh => by simp [sent, hh], Or.inl ⟨rfl, rfl, rfl, fun hh => by simp [sent, hh]⟩⟩
  · exact ⟨fun hh => by simp [sent, abortResp, hh], Or.inr (Or.inl ⟨rfl, rfl, hacc, hbad⟩)⟩
  · refine ⟨fun hh => ?_, Or.inr (Or.inr ⟨s, e, rfl, hacc, hp, hse, hen, rfl, hcr, fun hh => by simp [sent, hh]⟩)⟩
    simp only [sent, hh, Bool.false_eq_true, if_false]; rw [slice_length content s e hse hen]

/-- No panic site of the decision is reachable. -/
theorem decision_no_panic (kind : ReaderKind) (content : Bytes) (head : Bool) (r : Bytes) (accept : Bool)
    (hn : (content.length : Int) < 9223372036854775808) (site : String) :
    serveDecision kind content head r accept ≠ .error (.panic site) := by
  obtain ⟨resp, h, _⟩ := decision_total_consistent kind content head r accept hn
  rw [h]; intro h'; cases h'

/-- The full statement against the independent spec: the answer satisfies `Spec.respOk`
(whole file / exactly the RFC 7233 range / 416), for all inputs. -/
theorem serve_meets_rfc (kind : ReaderKind) (content : Bytes) (head : Bool) (r : Bytes) (accept : Bool)
    (hn : (content.length : Int) < 9223372036854775808) :
    ∃ resp, serveDecision kind content head r accept = .ok resp ∧ respOk content head r accept resp = true := by
  have hne : ∀ {r : Bytes}, r ≠ [] → (true && !r.isEmpty) = true := fun h => by simp [h]
  obtain ⟨g, h, hg⟩ := serve_cases content r accept hn
  refine ⟨_, h kind head, ?_⟩
  rcases hg with ⟨hw, rfl⟩ | ⟨rfl, hr, hbad, rfl⟩ | ⟨s, e, cr, rfl, hr, hp, hse, hen, hcr, rfl⟩
  · have : (accept && !r.isEmpty) = false := by rcases hw with rfl | rfl <;> simp
    simp [respOk, this, okWhole, sent]
  · simp only [respOk, hne hr, if_true]
    rw [parseByteRange_rfc] at hbad
    cases hfit : numsFit r with
    | false => cases rfcRange r content.length <;> simp [okUnsat_abort]
    | true =>
      rw [hfit, if_pos rfl] at hbad
      cases hrfc : rfcRange r content.length with
      | sat s e => rw [hrfc] at hbad; cases hbad
      | invalid => exact okUnsat_abort head
      | unsat => exact okUnsat_abort head
  · obtain ⟨s', e', hs, he, hrfc⟩ := parseByteRange_ok hp
    obtain rfl : s = s' := Int.ofNat.inj hs
    obtain rfl : e = e' := Int.ofNat.inj he
    simp [respOk, hne hr, hrfc, okPartial, hcr, sent]

/-- HEAD returns the headers of GET without a body. -/
theorem head_same_headers (kind : ReaderKind) (content : Bytes) (r : Bytes) (accept : Bool)
    (hn : (content.length : Int) < 9223372036854775808) :
    ∃ g, serveDecision kind content false r accept = .ok g ∧
      serveDecision kind content true r accept = .ok { g with body := [] } :=
  FS.head_same_headers kind content r accept hn

/-- Small-file reader, big-file reader and directory-index reader give the same answer. -/
theorem reader_kind_irrelevant (k₁ k₂ : ReaderKind) (content : Bytes) (head : Bool) (r : Bytes) (accept : Bool)
    (hn : (content.length : Int) < 9223372036854775808) :
    serveDecision k₁ content head r accept = serveDecision k₂ content head r accept :=
  FS.reader_kind_irrelevant k₁ k₂ content head r accept hn

/-- non-vacuity: a 206 on a five-byte file. -/
example : serveDecision .small [10, 11, 12, 13, 14] false [98, 121, 116, 101, 115, 61, 49, 45, 51] true =
      .ok { status := 206, contentLength := 3, contentRange := some [98, 121, 116, 101, 115, 32, 49, 45, 51, 47, 53],
            acceptRanges := true, body := [11, 12, 13] } := by decide +kernel
/-- regression (former F14 witnesses): 416, no panic, no `206 bytes 10-9/10`. -/
example : serveDecision .small [] false [98, 121, 116, 101, 115, 61, 45, 49] true = .ok (abortResp false 416 msg416) ∧
    serveDecision .small [1, 2, 3, 4, 5, 6, 7, 8, 9, 10] false [98, 121, 116, 101, 115, 61, 45, 48] true
      = .ok (abortResp false 416 msg416) := by decide +kernel

/-- `SetContentRange` on in-range arguments reads back as the three numbers. -/
theorem contentRange_roundtrip (s e n : Int) (hs : 0 ≤ s) (he : 0 ≤ e) (hn : 0 ≤ n)
    (hs' : s < 9223372036854775808) (he' : e < 9223372036854775808) (hn' : n < 9223372036854775808) :
    ∃ cr, contentRange s e n = .ok cr ∧ parseContentRange cr = some (s.toNat, e.toNat, n.toNat) :=
  contentRange_ok hs he hn hs' he' hn'

example : contentRange 8191 8192 20000 = .ok [98, 121, 116, 101, 115, 32, 56, 49, 57, 49, 45, 56, 49, 57, 50, 47, 50, 48, 48, 48, 48] := by decide +kernel

/-! ## which file is served

The tree maps paths to files `(payload, mtime, compressible)`; `Payload.gz p` is a gzip stream of
`p`.  `FsFile.meaning` is what a client has after undoing the `Content-Encoding` the handler
announces.  The hypothesis `hs` is the assumption every mtime-keyed cache makes: a `.hertz.gz`
sibling carrying the modification time of the file is a gzip stream of the file.  Nothing is assumed
about siblings with any other modification time — older OR newer, whatever they hold. -/

/-- `openFSFile` returns the requested file's own bytes — plain, or as a gzip stream of exactly
them — and its modification time: for every tree, every path, with or without `mustCompress`,
whatever an older or newer `.hertz.gz` sibling holds. -/
theorem open_serves_the_file (t : Tree) (path c : Bytes) (m : Nat) (z mc : Bool)
    (hf : t.find path = some ⟨.raw c, m, z⟩)
    (hs : ∀ s, t.find (path ++ gzSuffix) = some s → s.mtime = m → s.payload = .gz (.raw c)) :
    ∃ ff, (openFSFile t path mc).2 = .ok ff ∧ ff.meaning = some c ∧ ff.lastModified = m :=
  (openFSFile_opens t path mc).serves hf hs

/-- regression (seed C08-m3): a sibling NEWER than the file with other content is not trusted: it
is replaced by a gzip stream of the file, and that is what is served. -/
example :
    let t : Tree := [([97], ⟨.raw [1, 2, 3], 5, true⟩), ([97] ++ gzSuffix, ⟨.gz (.raw [9, 9]), 7, false⟩)]
    openFSFile t [97] true =
      ([([97] ++ gzSuffix, ⟨.gz (.raw [1, 2, 3]), 5, false⟩), ([97], ⟨.raw [1, 2, 3], 5, true⟩)],
       .ok ⟨.gz (.raw [1, 2, 3]), true, 5⟩) := by decide +kernel
/-- non-vacuity of `hs`: without it the claim is false — a sibling with the file's own mtime is
served as it is. -/
example :
    let t : Tree := [([97], ⟨.raw [1, 2, 3], 5, true⟩), ([97] ++ gzSuffix, ⟨.gz (.raw [9, 9]), 5, false⟩)]
    (openFSFile t [97] true).2 = .ok ⟨.gz (.raw [9, 9]), true, 5⟩ := by decide +kernel

/-- A missing file is an error (404) whatever siblings lie around. -/
theorem open_missing_is_error (t : Tree) (path : Bytes) (mc : Bool) (hf : t.find path = none) :
    ∃ e, (openFSFile t path mc).2 = .error e := (openFSFile_opens t path mc).missing hf

example : (openFSFile [([97] ++ gzSuffix, ⟨.gz (.raw [9, 9]), 7, false⟩)] [97] true).2 = .error .other := by decide +kernel

/-- Opening a file changes nothing in the tree except that file's `.hertz.gz` sibling. -/
theorem open_touches_only_the_sibling (t : Tree) (path q : Bytes) (mc : Bool) (hq : q ≠ path ++ gzSuffix) :
    (openFSFile t path mc).1.find q = t.find q := (openFSFile_opens t path mc).frame q hq

/-- … and the sibling it leaves behind again satisfies the assumption `hs`. -/
theorem open_leaves_honest_sibling (t : Tree) (path c : Bytes) (m : Nat) (z mc : Bool)
    (hf : t.find path = some ⟨.raw c, m, z⟩)
    (hs : ∀ s, t.find (path ++ gzSuffix) = some s → s.mtime = m → s.payload = .gz (.raw c)) :
    ∀ s, (openFSFile t path mc).1.find (path ++ gzSuffix) = some s → s.mtime = m → s.payload = .gz (.raw c) :=
  (openFSFile_opens t path mc).honest hf hs

example : (openFSFile [([97], ⟨.raw [1, 2, 3], 5, true⟩)] [97] true).1.find ([97] ++ gzSuffix)
    = some ⟨.gz (.raw [1, 2, 3]), 5, false⟩ := by decide +kernel

/-- A request that finds no cache entry (first request, new handler, expired entry) is answered
from `openFSFile` on the tree as it is now. -/
theorem uncached_request_opens_current_tree (compress : Bool) (st : State) (path r : Bytes) (ae : Bool)
    (h1 : st.cache.find path = none) (h2 : st.ccache.find path = none) :
    (fetch compress st path r ae).2 = (openFSFile st.tree path (mustCompress compress r ae)).2 := by
  have hc : (if mustCompress compress r ae = true then st.ccache else st.cache).find path = none := by
    split <;> assumption
  rcases h : openFSFile st.tree path (mustCompress compress r ae) with ⟨t', e | ff⟩
  · rw [fetch_miss_err hc h]
  · rw [fetch_miss_ok hc h]

example : (fetch true {} [97] [] true).2 = .error .notExist := by decide +kernel

/-- **Whole scenarios.**  Take any sequence of tree changes (files replaced, deleted, re-created with
any modification times; `.hertz.gz` siblings planted with any payload and any modification time, or
removed), cache flushes (new handler / expiry) and requests (any method, `Range`, with or without
`Accept-Encoding: gzip`), with `Compress` on or off.  If the scenario respects the mtime assumption
(`Spec.honest`: same name and same modification time imply same content) and no name is itself a
`.hertz.gz` path, then EVERY request is answered from a file whose meaning — its bytes, or what its
gzip stream decodes to — is a content the requested file had at some moment since the caches were
last empty; and with an error (404) only if the file was absent at such a moment. -/
theorem scenario_serves_a_version (compress : Bool) (steps pre post : List Step) (name r : Bytes) (head ae : Bool)
    (hh : Spec.honest steps = true) (hn : ∀ s ∈ steps, ∀ n, s.name? = some n → ¬ gzSuffix <:+ n)
    (hsplit : steps = pre ++ .get name head ae r :: post) :
    match (fetch compress (stateAfter compress {} pre) name r ae).2 with
    | .ok ff => ∃ c, ff.meaning = some c ∧ some c ∈ (Spec.viewOf name pre).since
    | .error _ => none ∈ (Spec.viewOf name pre).since :=
  scenario_good compress steps pre post name r head ae hh hn hsplit

/-- non-vacuity, and the roll-back of seed C08-m3 as a scenario: v2 `[7,7]` (mtime 9) is served
compressed, the file is rolled back to v1 `[1,2,3]` with its older mtime 2, the cache is emptied:
a gzip client gets v1, which is the only content allowed. -/
example :
    let pre : List Step := [.write [97] [7, 7] 9 true, .get [97] false true [], .write [97] [1, 2, 3] 2 true, .flush]
    Spec.honest (pre ++ [.get [97] false true []]) = true ∧
    (fetch true (stateAfter true {} pre) [97] [] true).2 = .ok ⟨.gz (.raw [1, 2, 3]), true, 2⟩ ∧
    (Spec.viewOf [97] pre).since = [some [1, 2, 3]] := by decide +kernel
/-- without the flush the cached v2 may still be served, and the spec allows exactly that -/
example :
    let pre : List Step := [.write [97] [7, 7] 9 true, .get [97] false true [], .write [97] [1, 2, 3] 2 true]
    (fetch true (stateAfter true {} pre) [97] [] true).2 = .ok ⟨.gz (.raw [7, 7]), true, 9⟩ ∧
    (Spec.viewOf [97] pre).since = [some [1, 2, 3], some [7, 7], none] := by decide +kernel


/-! ## the cache and the reader reference counts (open path) as a state machine

`Hertz/Model/FsCache.lean`: one `fsHandler` — every `fsFile` it created (count, reader pool, OS file open?, cached?,
pending?, expired?), the readers held by responses, the tree below the root — under every sequence of requests
(small / big files, `index.html` of a directory, Range, HEAD, If-Modified-Since → 304), deliveries of held bodies,
changes of the tree (remove, replace by a file or a directory), expiry, and `cleanCache` rounds.  `bin/check C08` holds it to
the Go code with the `fscache` scenarios (status, Content-Length, Content-Range, body bytes, and the number of open
descriptors after every step).  Quantifiers: all op sequences of every length, both `AcceptByteRange` settings, every Range
header value, every tree.  Requests are sequential (`cacheLock` serialises the count updates; two requests inside
`handleRequest` at once are not modelled).

Not modelled: `compressedCache`, generated index pages.
-/
section cache
open Hertz.FsCache

/-- **No reference-count panic, and no other one**: every sequence of operations runs to the end; in particular
`panic("BUG: negative fsFile.readersCount!")` (`Fault.negativeCount`) is unreachable. -/
theorem no_refcount_panic (accept : Bool) (ops : List Op) : ∃ s, run accept {} ops = .ok s :=
  (run_idle accept ops Idle.init).imp fun _ h => h.1

/-- In every reachable state the count of an `fsFile` is exactly the number of readers handed to responses and not
yet closed. -/
theorem readers_count_is_live_readers (accept : Bool) (ops : List Op) (s : FsCache.State) (h : run accept {} ops = .ok s) :
    ∀ o ∈ s.objs, o.rc = (countFid o.id s.live : Int) :=
  fun _ ho => (reachable_idle h).counts.rc_idle ho

theorem count_never_negative (accept : Bool) (ops : List Op) (s : FsCache.State) (h : run accept {} ops = .ok s) :
    ∀ o ∈ s.objs, 0 ≤ o.rc := by
  intro o ho
  rw [readers_count_is_live_readers accept ops s h o ho]; omega

/-- In every reachable state an `fsFile` whose OS file is closed (`Release`) is out of the cache, out of the cleaner's
pending list, and no response holds a reader of it. -/
theorem file_closed_only_when_unreferenced (accept : Bool) (ops : List Op) (s : FsCache.State) (h : run accept {} ops = .ok s) :
    ∀ o ∈ s.objs, o.fileOpen = false → o.cached = false ∧ o.pending = false ∧ countFid o.id s.live = 0 ∧ o.rc = 0 := by
  obtain ⟨g, _, _⟩ := reachable_idle h
  intro o ho hf
  obtain ⟨a, b, c, _⟩ := g.closed o ho hf
  exact ⟨a, b, c, by rw [g.rc_idle ho, c]; rfl⟩

/-- Every download in flight reads from an `fsFile` whose OS file is still open, whatever happened in between
(other requests failing, the file removed, the cache expired and cleaned). -/
theorem live_reader_file_open (accept : Bool) (ops : List Op) (s : FsCache.State) (h : run accept {} ops = .ok s) :
    ∀ r ∈ s.live, ∃ o ∈ s.objs, o.id = r.fid ∧ o.fileOpen = true := by
  obtain ⟨g, _, _⟩ := reachable_idle h
  intro r hr
  obtain ⟨o, ho, e⟩ := g.ref r hr
  refine ⟨o, ho, e, ?_⟩
  cases hf : o.fileOpen with
  | true => rfl
  | false =>
    have c := (g.closed o ho hf).2.2.1
    have := countFid_pos_of_mem hr
    rw [← e] at this; omega

/-- A request that is answered without a body stream — 404, 403, 500 (the cached big file cannot be re-opened, or its name denotes another file object by now), 416, 304,
HEAD — leaves the readers in flight as they were, and every count still equal to their number: a failed open gives its
reference back exactly once. -/
theorem failed_open_leaves_counts_unchanged (accept : Bool) (ops : List Op) (s s' : FsCache.State) (a : Ans)
    (key : Nat) (head : Bool) (ims : Option Nat) (range : Bytes)
    (h : run accept {} ops = .ok s) (hr : handleRequest accept key head ims range s = .ok (s', a)) (hn : a.rid = none) :
    s'.live = s.live ∧ ∀ o ∈ s'.objs, o.rc = (countFid o.id s.live : Int) := by
  have i := reachable_idle h
  obtain ⟨s1, a1, e1, ⟨g1, _, _⟩, l1⟩ := handleRequest_idle accept key head ims range i
  rw [hr] at e1; cases e1
  exact ⟨l1 hn, fun o ho => l1 hn ▸ g1.rc_idle ho⟩

/-- non-vacuity: a 9000-byte file is being downloaded, is removed, and is requested again: 500, the count stays 1,
the held reader stays; then the body is delivered and the cache cleaned: count 0, file released. -/
example :
    let ops : List Op := [.setNode 0 (.file ⟨7, 1, 9000⟩ 1), .req 0 false none [], .setNode 0 .absent, .req 0 false none []]
    (run true {} ops).toOption.map (fun s => (s.objs.map (·.rc), s.live.map (·.rid), fds s)) = some ([1], [1], 2) ∧
    (run true {} (ops ++ [.close 1, .expire, .tick])).toOption.map
      (fun s => (s.objs.map (·.rc), s.objs.map (·.fileOpen), fds s)) = some ([0], [false], 0) := by decide +kernel
/-- the fault is a real outcome of the model: the decrement of seed C08-m5, done twice for one request, panics -/
example :
    (match (decReadersCount 0 ⟨[⟨0, 0, false, ⟨7, 1, 9000⟩, 1, 1, [], true, true, false, false⟩], [], 1, fun _ => .absent⟩).bind
        (decReadersCount 0) with
     | .error f => some f
     | .ok _ => none) = some FsCache.Fault.negativeCount := by decide +kernel

/-- **A pooled reader is not live**: in every reachable state a `bigFileReader` object that sits in the pool of an `fsFile`
(`ff.bigFiles`) is not held by any response. -/
theorem pooled_reader_not_live (accept : Bool) (ops : List Op) (s : FsCache.State) (h : run accept {} ops = .ok s) :
    ∀ o ∈ s.objs, ∀ p ∈ o.pool, ∀ r ∈ s.live, p.rid ≠ r.rid := by
  obtain ⟨_, p, _⟩ := reachable_idle h
  intro o ho q hq r hr
  exact P_pooled_not_live p ho hq hr

/-- Every reader object is in at most one place, once: held by one response, or in the pool of one `fsFile`. -/
theorem reader_in_one_place (accept : Bool) (ops : List Op) (s : FsCache.State) (h : run accept {} ops = .ok s) :
    ∀ rid, occ rid s ≤ 1 := by
  obtain ⟨_, p, _⟩ := reachable_idle h
  intro rid; simpa using p.one rid

/-- non-vacuity: one download of a big file in flight (reader 1), a second one finished (reader 2, pooled); the next
request takes reader 2 out of the pool again -/
example :
    let ops : List Op := [.setNode 0 (.file ⟨7, 1, 9000⟩ 1), .req 0 false none [], .req 0 false none [], .close 2]
    (run true {} ops).toOption.map (fun s => (s.objs.map (fun o => o.pool.map (·.rid)), s.live.map (·.rid))) = some ([[2]], [1]) ∧
    (run true {} (ops ++ [.req 0 false none []])).toOption.map
      (fun s => (s.objs.map (fun o => o.pool.map (·.rid)), s.live.map (·.rid))) = some ([[]], [2, 1]) := by decide +kernel

/-- **The re-opened file is the cached file**: in every reachable state every reader — held by a response or pooled —
reads the very file object (identity, bytes, length) its `fsFile` was made from, i.e. the one the response headers
(`Content-Length`, `Last-Modified`, `Content-Range`) describe; whatever was removed, replaced or recreated under that
name in between.  For big files this rests on the `os.SameFile` check after `os.Open(ff.f.Name())` (regression for /repo 435a1ed). -/
theorem reopened_file_is_cached_file (accept : Bool) (ops : List Op) (s : FsCache.State) (h : run accept {} ops = .ok s) :
    (∀ r ∈ s.live, ∀ o ∈ s.objs, o.id = r.fid → r.src = .content o.c) ∧
    (∀ o ∈ s.objs, ∀ p ∈ o.pool, p.src = .content o.c) := by
  obtain ⟨_, _, hs⟩ := reachable_idle h
  exact ⟨fun r hr => (hs.live r hr).1, hs.pool⟩

/-- regression example (the former witness of finding C08-reopen-by-name): a 9000-byte file is being downloaded, another
file object of 8193 bytes is renamed over it, the name is requested again.  The request is answered 500 — before the repair:
200, Content-Length 9000 and the 8193 bytes of the other file —, the count stays 1, the held reader stays and still reads
the first file object; no reader of the second object exists. -/
example :
    let ops : List Op := [.setNode 0 (.file ⟨7, 1, 9000⟩ 2), .req 0 false none [], .setNode 0 (.file ⟨8, 2, 8193⟩ 2)]
    ((run true {} ops).toOption.bind fun s => (handleRequest true 0 false none [] s).toOption.map
      (fun p => (p.2.status, p.2.rid, p.1.objs.map (·.rc), fds p.1))) = some (500, none, [1], 2) ∧
    ((run true {} ops).toOption.bind fun s => (handleRequest true 0 false none [] s).toOption.map
      (fun p => p.1.live.map (fun r => (r.rid, r.src)))) = some [(1, .content ⟨7, 1, 9000⟩)] := by decide +kernel
/-- the same name replaced by a directory, and by the SAME file object renamed away and back: 500, and 200 from that object -/
example :
    let ops : List Op := [.setNode 0 (.file ⟨7, 1, 9000⟩ 2), .req 0 false none []]
    ((run true {} (ops ++ [.setNode 0 (.dir none)])).toOption.bind fun s =>
      (handleRequest true 0 false none [] s).toOption.map (fun p => p.2.status)) = some 500 ∧
    ((run true {} (ops ++ [.setNode 0 .absent, .setNode 0 (.file ⟨7, 1, 9000⟩ 2)])).toOption.bind fun s =>
      (handleRequest true 0 false none [] s).toOption.map (fun p => (p.2.status, p.1.live.map (fun r => r.src))))
      = some (200, [.content ⟨7, 1, 9000⟩, .content ⟨7, 1, 9000⟩]) := by decide +kernel

/-- The Go source still touches `readersCount` exactly where the model does (`Hertz/Gen/Fs.lean`, regenerated on every
run from ALL functions of `pkg/app/fs.go`): one increment per cache hit / insertion in `handleRequest`, one decrement in
`handleRequest` (304), one in `NewReader` (re-open failed) and one in each `Close`; `bigFileReader()` itself has none; files
are released by `cleanCache` only (and by the twice-opened branch of `handleRequest`).  A new site — such as a second
decrement on the failed re-open — changes the list and breaks this theorem. -/
theorem model_matches_gen_refcounts :
    Gen.Fs.rcSites =
      [("fsSmallFileReader.Close", ["ff.decReadersCount()"]),
       ("bigFileReader.Close", ["r.ff.decReadersCount()"]),
       ("fsHandler.cleanCache", ["if ff.readersCount > 0", "ff.Release()"]),
       ("fsFile.decReadersCount", ["ff.readersCount--", "if ff.readersCount < 0", "panic(\"BUG: negative fsFile.readersCount!\")"]),
       ("fsFile.NewReader", ["ff.decReadersCount()"]),
       ("fsHandler.handleRequest", ["ff.readersCount++", "fileCache[pathStr] = ff", "ff.readersCount++", "ff1.readersCount++",
                                    "ff.Release()", "ff.decReadersCount()"]),
       ("cleanCacheNolock", ["if ff.readersCount > 0", "delete(cache, k)"])] ∧
    Gen.Fs.newReader = ["if ff.isBig()", "r, err := ff.bigFileReader()", "if err != nil", "ff.decReadersCount()",
                        "return r, err", "return ff.smallFileReader(), nil"] ∧
    Gen.Fs.fsFileBigFileReader.length = 23 ∧ "f, err := os.Open(ff.f.Name())" ∈ Gen.Fs.fsFileBigFileReader ∧
    "if fi0, err = ff.f.Stat(); err == nil && !os.SameFile(fi0, fi)" ∈ Gen.Fs.fsFileBigFileReader ∧
    Gen.Fs.fsFileBigFileReader.drop 19 = ["if err != nil", "f.Close()", "return nil, ERR", "return &bigFileReader{ f: f, ff: ff, r: f, }, nil"] ∧
    Gen.Fs.bigClose.length = 13 ∧ Gen.Fs.smallClose.length = 7 ∧ Gen.Fs.release.length = 6 ∧
    Gen.Fs.cleanCache.length = 13 ∧ Gen.Fs.cleanCacheNolock.length = 8 ∧ Gen.Fs.decReadersCount.length = 4 := by
  exact ⟨rfl, rfl, rfl, List.mem_of_getElem? (i := 11) rfl, List.mem_of_getElem? (i := 17) rfl,
    rfl, rfl, rfl, rfl, rfl, rfl, rfl⟩

example : (Gen.Fs.rcSites.map (·.1)).length = 7 := by decide +kernel

end cache

/-- Four of the facts of `FS.model_matches_gen` (`Hertz/Proofs/Fs.lean`), which compares the seven statement skeletons of the
range machinery in `Hertz/Gen/Fs.lean`. -/
theorem model_matches_gen_C08 :
    strBytes = Gen.Str.strBytes ∧ Gen.Fs.maxSmallFileSize = 8192 ∧
    Gen.Fs.smallUpdateByteRange = ["r.startPos = startPos", "r.endPos = endPos + 1", "return nil"] ∧
    Gen.Fs.maxIntExpr = "int(^uint(0) >> 1)" :=
  ⟨model_matches_gen.1, model_matches_gen.2.1, model_matches_gen.2.2.2.1, model_matches_gen.2.2.2.2.2.2.2.2.1⟩

/-- The sibling suffix, the modification-time test of `openFSFile` and the lengths of `openFSFile`,
`compressAndOpenFSFile`, `compressFileNolock` are those `Hertz/Model/FsTree.lean` follows (statement skeletons
regenerated from the Go source); `FS.open_path_matches_gen` (`Hertz/Proofs/FsTree.lean`) compares their whole text. -/
theorem model_matches_gen_open_path :
    gzSuffix = Gen.Fs.compressedFileSuffix ∧
    "if fileInfoOriginal.ModTime() != fileInfo.ModTime()" ∈ Gen.Fs.openFSFile ∧
    Gen.Fs.openFSFile.length = 27 ∧ Gen.Fs.compressAndOpenFSFile.length = 22 ∧ Gen.Fs.compressFileNolock.length = 25 :=
  ⟨open_path_matches_gen.1, List.mem_of_getElem? (i := 22) rfl, rfl, rfl, rfl⟩

example : Gen.Fs.compressedFileSuffix.length = 9 ∧ Gen.Fs.openFSFile.head? = some "filePathOriginal := filePath" := by decide +kernel

end Hertz.Props.C08
