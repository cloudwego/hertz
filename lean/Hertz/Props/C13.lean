import Hertz.Proofs.Conn
import Hertz.Proofs.ConnCtl
import Hertz.Proofs.ConnRef
import Hertz.Proofs.ConnMemRel
import Hertz.Proofs.ConnMemRefine
/-!
# C13 — the buffered connection behaves as a lossless FIFO byte stream

Property theorems only; lemmas live in `Hertz/Proofs/Conn.lean`, `ConnCtl.lean`, `ConnRef.lean` and (memory level)
`ConnMem*.lean`.  The statements up to the section "memory level" are about the model `Hertz/Model/Conn.lean` of
`pkg/network/standard/{connection,buffer}.go` and `pkg/network/writer.go` (`Conn.Write` and `Conn.ReadFrom` are not
modelled), which the correspondence check (`bin/check C13`) holds to the Go code, and about the constants and branch
conditions in `Hertz/Gen/Conn.lean`, regenerated from the Go source on every run; those of the last section are about
`Hertz/Model/ConnMem.lean`.

All statements quantify over *every* initial buffer size, *every* wire script (any fragmentation,
zero-length reads, errors with or without data at any point, EOF after the script) and *every*
operation sequence; there is no bound on sizes or lengths.
-/
namespace Hertz.Props.C13
open Hertz Hertz.Conn Hertz.Spec.Fifo

/-! ## reader -/

/-- No operation sequence makes the reader panic (nil node, slice out of range) or spin in `fill`:
the run of the model always returns. -/
theorem never_faults (size : Nat) (w : Wire) (ops : List Op) :
    ∃ r, run (Reader.new size) w ops = .ok r := by
  obtain ⟨r, h, _⟩ := run_spec (Reader.new size) w ops (Inv_new size)
  exact ⟨r, h⟩

/-- Refinement: every trace of the reader is accepted by the plain byte queue `Spec.Fifo`
(observation = the bytes themselves): each returned slice is exactly the next bytes the peer sent
that were not yet consumed, each consuming operation removes exactly what it returned — for every
operation sequence and every fragmentation. -/
theorem refines_fifo (size : Nat) (w : Wire) (ops : List Op) (outs : List Out) (s' : Reader) (w' : Wire)
    (h : run (Reader.new size) w ops = .ok (outs, s', w')) :
    acceptsBytes id (wireBytes w) (ops.zip (outs.map (Obs.ofOut id))) = true := by
  obtain ⟨_, _, hacc, _⟩ := (run_spec (Reader.new size) w ops (Inv_new size)).of_ok h
  rw [← stream_new size w]; exact hacc

/-- Nothing lost, nothing duplicated: after any run, what is still buffered followed by what is
still on the wire is the sent stream minus exactly the bytes the operations consumed. -/
theorem lossless (size : Nat) (w : Wire) (ops : List Op) (outs : List Out) (s' : Reader) (w' : Wire)
    (h : run (Reader.new size) w ops = .ok (outs, s', w')) :
    s'.unread ++ wireBytes w' = (wireBytes w).drop (totalConsumed ops outs) ∧
    totalConsumed ops outs ≤ (wireBytes w).length := by
  obtain ⟨_, _, _, hrest, hle, _⟩ := (run_spec (Reader.new size) w ops (Inv_new size)).of_ok h
  rw [stream_new] at hrest hle; exact ⟨hrest, hle⟩

/-- `Len()` always equals the number of buffered-but-unconsumed bytes: in the state reached by any
operation sequence, and as reported by the last operation of the sequence. -/
theorem len_is_buffered (size : Nat) (w : Wire) (ops : List Op) (outs : List Out) (s' : Reader) (w' : Wire)
    (h : run (Reader.new size) w ops = .ok (outs, s', w')) :
    s'.len = s'.unread.length ∧ ∀ o ∈ outs.getLast?, o.len = s'.unread.length := by
  obtain ⟨hI, _, _, _, _, hlast⟩ := (run_spec (Reader.new size) w ops (Inv_new size)).of_ok h
  exact ⟨hI.1, hlast⟩

/-- One operation from any consistent state (in particular any reachable one): it returns, keeps the
bookkeeping consistent, reports `Len()` = buffered bytes, returns a prefix of the unconsumed stream
and removes exactly `consumed` bytes from its front. -/
theorem step_is_fifo (s : Reader) (w : Wire) (op : Op) (hI : Inv s) :
    ∃ o s' w', step s w op = .ok (o, s', w') ∧ StepOK s w op o s' w' := by
  obtain ⟨⟨o, s', w'⟩, h, hok⟩ := step_spec s w op hI
  exact ⟨o, s', w', h, hok⟩

/-- `Peek(n)`: without error it returns exactly `n` bytes; with an error fewer than `n`; in both
cases a prefix of what is buffered afterwards, and buffering only ever appends. -/
theorem peek_rules (s : Reader) (w : Wire) (n : Nat) (hI : Inv s) :
    ∃ p e s' w', peek s w n = .ok (p, e, s', w') ∧ Inv s' ∧ stream s' w' = stream s w ∧
      p = s'.unread.take p.length ∧ p.length ≤ s'.len ∧ (e = none → p.length = n) ∧ (e.isSome → p.length < n) ∧
      (∃ bs, s'.unread = s.unread ++ bs) := by
  obtain ⟨⟨p, e, s', w'⟩, h, hq⟩ := peek_spec s w n hI
  exact ⟨p, e, s', w', h, hq⟩

/-- `Skip(n)` succeeds iff `n ≤ Len()`; on success exactly `n` bytes leave the front of the buffer,
on failure nothing changes. -/
theorem skip_rules (s : Reader) (n : Nat) (hI : Inv s) :
    ∃ e s', skip s n = .ok (e, s') ∧ Inv s' ∧
      (n ≤ s.len → e = none ∧ s'.unread = s.unread.drop n ∧ s'.len = s.len - n) ∧
      (s.len < n → e = some errSkip ∧ s' = s) := by
  obtain ⟨⟨e, s'⟩, h, hq⟩ := skip_spec s n hI
  exact ⟨e, s', h, hq⟩

/-- `Release()` changes neither the buffered bytes nor `Len()`. -/
theorem release_keeps_data (s : Reader) (hI : Inv s) :
    Inv (release s) ∧ (release s).unread = s.unread ∧ (release s).len = s.len :=
  release_spec s hI

/-- A slice returned by `Peek` stays unchanged until the next release: no operation other than
`Release` / `Read` frees, resets or overwrites a memory block — every node block (by identity) is
still part of the chain afterwards with its old bytes as a prefix of its new bytes, and every
cached cross-node copy is still held. -/
theorem peek_stable_until_release (s : Reader) (w : Wire) (op : Op) (o : Out) (s' : Reader) (w' : Wire)
    (hk : op.keeps = true) (h : step s w op = .ok (o, s', w')) :
    Extends s.nodes s'.nodes ∧ s.caches <+: s'.caches :=
  step_stable hk h

/-- Refinement of the control rules: every trace of the reader is accepted by the control acceptor
`acceptsCtl` of `Spec/Fifo.lean` — `Len()` is the count of buffered-but-unconsumed bytes, an operation
that can be answered from the buffer neither fails nor changes `Len()` except by what it consumes,
`Skip(n)` fails iff `n > Len()`, nothing lying behind an unreported wire error is ever buffered, and
an error is reported only by an operation that demanded more bytes than the peer sent in front of
that error, in script order (`io.EOF` after the script only when everything sent was delivered) —
for every buffer size, wire script and operation sequence. -/
theorem refines_fifo_ctl (size : Nat) (w : Wire) (ops : List Op) (outs : List Out) (s' : Reader) (w' : Wire)
    (h : run (Reader.new size) w ops = .ok (outs, s', w')) :
    acceptsCtl (Ctl.init w) (ops.zip (outs.map (Obs.ofOut id))) = true := by
  exact (run_ctl (Reader.new size) w ops (Ctl.init w) (CInv_new size w)).of_ok h

/-- non-vacuity of `refines_fifo_ctl`: a run with a stashed `io.EOF`, a short peek that surfaces it, a
failing skip and a pass-through `Read` exists … -/
example :
    (run (Reader.new 0) [.data [1, 2, 3] none, .data [4] (some errEOF)]
        [.peek 2, .skip 1, .readByte, .peek 2, .peek 5, .skip 3, .readBinary 2, .release, .read 5000, .len]).toOption.map (·.1)
      = some [⟨[1, 2], none, 3⟩, ⟨[], none, 2⟩, ⟨[2], none, 1⟩, ⟨[3, 4], none, 2⟩, ⟨[3, 4], some errEOF, 2⟩,
              ⟨[], some errSkip, 2⟩, ⟨[3, 4], none, 0⟩, ⟨[], none, 0⟩, ⟨[], some errEOF, 0⟩, ⟨[], none, 0⟩] := by
  decide +kernel

/-- … and the acceptor is not trivially true: it rejects an invented `io.EOF` and a premature error -/
example :
    acceptsCtl (α := Bytes) (Ctl.init [.data [1, 2, 3] none]) [(.peek 2, ⟨0, [], some errEOF, 0⟩)] = false ∧
    acceptsCtl (α := Bytes) (Ctl.init [.data [1, 2, 3] (some 7)]) [(.peek 2, ⟨0, [], some 7, 0⟩)] = false ∧
    acceptsCtl (α := Bytes) (Ctl.init [.data [1, 2, 3] (some 7)]) [(.peek 4, ⟨3, [1, 2, 3], some 7, 3⟩)] = true := by
  decide

/-- One operation from any state tied to a control state (in particular any reachable one): it is
accepted and the tie (`CInv`: `Ctl.len = Len()`, `Ctl.r` = buffered + on the wire, `Ctl.marks` = the
stashed error `c.err` followed by the errors of the unread wire script at their byte positions) is kept. -/
theorem step_is_ctl (s : Reader) (w : Wire) (op : Op) (c : Ctl) (h : CInv s w c) :
    ∃ o s' w' c', step s w op = .ok (o, s', w') ∧ stepCtl c op (Obs.ofOut id o) = some c' ∧ CInv s' w' c' := by
  obtain ⟨⟨o, s', w'⟩, hs, c', h1, h2⟩ := step_ctl s w op c h
  exact ⟨o, s', w', c', hs, h1, h2⟩

/-- the hypothesis `CInv` holds initially -/
example : CInv (Reader.new 8192) [.data [1, 2] (some errEOF)] (Ctl.init [.data [1, 2] (some errEOF)]) :=
  CInv_new 8192 _

/-- The `fill` loop stops at the first error event of the wire script: ending normally it consumed no
error event; ending with a stashed (or returned) error that error is the first mark of the script and
lies exactly behind the bytes read (or the script is exhausted and the error is `io.EOF`). -/
theorem fill_loop_stops_at_first_error (w : Wire) (need room pos : Nat) :
    ((fillLoop w need room).2.1 = .ok →
        marksOf w pos = marksOf (fillLoop w need room).2.2 (pos + (fillLoop w need room).1.length)) ∧
    (∀ e, (fillLoop w need room).2.1 = .stash e →
        0 < (fillLoop w need room).1.length ∧
        marksOf w pos = (pos + (fillLoop w need room).1.length, e) ::
          marksOf (fillLoop w need room).2.2 (pos + (fillLoop w need room).1.length)) ∧
    (∀ e, (fillLoop w need room).2.1 = .fail e →
        (fillLoop w need room).1.length < need ∧
        (marksOf w pos = (pos + (fillLoop w need room).1.length, e) ::
            marksOf (fillLoop w need room).2.2 (pos + (fillLoop w need room).1.length) ∨
         (e = errEOF ∧ (fillLoop w need room).2.2 = [] ∧ marksOf w pos = []))) :=
  fillLoop_marks w need room pos

/-- non-vacuity: a loop run that ends by stashing the error that came with the second piece of data -/
example : fillLoop [.data [1] none, .data [2, 3] (some 9), .data [4] none] 5 8 = ([1, 2, 3], .stash 9, [.data [4] none]) := by
  decide

/-- Pointer-level form of `Peek`: `peekR` is the model's `peek` that also says where the returned
slice lives (`peekR_proj`: forgetting the reference gives `peek` back).  Every result of `peek` has
such a reference, and it is good in the resulting state: the slice is `buf[off : off+len]` of a
node block (by identity) of the chain, lying inside the written part of that block, or a copy held
in `caches`, or a private copy (`make`), or nil on an error return. -/
theorem peek_in_block (s : Reader) (w : Wire) (n : Nat) (p : Bytes) (e : Option Err) (s' : Reader) (w' : Wire)
    (h : peek s w n = .ok (p, e, s', w')) :
    ∃ ref, peekR s w n = .ok ((p, ref), e, s', w') ∧ RefOK s' p ref := by
  obtain ⟨ref, hr⟩ := peek_peekR h
  exact ⟨ref, hr, peekR_in_block hr⟩

/-- non-vacuity of `peek_in_block`: a `Peek(4096)` that straddles two 4 KiB blocks is answered by a copy
in a fresh block (identity 2, the chain being blocks 0 and 1) registered in `caches` -/
example :
    (do let r0 ← run (Reader.new 0) [.data (List.replicate 4096 1) none, .data (List.replicate 4096 2) none] [.peek 4096, .skip 1]
        let r ← peekR r0.2.1 r0.2.2 4096
        pure (r.1.2, r.1.1.length, r.2.2.1.caches, r.2.2.1.nodes.map (fun (nd : Node) => nd.id))).toOption
      = some (Ref.cache 2, 4096, [2], [0, 1]) := by
  decide +kernel

/-- `peekR` projects onto the model's `peek` -/
theorem peekR_refines_peek (s : Reader) (w : Wire) (n : Nat) :
    (peekR s w n).map (fun r => (r.1.1, r.2)) = peek s w n :=
  peekR_proj s w n

/-- A peeked slice stays unchanged until the next release, pointer-level: after any sequence of
operations other than `Release` / `Read`, the reference handed out by `Peek` is still good with the
*same* bytes — the block with that identity is still in the chain (neither freed nor reset) and
`buf[off : off+len]` of it still reads `p`, i.e. no operation wrote into the referenced region; a
cached copy is still held. -/
theorem peeked_slice_unchanged (s : Reader) (w : Wire) (n : Nat) (p : Bytes) (ref : Ref) (e : Option Err)
    (s1 : Reader) (w1 : Wire) (h : peekR s w n = .ok ((p, ref), e, s1, w1))
    (ops : List Op) (outs : List Out) (s2 : Reader) (w2 : Wire)
    (hk : ∀ op ∈ ops, op.keeps = true) (hr : run s1 w1 ops = .ok (outs, s2, w2)) :
    RefOK s2 p ref := by
  have hs := run_stable hk hr
  exact RefOK_stable hs.1 hs.2 (peekR_in_block h)

/-- non-vacuity: a peek inside one block (reference = block 0, offset 1 after a skip, length 2), and
a following `Peek` that appends to the same block behind the region -/
example :
    (do let (_, s0) ← skip (← peek (Reader.new 0) [.data [1, 2, 3] none, .data [4] none] 1).2.2.1 1
        let r ← peekR s0 [.data [4] none] 2
        pure r.1).toOption = some ([2, 3], Ref.block 0 1 2) := by
  decide +kernel

/-- Block identities are pairwise distinct in every reachable state (the allocation counter only
grows), and no cached peek copy shares its identity with a node of the chain: "the block `id`" is
well defined. -/
theorem block_ids_distinct (size : Nat) (w : Wire) (ops : List Op) (outs : List Out) (s' : Reader) (w' : Wire)
    (h : run (Reader.new size) w ops = .ok (outs, s', w')) :
    (∀ a ∈ s'.nodes, ∀ b ∈ s'.nodes, a.id = b.id → a = b) ∧ (∀ a ∈ s'.nodes, a.id ∉ s'.caches) :=
  (run_ids h (IdInv_new size)).unique

/-- The whole statement from a fresh connection: after any operation sequence `ops0`, a `Peek` that
returned `buf[off : off+len]` of block `id`, and then any sequence `ops` of operations other than
`Release` / `Read`: the block `id` is still in the chain, and *every* node with that identity (there
is exactly one) still reads `p` at `[off, off+len)`. -/
theorem peeked_block_unchanged (size : Nat) (w : Wire) (ops0 : List Op) (outs0 : List Out) (s : Reader) (w0 : Wire)
    (h0 : run (Reader.new size) w ops0 = .ok (outs0, s, w0))
    (n : Nat) (p : Bytes) (id off len : Nat) (e : Option Err) (s1 : Reader) (w1 : Wire)
    (h : peekR s w0 n = .ok ((p, .block id off len), e, s1, w1))
    (ops : List Op) (outs : List Out) (s2 : Reader) (w2 : Wire)
    (hk : ∀ op ∈ ops, op.keeps = true) (hr : run s1 w1 ops = .ok (outs, s2, w2)) :
    (∃ nd ∈ s2.nodes, nd.id = id) ∧ ∀ nd ∈ s2.nodes, nd.id = id → (nd.data.drop off).take len = p := by
  have hI2 : IdInv s2 :=
    run_ids hr (peek_ids (peekR_peek h) (run_ids h0 (IdInv_new size)))
  have hok := peeked_slice_unchanged s w0 n p _ e s1 w1 h ops outs s2 w2 hk hr
  refine ⟨?_, fun nd hm hid => ((RefOK_block_unique hI2 hok nd hm hid).1).symm⟩
  obtain ⟨nd, hm, hid, _⟩ := hok
  exact ⟨nd, hm, hid⟩

/-- non-vacuity: fresh connection, `Peek(1)`, `Skip(1)`; then `Peek(2)` returns block 0 at offset 1;
then `Peek(3)` (which reads the wire and appends to block 0) and `Len` keep it -/
example :
    (do let r0 ← run (Reader.new 0) [.data [1, 2, 3] none, .data [4] none] [.peek 1, .skip 1]
        let r ← peekR r0.2.1 r0.2.2 2
        let r2 ← run r.2.2.1 r.2.2.2 [.peek 3, .len]
        pure (r.1, r2.2.1.nodes.map (fun (nd : Node) => (nd.id, nd.data)))).toOption
      = some (([2, 3], Ref.block 0 1 2), [(0, [1, 2, 3, 4])]) := by
  decide +kernel

/-
What the pointer-level statements above do *not* say (limits of the list model, not open proofs):

* The list model has no explicit memory: "nobody writes into the region" is expressed as "the written part
  `data = buf[0:malloc]` of the block with that identity is only ever extended at its end by
  non-releasing operations, and the block stays in the chain" (`Extends`).  Reuse of a block by `mcache` after
  `Release` is not part of it: that is the subject of the memory level below (and the correspondence check re-hashes
  peeked slices after every operation on the real code).  Writes by the *caller* through the returned slice are
  covered at neither level: the memory level excludes them by hypothesis (`CStep.legal`).
* `Ref.fresh` / `Ref.cache` copies are immutable in the list model by construction (nothing refers to them
  but `caches`); the theorem for them is only that a cached copy stays registered until a release.
-/

/-! ## writer -/

/-- `Flush` on `standard.Conn`: the bytes handed to the peer followed by what is still pending are
exactly what was pending (in order); when `Flush` returns nil the peer has received everything and
nothing is pending.  A `Write` of the underlying connection sends all or fails with nothing sent (`WScript`); the code does
not advance `off` by what a failing `Write` reports as sent. -/
theorem flush_sends_all (s : Writer) (sc : WScript) (hI : WInv s) :
    (wflush s sc).2.1 ++ (wflush s sc).2.2.1.pending = s.pending ∧
    ((wflush s sc).1 = false → (wflush s sc).2.1 = s.pending ∧ (wflush s sc).2.2.1.pending = []) :=
  have h := wflush_spec s sc hI
  ⟨h.1, fun hf => ⟨by have := h.1; rwa [h.2.1 hf, List.append_nil] at this, h.2.1 hf⟩⟩

/-- Every sequence of `Malloc` / `WriteBinary` / `Flush` on a fresh `standard.Conn`, under any
pattern of failing `Write` calls: never panics (`node.buf[:node.malloc]` stays within capacity) and is
accepted by the writer spec — the peer receives exactly the concatenation of what was written, in
order, by the time a `Flush` returns nil; a failed `Flush` sends a prefix and keeps the rest. -/
theorem writer_refines (sc : WScript) (ops : List WOp) :
    ∃ outs s' sc', wrun Writer.new sc ops = .ok (outs, s', sc') ∧
      acceptsW id true [] (ops.zip (List.zipWith WOut.toObs ops outs)) = true := by
  obtain ⟨⟨outs, s', sc'⟩, h, _, _, hacc⟩ := wrun_spec Writer.new sc ops WInv_new
  rw [pending_new] at hacc
  exact ⟨outs, s', sc', h, hacc⟩

/-- The same for `network.NewWriter` (`networkWriter`), whose failed `Flush` drops what was not sent. -/
theorem netwriter_refines (sc : WScript) (ops : List WOp) :
    acceptsW id false [] (ops.zip (List.zipWith WOut.toObs ops (nwRun {} sc ops).1)) = true :=
  nwRun_spec {} sc ops

/-! ## tie to the source -/

/-- The constants of the model are those of the current Go source, and each of the 19 modelled
functions still has exactly the branch conditions (source text, in order) the model mirrors
(`ModelMatchesGen` in `Proofs/Conn.lean` spells them out; `Gen/Conn.lean` is regenerated per run). -/
theorem model_matches_source : ModelMatchesGen := model_matches_gen

/-- non-vacuity: the statement pins, e.g., the allocation condition of `fill` and `mallocMax` -/
example : Gen.Conn.condsFill.contains "if left < i-c.Len() || node.readOnly" = true ∧ Gen.Conn.mallocMax = 524288 := by
  decide

/-! ## non-vacuity: concrete runs -/

/-- a wire delivering `[1,2,3]`, then `[4]` together with EOF; the run exercises a peek that needs a
second wire read, a stashed error, a short peek that surfaces it, and a failing skip -/
example :
    (run (Reader.new 0) [.data [1, 2, 3] none, .data [4] (some errEOF)]
        [.peek 2, .skip 1, .readByte, .peek 2, .peek 5, .skip 3, .readBinary 2, .release, .len]).toOption.map (·.1)
      = some [⟨[1, 2], none, 3⟩, ⟨[], none, 2⟩, ⟨[2], none, 1⟩, ⟨[3, 4], none, 2⟩, ⟨[3, 4], some errEOF, 2⟩,
              ⟨[], some errSkip, 2⟩, ⟨[3, 4], none, 0⟩, ⟨[], none, 0⟩, ⟨[], none, 0⟩] := by
  decide +kernel

/-- the hypothesis `Inv` of the step-level theorems holds initially (and, by `step_is_fifo`, forever) -/
example : Inv (Reader.new 8192) := Inv_new 8192

/-- a keeping operation on a reachable state (hypotheses of `peek_stable_until_release`) -/
example : (Op.peek 3).keeps = true ∧
    ∃ r, step (Reader.new 0) [.data [1, 2, 3] none] (.peek 3) = .ok r := ⟨rfl, _, rfl⟩

/-- writer: two small writes, a zero-copy write of 4096 bytes, flush with the second `Write` failing, flush again -/
example :
    (wrun Writer.new [false, true] [.malloc [1, 2], .writeBinary [3], .writeBinary (List.replicate 4096 7), .flush, .flush]).toOption.map
        (fun r => r.1.map (fun o => (o.failed, o.sent.length)))
      = some [(false, 0), (false, 0), (false, 0), (true, 3), (false, 4096)] := by
  decide +kernel

example : WInv Writer.new := WInv_new

/-! ## memory level (`Model/ConnMem.lean`): blocks, references, the allocator, the caller

At this level the bytes live in a heap of memory blocks; nodes hold `(blk, base, cap, malloc, off)`, slices handed to the caller are
references `(blk, lo, hi)`; `mcache.Malloc` may return *any* previously freed block of the same capacity class (every
statement quantifies over the allocator's choices `ch`), the allocator may overwrite free blocks at any time
(`CStep.scribble`), the caller may write into its own buffers and into blocks of the writer (`CStep.callerWrite`,
`.fillRef`).  Every statement speaks of a run that returns: that the memory-level operations do not fault is not proved.
Lemmas: `Proofs/ConnMem.lean` (heap, writer), `ConnMemInv.lean` (reader: ownership, frame), `ConnMemSys.lean` (whole
connection, non-releasing steps; writer contract), `ConnMemRel.lean` (`Release` / `Read` keep ownership).  Both levels have a
type `Ref` (`Conn.Ref` of `Proofs/ConnRef.lean` above); with both namespaces open the memory level's is written `ConnMem.Ref`. -/

open Hertz.ConnMem

/-- Ownership holds in every state a connection can reach: after any sequence of reader operations (releasing ones
included), writer operations, caller writes and allocator activity, with any allocator choices, the blocks held by the
reader (chain, `caches`, private peek copies), by the writer, by the caller and by the allocator's free list are pairwise
distinct — no live block is ever on the free list, no block is held twice — and a by-reference output node points into
caller memory.  (`LegalAny`: the caller passes only its own buffers to `WriteBinary` and fills only cells of blocks of the
writer or of its own.) -/
theorem ownership_invariant (size : Nat) (wire : Wire) (sc : WScript) (steps : List CStep)
    (hl : LegalAny (MConn.new size) wire sc steps) (outs : List COut) (c' : MConn) (w' : Wire) (sc' : WScript)
    (h : crun (MConn.new size) wire sc steps = .ok (outs, c', w', sc')) : Good c' :=
  crun_good (Good_new size) hl h

/-- non-vacuity: a run with a peek, a release and a flush, all legal -/
example : LegalAny (MConn.new 0) [.data [1, 2, 3] none] [] [.rd (.peek 2) 0 0, .rd .release 0 0, .reserve 4 0, .flush] :=
  ⟨trivial, fun _ _ _ _ _ => ⟨trivial, fun _ _ _ _ _ => ⟨trivial, fun _ _ _ _ _ => ⟨trivial, fun _ _ _ _ _ => trivial⟩⟩⟩⟩

/-- Between a `Peek` and the next `Release` / `Read`, NO step of the system writes into the referenced region: after the
`Peek` that returned the slice `ref = (blk, lo, hi)`, any sequence of non-releasing reader operations (`fill`s, further
`Peek`s — which may allocate, recycling any freed block —, `Skip`, `ReadByte`, `ReadBinary`, `Len`), writer operations
(`Malloc`, `WriteBinary`, `Flush` — which frees blocks), caller writes into its own memory and allocator scribbling over
free memory leaves `heap[blk][lo:hi]` exactly as it was — for every allocator choice.  `Good c` holds in every reachable
state (`ownership_invariant`). -/
theorem peeked_ref_stable_mem (c : MConn) (hG : Good c) (wire : Wire) (sc : WScript) (n ch1 ch2 : Nat)
    (o : COut) (c1 : MConn) (w1 : Wire) (sc1 : WScript)
    (h : cstep c wire sc (.rd (.peek n) ch1 ch2) = .ok (o, c1, w1, sc1)) (ref : ConnMem.Ref) (href : o.ref = some ref)
    (steps : List CStep) (outs : List COut) (c2 : MConn) (w2 : Wire) (sc2 : WScript)
    (hl : Legal c1 w1 sc1 steps) (hr : crun c1 w1 sc1 steps = .ok (outs, c2, w2, sc2)) :
    c2.mem.heap.read ref = c1.mem.heap.read ref := by
  have hG1 := (cstep_ok hG (show CStep.legal c (.rd (.peek n) ch1 ch2) from rfl) h).1
  have hF := (crun_ok hG1 hl hr).2
  -- the reference lies in protected cells of `c1`, and the frame keeps those
  obtain ⟨⟨mo, m1, r1, w1'⟩, hs, h⟩ := bind_eq_ok h
  obtain ⟨⟨⟨pb, pr⟩, e, m1', r1', w1''⟩, hp, hs⟩ := bind_eq_ok hs
  cases hs; cases h; cases href
  have hP := mpeek_ref_prot hp
  exact slice_congr (fun k h1 h2 => (hF ref.blk k (hP k h1 h2)).2)

/-- non-vacuity: a peek on a fresh connection; then a further peek that reads the wire into the same block, a reserve and
a scribble are legal, and the run exists -/
example :
    (do let (o, c1, w1, s1) ← cstep (MConn.new 0) [.data [1, 2, 3] none, .data [4] none] [] (.rd (.peek 2) 0 0)
        let (_, c2, _, _) ← crun c1 w1 s1 [.rd (.peek 4) 0 0, .reserve 8 0, .scribble 9, .rd (.skip 1) 0 0]
        pure (o.ref, o.ref.map c1.mem.heap.read, o.ref.map c2.mem.heap.read)).toOption
      = some (some ⟨0, 0, 2⟩, some [1, 2], some [1, 2]) := by
  decide +kernel

example : Good (MConn.new 8192) := Good_new 8192

/-- The same from a fresh connection: `c` is any state reached by any legal history (releasing operations included). -/
theorem peeked_ref_stable_from_new (size : Nat) (wire0 : Wire) (sc0 : WScript) (steps0 : List CStep)
    (hl0 : LegalAny (MConn.new size) wire0 sc0 steps0) (outs0 : List COut) (c : MConn) (wire : Wire) (sc : WScript)
    (h0 : crun (MConn.new size) wire0 sc0 steps0 = .ok (outs0, c, wire, sc)) (n ch1 ch2 : Nat)
    (o : COut) (c1 : MConn) (w1 : Wire) (sc1 : WScript)
    (h : cstep c wire sc (.rd (.peek n) ch1 ch2) = .ok (o, c1, w1, sc1)) (ref : ConnMem.Ref) (href : o.ref = some ref)
    (steps : List CStep) (outs : List COut) (c2 : MConn) (w2 : Wire) (sc2 : WScript)
    (hl : Legal c1 w1 sc1 steps) (hr : crun c1 w1 sc1 steps = .ok (outs, c2, w2, sc2)) :
    c2.mem.heap.read ref = c1.mem.heap.read ref :=
  peeked_ref_stable_mem c (ownership_invariant size wire0 sc0 steps0 hl0 outs0 c wire sc h0) wire sc n ch1 ch2 o c1 w1 sc1 h
    ref href steps outs c2 w2 sc2 hl hr

/-- The reader's non-releasing operations and the allocator never write into a block of the writer or of the caller:
reserved slices and buffers handed to `WriteBinary` keep their contents across them (so "the memory `Flush` sends" of
`reserved_ref_stable_until_flush` is only ever changed by the caller itself). -/
theorem writer_memory_untouched_by_reader (c : MConn) (wire : Wire) (sc : WScript) (st : CStep) (hG : Good c)
    (hst : (∃ op ch1 ch2, st = .rd op ch1 ch2 ∧ op.keeps = true) ∨ (∃ pat, st = .scribble pat))
    (o : COut) (c' : MConn) (w' : Wire) (sc' : WScript) (h : cstep c wire sc st = .ok (o, c', w', sc')) :
    ∀ b ∈ c.wr.own ++ c.caller, c'.mem.heap.get b = c.mem.heap.get b := by
  rcases hst with ⟨op, ch1, ch2, rfl, hk⟩ | ⟨pat, rfl⟩
  · -- the second half of the frame of a reader step
    obtain ⟨⟨mo, m1, r1, w1⟩, hs, h⟩ := bind_eq_ok h
    have := mstep_ok hG.1 hk hs
    cases h; exact this.2.2
  · -- a live block is not on the free list
    cases h
    intro b hb
    exact scribble_fold_get (fun hf => count_ge_two_absurd (List.mem_append_right _ hb) hf (hG.1.1 b))

/-- non-vacuity: a peek step on a good state -/
example : (∃ op ch1 ch2, CStep.rd (.peek 3) 0 0 = .rd op ch1 ch2 ∧ op.keeps = true) ∨ (∃ pat, CStep.rd (.peek 3) 0 0 = .scribble pat) :=
  Or.inl ⟨_, _, _, rfl, rfl⟩

/-- The boundary of the contract: after `Release` the same region CAN be overwritten.  `Peek(3)` returns block 0 `[0:3]`
reading `[1,2,3]`; after `Skip(3)`, `Release` (which resets the only node) and the next `Peek(3)` the region reads `[4,5,6]`. -/
theorem released_block_may_be_reused :
    (do let (o, c1, w1, s1) ← cstep (MConn.new 0) [.data [1, 2, 3] none, .data [4, 5, 6] none] [] (.rd (.peek 3) 0 0)
        let (_, c2, _, _) ← crun c1 w1 s1 [.rd (.skip 3) 0 0, .rd .release 0 0, .rd (.peek 3) 0 0]
        pure (o.ref, o.ref.map c1.mem.heap.read, o.ref.map c2.mem.heap.read)).toOption
      = some (some ⟨0, 0, 3⟩, some [1, 2, 3], some [4, 5, 6]) := by
  decide +kernel

/-- … and through `mcache`: a 4 KiB head node freed by `Release` comes back as the new tail node when the allocator
chooses so (`ch = 0`: the freed block), and the next `fill` stores new bytes over the slice peeked before the `Release`. -/
theorem released_block_may_be_reused_by_mcache :
    (fun ch =>
      (do let wire : Wire := [.data (List.replicate 4096 1) none, .data (List.replicate 4096 2) none, .data (List.replicate 4096 3) none]
          let (o, c1, w1, s1) ← cstep (MConn.new 0) wire [] (.rd (.peek 4096) 0 0)
          let (_, c2, _, _) ← crun c1 w1 s1 [.rd (.peek 4097) 0 0, .rd (.skip 4097) 0 0, .rd .release 0 0, .rd (.peek 4096) ch 0]
          pure (o.ref, (o.ref.map c1.mem.heap.read).map (List.take 2), (o.ref.map c2.mem.heap.read).map (List.take 2))).toOption) 0
      = some (some ⟨0, 0, 4096⟩, some [1, 1], some [3, 3]) := by
  decide +kernel

/-- A `Flush` that returns nil handed the peer, for every node of the output chain in order, the cells the node refers to
*as they are when `Flush` runs* (the model reads the heap at that moment, as the `Write` call does). -/
theorem flush_sends_memory_at_flush_time (m : Mem) (s : MWriter) (sc : WScript) (hok : (mwFlush m s sc).1 = false) :
    (mwFlush m s sc).2.1 = s.pendingRefs.flatMap m.heap.read :=
  ((mwFlush_spec m s sc).2 hok).1

/-- `WriteBinary(b)` with `len(b) ≥ block4k` keeps a REFERENCE to `b`: whatever the memory holds when the next
successful `Flush` runs (`h'` is arbitrary: the caller may have rewritten `b` in between), the peer gets what was pending
before, followed by the contents of `b` AT FLUSH TIME. -/
theorem write_by_reference_contract (m : Mem) (s : MWriter) (r : ConnMem.Ref) (ch : Nat) (hbig : block4k ≤ r.len) :
    ∃ m1 s1, mwWriteBinary m s r ch = .ok (r.len, m1, s1) ∧
      ∀ (h' : Heap) (sc : WScript), (mwFlush { m1 with heap := h' } s1 sc).1 = false →
        (mwFlush { m1 with heap := h' } s1 sc).2.1 = s.pendingRefs.flatMap h'.read ++ h'.read r := by
  obtain ⟨m1, s1, h1, h2⟩ := mwWriteBinary_big m s r ch hbig
  refine ⟨m1, s1, h1, fun h' sc hok => ?_⟩
  rw [((mwFlush_spec _ s1 sc).2 hok).1, h2]; simp

/-- witness: the caller reuses a 4096-byte buffer between `WriteBinary` and `Flush` — the wire carries the NEW byte … -/
theorem write_by_reference_mutation_reaches_wire :
    (do let (o, c1, _, _) ← cstep (MConn.new 0) [] [] (.newBuf (List.replicate 4096 7))
        let r := o.ref.getD ⟨0, 0, 0⟩
        let (outs, _, _, _) ← crun c1 [] [] [.writeBinary r 0, .callerWrite r.blk 0 [9], .flush]
        pure (outs.map (fun (o : COut) => o.sent.take 2))).toOption = some [[], [], [9, 7]] := by
  decide +kernel

/-- … while below the threshold the bytes were copied at the call: the wire carries the contents at CALL time. -/
theorem small_write_is_copied :
    (do let (o, c1, _, _) ← cstep (MConn.new 0) [] [] (.newBuf [7, 7, 7])
        let r := o.ref.getD ⟨0, 0, 0⟩
        let (outs, _, _, _) ← crun c1 [] [] [.writeBinary r 0, .callerWrite r.blk 0 [9], .flush]
        pure (outs.map (fun (o : COut) => o.sent))).toOption = some [[], [], [7, 7, 7]] := by
  decide +kernel

/-- The copy half of the contract, for every state: `WriteBinary(b)` with `0 < len(b) < block4k` copies — the destination
`d` is a slice of the output chain (hence what `Flush` sends, see `reserved_ref_stable_until_flush`), lies in a block of the
writer or the caller's, and right after the call holds the contents `b` had AT CALL TIME.  Hypotheses besides `Good` (true in
every reachable state, `ownership_invariant`): `b` is a valid slice of a caller block; `off ≤ malloc` (true in every reachable
state, `tail_off_le_malloc`); and two length facts — the tail node fits its block, free blocks are as long as their recorded
capacity — that are assumed and not proved of reachable states (see TODO-OPEN). -/
theorem write_copy_contract (c : MConn) (hG : Good c) (r : ConnMem.Ref) (ch n : Nat) (m1 : Mem) (wr1 : MWriter)
    (hr : r.blk ∈ c.caller) (hpos : 0 < r.len) (hs : r.len < block4k) (hv : r.hi ≤ (c.mem.heap.get r.blk).length)
    (hfit : c.wr.w.base + c.wr.w.cap ≤ (c.mem.heap.get c.wr.w.blk).length) (hoff : c.wr.w.off ≤ c.wr.w.malloc)
    (hfree : ∀ e ∈ c.mem.free, (c.mem.heap.get e.1).length = e.2)
    (h : mwWriteBinary c.mem c.wr r ch = .ok (n, m1, wr1)) :
    ∃ d, Covered wr1 d ∧ d.len = r.len ∧ d.blk ∈ wr1.own ++ c.caller ∧ m1.heap.read d = c.mem.heap.read r :=
  mwWriteBinary_small_copy c hG r ch n m1 wr1 hr hpos hs hv hfit hoff hfree h

/-- non-vacuity: all hypotheses of `write_copy_contract` hold in the state after the caller made a 3-byte buffer -/
example : ∀ o c w sc, cstep (MConn.new 0) [] [] (.newBuf [7, 7, 7]) = .ok (o, c, w, sc) →
    Good c ∧ 2 ∈ c.caller ∧ 3 ≤ (c.mem.heap.get 2).length ∧
    c.wr.w.base + c.wr.w.cap ≤ (c.mem.heap.get c.wr.w.blk).length ∧ c.wr.w.off ≤ c.wr.w.malloc ∧
    (∀ e ∈ c.mem.free, (c.mem.heap.get e.1).length = e.2) := by
  intro o c w sc h
  have hG := (cstep_ok (st := .newBuf [7, 7, 7]) (Good_new 0) trivial h).1
  simp only [cstep, pure, Except.pure] at h; cases h
  exact ⟨hG, by decide +kernel, by decide +kernel, by decide +kernel, by decide +kernel, by decide +kernel⟩

/-- `off ≤ malloc` holds for the tail node of the output chain in every state a connection reaches (any steps, legal or
not): this discharges the hypothesis `hoff` of `write_copy_contract` and of `reserved_ref_stable_until_flush`. -/
theorem tail_off_le_malloc (size : Nat) (wire : Wire) (sc : WScript) (steps : List CStep)
    (outs : List COut) (c' : MConn) (w' : Wire) (sc' : WScript)
    (h : crun (MConn.new size) wire sc steps = .ok (outs, c', w', sc')) : c'.wr.w.off ≤ c'.wr.w.malloc :=
  crun_woff (Nat.le_refl 0) h

/-- non-vacuity: such a run, ending in a flushed, non-recyclable tail node with `off = malloc = 4096` -/
example :
    (do let (o, c1, _, _) ← cstep (MConn.new 0) [] [] (.newBuf (List.replicate 4096 7))
        let (_, c2, _, _) ← crun c1 [] [] [.writeBinary (o.ref.getD ⟨0, 0, 0⟩) 0, .flush]
        pure (c2.wr.w.off, c2.wr.w.malloc)).toOption = some (4096, 4096) := by
  decide +kernel

/-- A slice reserved by `Malloc` stays the memory `Flush` sends: the reservation lies in the unsent part of a node of
the output chain (`Covered`), later `Malloc` / `WriteBinary` calls (any sizes, any allocator choices) keep it there, and a
successful `Flush` hands the peer the cells of the reservation as they are at flush time (so a caller that fills the
slice after further writes, but before `Flush`, gets its bytes onto the wire). -/
theorem reserved_ref_stable_until_flush :
    (∀ (m : Mem) (s : MWriter) (n ch : Nat) (d : ConnMem.Ref) (m1 : Mem) (s1 : MWriter), s.w.off ≤ s.w.malloc →
        mwReserve m s n ch = .ok (some d, m1, s1) → Covered s1 d ∧ d.len = n) ∧
    (∀ (m : Mem) (s : MWriter) (n ch : Nat) (o : Option ConnMem.Ref) (m1 : Mem) (s1 : MWriter) (d : ConnMem.Ref),
        Covered s d → mwReserve m s n ch = .ok (o, m1, s1) → Covered s1 d) ∧
    (∀ (m : Mem) (s : MWriter) (r : ConnMem.Ref) (ch n : Nat) (m1 : Mem) (s1 : MWriter) (d : ConnMem.Ref),
        Covered s d → mwWriteBinary m s r ch = .ok (n, m1, s1) → Covered s1 d) ∧
    (∀ (m : Mem) (s : MWriter) (sc : WScript) (d : ConnMem.Ref), Covered s d → (mwFlush m s sc).1 = false →
        ∃ a b, (mwFlush m s sc).2.1 = a ++ m.heap.read d ++ b) :=
  ⟨mwReserve_covered, mwReserve_keeps, mwWriteBinary_keeps,
   fun m s sc d hc hok => by rw [((mwFlush_spec m s sc).2 hok).1]; exact covered_sent s d m.heap hc⟩

/-- non-vacuity: reserve 2 bytes, write more, fill the reservation late, flush: the late bytes are on the wire -/
example :
    (do let (o, c1, _, _) ← cstep (MConn.new 0) [] [] (.reserve 2 0)
        let r := o.ref.getD ⟨0, 0, 0⟩
        let (o2, c2, _, _) ← cstep c1 [] [] (.newBuf [5, 5, 5])
        let (outs, _, _, _) ← crun c2 [] [] [.writeBinary (o2.ref.getD ⟨0, 0, 0⟩) 0, .fillRef r [8, 9], .flush]
        pure (outs.map (fun (o : COut) => o.sent))).toOption = some [[], [], [8, 9, 5, 5, 5]] := by
  decide +kernel

/-- After a `Flush` that returned nil the writer reads nothing any more through the references it still holds: whatever
the memory holds later (`h'` arbitrary), nothing of it is pending — the caller may reuse its buffers. -/
theorem flush_clears_references (m : Mem) (s : MWriter) (sc : WScript) (hok : (mwFlush m s sc).1 = false) (h' : Heap) :
    (mwFlush m s sc).2.2.2.1.pendingRefs.flatMap h'.read = [] := by
  obtain ⟨_, hpre, hlen⟩ := (mwFlush_spec m s sc).2 hok
  simp only [MWriter.pendingRefs, hpre, List.nil_append, List.map_cons, List.map_nil, List.flatMap_cons,
    List.flatMap_nil, List.append_nil]
  exact MNode.read_unreadRef_nil _ _ hlen

/-- non-vacuity: a successful flush of a by-reference node -/
example :
    (do let (o, c1, _, _) ← cstep (MConn.new 0) [] [] (.newBuf (List.replicate 4096 7))
        let (outs, c2, _, _) ← crun c1 [] [] [.writeBinary (o.ref.getD ⟨0, 0, 0⟩) 0, .flush]
        pure (outs.map (fun (o : COut) => (o.failed, o.sent.length)), c2.wr.pendingRefs.map ConnMem.Ref.len)).toOption
      = some ([(false, 0), (false, 4096)], [0]) := by
  decide +kernel

/-
TODO-OPEN (memory level)

* `mem_refines_list_model` — erasing the heap (`MReader.view`, `MWriter.view`: a node's `data` is
  `heap[blk][base : base+malloc]`, logical ids kept) commutes with every operation, so that every run of `mstep` projects
  onto the run of `step` of `Model/Conn.lean` for every allocator choice — is NOT proved.  It is checked per case: the driver
  (`Driver/C13m.lean`) runs both models on every `c13m` case and compares all reader outputs (token `!MODEL-REFINE` on a
  difference), and re-reads every protected reference and every peek result from the model heap (`!MODEL-STALE`).
  What is proved instead, directly on the memory model: `ownership_invariant`, `peeked_ref_stable_mem` and the writer
  contract theorems above.
* the length bookkeeping "a block is as long as the capacity recorded for it, `off ≤ malloc ≤ cap`" is not proved as an
  invariant of reachable states (block lengths never change: `splice_length`; groundwork `LInv` in
  `Proofs/ConnMemRefine.lean`, `alloc_len` in `Proofs/ConnMemSys.lean`).  It appears as hypotheses `hfit`, `hfree` of `write_copy_contract` (`hoff` there and in
  `reserved_ref_stable_until_flush` IS discharged for reachable states: `tail_off_le_malloc`); the driver's per-case
  contract acceptor covers the same ground on the real code.
* no theorem says that `mstep` / `cstep` return (no fault at memory level), nor that the reference `Peek` returns reads the
  bytes it returns (`peeked_ref_stable_mem` speaks of `heap.read ref` only; for a copy this needs the block lengths
  above).  Per case the driver reports a fault of the model as `PANIC` and a reference that reads other bytes as `!MODEL-REF`.
-/

end Hertz.Props.C13
