import Hertz.Proofs.Recycle
import Hertz.Proofs.PoolOwn
import Hertz.Gen.PoolSites
/-!
# C09 — a recycled context, request or response is indistinguishable from a fresh one

All statements are about the reset functions in `Hertz/Gen/Resets.lean`, which are *regenerated from the Go
source on every run* (one Lean function per Go method, statement by statement; capacity tests become the
universally quantified `Oracle`), the hand-written observation/fresh-object spec in `Hertz/Spec/Recycle.lean`
and the pool/serve-loop steps in `Hertz/Model/Recycle.lean`.

The full-strength statement "for all states `s`: `observe (reset s) = observe (fresh s)`" is **false of the code
as it stands** for `RequestContext`: no reset line writes `RequestContext.exiled` or `RequestContext.hijackHandler`.
The file therefore contains, for this type, the negation on concrete witnesses (`…_fails_at`, by `decide`), the exact
residue (`reset_exact`: the reset state is the fresh state except for exactly those two fields) and the `_partial`
theorems whose extra hypotheses are precisely "those fields were not dirtied".  `hijackHandler` is cleared by the serve
loop itself before the reset, so the keep-alive statement `serve_recycle_fresh_partial` excludes only `exiled`
(known finding `exiled-survives-reset`).  For `Request`, `Response`, `URI`, `Cookie`, `Args`, `Trailer` the statement
holds at full strength.
-/
namespace Hertz.Props.C09
open Hertz Hertz.ResetBase Hertz.Gen.Resets Hertz.Recycle

/-! ## the tie to the source -/

/-- The hand-written steps of `Model/Recycle.lean` were written against these call skeletons of
`Server.Serve`, `putRequestContext` and the `Release*` functions; nothing in the reset closure is outside the
translator's grammar; `NewContext` initialises exactly `Params` and `index`; `Serve` re-establishes the
connection-scoped fields before the loop; no other `Reset*` method exists on the pooled types than the two
`ResetConnectionClose` (header editing, not recycling). -/
theorem model_matches_gen :
    generatedSkeletons = expectedSkeletons ∧ untranslatedCount = 0 ∧
    serveLoopLast = "ctx.ResetWithoutConn()" ∧
    newContextKeys = ["Params", "index"] ∧
    servePrologue = ["ctx.HTMLRender = s.HTMLRender", "ctx.SetConn(conn)", "ctx.Request.SetIsTLS(s.TLS != nil)",
                     "ctx.SetEnableTrace(s.EnableTrace)"] ∧
    otherResetMethods = ["RequestHeader.ResetConnectionClose", "ResponseHeader.ResetConnectionClose"] :=
  ⟨rfl, rfl, rfl, rfl, rfl, rfl⟩

/-- Every field of `Request`, `Response`, `URI`, `Cookie`, `Args`, `Trailer` (and everything nested in them) is written by
the reset closure or is on the allow-list; every allow-list entry names a field that exists.  Decided over the
generated field and write tables: adding a field to one of these Go structs, or deleting a reset line, breaks it. -/
theorem every_field_accounted :
    unaccounted "Request" "Reset" = [] ∧ unaccounted "Request" "ResetWithoutConn" = [] ∧
    unaccounted "Response" "Reset" = [] ∧
    unaccounted "URI" "Reset" = [] ∧ unaccounted "Cookie" "Reset" = [] ∧ unaccounted "Args" "Reset" = [] ∧
    unaccounted "Trailer" "Reset" = [] ∧ staleAllow = [] :=
  accounted_check.1

/-- For `RequestContext` these are exactly the fields nothing resets (any further unaccounted field breaks this
theorem) … -/
theorem every_field_accounted_partial :
    unaccounted "RequestContext" "ResetWithoutConn" = ["RequestContext.hijackHandler", "RequestContext.exiled"] ∧
    unaccounted "RequestContext" "Reset" = unaccounted "RequestContext" "ResetWithoutConn" :=
  accounted_check.2

/-- … so the statement made of the other types is false of it. -/
theorem every_field_accounted_fails_at :
    unaccounted "RequestContext" "ResetWithoutConn" ≠ [] ∧ unaccounted "RequestContext" "Reset" ≠ [] := by
  rw [every_field_accounted_partial.2, every_field_accounted_partial.1]
  exact ⟨nofun, nofun⟩

/-! ## witnesses -/

def o₀ : Oracle := Oracle.ofAssoc []
def o₁ : Oracle := Oracle.ofAssoc [("c_Request_ResetBody_0", true), ("c_Response_ResetBody_0", true)]

def kv (k v : Bytes) : ArgsKV := { key := k, value := v, noValue := false }

/-- a context on which a handler has used about everything -/
def dirtyContext : RequestContext :=
  { zero_RequestContext with
    conn := 7, HTMLRender := 3, traceInfo := 5, enableTrace := true, clientIPFunc := 1, formValueFunc := 1,
    binder := 1, validator := 1,
    Errors := [1, 1], Params := [1], handlers := 4, fullPath := [47, 97], index := 63, Keys := 2, finished := 1,
    mu := 1,
    Request := { zero_Request with
      isTLS := true, maxKeepBodySize := 4096,
      Header := { zero_RequestHeader with
        disableNormalizing := true, connectionClose := true, cookiesCollected := true, contentLength := 5,
        method := [80], host := [104], h := [kv [88] [49]], cookies := [kv [99] [100]], rawHeaders := [88],
        mulHeader := [[1]], protocol := [72], bufKV := kv [1] [2],
        trailer := some { zero_Trailer with h := [kv [84] [116]], disableNormalizing := true } },
      uri := { zero_URI with
        path := [47], queryString := [97, 61, 98], parsedQueryArgs := true,
        queryArgs := { zero_Args with args := [kv [97] [98]], buf := [9] }, DisablePathNormalizing := true,
        fullURI := [1], requestURI := [2] },
      postArgs := { zero_Args with args := [kv [112] [113]] },
      bodyStream := 1, w := 1, body := some [98, 111, 100, 121], bodyRaw := [114], multipartForm := 1,
      multipartFormBoundary := [45], parsedURI := true, parsedPostArgs := true, multipartFiles := [1],
      multipartFields := [1, 1], options := 1 },
    Response := { zero_Response with
      maxKeepBodySize := 4096, ImmediateHeaderFlush := true, SkipBody := true, bodyStream := 1, w := 1,
      body := some [111, 107], bodyRaw := [1], raddr := 1, laddr := 1, hijackWriter := 1,
      Header := { zero_ResponseHeader with
        disableNormalizing := true, connectionClose := true, noDefaultContentType := true, noDefaultDate := true,
        statusCode := 404, contentLength := 2, headerLength := 53, contentType := [116], server := [115], h := [kv [88] [49]],
        cookies := [kv [99] [100]], mulHeader := [[1]], protocol := [72],
        trailer := some { zero_Trailer with h := [kv [84] [116]] } } } }

def wExiled : RequestContext := { zero_RequestContext with exiled := true }
def wHijack : RequestContext := { zero_RequestContext with hijackHandler := 1 }
def wHeaderLength : Response := { zero_Response with Header := { zero_ResponseHeader with headerLength := 5 } }
def wCtxHeaderLength : RequestContext := { zero_RequestContext with Response := wHeaderLength }

/-! ## RequestContext -/

/-- What `ResetWithoutConn` / `Reset` do, exactly, for every state and every outcome of the capacity tests: the
observable state afterwards is that of a fresh context *except* for `exiled` and `hijackHandler`. -/
theorem reset_exact (o : Oracle) (s : RequestContext) :
    obsContext (RequestContext_ResetWithoutConn o s) = obsContext (contextResidue s) ∧
    obsContext (RequestContext_Reset o s) = obsContext { contextResidue s with conn := 0 } :=
  ⟨context_resetWithoutConn o s, context_reset o s⟩

example : contextResidue dirtyContext ≠ dirtyContext ∧ contextResidue wExiled ≠ freshContext wExiled := by decide

/-- "`ResetWithoutConn` returns the observable state of a fresh context", for all states, is FALSE
(`reset_fresh_false`): two concrete states on which it fails.  The `exiled` one is checked against the real code by the
harness ops `rst`/`probe` (finding `C09-exiled`, class `exiled-survives-reset`); for the `hijackHandler` one no
finding is kept: the driver's spec ignores the field (`dropHijack`, Driver/C09.lean). -/
theorem reset_fresh_fails_at :
    obsContext (RequestContext_ResetWithoutConn o₀ wExiled) ≠ obsContext (freshContext wExiled) ∧
    obsContext (RequestContext_ResetWithoutConn o₀ wHijack) ≠ obsContext (freshContext wHijack) := by
  decide

/-- regression (fixed in 9be7dd6): the old `headerLength` witnesses are now reset like everything else -/
example : obsContext (RequestContext_ResetWithoutConn o₀ wCtxHeaderLength) = obsContext (freshContext wCtxHeaderLength) ∧
    obsContext (serveRecycle o₀ wCtxHeaderLength) = obsContext (freshContext wCtxHeaderLength) ∧
    obsResponse (releaseResponse o₀ wHeaderLength) = obsResponse (freshResponse wHeaderLength) ∧
    obsResponse wHeaderLength ≠ obsResponse (freshResponse wHeaderLength) := by decide

theorem reset_fresh_false :
    ¬ ∀ (o : Oracle) (s : RequestContext), obsContext (RequestContext_ResetWithoutConn o s) = obsContext (freshContext s) :=
  fun h => reset_fresh_fails_at.1 (h o₀ wExiled)

/-- `reset_fresh` with the excluding hypotheses: for every state in which the two residue fields are clean and
every outcome of the capacity tests, the context after `ResetWithoutConn` is observably a fresh context of the
same connection. -/
theorem reset_fresh_partial (o : Oracle) (s : RequestContext)
    (h1 : s.hijackHandler = 0) (h2 : s.exiled = false) :
    obsContext (RequestContext_ResetWithoutConn o s) = obsContext (freshContext s) := by
  rw [context_resetWithoutConn, contextResidue_fresh s h1 h2]

example : dirtyContext.hijackHandler = 0 ∧ dirtyContext.exiled = false ∧ dirtyContext.Response.Header.headerLength = 53 ∧
    obsContext dirtyContext ≠ obsContext (freshContext dirtyContext) ∧
    obsContext (RequestContext_ResetWithoutConn o₁ dirtyContext) = obsContext (freshContext dirtyContext) := by decide

/-- The keep-alive step of `Server.Serve` (`SetHijackHandler(nil)`, later `ResetWithoutConn()`): the next
request on the connection observes a fresh context — whatever the handler did to any other field, for every
outcome of the capacity tests — provided the handler did not `Exile()` the context. -/
theorem serve_recycle_fresh_partial (o : Oracle) (s : RequestContext) (h2 : s.exiled = false) :
    obsContext (serveRecycle o s) = obsContext (freshContext s) := by
  have h := reset_fresh_partial o (RequestContext_SetHijackHandler o 0 s) rfl h2
  have e : freshContext (RequestContext_SetHijackHandler o 0 s) = freshContext s := rfl
  rw [e] at h
  exact h

example : obsContext (serveRecycle o₀ { dirtyContext with hijackHandler := 9 })
    = obsContext (freshContext dirtyContext) := by decide

theorem serve_recycle_fails_at :
    obsContext (serveRecycle o₀ wExiled) ≠ obsContext (freshContext wExiled) := by
  decide

/-- A context taken from `Engine.ctxPool` after any history of connections (each `put` is the end of a
connection: the context is in an arbitrary state except that it is not exiled — exiled contexts are not
put back by `Serve`) is observably what `ctxPool.New` returns, up to the configuration fields. -/
theorem pooled_context_fresh_partial (new : RequestContext) (hn : obsContext new = obsContext (freshPooledContext new))
    (es : List (PoolEv RequestContext))
    (hq : ∀ x ∈ putsOf es, x.exiled = false) :
    ∀ y ∈ poolRun poolRecycle new es [], obsContext y = obsContext (freshPooledContext y) := by
  refine pool_gets poolRecycle new (fun y => obsContext y = obsContext (freshPooledContext y))
    (fun x => x.exiled = false) hn ?_ es [] hq (by simp)
  exact fun o x h2 => poolRecycle_fresh o x h2

example : ∀ y ∈ poolRun poolRecycle (freshPooledContext dirtyContext)
      [.get 0, .put o₁ dirtyContext, .put o₀ { dirtyContext with hijackHandler := 3, Keys := 9 }, .get 1, .get 0, .get 5] [],
    obsContext y = obsContext (freshPooledContext dirtyContext) := by decide

/-! ## Request, Response, URI, Cookie, Args from the public pools -/

/-- `ReleaseRequest` then `AcquireRequest`: for every state of the released request and every outcome of the
capacity test, the request is observably `new(Request)` (with the retention limit it was configured with). -/
theorem release_acquire_fresh_request (o : Oracle) (s : Request) :
    obsRequest (releaseRequest o s) = obsRequest (freshRequest s) := request_reset o s

example : obsRequest dirtyContext.Request ≠ obsRequest (freshRequest dirtyContext.Request) ∧
    obsRequest (releaseRequest o₁ dirtyContext.Request) = obsRequest (freshRequest dirtyContext.Request) := by decide

/-- the same through any history of the pool -/
theorem acquire_request_fresh (es : List (PoolEv Request)) :
    ∀ y ∈ poolRun releaseRequest zero_Request es [], obsRequest y = obsRequest (freshRequest y) := by
  refine pool_gets releaseRequest zero_Request (fun y => obsRequest y = obsRequest (freshRequest y)) (fun _ => True)
    rfl ?_ es [] (by simp) (by simp)
  intro o x _
  have key := request_reset o x
  show obsRequest (Request_Reset o x) = obsRequest (freshRequest (Request_Reset o x))
  rw [freshRequest_of_obs _ _ key]; exact key

example : ∀ y ∈ poolRun releaseRequest zero_Request
      [.put o₁ dirtyContext.Request, .get 0, .put o₀ dirtyContext.Request, .get 3, .get 0] [],
    obsRequest y = obsRequest (freshRequest y) := by decide

/-- `ReleaseResponse` then `AcquireResponse`: observably `new(Response)` (with its retention limit), for every state
and every outcome of the capacity test. -/
theorem release_acquire_fresh_response (o : Oracle) (s : Response) :
    obsResponse (releaseResponse o s) = obsResponse (freshResponse s) := response_reset o s

example : dirtyContext.Response.Header.headerLength = 53 ∧
    obsResponse dirtyContext.Response ≠ obsResponse (freshResponse dirtyContext.Response) ∧
    obsResponse (releaseResponse o₀ dirtyContext.Response) = obsResponse (freshResponse dirtyContext.Response) := by decide

theorem acquire_response_fresh (es : List (PoolEv Response)) :
    ∀ y ∈ poolRun releaseResponse zero_Response es [], obsResponse y = obsResponse (freshResponse y) := by
  refine pool_gets releaseResponse zero_Response (fun y => obsResponse y = obsResponse (freshResponse y))
    (fun _ => True) rfl ?_ es [] (by simp) (by simp)
  intro o x _
  have key := release_acquire_fresh_response o x
  show obsResponse (releaseResponse o x) = obsResponse (freshResponse (releaseResponse o x))
  rw [freshResponse_of_obs _ _ key]; exact key

example : ∀ y ∈ poolRun releaseResponse zero_Response
      [.put o₁ dirtyContext.Response, .get 0, .put o₀ wHeaderLength, .get 0, .get 0] [],
    obsResponse y = obsResponse (freshResponse y) := by decide

/-- `ReleaseURI`/`AcquireURI`, `ReleaseCookie`/`AcquireCookie`, and `Args.Reset`, `Trailer.Reset` (these two have
no pool of their own; they are recycled inside URI/Request/headers): observably the zero value, for all states. -/
theorem release_acquire_fresh_uri (o : Oracle) (s : URI) : obsURI (releaseURI o s) = obsURI zero_URI := uri_reset o s
theorem release_acquire_fresh_cookie (o : Oracle) (s : Cookie) : obsCookie (releaseCookie o s) = obsCookie zero_Cookie :=
  cookie_reset o s
theorem args_reset_fresh (o : Oracle) (s : Args) : obsArgs (Args_Reset o s) = obsArgs zero_Args := args_reset o s
theorem trailer_reset_fresh (o : Oracle) (s : Trailer) : obsTrailer (Trailer_Reset o s) = obsTrailer zero_Trailer := by
  cases s; rfl

example : obsURI dirtyContext.Request.uri ≠ obsURI zero_URI ∧
    obsURI (releaseURI o₀ dirtyContext.Request.uri) = obsURI zero_URI := by decide
example : obsCookie (releaseCookie o₀ { zero_Cookie with
    key := [107], value := [118], expire := 1, maxAge := 9,
    domain := [100], path := [47], httpOnly := true, secure := true, partitioned := true, sameSite := 2, buf := [1] })
    = obsCookie zero_Cookie := by decide
example : obsArgs (Args_Reset o₀ dirtyContext.Request.postArgs) = obsArgs zero_Args ∧
    obsArgs dirtyContext.Request.postArgs ≠ obsArgs zero_Args := by decide

example : obsTrailer (Trailer_Reset o₀ { zero_Trailer with h := [kv [84] [116]], bufKV := kv [1] [2], disableNormalizing := true })
    = obsTrailer zero_Trailer := by decide

theorem acquire_uri_fresh (es : List (PoolEv URI)) : ∀ y ∈ poolRun releaseURI zero_URI es [], obsURI y = obsURI zero_URI :=
  pool_gets releaseURI zero_URI (fun y => obsURI y = obsURI zero_URI) (fun _ => True) rfl
    (fun o x _ => uri_reset o x) es [] (by simp) (by simp)

theorem acquire_cookie_fresh (es : List (PoolEv Cookie)) :
    ∀ y ∈ poolRun releaseCookie zero_Cookie es [], obsCookie y = obsCookie zero_Cookie :=
  pool_gets releaseCookie zero_Cookie (fun y => obsCookie y = obsCookie zero_Cookie) (fun _ => True) rfl
    (fun o x _ => cookie_reset o x) es [] (by simp) (by simp)

example : ∀ y ∈ poolRun releaseURI zero_URI [.put o₀ dirtyContext.Request.uri, .get 0, .get 0] [], obsURI y = obsURI zero_URI := by
  decide

example : ∀ y ∈ poolRun releaseCookie zero_Cookie
      [.put o₀ { zero_Cookie with key := [107], value := [118], httpOnly := true, sameSite := 3 }, .get 0] [],
    obsCookie y = obsCookie zero_Cookie := by decide


/-! ## ownership of pooled objects along every path of `Serve` (`Model/PoolOwn.lean`)

Pools are multisets of identities, `Put` is unconditional, `Get` takes any stored identity or a new one; a run is ANY
list of events (any length, any interleaving of any number of connections; an event that does not fit the control
point of its connection is a no-op). -/
section Ownership
open Hertz.PoolOwn

/-- The acquire / release sites (with their guards and early returns) of `Server.Serve`, `get/putRequestContext`,
`Acquire/ReleaseBodyStream`, `ContinueReadBodyStream`, `acquire/releaseHijackConn`, `hijackConnHandler`,
`hijackConn.Close` (with its `conn == nil` return), `Request.BodyBuffer/ResetBody/CloseBodyStream` in the
current source are the ones the state machine was written against: a new `Put`/`Release*` site, a changed guard or a
removed early return breaks this theorem. -/
theorem release_sites_match_gen : Hertz.Gen.PoolSites.sites = expectedSites := rfl

/-- The whole discipline, along every run on an engine with any `KeepHijackedConns` setting.  The alphabet contains
`userClose`: the user's code calling `Close()` on its hijack conn any number of times.  The ONE excluded call is
`staleClose` (see `stale_close_fails_at`): a holder that already released its conn closing again AFTER the object was
handed to another connection. -/
theorem ownership_invariant (keep : Bool) (es : List Ev) (hs : NoStale (initK keep) es) : Inv (run (initK keep) es) :=
  inv_run _ _ (inv_initK keep) hs

/-- without `KeepHijackedConns` (`Close` does nothing) there is nothing to exclude: every run, full strength -/
theorem ownership_invariant_noKeep (es : List Ev) : Inv (run (initK false) es) :=
  inv_run _ _ (inv_initK false) (noStale_of_not_keep _ es rfl)

/-- A pool never contains one identity twice. -/
theorem no_double_put (keep : Bool) (es : List Ev) (hs : NoStale (initK keep) es) (k : Kind) :
    ((run (initK keep) es).pool k).Nodup :=
  (ownership_invariant keep es hs).nodup k

/-- An object a live connection holds (its context; the request's body stream while the handler may run and on the
early returns that skip the release; the hijack conn from `acquireHijackConn` to its first effective release) is not
in its pool. -/
theorem no_use_after_put (keep : Bool) (es : List Ev) (hs : NoStale (initK keep) es) (c : Nat) (cn : Conn) (k : Kind)
    (x : Nat) (hc : (run (initK keep) es).conns c = some cn) (hx : cn.holds k x) : x ∉ (run (initK keep) es).pool k :=
  (ownership_invariant keep es hs).notPooled c cn k x hc hx

/-- Two live connections never hold the same object. -/
theorem distinct_owners (keep : Bool) (es : List Ev) (hs : NoStale (initK keep) es) (c d : Nat) (cn dn : Conn)
    (k : Kind) (x : Nat) (hc : (run (initK keep) es).conns c = some cn) (hd : (run (initK keep) es).conns d = some dn)
    (hx : cn.holds k x) (hy : dn.holds k x) : c = d :=
  (ownership_invariant keep es hs).distinct c d cn dn k x hc hd hx hy

/-- No leak: an object that is accounted for (in its pool, or held by a live connection) is still accounted for after
any further event — except at the places where `Serve` deliberately lets it go (`deliberate`): the context of an
exiled request at the end of the connection; the body stream on the returns before the release site (response
write / flush failure, unrecovered panic); a hijack conn the user still holds when `Serve` returns
(`KeepHijackedConns`, not closed yet). -/
theorem every_acquired_released_or_owned (keep : Bool) (es : List Ev) (hs : NoStale (initK keep) es) (e : Ev)
    (k : Kind) (x : Nat) (ht : tracked (run (initK keep) es) k x) :
    tracked (step (run (initK keep) es) e) k x ∨ deliberate (run (initK keep) es) e k x :=
  tracked_step _ e k x (ownership_invariant keep es hs) ht

/-- Regression for /repo 4f1f5ed: in EVERY state, a second `Close()` right after a `Close()` changes nothing — no second
`Put`, whatever `KeepHijackedConns` is. -/
theorem hijack_close_idempotent (s : State) (c : Nat) :
    step (step s (.userClose c)) (.userClose c) = step s (.userClose c) := close_idem s c

/-- the former witness (`KeepHijackedConns`, the hijack handler closes three times): the object is in the pool once,
and the run is inside the protected alphabet -/
example :
    let es := [Ev.accept 0 0, .read 0 true 0, .handle 0 false .returned, .respond 0 true false, .after 0 .hijack 0,
      .userClose 0, .userClose 0, .userClose 0, .hijackEnd 0, .finish 0]
    (run (initK true) es).pool .hjconn = [2] ∧ (run (initK true) es).pool .ctx = [0] ∧
      (run (initK true) es).pool .stream = [1] := by decide

example : NoStale (initK true) [Ev.accept 0 0, .read 0 true 0, .handle 0 false .returned, .respond 0 true false,
    .after 0 .hijack 0, .userClose 0, .userClose 0, .userClose 0, .hijackEnd 0, .finish 0] := by
  -- the first `Close` finds the conn live; the later ones find `hjc.Conn == nil`
  refine ⟨id, id, id, id, id, ?_, ?_, ?_, id, id, trivial⟩
  · rintro ⟨cn, x, hc, hh, hl, -⟩; cases hc; cases hl
  · rintro ⟨cn, x, hc, hh, hl, hset, -⟩; cases hc; cases hh; cases hset
  · rintro ⟨cn, x, hc, hh, hl, hset, -⟩; cases hc; cases hh; cases hset

/-- What the `conn == nil` guard of `Close` does NOT protect (the full-strength statements are false with this call in the
alphabet): connection 0 closes its kept hijack conn (object 0 goes back to the pool), connection 1 is hijacked and is
handed object 0, then the holder of connection 0 calls `Close()` again — `Conn` is set again, the guard does not
fire: object 0 is put while connection 1 holds it (and connection 1's network connection is closed under it).
Only the holder can avoid this (do not touch a hijack conn after closing it); a generation counter in `hijackConn`
would be needed to detect it. -/
theorem stale_close_fails_at :
    let es := [Ev.accept 0 0, .read 0 false 0, .handle 0 false .returned, .respond 0 true false, .after 0 .hijack 0,
      .userClose 0,
      .accept 1 0, .read 1 false 0, .handle 1 false .returned, .respond 1 true false, .after 1 .hijack 0,
      .userClose 0]
    ¬ NoStale (initK true) es ∧
    ((run (initK true) es).conns 1).map (fun cn => (cn.hj, cn.hjLive)) = some (some 1, true) ∧
    (run (initK true) es).pool .hjconn = [1] := by
  refine ⟨?_, by decide, by decide⟩
  simp only [NoStale, and_true, not_and]
  intro _ _ _ _ _ _ _ _ _ _ _ h
  apply h
  exact ⟨{ phase := .hijacking, ctx := 0, hj := some 1, hjLive := false }, 1, by decide, rfl, rfl, by decide, rfl,
    Or.inl rfl⟩

/-- … and the listed places do lose the object (the exceptions are not vacuous): stream on a write failure. -/
example :
    let es := [Ev.accept 0 0, .read 0 true 0, .handle 0 false .returned, .respond 0 false false]
    tracked (run init es) .stream 1 ∧ ¬ tracked (step (run init es) (.finish 0)) .stream 1 ∧
      deliberate (run init es) (.finish 0) .stream 1 := by
  refine ⟨Or.inr ⟨0, _, rfl, by decide⟩, ?_, ⟨_, rfl, by decide, Or.inr (Or.inl ⟨rfl, Or.inl rfl⟩)⟩⟩
  rintro (h | ⟨c, cn, hc, _⟩)
  · revert h; decide
  · -- the only connection is gone
    simp [run, step, init, State.setConn, State.setPool, State.put, take] at hc
    simp [hc.1] at hc

/-- non-vacuity: two keep-alive connections with streamed bodies interleaved, one closes, a third reuses its objects -/
example :
    let es := [Ev.accept 0 0, .accept 1 0, .read 0 true 0, .read 1 true 0, .handle 0 false .returned,
      .respond 0 true false, .after 0 .close 0, .finish 0, .accept 2 0, .handle 1 false .returned, .read 2 true 0]
    (run init es).pool .ctx = [] ∧ (run init es).pool .stream = [] ∧
    ((run init es).conns 2).map (fun cn => (cn.ctx, cn.stream)) = some (0, some 2) ∧
    ((run init es).conns 1).map (fun cn => (cn.ctx, cn.stream)) = some (1, some 3) := by decide

/-- The hazard the discipline lives with: after "Release request body stream" `ctx.Request.bodyStream` still points
to the pooled object until `ResetWithoutConn()`/`Reset()` (the hijack handler and the deferred function run in that
window).  Nothing in `Serve` dereferences it there — which is exactly what a second release would do. -/
theorem released_reference_dangles :
    let s := run init [Ev.accept 0 0, .read 0 true 0, .handle 0 false .returned, .respond 0 true false]
    (s.conns 0).map (fun cn => (cn.stream, cn.owns .stream)) = some (some 1, false) ∧ s.pool .stream = [1] := by decide

/-- `Put` is unconditional in the model (as in `sync.Pool`): releasing through a dangling reference puts the
object a second time — the discipline is a property of the release SITES, not of the pool. -/
theorem second_release_breaks_nodup (s : State) (k : Kind) (x : Nat) : ¬ (((s.put k x).put k x).pool k).Nodup := by
  simp [State.put, State.setPool]

/-- scripts without `KeepHijackedConns` are runs: every scripted schedule of connections keeps the discipline -/
theorem scripted_connections_keep_discipline (scripts : List (Nat × Bool × List Req)) :
    Inv (run (initK false) (scripts.flatMap (fun p => Ev.accept p.1 0 :: connEvents p.1 p.2.1 p.2.2))) :=
  ownership_invariant_noKeep _

example : (run init (Ev.accept 0 0 :: connEvents 0 false
      [{ readable := true, streamed := true }, { readable := true, streamed := true, close := true }])).pool .stream = [1]
    ∧ (run init (Ev.accept 0 0 :: connEvents 0 false
      [{ readable := true, streamed := true }, { readable := true, streamed := true, close := true }])).pool .ctx = [0] := by
  decide

end Ownership

/-
TODO-OPEN (not provable in this model, covered by the differential runs only):

* `reset_fresh` at full strength — `∀ o s, obsContext (RequestContext_ResetWithoutConn o s) = obsContext (freshContext s)` —
  is FALSE of the code as it stands (see `reset_fresh_false`, `reset_exact`); it becomes provable (delete the
  `_fails_at` theorems, drop the hypotheses of the `_partial` ones) once the Go code resets `exiled` and
  `hijackHandler` (known finding `exiled-survives-reset`: the keep-alive loop would have to take a new context after
  `Exile()`).
* Retained capacity: `x = x[:0]` keeps the backing array; `allocArg` hands the stale `argsKV` slots out again and
  relies on every user overwriting key, value and noValue.  The model maps slices to lists, so "no stale slot content
  becomes visible" is not a statement of this model; it is checked end to end (a mutation that appends to the stale key
  is caught by the probes only).
* nil versus empty slices/maps after a reset (`Keys == nil`, `Body() == nil`) are identified by the model.
* `traceInfo.Reset()` (tracer statistics) and the closing of `finished` / body streams are effects outside the state.
* Ownership model (`Model/PoolOwn.lean`): the byte buffers of request/response bodies (`requestBodyPool`,
  `responseBodyPool`: put back only when their capacity exceeds `maxKeepBodySize`), `eventStackPool` (tracing), the
  multipart form and the `traceInfo` object are not in the state machine (their sites ARE in the generated site list, so
  a new release site still breaks `release_sites_match_gen`).  `NoHijackConnPool` and `disabaleRequestContextPool`
  (no pooling at all) are not modelled.  A kept hijack conn closed by its holder AFTER `Serve` returned is not an event
  (the connection record is gone at `finish`: the object counts as deliberately let go).  A hijack handler that panics
  is not an event either.  `stale_close_fails_at` is why the ownership theorems carry the hypothesis `NoStale`.
* The guard CORRELATION of `Serve` (which ending follows which handler flags) is over-approximated: `Ev.after` picks
  the branch freely; the script-level function `connEvents` fixes the order of the guards and is compared with the real
  server on every `own` case.
* That `obs…` erases exactly what no exported getter can see is an assumption about ~400 getters; the probe dump calls
  every exported nullary method and visitor of the real objects and found one exception, `RequestHeader.GetBufValue`.
-/

end Hertz.Props.C09
