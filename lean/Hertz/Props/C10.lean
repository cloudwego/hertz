/-
C10 — Client connections are exclusive, bounded, never leaked and never reused dirty.

Model: `Hertz.Pool.step` (Model/ClientPool.lean), one event per lock region of
pkg/protocol/http1/client.go; a schedule is an arbitrary list of events (any number of callers,
any interleaving, any length) accepted by `step` from the empty pool.  The model is held to the
code by trace validation (harness/c10.go, hook H2): every recorded trace of the real pool must be
accepted by `step` with equal `(connsCount, len(conns), connsWait.len())` after every lock region,
and for single-goroutine runs the model predicts the complete trace.

Statement by statement:
  exclusive ............ `exclusive`, `exclusive_places`               proved
  bounded .............. `count_conserved`, `count_le_max`             proved
  never leaked ......... `quiescent`                                   proved
      pending gauge ..... `pending_gauge`, `pending_zero`                proved
      no waiter queued .. `no_waiter_queued_fails_at` (stale wantConn) + `queued_waiters_dead_partial`
  never reused dirty ... `reuse_only_if_clean`, `error_closes`         proved (decision logic)
  sent at most once .... `non_idempotent_sent_once`, `retry_only_bad_pool_conn`   proved
  response belongs to caller ... `response_belongs_to_caller` (+ `_state`, `pooled_connection_wire_empty`,
      `wire_trace_is_pool_schedule`, `peer_assumption_needed`)       proved on the wire refinement
      (Proofs/ClientWire.lean) under the stated peer assumption; `client_guards_allow_every_exchange`; the refinement itself is not
      trace-validated against the code, see TODO-OPEN
  sequential program ... `seq_program_accepted`, `seq_do_accepted`    proved (Proofs/ClientSeq.lean)
  bounded per host at the Client level (host-client map + janitor, pkg/app/client) ...
      `host_bound_across_janitor_ticks`, `dropped_host_client_has_no_connection`,
      `janitor_must_count_busy_connections` (evicting on "no idle connection" breaks the bound)   proved
  Connection: close sent (by the request or for MaxConnDuration) => never pooled ...
      `close_sent_never_pooled`, `retired_connection_not_released`                                proved
  source facts for these (ShouldRemove, cleanHostClients, shouldCloseConn, the retire-if) ...
      `client_level_matches_source`
  returns within timeout+slack:  runtime clause, see TODO-OPEN at the end of the file.
-/
import Hertz.Proofs.ClientPool
import Hertz.Proofs.ClientSeq
import Hertz.Proofs.ClientWire
import Hertz.Proofs.ClientHosts
import Hertz.Proofs.ClientHelper
import Hertz.Gen.ClientHelper
import Hertz.Gen.CloseIdle
namespace Hertz.Props.C10
open Hertz.Pool

/-- `connsCount` is exactly the number of connections the pool answers for: idle + in use +
delivered to a waiter + dial slots (callers and `dialConnFor` goroutines) + closed connections whose
`decConnsCount` has not run yet — after every lock region of every schedule. -/
theorem count_conserved (cfg : Cfg) (evs : List Ev) (s : State) (h : run cfg init evs = some s) :
    s.count = s.idle.length + s.held.length + s.boxed.length + s.slots.length + s.helperSlots + s.owed.length :=
  (reach_inv h).cons

/-- The number of connections counted per host never exceeds the configured maximum (and never
goes negative). -/
theorem count_le_max (cfg : Cfg) (evs : List Ev) (s : State) (h : run cfg init evs = some s) :
    0 ≤ s.count ∧ s.count ≤ cfg.maxConns :=
  ⟨(reach_inv h).cons.nonneg, (reach_inv h).le⟩

/-- A connection is in at most one place: idle in the pool, in the hands of one actor, parked in
one undelivered `wantConn`, or closed — and at most once there. -/
theorem exclusive (cfg : Cfg) (evs : List Ev) (s : State) (h : run cfg init evs = some s) (c : Nat) :
    s.idle.count c + s.held.count c + s.boxed.count c + s.closed.count c ≤ 1 :=
  (reach_inv h).excl c

/-- Readable form: a connection some actor is using is neither idle (so nobody can acquire it),
nor waiting in a `wantConn`, nor closed; and it is held once. -/
theorem exclusive_places (cfg : Cfg) (evs : List Ev) (s : State) (h : run cfg init evs = some s) (c : Nat)
    (hc : c ∈ s.held) : c ∉ s.idle ∧ c ∉ s.boxed ∧ c ∉ s.closed ∧ s.held.count c = 1 := by
  have e := exclusive cfg evs s h c
  have p := List.count_pos_iff.mpr hc
  have : s.idle.count c = 0 ∧ s.boxed.count c = 0 ∧ s.closed.count c = 0 ∧ s.held.count c = 1 := by omega
  exact ⟨List.count_eq_zero.mp this.1, List.count_eq_zero.mp this.2.1, List.count_eq_zero.mp this.2.2.1, this.2.2.2⟩

/-- Once all calls have returned (and the goroutines the pool started hold nothing): no connection
is in use, no dial is in flight, no decrement is owed, no waiter is still waiting, nothing sits in a
`wantConn`, and `connsCount` equals the number of idle connections — every connection is idle in
the pool or closed. -/
theorem quiescent (cfg : Cfg) (evs : List Ev) (s : State) (h : run cfg init evs = some s) (hq : Quiet s) :
    s.held = [] ∧ s.slots = [] ∧ s.owed = [] ∧ s.live = [] ∧ s.boxed = [] ∧ s.count = s.idle.length :=
  quiet_rest (reach_inv h) hq

/-- The pending-request gauge is exactly the number of calls in progress, after every event of
every schedule (the `ctx.Done()` exit of `HostClient.Do` decrements like the normal exit). -/
theorem pending_gauge (cfg : Cfg) (evs : List Ev) (s : State) (h : run cfg init evs = some s) :
    s.pending = s.inDo.length :=
  (reach_inv h).pend

/-- Once all calls have returned the pending-request gauge is zero — for every schedule. -/
theorem pending_zero (cfg : Cfg) (evs : List Ev) (s : State) (h : run cfg init evs = some s)
    (hq : Quiet s) : s.pending = 0 := by
  have := pending_gauge cfg evs s h
  rw [hq.1] at this
  simpa using this

/-- regression (old F10 witness, `c10seq 1 0 1 g 0 1 0`): a call with an already cancelled context
leaves the gauge at 0; same after a send followed by a cancelled retry -/
example : (run ⟨1, false⟩ init [.begin 0 0, .endd 0 0 true]).map (·.pending) = some 0 := by decide +kernel
example : (run ⟨2, true⟩ init [.begin 0 0, .acqCreate 0, .dialOk 0 0, .rel 0 0 0 none false, .endd 0 0 false,
    .begin 0 1, .acqIdle 0 0, .close 0 0, .dec 0 0 none, .endd 0 1 true]).map (fun s => (s.pending, s.count))
    = some (0, 0) := by decide +kernel

/-- the schedule of the stale waiter: caller 1 sees the pool full, caller 0 closes its connection
(nobody queued, so the count drops), only then caller 1 queues, times out, returns -/
def staleSchedule : List Ev :=
  [.begin 0 0, .acqCreate 0, .dialOk 0 0, .begin 1 1, .acqFull 1, .close 0 0, .dec 0 0 none, .endd 0 0 false,
   .enq 1 0 0, .cancel 1 0 none, .endd 1 1 false]

/-- "No waiter remains queued at quiescence" is FALSE of the code for `connsWait.len()` (what
`ConnPoolState().WaitConnNum` reports): a `wantConn` that gave up stays in the queue until the next
release/close/enqueue.  Witness replayed against the real code: `c10stale 40`. -/
theorem no_waiter_queued_fails_at :
    ¬ (∀ (cfg : Cfg) (evs : List Ev) (s : State), run cfg init evs = some s → Quiet s → s.queue = []) := by
  intro h
  have := h ⟨1, true⟩ staleSchedule _ rfl (by decide +kernel)
  revert this; decide +kernel

/-- … what does hold: every `wantConn` still queued at quiescence is dead (no caller waits). -/
theorem queued_waiters_dead_partial (cfg : Cfg) (evs : List Ev) (s : State) (h : run cfg init evs = some s)
    (hq : Quiet s) : ∀ w ∈ s.queue, w ∉ s.live := by
  intro w _
  rw [(quiescent cfg evs s h hq).2.2.2.1]
  simp

/-- A connection is put back for reuse exactly when its exchange completed cleanly: full response
read, no `Connection: close` on either side, no forced reset, no error, no timeout, no upgrade, no
unread stream. -/
theorem reuse_only_if_clean (inPool : Bool) (ex : Exch) :
    (verdict inPool ex).act = .release ↔ ex.clean = true :=
  verdict_release_iff inPool ex

/-- Every attempt that ends with an error closes its connection. -/
theorem error_closes (inPool : Bool) (ex : Exch) (h : (verdict inPool ex).err ≠ .none) :
    (verdict inPool ex).act = .close := by
  cases ex <;> simp_all [verdict]
  · split <;> simp

/-- A request that is not safe to repeat is attempted — hence sent — at most once, whatever the
attempts would do (default retry policy, `RetryIfFunc == nil`). -/
theorem non_idempotent_sent_once (outcomes : List Attempt) :
    (doLoop false outcomes).length ≤ 1 ∧ sentCount (doLoop false outcomes) ≤ 1 :=
  ⟨doLoop_nonidem outcomes, Nat.le_trans (sentCount_le_length _) (doLoop_nonidem outcomes)⟩

/-- `Do` repeats a request only after `ErrBadPoolConn` on a repeatable request, and
`ErrBadPoolConn` only arises on a connection that came out of the pool (`inPool`). -/
theorem retry_only_bad_pool_conn (idem : Bool) (outcomes : List Attempt) (i : Nat)
    (h : i + 1 < (doLoop idem outcomes).length) :
    ∃ t, (doLoop idem outcomes)[i]? = some t ∧ t.err = .badPool ∧ t.canRetry = true ∧ idem = true :=
  doLoop_retried idem outcomes i h

theorem bad_pool_conn_only_from_pool (inPool : Bool) (ex : Exch) (h : (verdict inPool ex).err = .badPool) :
    inPool = true ∧ (verdict inPool ex).canRetry = true ∧ (verdict inPool ex).act = .close :=
  verdict_badPool h

/-- The decision table, the retry condition of `Do`, the idempotent-method list, the default
maximum and the decrement-before-every-return of `Do` used by the model are the ones in the Go source as it stands (regenerated by
gen/c10.go into `Gen/ClientPaths.lean` on every run). -/
theorem model_matches_source :
    modelPaths = Hertz.Gen.Client.doPaths ∧ doRetryCond = Hertz.Gen.Client.doRetryCond ∧
    defaultMaxConnsPerHost = Hertz.Gen.Client.defaultMaxConnsPerHost ∧
    idempotentMethods = Hertz.Gen.Client.idempotentMethods ∧
    doReturnsDecrement = Hertz.Gen.Client.doReturnsDecrement :=
  ⟨model_matches_gen, retry_cond_matches_gen, consts_match_gen.1, consts_match_gen.2, pending_decrement_matches_gen⟩

/-- POST, PATCH and CONNECT are not in the list, so `doLoop false` (one attempt) applies to them. -/
theorem post_not_idempotent : isIdem "POST" = false ∧ isIdem "PATCH" = false ∧ isIdem "CONNECT" = false := by
  decide +kernel

example : isIdem "GET" = true := by decide +kernel
example : Hertz.Gen.Client.doPaths.length = 16 := by decide +kernel
example : effMax 0 = 512 ∧ effMax 3 = 3 := by decide +kernel

/-! ### Non-vacuity: schedules that exercise the hypotheses -/

/-- hand-over through the waiter queue, a `dialConnFor` helper, a late delivery returned by
`cancel`, reuse of an idle connection: accepted, and quiescent at the end -/
def demoSchedule : List Ev :=
  [.begin 0 0, .acqCreate 0, .dialOk 0 0, .begin 1 1, .acqFull 1, .enq 1 0 0, .begin 2 2, .acqFull 2, .enq 2 1 0,
   .tryd 0 0 (some 0) true, .rel 0 0 1 (some 0) true, .endd 0 0 false, .wake 1 0 (some 0),
   .close 1 0, .dec 1 1 (some 1), .endd 1 1 false, .dialOk 100 1, .cancel 2 1 none, .tryd 100 1 (some 1) false,
   .rel 100 1 0 none false, .endd 2 2 false, .begin 0 3, .acqIdle 0 1, .rel 0 1 0 none false, .endd 0 3 false]

example : (run ⟨1, true⟩ init demoSchedule).isSome = true := by decide +kernel
example : ((run ⟨1, true⟩ init demoSchedule).map (fun s => (s.count, s.idle, s.queue, s.closed, s.pending)))
    = some (1, [1], [], [0], 0) := by decide +kernel
example : ∃ s, run ⟨1, true⟩ init demoSchedule = some s ∧ Quiet s := ⟨_, rfl, by decide +kernel⟩
example : ∃ s, run ⟨1, true⟩ init (demoSchedule.take 13) = some s ∧ 0 ∈ s.held := ⟨_, rfl, by decide +kernel⟩
example : ∃ s, run ⟨1, true⟩ init staleSchedule = some s ∧ Quiet s ∧ s.queue = [0] := ⟨_, rfl, by decide +kernel, by decide +kernel⟩
example : (verdict true (.done false false false)).act = .release := by decide +kernel
example : (verdict true .peekEOF).err = .badPool ∧ (verdict false .peekEOF).err = .eof := by decide +kernel
example : (verdict false (.done false true false)).act = .close := by decide +kernel
example : doLoop true [⟨true, true, .badPool⟩, ⟨true, true, .badPool⟩, ⟨true, false, .none⟩]
    = [⟨true, true, .badPool⟩, ⟨true, true, .badPool⟩, ⟨true, false, .none⟩] := by decide +kernel
example : doLoop false [⟨true, true, .badPool⟩, ⟨true, false, .none⟩] = [⟨true, true, .badPool⟩] := by decide +kernel

/-! ### The caller's program, run sequentially, stays inside the model (`seq_program_accepted`) -/

/-- What the flag `Sim.ok` means: `emit` keeps it exactly when `step` accepts the event (the only
other place that clears it is fuel exhaustion in `simLoop`). -/
theorem sim_ok_meaning (cfg : Cfg) (sim : Sim) (e : Ev) :
    (emit cfg sim e).ok = true ↔ (sim.ok = true ∧ (step cfg sim.st e).isSome = true) := by
  unfold emit
  cases h : step cfg sim.st e <;> simp

/-- For every configuration and every script (any length, any fault codes, any context modes), the
sequential run of the caller's program from the empty pool — the run the driver compares token by
token with the recorded trace — never emits an event `step` rejects and never runs out of fuel;
it ends with nobody inside `Do` and no connection in anybody's hands; and the pool state it ends in
is the result of an accepted schedule, so every theorem above applies to it. -/
theorem seq_program_accepted (cfg : Cfg) (script : List Req) :
    (simSeq cfg {} 0 script []).1.ok = true ∧
    (∃ evs, run cfg init evs = some (simSeq cfg {} 0 script []).1.st) ∧
    (simSeq cfg {} 0 script []).1.st.inDo = [] ∧ (simSeq cfg {} 0 script []).1.st.held = [] :=
  have h := simSeq_ph script {} 0 [] (ph_init cfg)
  ⟨h.ok, h.reach, h.inDo, h.held⟩

/-- The same for one call of `Do` by any caller `a < auxBase` from any simulator state at rest
(`Ph cfg a [] [] [] []`: flag up, state reachable, nobody in `Do`, nothing held / dialling / owed,
no live waiter, nothing parked, numbering of connections and waiters consistent). -/
theorem seq_do_accepted (cfg : Cfg) (a : Nat) (sim : Sim) (h : Ph cfg a [] [] [] [] sim) (id : Nat) (q : Req) :
    Ph cfg a [] [] [] [] (simDo cfg sim a id q).1 :=
  simDo_ph h id q

/-- non-vacuity: the empty simulator is at rest; a script with a keep-alive race (the peer closes
after answering, the next request meets `ErrBadPoolConn`, is retried on a new connection) -/
example : Ph ⟨1, true⟩ 0 [] [] [] [] ({} : Sim) := ph_init _
example : (simSeq ⟨1, true⟩ {} 0 [⟨false, 2, 0, false⟩, ⟨false, 0, 0, false⟩] []).1.st.closed = [0] ∧
    (simSeq ⟨1, true⟩ {} 0 [⟨false, 2, 0, false⟩, ⟨false, 0, 0, false⟩] []).1.st.idle = [1] := by decide +kernel
/-- a full pool with a waiter that times out, a failed dial, a POST that is not retried -/
example : (simSeq ⟨0, true⟩ {} 0 [⟨false, 0, 0, false⟩] []).1.st.queue = [0] := by decide +kernel
example : (simSeq ⟨2, false⟩ {} 0 [⟨true, 2, 0, false⟩, ⟨true, 0, 0, false⟩, ⟨false, 0, 0, true⟩] []).1.st.closed = [0]
    := by decide +kernel

/-! ### The response a caller reads is the answer to its own request (`response_belongs_to_caller`)

The extended machine `wstep` (Proofs/ClientWire.lean) runs `step` for the pool events and adds, per
connection, the queue `out` of requests written and not yet answered and the buffer `left` of
answers that arrived and were not read yet.  Peer assumption: the only event that puts anything
into `left c` is `answer c`, which moves the oldest entry of `out c` to the end of `left c` — one
response per request, on the same connection, in request order, nothing unsolicited
(`unsol = false`).  Client assumptions (guards of `wstep`): only the holder writes and reads; one
write per hold; `Exch.done` is reported only after one write and one complete read (`exchOk`);
a connection is handed back (`releaseConn`, directly or through `tryDeliver`) only if nothing was
written on it or `verdict … = release`. -/

/-- For every accepted trace of the extended machine from the empty pool: if actor `a` then reads
a complete response from connection `c` and that response is the answer to request `x`, then `x`
was written by `a` itself, on `c`, earlier in the trace, and between that write and the read no
event acquired, handed back, closed, or wrote on `c`. -/
theorem response_belongs_to_caller (cfg : Cfg) (evs : List WEv) (ws ws' : WState) (a c : Nat) (x : Msg)
    (hr : wrun cfg false winit evs = some ws) (h : wstep cfg false ws (.read a c x) = some ws') :
    x.1 = a ∧ ∃ pre post reached ok, evs = pre ++ .write a c x.2 reached ok :: post ∧
      ∀ e ∈ post, touch c e = false := by
  obtain ⟨⟨hheld, _⟩, hreq, hxa⟩ := read_own (wreach_inv hr) h
  refine ⟨hxa, ?_⟩
  -- the recorded request was written within the trace: the empty pool has none on record
  rcases req_trace evs winit ws (winv_init cfg) hr c x hheld hreq with h | ⟨_, h0, _⟩
  · rw [hxa] at h; exact h
  · simp [winit] at h0

/-- State form: the reader holds `c`, and `x` is the request recorded for its present hold. -/
theorem response_belongs_to_caller_state (cfg : Cfg) (evs : List WEv) (ws ws' : WState) (a c : Nat) (x : Msg)
    (hr : wrun cfg false winit evs = some ws) (h : wstep cfg false ws (.read a c x) = some ws') :
    (c ∈ ws.pool.held ∧ ws.pool.holder c = a) ∧ ws.req c = some x ∧ x.1 = a :=
  read_own (wreach_inv hr) h

/-- A connection is in the pool (idle, or parked in a `wantConn`) only with an empty outstanding
queue and no leftovers — the wire-level content of `exclusive` + `reuse_only_if_clean`. -/
theorem pooled_connection_wire_empty (cfg : Cfg) (evs : List WEv) (ws : WState)
    (hr : wrun cfg false winit evs = some ws) (c : Nat) (hc : c ∈ ws.pool.idle ∨ c ∈ ws.pool.boxed) :
    ws.out c = [] ∧ ws.left c = [] :=
  pooled_wire_empty (wreach_inv hr) hc

/-- The extension is a refinement: the pool events of an accepted extended trace are an accepted
schedule of `step` ending in the same pool state (so `exclusive`, `count_le_max`, … hold along it). -/
theorem wire_trace_is_pool_schedule (cfg : Cfg) (unsol : Bool) (evs : List WEv) (ws : WState)
    (hr : wrun cfg unsol winit evs = some ws) : run cfg init (poolEvents evs) = some ws.pool :=
  wrun_pool hr

/-- The client-side guards of the extended machine do not block the modelled caller: from any
reachable state where `a` holds `c` and has not written yet, the wire events of an attempt with
outcome `ex` (`attemptWire`) and the report of `ex` are accepted for EVERY `ex`, and whenever
`verdict` says `release` the hand-back guard is open. -/
theorem client_guards_allow_every_exchange (cfg : Cfg) (evs : List WEv) (ws : WState)
    (hr : wrun cfg false winit evs = some ws) (a c r : Nat) (inPool : Bool) (ex : Exch)
    (hh : c ∈ ws.pool.held ∧ ws.pool.holder c = a) (hf : ws.ph c = .fresh) :
    ∃ ws1, wrun cfg false ws (attemptWire a c r ex ++ [.outcome a c inPool ex]) = some ws1 ∧
      ws1.pool = ws.pool ∧ ((verdict inPool ex).act = .release → releasable ws1 c = true) :=
  attempt_wire_accepted (wreach_inv hr) a c r inPool ex hh hf

/-- two callers use connection 0 one after the other; each reads the answer to its own request -/
def wireDemo : List WEv :=
  [.pool (.begin 0 0), .pool (.acqCreate 0), .pool (.dialOk 0 0), .write 0 0 7 true true, .answer 0,
   .read 0 0 (0, 7), .outcome 0 0 false (.done false false false), .pool (.rel 0 0 0 none false),
   .pool (.endd 0 0 false),
   .pool (.begin 1 1), .pool (.acqIdle 1 0), .write 1 0 8 true true, .answer 0]

/-- hand-over through a waiter: caller 1 queues, caller 0 finishes cleanly and delivers connection 0
into the `wantConn`, caller 1 wakes up with it and writes -/
def wireHandover : List WEv :=
  [.pool (.begin 0 0), .pool (.acqCreate 0), .pool (.dialOk 0 0), .write 0 0 7 true true,
   .pool (.begin 1 1), .pool (.acqFull 1), .pool (.enq 1 0 0), .answer 0, .read 0 0 (0, 7),
   .outcome 0 0 false (.done false false false), .pool (.tryd 0 0 (some 0) true),
   .pool (.rel 0 0 1 (some 0) true), .pool (.endd 0 0 false), .pool (.wake 1 0 (some 0)),
   .write 1 0 8 true true, .answer 0]

example : (wrun ⟨1, false⟩ false winit wireDemo).isSome = true := by decide +kernel
example : ((wrun ⟨1, false⟩ false winit wireDemo).bind
    (fun ws => wstep ⟨1, false⟩ false ws (.read 1 0 (1, 8)))).isSome = true := by decide +kernel
example : ((wrun ⟨1, true⟩ false winit wireHandover).bind
    (fun ws => wstep ⟨1, true⟩ false ws (.read 1 0 (1, 8)))).isSome = true := by decide +kernel
example : ((wrun ⟨1, false⟩ false winit (wireDemo.take 9)).map (fun ws => (ws.pool.idle, ws.out 0, ws.left 0)))
    = some ([0], [], []) := by decide +kernel
example : ∃ ws, wrun ⟨1, false⟩ false winit (wireDemo.take 3) = some ws ∧
    (0 ∈ ws.pool.held ∧ ws.pool.holder 0 = 0) ∧ ws.ph 0 = .fresh := ⟨_, rfl, by decide +kernel, by decide +kernel⟩
/-- the guards bite: handing the connection back before the response is read, or reporting
`Exch.done` before it is read, is not accepted -/
example : (wrun ⟨1, false⟩ false winit (wireDemo.take 4 ++ [.pool (.rel 0 0 0 none false)])).isSome = false := by
  decide +kernel
example : (wrun ⟨1, false⟩ false winit (wireDemo.take 5 ++ [.outcome 0 0 false (.done false false false)])).isSome
    = false := by decide +kernel

/-- the peer answers caller 0's request a second time (or pushes any bytes nobody asked for) after
the exchange completed; the connection goes back to the pool with that leftover; caller 1 gets it -/
def unsolicitedTrace : List WEv :=
  [.pool (.begin 0 0), .pool (.acqCreate 0), .pool (.dialOk 0 0), .write 0 0 7 true true, .answer 0,
   .read 0 0 (0, 7), .outcome 0 0 false (.done false false false), .pool (.rel 0 0 0 none false),
   .pool (.endd 0 0 false), .inject 0 (0, 7),
   .pool (.begin 1 1), .pool (.acqIdle 1 0), .write 1 0 8 true true]

/-- The peer assumption cannot be dropped: with unsolicited bytes allowed (`unsol = true`) there is
an accepted trace after which caller 1 reads the answer to caller 0's request.  (`releaseConn` does
not look at the reader's buffer, so nothing in the client stops this.) -/
theorem peer_assumption_needed :
    ¬ (∀ (cfg : Cfg) (evs : List WEv) (ws ws' : WState) (a c : Nat) (x : Msg),
        wrun cfg true winit evs = some ws → wstep cfg true ws (.read a c x) = some ws' → x.1 = a) := by
  intro h
  have := h ⟨1, false⟩ unsolicitedTrace _ _ 1 0 (0, 7) rfl rfl
  revert this; decide +kernel


/-! ## Client level: the host-client map, its janitor, MaxConnDuration (Model/ClientHosts.lean)

A host entry is the `HostClient` the `Client` has in its map for the host plus the ones its 10 s
janitor (`cleanHostClients`) has deleted from the map; events: `create` (`Client.do` finds none),
`pool e` (a lock region of the one in the map), `tick` (the janitor visits the entry and deletes it
when `ShouldRemove()`).  Held to the code by `c10cli` (harness/c10cli.go): the real `Client` under
scripts with calls kept in flight across the real tick. -/

/-- However requests, dial failures, closes and janitor ticks interleave, the connections counted
against one host by all the HostClients the Client ever made for it — the one in the map and every
dropped one — stay within the configured maximum. -/
theorem host_bound_across_janitor_ticks (cfg : Cfg) (evs : List CEv) (h : HostEntry) (hr : crun cfg {} evs = some h) :
    0 ≤ hostCounted h ∧ hostCounted h ≤ cfg.maxConns :=
  hostCounted_bounds (creach_cinv hr)

/-- A HostClient the janitor dropped has no connection at all: nothing idle, nothing in use,
nothing parked in a waiter, no dial in flight, no decrement owed — nothing is leaked with it and
nothing of it can still be open next to the connections of its replacement. -/
theorem dropped_host_client_has_no_connection (cfg : Cfg) (evs : List CEv) (h : HostEntry)
    (hr : crun cfg {} evs = some h) (s : State) (hs : s ∈ h.dropped) :
    s.count = 0 ∧ s.idle = [] ∧ s.held = [] ∧ s.boxed = [] ∧ s.slots = [] ∧ s.helperSlots = 0 ∧ s.owed = [] :=
  have i := (creach_cinv hr).dropped s hs
  ⟨i.2, count_zero_empty i.1 i.2⟩

/-- The janitor's predicate has to look at the counted connections: with "no idle connection" in
its place (`len(c.conns) == 0`) a HostClient whose only connection is in use is dropped, the next
request creates a second HostClient, and two connections are counted for a host with maximum 1. -/
theorem janitor_must_count_busy_connections :
    ∃ evs h, crunWith (fun s => s.idle.isEmpty) ⟨1, false⟩ {} evs = some h ∧ hostCounted h = 2 :=
  ⟨[.create, .pool (.begin 0 0), .pool (.acqCreate 0), .pool (.dialOk 0 0), .tick,
    .create, .pool (.begin 1 1), .pool (.acqCreate 1), .pool (.dialOk 1 0)], _, rfl, by decide +kernel⟩

/-- An exchange in which the client sent `Connection: close` — because the request asked for it
or because the connection was older than `MaxConnDuration` (`resetConnection`) — ends with the
connection closed, whatever the response says. -/
theorem close_sent_never_pooled (inPool reqClose respClose resetConn : Bool) (h : (reqClose || resetConn) = true) :
    (verdict inPool (.done reqClose respClose resetConn)).act = .close := by
  cases reqClose <;> cases resetConn <;> cases respClose <;> simp_all [verdict]

/-- The same against the scripted peer, for every fault and every peer policy (answers without the
header and keeps the connection, answers and closes silently, echoes the header): the connection
is not released. -/
theorem retired_connection_not_released (inPool : Bool) (ppol : Nat) (q : CReq) (resetConn : Bool)
    (h : (q.close || resetConn) = true) : (verdict inPool (peerAnswer ppol q resetConn).1).act ≠ .release := by
  rw [Ne, verdict_release_iff, peerAnswer]
  generalize peerFault q.fault = r
  cases r.1
  case done =>
    show ¬ (!q.close && !_ && !resetConn) = true
    rcases (Bool.or_eq_true _ _).mp h with hc | hr
    · simp [hc]
    · simp [hr]
  all_goals exact Bool.false_ne_true

/-- `ShouldRemove`, the janitor's delete, the close-or-release disjunction and the statement that
retires an old connection are, in the Go source as it stands, what the model assumes. -/
theorem client_level_matches_source :
    shouldRemoveSrc = Hertz.Gen.Client.shouldRemoveBody ∧ janitorDeleteSrc = Hertz.Gen.Client.janitorDelete ∧
    closeDecisionSrc = Hertz.Gen.Client.closeDecision ∧ retireOldConnSrc = Hertz.Gen.Client.retireOldConn :=
  ⟨should_remove_matches_gen, janitor_delete_matches_gen, close_decision_matches_gen, retire_old_conn_matches_gen⟩

/-- one call in flight across a tick: the entry stays, the second call finds the pool full -/
def busyAcrossTick : List CEv :=
  [.create, .pool (.begin 0 0), .pool (.acqCreate 0), .pool (.dialOk 0 0), .tick, .pool (.begin 1 1), .pool (.acqFull 1)]

example : (crun ⟨1, false⟩ {} busyAcrossTick).map (fun h => (hostCounted h, h.dropped.length, h.cur.isSome)) = some (1, 0, true) := by
  decide +kernel
example : (crun ⟨1, false⟩ {} (busyAcrossTick.take 5 ++ [.create])).isSome = false := by decide +kernel
-- an entry whose connection was closed is dropped and re-created
example : (crun ⟨1, false⟩ {} [.create, .pool (.begin 0 0), .pool (.acqCreate 0), .pool (.dialOk 0 0), .pool (.close 0 0),
    .pool (.dec 0 0 none), .pool (.endd 0 0 false), .tick, .create, .pool (.begin 0 1), .pool (.acqCreate 0)]).map
      (fun h => (hostCounted h, h.dropped.length)) = some (1, 1) := by decide +kernel
example : (verdict true (.done false false true)).act = .close ∧ (verdict true (.done true false false)).act = .close := by decide +kernel
example : (peerAnswer 0 ⟨true, false, 0, 0, false⟩ true).1 = .done false false true ∧
          (peerAnswer 2 ⟨true, true, 0, 0, false⟩ false).1 = .done true true false ∧
          (peerAnswer 1 ⟨false, false, 0, 0, false⟩ false).1 = .done false false false := by decide +kernel
example : Hertz.Gen.Client.shouldRemoveBody.length = 3 ∧ Hertz.Gen.Client.closeDecision.length = 3 := by decide +kernel

/-! ## `CloseIdleConnections` -/

/-- `CloseIdleConnections` at the granularity of the pool model: ONE lock region in which EVERY idle connection leaves the
pool (`reap a idle.length`), into the hands of the caller `a` alone; the closes follow outside the lock.  In every
state (reachable or not: `_h` is not needed) the step is enabled, empties the pool, and hands exactly the formerly idle
connections to `a`. -/
theorem close_idle_takes_every_idle_connection (cfg : Cfg) (evs : List Ev) (s : State) (a : Nat)
    (_h : run cfg init evs = some s) (ha : auxBase ≤ a) :
    ∃ s', step cfg s (.reap a s.idle.length) = some s' ∧ s'.idle = [] ∧ s'.held = s.idle ++ s.held ∧
      (∀ c ∈ s.idle, s'.holder c = a) ∧ s'.count = s.count := by
  refine ⟨_, (Step.reap ⟨ha, Nat.le_refl _⟩).to_step, ?_, ?_, ?_, rfl⟩
  · simp
  · simp
  · intro c hc
    simp [hc]

/-- … and after a run that ends in such a step the invariants of every run apply (`s` only supplies the number taken):
a connection in somebody's hands is in nobody else's, in no `wantConn` and not in the pool, so a release that happens
meanwhile can neither be closed by this call nor lose its slot (what seed C10-m7 broke by aliasing the idle list with
the pool). -/
theorem close_idle_connections_are_exclusive (cfg : Cfg) (evs : List Ev) (s s' : State) (a : Nat)
    (h : run cfg init (evs ++ [.reap a s.idle.length]) = some s') (c : Nat) (hc : c ∈ s'.held) :
    c ∉ s'.idle ∧ c ∉ s'.boxed ∧ c ∉ s'.closed ∧ s'.held.count c = 1 :=
  exclusive_places cfg _ s' h c hc

/-- the text of `HostClient.CloseIdleConnections` is the shape the step stands for: the idle list is COPIED under the lock,
the pool's slots are cleared and the pool emptied before the unlock, the closes run on the copy afterwards -/
theorem close_idle_matches_source :
    Hertz.Gen.CloseIdle.stmts =
      ["c.connsLock.Lock()", "scratch := append([]*clientConn{}, c.conns...)", "for i := range c.conns", "  c.conns[i] = nil",
       "c.conns = c.conns[:0]", "c.connsLock.Unlock()", "for _, cc := range scratch", "  c.closeConn(cc)"] := rfl

/-! ## the convenience layer: `GetURLTimeout` / `GetURLDeadline` (`Model/ClientHelper.lean`)

A timed-out call leaves its goroutine running; the goroutine still sends its result on the channel it was started with.
"The response returned to a caller is the response to that caller's request" therefore rests on the discipline of the
pool of result channels: a channel goes back into the pool only on the receive branch. -/
section Helper
open Hertz.ClientHelper

/-- **a helper call returns the result of its own request**: in every run (any number of calls, any interleaving of
starts, goroutine completions, receives and timeouts, any choice `sync.Pool.Get` makes) a call that returns a result
returns the result of ITS request. -/
theorem helper_result_belongs_to_call (es : List ClientHelper.Ev) (i v : Call) (h : (run false init es).phase i = .got v) : v = i :=
  let ⟨_, I⟩ := reach_inv es
  I.gotOwn i v h

/-- … because a pooled channel is quiet: empty, nobody waits on it, and no goroutine is going to send on it -/
theorem helper_pooled_channel_quiet (es : List ClientHelper.Ev) (c : Chan) (hc : c ∈ (run false init es).pool) :
    (run false init es).buf c = none ∧ (∀ j, (run false init es).worker j ≠ some c) ∧
    (∀ j, (run false init es).phase j ≠ .waiting c) :=
  let ⟨_, I⟩ := reach_inv es
  I.pooled_quiet hc

/-- … and a waiting call shares its channel with no other call and no other goroutine -/
theorem helper_channel_exclusive (es : List ClientHelper.Ev) (i j : Call) (c : Chan) (h : (run false init es).phase i = .waiting c) :
    ((run false init es).phase j = .waiting c → i = j) ∧ ((run false init es).worker j = some c → j = i) :=
  let ⟨_, I⟩ := reach_inv es
  I.waiting_alone h j

/-- non-vacuity: call 0 times out, its late answer arrives while calls 1 and 2 run on other channels; call 3 then
reuses a pooled channel; everyone who gets an answer gets his own -/
example : let s := run false init [.start 0 0, .timeout 0, .start 1 0, .send 1, .recv 1, .start 2 0, .send 0, .send 2, .recv 2, .start 3 0, .send 3, .recv 3]
    (s.phase 0, s.phase 1, s.phase 2, s.phase 3) = (.timedOut, .got 1, .got 2, .got 3) ∧ s.pool.length = 1 := by decide +kernel

/-- **the timeout branch must not return the channel**: in the variant that puts the channel back on the timeout branch
too, call 0 times out, call 1 is handed the same channel, the late answer of call 0 arrives, and call 1 returns the
result of call 0 (seed C10-m5; replayed on the real code by the op `c10url`). -/
theorem helper_timeout_must_not_put_back :
    (run true init [.start 0 0, .timeout 0, .start 1 0, .send 0, .recv 1]).phase 1 = .got 0 := by decide +kernel

/-- the pool sites of the current source are the ones the model was written against: `Get`, `make(chan, 1)`, one send
inside the goroutine, `Put` on the receive branch ONLY -/
theorem helper_sites_match_source :
    Hertz.Gen.ClientHelper.sites =
      [("GetURLDeadline", "", "get"), ("GetURLDeadline", "", "make:1"), ("GetURLDeadline", "", "go:send ch"),
       ("GetURLDeadline", "resp := <-ch", "case"), ("GetURLDeadline", "resp := <-ch", "put"),
       ("GetURLDeadline", "<-tc.C", "case")] := rfl

end Helper

/-
TODO-OPEN (what the theorems of this file leave open; each point is checked at run time by harness/c10.go on every case):

 * the tie of `response_belongs_to_caller` to the code.  The theorem is about the wire refinement `wstep` of
   Proofs/ClientWire.lean (all traces, any number of callers/connections, honest peer: in-order answers per
   connection, one response per request, nothing unsolicited — `peer_assumption_needed` shows the last part is
   necessary).  Hook H2 records lock regions only, not the writes/reads on a connection, so the guards of `wstep`
   that speak about the client (only the holder touches the connection; one `reqI.Write` per acquisition;
   `Exch.done` reported only after a complete read; hand-back only when fresh or `verdict = release`) are read off
   `doNonNilReqResp` by hand (the release/close sites are tied to the source by `model_matches_source`), not trace-validated.
   The byte level (framing of responses in `standard.Conn`'s buffer, a response split over reads) is abstracted to
   whole messages; C11/C13 cover the parsing and the buffer.  The harness checks the end-to-end statement
   directly: the scripted peer echoes the request id in the body and every successful call compares it (`wrong`
   counter, must be 0), and the peer flags a request that arrives while the previous response is unread or after a
   non-clean exchange (`dirty`, must be 0).

 * returns_within_timeout: "a call given a request or read timeout returns no later than that timeout plus
   scheduling slack".  Runtime clause; measured by the harness (`late` counter, must be 0: read timeout 25ms and
   wait-for-connection timeout 12ms per attempt, slack 500ms).  The model only shows the structural part: the one
   blocking point of `acquireConn` is a `select` over `w.ready` and a timer.

 * `Exch.upgrade` / `Exch.streamOpen`: `seq_program_accepted` and `seq_do_accepted` hold for every script and
   configuration (the driver's `sim.ok` conjunct is redundant, kept as a cross-check), but the scripted peer never
   produces these two outcomes; the caller would keep the connection past `endd`, which `step` rejects by
   `ownsNothing`.

 * Client level: the theorems of the Client-level section are about one host entry; the script simulator of
   Model/ClientHosts.lean (`cloop`, `CSim.step`: calls kept in flight, per-host HostClients, epochs for
   MaxConnDuration) is compared with the real `Client` case by case (c10cli) and cross-checked by `sim.ok` (every
   event it emits is accepted by `step`); `seq_program_accepted` does not cover it.  The janitor's period (10 s)
   and `MaxConnDuration` are real time in the harness.
-/

end Hertz.Props.C10
