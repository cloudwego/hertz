import Hertz.Model.Http1.Stream
import Hertz.Proofs.StreamChunked
import Hertz.Model.Http1.StreamX
import Hertz.Proofs.StreamX
import Hertz.Model.Http1.StreamApi
import Hertz.Proofs.StreamApi
/-!
# C14 — a streamed request body reads exactly the body and keeps the connection in sync

Model: `H1.Stream.serveStream` (prefetch of `ReadBodyWithStreaming`, `bodyStream.Read` for fixed and
chunked bodies, `skipRest`, the keep-alive loop with `StreamRequestBody`), compared with the real
server for every consumption program (read size, stop point) incl. exhaustive stop points of small
bodies, each followed by a pipelined probe request, under arbitrary segmentation.

The docstrings number the three parts of the property: (1) what the handler reads is a prefix of the body, with
end-of-stream only at its end; (2) after the handler the connection is closed or stands exactly behind the message;
(3) a failed read of the body closes the connection.  They are proved for fixed-length bodies, then for every well-formed
chunked encoding (lemmas in `Proofs/StreamChunked.lean`), then with idle styles and read time-outs (`Proofs/StreamX.lean`)
and for handlers that consume the stream through hertz's own request API (`Proofs/StreamApi.lean`).

TODO-OPEN:
* the amount `mime/multipart` takes from the stream as a function of chunking and bufio read-ahead is a parameter, not
  modelled; sequences of several API calls are covered only through their net effect on the stream (one `Prog`);
  a handler that keeps the stream and reads it in a goroutine after returning is not modelled;
* trailer lines that begin with a blank AND contain a colon (the look-ahead does not join them; they are
  scanned as a field whose name has a leading blank and rejected) and trailer sections with a
  repeated `0\r\n` line in front (hertz skips and counts it — see the example below —, the strict
  grammar has no such line): both are outside `encTrailer (fieldLines fs)` with `TrField.Ok` fields, so
  `chunked_resync_exact_folded` says nothing about them on the read-to-the-end path
  (`chunked_resync_exact_unread` covers them on the drain path);
* `chunked_read_succeeds` for a non-empty trailer keeps its hypothesis that the trailer reader accepts
  the section (it may legitimately reject: forbidden names, blank in a name);
* that every encoding accepted by `Spec.Http.chunksAux` is a `ChunkedMsg` (the converse of
  `chunked_msg_is_spec_encoding`; `chunksAux` refuses a size line with HTAB, as hertz does);
* `reads never block beyond the body` (runtime, not expressible in the model);
* the tie to the Go code stays the correspondence check (`serveStream` vs the real server per case).
-/
namespace Hertz.Props.C14
open Hertz Hertz.H1 Hertz.H1.Stream

/-- (1) fixed length: what the handler reads is a prefix of the `Content-Length` bytes that follow the head, never more
than it asked for, and end-of-stream is reported only when all of them were read. -/
theorem fixed_reads_prefix (cfg : Cfg) (e : End) (hd : ReqHead) (s : Bytes) (c : Consume) (r : ReqOut) (a : After)
    (hcl : 0 ≤ hd.cl) (h : streamBody cfg e hd s c = .ok (r, a)) :
    r.got.bytes <+: s.take hd.cl.toNat ∧ r.got.bytes.length ≤ c.stopAfter ∧
      (r.got.eof = true → r.got.err = false → r.got.bytes = s.take hd.cl.toNat) := by
  rw [streamBody_fixed cfg e hd s c ⟨by omega, by omega⟩] at h
  split at h
  · cases h
  · cases h; exact fixedGot_prefix c _ s

/-- (2) fixed length: when the connection is kept, the next request is parsed from exactly the first byte after the
body, whatever the handler consumed. -/
theorem fixed_resync_exact (cfg : Cfg) (e : End) (hd : ReqHead) (s : Bytes) (c : Consume) (r : ReqOut) (rest : Bytes)
    (hcl : 0 ≤ hd.cl) (h : streamBody cfg e hd s c = .ok (r, .resync rest)) :
    rest = s.drop hd.cl.toNat ∧ hd.cl.toNat ≤ s.length := by
  rcases fixed_after cfg e hd s c r _ hcl h with ha | ⟨ha, hl⟩
  · cases ha
  · exact ⟨After.resync.inj ha, hl⟩

/-- non-vacuity: Content-Length 5, handler reads 3 bytes in one-byte reads, probe stays in sync. -/
example : (streamBody {} .eof { cl := 5, method := [80] } [1, 2, 3, 4, 5, 71, 69, 84] { readSize := 1, stopAfter := 3 }).toOption.map
    (fun p => (p.1.got.bytes, p.1.got.eof)) = some ([1, 2, 3], false) := by decide +kernel


/-! ## chunked bodies

A well-formed chunked body is a `ChunkedMsg` (`Proofs/StreamChunked.lean`): chunks written as size line
(1..15 hex digits read by the independent `Spec.Http.parseHex`, any number of blanks, CRLF), non-empty
payload, CRLF; the size line of the last chunk (value 0); the trailer section.  `m.bytes` is the wire
text, `m.body` the concatenated payloads.  Every statement is for every chunking, every text `rest`
behind the message and every consumption program `c` (read size, stop point). -/

/-- the encodings quantified over are encodings in the sense of the independent strict decoder
(`Spec.Http.chunksAux`, as called by `Spec.Http.decodeOne`): it accepts `m.bytes`, assigns it the body
`m.body` and ends before the trailer section. -/
theorem chunked_msg_is_spec_encoding (m : ChunkedMsg) (hm : m.Wf) (rest : Bytes) :
    Spec.Http.chunksAux ((m.bytes ++ rest).length + 1) (m.bytes ++ rest) [] = some (m.body, m.trailer ++ rest) := by
  obtain ⟨hcs, hzl, hz0⟩ := hm
  have h := spec_decodes m.zdigits m.zpad (m.trailer ++ rest) hzl hz0 m.chunks ((m.bytes ++ rest).length + 1) [] hcs
    (by have := length_le_encChunks m.chunks
        simp only [ChunkedMsg.bytes, List.length_append]; omega)
  simpa [ChunkedMsg.bytes, ChunkedMsg.body] using h

/-- (1) what the handler reads of a chunked body is a prefix of the de-chunked body, never more than it
asked for (so never a byte of `rest`); if no read failed it is exactly the first `stopAfter` bytes — all
of the body when the handler reads to the end — and end-of-stream is reported iff the handler asked
for more than the body.  No condition on the trailer section. -/
theorem chunked_reads_prefix (cfg : Cfg) (e : End) (hd : ReqHead) (c : Consume) (m : ChunkedMsg) (rest : Bytes)
    (r : ReqOut) (a : After) (hcl : hd.cl = -1) (hm : m.Wf)
    (h : streamBody cfg e hd (m.bytes ++ rest) c = .ok (r, a)) :
    r.got.bytes <+: m.body ∧ r.got.bytes.length ≤ c.stopAfter ∧
      (r.got.err = false →
        r.got.bytes = m.body.take c.stopAfter ∧ (r.got.eof = true ↔ m.body.length < c.stopAfter)) := by
  rw [streamBody_chunked cfg e hd _ c hcl] at h
  cases h
  exact chunked_reads cfg e hd.trailer c m hm rest _

/-- (1, completeness) with a positive read size the only read that can fail on a well-formed chunked
body is the trailer reader's (`ReadTrailer` rejecting the trailer section); in particular the model's fuel suffices. -/
theorem chunked_read_succeeds (cfg : Cfg) (e : End) (hd : ReqHead) (c : Consume) (m : ChunkedMsg) (rest : Bytes)
    (r : ReqOut) (a : After) (hcl : hd.cl = -1) (hm : m.Wf) (hr : 0 < c.readSize)
    (ht : ∀ x, readTrailerReq cfg e hd.trailer (m.trailer ++ rest) ≠ .error x)
    (h : streamBody cfg e hd (m.bytes ++ rest) c = .ok (r, a)) :
    r.got.err = false := by
  rw [streamBody_chunked cfg e hd _ c hcl] at h
  cases h
  exact chunked_no_error cfg e hd.trailer c m hm rest _ hr (by omega) ht

/-- (1, completeness) with an empty trailer section no read fails: the handler gets the first
`stopAfter` bytes of the body, all of it if it asks for at least that much. -/
theorem chunked_reads_all (cfg : Cfg) (e : End) (hd : ReqHead) (c : Consume) (m : ChunkedMsg) (rest : Bytes)
    (r : ReqOut) (a : After) (hcl : hd.cl = -1) (hm : m.Wf) (hr : 0 < c.readSize) (htr : m.trailer = [13, 10])
    (h : streamBody cfg e hd (m.bytes ++ rest) c = .ok (r, a)) :
    r.got.err = false ∧ r.got.bytes = m.body.take c.stopAfter ∧ (m.body.length ≤ c.stopAfter → r.got.bytes = m.body) := by
  have he : r.got.err = false := by
    refine chunked_read_succeeds cfg e hd c m rest r a hcl hm hr ?_ h
    intro x
    rw [htr]
    simp [readTrailerReq_empty]
  have := (chunked_reads_prefix cfg e hd c m rest r a hcl hm h).2.2 he
  refine ⟨he, this.1, fun hl => ?_⟩
  rw [this.1, List.take_of_length_le hl]

/-- (2) where the connection stands after the handler returned, for a trailer section of field lines
(`TrFieldOk`: a colon, no LF, no leading blank; the field name may start with `0`): closed if a read
failed; otherwise the next request is parsed from exactly `rest` — never from a suffix of the message,
never with a byte of `rest` consumed (`either`: or the connection is closed, when the remainder of the
message has not arrived yet). -/
theorem chunked_resync_exact (cfg : Cfg) (e : End) (hd : ReqHead) (c : Consume) (m : ChunkedMsg)
    (ls : List Bytes) (rest : Bytes) (r : ReqOut) (a : After) (hcl : hd.cl = -1) (hm : m.Wf)
    (hls : ∀ l ∈ ls, TrFieldOk l) (htr : m.trailer = encTrailer ls)
    (h : streamBody cfg e hd (m.bytes ++ rest) c = .ok (r, a)) :
    a = if r.got.err then .closed else if r.got.eof then .resync rest else .either rest := by
  rw [streamBody_chunked cfg e hd _ c hcl] at h
  cases h
  refine chunked_after cfg e hd.trailer c m hm ls (fun l hl => (hls l hl).lineOk) htr rest _ (fun _ => ?_)
  rw [htr]
  exact readTrailerReq_lines cfg e hd.trailer ls rest hls

/-- (2) with obs-fold: every trailer field may be followed by continuation lines (`TrContOk`: leading SP
or HTAB, no LF, no colon), which the scanner's look-ahead joins to the field; the statement is the same. -/
theorem chunked_resync_exact_folded (cfg : Cfg) (e : End) (hd : ReqHead) (c : Consume) (m : ChunkedMsg)
    (fs : List TrField) (rest : Bytes) (r : ReqOut) (a : After) (hcl : hd.cl = -1) (hm : m.Wf)
    (hfs : ∀ f ∈ fs, TrField.Ok f) (htr : m.trailer = encTrailer (fieldLines fs))
    (h : streamBody cfg e hd (m.bytes ++ rest) c = .ok (r, a)) :
    a = if r.got.err then .closed else if r.got.eof then .resync rest else .either rest := by
  rw [streamBody_chunked cfg e hd _ c hcl] at h
  cases h
  refine chunked_after cfg e hd.trailer c m hm (fieldLines fs) (fieldLines_lineOk fs hfs) htr rest _ (fun _ => ?_)
  rw [htr]
  exact readTrailerReq_fields cfg e hd.trailer fs rest hfs

/-- non-vacuity of `chunked_resync_exact_folded`: trailer `X:1\r\n 2\r\n\t3\r\nY:4\r\n\r\n`, read to the end. -/
example : ∀ f ∈ [(([88, 58, 49], [[32, 50], [9, 51]]) : TrField), ([89, 58, 52], [])], TrField.Ok f := by decide

/-- (2) for any trailer lines without LF (a colon is not needed): as long
as the handler has not been told end-of-stream, the drain (`skipRest`) ends exactly behind the message. -/
theorem chunked_resync_exact_unread (cfg : Cfg) (e : End) (hd : ReqHead) (c : Consume) (m : ChunkedMsg)
    (ls : List Bytes) (rest : Bytes) (r : ReqOut) (a : After) (hcl : hd.cl = -1) (hm : m.Wf)
    (hls : ∀ l ∈ ls, TrLineOk l) (htr : m.trailer = encTrailer ls) (heof : r.got.eof = false)
    (h : streamBody cfg e hd (m.bytes ++ rest) c = .ok (r, a)) :
    a = if r.got.err then .closed else .either rest := by
  rw [streamBody_chunked cfg e hd _ c hcl] at h
  cases h
  have := chunked_after cfg e hd.trailer c m hm ls hls htr rest _ (fun hf => by rw [heof] at hf; cases hf)
  rw [this, heof]
  simp

/-- the message of the examples: `3\r\nabc\r\n02 \r\nde\r\n0\r\n` + trailer -/
def msgOf (trailer : Bytes) : ChunkedMsg :=
  { chunks := [{ digits := [51], pad := 0, data := [97, 98, 99] }, { digits := [48, 50], pad := 1, data := [100, 101] }],
    zdigits := [48], zpad := 0, trailer := trailer }

theorem msgOf_wf (trailer : Bytes) : (msgOf trailer).Wf := by
  refine ⟨?_, (by decide : ([48] : Bytes).length ≤ 15), (by decide : Spec.Http.parseHex [48] = some 0)⟩
  intro k hk
  simp only [msgOf, List.mem_cons, List.not_mem_nil, or_false] at hk
  rcases hk with hk | hk <;> subst hk <;> exact ⟨by decide, by decide, by decide⟩

/-- Regression of a defect found by this proof work and repaired in /repo (`fix: a trailer field whose name starts
with '0' …`): `ext.parseTrailer` used to skip three bytes whenever the trailer section started with the byte `0`
and did not count them, so after the trailer field `0:x` the server went on at `x\r\n\r\n` + `rest` and parsed the
tail of the trailer section as the next request.  With the repaired code the connection is positioned at `rest`. -/
example : ∀ l ∈ [[(48 : UInt8), 58, 120]], TrFieldOk l := by decide

/-- regression for /repo f1dae26: behind the trailer field `0:x` the connection stands at `rest`.  `parseTrailer` skips
only a complete repeated `0\r\n` line in front of the section, so `chunked_resync_exact` needs no hypothesis on field
names (`FieldAt.noZeroLine`); the witness is also in corpus/C14/trailer-zero.txt -/
theorem trailer_name_zero_regression :
    (streamBody {} .eof { cl := -1 } ((msgOf (encTrailer [[48, 58, 120]])).bytes ++ [71, 69, 84])
      { readSize := 10, stopAfter := 100 }).toOption.map (·.2) = some (.resync [71, 69, 84]) := by decide +kernel

/-- what the `After` of (2) means for the connection: after a kept-alive streamed request the loop goes
on with exactly the `rest` named by `resync`/`either` (or stops, for `closed`). -/
theorem after_means_next_request_from_rest (cfg : Cfg) (e : End) (c : Consume) (fuel : Nat) (first : Bool) (s : Bytes)
    (hd : ReqHead) (n : Nat) (r : ReqOut) (a : After)
    (hgo : (!first && decide (s.length < 4)) = false) (hp : parseReqHead cfg.disableNorm s = .ok (hd, n))
    (hb : streamBody cfg e hd (s.drop n) c = .ok (r, a))
    (hk : (cfg.disableKeepalive || r.head.connClose) = false) :
    streamLoop cfg e c (fuel + 1) first s =
      (if mayContinue hd then [SEv.continue100] else []) ++ [.req r, .resp 200 false] ++
        match a with
        | .resync rest => streamLoop cfg e c fuel false rest
        | .closed => []
        | .either rest => .maybeClosed :: streamLoop cfg e c fuel false rest := by
  simp only [streamLoop, hgo, hp, hb, hk, Bool.false_eq_true, if_false]
  cases a <;> rfl

/-- non-vacuity of `after_means_next_request_from_rest` (and of the whole chain): the example message
behind a request head, followed by a pipelined `GET /probe`; the handler stops after 4 bytes; events:
request (1), response (2), maybe-closed (3), then the probe request with URI `/probe` and its response. -/
example : (serveStream {} .eof { readSize := 3, stopAfter := 4 }
    [80, 79, 83, 84, 32, 47, 99, 32, 72, 84, 84, 80, 47, 49, 46, 49, 13, 10, 72, 111, 115, 116, 58, 32,
    104, 13, 10, 84, 114, 97, 110, 115, 102, 101, 114, 45, 69, 110, 99, 111, 100, 105, 110, 103, 58, 32,
    99, 104, 117, 110, 107, 101, 100, 13, 10, 13, 10, 51, 13, 10, 97, 98, 99, 13, 10, 48, 50, 32, 13,
    10, 100, 101, 13, 10, 48, 13, 10, 88, 58, 49, 13, 10, 13, 10, 71, 69, 84, 32, 47, 112, 114, 111, 98,
    101, 32, 72, 84, 84, 80, 47, 49, 46, 49, 13, 10, 72, 111, 115, 116, 58, 32, 112, 13, 10, 13, 10]).map
    (fun ev => match ev with
      | .continue100 => (0, []) | .req r => (1, r.head.uri) | .resp _ _ => (2, []) | .maybeClosed => (3, [])) =
    [(1, [47, 99]), (2, []), (3, []), (1, [47, 112, 114, 111, 98, 101]), (2, [])] := by decide +kernel

/-- (3) a failed read of the body stream (malformed chunk framing, rejected trailer, wire ended) closes
the connection, for every kind of body. -/
theorem stream_error_closes (cfg : Cfg) (e : End) (hd : ReqHead) (s : Bytes) (c : Consume) (r : ReqOut) (a : After)
    (h : streamBody cfg e hd s c = .ok (r, a)) (herr : r.got.err = true) : a = .closed :=
  streamBody_err_closed cfg e hd s c r a h herr

/-- (3) on the whole connection: after a request whose body read failed, nothing but that request's
response follows — no later bytes are parsed as a request. -/
theorem nothing_after_stream_error (cfg : Cfg) (e : End) (c : Consume) (s : Bytes) :
    errEnds (serveStream cfg e c s) = true := by
  rw [serveStream, ← streamLoopX_single]
  exact streamLoopX_errEnds cfg false e c _ true [s]

/-- non-vacuity of (1) and (2): the example message with trailer `X:1`, the handler stops after 4 bytes
(inside the second chunk) reading 3 at a time; the drain ends exactly before `GET`. -/
example : (streamBody {} .eof { cl := -1 } ((msgOf (encTrailer [[88, 58, 49]])).bytes ++ [71, 69, 84])
    { readSize := 3, stopAfter := 4 }).toOption.map (fun p => (p.1.got.bytes, p.1.got.eof, p.1.got.err, p.2)) =
    some ([97, 98, 99, 100], false, false, .either [71, 69, 84]) := by decide +kernel

/-- the same message read to the end: all five bytes, end-of-stream, in sync. -/
example : (streamBody {} .eof { cl := -1 } ((msgOf (encTrailer [[88, 58, 49]])).bytes ++ [71, 69, 84])
    { readSize := 3, stopAfter := 9 }).toOption.map (fun p => (p.1.got.bytes, p.1.got.eof, p.1.got.err, p.2)) =
    some ([97, 98, 99, 100, 101], true, false, .resync [71, 69, 84]) := by decide +kernel

example : (msgOf (encTrailer [[88, 58, 49]])).Wf ∧ (∀ l ∈ [[88, 58, 49]], TrFieldOk l) :=
  ⟨msgOf_wf _, by decide⟩

/-- outside `chunked_resync_exact` (the line `0` has no colon), shown for the record: a repeated `0\r\n`
line in front of the empty line is skipped and counted by the repaired `parseTrailer`; in sync. -/
example : (streamBody {} .eof { cl := -1 } ((msgOf [48, 13, 10, 13, 10]).bytes ++ [71, 69, 84])
    { readSize := 3, stopAfter := 9 }).toOption.map (fun p => (p.1.got.bytes, p.1.got.eof, p.1.got.err, p.2)) =
    some ([97, 98, 99, 100, 101], true, false, .resync [71, 69, 84]) := by decide +kernel

/-- the folded trailer `X:1\r\n 2\r\n\t3\r\nY:4\r\n\r\n` read to the end: in sync. -/
example : (streamBody {} .eof { cl := -1 }
    ((msgOf (encTrailer (fieldLines [([88, 58, 49], [[32, 50], [9, 51]]), ([89, 58, 52], [])]))).bytes ++ [71, 69, 84])
    { readSize := 3, stopAfter := 9 }).toOption.map (fun p => (p.1.got.bytes, p.1.got.eof, p.1.got.err, p.2)) =
    some ([97, 98, 99, 100, 101], true, false, .resync [71, 69, 84]) := by decide +kernel

/-- non-vacuity of `chunked_reads_all`: empty trailer section, read in one-byte reads to the end. -/
example : (msgOf [13, 10]).Wf ∧ (msgOf [13, 10]).trailer = [13, 10] := ⟨msgOf_wf _, rfl⟩
example : (streamBody {} .stall { cl := -1 } ((msgOf [13, 10]).bytes ++ [71, 69, 84])
    { readSize := 1, stopAfter := 5 }).toOption.map (fun p => (p.1.got.bytes, p.1.got.eof, p.1.got.err, p.2)) =
    some ([97, 98, 99, 100, 101], false, false, .either [71, 69, 84]) := by decide +kernel

/-- non-vacuity of `chunked_read_succeeds`: the trailer `X:1` is accepted by the trailer reader. -/
example : (readTrailerReq {} .eof [] ((msgOf (encTrailer [[88, 58, 49]])).trailer ++ [71, 69, 84])).toOption.isSome = true := by
  decide +kernel

/-- non-vacuity of (3): a chunk-size line `zz` after the first chunk; the read fails and the
connection is closed although a complete request follows. -/
example : (streamBody {} .eof { cl := -1 } [49, 13, 10, 97, 13, 10, 122, 122, 13, 10, 13, 10, 71, 69, 84]
    { readSize := 16, stopAfter := 50 }).toOption.map (fun p => (p.1.got.bytes, p.1.got.err, p.2)) =
    some ([97], true, .closed) := by decide +kernel

/-! ## idle style of the transport and read time-outs in the middle of the stream

`serveStreamX` (`Model/Http1/StreamX.lean`): the loop above with (a) the return-to-poller style of a
transport with `IdleTimeout == 0` (netpoll): `Server.Serve` returns after every kept-alive request and is
entered again, as a first iteration, while unread input remains; (b) the inbound stream cut into segments
by read time-outs: a read that needs a byte of the next segment fails once, then the bytes are there. -/

/-- with the in-loop idle wait and no time-out the extended model is the model of the theorems above -/
theorem no_timeout_is_plain_model (cfg : Cfg) (e : End) (c : Consume) (s : Bytes) :
    serveStreamX cfg false e c [] s = serveStream cfg e c s := by
  simp only [serveStreamX, splitAt, serveStream, List.length_cons, List.length_nil, Nat.zero_add]
  exact streamLoopX_single cfg e c _ true s

/-- (3) in every idle style and for time-outs anywhere (any number, repeated): after a request whose body
read failed - a time-out inside the body included - nothing but that request's response follows; no later
byte is parsed as a request, whatever arrives after the time-out. -/
theorem nothing_after_stream_error_any_style (cfg : Cfg) (poll : Bool) (e : End) (c : Consume) (tmos : List Nat) (s : Bytes) :
    errEnds (serveStreamX cfg poll e c tmos s) = true :=
  streamLoopX_errEnds cfg poll e c _ true _

/-- (2) in every idle style: after a kept-alive streamed request the connection goes on (`contX`: the next
loop iteration, or the next entry of `Serve` from the poller) with exactly the `rest` the release of the body
stream left - never with bytes of the body. -/
theorem after_means_next_entry_from_rest (cfg : Cfg) (poll : Bool) (e : End) (c : Consume) (fuel : Nat) (first : Bool)
    (v : Bytes) (more : List Bytes) (hd : ReqHead) (n : Nat) (r : ReqOut) (a : After) (more' : List Bytes)
    (hgo : (!first && decide (v.length < 4)) = false) (hp : parseReqHead cfg.disableNorm v = .ok (hd, n))
    (hb : streamBodyX cfg e hd (v.drop n) more c = .ok (r, a, more'))
    (hk : (cfg.disableKeepalive || r.head.connClose) = false) :
    streamLoopX cfg poll e c (fuel + 1) first (v :: more) =
      (if mayContinue hd then [SEv.continue100] else []) ++ [.req r, .resp 200 false] ++
        match a with
        | .resync rest => contX cfg poll e c fuel rest more'
        | .closed => []
        | .either rest => .maybeClosed :: contX cfg poll e c fuel rest more' := by
  simp only [streamLoopX, hgo, hp, hb, hk, Bool.false_eq_true, if_false, contX]
  cases a <;> rfl

/-- return-to-poller style: `Serve` is entered again at exactly `rest`, as a first iteration (no idle
`Peek(4)`), as long as a byte of the current segment is left -/
theorem poll_reenters_at_rest (cfg : Cfg) (e : End) (c : Consume) (fuel : Nat) (b : UInt8) (rest : Bytes) (more : List Bytes) :
    contX cfg true e c fuel (b :: rest) more = streamLoopX cfg true e c fuel true ((b :: rest) :: more) := rfl

/-- non-vacuity (the situation of the return-to-poller style): chunk payload `A: b`, empty line, a complete
request for `/smuggled`; the handler reads nothing; `Serve` is left and entered again.  Events: request `/c`
(1), response (2), maybe-closed (3), then the probe - the payload is skipped, not served. -/
example : (serveStreamX {} true .eof { readSize := 64, stopAfter := 0 } []
    [80, 79, 83, 84, 32, 47, 99, 32, 72, 84, 84, 80, 47, 49, 46, 49, 13, 10, 72, 111, 115, 116, 58, 32, 104, 13, 10, 84, 114, 97, 110, 115, 102, 101, 114, 45, 69, 110, 99, 111, 100, 105, 110, 103, 58, 32, 99, 104, 117, 110, 107, 101, 100, 13, 10, 13, 10, 50, 98, 13, 10, 65, 58, 32, 98, 13, 10, 13, 10, 71, 69, 84, 32, 47, 115, 109, 117, 103, 103, 108, 101, 100, 32, 72, 84, 84, 80, 47, 49, 46, 49, 13, 10, 72, 111, 115, 116, 58, 32, 120, 13, 10, 13, 10, 13, 10, 48, 13, 10, 13, 10, 71, 69, 84, 32, 47, 112, 114, 111, 98, 101, 32, 72, 84, 84, 80, 47, 49, 46, 49, 13, 10, 72, 111, 115, 116, 58, 32, 112, 13, 10, 13, 10]).map
    (fun ev => match ev with
      | .continue100 => (0, []) | .req r => (1, r.head.uri) | .resp _ _ => (2, []) | .maybeClosed => (3, [])) =
    [(1, [47, 99]), (2, []), (3, []), (1, [47, 112, 114, 111, 98, 101]), (2, [])] := by decide +kernel

/-- `bytesconv.ReadHexInt` drops a read error that comes after at least one digit, so a time-out that strikes
inside a chunk-size line is used up unnoticed.  That can never make a cut number pass for a whole one: if the
next segment goes on with a hex digit the size line is refused (the read fails, the connection is closed by
`nothing_after_stream_error_any_style`) ... -/
theorem cut_size_line_is_refused (e : End) (v : Bytes) (d : UInt8) (t : Bytes) (ms : List Bytes) (n : Nat)
    (hv : readHexInt .stall v = .ok (n, [])) (hd : hex2int d ≠ 16) :
    parseChunkSizeX e v ((d :: t) :: ms) = .error .bad := by
  -- a hex digit is neither a blank nor CR, the only bytes `ParseChunkSize` lets follow the number
  have h32 : d ≠ 32 := fun h => hd (h ▸ hex2int_sp)
  have h13 : d ≠ 13 := fun h => hd (h ▸ hex2int_cr)
  have hve : viewEnd e ((d :: t) :: ms) = .stall := rfl
  simp only [parseChunkSizeX, hve, hv, chunkSizeTail, h32, h13, if_false]

/-- ... and if it goes on with anything else the number was whole: the size line is read exactly as if the
two segments had arrived together. -/
theorem whole_size_line_timeout_invisible (e : End) (v : Bytes) (d : UInt8) (t : Bytes) (ms : List Bytes) (n : Nat)
    (hv : readHexInt .stall v = .ok (n, [])) (hd : hex2int d = 16) :
    parseChunkSizeX e v ((d :: t) :: ms) =
      match parseChunkSize (viewEnd e ms) (v ++ d :: t) with
      | .error x => .error x
      | .ok (k, r) => .ok (k, r, ms) := by
  have ha : readHexInt (viewEnd e ms) (v ++ d :: t) = .ok (n, d :: t) :=
    readHexIntAux_resume .stall (viewEnd e ms) d t hd v 0 0 n hv
  have hve : viewEnd e ((d :: t) :: ms) = .stall := rfl
  simp only [parseChunkSizeX, hve, hv, parseChunkSize, ha]
  cases chunkSizeTail (viewEnd e ms) (d :: t) <;> rfl

set_option maxRecDepth 100000 in
/-- non-vacuity of both: `3` | `0\r\n…` is refused, `30` | `\r\n` is the size 0x30 -/
example : readHexInt .stall [51] = .ok (3, []) ∧ hex2int 48 ≠ 16 ∧
    readHexInt .stall [51, 48] = .ok (48, []) ∧ hex2int 13 = 16 :=
  ⟨rfl, by rw [hex2int_eq]; decide, rfl, hex2int_cr⟩

/-- non-vacuity of `nothing_after_stream_error_any_style` with a time-out: second chunk of 0x30 bytes that
start with an empty line and a complete request for `/smuggled`; the peer pauses after the `3` of `30` for
two read time-outs (offset 68 twice) and then sends the rest: the handler's read fails after `hello`, the
response is written and that is all - in both idle styles. -/
example : ∀ poll, (serveStreamX {} poll .eof { readSize := 64, stopAfter := 100 } [68, 68]
    [80, 79, 83, 84, 32, 47, 99, 32, 72, 84, 84, 80, 47, 49, 46, 49, 13, 10, 72, 111, 115, 116, 58, 32, 104, 13, 10, 84, 114, 97, 110, 115, 102, 101, 114, 45, 69, 110, 99, 111, 100, 105, 110, 103, 58, 32, 99, 104, 117, 110, 107, 101, 100, 13, 10, 13, 10, 53, 13, 10, 104, 101, 108, 108, 111, 13, 10, 51, 48, 13, 10, 13, 10, 71, 69, 84, 32, 47, 115, 109, 117, 103, 103, 108, 101, 100, 32, 72, 84, 84, 80, 47, 49, 46, 49, 13, 10, 72, 111, 115, 116, 58, 32, 120, 13, 10, 13, 10, 120, 120, 120, 120, 120, 120, 120, 120, 120, 120, 120, 13, 10, 48, 13, 10, 13, 10, 71, 69, 84, 32, 47, 112, 114, 111, 98, 101, 32, 72, 84, 84, 80, 47, 49, 46, 49, 13, 10, 72, 111, 115, 116, 58, 32, 112, 13, 10, 13, 10]).map
    (fun ev => match ev with
      | .continue100 => (0, [], false) | .req r => (1, r.got.bytes, r.got.err) | .resp _ _ => (2, [], false)
      | .maybeClosed => (3, [], false)) =
    [(1, [104, 101, 108, 108, 111], true), (2, [], false)] := by decide +kernel


/-! ## handlers that consume the stream through hertz's own request API

`Model/Http1/StreamApi.lean`: the alphabet `Api` (`read`, `formParse upTo` - `MultipartForm()/FormFile/FormValue/PostForm`,
where the amount `upTo` the multipart reader takes is a parameter -, `bodyAll`, `writeTo`, `closeStream`, `replaceStream`,
`readThenBody`, `none`), a program `Prog` = the `Read` calls that reach the stream + what the request references when the
handler returns (`Fin`), and the loop's post-handler step as in `http1/server.go`: `skipRest`, and the check of a
remembered read error, run on the `*bodyStream` the server built, whatever `ctx.Request` references by then.
The statements are about an arbitrary `Prog` (any read size, any stop point, any `Fin`), which covers every `Api.prog`;
that `streamBodyP` does not look at `Fin` is the modelling decision, held to the code by the correspondence op `sapi`. -/

/-- programs that leave the stream attached run the loop of the theorems above -/
theorem attached_is_plain_model (cfg : Cfg) (e : End) (c : Consume) (fuel : Nat) (first : Bool) (s : Bytes) :
    (streamLoopP cfg e (fun _ _ => ⟨c, .attached⟩) fuel first s).map PEv.toSEv = streamLoop cfg e c fuel first s :=
  streamLoopP_attached cfg e c fuel first s

/-- in the loop with per-request programs the next request is parsed from exactly the `rest` of `resync rest` /
`either rest`, for every program -/
theorem after_means_next_request_from_rest_any_program (cfg : Cfg) (e : End) (prog : ReqHead → Bytes → Prog) (fuel : Nat)
    (first : Bool) (s : Bytes) (hd : ReqHead) (n : Nat) (r : ReqOut) (a : After)
    (hgo : (!first && decide (s.length < 4)) = false) (hp : parseReqHead cfg.disableNorm s = .ok (hd, n))
    (hb : streamBodyP cfg e hd (s.drop n) (prog hd (s.drop n)) = .ok (r, a))
    (hk : (cfg.disableKeepalive || r.head.connClose) = false) :
    streamLoopP cfg e prog (fuel + 1) first s =
      (if mayContinue hd then [PEv.continue100] else []) ++
        [.req r (if r.streamed then (prog hd (s.drop n)).fin else .attached), .resp 200 false] ++
        match a with
        | .resync rest => streamLoopP cfg e prog fuel false rest
        | .closed => []
        | .either rest => .maybeClosed :: streamLoopP cfg e prog fuel false rest := by
  simp only [streamLoopP, hgo, hp, hb, hk, Bool.false_eq_true, if_false]
  cases a <;> rfl

/-- `MultipartForm()` & co. on a chunked upload, for ANY amount `upTo` the multipart reader takes: what it obtains is
a prefix of the de-chunked body - never a byte of the terminator, the trailer or the next request -, exactly the first
`upTo` bytes if no read failed, and it is told end-of-stream iff it asked for more than the body. -/
theorem form_parse_reads_prefix (cfg : Cfg) (e : End) (hd : ReqHead) (upTo n : Nat) (m : ChunkedMsg) (rest : Bytes)
    (r : ReqOut) (a : After) (hcl : hd.cl = -1) (hm : m.Wf)
    (h : streamBodyP cfg e hd (m.bytes ++ rest) ((Api.formParse upTo).prog n) = .ok (r, a)) :
    r.got.bytes <+: m.body ∧ r.got.bytes.length ≤ upTo ∧
      (r.got.err = false → r.got.bytes = m.body.take upTo ∧ (r.got.eof = true ↔ m.body.length < upTo)) := by
  rw [streamBodyP_eq] at h
  exact chunked_reads_prefix cfg e hd _ m rest r a hcl hm h

/-- the same for a fixed-length upload (streamed when multipart pre-parsing is off): a prefix of the `Content-Length`
bytes, and afterwards the connection is closed or stands right behind them. -/
theorem form_parse_reads_prefix_fixed (cfg : Cfg) (e : End) (hd : ReqHead) (upTo n : Nat) (s : Bytes)
    (r : ReqOut) (a : After) (hcl : 0 ≤ hd.cl)
    (h : streamBodyP cfg e hd s ((Api.formParse upTo).prog n) = .ok (r, a)) :
    r.got.bytes <+: s.take hd.cl.toNat ∧ r.got.bytes.length ≤ upTo ∧ After.InSync a (s.drop hd.cl.toNat) := by
  rw [streamBodyP_eq] at h
  have h1 := fixed_reads_prefix cfg e hd s _ r a hcl h
  exact ⟨h1.1, h1.2.1, (fixed_after cfg e hd s _ r a hcl h).imp_right fun ha => Or.inl ha.1⟩

/-- (2) for EVERY consumption program on a well-formed chunked message (trailer section of field lines) followed by any
`rest`: the connection is closed or the next request is parsed from exactly `rest` — whatever the request references
when the handler returns (`MultipartForm`, own reads, `none`: attached; `Body()`, `BodyWriteTo`, `PostArgs`,
`CloseBodyStream()`, `ResetBody()`: detached; `SetBodyStream(other)`: replaced). -/
theorem sync_after_any_consumption (cfg : Cfg) (e : End) (hd : ReqHead) (p : Prog) (m : ChunkedMsg)
    (ls : List Bytes) (rest : Bytes) (r : ReqOut) (a : After) (hcl : hd.cl = -1) (hm : m.Wf)
    (hls : ∀ l ∈ ls, TrFieldOk l) (htr : m.trailer = encTrailer ls)
    (h : streamBodyP cfg e hd (m.bytes ++ rest) p = .ok (r, a)) :
    After.InSync a rest := by
  rw [streamBodyP_eq] at h
  have := chunked_resync_exact cfg e hd p.c m ls rest r a hcl hm hls htr h
  rw [this]
  unfold After.InSync
  cases r.got.err <;> cases r.got.eof <;> simp

/-- (2) on the connection: a kept-alive upload with a well-formed chunked body, ANY program, any `rest`: after the
request's response the event list is over (closed), or continues with the events of exactly `rest` (`maybeClosed`: or is
over) - no byte of the body, the terminator or the trailer is ever parsed as a request, and no byte of `rest` is lost. -/
theorem sync_after_any_consumption_on_connection (cfg : Cfg) (e : End) (prog : ReqHead → Bytes → Prog) (fuel : Nat)
    (first : Bool) (s : Bytes) (hd : ReqHead) (n : Nat) (m : ChunkedMsg) (ls : List Bytes) (rest : Bytes) (r : ReqOut) (a : After)
    (hgo : (!first && decide (s.length < 4)) = false) (hp : parseReqHead cfg.disableNorm s = .ok (hd, n))
    (hs : s.drop n = m.bytes ++ rest) (hcl : hd.cl = -1) (hm : m.Wf)
    (hls : ∀ l ∈ ls, TrFieldOk l) (htr : m.trailer = encTrailer ls)
    (hb : streamBodyP cfg e hd (s.drop n) (prog hd (s.drop n)) = .ok (r, a))
    (hk : (cfg.disableKeepalive || r.head.connClose) = false) :
    ∃ tail, streamLoopP cfg e prog (fuel + 1) first s =
        (if mayContinue hd then [PEv.continue100] else []) ++
          [.req r (if r.streamed then (prog hd (s.drop n)).fin else .attached), .resp 200 false] ++ tail ∧
      (tail = [] ∨ tail = streamLoopP cfg e prog fuel false rest ∨ tail = .maybeClosed :: streamLoopP cfg e prog fuel false rest) := by
  have hloop := after_means_next_request_from_rest_any_program cfg e prog fuel first s hd n r a hgo hp hb hk
  have hb' := hb
  rw [hs] at hb'
  have hin := sync_after_any_consumption cfg e hd _ m ls rest r a hcl hm hls htr hb'
  rcases hin with ha | ha | ha <;> subst ha
  · exact ⟨[], hloop, Or.inl rfl⟩
  · exact ⟨_, hloop, Or.inr (Or.inl rfl)⟩
  · exact ⟨_, hloop, Or.inr (Or.inr rfl)⟩

/-- in particular the form APIs for ANY consumed amount -/
theorem sync_after_form_parse (cfg : Cfg) (e : End) (hd : ReqHead) (upTo n : Nat) (m : ChunkedMsg)
    (ls : List Bytes) (rest : Bytes) (r : ReqOut) (a : After) (hcl : hd.cl = -1) (hm : m.Wf)
    (hls : ∀ l ∈ ls, TrFieldOk l) (htr : m.trailer = encTrailer ls)
    (h : streamBodyP cfg e hd (m.bytes ++ rest) ((Api.formParse upTo).prog n) = .ok (r, a)) :
    After.InSync a rest :=
  sync_after_any_consumption cfg e hd _ m ls rest r a hcl hm hls htr h

/-- `Body()` / `BodyWriteTo` / `PostArgs()` on a well-formed chunked message whose trailer the reader accepts: the
caller gets exactly the de-chunked body, and the connection stands exactly behind the message (everything was read). -/
theorem body_all_reads_everything (cfg : Cfg) (e : End) (hd : ReqHead) (m : ChunkedMsg)
    (ls : List Bytes) (rest : Bytes) (r : ReqOut) (a : After) (hcl : hd.cl = -1) (hm : m.Wf)
    (hls : ∀ l ∈ ls, TrFieldOk l) (htr : m.trailer = encTrailer ls)
    (h : streamBodyP cfg e hd (m.bytes ++ rest) (Api.bodyAll.prog (m.bytes ++ rest).length) = .ok (r, a))
    (herr : r.got.err = false) :
    r.got.bytes = m.body ∧ r.got.eof = true ∧ a = .resync rest := by
  rw [streamBodyP_eq] at h
  have hlen := body_length_le m rest
  have hpre := (chunked_reads_prefix cfg e hd _ m rest r a hcl hm h).2.2 herr
  have hstop : (Api.bodyAll.prog (m.bytes ++ rest).length).c.stopAfter = (m.bytes ++ rest).length + 1 := rfl
  have heof : r.got.eof = true := hpre.2.mpr (by rw [hstop]; omega)
  refine ⟨?_, heof, ?_⟩
  · rw [hpre.1, hstop, List.take_of_length_le (by omega)]
  · rw [chunked_resync_exact cfg e hd _ m ls rest r a hcl hm hls htr h, herr, heof]
    simp

/-- (2) fixed length, EVERY program: closed or exactly behind the `Content-Length` bytes. -/
theorem sync_after_any_consumption_fixed (cfg : Cfg) (e : End) (hd : ReqHead) (s : Bytes) (p : Prog)
    (r : ReqOut) (a : After) (hcl : 0 ≤ hd.cl)
    (h : streamBodyP cfg e hd s p = .ok (r, a)) :
    After.InSync a (s.drop hd.cl.toNat) := by
  rw [streamBodyP_eq] at h
  exact (fixed_after cfg e hd s _ r a hcl h).imp_right fun ha => Or.inl ha.1

/-- regression for /repo d6f45a0: the example message `3 abc / 02 de / 0` followed by `GET`, handler calls
`c.Request.CloseBodyStream()` (or `ResetBody()`): the stream the server built is drained all the same and the connection
stands at `GET` (or is closed). -/
theorem detached_stream_is_drained_or_closed_repaired :
    ∃ a, (streamBodyP {} .eof { cl := -1 } ((msgOf [13, 10]).bytes ++ [71, 69, 84]) (Api.closeStream.prog 25)).toOption.map (·.2) = some a ∧
      After.InSync a [71, 69, 84] :=
  ⟨.either [71, 69, 84], by decide +kernel, Or.inr (Or.inr rfl)⟩

/-- regression for /repo d6f45a0: the same through a wrapper put in place of the stream (`SetBodyStream`), after reading
4 of the 5 body bytes. -/
theorem sync_after_replaced_stream_repaired :
    ∃ a, (streamBodyP {} .eof { cl := -1 } ((msgOf [13, 10]).bytes ++ [71, 69, 84]) ((Api.replaceStream 3 4).prog 25)).toOption.map (·.2) = some a ∧
      After.InSync a [71, 69, 84] :=
  ⟨.either [71, 69, 84], by decide +kernel, Or.inr (Or.inr rfl)⟩

/-- regression for /repo d6f45a0: `stream_error_closes` survives `Body()`: a refused chunk-size line (`zz`) makes the read
fail, `Body()` drops the error and detaches the stream, and the connection IS closed (the server's stream remembers the
error). -/
theorem stream_error_closes_after_body_repaired :
    (streamBodyP {} .eof { cl := -1 } [49, 13, 10, 97, 13, 10, 122, 122, 13, 10, 13, 10, 71, 69, 84] (Api.bodyAll.prog 15)).toOption.map
      (fun p => (p.1.got.err, decide (p.2 = .closed))) = some (true, true) := by decide +kernel

/-- detached or replaced streams are drained or the connection is closed.  The second conjunct holds by definition:
`streamBodyP` does not look at `Fin` (the modelling decision of `Model/Http1/StreamApi.lean`). -/
theorem detached_stream_is_drained_or_closed (cfg : Cfg) (e : End) (hd : ReqHead) (p : Prog) (m : ChunkedMsg)
    (ls : List Bytes) (rest : Bytes) (r : ReqOut) (a : After) (hcl : hd.cl = -1) (hm : m.Wf)
    (hls : ∀ l ∈ ls, TrFieldOk l) (htr : m.trailer = encTrailer ls) (fin : Fin)
    (h : streamBodyP cfg e hd (m.bytes ++ rest) { p with fin := fin } = .ok (r, a)) :
    After.InSync a rest ∧ streamBodyP cfg e hd (m.bytes ++ rest) { p with fin := .attached } = .ok (r, a) :=
  ⟨sync_after_any_consumption cfg e hd _ m ls rest r a hcl hm hls htr h, h⟩

/-- non-vacuity of `sync_after_form_parse` / `form_parse_reads_prefix`: the multipart reader takes 4 bytes (inside the
second chunk); drained to exactly `GET`. -/
example : (streamBodyP {} .eof { cl := -1 } ((msgOf (encTrailer [[88, 58, 49]])).bytes ++ [71, 69, 84])
    ((Api.formParse 4).prog 33)).toOption.map (fun p => (p.1.got.bytes, p.1.got.eof, p.1.got.err, p.2)) =
    some ([97, 98, 99, 100], false, false, .either [71, 69, 84]) := by decide +kernel

/-- non-vacuity of `body_all_reads_everything`: `Body()` on the example message with trailer `X:1`. -/
example : (streamBodyP {} .eof { cl := -1 } ((msgOf (encTrailer [[88, 58, 49]])).bytes ++ [71, 69, 84])
    (Api.bodyAll.prog ((msgOf (encTrailer [[88, 58, 49]])).bytes ++ [71, 69, 84]).length)).toOption.map
      (fun p => (p.1.got.bytes, p.1.got.eof, p.1.got.err, p.2)) =
    some ([97, 98, 99, 100, 101], true, false, .resync [71, 69, 84]) := by decide +kernel

/-- non-vacuity of `sync_after_any_consumption_fixed`: Content-Length 5, `Body()`, detached. -/
example : (streamBodyP {} .eof { cl := 5, method := [80] } [1, 2, 3, 4, 5, 71, 69, 84] (Api.bodyAll.prog 8)).toOption.map
    (fun p => (p.1.got.bytes, p.2)) = some ([1, 2, 3, 4, 5], .resync [71, 69, 84]) := by decide +kernel

/-- the whole connection: upload `/c` (chunked `abc`,`de`, trailer `X:1`) + pipelined `GET /probe`.  With
`MultipartForm`-style consumption (any amount, here 4 bytes) the probe is served; with `CloseBodyStream()` too (second
example; before d6f45a0 the body bytes were parsed as a request: 400, connection closed, probe lost). -/
example : ((serveStreamP {} .eof (fun _ _ => (Api.formParse 4).prog 0)
    [80, 79, 83, 84, 32, 47, 99, 32, 72, 84, 84, 80, 47, 49, 46, 49, 13, 10, 72, 111, 115, 116, 58, 32,
    104, 13, 10, 84, 114, 97, 110, 115, 102, 101, 114, 45, 69, 110, 99, 111, 100, 105, 110, 103, 58, 32,
    99, 104, 117, 110, 107, 101, 100, 13, 10, 13, 10, 51, 13, 10, 97, 98, 99, 13, 10, 48, 50, 32, 13,
    10, 100, 101, 13, 10, 48, 13, 10, 88, 58, 49, 13, 10, 13, 10, 71, 69, 84, 32, 47, 112, 114, 111, 98,
    101, 32, 72, 84, 84, 80, 47, 49, 46, 49, 13, 10, 72, 111, 115, 116, 58, 32, 112, 13, 10, 13, 10]).map
    (fun ev => match ev with
      | .continue100 => (0, []) | .req r _ => (1, r.head.uri) | .resp st _ => (st, []) | .maybeClosed => (3, []))) =
    [(1, [47, 99]), (200, []), (3, []), (1, [47, 112, 114, 111, 98, 101]), (200, [])] := by decide +kernel

example : ((serveStreamP {} .eof (fun hd _ => if hd.uri = [47, 99] then Api.closeStream.prog 0 else Api.none.prog 0)
    [80, 79, 83, 84, 32, 47, 99, 32, 72, 84, 84, 80, 47, 49, 46, 49, 13, 10, 72, 111, 115, 116, 58, 32,
    104, 13, 10, 84, 114, 97, 110, 115, 102, 101, 114, 45, 69, 110, 99, 111, 100, 105, 110, 103, 58, 32,
    99, 104, 117, 110, 107, 101, 100, 13, 10, 13, 10, 51, 13, 10, 97, 98, 99, 13, 10, 48, 50, 32, 13,
    10, 100, 101, 13, 10, 48, 13, 10, 88, 58, 49, 13, 10, 13, 10, 71, 69, 84, 32, 47, 112, 114, 111, 98,
    101, 32, 72, 84, 84, 80, 47, 49, 46, 49, 13, 10, 72, 111, 115, 116, 58, 32, 112, 13, 10, 13, 10]).map
    (fun ev => match ev with
      | .continue100 => (0, []) | .req r _ => (1, r.head.uri) | .resp st _ => (st, []) | .maybeClosed => (3, []))) =
    [(1, [47, 99]), (200, []), (3, []), (1, [47, 112, 114, 111, 98, 101]), (200, [])] := by decide +kernel

end Hertz.Props.C14
