import Hertz.Proofs.HeaderWrite
import Hertz.Proofs.HeaderApi
/-!
# C05 — header-setting APIs cannot be used to inject lines into a message

The state of a header object is over-approximated: **every** byte-valued field (names, values,
cookie names/values/attributes, content type, server, location, trailer names and values …) is an
arbitrary byte string, so no setter is trusted.  `ReqHdr.bytes`, `RespHdr.bytes`, `trailerBytes` are
the models of `RequestHeader.AppendBytes`, `ResponseHeader.AppendBytes`, `Trailer.AppendBytes`; the
check dumps the real objects' state after arbitrary setter scripts with hostile strings and compares
the real `Header()` bytes with the model's, and the emission skeleton of the three Go functions is
regenerated into `Gen/Emit.lean` on every run.

Proved for all states:
* `request_head_lines` / `response_head_lines` / `trailer_lines`: a strict reader (CRLF lines, no
  bare CR/LF, `name ": " value`) reads the serialised bytes back as exactly one start line and exactly
  the kept fields — nothing more — followed by whatever came after;
* `kept_fields_clean`: a kept name has no CR, LF or colon, a kept value no CR or LF (table facts
  over the regenerated `NewlineToSpaceTable` / `ValidHeaderFieldNameTable`);
* `never_more_fields`: at most as many fields as were set;
* `emit_only_through_header_line`: in the current Go source every write to `dst` after the start
  line is a call of `appendHeaderLine` or the final CRLF (so a new raw `append` breaks this proof); which calls, in which
  order and with which arguments, is held to `ReqHdr.fields` / `RespHdr.fields` by the byte comparison only.

The request line: method and request URI go through `appendRequestLinePart` (SP, CR, LF percent-encoded), so it is free of
CR/LF for EVERY state (`HW.startLine_clean`) and `request_head_lines` needs no hypothesis.  The response
status line (`consts.StatusLine`) stays a hypothesis `NoCRLF`.
-/
namespace Hertz.Props.C05
open Hertz Hertz.HW Hertz.Gen.Str Hertz.Spec.Head

def NoCRLF (b : Bytes) : Prop := ∀ x ∈ b, x ≠ 13 ∧ x ≠ 10

theorem request_head_lines (r : ReqHdr) (rest : Bytes) :
    parseHead (r.bytes ++ rest) = some (r.startLine, kept r.fields, rest) := by
  unfold ReqHdr.bytes
  have := parseHead_block r.startLine r.fields rest (startLine_clean r)
  simpa [List.append_assoc] using this

theorem response_head_lines (r : RespHdr) (rest : Bytes) (h : NoCRLF r.statusLine) :
    parseHead (r.bytes ++ rest) = some (r.statusLine, kept r.fields, rest) := by
  unfold RespHdr.bytes
  have := parseHead_block r.statusLine r.fields rest h
  simpa [List.append_assoc] using this

theorem trailer_lines (t : List (Bytes × Bytes)) (rest : Bytes) :
    fields ((kept t).length + 1) (trailerBytes t ++ rest) = some (kept t, rest) :=
  fields_block t rest _ (Nat.lt_succ_self _)

theorem kept_fields_clean (fs : List (Bytes × Bytes)) :
    ∀ kv ∈ kept fs, (∀ x ∈ kv.1, x ≠ 13 ∧ x ≠ 10 ∧ x ≠ 58) ∧ (∀ x ∈ kv.2, x ≠ 13 ∧ x ≠ 10) := by
  intro kv hkv
  simp only [kept, List.mem_map, List.mem_filter] at hkv
  obtain ⟨a, ⟨_, hv⟩, rfl⟩ := hkv
  exact ⟨validName_clean a.1 hv, newlineToSpace_clean a.2⟩

theorem never_more_fields (fs : List (Bytes × Bytes)) : (kept fs).length ≤ fs.length := kept_length_le fs

open Hertz.Gen.Emit in
/-- In the Go source `Gen/Emit.lean` is regenerated from, the only raw writes are the start line and the closing CRLF. -/
theorem emit_only_through_header_line :
    requestHeader.filter (fun i => match i with | .line _ _ => false | _ => true) =
      [.call "appendRequestLinePart", .raw "' '", .call "appendRequestLinePart", .raw "' '", .raw "bytestr.StrHTTP11",
       .raw "bytestr.StrCRLF", .raw "bytestr.StrCRLF"] ∧
    responseHeader.filter (fun i => match i with | .line _ _ => false | _ => true) =
      [.raw "consts.StatusLine(statusCode)", .raw "bytestr.StrCRLF"] ∧
    trailer.filter (fun i => match i with | .line _ _ => false | _ => true) = [.raw "bytestr.StrCRLF"] ∧
    Gen.Emit.headerLine = [.raw "key", .raw "bytestr.StrColonSpace", .raw "newlineToSpace(value)", .raw "bytestr.StrCRLF"] ∧
    -- /repo 910b0dd: method and request target go through `appendRequestLinePart`, which writes the clean prefix, `%XX`, or the byte
    Gen.Emit.requestLinePart = [.raw "part[:i]", .raw "'%', upperhex[c>>4], upperhex[c&15]", .raw "c"] := by
  decide +kernel

/-- non-vacuity: `SetCookie("a", "b\r\nX: 1")`-like state: one Cookie line, CR/LF neutralised. -/
example : kept [(strCookie, [97, 61, 98, 13, 10, 88, 58, 32, 49])] = [(strCookie, [97, 61, 98, 32, 32, 88, 58, 32, 49])] := by
  rw [kept_arith]
  decide +kernel

example : kept [([88, 13, 10, 89], [118])] = [] := by decide +kernel

/-!
## From API CALLS to the wire

`Model/HeaderApi.lean` models the public mutators (`Set`, `Add`, `SetCanonical`, `Del`, the special-name dispatch
`setSpecialHeader`, key normalisation on/off, `SetCookie`/`DelCookie`, `Trailer().Set/Add`, `SetContentLength`, `SetMethod`,
`SetRequestURI`, … and `RequestContext.Header/Redirect/SetCookie/SetContentType`, `Cookie.AppendBytes`) as functions on the
state; a program is a list of calls on the zero object.  The check replays every generated program on the real objects and
compares the state after EVERY call and the final bytes.

TODO-OPEN (kept as per-case checks in `Driver/C05Api.lean`): an `expectedFields` that
does not go through the state machine (a second, list-of-fields semantics of the calls).
-/
open Hertz.HA

instance (b : Bytes) : Decidable (NoCRLF b) := inferInstanceAs (Decidable (∀ x ∈ b, x ≠ 13 ∧ x ≠ 10))

/-- For EVERY program of request-header API calls with arbitrary byte arguments: the serialised head, read by the strict
line splitter, is exactly one start line plus one line per field of `expectedReqFields program`, then `rest` untouched.
(The start line itself: `request_line_single_*` below.) -/
theorem api_program_head_lines (p : List ReqCall) (rest : Bytes) :
    parseHead (reqWire p ++ rest) = some (reqStartLine p, expectedReqFields p, rest) :=
  request_head_lines _ rest

/-- the same for every program of response-header / `RequestContext` calls; `sl` = `consts.StatusLine`, `date` = the server date -/
theorem api_program_head_lines_resp (sl : Int → Bytes) (date : Bytes) (p : List RespCall) (rest : Bytes)
    (h : NoCRLF (sl (runResp p).status)) :
    parseHead (respWire sl date p ++ rest) = some (sl (runResp p).status, expectedRespFields sl date p, rest) :=
  response_head_lines _ rest h

/-- no CR, LF (or colon in a name) inside any of these lines -/
theorem api_program_lines_clean (p : List ReqCall) :
    ∀ kv ∈ expectedReqFields p, (∀ x ∈ kv.1, x ≠ 13 ∧ x ≠ 10 ∧ x ≠ 58) ∧ (∀ x ∈ kv.2, x ≠ 13 ∧ x ≠ 10) :=
  kept_fields_clean _

theorem api_program_lines_clean_resp (sl : Int → Bytes) (date : Bytes) (p : List RespCall) :
    ∀ kv ∈ expectedRespFields sl date p, (∀ x ∈ kv.1, x ≠ 13 ∧ x ≠ 10 ∧ x ≠ 58) ∧ (∀ x ∈ kv.2, x ≠ 13 ∧ x ≠ 10) :=
  kept_fields_clean _

/-- every field name on the wire is one of the fixed special names or a key some call of the program passed (as given, or
normalised by `NormalizeHeaderKey`) -/
theorem fields_only_from_calls (p : List ReqCall) :
    ∀ kv ∈ expectedReqFields p, kv.1 ∈ reqFixedNames ∨ ∃ c ∈ p, kv.1 ∈ reqCallKeys c :=
  kept_names (P := fun n => n ∈ reqFixedNames ∨ ∃ c ∈ p, n ∈ reqCallKeys c) (reqFields_names _) (fun _ hn => Or.inl hn)
    (runReqFrom_keys (fun _ hn => Or.inl hn) p {} (fun c hc _ hn => Or.inr ⟨c, hc, hn⟩) allKeys_nil)

theorem fields_only_from_calls_resp (sl : Int → Bytes) (date : Bytes) (p : List RespCall) :
    ∀ kv ∈ expectedRespFields sl date p, kv.1 ∈ respFixedNames ∨ ∃ c ∈ p, kv.1 ∈ respCallKeys c :=
  kept_names (P := fun n => n ∈ respFixedNames ∨ ∃ c ∈ p, n ∈ respCallKeys c) (respFields_names _) (fun _ hn => Or.inl hn)
    (runRespFrom_keys (fun _ hn => Or.inl hn) p {} (fun c hc _ hn => Or.inr ⟨c, hc, hn⟩) allKeys_nil)

/-- never more fields than calls: each call adds at most one entry (`h`, or a response cookie); besides these the serialisers
write at most seven lines (User-Agent, Host, Content-Type, Content-Length, Trailer, Cookie, Connection / Server, Date,
Content-Type, Content-Encoding, Content-Length, Trailer, Connection) -/
theorem never_more_fields_than_calls (p : List ReqCall) : (expectedReqFields p).length ≤ p.length + 7 := by
  have h1 := kept_length_le (runReq p).toHdr.fields
  have h2 := reqFields_length (runReq p).toHdr
  have h3 := runReqFrom_hlen p {}
  simp only [expectedReqFields]
  have : (runReq p).toHdr.h = (runReqFrom {} p).h := rfl
  rw [this] at h2
  have h0 : ({} : ReqSt).h.length = 0 := rfl
  omega

theorem never_more_fields_than_calls_resp (sl : Int → Bytes) (date : Bytes) (p : List RespCall) :
    (expectedRespFields sl date p).length ≤ p.length + 7 :=
  resp_fields_count sl date p

/-- the trailer block written after a chunked body, for the trailer object reached by any program (`Trailer().Set/Add`,
`Set("Trailer", …)`): reads back as exactly the kept trailer fields -/
theorem api_program_trailer_lines (p : List ReqCall) (rest : Bytes) :
    fields ((kept (runReq p).trailer).length + 1) (trailerBytes (runReq p).trailer ++ rest) = some (kept (runReq p).trailer, rest) :=
  trailer_lines _ rest

/-- method and request URI of the request line are the defaults or the argument of a `SetMethod` / `SetRequestURI` call of
the program: no other header API can touch the request line -/
theorem request_line_only_from_setters (p : List ReqCall) :
    reqStartLine p = requestLine (runReq p).method (runReq p).uri ∧
    ((runReq p).method = [] ∨ ReqCall.setMethod (runReq p).method ∈ p) ∧
    ((runReq p).uri = [] ∨ ReqCall.setRequestURI (runReq p).uri ∈ p) :=
  ⟨rfl, runReqFrom_line p p {} (fun _ h => h) (Or.inl rfl) (Or.inl rfl)⟩

/-- for every program - every method and request-URI bytes - the request line has exactly two SP and no CR/LF -/
theorem request_line_single (p : List ReqCall) :
    (reqStartLine p).count 32 = 2 ∧ NoCRLF (reqStartLine p) :=
  requestLine_single _ _

/-- regression (/repo 910b0dd) on `SetMethod("GET /x HTTP/1.1\r\nX:")`: one line,
`GET%20/x%20HTTP/1.1%0D%0AX: / HTTP/1.1` -/
theorem request_line_single_repaired :
    reqStartLine [.setMethod [71, 69, 84, 32, 47, 120, 32, 72, 84, 84, 80, 47, 49, 46, 49, 13, 10, 88, 58]] =
      [71, 69, 84, 37, 50, 48, 47, 120, 37, 50, 48, 72, 84, 84, 80, 47, 49, 46, 49, 37, 48, 68, 37, 48, 65, 88, 58,
       32, 47, 32, 72, 84, 84, 80, 47, 49, 46, 49] := by
  decide +kernel

/-- regression (/repo 910b0dd) on `SetRequestURI("/a\r\nX: 1")`: `GET /a%0D%0AX:%201 HTTP/1.1` -/
theorem request_line_single_repaired_uri :
    reqStartLine [.setRequestURI [47, 97, 13, 10, 88, 58, 32, 49]] =
      [71, 69, 84, 32, 47, 97, 37, 48, 68, 37, 48, 65, 88, 58, 37, 50, 48, 49, 32, 72, 84, 84, 80, 47, 49, 46, 49] := by
  decide +kernel

/-- a part of the request line is written unchanged iff it has no SP, CR, LF; otherwise the three bytes appear as
`%20`, `%0D`, `%0A` -/
theorem request_line_part_unchanged_iff (part : Bytes) : reqLinePart part = part ↔ Clean3 part := by
  constructor
  · intro h; rw [← h]; exact reqLinePart_clean part
  · intro h
    exact reqLinePart_id part (fun x hx => by
      have := h x hx
      simp [lineSpecial, this.1, this.2.1, this.2.2])

/-- `URI.RequestURI()` itself copies two parts verbatim: the quoted path and the serialised query arguments never contain
SP, CR, LF; `PathOriginal` under `DisablePathNormalizing` and the query string while `QueryArgs()` has not been used may -/
theorem request_target_partial (u : Target) (hp : u.disablePathNormalizing = true → Clean3 u.pathOriginal)
    (hq : u.parsedQueryArgs = false → Clean3 u.queryString) : Clean3 u.requestURI := by
  unfold Target.requestURI
  apply clean3_append
  · split
    · next h => exact clean3_orSlash (hp h)
    · exact quotePath_clean3 _
  · split
    · exact clean3_query (clean3_of_plain (appendArgs_plain _))
    · next h => exact clean3_query (hq (by simpa using h))

/-- … but the request line `req.Write` writes from it (method, `URI.RequestURI()`) is well formed for EVERY method and URI state -/
theorem request_line_written (m : Bytes) (u : Target) :
    (requestLine m u.requestURI).count 32 = 2 ∧ NoCRLF (requestLine m u.requestURI) :=
  requestLine_single _ _

/-- regression (/repo 910b0dd) on `URI.SetQueryString("a\r\nb")`: the line break is written `%0D%0A` -/
theorem request_target_repaired :
    requestLine [] (Target.requestURI { path := [47, 97], queryString := [97, 13, 10, 98] }) =
      [71, 69, 84, 32, 47, 97, 63, 97, 37, 48, 68, 37, 48, 65, 98, 32, 72, 84, 84, 80, 47, 49, 46, 49] := by
  decide +kernel

/-- `Cookie.AppendBytes` with arbitrary key, value, domain, path, expiry and flags: the `Set-Cookie` line is ONE line of the
strict splitter, its content the cookie bytes with CR/LF turned into SP -/
theorem cookie_line_clean (c : Uri.CookieE) (rest : Bytes) :
    crlfLine (headerLine (strSetCookie, Uri.appendCookieE c) ++ rest) =
      some (strSetCookie ++ strColonSpace ++ newlineToSpace (Uri.appendCookieE c), rest) ∧
    NoCRLF (strSetCookie ++ strColonSpace ++ newlineToSpace (Uri.appendCookieE c)) :=
  have hv : validName strSetCookie = true := by rw [validName_eq]; decide +kernel
  ⟨crlfLine_headerLine hv _ rest, line_clean hv _⟩

/-- non-vacuity: `Add("conNECTion", "x\r\ny")`, `Set("x-a", "1")`, `SetCookie("a", "b\r\nX: 1")`: three fields, the raw
`Add` key kept (the special-header path does not normalise), CR/LF neutralised -/
example : expectedReqFields [.add [99, 111, 110, 78, 69, 67, 84, 105, 111, 110] [120, 13, 10, 121], .set [120, 45, 97] [49],
                            .setCookie [97] [98, 13, 10, 88, 58, 32, 49]] =
    [([99, 111, 110, 78, 69, 67, 84, 105, 111, 110], [120, 32, 32, 121]), ([88, 45, 65], [49]),
     (strCookie, [97, 61, 98, 32, 32, 88, 58, 32, 49])] := by
  rw [expectedReqFields, kept_arith]
  decide +kernel

/-- non-vacuity: `Set("X\r\nY", "v")` is dropped, `Redirect(302, "/a\r\nX: 1")` gives one Location line -/
example : expectedRespFields (fun _ => [72]) [68] [.set [88, 13, 10, 89] [118], .setNoDefaultDate true, .ctxRedirect 302 [47, 97, 13, 10, 88, 58, 32, 49]] =
    [(strLocation, [47, 97, 32, 32, 88, 58, 32, 49])] := by
  rw [expectedRespFields, kept_arith]
  decide +kernel

example : (reqStartLine [.setMethod [80, 85, 84], .setRequestURI [47, 120]]).count 32 = 2 := by decide +kernel

/-- non-vacuity of the count bound: one call, two fields (the default Content-Type of a POST) -/
example : (expectedReqFields [.setMethod [80, 79, 83, 84], .set [88] [49]]).length = 2 := by
  rw [expectedReqFields, kept_arith]
  decide +kernel

/-- non-vacuity: `Trailer().Set("Content-Length", "1")` is refused, `Trailer().Add("x-t", "a\r\nb")` kept and neutralised -/
example : kept (runReq [.trailerSet strContentLength [49], .trailerAdd [120, 45, 116] [97, 13, 10, 98]]).trailer = [([88, 45, 84], [97, 32, 32, 98])] := by
  rw [kept_arith]
  decide +kernel

example : Clean3 (Target.requestURI { path := [47, 97, 32, 13], parsedQueryArgs := true,
                                      queryArgs := [{ key := [107, 13, 10], value := [32], noValue := false }] }) := by
  decide +kernel

end Hertz.Props.C05
