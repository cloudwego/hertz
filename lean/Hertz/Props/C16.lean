import Hertz.Proofs.Hz
import Hertz.Proofs.HzGen
import Hertz.Proofs.HzDenote
/-!
# C16 — hz-generated router code registers exactly the routes declared in the IDL

Model: `Hertz/Model/Hz.lean` (tree building `Update/FindNearest/Insert`, sorting, `DyeGroupName`, the
snake-style pass, denotation of the router.go / middleware.go templates, in-place update of
middleware.go).  Spec: `Hertz/Spec/Hz.lean` (meaning of a `Register` body).

What is proved for ALL inputs (no bound on the number of methods, path depth, names):

* `gen_registers_exactly`      the tree that is rendered carries exactly the declared (verb, path elements,
                               handler name) list, under every option combination, fresh or update;
* `tree_registers_exactly_any_sort`  … for every sorting function that permutes (so also for Go's pdqsort,
                               which `sort.Sort` uses above 12 children);
* `route_path_spells_declared` the node paths of a route, concatenated, are the declared path string;
* `generation_total`, `generation_fails_only_on_empty_path`   tree building (`Update` over the list): no panic, no
                               error but the empty path (`DyeGroupName` and the snake pass are not covered);
* `unique_name_is_free`        invariant of `getUniqueName`;
* `identifiers_distinct_partial`  camel-style names, fresh router directory: the functions of middleware.go
                               and the variables of `Register` are pairwise distinct, whatever names were
                               taken before in the process;
* `register_denotes_declared_routes`  THE DENOTATION THEOREM: for clean paths and identifier handler names,
                               executing the rendered `Register` statements succeeds and registers exactly the
                               declared (verb, full path, handler) list, each route behind one middleware per path
                               element — every option combination, both naming styles, fresh or update;
* `register_denotes_sorted`    … and with sort-router every group on a route's path wraps the route;
* `register_variables_distinct`  the variables of `Register` are distinct in both naming styles;
* `register_calls_declared_middleware`  fresh directory: every `…Mw()` that `Register` calls is declared;
* `identifiers_distinct_update`, `identifiers_distinct_two_step`  camel style: updating an existing
                               middleware.go declares nothing twice and keeps what was there;
* `model_matches_gen`          the templates, `RouterGroup.Any`, the probe bound and the root node, regenerated
                               from the source each run, are the ones the model gives the meaning of.

What is FALSE of the code as it stands (witness theorems, each replayed against the real generator by
`bin/check`, classes in known_findings.json):

* `identifiers_distinct_fails_at`           snake-style names: one handler on two routes → `_AMw` twice;
* `identifiers_distinct_update_fails_at`    snake-style names + existing middleware.go → every function again;
* `group_middleware_covers_fails_at`        without sort-router `[/a/b, /a, /a/c]` → two groups for `/a`;
* `empty_service_imports_unused`            no routes: `Register` is empty, the handler import is still there;
* `handler_alias_shadowed_at`               handler-by-method in directory `root`: alias = local variable.
-/
namespace Hertz.Props.C16
open Hertz Hertz.Hz Hertz.HzSpec

/-! ## the routes -/

/-- Every generation step that succeeds renders a tree whose handler nodes are exactly the declared
methods: same verb (as rendered), same path elements, same handler name — as multisets, so nothing is
dropped, duplicated or invented.  Holds for every option combination, every set of names taken before,
fresh generation or update of an existing middleware.go. -/
theorem gen_registers_exactly (cfg : Cfg) (ms : List Method) (used : List Bytes) (ex : Option (List Bytes))
    (o : Output) (h : generate cfg ms used ex = .ok o) :
    ((routes o.tree).map Hz.routeKey).Perm (ms.map declKey) :=
  generate_routes cfg ms used ex o h

example : (match generate {} [⟨[71,69,84], [47,97,47,98], [65], []⟩, ⟨[80,79,83,84], [47,97], [66], []⟩] [] none with
    | .ok o => (routes o.tree).length | .error _ => 0) = 2 := by decide +kernel

/-- The same for the tree building alone and ANY sorting function that returns a permutation of its
input: the route set does not depend on how `sort.Sort` orders the children. -/
theorem tree_registers_exactly_any_sort (srt : List Node → List Node) (hs : ∀ l, (srt l).Perm l)
    (cfg : Cfg) (ms : List Method) (root : Node) (st : PkgSt)
    (h : buildWith srt cfg newRouterTree {} ms = .ok (root, st)) :
    ((routes root).map Hz.routeKey).Perm (ms.map declKey) := by
  have := buildWith_routes hs h
  simpa [routes, newRouterTree, routesN, routesL] using this

example : ∀ l : List Node, (updSort true l).Perm l := updSort_perm true

/-- The path elements of a declared path with a leading slash, each with its slash, concatenate to the
declared path: the node paths handed to `Group(...)`/`VERB(...)` along a route spell the IDL path. -/
theorem route_path_spells_declared (t : Bytes) : ((segsOf (sl :: t)).map (sl :: ·)).flatten = sl :: t :=
  segs_spell_path t

example : segsOf [47, 97, 47, 98] = [[97], [98]] := by decide

/-- `Update` succeeds on every method list without an empty path (it never panics on `paths[0]`, never
reports "has been registered") … -/
theorem generation_total (cfg : Cfg) (ms : List Method) (h : ∀ m ∈ ms, m.path ≠ []) :
    ∃ r, build cfg ms = .ok r :=
  buildWith_ok _ cfg ms newRouterTree {} h

/-- … and the only error it can report is the empty path of some method. -/
theorem generation_fails_only_on_empty_path (cfg : Cfg) (ms : List Method) (e : Err)
    (h : build cfg ms = .error e) : e = .emptyPath ∧ ∃ m ∈ ms, m.path = [] :=
  buildWith_error h

example : build {} [⟨[71,69,84], [], [65], []⟩] = .error .emptyPath := by rfl

/-! ## identifiers -/

/-- `getUniqueName` returns a name that was not taken and records it. -/
theorem unique_name_is_free (name : Bytes) (used : List Bytes) (u : Bytes) (used' : List Bytes)
    (h : getUniqueName name used = .ok (u, used')) : u ∉ used ∧ used' = u :: used :=
  getUniqueName_spec h

example : getUniqueName [97] [[97], [97, 48]] = .ok ([97, 49], [[97, 49], [97], [97, 48]]) := by rfl

def funcsOf (r : Except Err Output) : List Bytes := match r with | .ok o => o.funcs | .error _ => []
def stmtsOf (r : Except Err Output) : List Stmt := match r with | .ok o => o.stmts | .error _ => []
def importsOf (r : Except Err Output) : List (Bytes × Bytes) := match r with | .ok o => o.imports | .error _ => []

def GET : Bytes := [71, 69, 84]
def POST : Bytes := [80, 79, 83, 84]
def snakeCfg : Cfg := { snake := true }

/-- The statement "no identifier is declared twice" is FALSE with snake-style middleware names:
`A` bound to GET /a and POST /a declares `_AMw` twice in middleware.go. -/
theorem identifiers_distinct_fails_at :
    ¬ (∀ (cfg : Cfg) (ms : List Method) (used : List Bytes) (o : Output),
        generate cfg ms used none = .ok o → o.funcs.Nodup) := by
  intro h
  have key : ¬ (funcsOf (generate snakeCfg [⟨GET, [47, 97], [65], []⟩, ⟨POST, [47, 97], [65], []⟩] [] none)).Nodup := by
    decide +kernel
  cases hg : generate snakeCfg [⟨GET, [47, 97], [65], []⟩, ⟨POST, [47, 97], [65], []⟩] [] none with
  | error e => simp [funcsOf, hg] at key
  | ok o => exact key (by simpa [funcsOf, hg] using h _ _ _ o hg)

/-- Camel-style names, fresh router directory (the excluding hypothesis is `cfg.snake = false` and
`existing = none`): the functions middleware.go declares and the variables `Register` declares are
pairwise distinct — for every method list, every option otherwise, every set of names taken before. -/
theorem identifiers_distinct_partial (cfg : Cfg) (hs : cfg.snake = false) (ms : List Method) (used : List Bytes)
    (o : Output) (h : generate cfg ms used none = .ok o) :
    o.funcs.Nodup ∧ (declaredVars o.stmts).Nodup :=
  generate_idents cfg hs ms used o h

example : funcsOf (generate {} [⟨GET, [47, 97], [65], []⟩, ⟨POST, [47, 97], [65], []⟩] [] none)
    = [[114,111,111,116,77,119], [95,97,77,119], [95,97,48,77,119]] := by decide +kernel

/-- Snake style + update: generating GET /a (A) and then, on top of the resulting middleware.go,
GET /a (A) + GET /b (B) appends every function again. -/
theorem identifiers_distinct_update_fails_at :
    ¬ (funcsOf (generate snakeCfg [⟨GET, [47, 97], [65], []⟩, ⟨GET, [47, 98], [66], []⟩] []
        (some (funcsOf (generate snakeCfg [⟨GET, [47, 97], [65], []⟩] [] none))))).Nodup := by
  decide +kernel

/-- … while in camel style the same update declares every function once (for all inputs:
`identifiers_distinct_update` below). -/
example : (funcsOf (generate {} [⟨GET, [47, 97], [65], []⟩, ⟨GET, [47, 98], [66], []⟩] []
        (some (funcsOf (generate {} [⟨GET, [47, 97], [65], []⟩] [] none))))).Nodup := by
  decide +kernel

/-! ## group middleware -/

def strongOf (r : Except Err Output) : Bool :=
  match r with
  | .ok o => (match interp o.stmts scope0 with
              | some (rs, gs) => chainsStrong rs gs
              | none => false)
  | .error _ => false

def weakExactOf (ms : List Method) (r : Except Err Output) : Bool :=
  match r with
  | .ok o => (match interp o.stmts scope0 with
              | some (rs, _) => chainsWeak rs && exactRoutes ms rs
              | none => false)
  | .error _ => false

def splitWitness : List Method :=
  [⟨GET, [47,97,47,98], [65], []⟩, ⟨GET, [47,97], [66], []⟩, ⟨GET, [47,97,47,99], [67], []⟩]

/-- "wrapped by the middleware of every group on its path" is FALSE without sort-router: for
`[GET /a/b, GET /a, GET /a/c]` the rendered `Register` declares two groups with path `/a`; `/a/c` is
wrapped by one of them and `/a/b` by the other. -/
theorem group_middleware_covers_fails_at : strongOf (generate {} splitWitness [] none) = false := by decide +kernel

/-- With sort-router the same list gets one group per prefix; and in both modes each route is
registered on its declared path behind one middleware per proper prefix. -/
theorem group_middleware_covers_sorted_witness :
    strongOf (generate { sortRouter := true } splitWitness [] none) = true
    ∧ weakExactOf splitWitness (generate { sortRouter := true } splitWitness [] none) = true
    ∧ weakExactOf splitWitness (generate {} splitWitness [] none) = true := by decide +kernel

/-! ## the denotation theorem -/

/-- **What the generated `Register` does.**  Every declared path clean (`cleanPath`: leading slash, no
empty inner element, no `.`/`..`, printable without space, `"` and `\`); every handler name without a dot (a Go
identifier).  Then, for every option combination (sort-router, snake or camel names, handler by method or
by service), every set of names taken before, fresh generation or update: executing the rendered
statements (`interp`, which fails on a variable that is not in scope and on unbalanced blocks) succeeds;
the (verb, full path, handler name) list it registers is a permutation of the declared one — full paths
computed as hertz's `RouterGroup` joins them; and every route is registered behind exactly one middleware
function per element of its path plus the root's. -/
theorem register_denotes_declared_routes (cfg : Cfg) (ms : List Method)
    (hclean : ∀ m ∈ ms, cleanPath m.path = true) (hnames : ∀ m ∈ ms, (46 : UInt8) ∉ m.name)
    (used : List Bytes) (ex : Option (List Bytes)) (o : Output) (h : generate cfg ms used ex = .ok o) :
    ∃ rs gs, interp o.stmts scope0 = some (rs, gs) ∧ exactRoutes ms rs = true ∧ chainsWeak rs = true := by
  obtain ⟨rs, gs, h1, h2, h3, _⟩ :=
    generate_denotes_strong cfg ms (fun m hm => ⟨hclean m hm, hnames m hm⟩) used ex o h
  exact ⟨rs, gs, h1, h2, h3⟩

/-- non-vacuity: a four-method list (one path with a trailing slash, one nested below a route) satisfies
the hypotheses and generates, in camel and in snake style -/
example : (∀ m ∈ splitWitness ++ [⟨POST, [47,97,47], [68], []⟩], cleanPath m.path = true ∧ (46 : UInt8) ∉ m.name)
    ∧ weakExactOf (splitWitness ++ [⟨POST, [47,97,47], [68], []⟩])
        (generate {} (splitWitness ++ [⟨POST, [47,97,47], [68], []⟩]) [] none) = true := by decide +kernel

example : weakExactOf splitWitness (generate snakeCfg splitWitness [] none) = true := by decide +kernel

/-- The hypothesis on handler names is needed for the statement as the spec words it (`routeKey` reads the
handler name as what follows the last dot of the rendered `alias.name`): a name with a dot is not a Go
identifier and `exactRoutes` is false for it. -/
theorem register_denotes_needs_identifier_names :
    weakExactOf [⟨GET, [47, 97], [65, 46, 66], []⟩] (generate {} [⟨GET, [47, 97], [65, 46, 66], []⟩] [] none) = false := by
  decide +kernel

/-- **Group middleware covers, with sort-router.**  Same hypotheses, `sort_router` on, every verb
non-empty: every group declared anywhere in `Register` whose full path is a proper prefix of a registered
route's path has its middleware function in the route's chain (there is one group per prefix — the
statement that is false without sort-router, `group_middleware_covers_fails_at`).  The three parts
together, about one interpretation of the rendered statements: -/
theorem register_denotes_sorted (cfg : Cfg) (hsr : cfg.sortRouter = true)
    (ms : List Method) (hclean : ∀ m ∈ ms, cleanPath m.path = true) (hnames : ∀ m ∈ ms, (46 : UInt8) ∉ m.name)
    (hverbs : ∀ m ∈ ms, m.verb ≠ [])
    (used : List Bytes) (ex : Option (List Bytes)) (o : Output) (h : generate cfg ms used ex = .ok o) :
    ∃ rs gs, interp o.stmts scope0 = some (rs, gs) ∧ exactRoutes ms rs = true ∧ chainsWeak rs = true
      ∧ chainsStrong rs gs = true := by
  obtain ⟨rs, gs, h1, h2, h3, h4⟩ :=
    generate_denotes_strong cfg ms (fun m hm => ⟨hclean m hm, hnames m hm⟩) used ex o h
  exact ⟨rs, gs, h1, h2, h3, h4 hsr hverbs⟩

/-- non-vacuity: the list that splits the `/a` group without sort-router satisfies the hypotheses -/
example : (∀ m ∈ splitWitness, cleanPath m.path = true ∧ (46 : UInt8) ∉ m.name ∧ m.verb ≠ [])
    ∧ strongOf (generate { sortRouter := true } splitWitness [] none) = true :=
  ⟨by decide +kernel, group_middleware_covers_sorted_witness.1⟩

/-- The variables `Register` declares are pairwise distinct in BOTH naming styles, fresh or update (the
duplicates of `identifiers_distinct_fails_at` are functions of middleware.go, never variables). -/
theorem register_variables_distinct (cfg : Cfg) (ms : List Method) (hclean : ∀ m ∈ ms, cleanPath m.path = true)
    (hnames : ∀ m ∈ ms, (46 : UInt8) ∉ m.name) (used : List Bytes) (ex : Option (List Bytes)) (o : Output)
    (h : generate cfg ms used ex = .ok o) : (declaredVars o.stmts).Nodup :=
  generate_vars_nodup cfg ms used ex o h

example : declaredVars (stmtsOf (generate snakeCfg splitWitness [] none)) = [[114,111,111,116], [95,97], [95,97,48]] := by
  decide +kernel

/-- Fresh router directory, both naming styles, every input: every middleware function the rendered
`Register` calls (`…Mw()` in a `Group(...)` or a route registration) is declared by the rendered
middleware.go.  (For the update flow this is TODO-OPEN B.) -/
theorem register_calls_declared_middleware (cfg : Cfg) (ms : List Method) (used : List Bytes) (o : Output)
    (h : generate cfg ms used none = .ok o) : ∀ f ∈ referencedMws o.stmts, f ∈ o.funcs := by
  rw [(generate_ok h).2.1, (generate_ok h).2.2]
  exact referenced_stmts o.tree

example : referencedMws (stmtsOf (generate {} [⟨GET, [47, 97], [65], []⟩] [] none))
    = [[114,111,111,116,77,119], [95,97,77,119]] := by decide +kernel

/-! ## update of an existing middleware.go -/

/-- Camel-style names, router directory whose middleware.go declares the pairwise distinct functions `fs`
(in particular: the functions of any earlier camel-style generation, `identifiers_distinct_partial`): after
the update no function and no variable is declared twice, and the existing functions are still there, in
order, at the front of the file.  (Snake style: `identifiers_distinct_update_fails_at`.) -/
theorem identifiers_distinct_update (cfg : Cfg) (hs : cfg.snake = false) (ms : List Method) (used : List Bytes)
    (fs : List Bytes) (hfs : fs.Nodup) (o : Output) (h : generate cfg ms used (some fs) = .ok o) :
    o.funcs.Nodup ∧ (declaredVars o.stmts).Nodup ∧ fs <+: o.funcs :=
  generate_idents_update cfg hs ms used fs hfs o h

/-- the update flow the correspondence run exercises: generate a prefix of the method list in a fresh
directory, then the whole list on top of the resulting middleware.go -/
theorem identifiers_distinct_two_step (cfg : Cfg) (hs : cfg.snake = false) (ms0 ms : List Method)
    (used0 used : List Bytes) (o0 o : Output) (h0 : generate cfg ms0 used0 none = .ok o0)
    (h : generate cfg ms used (some o0.funcs) = .ok o) :
    o.funcs.Nodup ∧ (declaredVars o.stmts).Nodup ∧ o0.funcs <+: o.funcs :=
  generate_idents_update cfg hs ms used o0.funcs (generate_idents cfg hs ms0 used0 o0 h0).1 o h

example : funcsOf (generate {} [⟨GET, [47, 97], [65], []⟩, ⟨GET, [47, 98], [66], []⟩] []
        (some (funcsOf (generate {} [⟨GET, [47, 97], [65], []⟩] [] none))))
    = [[114,111,111,116,77,119], [95,97,77,119], [95,98,77,119]] := by decide +kernel

/-! ## two further defects of the rendered files -/

/-- A service without routes: `Register` is empty, the import of the handler package stays. -/
theorem empty_service_imports_unused :
    stmtsOf (generate { svcPkg := [120] } [] [] none) = [] ∧
    importsOf (generate { svcPkg := [120] } [] [] none) = [([112], [120])] := by decide +kernel

/-- Handler-by-method into a directory called `root`: the import alias equals the local variable `root`. -/
theorem handler_alias_shadowed_at :
    (importsOf (generate { byMethod := true, handlerBase := [104] } [⟨GET, [47, 97], [65], [114,111,111,116]⟩] [] none)).map (·.1)
      = [[114,111,111,116]]
    ∧ declaredVars (stmtsOf (generate { byMethod := true, handlerBase := [104] } [⟨GET, [47, 97], [65], [114,111,111,116]⟩] [] none))
      = [[114,111,111,116]] := by decide +kernel

/-! ## tie to the source -/

/-- The template texts, the method list of `RouterGroup.Any`, the probe bound of `getUniqueName` and the string
fields of the node `NewRouterTree` returns, regenerated from the Go source on every run, equal the texts and values
recorded in Proofs/HzGen.lean, of which `stmts` / `mwFuncs` / `updateMwFile`, `anyVerbsSorted` and `probeLimit` are the
model; that `newRouterTree` spells these fields (`root_matches_gen`) is read off, not derived. -/
theorem model_matches_gen :
    Gen.HzTpl.routerTpl = expectedRouterTpl ∧ Gen.HzTpl.middlewareTpl = expectedMiddlewareTpl ∧
    Gen.HzTpl.middlewareSingleTpl = expectedMiddlewareSingleTpl ∧ Gen.HzTpl.registerTpl = expectedRegisterTpl ∧
    Gen.HzTpl.anyMethods.isPerm anyVerbsSorted = true ∧ probeLimit = Gen.HzTpl.uniqueProbeLimit ∧
    Gen.HzTpl.rootFields = ["GroupName=root", "MiddleWare=root", "GroupMiddleware=root", "Path=/"] :=
  ⟨routerTpl_matches_gen, middlewareTpl_matches_gen, middlewareSingleTpl_matches_gen, registerTpl_matches_gen,
   anyMethods_matches_gen, probeLimit_matches_gen, root_matches_gen.1⟩

example : Gen.HzTpl.anyMethods.length = 9 := by decide

/-
TODO-OPEN (stated, not proved; evaluated per case by Driver/C16.lean):

A. `register_denotes_sorted` without `m.verb ≠ []`.  A method with an empty verb yields a leaf without
   HTTP method, which sort-router's `FindNearest` treats as a group node; the invariant then needs the
   stability of `sort.Sort`'s insertion sort.  Not refuted: no counterexample among all lists of ≤ 4
   methods over 5 paths × {"", GET}.  (hz never produces an empty verb: it comes from the annotation name.)
B. update flow: every middleware function the new router.go refers to is declared in the updated
   middleware.go (`∀ f ∈ mwFuncs o.tree, f ∈ o.funcs` for `ex = some fs`, `fs` from an earlier camel-style
   generation).  Needs `mwDeclared` (a prefix test) ⇔ membership for names `x ++ "Mw"` with `x` over
   `[_a-z0-9]`.  Only "nothing is declared twice" is proved for the update flow.
C. the statements about paths outside `cleanPath` (empty inner elements, `.`/`..`): the driver only judges
   the (verb, handler) set there.
-/

end Hertz.Props.C16
