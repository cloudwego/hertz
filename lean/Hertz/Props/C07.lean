import Hertz.Proofs.PathSpec
import Hertz.Proofs.PathRef
import Hertz.Proofs.CleanPath
import Hertz.Proofs.FsPath
/-!
# C07 — normalised request paths cannot climb out of the root

`normalizePath` is the model of `pkg/protocol/uri.go:normalizePath` (decode once, then the four
cutting passes, with leftmost-match semantics of `bytes.Index`); the correspondence check compares
it with the Go function on every string of ≤ 7 (thorough: ≤ 9) tokens over
`/ . a %2e %2f % \` and on random longer inputs.

Proved here for **every** byte string `src` (no length bound, no well-formedness hypothesis):
* `normalize_eq_reference`: `normalizePath src = Spec.normalize src` — the four cutting passes compute
  exactly "percent-decode once, make absolute, resolve the segments left to right with a stack"
  (`Hertz.Proofs.PathRef`, namespace `Hertz.PathSeg`: each loop is described on the list of slash-free segments, the stack
  machine gives the same answer before and after each loop, and the last step lands on its answer);
* `reference_normalize_contained`: the stack machine only returns contained paths (`Hertz.Proofs.PathSpec`), so
* the result of `normalizePath` begins with `/`, has no `..` segment, and no empty or `.` segment except possibly the
  last — as the segment predicate of the property (`normalize_contained`) and, which is the same condition read on the
  bytes (`PathSeg.good_iff_contained`), in byte form (`normalize_bytes`).  The third loop's termination is part of the
  result (`dds_loop_terminates`: `length` iterations always suffice);
* `cleanPath_contained`: `Spec.contained (cleanPath p)` for the model of `utils.CleanPath`, for every
  `p` (absolute or not, empty included) — exactly the predicate the driver evaluates on the
  implementation's output of the `cleanpath` op (`Hertz.Proofs.CleanPath`: between two segments the
  output buffer is `/` or `/s1/…/sn` with every `si` non-empty, slash-free, not `.`, not `..`).

File-system side (`Hertz.Model.FsPath`, model of the path pipeline of `pkg/app/fs.go`; lemmas in
`Hertz.Proofs.FsPath`).  For **every** Host header, request target and strip count, and every directory tree:
* `stock_rewriters_total`, `rewritten_path_contained`: `NewPathSlashesStripper(n)` and `NewVHostPathRewriter(n)` never
  hit their `panic`, the path they hand to the file handler is empty (stripper only) or contained, and `ctx.Path()`
  is still contained after the vhost rewriter has rewritten the request URI;
* `open_path_contained`: what `fsHandler.handleRequest` appends to `FS.Root` (after `stripTrailingSlashes`, the NUL
  test and the `/../` guard) is empty or contained;
* `resolution_stays_below`, `serve_inside_root`: the model of the kernel's path resolution never leaves the directory
  it starts in when no component is `..`; hence with a stock rewriter (or none) every file or generated listing
  that is served lies inside `FS.Root`, whatever the tree, for plain index names;
* `custom_rewrite_inside`: the same for an ARBITRARY application-supplied `PathRewrite`: whatever bytes it returns,
  the handler answers 400/500 or serves from inside the root (the `/../` guard, the trailing-`/..` test and the
  leading-slash test of `handleRequest` together exclude every `..` component; regression for /repo bd67071).

TODO-OPEN: the Windows branch of `normalizePath` (`filepath.Separator == '\'`) and `DisablePathNormalizing` are not
modelled; no functional reference is stated for `CleanPath` (only containment).  The theorems are about the Lean
models; that `normalizePath`/`cleanPath` are the Go functions is the correspondence check's job (the spec step
evaluates `contained` and the equality with `Spec.normalize` on the implementation's output of every case).
-/
namespace Hertz.Props.C07
open Hertz

/-- byte-level form: leading slash; no `//`, `/./`, `/../` inside; no trailing `/..`. -/
theorem normalize_bytes (src : Bytes) :
    (normalizePath src).head? = some 47 ∧ ¬ SS <:+: normalizePath src ∧ ¬ SDS <:+: normalizePath src ∧
      ¬ DDS <:+: normalizePath src ∧ ¬ SDD <:+ normalizePath src :=
  normalizePath_contained src

/-- The property's containment predicate holds of the normalised path of every request target. -/
theorem normalize_contained (src : Bytes) : Spec.contained (normalizePath src) = true := by
  rw [PathSeg.normalizePath_eq_reference]; exact PathSeg.spec_normalize_contained src

/-- The `/../` loop needs at most `length` iterations (its termination proof). -/
theorem dds_loop_terminates (b : Bytes) : ¬ DDS <:+: loopDDS b.length b :=
  loopDDS_fuel _ _ (Nat.le_refl _)

/-- The stack-machine reference only ever produces contained segment lists. -/
theorem reference_contained (segs : List Bytes) (h : segs ≠ []) :
    Spec.segsContained (Spec.resolve [] segs) = true :=
  PathSeg.resolve_good [] segs h (by simp)

/-- `normalizePath` is the reference "decode once, then resolve with a stack", on every input. -/
theorem normalize_eq_reference (src : Bytes) : normalizePath src = Spec.normalize src :=
  PathSeg.normalizePath_eq_reference src

/-- the reference itself only yields contained paths, for every request target -/
theorem reference_normalize_contained (src : Bytes) : Spec.contained (Spec.normalize src) = true :=
  PathSeg.spec_normalize_contained src

/-- sanity for `normalize_eq_reference` (no hypothesis to satisfy): on `a/%2e%2e/../%2fb/./c/..`
both sides are `/b/` (the input is relative, climbs above the root twice and hides a slash in `%2f`). -/
example : normalizePath [97, 47, 37, 50, 101, 37, 50, 101, 47, 46, 46, 47, 37, 50, 102, 98, 47, 46, 47, 99, 47, 46, 46]
      = [47, 98, 47] ∧
    Spec.normalize [97, 47, 37, 50, 101, 37, 50, 101, 47, 46, 46, 47, 37, 50, 102, 98, 47, 46, 47, 99, 47, 46, 46]
      = [47, 98, 47] := by decide +kernel

/-- `utils.CleanPath` (model) cannot climb out of the root: for every input the result starts with
`/`, has no `..` segment and no empty or `.` segment except possibly the last. This is the predicate
the driver applies to the output of the `cleanpath` op, with no condition on the input. -/
theorem cleanPath_contained (p : Bytes) : Spec.contained (cleanPath p) = true := by
  have h47 : PathSeg.GoodOut [47] := Or.inl rfl
  unfold cleanPath
  match p with
  | [] => decide
  | c :: t =>
    simp only
    split
    · exact PathSeg.cleanFinish_contained _ (PathSeg.cleanLoop_good false t [47] _ h47)
    · exact PathSeg.cleanFinish_contained _ (PathSeg.cleanLoop_good false (c :: t) [47] _ h47)

/-- sanity for `cleanPath_contained` (no hypothesis to satisfy): `a/../../b/./c//..//d/.` (relative,
climbing above the root) is cleaned to `/b/d/`, and `../..` to `/`. -/
example : cleanPath [97, 47, 46, 46, 47, 46, 46, 47, 98, 47, 46, 47, 99, 47, 47, 46, 46, 47, 47, 100, 47, 46]
      = [47, 98, 47, 100, 47] ∧ cleanPath [46, 46, 47, 46, 46] = [47] := by decide +kernel

/-- non-vacuity / sanity: `/a/%2e%2e/%2E%2e/x/./y//..` normalises to `/x/`. -/
example : normalizePath [47, 97, 47, 37, 50, 101, 37, 50, 101, 47, 37, 50, 69, 37, 50, 101, 47, 120, 47, 46, 47, 121, 47, 47, 46, 46]
    = [47, 120, 47] := by decide +kernel

example : Spec.contained [47, 120, 47] = true ∧ Spec.contained [47, 46, 46, 47, 120] = false := by decide +kernel

/-! ### file-system side: path rewriters and the file handler -/

open Hertz.FsPath Hertz.Uri

/-- Marks of the source text the model mirrors (facts regenerated from the working tree on every run): the stripper's one
statement, the vhost rewriter's call of `SetPathBytes` and its `return ctx.Path()`, the length of the head of
`fsHandler.handleRequest` and its test for a trailing `/..` or a missing leading slash.  The whole text of these functions and
of the two slash strippers is compared in `FsPath.model_matches_gen` (`Hertz/Proofs/FsPath.lean`). -/
theorem model_matches_gen_C07 :
    FsPath.strInvalidHost = Gen.FsPath.strInvalidHost ∧
    Gen.FsPath.slashesStripper = ["return stripLeadingSlashes(ctx.Path(), slashesCount)"] ∧
    Gen.FsPath.vhostRewriter.getLast? = some "return ctx.Path()" ∧
    "ctx.URI().SetPathBytes(b.B)" ∈ Gen.FsPath.vhostRewriter ∧
    Gen.FsPath.handleRequestHead.length = 16 ∧
    "if bytes.HasSuffix(path, bytestr.StrSlashDotDotSlash[:3]) || (len(path) > 0 && path[0] != '/')" ∈ Gen.FsPath.handleRequestHead :=
  ⟨model_matches_gen.1, model_matches_gen.2.2.1, rfl, List.mem_of_getElem? (i := 10) rfl, rfl,
   List.mem_of_getElem? (i := 13) rfl⟩

/-- a tree for the sanity examples: base `{i, x/ {i}, r/ {i, f, x/ {f}}}`;
names are single bytes: `r` = 114 is the root, `i` = 105 the index file, `x` = 120, `f` = 102 -/
def tinyTree : Tree :=
  { dirs := [[[114]], [[120]], [[114], [120]]],
    files := [[[105]], [[120], [105]], [[114], [105]], [[114], [102]], [[114], [120], [102]]] }

def tinyCfg : FsCfg := { root := [114], indexNames := [[105]], genIndex := true }

/-- The two rewriters that ship with hertz never reach `panic("BUG: path must start with slash")`. -/
theorem stock_rewriters_total (rw : Rewriter) (hs : Stock rw) (host target : Bytes) :
    ∃ r, rewrite rw (Uri.parse host target) = some r :=
  rewrite_total hs (parse_good host target)

/-- The path a stock rewriter hands to the file handler is empty or contained, and `ctx.Path()` afterwards (the vhost
rewriter rewrites the request URI) is contained: for every Host header, request target and strip count. -/
theorem rewritten_path_contained (rw : Rewriter) (hs : Stock rw) (host target p : Bytes) (u' : URI)
    (h : rewrite rw (Uri.parse host target) = some (p, u')) :
    Spec.servable p = true ∧ Spec.contained u'.pathOrSlash = true :=
  let g := rewrite_good hs (parse_good host target) h
  ⟨servable_of g.1, good_contained g.2⟩

/-- sanity: `Host: ..` with `GET /x/f` through `NewVHostPathRewriter(0)` is rewritten to `/x/f` (the host climbs to
the root and no further), and `NewPathSlashesStripper(1)` on `/x/f` gives `/f`. -/
example : (rewrite (.vhost 0) (Uri.parse [46, 46] [47, 120, 47, 102])).map (·.1) = some [47, 120, 47, 102] ∧
    (rewrite (.stripper 1) (Uri.parse [97] [47, 120, 47, 102])).map (·.1) = some [47, 102] := by decide +kernel

/-- What `handleRequest` appends to `FS.Root` is empty or contained (stock rewriters, every request). -/
theorem open_path_contained (rw : Rewriter) (hs : Stock rw) (host target p : Bytes) (u' : URI)
    (h : decision rw (Uri.parse host target) = some (.openPath p, u')) : Spec.servable p = true :=
  servable_of (decision_good hs (parse_good host target) h)

/-- sanity: `GET /x/` with `Host: r` and one stripped segment opens `root + "/r"`. -/
example : (decision (.vhost 1) (Uri.parse [114] [47, 120, 47])).map (·.1) = some (.openPath [47, 114]) := by
  decide +kernel

/-- The model of the kernel's path resolution, started in a directory whose path begins with `R`, ends below `R`
(or fails) when no component is `..` — for every tree. -/
theorem resolution_stays_below (t : Tree) (R : Bytes) (segs cur : List Bytes) (hc : cur.head? = some R)
    (hs : ∀ s ∈ segs, s ≠ [46, 46]) : Found.inside R (walk t cur segs) :=
  walk_inside t R segs cur hc hs

/-- sanity: in `tinyTree`, `r/x/./f` resolves to the file `r/x/f`, while `r/..` (a `..` component) resolves to the
base directory, outside `r`: the hypothesis of `resolution_stays_below` is needed. -/
example : walk tinyTree [[114]] [[120], [46], [102]] = .file [[114], [120], [102]] ∧
    walk tinyTree [[114]] [[46, 46]] = .dir [] := by decide +kernel

/-- **Nothing outside `FS.Root` is served**: with no rewriter, `NewPathSlashesStripper(n)` or
`NewVHostPathRewriter(n)`, for every Host header, request target, strip count, directory tree and configuration whose
root is a plain name below the base and whose index names have no `..` component, the file or generated listing that
`fsHandler.handleRequest` serves lies inside the root. -/
theorem serve_inside_root (t : Tree) (cfg : FsCfg) (hR : PlainName cfg.root)
    (hn : ∀ n ∈ cfg.indexNames, ∀ s ∈ Spec.splitSlash n, s ≠ Spec.dotdot)
    (rw : Rewriter) (hs : Stock rw) (host target : Bytes) (s : Served) (u' : URI)
    (h : serve t cfg rw (Uri.parse host target) = some (s, u')) : Served.inside cfg.root s :=
  serve_inside t cfg hR hn (fun _ => parse_good host target) h

/-- sanity for `serve_inside_root`: `GET /` with `Host: ..` through the vhost rewriter serves the root's own index
file `r/i` (not `i` of the directory above), and `GET /x/` with `Host: .` lists `r/x`. -/
example : (serve tinyTree tinyCfg (.vhost 0) (Uri.parse [46, 46] [47])).map (·.1) = some (.file [[114], [105]]) ∧
    (serve tinyTree tinyCfg (.vhost 0) (Uri.parse [46] [47, 120, 47])).map (·.1) = some (.listing [[114], [120]]) ∧
    PlainName tinyCfg.root ∧ (∀ n ∈ tinyCfg.indexNames, ∀ s ∈ Spec.splitSlash n, s ≠ Spec.dotdot) := by
  refine ⟨by decide +kernel, by decide +kernel, by unfold PlainName tinyCfg; decide, by decide⟩

/-- **Whatever an application-supplied `PathRewrite` returns**, the handler serves only from inside `FS.Root` or
answers 400/500: for every byte string `raw`, every tree, every configuration with a plain root name and index names
without a `..` component.  The guard runs after `stripTrailingSlashes`, so it also tests for a trailing `/..`, and for a
leading slash, since the result is glued to the root's name (regression for /repo bd67071). -/
theorem custom_rewrite_inside (t : Tree) (cfg : FsCfg) (hR : PlainName cfg.root)
    (hn : ∀ n ∈ cfg.indexNames, ∀ s ∈ Spec.splitSlash n, s ≠ Spec.dotdot)
    (raw : Bytes) (u u' : URI) (s : Served)
    (h : serve t cfg (.custom raw) u = some (s, u')) : Served.inside cfg.root s :=
  serve_inside t cfg hR hn (fun e => by cases e) h

/-- regression examples for `custom_rewrite_inside` (the witnesses of the former known findings
`fs-rewrite-trailing-dotdot` and `fs-rewrite-no-leading-slash`): a rewriter returning `/..`, `/../`, `//..` or `x` is
answered 500; one returning `/x//` still gets the listing of `r/x`, the empty result the root's index file. -/
example : (serve tinyTree tinyCfg (.custom [47, 46, 46]) {}).map (·.1) = some (.status 500) ∧
    (serve tinyTree tinyCfg (.custom [47, 46, 46, 47]) {}).map (·.1) = some (.status 500) ∧
    (serve tinyTree tinyCfg (.custom [47, 47, 46, 46]) {}).map (·.1) = some (.status 500) ∧
    (serve tinyTree tinyCfg (.custom [120]) {}).map (·.1) = some (.status 500) ∧
    (serve tinyTree tinyCfg (.custom [47, 120, 47, 47]) {}).map (·.1) = some (.listing [[114], [120]]) ∧
    (serve tinyTree tinyCfg (.custom []) {}).map (·.1) = some (.file [[114], [105]]) := by
  decide +kernel

end Hertz.Props.C07
