import Hertz.Proofs.RouteFind
import Hertz.Proofs.RouteInsert
import Hertz.Proofs.RouteEngine
import Hertz.Proofs.RouteIterTop
import Hertz.Proofs.GroupPath
import Hertz.Gen.RouteConsts
/-!
# C06 — the router dispatches to the route the documented priority selects

Model: `Hertz/Model/Route.lean` (`insert`, `routerAddRoute`, `Engine.addRoute`; `find`/`visit` and
`Engine.serve`, the search of `pkg/route/tree.go` in recursive form), `Hertz/Model/RouteIter.lean` (the
loop of `find` as written, and `ServeHTTP` around it) and `Hertz/Model/GroupPath.lean` (`RouterGroup`
paths).  The correspondence check predicts the output of `tree.go` / `engine.go` with the iterative model
and recomputes the recursive one beside it; `find_iter_eq_rec` proves the two equal.
Specification: `Hertz/Spec/Route.lean` (`Selected`: the matching pattern that is better than every
other matching pattern at the first token where they differ, literal > parameter > catch-all;
`NoMatch`).  The specification mentions neither a tree nor a registration order.
-/
namespace Hertz.Props.C06
open Hertz Hertz.Route Hertz.Spec.Route

/-- The constants the model uses are the ones in the Go source (regenerated on every run). -/
theorem model_matches_gen :
    Route.paramLabel = Gen.Route.paramLabel ∧ Route.anyLabel = Gen.Route.anyLabel ∧
    [Route.slash] = Gen.Route.slash ∧ Gen.Route.kinds = ["skind", "pkind", "akind"] ∧
    Gen.Route.checkPathValidCases = [Route.paramLabel, Route.anyLabel] := by decide +kernel

/-- **Search, tree level.**  On every well-formed tree with consistent parameter bookkeeping,
`router.find` returns the handlers of the route whose key is preferred to every other matching key
(static > param > catch-all at the first difference, among the keys that match completely) with the
values that key binds, or misses exactly when no key matches.  In particular it neither panics
(params capacity / index) nor stops without backtracking. -/
theorem find_best (root : Node) (cap : Nat) (hwf : WF root .skind) (hp : PnOK root 0 cap) (path : Bytes) :
    (∃ k v vals, Best (routes root) path k v vals ∧
        find root path cap = .hit ⟨v.h, v.ppath, zipKeys v.pnames vals⟩) ∨
    (NoneMatch (routes root) path ∧ find root path cap = .miss) :=
  find_spec root cap hwf hp path

/-- **Dispatch = specification.**  If the tree of a method holds exactly the registered routes of
that method, the route handler that runs, the reported full path and `ctx.Params` are those of the
route `Spec.Route.Selected` picks (parameters = the substrings its pattern matched); when no
pattern matches, no route handler runs. -/
theorem find_selected (root : Node) (cap : Nat) (rs : List Route) (method path : Bytes)
    (hwf : WF root .skind) (hp : PnOK root 0 cap) (hd : Denotes root rs method) :
    (∃ r ps, Selected rs method path r ps ∧ find root path cap = .hit ⟨r.handler, r.pattern, ps⟩) ∨
    (NoMatch rs method path ∧ find root path cap = .miss) :=
  Route.find_selected root cap rs method path hwf hp hd

/-- An empty method tree serves nothing. -/
theorem find_empty (path : Bytes) (cap : Nat) : find Node.empty path cap = .miss := by
  cases path <;> simp [find, Node.empty, visit, visitChild, visitParam, visitAny, Res.orElse]

/-- **Parameters are the matched substrings**: substituting the bound values back into the pattern
gives the request path. -/
theorem params_are_substrings (pattern path : Bytes) (ps : List (Bytes × Bytes))
    (h : matchToks (parsePattern pattern) path = some ps) :
    instantiate (parsePattern pattern) ps = path ∧ ps.map Prod.fst = names (parsePattern pattern) :=
  ⟨(matchToks_some _ _ _ h).2.2, (matchToks_some _ _ _ h).1⟩

/-- **The selection is unique** (up to routes with the same key, which registration refuses). -/
theorem selected_unique (rs : List Route) (m p : Bytes) (r r' : Route) (ps ps' : List (Bytes × Bytes))
    (h : Selected rs m p r ps) (h' : Selected rs m p r' ps') : keyOf r = keyOf r' :=
  Route.selected_unique rs m p r r' ps ps' h h'

/-- **The specified outcome does not depend on the order of registration**: `Selected` and
`NoMatch` are functions of the *set* of routes, and they exclude each other. -/
theorem spec_order_independent (rs rs' : List Route) (hp : ∀ x, x ∈ rs ↔ x ∈ rs') (m p : Bytes) :
    (∀ r ps, Selected rs m p r ps ↔ Selected rs' m p r ps) ∧ (NoMatch rs m p ↔ NoMatch rs' m p) ∧
    (∀ r ps, Selected rs m p r ps → ¬ NoMatch rs m p) :=
  ⟨fun r ps => selected_perm rs rs' hp m p r ps, noMatch_perm rs rs' hp m p,
   fun r ps => selected_noMatch_excl rs m p r ps⟩

/-- **Order independence of the search.**  Two well-formed trees that hold the same set of routes
(built in whatever order) answer every lookup alike, provided keys are not registered twice. -/
theorem find_order_independent (t t' : Node) (cap cap' : Nat) (rs rs' : List Route) (m p : Bytes)
    (hwf : WF t .skind) (hp : PnOK t 0 cap) (hd : Denotes t rs m)
    (hwf' : WF t' .skind) (hp' : PnOK t' 0 cap') (hd' : Denotes t' rs' m)
    (hperm : ∀ x, x ∈ rs ↔ x ∈ rs')
    (hdistinct : ∀ r ∈ rs, ∀ r' ∈ rs, r.method = m → r'.method = m → keyOf r = keyOf r' → r = r') :
    find t p cap = find t' p cap' :=
  selected_agree (fun r ps => Res.hit ⟨r.handler, r.pattern, ps⟩) hperm hdistinct
    (Route.find_selected t cap rs m p hwf hp hd) (Route.find_selected t' cap' rs' m p hwf' hp' hd')

/-- **Registration, one `insert`.**  On a well-formed tree, under the precondition with which
`router.addRoute` calls it (`Ready`: the key continues an existing node boundary with literal text,
or appends one wildcard marker to a boundary; static keys start with the root's first byte; a
catch-all node is always created with handlers), `router.insert` either reports a conflict —
exactly when a handler is to be stored at a key that already has one — or returns a well-formed
tree that denotes the old routes plus, if a handler is stored, the new one (edge splitting and re-parenting lose nothing),
keeps every node boundary and makes the key a boundary.  It never raises a run-time panic. -/
theorem insert_preserves (n : Node) (search : Bytes) (h : Option Nat) (t : Kind) (pp : Bytes) (pn : List Bytes)
    (hwf : WF n .skind) (hr : Ready n search t)
    (hhd : t = .skind → search.head? = n.pfx.head?) (hak : t = .akind → h.isSome = true) :
    (h.isSome = true ∧ search ∈ keys (routes n) ∧ Route.insert n search h t pp pn = .error .conflict) ∨
    (¬ (h.isSome = true ∧ search ∈ keys (routes n)) ∧ ∃ n', Route.insert n search h t pp pn = .ok n' ∧ WF n' .skind ∧
      (∀ kv, kv ∈ routes n' ↔ (kv ∈ routes n ∨ ∃ x, h = some x ∧ kv = (search, Val.mk x pp pn))) ∧
      (∀ b, b ∈ bounds n → b ∈ bounds n') ∧ search ∈ bounds n') :=
  (insert_spec n search h t pp pn hwf hr hhd hak).imp (fun hc => ⟨hc.1.1, hc.1.2, hc.2⟩)
    fun ⟨hnc, n', hr, hwn, _, hu, _⟩ => ⟨hnc, n', hr, hwn, hu⟩

/-- The parameter-name bookkeeping that makes `find` panic-free is preserved by `insert`. -/
theorem insert_preserves_pnok (n : Node) (search : Bytes) (h : Option Nat) (t : Kind) (pp : Bytes) (pn : List Bytes)
    (cap : Nat) (n' : Node) (hwf : WF n .skind) (hr : Ready n search t)
    (hhd : t = .skind → search.head? = n.pfx.head?) (hak : t = .akind → h.isSome = true)
    (hp : PnOK n 0 cap) (hlen : h.isSome = true → pn.length = wild search) (hcap : wild search ≤ cap)
    (hins : Route.insert n search h t pp pn = .ok n') : PnOK n' 0 cap := by
  rcases insert_spec n search h t pp pn hwf hr hhd hak with ⟨-, hr⟩ | ⟨-, n'', hr, -, -, -, hpn⟩
  · rw [hr] at hins; cases hins
  · rw [hr] at hins; cases hins
    exact hpn 0 cap hp (fun hh => by rw [hlen hh, Nat.zero_add]) (by rw [Nat.zero_add]; exact hcap)

/-- First insertion into the empty root of a method tree. -/
theorem insert_into_empty (search : Bytes) (h : Option Nat) (pp : Bytes) (pn : List Bytes) (hs : search ≠ [])
    (hl : Lit search) :
    ∃ n', Route.insert Node.empty search h .skind pp pn = .ok n' ∧ WF n' .skind ∧
      (∀ kv, kv ∈ routes n' ↔ ∃ x, h = some x ∧ kv = (search, Val.mk x pp pn)) ∧ search ∈ bounds n' :=
  insert_empty search h pp pn hs hl

/-- **The executable selection used by the checker computes the specification.** -/
theorem select_correct (rs : List Route) (m p : Bytes) :
    (∀ r ps, select rs m p = some (r, ps) → Selected rs m p r ps) ∧ (select rs m p = none → NoMatch rs m p) := by
  have hinv := select_inv rs m p
  exact ⟨fun r ps h => by rw [h] at hinv; exact hinv, fun h => by rw [h] at hinv; exact hinv⟩

/-- **C06, dispatch.**  For every list of routes that registration accepts (`Engine.addRoutes`
returns an engine), every request method and every (normalised) path: the engine runs the handler
chain of the route that the documented priority selects — `Spec.Route.Selected`: it matches, and it
is preferred to every other matching route at the first token where their patterns differ, literal
text > named parameter > catch-all — with the registered pattern as `FullPath()` and with
`ctx.Params` = the names of that pattern bound to the substrings they matched; when no pattern
matches (`NoMatch`) no route handler runs.  `Engine.serve` never panics (params capacity and
indices are in range).  Hypothesis: patterns are shorter than 65536 bytes (`countParams` is a
`uint16`). -/
theorem dispatch_selected (rs : List (Bytes × Bytes × Nat)) (e : Engine)
    (hlen : ∀ r ∈ rs, r.2.1.length < 65536) (h : Engine.addRoutes {} rs = .ok e) (m p : Bytes) :
    (∃ r ps, Selected (toSpec rs) m p r ps ∧ e.serve m p = .handler ⟨r.handler, r.pattern, ps⟩) ∨
    (NoMatch (toSpec rs) m p ∧ e.serve m p = .noRoute) :=
  serve_spec e (toSpec rs) (addRoutes_ok rs e hlen h) m p

/-- Accepted route lists never contain two routes with the same method and the same key (pattern
with the parameter names removed): registration refuses the second one. -/
theorem accepted_distinct (rs : List (Bytes × Bytes × Nat)) (e : Engine) (h : Engine.addRoutes {} rs = .ok e) :
    (toSpec rs).Pairwise (fun r r' => ¬ (r.method = r'.method ∧ keyOf r = keyOf r')) :=
  ((addRoutes_accepts_iff rs).1 ⟨e, h⟩).2

/-- One registration (`(*router).addRoute`) on a method tree that is empty or well formed: refused
as invalid, refused as a conflict exactly when the key is already registered, or the tree stays
well formed and holds one route more. -/
theorem register_one (root : Node) (path : Bytes) (h : Nat) (cap : Nat)
    (hroot : RootOK root cap) (hcap : path.count 58 + path.count 42 ≤ cap) :
    (checkPathValid path = false ∧ routerAddRoute root path h = .error .invalid) ∨
    (checkPathValid path = true ∧ strip (parsePattern path) ∈ keys (routes root) ∧
      routerAddRoute root path h = .error .conflict) ∨
    (checkPathValid path = true ∧ strip (parsePattern path) ∉ keys (routes root) ∧
      ∃ root', routerAddRoute root path h = .ok root' ∧
      WF root' .skind ∧ root'.pfx.head? = some 47 ∧ PnOK root' 0 cap ∧
      ∀ kv, kv ∈ routes root' ↔ (kv ∈ routes root ∨
        kv = (strip (parsePattern path), Val.mk h path (names (parsePattern path))))) :=
  routerAddRoute_spec root path h cap hroot hcap

/-- **C06, order independence.**  Two accepted registrations of the same set of routes, in
whatever order, answer every request alike (same handler, same full path, same parameters, or no
route handler in both). -/
theorem order_independent (rs rs' : List (Bytes × Bytes × Nat)) (e e' : Engine)
    (hperm : ∀ x, x ∈ rs ↔ x ∈ rs')
    (hlen : ∀ r ∈ rs, r.2.1.length < 65536)
    (h : Engine.addRoutes {} rs = .ok e) (h' : Engine.addRoutes {} rs' = .ok e') (m p : Bytes) :
    e.serve m p = e'.serve m p := by
  have hlen' : ∀ r ∈ rs', r.2.1.length < 65536 := fun r hr => hlen r ((hperm r).2 hr)
  have hpermS : ∀ x, x ∈ toSpec rs ↔ x ∈ toSpec rs' := fun x => by simp only [toSpec, List.mem_map, hperm]
  refine selected_agree (fun r ps => Served.handler ⟨r.handler, r.pattern, ps⟩) hpermS ?_
    (dispatch_selected rs e hlen h m p) (dispatch_selected rs' e' hlen' h' m p)
  -- no two accepted routes share method and key; read as "same method and key → equal" this holds of a route
  -- and itself too, hence of any two members of the list
  have hd := accepted_distinct rs e h
  intro r hr r' hr' hm hm' hk
  exact List.Pairwise.forall_of_forall_of_flip (R := fun a b : Route => a.method = b.method → keyOf a = keyOf b → a = b)
    (fun _ _ _ _ => rfl) (hd.imp fun hab hm hk => absurd ⟨hm, hk⟩ hab)
    (hd.imp fun hab hm hk => absurd ⟨hm.symm, hk.symm⟩ hab) hr hr' (hm.trans hm'.symm) hk

/-- **Progress of one registration.**  On an engine whose method trees are well formed and hold
exactly the routes `rs` (`EngineOKc`, the invariant every accepted registration list establishes), a
registration with a non-empty method and a `checkPathValid` path (`ValidReg`) whose (method, key)
is not registered yet is accepted: no `.assert`, `.invalid`, `.conflict`, no run-time panic. -/
theorem register_progress (e : Engine) (cap : Nat) (rs : List Route) (m p : Bytes) (h : Nat)
    (hok : EngineOKc e cap rs) (hv : ValidReg (m, p, h))
    (hd : ∀ r ∈ rs, ¬ (r.method = m ∧ keyOf r = keyOf ⟨m, p, h⟩)) :
    ∃ e', e.addRoute m p h = .ok e' := by
  rcases addRoute_cases e _ rs m p h (engineOKc_mono hok (Nat.le_max_left cap _)) (Nat.le_max_right _ _) with
    ⟨_, -, ⟨hnv, -⟩ | ⟨-, -, r, hr, hnd⟩⟩ | ⟨-, -, e', he, -⟩
  · exact absurd hv hnv
  · exact absurd (hd r hr) hnd
  · exact ⟨e', he⟩

/-- **C06, acceptance characterised.**  A fresh engine accepts a list of registrations iff every
one is valid on its own (non-empty method, path passes `checkPathValid`) and no two have the same
method and the same key (pattern with the parameter names removed: `/:a` and `/:b`, `/x/*a` and
`/x/*b` have the same key).  There is no other conflict between wildcards in the model.  (Acceptance by
`Engine.addRoute`: the exported `RouterGroup.Handle` first refuses a method that is not `^[A-Z]+$`, which is not modelled.) -/
theorem accepted_iff (rs : List (Bytes × Bytes × Nat)) :
    (∃ e, Engine.addRoutes {} rs = .ok e) ↔
    ((∀ r ∈ rs, ValidReg r) ∧
     (toSpec rs).Pairwise (fun r r' => ¬ (r.method = r'.method ∧ keyOf r = keyOf r'))) :=
  addRoutes_accepts_iff rs

/-- **Refusal classified.**  A refused list splits as `pre ++ r :: post` with `pre` accepted and
`r` the first registration that is invalid on its own (fault `.assert`/`.invalid`) or that has the
method and key of a registration in `pre` (fault `.conflict`). -/
theorem refused_at_first_offender (rs : List (Bytes × Bytes × Nat)) (f : Fault) (h : Engine.addRoutes {} rs = .error f) :
    ∃ pre r post, rs = pre ++ r :: post ∧ (∃ e1, Engine.addRoutes {} pre = .ok e1) ∧
      ((¬ ValidReg r ∧ (f = .assert ∨ f = .invalid)) ∨
       (ValidReg r ∧ f = .conflict ∧
         ∃ r' ∈ toSpec pre, ¬ ¬ (r'.method = r.1 ∧ keyOf r' = keyOf ⟨r.1, r.2.1, r.2.2⟩))) := by
  rcases addRoutes_cases rs {} [] 0 engineOK_empty .nil with ⟨_, he, -⟩ | ⟨_, pre, r, post, hf, hrest⟩
  · cases he.symm.trans h
  · cases hf.symm.trans h
    exact ⟨pre, r, post, hrest⟩

/-- Registration never raises a run-time panic (index / slice bounds), for any list of routes. -/
theorem registration_no_runtime_panic (rs : List (Bytes × Bytes × Nat)) (s : Site) :
    Engine.addRoutes {} rs ≠ .error (.panic s) := by
  intro h
  obtain ⟨_, _, _, _, _, hcls⟩ := refused_at_first_offender rs _ h
  rcases hcls with ⟨-, hf | hf⟩ | ⟨-, hf, -⟩ <;> cases hf

/-- **C06, acceptance is order independent.**  Two lists without repetition that hold the same
registrations are both accepted or both refused. -/
theorem accepted_order_independent (rs rs' : List (Bytes × Bytes × Nat)) (hperm : ∀ x, x ∈ rs ↔ x ∈ rs')
    (hnd : rs.Nodup) (hnd' : rs'.Nodup) :
    (∃ e, Engine.addRoutes {} rs = .ok e) ↔ (∃ e', Engine.addRoutes {} rs' = .ok e') :=
  addRoutes_accepts_perm rs rs' ((List.perm_ext_iff_of_nodup hnd hnd').2 hperm)

/-- the same for permutations (repetitions allowed; a repeated registration is refused in both) -/
theorem accepted_perm_independent (rs rs' : List (Bytes × Bytes × Nat)) (hperm : rs.Perm rs') :
    (∃ e, Engine.addRoutes {} rs = .ok e) ↔ (∃ e', Engine.addRoutes {} rs' = .ok e') :=
  addRoutes_accepts_perm rs rs' hperm

/-- The `Nodup` hypotheses of `accepted_order_independent` cannot be dropped: the same set, listed
once and listed twice. -/
theorem accepted_needs_nodup :
    ¬ ∀ rs rs' : List (Bytes × Bytes × Nat), (∀ x, x ∈ rs ↔ x ∈ rs') →
      ((∃ e, Engine.addRoutes {} rs = .ok e) ↔ (∃ e', Engine.addRoutes {} rs' = .ok e')) := by
  intro h
  have h1 := h [([71], [47, 97], 1)] [([71], [47, 97], 1), ([71], [47, 97], 1)] (by simp)
  have h2 : ∃ e, Engine.addRoutes {} [([71], [47, 97], 1)] = .ok e := ⟨_, rfl⟩
  obtain ⟨e', he'⟩ := h1.1 h2
  have h3 : Engine.addRoutes {} [(([71] : Bytes), ([47, 97] : Bytes), 1), ([71], [47, 97], 1)] = .error .conflict := by rfl
  rw [h3] at he'; cases he'

/-- What DOES depend on the order is the fault reported for a refused set (the first offender in
registration order): `GET /:a, GET /:b, GET /:` is refused with `conflict`, and the same set
registered as `GET /:, GET /:a, GET /:b` is refused with `invalid`. -/
theorem refusal_class_depends_on_order :
    Engine.addRoutes {} [([71, 69, 84], [47, 58, 97], 1), ([71, 69, 84], [47, 58, 98], 2), ([71, 69, 84], [47, 58], 3)]
      = .error .conflict ∧
    Engine.addRoutes {} [([71, 69, 84], [47, 58], 3), ([71, 69, 84], [47, 58, 97], 1), ([71, 69, 84], [47, 58, 98], 2)]
      = .error .invalid := ⟨by rfl, by rfl⟩

/-- **C06, the property for route sets.**  For two registration orders of the same set of routes
(patterns shorter than 65536 bytes): registration is accepted in both or refused in both, and when
it is accepted every request is answered alike — same handler, same `FullPath()`, same parameters,
or no route handler in both; never a panic. -/
theorem route_set_semantics (rs rs' : List (Bytes × Bytes × Nat)) (hperm : ∀ x, x ∈ rs ↔ x ∈ rs')
    (hnd : rs.Nodup) (hnd' : rs'.Nodup) (hlen : ∀ r ∈ rs, r.2.1.length < 65536) :
    ((∃ e, Engine.addRoutes {} rs = .ok e) ↔ (∃ e', Engine.addRoutes {} rs' = .ok e')) ∧
    (∀ e e', Engine.addRoutes {} rs = .ok e → Engine.addRoutes {} rs' = .ok e' →
      ∀ m p, e.serve m p = e'.serve m p ∧
        ((∃ r ps, Selected (toSpec rs) m p r ps ∧ e.serve m p = .handler ⟨r.handler, r.pattern, ps⟩) ∨
         (NoMatch (toSpec rs) m p ∧ e.serve m p = .noRoute))) :=
  ⟨accepted_order_independent rs rs' hperm hnd hnd',
   fun e e' h h' m p => ⟨order_independent rs rs' e e' hperm hlen h h' m p, dispatch_selected rs e hlen h m p⟩⟩

/-- The same as one equation: what can be observed of a route set (`observe`: refused, or the
outcome of each request) is the same for every registration order. -/
theorem route_set_observation (rs rs' : List (Bytes × Bytes × Nat)) (hperm : ∀ x, x ∈ rs ↔ x ∈ rs')
    (hnd : rs.Nodup) (hnd' : rs'.Nodup) (hlen : ∀ r ∈ rs, r.2.1.length < 65536) (m p : Bytes) :
    observe rs m p = observe rs' m p := by
  have hacc := accepted_order_independent rs rs' hperm hnd hnd'
  unfold observe
  cases h : Engine.addRoutes {} rs with
  | ok e =>
    obtain ⟨e', h'⟩ := hacc.1 ⟨e, h⟩
    rw [h']
    exact congrArg some (order_independent rs rs' e e' hperm hlen h h' m p)
  | error f =>
    cases h' : Engine.addRoutes {} rs' with
    | ok e' => obtain ⟨e, he⟩ := hacc.2 ⟨e', h'⟩; rw [he] at h; cases h
    | error f' => rfl

/-
The conflicts of the model are exactly the key collisions: `/:a` vs `/:b` and `/*a` vs `/*b` at the same position collide
because their keys (`/:`, `/*`) are equal; a parameter and a catch-all at the same position (`/:a`,
`/*b`), or wildcards with different continuations (`/:a/x`, `/:b/y`) do not conflict.  Refusal of a SET
does not depend on the order; the fault class reported does (`refusal_class_depends_on_order`), because
registration stops at the first offender.

Not covered by these theorems: handler chains longer than one element (outside this model);
`RouterGroup` prefixes are the subject of the last section of this file.

TODO-OPEN (assumption made explicit, not a proof gap of the model): without `hlen`, a pattern with
65536 or more wildcards makes `countParams` (uint16) wrap, `maxParams` too small and `find` panic
at `(*paramsPointer)[:(paramIndex + 1)]`.  No `decide` witness is given because the smallest witness is a
196 608-byte path.
-/

/-! ## non-vacuity and concrete behaviour (GET = [71,69,84]; `/a/:x`, `/a/b`, `/*z`) -/

def exRoutes : List (Bytes × Bytes × Nat) :=
  [([71, 69, 84], [47, 97, 47, 58, 120], 1), ([71, 69, 84], [47, 97, 47, 98], 2), ([71, 69, 84], [47, 42, 122], 3)]

def exEngine : Engine := match Engine.addRoutes {} exRoutes with | .ok e => e | .error _ => {}

def exRoot : Node := match exEngine.trees with | t :: _ => t.root | [] => Node.empty

def exSpec : List Route :=
  [⟨[71, 69, 84], [47, 97, 47, 58, 120], 1⟩, ⟨[71, 69, 84], [47, 97, 47, 98], 2⟩, ⟨[71, 69, 84], [47, 42, 122], 3⟩]

private theorem exEngine_ok : EngineOK exEngine (toSpec exRoutes) :=
  addRoutes_ok exRoutes exEngine (by decide +kernel) rfl

/-- what the acceptance theorem says of the one tree of the example engine -/
private theorem exRoot_ok : WF exRoot .skind ∧ exRoot.pfx.head? = some 47 ∧ PnOK exRoot 0 exEngine.maxParams ∧
    Denotes exRoot exSpec [71, 69, 84] :=
  exEngine_ok.2.1 ⟨[71, 69, 84], exRoot⟩
    (by rw [show exEngine.trees = [⟨[71, 69, 84], exRoot⟩] from rfl]; exact List.mem_singleton_self _)

/-- the registered tree meets the hypotheses of `find_best` / `find_selected` -/
example : WF exRoot .skind ∧ PnOK exRoot 0 exEngine.maxParams := ⟨exRoot_ok.1, exRoot_ok.2.2.1⟩

example : Denotes exRoot exSpec [71, 69, 84] := exRoot_ok.2.2.2

/-- the precondition of `insert_preserves` is met when `/b` is added to the example tree -/
example : Ready exRoot [47, 98] .skind ∧ ([47, 98] : Bytes).head? = exRoot.pfx.head? :=
  ⟨⟨by decide +kernel, [], [47, 98], rfl, by simp [Lit], Or.inl rfl⟩, by decide +kernel⟩

/-- the example registration is accepted, with patterns far below the length bound: the hypotheses of
`dispatch_selected`, `accepted_distinct`, `order_independent` hold -/
example : (∃ e, Engine.addRoutes {} exRoutes = .ok e) ∧ ∀ r ∈ exRoutes, r.2.1.length < 65536 := by
  constructor
  · exact ⟨exEngine, by rfl⟩
  · decide
example : ∃ e', Engine.addRoutes {} exRoutes.reverse = .ok e' ∧
    e'.serve [71, 69, 84] [47, 97, 47, 99] = exEngine.serve [71, 69, 84] [47, 97, 47, 99] := by
  refine ⟨(match Engine.addRoutes {} exRoutes.reverse with | .ok e => e | .error _ => {}), by rfl, by decide +kernel⟩
example : RootOK exRoot 1 := Or.inr ⟨exRoot_ok.1, exRoot_ok.2.1, exRoot_ok.2.2.1⟩

/-! ### acceptance: the hypotheses of the acceptance theorems are met by concrete inputs -/

/-- `register_progress`: the example engine satisfies the invariant, `GET /b` is a valid
registration and its key `/b` is not among the registered keys `/a/:`, `/a/b`, `/*` -/
example : EngineOKc exEngine exEngine.maxParams (toSpec exRoutes) ∧ ValidReg ([71, 69, 84], [47, 98], 4) ∧
    ∀ r ∈ toSpec exRoutes, ¬ (r.method = [71, 69, 84] ∧ keyOf r = keyOf ⟨[71, 69, 84], [47, 98], 4⟩) :=
  ⟨exEngine_ok, by decide +kernel, by decide +kernel⟩
example : ∃ e', exEngine.addRoute [71, 69, 84] [47, 98] 4 = .ok e' := ⟨_, by rfl⟩

/-- `accepted_iff`, right-hand side true: three valid registrations with three different keys -/
example : (∀ r ∈ exRoutes, ValidReg r) ∧
    (toSpec exRoutes).Pairwise (fun r r' => ¬ (r.method = r'.method ∧ keyOf r = keyOf r')) := by decide +kernel
/-- `accepted_iff`, right-hand side false for two different reasons: `/:a` and `/:b` have the same
key; `/a*x` is not a valid path.  Both lists are refused. -/
example : ¬ (toSpec [([71, 69, 84], [47, 58, 97], 1), ([71, 69, 84], [47, 58, 98], 2)]).Pairwise
    (fun r r' => ¬ (r.method = r'.method ∧ keyOf r = keyOf r')) := by decide +kernel
example : Engine.addRoutes {} [([71, 69, 84], [47, 58, 97], 1), ([71, 69, 84], [47, 58, 98], 2)] = .error .conflict := by rfl
example : ¬ ValidReg ([71, 69, 84], [47, 97, 42, 120], 1) := by decide +kernel
example : Engine.addRoutes {} [([71, 69, 84], [47, 97, 42, 120], 1)] = .error .invalid := by rfl
/-- the same keys under different methods do not conflict; a parameter and a catch-all at the same
position do not conflict; `/:a/x` and `/:b/y` do not conflict -/
example : ∃ e, Engine.addRoutes {} [([71, 69, 84], [47, 58, 97], 1), ([80, 85, 84], [47, 58, 98], 2),
    ([71, 69, 84], [47, 42, 98], 3), ([71, 69, 84], [47, 58, 98, 47, 121], 4)] = .ok e := ⟨_, by rfl⟩

/-- `refused_at_first_offender`: a refused list (here `pre = [GET /:a]`, `r = GET /:b`, `post = [GET /c]`) -/
example : Engine.addRoutes {} [([71, 69, 84], [47, 58, 97], 1), ([71, 69, 84], [47, 58, 98], 2), ([71, 69, 84], [47, 99], 3)]
    = .error .conflict := by rfl

/-- `accepted_order_independent`, `route_set_semantics`, `route_set_observation`: the example routes
and their reverse are two duplicate-free lists with the same members and short patterns; both
sides of the equivalence are true for them (above), both false for `/:a`, `/:b` -/
example : (∀ x, x ∈ exRoutes ↔ x ∈ exRoutes.reverse) ∧ exRoutes.Nodup ∧ exRoutes.reverse.Nodup ∧
    ∀ r ∈ exRoutes, r.2.1.length < 65536 :=
  ⟨fun x => by simp, by decide +kernel, by decide +kernel, by decide +kernel⟩
example : exRoutes.Perm exRoutes.reverse := (List.reverse_perm _).symm
example : observe exRoutes [71, 69, 84] [47, 97, 47, 99] = some (.handler ⟨1, [47, 97, 47, 58, 120], [([120], [99])]⟩) ∧
    observe exRoutes.reverse [71, 69, 84] [47, 97, 47, 99] = some (.handler ⟨1, [47, 97, 47, 58, 120], [([120], [99])]⟩) := by
  decide +kernel
example : observe [([71, 69, 84], [47, 58, 97], 1), ([71, 69, 84], [47, 58, 98], 2)] [71, 69, 84] [47, 99] = none ∧
    observe [([71, 69, 84], [47, 58, 98], 2), ([71, 69, 84], [47, 58, 97], 1)] [71, 69, 84] [47, 99] = none := by
  decide +kernel

/-- static beats param; param is taken when static cannot complete; catch-all last; backtracking
out of `/a/` into `/*z` -/
example : exEngine.serve [71, 69, 84] [47, 97, 47, 98] = .handler ⟨2, [47, 97, 47, 98], []⟩ := by decide +kernel
example : exEngine.serve [71, 69, 84] [47, 97, 47, 99] = .handler ⟨1, [47, 97, 47, 58, 120], [([120], [99])]⟩ := by decide +kernel
example : exEngine.serve [71, 69, 84] [47, 97, 47, 99, 47, 100] =
    .handler ⟨3, [47, 42, 122], [([122], [97, 47, 99, 47, 100])]⟩ := by decide +kernel
example : Selected exSpec [71, 69, 84] [47, 97, 47, 99, 47, 100] ⟨[71, 69, 84], [47, 42, 122], 3⟩
    [([122], [97, 47, 99, 47, 100])] := by decide +kernel
example : matchToks (parsePattern [47, 97, 47, 58, 120]) [47, 97, 47, 99] = some [([120], [99])] := by decide +kernel
example : select exSpec [71, 69, 84] [47, 97, 47, 98] = some (⟨[71, 69, 84], [47, 97, 47, 98], 2⟩, []) := by decide +kernel
example : NoMatch [⟨[71, 69, 84], [47, 97], 1⟩] [71, 69, 84] [47, 98] := by decide +kernel
/-- a method without tree -/
example : exEngine.serve [80] [47, 97, 47, 98] = .noRoute := by decide +kernel

/-! ## The ITERATIVE `find` of tree.go (the loop as written) and `ServeHTTP` around it

Model: `Hertz/Model/RouteIter.lean` (`stepTop/stepBody/stepParam/stepAny`, `backtrack`, `post`, `run`,
`findIter`, `Engine.serveIter`).  The correspondence check runs THIS model against the real engine (status
301/307/405/404 included); the recursive `find` above is the intermediate the selection theorems speak of. -/
open Hertz.Route.Iter

/-- **Iterative = recursive.**  On every well-formed tree (every tree `insert` builds from an accepted
route set: `EngineOK`, `addRoutes_ok`), for every path and every content of the params backing array:
the loop of `(*router).find` returns the handlers, full path and parameters of the recursive `find` on
a hit, and on a miss returns no handlers with `*paramsPointer` re-sliced to length 0 (so a following
lookup of the 405 loop starts clean). -/
theorem find_iter_eq_rec (root : Node) (cap : Nat) (hwf : WF root .skind) (hp : PnOK root 0 cap) (path : Bytes)
    (arr : List Bytes) (harr : arr.length = cap) :
    (∀ f, find root path cap = .hit f → ∃ t arr' plen',
        findIter root path arr 0 false = some (.value (some f.handlers) f.fullPath f.params t arr' plen')) ∧
    (find root path cap = .miss → ∃ t arr', arr'.length = cap ∧
        findIter root path arr 0 false = some (.value none [] [] t arr' 0)) ∧
    agrees (find root path cap) (findIter root path arr 0 false) = true := by
  rcases findIter_cases false root cap hwf hp path arr harr with ⟨f, t, arr', plen', hf, h⟩ | ⟨hm, t, arr', hl, h⟩
  · rw [map_unescapeVal_false] at h
    exact ⟨fun g hg => (by cases hf.symm.trans hg; exact ⟨t, arr', plen', h⟩), fun hm => (nomatch hf.symm.trans hm),
      by rw [hf, h]; simp [agrees]⟩
  · exact ⟨fun g hg => (nomatch hm.symm.trans hg), fun _ => ⟨t, arr', hl, h⟩, by rw [hm, h]; simp [agrees]⟩

/-- **Iterative = recursive, with `unescape`** (raw text kept while searching, values unescaped in the
epilogue): for either value of the flag the same route is found, and the values are the
recursive model's substrings passed through `url.QueryUnescape` (kept raw when that fails) exactly when the flag
is on; the search itself (hit / miss, which node) does not depend on the flag. -/
theorem find_iter_eq_rec_unescape (u : Bool) (root : Node) (cap : Nat) (hwf : WF root .skind) (hp : PnOK root 0 cap)
    (path : Bytes) (arr : List Bytes) (harr : arr.length = cap) :
    (∀ f, find root path cap = .hit f → ∃ t arr' plen',
        findIter root path arr 0 u = some (.value (some f.handlers) f.fullPath
          (f.params.map fun kv => (kv.1, unescapeVal u kv.2)) t arr' plen')) ∧
    (find root path cap = .miss → ∃ t arr', arr'.length = cap ∧
        findIter root path arr 0 u = some (.value none [] [] t arr' 0)) := by
  rcases findIter_cases u root cap hwf hp path arr harr with ⟨f, t, arr', plen', hf, h⟩ | ⟨hm, t, arr', hl, h⟩
  · exact ⟨fun g hg => (by cases hf.symm.trans hg; exact ⟨t, arr', plen', h⟩), fun hm => (nomatch hf.symm.trans hm)⟩
  · exact ⟨fun g hg => (nomatch hm.symm.trans hg), fun _ => ⟨t, arr', hl, h⟩⟩

/-- **The Go loop terminates**: within `4 * (number of nodes)` program points (every node is entered at
most once and left after at most four labelled blocks), without a run-time panic. -/
theorem find_iter_terminates (u : Bool) (root : Node) (cap : Nat) (hwf : WF root .skind) (hp : PnOK root 0 cap) (path : Bytes)
    (arr : List Bytes) (harr : arr.length = cap) :
    ∃ o, run path u (4 * size root) .top (initSt root path arr 0) = some o ∧ ∀ s, o ≠ .panic s := by
  rcases findIter_cases u root cap hwf hp path arr harr with ⟨_, _, _, _, _, h⟩ | ⟨_, _, _, _, h⟩
  · exact ⟨_, h, fun s hs => nomatch hs⟩
  · exact ⟨_, h, fun s hs => nomatch hs⟩

/-- **C06 dispatch, on the iterative model of `ServeHTTP`** (EVERY setting of RedirectTrailingSlash,
HandleMethodNotAllowed and of unescaping = `UseRawPath && UnescapePathValues`): the
selected route's handler runs with its pattern and the matched substrings, each passed through
`url.QueryUnescape` exactly when unescaping is on (`params_are_unescaped_substrings`); when no pattern matches
NO route handler runs and the answer is a 301/307 redirect (only with RedirectTrailingSlash, path not
`/`, method not CONNECT; 301 iff GET), 405 (only with HandleMethodNotAllowed, exactly when the tree of
another method finds a handler for the path), or 404 (otherwise). -/
theorem dispatch_selected_iter (rs : List (Bytes × Bytes × Nat)) (e : Engine)
    (hlen : ∀ r ∈ rs, r.2.1.length < 65536) (h : Engine.addRoutes {} rs = .ok e) (o : Opts) (m p' : Bytes) :
    (∃ r ps, Selected (toSpec rs) m (47 :: p') r ps ∧
        Iter.Engine.serveIter e o m (47 :: p') =
          .handler ⟨r.handler, r.pattern, ps.map fun kv => (kv.1, unescapeVal o.unescape kv.2)⟩) ∨
    (NoMatch (toSpec rs) m (47 :: p') ∧ NoHandlerOutcome e o m (47 :: p') (Iter.Engine.serveIter e o m (47 :: p'))) := by
  have hI := serveIter_serve e (toSpec rs) (addRoutes_ok rs e hlen h) o m p'
  rcases dispatch_selected rs e hlen h m (47 :: p') with ⟨r, ps, hs, hf⟩ | ⟨hn, hf⟩
  · rw [hf] at hI; exact Or.inl ⟨r, ps, hs, hI⟩
  · rw [hf] at hI; exact Or.inr ⟨hn, hI⟩

/-- a request path that is empty or does not start with `/` is answered 400 before any lookup -/
theorem bad_path_400 (e : Engine) (o : Opts) (m : Bytes) (c : UInt8) (p' : Bytes) (hc : c ≠ 47) :
    Iter.Engine.serveIter e o m [] = .badRequest ∧ Iter.Engine.serveIter e o m (c :: p') = .badRequest := by
  simp [Iter.Engine.serveIter, hc]

/-- The iterative model has the block order and back-track calls of the source (regenerated), and the source
unescapes where the model does: the catch-all value in the loop (`Any:`), the parameter values in the epilogue. -/
theorem model_matches_gen_iter :
    Gen.Route.findLabels = ["Param", "Any"] ∧ Gen.Route.findGotos = ["Param", "Param", "Any"] ∧
    Gen.Route.findBacktrackArgs = ["skind", "akind"] ∧
    Gen.Route.backtrackRestores = ["searchIndex", "paramIndex", "searchIndex"] ∧
    Gen.Route.findUnescapeSites = ["loop", "epilogue"] := by decide +kernel

/-- **The handler's parameters are the matched substrings, unescaped when asked**: whenever the iterative
engine model runs a route handler, it is the selected route's, substituting the RAW values back into its
pattern gives the request path, and the values handed over are those raw substrings passed through
`url.QueryUnescape` (kept as they are when it reports an error) iff `UseRawPath && UnescapePathValues`. -/
theorem params_are_unescaped_substrings (rs : List (Bytes × Bytes × Nat)) (e : Engine)
    (hlen : ∀ r ∈ rs, r.2.1.length < 65536) (h : Engine.addRoutes {} rs = .ok e) (o : Opts) (m p' : Bytes) (f : Found)
    (hf : Iter.Engine.serveIter e o m (47 :: p') = .handler f) :
    ∃ r raw, Selected (toSpec rs) m (47 :: p') r raw ∧ f.handlers = r.handler ∧ f.fullPath = r.pattern ∧
      f.params = raw.map (fun kv => (kv.1, unescapeVal o.unescape kv.2)) ∧
      instantiate (parsePattern r.pattern) raw = 47 :: p' ∧ raw.map Prod.fst = names (parsePattern r.pattern) := by
  rcases dispatch_selected_iter rs e hlen h o m p' with ⟨r, ps, hs, hh⟩ | ⟨_, hout⟩
  · rw [hh] at hf
    injection hf with hf
    subst hf
    have hm := (matches_some hs.2.1).2
    exact ⟨r, ps, hs, rfl, rfl, rfl, (matchToks_some _ _ _ hm).2.2, (matchToks_some _ _ _ hm).1⟩
  · rw [hf] at hout
    rcases hout with ⟨c, h1, _⟩ | ⟨h1, _⟩ | ⟨h1, _⟩ <;> cases h1

/-- **No match, no handler** (the last clause of the property, on the iterative engine model with the
redirect / 405 / NoRoute options): if no pattern of the method matches, `ServeHTTP` runs no route
handler, whatever the options. -/
theorem no_match_no_handler (rs : List (Bytes × Bytes × Nat)) (e : Engine)
    (hlen : ∀ r ∈ rs, r.2.1.length < 65536) (h : Engine.addRoutes {} rs = .ok e) (o : Opts)
    (m p' : Bytes) (hno : NoMatch (toSpec rs) m (47 :: p')) (f : Found) :
    Iter.Engine.serveIter e o m (47 :: p') ≠ .handler f := fun hf =>
  have ⟨r, raw, hs, _⟩ := params_are_unescaped_substrings rs e hlen h o m p' f hf
  selected_noMatch_excl _ m _ r raw hs hno

/-- **405 / 404 as a function of the route SET** (completes `dispatch_selected_iter`): when no route handler
runs and the answer is 405, some registered route of ANOTHER method matches the path; when it is 404 with
HandleMethodNotAllowed on, no registered route of any other method matches. -/
theorem status_405_404_of_route_set (rs : List (Bytes × Bytes × Nat)) (e : Engine)
    (hlen : ∀ r ∈ rs, r.2.1.length < 65536) (h : Engine.addRoutes {} rs = .ok e) (o : Opts)
    (m p' : Bytes) (hno : NoMatch (toSpec rs) m (47 :: p')) :
    (Iter.Engine.serveIter e o m (47 :: p') = .notAllowed →
        ∃ r ∈ toSpec rs, r.method ≠ m ∧ (r.matches r.method (47 :: p')).isSome = true) ∧
    (Iter.Engine.serveIter e o m (47 :: p') = .notFound → o.handleMethodNotAllowed = true →
        ∀ r ∈ toSpec rs, r.method ≠ m → r.matches r.method (47 :: p') = none) := by
  rcases dispatch_selected_iter rs e hlen h o m p' with ⟨r, ps, hs, _⟩ | ⟨_, hout⟩
  · exact absurd hno (selected_noMatch_excl _ m _ r ps hs)
  · exact noHandler_routes e (toSpec rs) (addRoutes_ok rs e hlen h) o m (47 :: p') _ hout

/-- **Backtracking with unescaping ON, three witnesses** (regression for /repo 59ce9b1): routes GET `/c/:p/x`,
GET `/:y/:x` and request `/c/%41/z`: no pattern matches and no handler runs (404); routes `/:a/x`, `/*z` and `/%41/y`:
z = `A/y`; routes `/:y/:x/a:x/*w`, `/c/ab:y/abc` and `/c/ab%2f/abc/a%20b`: the first route runs with y=`c`, x=`ab/`,
x=`bc`, w=`a b`. -/
theorem dispatch_selected_iter_repaired :
    (let rs : List (Bytes × Bytes × Nat) :=
      [([71, 69, 84], [47, 99, 47, 58, 112, 47, 120], 1), ([71, 69, 84], [47, 58, 121, 47, 58, 120], 2)]
     let e := match Engine.addRoutes {} rs with | .ok e => e | .error _ => {}
     NoMatch (toSpec rs) [71, 69, 84] [47, 99, 47, 37, 52, 49, 47, 122] ∧
     Iter.Engine.serveIter e { unescape := true } [71, 69, 84] [47, 99, 47, 37, 52, 49, 47, 122] = .notFound) ∧
    (let rs : List (Bytes × Bytes × Nat) := [([71, 69, 84], [47, 58, 97, 47, 120], 1), ([71, 69, 84], [47, 42, 122], 2)]
     let e := match Engine.addRoutes {} rs with | .ok e => e | .error _ => {}
     Iter.Engine.serveIter e { unescape := true } [71, 69, 84] [47, 37, 52, 49, 47, 121]
       = .handler ⟨2, [47, 42, 122], [([122], [65, 47, 121])]⟩) ∧
    (let rs : List (Bytes × Bytes × Nat) :=
      [([71, 69, 84], [47, 58, 121, 47, 58, 120, 47, 97, 58, 120, 47, 42, 119], 1),
       ([71, 69, 84], [47, 99, 47, 97, 98, 58, 121, 47, 97, 98, 99], 2)]
     let e := match Engine.addRoutes {} rs with | .ok e => e | .error _ => {}
     Iter.Engine.serveIter e { unescape := true } [71, 69, 84]
         [47, 99, 47, 97, 98, 37, 50, 102, 47, 97, 98, 99, 47, 97, 37, 50, 48, 98]
       = .handler ⟨1, [47, 58, 121, 47, 58, 120, 47, 97, 58, 120, 47, 42, 119],
           [([121], [99]), ([120], [97, 98, 47]), ([120], [98, 99]), ([119], [97, 32, 98])]⟩) := by decide +kernel

/-- non-vacuity of the full-strength statements: an accepted engine served with unescaping on -/
example : ({ unescape := true } : Opts).unescape = true ∧ ({ } : Opts).unescape = false := ⟨rfl, rfl⟩

/-- non-vacuity: the example engine is accepted, its tree meets `find_iter_eq_rec`'s hypotheses (above),
and the iterative lookup of `/a/c/d` backtracks out of `/a/:x` into `/*z` -/
example : findIter exRoot [47, 97, 47, 99, 47, 100] [[]] 0 false =
    some (.value (some 3) [47, 42, 122] [([122], [97, 47, 99, 47, 100])] false [[97, 47, 99, 47, 100]] 1) := by decide +kernel
example : find exRoot [47, 97, 47, 99, 47, 100] 1 = .hit ⟨3, [47, 42, 122], [([122], [97, 47, 99, 47, 100])]⟩ := by decide +kernel
example : find exRoot [47, 98] 1 = .hit ⟨3, [47, 42, 122], [([122], [98])]⟩ ∧ find exRoot [] 1 = .miss := by decide +kernel
/-- trailing-slash recommendation, 405 and 404 on `GET /a/b` and `POST /p/` -/
def exEngine2 : Engine :=
  match Engine.addRoutes {} [([71, 69, 84], [47, 97, 47, 98], 1), ([80, 79, 83, 84], [47, 112, 47], 2)] with
  | .ok e => e | .error _ => {}
example : Iter.Engine.serveIter exEngine2 {} [71, 69, 84] [47, 97, 47, 98, 47] = .redirect 301 := by decide +kernel
example : Iter.Engine.serveIter exEngine2 {} [80, 79, 83, 84] [47, 112] = .redirect 307 := by decide +kernel
example : Iter.Engine.serveIter exEngine2 { redirectTrailingSlash := false } [71, 69, 84] [47, 97, 47, 98, 47] = .notFound := by decide +kernel
example : Iter.Engine.serveIter exEngine2 { handleMethodNotAllowed := true } [71, 69, 84] [47, 112, 47] = .notAllowed := by decide +kernel
example : Iter.Engine.serveIter exEngine2 { handleMethodNotAllowed := true } [71, 69, 84] [47, 113] = .notFound := by decide +kernel
example : NoMatch (toSpec [([71, 69, 84], [47, 97, 47, 98], 1), ([80, 79, 83, 84], [47, 112, 47], 2)]) [71, 69, 84] [47, 112, 47] := by decide +kernel
example : NoMatch (toSpec [([71, 69, 84], [47, 97, 47, 98], 1), ([80, 79, 83, 84], [47, 112, 47], 2)]) [71, 69, 84] [47, 113] := by decide +kernel

/-! ## `RouterGroup` path assembly (`Model/GroupPath.lean`: `pathClean` = Go `path.Clean`,
`pathJoin2`, `lastChar`, `joinPaths`, `groupBase`, `absPattern`, `addGroupRoutes`) -/
open Hertz.Route.GroupPath

/-- **One nesting step is a cleaned join.**  `joinPaths(abs, rel)` (= `calculateAbsolutePath`) with a
non-empty base: the base itself when `rel` is empty, else `path.Clean(abs + "/" + rel)` with exactly one
`/` appended iff `rel` ends in `/` and the cleaned path does not (i.e. is not `/`).  It never panics. -/
theorem group_path_is_join (abs rel : Bytes) (ha : abs ≠ []) :
    joinPaths abs rel = .ok (if rel = [] then abs else
      if rel.getLast? = some 47 ∧ (pathClean (abs ++ 47 :: rel)).getLast? ≠ some 47
      then pathClean (abs ++ 47 :: rel) ++ [47] else pathClean (abs ++ 47 :: rel)) :=
  joinPaths_spec abs rel ha

/-- The absolute pattern of a route registered through ANY nesting of groups is computed without a
panic (`lastChar` never sees the empty string) and is not empty. -/
theorem group_path_no_panic (prefixes : List Bytes) (rel : Bytes) :
    ∃ p, absPattern prefixes rel = .ok p ∧ p ≠ [] := absPattern_ok prefixes rel

/-- **Registered patterns are rooted**: the absolute pattern of a route registered through any nesting of
groups starts with `/` (`path.Clean` of a rooted path is rooted), so `Engine.addRoute`'s assertion
"path must begin with '/'" never fires for a registration made through the group API. -/
theorem registered_pattern_rooted (prefixes : List Bytes) (rel p : Bytes) (h : absPattern prefixes rel = .ok p) :
    p.head? = some 47 :=
  let ⟨_, h', hr⟩ := absPattern_rooted_ok prefixes rel
  Except.ok.inj (h'.symm.trans h) ▸ hr

/-- **Routes registered through any nesting of groups = the flat set of their absolute patterns**:
the flat list always exists, registration through the groups IS registration of the flat list (same
acceptance, same refusal class, same engine), hence every dispatch result is that of the flat set and
all the theorems above (`dispatch_selected(_iter)`, `order_independent`, `accepted_iff`, …) apply to it. -/
theorem route_set_semantics_groups (rs : List (List Bytes × Bytes × Bytes × Nat)) (e0 : Engine) :
    ∃ flat, flatten rs = some flat ∧ addGroupRoutes e0 rs = Engine.addRoutes e0 flat ∧
      (∀ e, addGroupRoutes {} rs = .ok e → e0 = {} → ∀ m p, (∀ r ∈ flat, r.2.1.length < 65536) →
        ((∃ r ps, Selected (toSpec flat) m p r ps ∧ e.serve m p = .handler ⟨r.handler, r.pattern, ps⟩) ∨
         (NoMatch (toSpec flat) m p ∧ e.serve m p = .noRoute))) := by
  obtain ⟨flat, hf⟩ := flatten_some rs
  refine ⟨flat, hf, addGroupRoutes_flat rs e0 flat hf, ?_⟩
  intro e he _ m p hlen
  rw [addGroupRoutes_flat rs {} flat hf] at he
  exact dispatch_selected flat e hlen he m p

/- TODO-OPEN: `registered_pattern_clean` (every absolute pattern is `path.Clean` of itself up to
one trailing slash, starts with `/`, has no empty / `.` / `..` element) and the n-step form of
`group_path_is_join` (absPattern = Clean of the slash-joined prefixes, trailing slash iff the last non-empty
part ends in `/`) need idempotence of `pathClean` and `pathClean (pathClean a ++ "/" ++ b) = pathClean (a ++ "/" ++ b)`;
not proved.  Both are evaluated on the implementation's output for every generated nesting (`Driver/C06g.lean`:
`specAbs`, `cleanShape`), and `pathClean` is held to the real `path.Clean` on all strings of length ≤ 6 (9) over {/ . a}. -/

example : joinPaths [47, 97, 47] [98, 47] = .ok [47, 97, 47, 98, 47] := by rfl
example : absPattern [[97], [46, 46], [46, 46]] [58, 120] = .ok [47, 58, 120] := by rfl
example : absPattern [[47, 97, 47], [98]] [] = .ok [47, 97, 47, 98] ∧ absPattern [[47, 97, 47]] [] = .ok [47, 97, 47] ∧
    absPattern [[], [47, 47, 97], [46, 46]] [99, 47, 47] = .ok [47, 99, 47] := ⟨by rfl, by rfl, by rfl⟩
example : pathClean [47, 97, 47, 46, 46, 47, 46, 47, 98] = [47, 98] ∧ pathClean [] = [46] ∧
    pathClean [97, 47, 46, 46, 47, 46, 46] = [46, 46] := by decide +kernel
example : addGroupRoutes {} [([[47, 118, 49]], [71, 69, 84], [47, 58, 120], 1), ([[47, 118, 49], [97, 47]], [71, 69, 84], [98], 2)] =
    Engine.addRoutes {} [([71, 69, 84], [47, 118, 49, 47, 58, 120], 1), ([71, 69, 84], [47, 118, 49, 47, 97, 47, 98], 2)] := by rfl

end Hertz.Props.C06
