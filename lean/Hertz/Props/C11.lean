import Hertz.Model.Http1.RespRead
import Hertz.Proofs.RespRoundtrip
import Hertz.Proofs.RespBodiless
import Hertz.Proofs.ReqDecodes
import Hertz.Proofs.Exchange
import Hertz.Proofs.RespStream
import Hertz.Model.Multipart
import Hertz.Spec.Multipart
import Hertz.Proofs.Multipart
import Hertz.Proofs.Http1Limits
/-!
# C11 — client requests reach the server intact and responses come back intact

Request side: the bytes produced by the real `req.Write` / `ProxyWrite` for requests built through the
client API (method, URL with query, headers, cookies, body as bytes / stream of known or unknown
length / form arguments) are compared with the model `HW.ReqHdr.bytes ++ body encoding` (C05/C04
models) and, in the spec step, decoded by the strict decoder `Spec.Http.decodeOne`, by the Lean model
of hertz's own server-side reader and by `net/http.ReadRequest`: all three must read the same method,
target, Host and body.
Response side: `RespRead.readResponse` models `resp.ReadHeaderAndLimitBody` (first line, header
scanner, interim heads (100 / 102 / 103) skipped, fixed / chunked+trailers / until-close bodies, bodiless statuses, size
limit); it is compared with the real reader over the scripted connection under arbitrary
segmentation (client half of C02), and every conforming response (strict reader `Spec.Resp`) must come
back with the same status, fields and body.

Proved for all inputs:
* `max_size_enforced`, `bodiless_status_no_body`: the size limit, and no body for 1xx/204/304;
* `response_roundtrip` (reader ∘ writer = identity): for every well-formed response `r` (`RT.wfResp`:
  status that may carry a body and fits an `int`, reason/values free of CR/LF and of blanks (SP, HTAB:
  the optional whitespace the reader trims) at either end, generic fields with non-empty valid names in normalised form that are none of the eight names
  the reader keeps in dedicated fields, body by `Content-Length` or chunked with pieces below `16^15`
  bytes) and every `rest`, with the size limit off or not below the body length, under either end
  behaviour, `readResponse (respWire r ++ rest)` is `r`'s status, dedicated fields, generic fields in
  order (after the server's `Date` line), cookies, `Connection: close` flag and body, no trailers,
  and leaves exactly `rest`.  `respWire` = C05 header model (`HW.RespHdr.bytes` after
  `SetContentLength`) ++ C04 body model (`Resp.frame … .wire`).  Stages: `response_body_chunked`
  (chunk reader ∘ chunk encoder, any accumulated prefix), `response_head_roundtrip` (status line and
  ANY well-formed field list through `ReadHeaders`: the scanner sees exactly the fields written and
  stops at the end of the head);
* `chunk_size_limit_tight`: a chunk of `16^15` bytes or more is written with 16 hex digits, which
  `ReadHexInt` (`maxHexIntChars` = 15) refuses - so the bound in `wfResp` cannot be relaxed
  (not reachable in practice: 2^60 bytes);
* `request_decodes`: the request writer model's bytes under the strict decoder;
* `response_roundtrip_trailers`: the same for a streamed (chunked) response that sets trailer fields
  (`RT.wfRespT`: every trailer field well-formed, its name kept by `SetTrailers` - no comma, not one
  of the forbidden trailer names; a name MAY start with `0`, see `exTrailers0`): the `Trailer:`
  declaration is read back as exactly the names, the trailer section as exactly the fields, in order,
  duplicates included;
* `response_head_roundtrip_framed`: `ReadHeaders` on the head `resp.Write` produces for ANY status but
  the interim ones (100, 102, 103: `isInterim`) and each framing the writer can decide (`Content-Length: n`, `chunked`, none) returns
  the head `RT.WResp.seenHeadFor` spells out and stops at its end; `response_wire_nonHEAD` says that the
  wire used here (`RT.respWireH r isHead` = C05 header model on `hdrFor (frame …).framing` ++ `frame …
  .wire`) is `respWire` of the theorems above when the request was not HEAD;
* `response_roundtrip_bodiless`: statuses that forbid a body (1xx other than the interim ones, 204, 304;
  `RT.wfBodiless`), whatever body the handler set, HEAD request or not: the reader returns the head
  (`cl = -2`, no framing field), an empty body, no trailers, and leaves exactly `rest`;
  `response_roundtrip_bodiless_declared`: the same when the head still announces `Content-Length: n` or
  `chunked` (status changed to 204 after `SetBodyStream`): the announcement is ignored, nothing consumed;
* `response_head_HEAD`, `response_roundtrip_HEAD`: the answer to a HEAD request (`RT.wfRespH`: any status
  but the interim ones, body length below 2^63): the head carries the framing of the body that was not sent
  (`headFraming`: `Content-Length` of a non-empty byte body, `chunked` for a stream, nothing for an empty
  body - then the reader notes "identity until close"), no body byte is on the wire, `ReadHeaders`
  stops exactly at the end of the head; with the client's `SkipBody` flag (`RespRead.readResponseSkip true`;
  `skipbody_off_is_readResponse`: with the flag off it IS the model function) the result is the head, an
  empty body and `rest`;
* `response_roundtrip_until_close`: a response framed by closing the connection (head without
  `Content-Length`/`Transfer-Encoding`, status that may carry a body, `RT.wfRespC`), under either end
  behaviour (`readBodyIdentity` stops at the first read error, EOF or time-out): the body is every byte
  after the head, `rest` is empty, the head is that of the `Content-Length` case with `Connection: close`.

Sequences of exchanges over keep-alive connections (`Model/Http1/Exchange.lean`: `HostClient.Do` for one caller, the
connection carrying its unread bytes with it; compared with the real `client.Client` by the harness op `c11seq`), the
client's streaming mode, interim responses and hertz's part of the multipart writer have sections of their own below;
what each theorem claims stands above it.

TODO-OPEN (not proved as theorems; evaluated per explored case by the spec step):
* the request writer's bytes under the model of hertz's own server-side reader (`request_decodes` is about the strict
  decoder; the server reader is run on them per case);
* field names that are not in `normalizeKey` form when normalisation is on (the reader returns the
  normalised name), values with SP/HTAB at the ends (the reader trims them): excluded by `wfResp`;
* the hijacked chunked writer (`Resp.writerWire`) as a body source of `WResp` (its wire equals
  `chunkedWire` of the non-empty writes; C04 `writer_body_decodes` covers the strict reader).
* streaming mode / interim responses / multipart writer: `101` with
  `Connection: Upgrade` (the connection is handed to the application) and the automatic switch to streaming for
  `text/event-stream` responses of unknown length are not modelled; the second stage of `req.handleMultipart`
  (`ReadForm` + `MarshalMultipartForm`, map order) is `mime/multipart`'s; `MultipartRT.Clean.content` is stated with the
  decoder's own first-occurrence function (implied by "no CR in the boundary and `CRLF--boundary` not a substring of the
  content", not proved); the prefetched length over the limit and drain-or-close of a chunked rest are parameters of the
  model checked for admissibility per case, not predicted.
Observed, outside the property (C05 covers CR/LF only): NUL and other control bytes in header values
set by the application are written verbatim; net/http refuses such a request.
-/
namespace Hertz.Props.C11
open Hertz Hertz.H1 Hertz.H1.RespRead

theorem takeBody_len (e : End) (n : Nat) (s b r : Bytes) (h : takeBody e n s = .ok (b, r)) : b.length = n := by
  obtain ⟨hn, rfl, _⟩ := takeBody_ok.mp h
  exact List.length_take_of_le hn

theorem readIdentity_len (m : Nat) (s b r : Bytes) (hm : 0 < m) (h : readIdentity m s = .ok (b, r)) : b.length ≤ m := by
  unfold readIdentity at h
  by_cases hl : m > 0 ∧ s.length > m
  · simp [hl] at h
  · simp only [hl, if_false, Except.ok.injEq, Prod.mk.injEq] at h
    rw [← h.1]
    have : ¬ (s.length > m) := fun hc => hl ⟨hm, hc⟩
    omega

theorem bodyPart_max (dn : Bool) (maxBody : Nat) (e : End) (hd : RespHead) (s1 : Bytes) (r : Result)
    (hm : 0 < maxBody) (h : readBodyPart dn maxBody e hd s1 = .ok r) : r.body.length ≤ maxBody := by
  revert h
  fun_cases readBodyPart dn maxBody e hd s1 <;> intro h <;> cases h
  · exact Nat.zero_le _
  · rename_i hlim b _ ht
    have hb : b.length = hd.cl.toNat := takeBody_len e _ _ _ _ ht
    have : ¬ (hd.cl.toNat > maxBody) := fun hc => hlim ⟨hm, hc⟩
    show b.length ≤ maxBody
    omega
  · rename_i hc _ _ _
    exact readBodyChunked_le e maxBody hm _ [] s1 _ _ (Nat.zero_le _) hc
  · rename_i hc _ _
    exact readBodyChunked_le e maxBody hm _ [] s1 _ _ (Nat.zero_le _) hc
  · rename_i hi
    exact readIdentity_len maxBody s1 _ _ hm hi

/-- with a positive `MaxResponseBodySize` no accepted response has a longer body -/
theorem max_size_enforced (dn : Bool) (maxBody : Nat) (e : End) (s : Bytes) (r : Result)
    (hm : 0 < maxBody) (h : readResponse dn maxBody e s = .ok r) : r.body.length ≤ maxBody := by
  unfold readResponse at h
  split at h
  · simp at h
  · exact bodyPart_max dn maxBody e _ _ r hm h

theorem setContentLength_status (hd : RespHead) (n : Nat) : (RespRead.setContentLength hd n).status = hd.status := by
  unfold RespRead.setContentLength; split <;> rfl

theorem bodyPart_bodiless (dn : Bool) (maxBody : Nat) (e : End) (hd : RespHead) (s1 : Bytes) (r : Result)
    (h : readBodyPart dn maxBody e hd s1 = .ok r) (hs : mustSkipCL r.head.status = true) : r.body = [] := by
  revert h
  fun_cases readBodyPart dn maxBody e hd s1 <;> intro h <;> cases h
  · rfl
  -- every way of returning a body keeps the status, which is not a bodiless one
  all_goals
    simp only [setContentLength_status] at hs
    contradiction

/-- 1xx/204/304 responses never carry a body, whatever framing fields they have -/
theorem bodiless_status_no_body (dn : Bool) (maxBody : Nat) (e : End) (s : Bytes) (r : Result)
    (h : readResponse dn maxBody e s = .ok r) (hs : mustSkipCL r.head.status = true) : r.body = [] := by
  unfold readResponse at h
  split at h
  · simp at h
  · exact bodyPart_bodiless dn maxBody e _ _ r h hs

/-- non-vacuity: a 5-byte body is refused under a 4-byte limit and accepted under a 5-byte limit. -/
example :
    (match readResponse false 4 .eof [72,84,84,80,47,49,46,49,32,50,48,48,32,79,75,13,10,67,111,110,116,101,110,116,45,76,101,110,103,116,104,58,32,53,13,10,13,10,1,2,3,4,5] with
     | .error .tooLarge => true | _ => false) = true ∧
    (match readResponse false 5 .eof [72,84,84,80,47,49,46,49,32,50,48,48,32,79,75,13,10,67,111,110,116,101,110,116,45,76,101,110,103,116,104,58,32,53,13,10,13,10,1,2,3,4,5] with
     | .ok r => r.body == [1,2,3,4,5] | _ => false) = true := by decide +kernel

open Hertz.H1.RT in
/-- stage 1 (body): the client's chunk reader on the writer's chunk encoding -/
theorem response_body_chunked (e : End) (maxBody : Nat) (cs : List Bytes) (X dst : Bytes) (fuel : Nat)
    (hc : ∀ c ∈ cs, c ≠ [] ∧ c.length < 16 ^ 15) (hf : cs.length < fuel)
    (hm : maxBody = 0 ∨ dst.length + cs.flatten.length ≤ maxBody) :
    readBodyChunked e maxBody fuel dst (H1.Resp.encodeChunks cs ++ H1.Resp.writeChunk [] ++ X) = .ok (dst ++ cs.flatten, X) :=
  readBodyChunked_encode e maxBody cs X dst fuel hc hf hm

example : (∀ c ∈ [[1, 2, 3], [4]], c ≠ ([] : Bytes) ∧ c.length < 16 ^ 15) ∧ [[1, 2, 3], [4]].length < 3 := by decide

open Hertz.H1.RT in
/-- stage 2 (head): `ReadHeaders` on a status line and any well-formed field list written by
`appendHeaderLine` returns the status and (through the reader's field switch `applyHeader`) exactly
the fields written, in order, and stops exactly at the end of the head. -/
theorem response_head_roundtrip (dn : Bool) (e : End) (st : Nat) (reason : Bytes) (fs : List (Bytes × Bytes)) (X : Bytes)
    (hst : st < 2 ^ 63) (h100 : isInterim st = false) (hr : ∀ x ∈ reason, x ≠ 13 ∧ x ≠ 10) (h : wfFields dn fs = true)
    (herr : (scanned dn st fs).err = false) :
    readHeaders dn e (statusLine st reason ++ Gen.Str.strCRLF ++ HW.block fs ++ X) =
      .ok (finishHead (scanned dn st fs).head, X) := by
  rw [readHeaders_head dn e st reason fs X hst hr h herr, h100]
  rfl

/-- non-vacuity: `X-Id: 7`, `Etag: "a b"` -/
example : H1.RT.wfFields false [([88, 45, 73, 100], [55]), ([69, 116, 97, 103], [34, 97, 32, 98, 34])] = true := by
  decide +kernel

open Hertz.H1.RT in
theorem response_roundtrip (dn : Bool) (maxBody : Nat) (e : End) (r : WResp) (rest : Bytes)
    (hw : wfResp dn r = true) (hmax : maxBody = 0 ∨ r.body.content.length ≤ maxBody) :
    readResponse dn maxBody e (respWire r ++ rest) =
      .ok { head := r.seenHead, body := r.body.content, trailers := [], rest := rest } :=
  H1.RT.response_roundtrip dn maxBody e r rest hw hmax

open Hertz.H1.RT in
/-- corollary in the words of the property: status, fields and body as sent, rest untouched -/
theorem response_roundtrip_view (dn : Bool) (maxBody : Nat) (e : End) (r : WResp) (rest : Bytes)
    (hw : wfResp dn r = true) (hmax : maxBody = 0 ∨ r.body.content.length ≤ maxBody) :
    ∃ res, readResponse dn maxBody e (respWire r ++ rest) = .ok res ∧
      res.head.status = r.status ∧ res.head.h = r.seenFields ∧ res.head.contentType = r.contentType ∧
      res.head.server = r.server ∧ res.head.cookies = r.cookies ∧ res.head.connClose = r.connClose ∧
      res.body = r.body.content ∧ res.rest = rest :=
  ⟨_, H1.RT.response_roundtrip dn maxBody e r rest hw hmax, rfl, rfl, rfl, rfl, rfl, rfl, rfl, rfl⟩

/-- non-vacuity: `200 OK`, Server `hz`, Date `now`, Content-Type `t/p`, `X-Id: 7`, a cookie, `Connection: close`,
body `hello` with Content-Length; and the same streamed in pieces `he`, ``, `llo` (chunked) -/
example : H1.RT.wfResp false H1.RT.exFixed = true ∧ H1.RT.wfResp true H1.RT.exChunked = true := by
  decide +kernel

open Hertz.H1.RT in
/-- a streamed response with trailer fields: status, fields, body AND the trailer fields come back -/
theorem response_roundtrip_trailers (dn : Bool) (maxBody : Nat) (e : End) (r : WRespT) (rest : Bytes)
    (hw : wfRespT dn r = true) (hmax : maxBody = 0 ∨ r.base.body.content.length ≤ maxBody) :
    readResponse dn maxBody e (respWireT r ++ rest) =
      .ok { head := r.seenHead, body := r.base.body.content, trailers := r.trailers, rest := rest } :=
  H1.RT.response_roundtrip_trailers dn maxBody e r rest hw hmax

example : H1.RT.wfRespT false H1.RT.exTrailers = true := by decide +kernel

/-- non-vacuity for a trailer name starting with `0` (`0a: b`, the witness of the repaired
desynchronisation f1dae26): well-formed, hence covered by the theorem -/
example : H1.RT.wfRespT false H1.RT.exTrailers0 = true := by decide +kernel

open Hertz.H1.RT in
/-- the wire of the theorems below is the wire of `response_roundtrip` when the request was not HEAD -/
theorem response_wire_nonHEAD (r : WResp) (hs : mustSkipCL r.status = false) : respWireH r false = respWire r := by
  cases hb : r.body with
  | fixed b => rw [respWireH, respWire, frame_fixed r b hs hb, WResp.hdr_fixed hb]
  | chunked rs => rw [respWireH, respWire, frame_chunked r rs hs hb, WResp.hdr_chunked hb]

example : mustSkipCL H1.RT.exFixed.status = false ∧ mustSkipCL H1.RT.exChunked.status = false := by decide

open Hertz.H1.RT in
/-- stage (head, any framing): `ReadHeaders` on the head `resp.Write` produces for framing `f` -/
theorem response_head_roundtrip_framed (dn : Bool) (e : End) (r : WResp) (f : H1.Resp.Framing) (rest : Bytes)
    (hw : wfHeadB dn r = true) (h100 : isInterim r.status = false) (hn : ∀ n, f = .cl n → n < 2 ^ 63) :
    readHeaders dn e ((r.hdrFor f).bytes ++ rest) = .ok (r.seenHeadFor f, rest) :=
  readHeaders_hdrFor dn e r f rest (wfHeadB_parts hw) h100 hn

theorem exFixed_wfHead : H1.RT.wfHeadB false H1.RT.exFixed = true := by decide +kernel

/-- non-vacuity: the head of `exFixed` (Server, Date, Content-Type, `X-Id`, cookie, `Connection: close`) with each framing -/
example : H1.RT.wfHeadB false H1.RT.exFixed = true ∧ isInterim H1.RT.exFixed.status = false ∧
    (∀ n, (H1.Resp.Framing.cl 5) = .cl n → n < 2 ^ 63) ∧
    (H1.RT.exFixed.seenHeadFor .chunked).cl = -1 ∧ (H1.RT.exFixed.seenHeadFor (.cl 5)).clBytes = [53] ∧
    (H1.RT.exFixed.seenHeadFor .none).connClose = true := by
  refine ⟨exFixed_wfHead, by decide, ?_, by decide +kernel, by decide +kernel, by decide +kernel⟩
  intro n h; cases h; decide

open Hertz.H1.RT in
/-- 1xx other than the interim ones, 204, 304: head only, no body whatever the handler set, following bytes untouched -/
theorem response_roundtrip_bodiless (dn : Bool) (maxBody : Nat) (e : End) (r : WResp) (isHead : Bool) (rest : Bytes)
    (hw : wfBodiless dn r = true) :
    readResponse dn maxBody e (respWireH r isHead ++ rest) =
      .ok { head := r.seenHeadBodiless, body := [], trailers := [], rest := rest } :=
  H1.RT.response_roundtrip_bodiless dn maxBody e r isHead rest hw

open Hertz.H1.RT in
/-- a bodiless status whose head still announces a framing (`f`): the announcement is ignored -/
theorem response_roundtrip_bodiless_declared (dn : Bool) (maxBody : Nat) (e : End) (r : WResp) (f : H1.Resp.Framing)
    (rest : Bytes) (hw : wfBodiless dn r = true) (hn : ∀ n, f = .cl n → n < 2 ^ 63) :
    readResponse dn maxBody e ((r.hdrFor f).bytes ++ rest) =
      .ok { head := r.seenHeadFor f, body := [], trailers := [], rest := rest } :=
  H1.RT.response_roundtrip_bodiless_declared dn maxBody e r f rest hw hn

/-- non-vacuity: `204 No Content` with Server, `X-Id: 7`, a cookie and a handler-set body `hello`;
`304` with an `Etag` and a body stream; and what the reader returns for the first, followed by `1 2 3` -/
example : H1.RT.wfBodiless false H1.RT.exNoContent = true ∧ H1.RT.wfBodiless true H1.RT.exNotModified = true := by
  decide +kernel

example : (readResponse false 0 .eof (H1.RT.respWireH H1.RT.exNoContent false ++ [1, 2, 3])).toOption.map
      (fun x => (x.head.status, x.head.cl, x.head.h, x.body, x.rest)) =
    some (204, -2, [([88, 45, 73, 100], [55])], [], [1, 2, 3]) := by
  rw [H1.RT.response_roundtrip_bodiless false 0 .eof _ false _ (by decide +kernel)]
  rfl

/-- `204` announcing `Content-Length: 3`, followed by `1 2 3`: no body, the three bytes stay -/
example : (readResponse false 0 .eof ((H1.RT.exNoContent.hdrFor (.cl 3)).bytes ++ [1, 2, 3])).toOption.map
      (fun x => (x.head.cl, x.body, x.rest)) = some (3, [], [1, 2, 3]) := by
  rw [H1.RT.response_roundtrip_bodiless_declared false 0 .eof _ (.cl 3) _ (by decide +kernel) (by intro n h; cases h; decide)]
  rfl

open Hertz.H1.RT in
/-- answer to HEAD, the head: framing fields of the body that was not sent, nothing after the head consumed -/
theorem response_head_HEAD (dn : Bool) (e : End) (r : WResp) (rest : Bytes) (hw : wfRespH dn r = true) :
    readHeaders dn e (respWireH r true ++ rest) = .ok (r.seenHeadFor r.headFraming, rest) :=
  H1.RT.response_head_HEAD dn e r rest hw

open Hertz.H1.RT in
/-- with `SkipBody` off the extended reader is the model function `readResponse` -/
theorem skipbody_off_is_readResponse (dn : Bool) (maxBody : Nat) (e : End) (s : Bytes) :
    readResponseSkip false dn maxBody e s = readResponse dn maxBody e s := by
  unfold readResponseSkip readResponse
  cases readHeaders dn e s with
  | error x => rfl
  | ok v => rfl

open Hertz.H1.RT in
/-- answer to HEAD read with `SkipBody` (as the client does): head, empty body, `rest` untouched -/
theorem response_roundtrip_HEAD (dn : Bool) (maxBody : Nat) (e : End) (r : WResp) (rest : Bytes) (hw : wfRespH dn r = true) :
    readResponseSkip true dn maxBody e (respWireH r true ++ rest) =
      .ok { head := r.seenHeadFor r.headFraming, body := [], trailers := [], rest := rest } :=
  H1.RT.response_roundtrip_HEAD dn maxBody e r rest hw

/-- non-vacuity: the `200`/`hello` and the streamed `404` example answering HEAD (announced framing
`Content-Length: 5` resp. `chunked`), the close-delimited example with its body (`Content-Length: 5`),
the same without a body (no framing field), a `204` -/
example : H1.RT.wfRespH false H1.RT.exFixed = true ∧ H1.RT.wfRespH true H1.RT.exChunked = true ∧
    H1.RT.wfRespH false H1.RT.exNoContent = true ∧
    H1.RT.exFixed.headFraming = .cl 5 ∧ H1.RT.exChunked.headFraming = .chunked ∧
    ({ H1.RT.exUntilClose with body := .fixed [] } : H1.RT.WResp).headFraming = .none ∧
    H1.RT.exNoContent.headFraming = .none := by
  decide +kernel

/-- the head a client holds after a HEAD exchange with `exFixed`: `Content-Length: 5` known, no body read,
and the next response's first bytes (`HT`) still on the connection -/
example : (readResponseSkip true false 0 .stall (H1.RT.respWireH H1.RT.exFixed true ++ [72, 84])).toOption.map
      (fun x => (x.head.cl, x.head.clBytes, x.body, x.rest)) = some (5, [53], [], [72, 84]) := by
  rw [H1.RT.response_roundtrip_HEAD false 0 .stall _ _ (by decide +kernel)]
  decide +kernel

open Hertz.H1.RT in
/-- read-until-close framing: the body is every byte after the head -/
theorem response_roundtrip_until_close (dn : Bool) (maxBody : Nat) (e : End) (r : WResp) (hw : wfRespC dn r = true)
    (hmax : maxBody = 0 ∨ r.body.content.length ≤ maxBody) :
    readResponse dn maxBody e (closeWire r) =
      .ok { head := { r.seenHead with connClose := true }, body := r.body.content, trailers := [], rest := [] } :=
  H1.RT.response_roundtrip_until_close dn maxBody e r hw hmax

/-- non-vacuity: `HTTP/1.1 200 OK`, `X-Id: 7`, empty line, `hello`, EOF -/
example : H1.RT.wfRespC false H1.RT.exUntilClose = true ∧
    H1.RT.closeWire H1.RT.exUntilClose =
      [72, 84, 84, 80, 47, 49, 46, 49, 32, 50, 48, 48, 32, 79, 75, 13, 10, 88, 45, 73, 100, 58, 32, 55, 13, 10, 13, 10,
       104, 101, 108, 108, 111] := by
  decide +kernel

/-- the size bound on chunks in `wfResp` is tight: `WriteHexInt(16^15)` has 16 digits and is refused -/
theorem chunk_size_limit_tight (e : End) (X : Bytes) :
    parseChunkSize e (H1.Resp.writeHexInt (16 ^ 15) ++ 13 :: 10 :: X) = .error .bad := by
  rw [show H1.Resp.writeHexInt (16 ^ 15) = [49, 48, 48, 48, 48, 48, 48, 48, 48, 48, 48, 48, 48, 48, 48, 48] by decide +kernel]
  have h0 : hex2int 48 = 0 := by decide +kernel
  have h1 : hex2int 49 = 1 := by decide +kernel
  simp [parseChunkSize, readHexInt, readHexIntAux, h0, h1, H1.RT.maxHex]

open Hertz.ReqDecodes in
/-- for every well-formed request (`ReqDecodes.WfRequest`: token method, visible target, token names, clean trimmed values,
framing fields consistent with the body: none / `Content-Length` = decimal length / `Transfer-Encoding: chunked` with pieces
below `16^15` bytes and well-formed trailer fields) the request writer model's bytes followed by any `rest` decode, with the
strict decoder, to the same method, target, fields (all of them, in order), body and trailers, leaving exactly `rest` -/
theorem request_decodes (r : HW.ReqHdr) (b : ReqBody) (rest : Bytes) (h : WfRequest r b) :
    Spec.Http.decodeOne (reqWire r b ++ rest) =
      some ({ method := r.methodOrGet, target := reqTarget r, fields := r.fields, body := b.content,
              trailers := b.trailers, foldedColon := false }, rest) :=
  ReqDecodes.request_decodes r b rest h

/-- non-vacuity: `POST /p` with User-Agent, Host, Content-Type, `Content-Length: 3`, `X-Y: 1 2`, a cookie,
`Connection: close` and the body `xyz` -/
example : ReqDecodes.WfRequest ReqDecodes.exPost (.fixed [120, 121, 122]) :=
  ReqDecodes.exPost_wf

/-! ### sequences of exchanges on keep-alive connections -/

open Hertz.H1.Exchange in
/-- whenever an exchange does not return a response (header or body read error, `ErrBodyTooLarge`, time-out,
`ErrBadPoolConn`) no connection goes back to the idle pool - so nothing a refused response left unread can be taken for
the next response -/
theorem failed_exchange_closes_connection (cfg : Exchange.Cfg) (st : Exchange.St) (rq : Exchange.Req) (sv : Exchange.Srv)
    (h : (Exchange.exchange cfg st rq sv).2.isOk = false) : (Exchange.exchange cfg st rq sv).1.idle = none :=
  Exchange.exchange_idle_of_not_ok cfg st rq sv h

def exBig : Exchange.Srv := { resp := [72, 84, 84, 80, 47, 49, 46, 49, 32, 50, 48, 48, 32, 79, 75, 13, 10, 67, 111, 110, 116, 101, 110, 116, 45, 76, 101, 110, 103, 116, 104, 58, 32, 53, 13, 10, 13, 10, 104, 101, 108, 108, 111] }
def exSmall : Exchange.Srv := { resp := [72, 84, 84, 80, 47, 49, 46, 49, 32, 50, 48, 48, 32, 79, 75, 13, 10, 67, 111, 110, 116, 101, 110, 116, 45, 76, 101, 110, 103, 116, 104, 58, 32, 50, 13, 10, 13, 10, 104, 105] }

/-- what the client reads off the two-byte answer -/
theorem exSmall_read : (readResponse false 0 .stall exSmall.resp).toOption.map (fun r => (r.head.status, r.body, r.rest)) =
    some (200, [104, 105], []) := by decide +kernel

/-- non-vacuity: a 5-byte body against a limit of 3 is refused and the next exchange dials again and succeeds;
without the limit both succeed on one connection -/
example : ((Exchange.run { maxBody := 3 } {} [({}, exBig), ({}, exSmall)]).map (fun x => (x.1, x.2.isOk))) = [(1, false), (2, true)] ∧
          ((Exchange.run { maxBody := 0 } {} [({}, exBig), ({}, exSmall)]).map (fun x => (x.1, x.2.isOk))) = [(1, true), (1, true)] := by
  decide +kernel

/-- `HTTP/1.1 200 OK`, `Connection: Close` (capital C), `Content-Length: 2`, `hi` -/
def exCloseCase : Exchange.Srv := { resp := [72, 84, 84, 80, 47, 49, 46, 49, 32, 50, 48, 48, 32, 79, 75, 13, 10,
  67, 111, 110, 110, 101, 99, 116, 105, 111, 110, 58, 32, 67, 108, 111, 115, 101, 13, 10,
  67, 111, 110, 116, 101, 110, 116, 45, 76, 101, 110, 103, 116, 104, 58, 32, 50, 13, 10, 13, 10, 104, 105] }

/-- **the connection option `close` of a response is recognised in any letter case** (RFC 7230 §6.1; regression for
`/repo` a8cd011): whatever the parse state, a `Connection` field whose value is `close` in some letter case sets the close
flag and is not kept as a generic field. -/
theorem response_close_option_any_case (dn : Bool) (st : RespRead.HState) (v : Bytes)
    (h : ciEq v Gen.Str.strClose = true) :
    (RespRead.applyHeader dn st Gen.Str.strConnection v).head.connClose = true ∧
    (RespRead.applyHeader dn st Gen.Str.strConnection v).head.h = st.head.h := by
  rw [H1.RT.applyHeader_kind dn st Gen.Str.strConnection v (by decide), H1.RT.kind_conn]
  simp [H1.RT.applyKind, h]

/-- … and on the pool: after an exchange answered with `Connection: Close` the next exchange dials again (2 dials);
with keep-alive answers one connection serves both -/
theorem close_case_response_not_pooled :
    ((Exchange.run {} {} [({}, exCloseCase), ({}, exSmall)]).map (fun x => (x.1, x.2.isOk))) = [(1, true), (2, true)] ∧
    ((Exchange.run {} {} [({}, exSmall), ({}, exSmall)]).map (fun x => (x.1, x.2.isOk))) = [(1, true), (1, true)] := by
  decide +kernel

/-- with no unread bytes on the pooled connection, what an exchange returns is what the client returns for THIS exchange's
response bytes on a new connection (`Exchange.alone`), provided the request may be repeated or the pooled connection is
alive and an answer arrives; and if those bytes are one message (`SelfDelimited`, which speaks of them as read WITHOUT the
application's `SkipBody`) the pool is again free of unread bytes.  `Req.appSkip` is arbitrary. -/
theorem exchange_returns_own_response (cfg : Exchange.Cfg) (st : Exchange.St) (rq : Exchange.Req) (sv : Exchange.Srv)
    (hc : Exchange.Clean st)
    (h : rq.retryable = true ∨ (sv.resp ≠ [] ∧ ∀ c, st.idle = some c → c.peerClosed = false)) :
    (Exchange.exchange cfg st rq sv).2 = Exchange.alone cfg rq sv ∧
    (Exchange.SelfDelimited cfg rq sv → Exchange.Clean (Exchange.exchange cfg st rq sv).1) :=
  Exchange.exchange_eq_alone cfg st rq sv hc h

/-- the two-byte answer is one message for every request whose body is to be read -/
theorem exSmall_selfDelimited (rq : Exchange.Req) (hq : rq.skipBody = false) : Exchange.SelfDelimited {} rq exSmall := by
  intro r h
  rw [hq] at h
  have hv := exSmall_read
  rw [← skipbody_off_is_readResponse, show readResponseSkip false false 0 .stall exSmall.resp = .ok r from h] at hv
  exact congrArg (·.2.2) (Option.some.inj hv)

example : Exchange.Clean {} ∧ ({} : Exchange.Req).retryable = true ∧ Exchange.SelfDelimited {} {} exSmall :=
  ⟨Exchange.clean_init, rfl, exSmall_selfDelimited {} rfl⟩

/-- a response whose body was skipped at the application's wish although it has one (not HEAD, status that may carry a
body, `Content-Length` other than 0) never takes its connection back to the pool (/repo 19d2b4c): the unwanted body is
never the front of a later response -/
theorem skipped_body_closes_connection (cfg : Exchange.Cfg) (rq : Exchange.Req) (sv : Exchange.Srv) (c : Exchange.Conn)
    (inPool : Bool) (r : Result) (h : (Exchange.attempt cfg rq sv c inPool).2 = .ok r)
    (hb : Exchange.bodyUnread rq r.head = true) : (Exchange.attempt cfg rq sv c inPool).1 = none := by
  cases h1 : (Exchange.attempt cfg rq sv c inPool).1 with
  | none => rfl
  | some c' =>
    obtain ⟨r0, hr, _, hcl, _⟩ := Exchange.attempt_pooled cfg rq sv c inPool c' h1
    rw [h, Exchange.Outcome.ok.injEq] at hr
    subst hr
    simp [hb] at hcl

/-- non-vacuity: the application sets `SkipBody` for a GET answered with a 5-byte body: the response comes back without
body, the next exchange dials again and gets its own answer; for a HEAD request (the client's own skip) the connection is
used again -/
example : ((Exchange.run {} {} [({ appSkip := true }, exBig), ({}, exSmall)]).map
            (fun x => (x.1, (match x.2 with | .ok r => some r.body | _ => none)))) = [(1, some []), (2, some [104, 105])] ∧
          ((Exchange.run {} {} [({ skipBody := true }, { resp := exBig.resp.take 38 }), ({}, exSmall)]).map
            (fun x => (x.1, (match x.2 with | .ok r => some r.body | _ => none)))) = [(1, some []), (1, some [104, 105])] := by
  decide +kernel

/-- after `Do`, `resp.SkipBody` is what `Do` found (`Exchange.skipAfterDo`: each pass of `doNonNilReqResp` saves the flag,
marks it for HEAD and gives the saved value back on every way out; /repo 07a471c).  The model of a pass returns the saved
value by definition: that the code does so on every path is what the correspondence check (`c11seq`) compares. -/
theorem skip_flag_restored (cfg : Exchange.Cfg) (st : Exchange.St) (rq : Exchange.Req) (sv : Exchange.Srv) :
    Exchange.skipAfterDo cfg st rq sv = rq.appSkip :=
  Exchange.skipAfterDo_eq cfg st rq sv

/-- non-vacuity: a HEAD request on a pooled connection the peer has closed IS retried (two passes), and the flag after
`Do` is still the application's `false`; with the application's flag set it is still `true` -/
example : Exchange.retried {} { idle := some { peerClosed := true } } { skipBody := true } exSmall = true ∧
    Exchange.skipAfterDo {} { idle := some { peerClosed := true } } { skipBody := true } exSmall = false ∧
    Exchange.skipAfterDo {} { idle := some { peerClosed := true } } { skipBody := true, appSkip := true } exSmall = true := by
  decide +kernel

/-- hence, for one Response object passed to a whole sequence of calls, every call finds exactly what the application has
set so far -/
theorem response_object_keeps_application_flag (cfg : Exchange.Cfg) (xs : List (Bool × Exchange.Req × Exchange.Srv))
    (st : Exchange.St) (flag : Bool) :
    Exchange.foundFlags cfg st flag xs = Exchange.setSoFar flag (xs.map (·.1)) :=
  Exchange.foundFlags_eq cfg xs st flag

/-- non-vacuity: GET (peer closes afterwards), HEAD (retried), GET, then a GET for which the application sets the flag,
then one more GET: found flags -/
example : Exchange.foundFlags {} {} false
    [(false, {}, { exSmall with closeAfter := true }), (false, { skipBody := true }, exSmall), (false, {}, exSmall),
     (true, {}, exSmall), (false, {}, exSmall)] = [false, false, false, true, true] := by decide +kernel

/-- by induction from `exchange_returns_own_response`: for every sequence of repeatable requests (idempotent method, body
no stream) answered with one message each, from any state without unread bytes, the outcomes are those of the exchanges
taken alone - whatever the earlier exchanges were (refused for size, failed, closed by the peer) -/
theorem sequence_returns_own_responses (cfg : Exchange.Cfg) (xs : List (Exchange.Req × Exchange.Srv)) (st : Exchange.St)
    (hc : Exchange.Clean st) (hx : ∀ x ∈ xs, x.1.retryable = true ∧ Exchange.SelfDelimited cfg x.1 x.2) :
    (Exchange.run cfg st xs).map (·.2) = xs.map (fun x => Exchange.alone cfg x.1 x.2) :=
  Exchange.run_eq_alone cfg xs st hc hx

/-- non-vacuity with `SkipBody` set by the application: the hypotheses hold for such a request, and the sequence
[skipped 5-byte body, small answer] returns each exchange's own response -/
example : ({ appSkip := true } : Exchange.Req).retryable = true ∧ Exchange.SelfDelimited {} { appSkip := true } exSmall ∧
    (Exchange.run {} {} [({ appSkip := true }, exBig), ({}, exSmall)]).map (·.2) =
      [Exchange.alone {} { appSkip := true } exBig, Exchange.alone {} {} exSmall] := by
  exact ⟨rfl, exSmall_selfDelimited _ rfl, by decide +kernel⟩

/-- non-vacuity: the refused oversize answer and the small one, each as if alone -/
example : (Exchange.run { maxBody := 3 } {} [({}, exBig), ({}, exSmall)]).map (·.2) =
    [Exchange.alone { maxBody := 3 } {} exBig, Exchange.alone { maxBody := 3 } {} exSmall] := by decide +kernel

/-! ## Streaming mode (`client.WithResponseBodyStream(true)`, `Model/Http1/RespStream.lean`)

`streamResponse dn maxBody e skip s p c`: `ReadHeaders`, the prefetch of `ReadBodyWithStreaming` (`p` bytes: fixed by
the code when the declared length is within the limit, any admissible value `prefetchOk` otherwise), the stream
object (`bodyStream`, the C14 model) read by the caller `c` (buffer size, stop point), and where `skipRest` leaves
the connection.  The reference is the BUFFERED reader without a size limit (`readResponse dn 0`): in streaming mode
`MaxResponseBodySize` only bounds the prefetch (`stream_mode_limit_not_enforced`). -/

open Hertz.H1.RespStream Hertz.H1.Stream in
/-- **streaming = buffered, `Content-Length` bodies**: for EVERY byte string `s` the buffered reader accepts with a
`Content-Length` head (after interim heads or not: `ReadHeaders` is shared), whatever the limit, the
prefetched amount `p` (not beyond the declared length) and the caller's read pattern `c`: the stream exists, no read
fails, the bytes read are the first `stopAfter` bytes of the body buffered mode returns, EOF is reported only when all
of the body was read and always when the caller asks for more, the head is the buffered one before
`SetContentLength`, and `skipRest` leaves the connection exactly where buffered mode does (`r.rest`). -/
theorem stream_mode_same_response (dn : Bool) (maxBody : Nat) (e : End) (s : Bytes) (p : Nat) (c : Consume)
    (hd : RespHead) (s1 : Bytes) (r : Result)
    (hh : readHeaders dn e s = .ok (hd, s1)) (hb : readResponse dn 0 e s = .ok r)
    (hs : mustSkipCL hd.status = false) (hcl : 0 ≤ hd.cl) (hp : p ≤ hd.cl.toNat) :
    ∃ o, streamResponse dn maxBody e false s p c = .ok o ∧ SameAsBuffered r c o ∧ o.after = .resync r.rest := by
  rw [H1.RT.readResponse_of_head hh] at hb
  exact stream_same_fixed dn maxBody e s p c hd s1 r hh hb hs hcl hp

/-- what `ReadHeaders` returns for `exFixed` on the wire: the head announcing `Content-Length: 5`, and in front of the
reader the body and whatever follows -/
theorem exFixed_head (e : End) (rest : Bytes) :
    readHeaders false e (H1.RT.respWire H1.RT.exFixed ++ rest) =
      .ok (H1.RT.exFixed.seenHeadFor (H1.Resp.frame H1.RT.exFixed.prog false).framing,
           (H1.Resp.frame H1.RT.exFixed.prog false).wire ++ rest) :=
  H1.RT.readHeaders_respWire false e _ rest (H1.RT.wfHeadB_parts exFixed_wfHead) (by decide) (by intro b h; cases h; decide)

open Hertz.H1.RespStream Hertz.H1.Stream in
/-- non-vacuity: `exFixed` (body `hello`) followed by `HT`, limit 3, four bytes prefetched, the caller reads 2+2 bytes
and stops: `hell`, no EOF; reading 100: `hello` and EOF -/
example : (streamResponse false 3 .stall false (H1.RT.respWire H1.RT.exFixed ++ [72, 84]) 4 { readSize := 2, stopAfter := 4 }).toOption.map
      (fun o => (o.stream, o.got.bytes, o.got.eof, o.got.err)) = some (true, [104, 101, 108, 108], false, false) ∧
    (streamResponse false 3 .stall false (H1.RT.respWire H1.RT.exFixed ++ [72, 84]) 4 { readSize := 2, stopAfter := 100 }).toOption.map
      (fun o => (o.stream, o.got.bytes, o.got.eof, o.got.err)) = some (true, [104, 101, 108, 108, 111], true, false) := by
  rewrite [streamResponse, streamResponse, exFixed_head]
  decide +kernel

open Hertz.H1.RespStream in
/-- the hypothesis `p ≤ Content-Length` of `stream_mode_same_response` holds for every prefetched length the code can
produce (`prefetchOk`, checked per case on the implementation's value) when the peer sent no more than it declared -/
theorem stream_prefetch_within_body (maxBody : Nat) (hd : RespHead) (s1 : Bytes) (p : Nat)
    (h : prefetchOk maxBody hd s1 p = true) (hcl : 0 ≤ hd.cl) (hlen : s1.length ≤ hd.cl.toNat) : p ≤ hd.cl.toNat := by
  unfold prefetchOk at h
  have h1 : ¬ hd.cl = -1 := by omega
  have h2 : ¬ hd.cl = -2 := by omega
  simp only [h1, h2, if_false] at h
  split at h
  · simp only [beq_iff_eq] at h
    rw [h]; exact Nat.min_le_left _ _
  · simp only [Bool.and_eq_true, decide_eq_true_eq] at h
    omega

example : RespStream.prefetchOk 3 { cl := 5 } [104, 101, 108, 108, 111] 4 = true ∧ RespStream.prefetchOk 0 { cl := 5 } [104, 101, 108, 108, 111] 5 = true := by
  decide

open Hertz.H1.RespStream Hertz.H1.Stream in
/-- **streaming = buffered, bodies framed by the end of the connection** (the peer closes) -/
theorem stream_mode_same_response_until_close (dn : Bool) (maxBody : Nat) (s : Bytes) (p : Nat) (c : Consume)
    (hd : RespHead) (s1 : Bytes) (r : Result)
    (hh : readHeaders dn .eof s = .ok (hd, s1)) (hb : readResponse dn 0 .eof s = .ok r)
    (hs : mustSkipCL hd.status = false) (hcl : hd.cl = -2) :
    ∃ o, streamResponse dn maxBody .eof false s p c = .ok o ∧ SameAsBuffered r c o := by
  rw [H1.RT.readResponse_of_head hh] at hb
  exact stream_same_identity dn maxBody s p c hd s1 r hh hb hs hcl

open Hertz.H1.RespStream Hertz.H1.Stream in
example : (streamResponse false 3 .eof false (H1.RT.exUntilClose.hdr.bytes ++ [1, 2, 3, 4, 5]) 5 { readSize := 2, stopAfter := 9 }).toOption.map
      (fun o => (o.stream, o.got.bytes, o.got.eof, o.got.err)) = some (true, [1, 2, 3, 4, 5], true, false) := by
  decide +kernel

open Hertz.H1.RespStream Hertz.H1.Stream in
/-- **streaming, chunked bodies**: for every well-formed chunked encoding `m` behind the head (`ChunkedMsg.Wf`: any
chunking, size lines of 1..15 hex digits with blanks, ANY trailer section, anything behind it) the bytes read are a
prefix of the de-chunked body (the body the strict decoder assigns: C14 `chunked_msg_is_spec_encoding`), never more
than asked for; if no read failed they are exactly its first `stopAfter` bytes and EOF is reported iff the caller
asked for more than the body; the head is the one `ReadHeaders` returned. -/
theorem stream_mode_same_response_chunked (dn : Bool) (maxBody : Nat) (e : End) (s : Bytes) (p : Nat) (c : Consume)
    (hd : RespHead) (m : ChunkedMsg) (rest : Bytes)
    (hh : readHeaders dn e s = .ok (hd, m.bytes ++ rest)) (hs : mustSkipCL hd.status = false) (hcl : hd.cl = -1) (hm : m.Wf) :
    ∃ o, streamResponse dn maxBody e false s p c = .ok o ∧ o.stream = true ∧ o.fault = false ∧ o.head = hd ∧
      o.got.bytes <+: m.body ∧ o.got.bytes.length ≤ c.stopAfter ∧
      (o.got.err = false → o.got.bytes = m.body.take c.stopAfter ∧ (o.got.eof = true ↔ m.body.length < c.stopAfter)) := by
  rw [streamResponse_body dn maxBody e s p c hd _ _ _ hh hs (by omega) (by omega)
    (streamBody_chunked _ e (asReq hd) _ c (by simpa [asReq] using hcl))]
  simp only
  exact ⟨_, rfl, rfl, rfl, rfl, chunked_reads _ e _ c m hm rest _⟩

open Hertz.H1.RespStream Hertz.H1.Stream in
/-- with a positive buffer size and an empty trailer section no read of a well-formed chunked body fails -/
theorem stream_chunked_no_read_error (dn : Bool) (maxBody : Nat) (e : End) (s : Bytes) (p : Nat) (c : Consume)
    (hd : RespHead) (m : ChunkedMsg) (rest : Bytes)
    (hh : readHeaders dn e s = .ok (hd, m.bytes ++ rest)) (hs : mustSkipCL hd.status = false) (hcl : hd.cl = -1) (hm : m.Wf)
    (hr : 0 < c.readSize) (htr : m.trailer = [13, 10]) :
    ∃ o, streamResponse dn maxBody e false s p c = .ok o ∧ o.got.err = false := by
  rw [streamResponse_body dn maxBody e s p c hd _ _ _ hh hs (by omega) (by omega)
    (streamBody_chunked _ e (asReq hd) _ c (by simpa [asReq] using hcl))]
  refine ⟨_, rfl, ?_⟩
  refine chunked_no_error _ e _ c m hm rest _ hr (by omega) ?_
  intro x
  rw [htr]
  simp [readTrailerReq_empty]

open Hertz.H1.RespStream Hertz.H1.Stream in
/-- non-vacuity: `exChunked` (`he`,`llo`) read in 2-byte pieces, stop after 3: `hel`; read to the end: `hello`, EOF -/
example : (streamResponse false 0 .stall false (H1.RT.respWire H1.RT.exChunked ++ [72, 84]) 0 { readSize := 2, stopAfter := 3 }).toOption.map
      (fun o => (o.stream, o.got.bytes, o.got.eof, o.got.err)) = some (true, [104, 101, 108], false, false) ∧
    (streamResponse false 0 .stall false (H1.RT.respWire H1.RT.exChunked ++ [72, 84]) 0 { readSize := 2, stopAfter := 9 }).toOption.map
      (fun o => (o.stream, o.got.bytes, o.got.eof, o.got.err)) = some (true, [104, 101, 108, 108, 111], true, false) := by
  rewrite [streamResponse, streamResponse, H1.RT.readHeaders_respWire false _ _ _ (H1.RT.wfHeadB_parts (by decide +kernel))
    (by decide) (by intro b h; cases h)]
  decide +kernel

open Hertz.H1.RespStream in
/-- **trailers after EOF**: what the stream object stores in `resp.Header.Trailer()` when the caller reaches the end of a
chunked body (`trailersAtEOF`: `ReadTrailer` behind the last-chunk line, compared with the real client per case) is the
trailer buffered mode returns for the same bytes, for every chunked response the buffered reader accepts -/
theorem stream_trailers_after_eof (dn : Bool) (e : End) (s : Bytes) (hd : RespHead) (s1 : Bytes) (r : Result)
    (hh : readHeaders dn e s = .ok (hd, s1)) (hb : readResponse dn 0 e s = .ok r)
    (hs : mustSkipCL hd.status = false) (hcl : hd.cl = -1) :
    trailersAtEOF dn e hd.trailer s1 = r.trailers := by
  rw [H1.RT.readResponse_of_head hh] at hb
  exact trailersAtEOF_buffered dn e hd s1 r hb hs hcl

open Hertz.H1.RespStream Hertz.H1.Stream in
/-- non-vacuity: `exTrailers` read to the end through the stream: body `hello`, EOF, both trailer fields -/
example : (streamResponse false 0 .stall false (H1.RT.respWireT H1.RT.exTrailers ++ [72]) 0 { readSize := 3, stopAfter := 9 }).toOption.map
      (fun o => (o.got.bytes, o.got.eof, o.trailers)) =
    some ([104, 101, 108, 108, 111], true, [([88, 45, 84], [111, 107]), ([88, 45, 83, 117, 109], [57])]) := by
  rewrite [streamResponse, H1.RT.readHeaders_respWireT false _ H1.RT.exTrailers _ _ (H1.RT.wfResp_parts (by decide +kernel)) rfl
    (by decide +kernel)]
  decide +kernel

open Hertz.H1.RespStream Hertz.H1.Stream in
/-- **`MaxResponseBodySize` is not enforced in streaming mode**: limit 3, body `hello`: buffered mode refuses
(`ErrBodyTooLarge`), streaming mode hands out all five bytes (the limit bounds the prefetch only) -/
theorem stream_mode_limit_not_enforced :
    (match readResponse false 3 .stall (H1.RT.respWire H1.RT.exFixed) with | .error .tooLarge => true | _ => false) = true ∧
    (streamResponse false 3 .stall false (H1.RT.respWire H1.RT.exFixed) 4 { readSize := 8, stopAfter := 100 }).toOption.map
      (fun o => (o.got.bytes, o.got.eof)) = some ([104, 101, 108, 108, 111], true) := by
  rewrite [← List.append_nil (H1.RT.respWire H1.RT.exFixed), readResponse, streamResponse, exFixed_head]
  decide +kernel

open Hertz.H1.RespStream Hertz.H1.Stream in
/-- the region the model marks `fault`: a peer that sends more than it declared (`hello` + 2 bytes in one segment) with
the declared length over the limit: 7 bytes are prefetched (admissible: `prefetchOk`), more than the body; the model
predicts no reads there (/repo 4e91084: `Read` stops at the declared length and the connection is closed) -/
theorem stream_overread_fault_at :
    (streamResponse false 3 .stall false (H1.RT.respWire H1.RT.exFixed ++ [72, 84]) 7 { readSize := 8, stopAfter := 100 }).toOption.map
      (fun o => o.fault) = some true := by
  rewrite [streamResponse, exFixed_head]
  decide +kernel

open Hertz.H1.RespStream Hertz.H1.Stream in
/-- **closing the stream keeps the pool clean** (`Content-Length` bodies): whatever the caller read (nothing, a part,
all), whenever it closed the stream (`fin`), if the connection goes back to the idle pool at all then it holds
exactly the bytes buffered mode would have left unread (`r.rest`) - so by `exchange_returns_own_response` the next
exchange on it reads its own response whenever it would after a buffered exchange - and neither side had asked to
close.  (When `skipRest` cannot reach the end of the body, or a read failed, the connection is closed instead.) -/
theorem stream_close_keeps_pool_clean (cfg : Exchange.Cfg) (rq : Exchange.Req) (sv : Exchange.Srv) (c : Exchange.Conn)
    (inPool : Bool) (p : Nat) (cs : Consume) (fin : Fin) (drained : Bool) (c' : Exchange.Conn) (o : SOutcome)
    (hd : RespHead) (s1 : Bytes) (r : Result)
    (h : attemptS cfg rq sv c inPool p cs fin drained = (some c', o))
    (hsk : rq.skipBody = false ∧ rq.appSkip = false)
    (hh : readHeaders cfg.disableNorm (Exchange.endOf (Exchange.serve c sv)) (Exchange.serve c sv).pending = .ok (hd, s1))
    (hb : readResponse cfg.disableNorm 0 (Exchange.endOf (Exchange.serve c sv)) (Exchange.serve c sv).pending = .ok r)
    (hs : mustSkipCL hd.status = false) (hcl : 0 ≤ hd.cl) (hp : p ≤ hd.cl.toNat) :
    c'.pending = r.rest ∧ rq.connClose = false ∧ r.head.connClose = false := by
  obtain ⟨ro, _, hro, hafter, hc1, hc2⟩ := attemptS_pooled cfg rq sv c inPool p cs fin drained c' o h
  rw [hsk.1, hsk.2] at hro
  obtain ⟨o', ho', hsame, ha⟩ := stream_mode_same_response cfg.disableNorm cfg.maxBody _ _ p cs hd s1 r hh hb hs hcl hp
  have : ro = o' := by
    have := hro.symm.trans ho'
    simpa using this
  subst this
  rw [ha] at hafter
  refine ⟨?_, hc1, ?_⟩
  · rcases hafter with h1 | h1
    · simpa using h1.symm
    · cases h1
  · rw [hsame.head]; simp only [RespRead.setContentLength]; split <;> simpa using hc2

open Hertz.H1.RespStream Hertz.H1.Stream in
/-- the same for chunked bodies: for a well-formed chunked message with a trailer section of field lines, a connection
that goes back to the pool holds exactly what followed the message (`rest`) -/
theorem stream_close_keeps_pool_clean_chunked (cfg : Exchange.Cfg) (rq : Exchange.Req) (sv : Exchange.Srv) (c : Exchange.Conn)
    (inPool : Bool) (p : Nat) (cs : Consume) (fin : Fin) (drained : Bool) (c' : Exchange.Conn) (o : SOutcome)
    (hd : RespHead) (m : ChunkedMsg) (ls : List Bytes) (rest : Bytes)
    (h : attemptS cfg rq sv c inPool p cs fin drained = (some c', o))
    (hsk : rq.skipBody = false ∧ rq.appSkip = false)
    (hh : readHeaders cfg.disableNorm (Exchange.endOf (Exchange.serve c sv)) (Exchange.serve c sv).pending = .ok (hd, m.bytes ++ rest))
    (hs : mustSkipCL hd.status = false) (hcl : hd.cl = -1) (hm : m.Wf)
    (hls : ∀ l ∈ ls, TrFieldOk l) (htr : m.trailer = encTrailer ls) :
    c'.pending = rest := by
  obtain ⟨ro, _, hro, hafter, _, _⟩ := attemptS_pooled cfg rq sv c inPool p cs fin drained c' o h
  rw [hsk.1, hsk.2] at hro
  obtain ⟨o', ho', ha⟩ := stream_chunked_after cfg.disableNorm cfg.maxBody _ _ p cs hd m ls rest hh hs hcl hm hls htr
  have : ro = o' := by
    have := hro.symm.trans ho'
    simpa using this
  subst this
  rw [ha] at hafter
  -- `after` is `.closed` (excluded: a connection went back to the pool), `.resync rest` or `.either rest`
  split at hafter
  · rcases hafter with h1 | h1 <;> cases h1
  · split at hafter
    · rcases hafter with h1 | h1
      · simpa using h1.symm
      · cases h1
    · rcases hafter with h1 | h1
      · cases h1
      · simpa using h1.symm

open Hertz.H1.RespStream Hertz.H1.Stream in
/-- non-vacuity: the caller reads 2 of 5 bytes and closes; the connection goes back to the pool standing behind the body,
and the next (streamed) exchange on it reads its own response -/
example : ((exchangeS {} {} {} exBig 5 { readSize := 2, stopAfter := 2 } .close true).1.idle.map (·.pending)) = some [] ∧
    ((exchangeS {} (exchangeS {} {} {} exBig 5 { readSize := 2, stopAfter := 2 } .close true).1 {} exSmall 2
        { readSize := 8, stopAfter := 8 } .close true).1.dials) = 1 := by
  decide +kernel

/-! ## Interim responses

`resp.ReadHeaders` reads one head and, while its status is a registered interim status (`100`, `102`, `103`), one more
(`/repo` 8ec4dd8).  The request plays no role (no `Expect` test), so an unsolicited interim response is skipped like a
solicited one.  `101` and unregistered 1xx codes are final for the reader (`isInterim`).  Regression witnesses:
`interim_103_skipped_repaired`, `interim_two_100_skipped_repaired`, `interim_103_pool_clean`. -/

/-- **interim responses are skipped**: for every interim head a server can write with status 100, 102 or 103 (any reason
phrase without CR/LF, any well-formed field list), whatever follows (`X`: a conforming final response, further interim
heads, a malformed one, nothing), under any limit and end behaviour: the reader returns for `interim ++ X` exactly what
it returns for `X` - status, fields, body, trailers, unread rest, or the same error. -/
theorem interim_skipped (dn : Bool) (maxBody : Nat) (e : End) (st : Nat) (reason : Bytes) (fs : List (Bytes × Bytes)) (X : Bytes)
    (hi : isInterim st = true)
    (hr : ∀ x ∈ reason, x ≠ 13 ∧ x ≠ 10) (h : H1.RT.wfFields dn fs = true) (herr : (H1.RT.scanned dn st fs).err = false) :
    readResponse dn maxBody e (H1.RT.interimHead st reason fs ++ X) = readResponse dn maxBody e X := by
  unfold readResponse
  rw [H1.RT.readHeaders_interim dn e st reason fs X hi hr h herr]

/-- **any number of them** (RFC 9110 §15.2: "one or more 1xx responses prior to a final response") -/
theorem interims_skipped (dn : Bool) (maxBody : Nat) (e : End) (is : List H1.RT.IHead) (X : Bytes)
    (h : ∀ i ∈ is, i.Wf dn) :
    readResponse dn maxBody e ((is.map H1.RT.IHead.bytes).flatten ++ X) = readResponse dn maxBody e X := by
  unfold readResponse
  rw [H1.RT.readHeaders_interims dn e is X h]

/-- the same with `resp.SkipBody` (HEAD) and in streaming mode: all three readers share `ReadHeaders` -/
theorem interim_skipped_any_mode (dn : Bool) (maxBody : Nat) (e : End) (is : List H1.RT.IHead) (X : Bytes)
    (skip : Bool) (p : Nat) (c : Stream.Consume) (h : ∀ i ∈ is, i.Wf dn) :
    RespRead.readResponseSkip skip dn maxBody e ((is.map H1.RT.IHead.bytes).flatten ++ X) = RespRead.readResponseSkip skip dn maxBody e X ∧
    RespStream.streamResponse dn maxBody e skip ((is.map H1.RT.IHead.bytes).flatten ++ X) p c = RespStream.streamResponse dn maxBody e skip X p c := by
  constructor
  · unfold RespRead.readResponseSkip
    rw [H1.RT.readHeaders_interims dn e is X h]
  · unfold RespStream.streamResponse
    rw [H1.RT.readHeaders_interims dn e is X h]

/-- non-vacuity: `HTTP/1.1 100 Continue` + `X-Note: go` in front of the 2-byte answer: hypotheses hold, the answer comes back -/
example : H1.RT.wfFields false [([88, 45, 78, 111, 116, 101], [103, 111])] = true ∧
    (H1.RT.scanned false 100 [([88, 45, 78, 111, 116, 101], [103, 111])]).err = false ∧
    (readResponse false 0 .stall (H1.RT.interim100 [67, 111, 110, 116, 105, 110, 117, 101] [([88, 45, 78, 111, 116, 101], [103, 111])] ++ exSmall.resp)).toOption.map
      (fun r => (r.head.status, r.body, r.rest)) = some (200, [104, 105], []) := by
  refine ⟨by decide +kernel, by decide +kernel, ?_⟩
  rw [interim_skipped false 0 .stall 100 _ _ _ (by decide) (by decide) (by decide +kernel) (by decide +kernel)]
  exact exSmall_read

/-- non-vacuity of `interims_skipped`: `102 P`, `100 C` + `X-Note: go`, `103 E` -/
example : ∀ i ∈ ([⟨102, [80], []⟩, ⟨100, [67], [([88, 45, 78, 111, 116, 101], [103, 111])]⟩, ⟨103, [69], []⟩] : List H1.RT.IHead),
    i.Wf false := by
  intro i hi
  simp only [List.mem_cons, List.not_mem_nil, or_false] at hi
  rcases hi with rfl | rfl | rfl <;> exact ⟨by decide, by decide, by decide +kernel, by decide +kernel⟩

/-- `HTTP/1.1 103 Early Hints` + `Link: </x>` -/
def exEarlyHints : Bytes :=
  H1.RT.statusLine 103 [69, 97, 114, 108, 121, 32, 72, 105, 110, 116, 115] ++ [13, 10] ++ HW.block [([76, 105, 110, 107], [60, 47, 120, 62])]

/-- regression (`/repo` 8ec4dd8): `103 Early Hints` in front of the answer `hi`: the client returns the final response -/
theorem interim_103_skipped_repaired :
    (readResponse false 0 .stall (exEarlyHints ++ exSmall.resp)).toOption.map (fun r => (r.head.status, r.body, r.rest)) =
       (readResponse false 0 .stall exSmall.resp).toOption.map (fun r => (r.head.status, r.body, r.rest)) ∧
    (readResponse false 0 .stall (exEarlyHints ++ exSmall.resp)).toOption.map (fun r => (r.head.status, r.body, r.rest)) =
      some (200, [104, 105], []) := by
  rw [show exEarlyHints = H1.RT.interimHead 103 [69, 97, 114, 108, 121, 32, 72, 105, 110, 116, 115]
      [([76, 105, 110, 107], [60, 47, 120, 62])] from rfl,
    interim_skipped false 0 .stall 103 _ _ _ (by decide) (by decide) (by decide +kernel) (by decide +kernel)]
  exact ⟨rfl, exSmall_read⟩

/-- regression (`/repo` 8ec4dd8): a second `100` is skipped too -/
theorem interim_two_100_skipped_repaired :
    (readResponse false 0 .stall (H1.RT.interim100 [67] [] ++ (H1.RT.interim100 [67] [] ++ exSmall.resp))).toOption.map
      (fun r => (r.head.status, r.body, r.rest)) = some (200, [104, 105], []) := by
  rw [interim_skipped false 0 .stall 100 _ _ _ (by decide) (by decide) (by decide) (by decide +kernel),
    interim_skipped false 0 .stall 100 _ _ _ (by decide) (by decide) (by decide) (by decide +kernel)]
  exact exSmall_read

/-- … and the consequence for the pool: the exchange answered `103 + first` returns
the first answer `hello`, the NEXT exchange on the pooled connection (answered `hi`) returns `hi` (one connection:
`dials` = 1) -/
theorem interim_103_pool_clean :
    (Exchange.run {} {} [({}, { resp := exEarlyHints ++ exBig.resp }), ({}, exSmall)]).map
      (fun x => (x.1, match x.2 with | .ok r => (r.head.status, r.body) | _ => (0, []))) =
      [(1, (200, [104, 101, 108, 108, 111])), (1, (200, [104, 105]))] := by
  decide +kernel

/-! ## hertz's part of the multipart/form-data writer (`Model/Multipart.lean`, `Spec/Multipart.lean`)

`Multipart.wire b parts` = what `AddMultipartFormField` / `WriteMultipartFormFile` + `multipart.Writer` put on the wire
(compared byte for byte with the real code by the op `mpwrite`); `Spec.Multipart.decode` = an independent decoder
(delimiter lines, part headers, `name="…"` / `filename="…"` as quoted strings with quoted pairs).
`CreateMultipartHeader` escapes the field name and the file name like `mime/multipart` does (`/repo` 865e699), so the
round trip holds for every name without CR / LF — `"` and `\` included (`multipart_roundtrip`); CR / LF become `%0D` /
`%0A` (not reversible, but no header line is injected: `multipart_crlf_in_name_contained`). -/

/-- **multipart round trip**: for EVERY boundary `b` and EVERY list of parts (fields and files, any number, any sizes)
whose names and file names contain no CR LF (quotes, backslashes, anything else allowed), whose content types contain no CR LF and do not begin with a
blank, and whose contents do not contain (or run into) a delimiter `CRLF--b` (`Clean`: the first delimiter in
`content ++ CRLF--b` is the appended one): the independent decoder reads the bytes hertz's writer produces
(`Multipart.wire`: `CreateMultipartHeader` + `CreatePart` framing + closing delimiter) back to exactly the parts
attached - names, file names (none for a blank one), types (none for an empty one), contents, in order. -/
theorem multipart_roundtrip (b : Bytes) (ps : List Multipart.Part) (h : ∀ q ∈ ps, MultipartRT.Clean b q) :
    Spec.Multipart.decode b (Multipart.wire b ps) = some (ps.map MultipartRT.intended) :=
  MultipartRT.decode_wire b ps h

/-- non-vacuity: the hypothesis holds for a file part whose content looks like a delimiter of another boundary and whose
name contains `;`, `=`, a quote and a backslash -/
example : MultipartRT.Clean [88, 121]
    { name := [97, 59, 98, 61, 34, 92], fileName := [102, 46, 116], ctype := [116, 47, 112], content := [13, 10, 45, 45, 88, 13, 10] } :=
  ⟨by unfold MultipartRT.cleanVal; decide, by unfold MultipartRT.cleanVal; decide, by decide, by decide +kernel⟩

/-- the round trip on a witness: a field, a file with type, a content that looks like a delimiter but is none -/
theorem multipart_roundtrip_witness :
    Spec.Multipart.decode [88, 121] (Multipart.wire [88, 121]
      [{ name := [97], content := [49, 50] },
       { name := [102], fileName := [102, 46, 116], ctype := [116, 47, 112], content := [13, 10, 45, 45, 88, 13, 10] },
       { name := [101] }]) =
    some [{ name := [97], fileName := none, ctype := none, content := [49, 50] },
          { name := [102], fileName := some [102, 46, 116], ctype := some [116, 47, 112], content := [13, 10, 45, 45, 88, 13, 10] },
          { name := [101], fileName := none, ctype := none, content := [] }] ∧
    Spec.Multipart.decode [88, 121] (Multipart.wire [88, 121] []) = some [] := by
  decide +kernel

/-- regression (`/repo` 865e699): the field name `a"; filename="evil.sh` (no file name given) comes back as that very
name, without a file name — an instance of `multipart_roundtrip` -/
theorem multipart_quote_in_name_repaired :
    Spec.Multipart.decode [88, 121] (Multipart.wire [88, 121]
      [{ name := [97, 34, 59, 32, 102, 105, 108, 101, 110, 97, 109, 101, 61, 34, 101, 118, 105, 108, 46, 115, 104], content := [49] }]) =
    some [{ name := [97, 34, 59, 32, 102, 105, 108, 101, 110, 97, 109, 101, 61, 34, 101, 118, 105, 108, 46, 115, 104],
            fileName := none, ctype := none, content := [49] }] := by
  decide +kernel

/-- **CR LF in a name is not reversible, but harmless**: the field name
`a"␍␊Content-Type: text/html` (no type given) is read back as ONE name with `%0D%0A` in place of the line break and no
content type — no part header line is injected -/
theorem multipart_crlf_in_name_contained :
    (Spec.Multipart.decode [88, 121] (Multipart.wire [88, 121]
      [{ name := [97, 34, 13, 10, 67, 111, 110, 116, 101, 110, 116, 45, 84, 121, 112, 101, 58, 32, 116, 101, 120, 116, 47, 104, 116, 109, 108], content := [49] }])).map
      (fun ps => ps.map (fun p => (p.name, p.ctype))) =
    some [([97, 34, 37, 48, 68, 37, 48, 65, 67, 111, 110, 116, 101, 110, 116, 45, 84, 121, 112, 101, 58, 32, 116, 101, 120, 116, 47, 104, 116, 109, 108], none)] := by
  decide +kernel

end Hertz.Props.C11
