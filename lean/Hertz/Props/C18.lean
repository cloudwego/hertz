import Hertz.Proofs.Shutdown
import Hertz.Proofs.ShutdownSpecRefine
import Hertz.Proofs.ShutdownSpecFull
import Hertz.Proofs.ShutdownSpecPrompt
import Hertz.Gen.Shutdown
import Hertz.Proofs.ShutdownSpin
import Hertz.Spec.ShutdownArriving
import Hertz.Gen.ShutdownSpin
/-!
# C18 — graceful shutdown lets in-flight requests finish and bounds the wait

Theorems about the interleaving model `Hertz.Shutdown` (one `step` = one atomic operation or lock
region of `Engine.Run/Shutdown`, `standard.transport.serve/Shutdown`, `http1.Server.Serve`), for
every action sequence (`run`), every number of connections, callers and hooks, every exit-wait
time.  The model is held to the Go code by `model_matches_gen` (constants and call order regenerated
from the source) and by trace validation against real servers (`harness/c18.go`).  Then: the trace
specification `Hertz.ShutdownSpec.violations`, which the driver evaluates on the real server's events, holds of
the observable projection of every run (`run_satisfies_spec`); and the two small models of
`Model/ShutdownSpin.lean`, `Hertz.Spin` (the caller's side) and `Hertz.Arrive` (requests still arriving).
-/
namespace Hertz.Props.C18
open Hertz.Shutdown

/-- The status values, the default ticker period and cap of `Cfg` (milliseconds, as in the source; the theorems hold for
every `cfg`) and the order of the atomic steps the model assumes are the ones in the source:
status iota block, the CAS operands, `Load` → `CAS` → `WithTimeout` → `go hooks` → `transport.Shutdown`
in `Engine.Shutdown`, `Init` → `MarkAsRunning` → deferred `Store(closed)` → `listenAndServe` in `Run`,
`Listener` → `Close` → `NewTicker` → `updateActive(0)` … in `transport.Shutdown`, `Accept` →
`updateActive(1)` → `go { handler; updateActive(-1) }` in `serve`, and in `Serve`:
`ServeHTTP` → `IsRunning` (exit check, sets `connectionClose = true`, no else) → `writeResponse` → `Flush`. -/
theorem model_matches_gen :
    Hertz.Gen.Shutdown.statusNames = ["_", "statusInitialized", "statusRunning", "statusShutdown", "statusClosed"] ∧
    stInitialized = Hertz.Gen.Shutdown.statusInitialized ∧ stRunning = Hertz.Gen.Shutdown.statusRunning ∧
    stShutdown = Hertz.Gen.Shutdown.statusShutdown ∧ stClosed = Hertz.Gen.Shutdown.statusClosed ∧
    ({ exitWait := 0 } : Cfg).tick = Hertz.Gen.Shutdown.shutdownTickerMs ∧
    ({ exitWait := 0 } : Cfg).maxWait = Hertz.Gen.Shutdown.shutdownTimeoutMs ∧
    Hertz.Gen.Shutdown.defaultWaitExitTimeoutMs = 5000 ∧
    Hertz.Gen.Shutdown.engineShutdownCalls = ["atomic.LoadUint32", "atomic.CompareAndSwapUint32", "engine.GetOptions",
      "context.WithTimeout", "cancel", "make", "func", "close", "engine.executeOnShutdownHooks", "func", "ctx.Done",
      "ctx.Err", "opt.Registry.Deregister", "engine.transport.Shutdown", "ctx.Err"] ∧
    Hertz.Gen.Shutdown.engineShutdownAtomics = ["atomic.LoadUint32(&engine.status)",
      "atomic.CompareAndSwapUint32(&engine.status, statusRunning, statusShutdown)"] ∧
    Hertz.Gen.Shutdown.engineShutdownGuards = ["if atomic.LoadUint32(&engine.status) != statusRunning",
      "return errStatusNotRunning",
      "if !atomic.CompareAndSwapUint32(&engine.status, statusRunning, statusShutdown)", "return errStatusNotRunning"] ∧
    Hertz.Gen.Shutdown.engineRunCalls = ["engine.Init()", "context.Background()", "engine.MarkAsRunning()",
      "atomic.StoreUint32(&engine.status, statusClosed)", "engine.listenAndServe()"] ∧
    Hertz.Gen.Shutdown.markAsRunningAtomics = ["atomic.CompareAndSwapUint32(&engine.status, statusInitialized, statusRunning)"] ∧
    Hertz.Gen.Shutdown.initAtomics = ["atomic.CompareAndSwapUint32(&engine.status, 0, statusInitialized)"] ∧
    Hertz.Gen.Shutdown.isRunningCalls = ["atomic.LoadUint32(&engine.status)", "v.Listener()"] ∧
    Hertz.Gen.Shutdown.hooksCalls = ["wg.Add", "func", "wg.Done", "engine.OnShutdown[index]", "wg.Wait"] ∧
    Hertz.Gen.Shutdown.transportShutdownCalls = ["func", "t.Listener()", "ln.Close()", "time.NewTicker(shutdownTicker)",
      "tk.Stop()", "t.updateActive(0)", "time.Now()", "t.updateActive(0)", "now.Sub(t0)", "ctx.Done()", "ctx.Err()"] ∧
    Hertz.Gen.Shutdown.transportServeCalls = ["ln.Accept()", "t.updateActive(1)", "func", "t.handler(ctx, conn)",
      "t.handler(ctx, conn)", "t.updateActive(-1)"] ∧
    Hertz.Gen.Shutdown.updateActiveCalls = ["atomic.AddInt32(&t.active, delta)"] ∧
    Hertz.Gen.Shutdown.serveCalls = ["zw.Flush", "ctx.Request.Header.ConnectionClose", "s.Core.ServeHTTP",
      "s.Core.IsRunning", "ctx.Response.ConnectionClose", "writeResponse", "zw.Flush"] ∧
    Hertz.Gen.Shutdown.exitCheck = ["if !s.Core.IsRunning()", "connectionClose = true"] :=
  ⟨rfl, rfl, rfl, rfl, rfl, rfl, rfl, rfl, rfl, rfl, rfl, rfl, rfl, rfl, rfl, rfl, rfl, rfl, rfl, rfl, rfl⟩

/-! ## status machine -/

/-- **status_monotone.** Along every execution the engine status never decreases
(0 → initialized → running → shutdown → closed; it may skip values, it never goes back). -/
theorem status_monotone (cfg : Cfg) (n : Nat) (acts₁ acts₂ : List Act) (s₁ s₂ : State)
    (h₁ : run cfg (init n) acts₁ = some s₁) (h₂ : run cfg s₁ acts₂ = some s₂) : s₁.status ≤ s₂.status :=
  run_status_le cfg acts₂ (reachable_inv ⟨acts₁, h₁⟩) h₂

example : (run { exitWait := 5 } (init 0) [.init, .markRunning, .listen, .shutCall, .shutLoad 0, .shutCas 0]).map (·.status) = some 3 := by
  decide +kernel

/-- **second_shutdown_errors.** In every reachable state, EVERY caller of `Shutdown` other than the one
that won the CAS (index `winK` once `win ≠ none`; nobody while `win = none`) is either still on its
way to its load / CAS (`called`, `loaded`: two non-blocking steps, see `caller_never_blocks`) or has
returned `errStatusNotRunning`.  No such caller ever returns `nil`, and none ever enters a waiting
phase: sequential second calls, calls racing with the winner, calls on an engine that never ran or
has already closed. -/
theorem second_shutdown_errors (cfg : Cfg) (n : Nat) (acts : List Act) (s : State)
    (hr : run cfg (init n) acts = some s) (k : Nat) (p : CallerPh) (hk : s.callers[k]? = some p)
    (hnw : s.win = .none ∨ k ≠ s.winK) :
    p = .called ∨ p = .loaded ∨ p = .returned .notRunning ∨ p = .finished .notRunning :=
  run_callersOk cfg acts (inv_init n) (callersOk_init n) hr k p hk hnw

/-- the load of a call made after a won CAS, or on a non-running engine, goes straight to
`returned notRunning` -/
theorem second_shutdown_immediate (cfg : Cfg) (n : Nat) (acts : List Act) (s : State)
    (hr : run cfg (init n) acts = some s) (hw : s.win ≠ .none ∨ s.status ≠ stRunning)
    (k : Nat) (hk : s.callers[k]? = some .called) :
    step cfg s (.shutLoad k) = some { s with callers := s.callers.set k (.returned .notRunning) } := by
  have inv := reachable_inv ⟨acts, hr⟩
  have hne : s.status ≠ stRunning := by
    rcases hw with hw | hw
    · have := inv.winSt hw
      simp [stShutdown, stRunning] at this ⊢; omega
    · exact hw
  simp [step, updCaller, hk, hne]

/-- non-vacuity: second call after a completed shutdown; a call on an engine that never ran; and the
regression schedule of the repaired defect (commit "fix: the loser of two concurrent Shutdown calls
reported success"): both callers load before either CAS — the loser now reports the error -/
example : (run { exitWait := 5 } (init 0) [.init, .markRunning, .listen, .shutCall, .shutLoad 0, .shutCas 0, .shutSpawn,
    .shutCloseLn, .advance 10, .shutTick1, .shutFinish, .callerRet 0 .nil, .shutCall, .shutLoad 1]).map (·.callers) =
    some [.finished .nil, .returned .notRunning] := by decide +kernel
example : (run { exitWait := 5 } (init 0) [.shutCall, .shutLoad 0]).map (·.callers) = some [.returned .notRunning] := by decide +kernel
example : (run { exitWait := 5 } (init 0) [.init, .markRunning, .listen, .shutCall, .shutCall, .shutLoad 0, .shutLoad 1,
    .shutCas 0, .shutCas 1]).map (fun s => (s.callers, s.winK)) = some ([.winner, .returned .notRunning], 0) := by decide +kernel

/-- A caller is never stuck: from `called` the load is enabled, from `loaded` the CAS is enabled,
whatever the rest of the system does (no lock, no wait). -/
theorem caller_never_blocks (cfg : Cfg) (s : State) (k : Nat) :
    (s.callers[k]? = some .called → (step cfg s (.shutLoad k)).isSome) ∧
    (s.callers[k]? = some .loaded → (step cfg s (.shutCas k)).isSome) := by
  constructor
  · intro h; simp [step, updCaller, h]
  · intro h; simp only [step, h]; split <;> simp

example : (step { exitWait := 5 } { (init 0) with callers := [.called] } (.shutLoad 0)).isSome = true := by decide +kernel

/-! ## in-flight requests -/

/-- **inflight_complete (counting).** In every reachable state, on every connection, every request
whose handler has started has either been answered by a complete response or is still in flight
(at most one per connection): no action of the model — in particular none of the shutdown steps —
drops a started request. -/
theorem inflight_complete (cfg : Cfg) (n : Nat) (acts : List Act) (s : State) (hr : run cfg (init n) acts = some s)
    (cn : Conn) (hc : cn ∈ s.conns) : cn.started = cn.resps.length + inflight cn.ph :=
  ((reachable_inv ⟨acts, hr⟩).conns cn hc).count

/-- **inflight_complete (progress).** Whatever the state of the shutdown, an in-flight request can
always take its next step: the handler may return, the exit check may run, the response may be
written.  Nothing in `Shutdown` disables these steps. -/
theorem inflight_progress (cfg : Cfg) (s : State) (c : Nat) (cn : Conn) (hc : s.conns[c]? = some cn) :
    (∀ rc, cn.ph = .handling rc → ∀ b, (step cfg s (.handlerRet c b)).isSome) ∧
    (∀ cl g, cn.ph = .returned cl g → (step cfg s (.exitCheck c)).isSome) ∧
    (∀ cl g, cn.ph = .checked cl g → (step cfg s (.writeResp c)).isSome) := by
  refine ⟨?_, ?_, ?_⟩
  · intro rc h b; simp [step, updConn, hc, cHandlerRet, h]
  · intro cl g h; simp [step, updConn, hc, cExitCheck, h]
  · intro cl g h; simp [step, updConn, hc, cWriteResp, h]

/-- non-vacuity: a request in flight across a whole shutdown that hits the deadline is answered
afterwards, completely, with `Connection: close` -/
example : (run { exitWait := 20 } (init 0) [.init, .markRunning, .listen, .accept, .reqArrive 0 false, .shutCall, .shutLoad 0,
    .shutCas 0, .shutSpawn, .shutCloseLn, .advance 10, .shutTick1, .advance 10, .shutCtxDone, .shutFinish, .callerRet 0 .nil,
    .handlerRet 0 false, .exitCheck 0, .writeResp 0, .clientRead 0 true, .connGone 0]).map
      (fun s => (s.conns.map (fun c => (c.started, c.resps)), s.active)) = some ([(1, [⟨true, true⟩])], 0) := by decide +kernel

/-- **close_after_shutdown.** In every reachable state, every response whose handler returned when the
status had already left `running` (ghost flag `flipped`, set by `handlerRet` to `status ≥ shutdown`)
carries `Connection: close`. -/
theorem close_after_shutdown (cfg : Cfg) (n : Nat) (acts : List Act) (s : State) (hr : run cfg (init n) acts = some s)
    (cn : Conn) (hc : cn ∈ s.conns) (r : Resp) (hm : r ∈ cn.resps) (hf : r.flipped = true) : r.close = true :=
  ((reachable_inv ⟨acts, hr⟩).conns cn hc).resps r hm hf

/-- the ghost flag is what it is said to be: `handlerRet` records `status ≥ shutdown` of that instant -/
theorem flipped_is_status (cfg : Cfg) (s s' : State) (c : Nat) (b : Bool) (h : step cfg s (.handlerRet c b) = some s') :
    ∃ cl, (s'.conns[c]?).map (·.ph) = some (.returned cl (decide (stShutdown ≤ s.status))) := by
  cases step_Step cfg h with
  | conn _ _ _ cn _ hca hc hf =>
    cases hca
    cases connStep_of (s := s) (a := .handlerRet c b) rfl hf with
    | handlerRet _ _ _ rc => exact ⟨rc || b, by simp [getElem?_lt hc]⟩

/-- **close_after_shutdown (trace form, no ghost).**  Take any execution; at a moment when the status
has left `running` (`stShutdown ≤ status`: a `Shutdown` won its CAS, or `Run` has returned) let the
handler of the request in flight on connection `c` return; continue with any execution whatsoever.
Whenever the response to that request exists (it is response number `cn₁.resps.length` of the
connection), it carries `Connection: close`. -/
theorem close_after_shutdown_trace (cfg : Cfg) (n : Nat) (acts₁ acts₂ : List Act) (s₁ s₁' s₂ : State) (c : Nat) (b : Bool)
    (h₁ : run cfg (init n) acts₁ = some s₁) (hflip : stShutdown ≤ s₁.status)
    (hs : step cfg s₁ (.handlerRet c b) = some s₁') (h₂ : run cfg s₁' acts₂ = some s₂)
    (cn₁ cn₂ : Conn) (hc₁ : s₁.conns[c]? = some cn₁) (hc₂ : s₂.conns[c]? = some cn₂)
    (r : Resp) (hr : cn₂.resps[cn₁.resps.length]? = some r) : r.close = true := by
  -- after the handler return the request is pending with the ghost set
  exact pend_close (run_inv cfg acts₂ (step_inv cfg (reachable_inv ⟨acts₁, h₁⟩) (step_Step cfg hs)) h₂)
    (run_pendAt cfg acts₂ (handlerRet_pendAt cfg hflip hs hc₁) h₂) hc₂ hr

/-- non-vacuity: shutdown begins, the handler returns, other connections come and go, the response follows -/
example : (run { exitWait := 20 } (init 0) [.init, .markRunning, .listen, .accept, .accept, .reqArrive 0 false, .shutCall, .shutLoad 0,
    .shutCas 0, .handlerRet 0 false, .reqArrive 1 true, .shutSpawn, .exitCheck 0, .handlerRet 1 false, .writeResp 0]).map
      (fun s => s.conns.map (·.resps)) = some [[⟨true, true⟩], []] := by decide +kernel

/-- and the converse direction on a concrete run: a handler that returns before the CAS but is
checked after it also gets `Connection: close` (the check, not the return, decides) -/
example : (run { exitWait := 20 } (init 0) [.init, .markRunning, .listen, .accept, .reqArrive 0 false, .handlerRet 0 false,
    .shutCall, .shutLoad 0, .shutCas 0, .exitCheck 0, .writeResp 0]).map (fun s => s.conns.map (·.resps)) =
    some [[⟨true, false⟩]] := by decide +kernel
example : (run { exitWait := 20 } (init 0) [.init, .markRunning, .listen, .accept, .reqArrive 0 false, .handlerRet 0 false,
    .exitCheck 0, .shutCall, .shutLoad 0, .shutCas 0, .writeResp 0]).map (fun s => s.conns.map (·.resps)) =
    some [[⟨false, false⟩]] := by decide +kernel

/-! ## hooks -/

/-- **hooks_started.** Once the winning caller is past the `go executeOnShutdownHooks` step, every
registered hook has been spawned; in particular when `Shutdown` has returned. -/
theorem hooks_started (cfg : Cfg) (n : Nat) (acts : List Act) (s : State) (hr : run cfg (init n) acts = some s)
    (h1 : s.win ≠ .none) (h2 : s.win ≠ .pre) : ∀ h ∈ s.hooks, h ≠ .unspawned :=
  (reachable_inv ⟨acts, hr⟩).spawned h1 h2

/-- **hooks_waited.** If `Shutdown` returned before the deadline of its context, all hooks had finished. -/
theorem hooks_waited (cfg : Cfg) (n : Nat) (acts : List Act) (s : State) (hr : run cfg (init n) acts = some s)
    (e : Err) (t : Nat) (hw : s.win = .returned e t) (ht : t < s.dl) : hooksDone s = true :=
  (reachable_inv ⟨acts, hr⟩).retHooks e t hw ht

example : (run { exitWait := 50 } (init 2) [.init, .markRunning, .listen, .shutCall, .shutLoad 0, .shutCas 0, .shutSpawn,
    .hookStart 1, .shutCloseLn, .hookStart 0, .hookEnd 1, .advance 10, .shutTick1, .advance 5, .hookEnd 0, .shutFinish]).map
      (fun s => (s.win, s.dl, s.hooks)) = some (.returned .nil 15, 50, [.done, .done]) := by decide +kernel

/-! ## no accept after shutdown -/

/-- The full statement "after the listener-closing step of `Shutdown` no connection is accepted" is
FALSE of the code: `Engine.Run` marks the engine running *before* `transport.serve` creates the
listener; a `Shutdown` in that window wins the CAS, finds `t.ln == nil`, closes nothing, returns
`nil`, and `serve` then listens and accepts for ever.  (Reproduced on the real server by
`c18race` in `harness/c18.go`.) -/
theorem no_accept_after_shutdown_fails_at :
    ¬ (∀ s, run { exitWait := 100 } (init 0) [.init, .markRunning, .shutCall, .shutLoad 0, .shutCas 0, .shutSpawn, .shutCloseLn,
          .advance 10, .shutTick1, .shutFinish, .callerRet 0 .nil, .listen, .accept] = some s → s.lateAccepts = 0) := by
  intro h
  have hrun : (run { exitWait := 100 } (init 0) [.init, .markRunning, .shutCall, .shutLoad 0, .shutCas 0, .shutSpawn, .shutCloseLn,
      .advance 10, .shutTick1, .shutFinish, .callerRet 0 .nil, .listen, .accept]).map (fun s => (s.lateAccepts, s.callers, s.lnOpen)) =
      some (1, [.finished .nil], true) := by decide +kernel
  obtain ⟨s, hs, he⟩ := Option.map_eq_some_iff.1 hrun
  simp [h s hs] at he

/-- **no_accept_after_shutdown (partial).** If `transport.Shutdown` found the listener
(`lnSkipped = false`: `serve` had listened before the shutdown reached the transport), then no
connection has been accepted after that step, the listener stays closed and `accept` stays disabled. -/
theorem no_accept_after_shutdown_partial (cfg : Cfg) (n : Nat) (acts : List Act) (s : State)
    (hr : run cfg (init n) acts = some s) (hs : s.lnSkipped = false) :
    s.lateAccepts = 0 ∧ (postClose s.win = true → s.lnOpen = false ∧ step cfg s .accept = none) := by
  have inv := reachable_inv ⟨acts, hr⟩
  refine ⟨inv.late1 hs, fun hp => ?_⟩
  have := (inv.closed hp hs).1
  exact ⟨this, by simp [step, this]⟩

example : (run { exitWait := 100 } (init 0) [.init, .markRunning, .listen, .accept, .shutCall, .shutLoad 0, .shutCas 0, .shutSpawn,
    .shutCloseLn]).map (fun s => (s.lnSkipped, s.lnOpen, postClose s.win)) = some (false, false, true) := by decide +kernel

/-! ## the wait is bounded -/

/-- **shutdown_bounded.** Along every execution in which the shutdown goroutine is scheduled
promptly (`runPrompt`: the clock advances only while that goroutine is blocked, and not past the
instant that wakes it), `Shutdown` returns no later than `ExitWaitTimeout` plus one ticker period
after its CAS — whatever connections, handlers and hooks do (busy for ever, idle keep-alive that never
closes, hooks that never end). -/
theorem shutdown_bounded (cfg : Cfg) (n : Nat) (acts : List Act) (s : State)
    (hr : runPrompt cfg (init n) acts = some s) (e : Err) (t : Nat) (hw : s.win = .returned e t) :
    t ≤ s.tcas + cfg.exitWait + cfg.tick := by
  have := (runPrompt_inv cfg acts (inv_init n) (by simp [TimeInv, init]) hr).2
  simpa [TimeInv, hw] using this

/-- non-vacuity: an idle keep-alive connection that never closes and a hook that never ends — the call
returns exactly at the deadline; with an exit wait below one tick it returns after one tick -/
example : (runPrompt { exitWait := 30 } (init 1) [.init, .markRunning, .listen, .accept, .advance 7, .shutCall, .shutLoad 0, .shutCas 0,
    .shutSpawn, .hookStart 0, .shutCloseLn, .advance 10, .shutTick1, .advance 10, .shutTickLoop, .advance 10, .shutCtxDone,
    .shutFinish]).map (fun s => (s.win, s.tcas)) = some (.returned .nil 37, 7) := by decide +kernel
example : (runPrompt { exitWait := 3 } (init 0) [.init, .markRunning, .listen, .shutCall, .shutLoad 0, .shutCas 0,
    .shutSpawn, .shutCloseLn, .advance 10, .shutTick1, .shutFinish]).map (fun s => (s.win, s.tcas)) = some (.returned .nil 10, 0) := by decide +kernel
/-- the discipline is needed: without it the clock may run while the goroutine is runnable -/
example : (runPrompt { exitWait := 3 } (init 0) [.init, .markRunning, .listen, .shutCall, .shutLoad 0, .shutCas 0, .advance 1]) = none := by decide +kernel

/-- The winning caller always has an enabled step once the time it waits for has come: no phase of
`Shutdown` can block for ever (no hang). -/
theorem shutdown_never_stuck (cfg : Cfg) (s : State) :
    (s.win = .pre → (step cfg s .shutSpawn).isSome) ∧
    (s.win = .closeLn → (step cfg s .shutCloseLn).isSome) ∧
    (s.win = .wait1 → s.nextTick ≤ s.now → (step cfg s .shutTick1).isSome) ∧
    (∀ t0, s.win = .loop t0 → s.dl ≤ s.now → (step cfg s .shutCtxDone).isSome) ∧
    (∀ e, s.win = .deferred e → s.dl ≤ s.now → (step cfg s .shutFinish).isSome) := by
  refine ⟨?_, ?_, ?_, ?_, ?_⟩
  · intro h; simp [step, h]
  · intro h; simp [step, h]
  · intro h h'; simp [step, h, h']
  · intro t0 h h'; simp [step, h, h']
  · intro e h h'; simp [step, h, h']

example : (step { exitWait := 5 } { (init 0) with win := .deferred .nil, dl := 5, now := 5 } .shutFinish).isSome = true := by decide +kernel

/-! ## the trace specification holds of the observable projection of every run

`obsRun cfg (init n) acts` is the event sequence a harness records around a run of the model (the
driver's `obsActs` goes the other way: `listen ↦ L`, `accept ↦ A c`, `reqArrive ↦ Q c k rc`,
`handlerRet ↦ X c k b`, `clientRead ↦ R c k cl true`, `shutCall ↦ S k`, `callerRet ↦ T k err`,
`hookStart/End ↦ HS/HE j`, dials, `B/C/E`; every other step is unobservable; time stamp = model clock).
`allOk okWin` is the environment discipline "no CAS of a `Shutdown` caller succeeds in the window between
`MarkAsRunning` and the creation of the listener": it excludes exactly the known finding *Shutdown before
Listen* (and implies `lnSkipped = false`, the hypothesis of `no_accept_after_shutdown_partial`).  `Shutdown` may
be called at any time, in particular on an engine that has not been started and is started later.  The stricter
discipline `okListen` ("`Shutdown` is only called once the listener exists", what the harness does) is a
special case (`okListen_okWin`).  The theorems below are about the very functions of `Hertz.ShutdownSpec` the
driver evaluates on the REAL server's events. -/
section spec
open Hertz.ShutdownSpec

theorem okListen_okWin (cfg : Cfg) (n : Nat) (acts : List Act) (s : State)
    (hr : run cfg (init n) acts = some s) (hok : allOk okListen cfg (init n) acts = true) :
    allOk okWin cfg (init n) acts = true :=
  allOk_okListen_okWin cfg acts (callGuard_init n) hr hok

example : allOk okListen { exitWait := 5 } (init 0) [.init, .markRunning, .listen, .shutCall, .shutLoad 0, .shutCas 0] = true ∧
    allOk okWin { exitWait := 5 } (init 0) [.shutCall, .init, .markRunning, .listen, .shutLoad 0, .shutCas 0] = true ∧
    allOk okWin { exitWait := 5 } (init 0) [.init, .markRunning, .shutCall, .shutLoad 0, .shutCas 0] = false := by decide +kernel

/-- **close_after_shutdown, trace form without ghosts.**  After the first flip witness (`HS`, a `T` other than
`errStatusNotRunning`, or an `errStatusNotRunning` given to a call made after `L`) no handler exit
`X c k` is followed by a complete response `R c k` lacking `Connection: close` — for every run, every
schedule, any number of connections / callers / hooks. -/
theorem obs_close_after_shutdown (cfg : Cfg) (n : Nat) (acts : List Act) (s : State)
    (hr : run cfg (init n) acts = some s) (hok : allOk okWin cfg (init n) acts = true) :
    closeAfterShutdown (obsRun cfg (init n) acts).toArray = [] :=
  have _ := hok -- not needed: the clause holds of every run
  obs_closeAfterShutdown hr

/-- **no_accept_after_shutdown, trace form**: after the first `T nil` no connection is accepted (`A`) and no dial
started afterwards succeeds (`De d true`). -/
theorem obs_no_accept_after_shutdown (cfg : Cfg) (n : Nat) (acts : List Act) (s : State)
    (hr : run cfg (init n) acts = some s) (hok : allOk okWin cfg (init n) acts = true) :
    noAcceptAfter (obsRun cfg (init n) acts).toArray = [] :=
  obs_noAcceptAfter hr hok

/-- **second_shutdown_errors, trace form**: a call that returns before the listener answered, or that was
made after a return showing that the status had flipped, gets `errStatusNotRunning`; a call made on the
listening engine that is alone until it returns gets `nil` — or `errShutdownTimeout`, but
only when it has lasted longer than the 30 s cap of `transport.Shutdown` (see `spec_accepts_cap_timeout`). -/
theorem obs_second_shutdown_errors (p : Params) (cfg : Cfg) (n : Nat) (acts : List Act) (s : State)
    (hr : run cfg (init n) acts = some s) (hok : allOk okWin cfg (init n) acts = true) (hp : ParamsOk p cfg n) :
    errorsReported p (obsRun cfg (init n) acts).toArray = [] :=
  obs_errorsReported hr hok hp

/-- **inflight_complete, trace form**: if at the end every client has read the responses to the
requests that reached a handler (`Settled`: the run is complete on the client side), every `Q c k` is
followed by a complete `R c k`, and no truncated response is ever observed — whatever `Shutdown` did
in between (no environment discipline needed). -/
theorem obs_inflight_complete (cfg : Cfg) (n : Nat) (acts : List Act) (s : State)
    (hr : run cfg (init n) acts = some s) (hset : Settled s) :
    inflightComplete (obsRun cfg (init n) acts).toArray = [] :=
  obs_inflightComplete hr hset

/-- **no spurious close, trace form**: a response read before any `Shutdown` call carries
`Connection: close` only if its request (`Q c k true`) or its handler (`X c k true`) asked for it. -/
theorem obs_no_spurious_close (cfg : Cfg) (n : Nat) (acts : List Act) (s : State)
    (hr : run cfg (init n) acts = some s) (hok : allOk okWin cfg (init n) acts = true) :
    noSpuriousClose (obsRun cfg (init n) acts).toArray = [] :=
  have _ := hok -- not needed: the clause holds of every run
  obs_noSpuriousClose hr

/-- **hooks_started / hooks_waited / inflight_waited, trace form**: once a call returned `nil`, every
registered hook has an `HS` event (for runs that leave no hook goroutine unscheduled, `HooksStarted`);
and if that call returned more than 2 ms before `ExitWaitTimeout` had elapsed, every hook had ended
(`HE`) and every entered handler had returned (`X`) before the return.  No scheduling discipline. -/
theorem obs_hooks_run (p : Params) (cfg : Cfg) (n : Nat) (acts : List Act) (s : State)
    (hr : run cfg (init n) acts = some s) (hok : allOk okWin cfg (init n) acts = true) (hp : ParamsOk p cfg n)
    (hst : HooksStarted s) : hooksRun p (obsRun cfg (init n) acts).toArray = [] :=
  obs_hooksRun hr hok hp hst

/-- **conns_waited, trace form**: after a `nil` return more than 2 ms before the deadline no
request enters a handler any more — every connection was gone when the call returned (`active = 0`),
and none is accepted afterwards. -/
theorem obs_conns_waited (p : Params) (cfg : Cfg) (n : Nat) (acts : List Act) (s : State)
    (hr : run cfg (init n) acts = some s) (hok : allOk okWin cfg (init n) acts = true) (hp : ParamsOk p cfg n) :
    connsWaited p (obsRun cfg (init n) acts).toArray = [] :=
  obs_connsWaited hr hok hp

/-- **shutdown_bounded, trace form**: under the scheduling discipline `okSched` (the clock advances only
while the winner of the CAS is blocked and not beyond the instant that wakes it, no other caller is
between its call and its return, no connection goroutine has an internal step to take), in a run in
which every call has returned (`CallersDone`), every `S k` is followed by a `T k`, and every such return
comes at most `ExitWaitTimeout + tick` (+ slack) after the call. -/
theorem obs_shutdown_bounded (p : Params) (cfg : Cfg) (n : Nat) (acts : List Act) (s : State)
    (hr : run cfg (init n) acts = some s) (hok : allOk okSched cfg (init n) acts = true) (hp : ParamsOk p cfg n)
    (hfin : CallersDone s) : bounded p (obsRun cfg (init n) acts).toArray = [] :=
  obs_bounded hr hok hp hfin

/-- **run_satisfies_spec (without scheduling discipline).**  For every run of the model that respects
`okWin`, ends client-complete (`Settled`) and leaves no hook goroutine unscheduled, every clause of
`ShutdownSpec.violations` that does not bound a duration is empty; what remains are the two wall-clock
clauses, which need the discipline `okSched` (`run_satisfies_spec`). -/
theorem run_satisfies_spec_partial (p : Params) (cfg : Cfg) (n : Nat) (acts : List Act) (s : State)
    (hr : run cfg (init n) acts = some s) (hok : allOk okWin cfg (init n) acts = true) (hp : ParamsOk p cfg n)
    (hset : Settled s) (hst : HooksStarted s) :
    violations p (obsRun cfg (init n) acts).toArray =
      bounded p (obsRun cfg (init n) acts).toArray ++ prompt p (obsRun cfg (init n) acts).toArray := by
  unfold violations
  rw [obs_inflight_complete cfg n acts s hr hset, obs_close_after_shutdown cfg n acts s hr hok,
    obs_no_spurious_close cfg n acts s hr hok, obs_no_accept_after_shutdown cfg n acts s hr hok,
    obs_second_shutdown_errors p cfg n acts s hr hok hp, obs_hooks_run p cfg n acts s hr hok hp hst,
    obs_conns_waited p cfg n acts s hr hok hp]
  simp

/-- **prompt, trace form**: under the scheduling discipline `okSched`, if the call that returned `nil` did not
return early, then it returned at most `10 * p.tick + p.slack` (the clause's margin) after the last of: its own
call, the end of the last hook, the end of the last connection (client saw EOF, or closed the idle connection) —
provided all of these ended at all.  Nothing left to wait for ⇒ `Shutdown` does not sit out the exit wait.  (The
model returns within one ticker period, `WinP` at a returned winner in Proofs/ShutdownSpecPrompt; the theorem states the clause.) -/
theorem obs_shutdown_prompt (p : Params) (cfg : Cfg) (n : Nat) (acts : List Act) (s : State)
    (hr : run cfg (init n) acts = some s) (hok : allOk okSched cfg (init n) acts = true) (hp : ParamsOk p cfg n) :
    prompt p (obsRun cfg (init n) acts).toArray = [] :=
  obs_prompt hr hok hp

/-- **run_satisfies_spec.**  The whole trace specification that the driver evaluates on the event sequence of
the REAL server holds of the observable projection of EVERY run of the interleaving model — any number of
connections, callers, hooks, any exit wait, every interleaving — that
* respects `okSched`: no CAS is won before the listener exists (`okWin`; excludes exactly the known finding), and
  the clock advances only while no goroutine can move on its own (needed by the two wall-clock clauses only, see
  `run_satisfies_spec_partial`),
* is complete: every client has read its responses (`Settled`), every hook goroutine has been scheduled
  (`HooksStarted`), every `Shutdown` call has returned (`CallersDone`),
and for parameters that describe the model's configuration (`ParamsOk`). -/
theorem run_satisfies_spec (p : Params) (cfg : Cfg) (n : Nat) (acts : List Act) (s : State)
    (hr : run cfg (init n) acts = some s) (hok : allOk okSched cfg (init n) acts = true) (hp : ParamsOk p cfg n)
    (hset : Settled s) (hst : HooksStarted s) (hfin : CallersDone s) :
    violations p (obsRun cfg (init n) acts).toArray = [] := by
  rw [run_satisfies_spec_partial p cfg n acts s hr (allOk_mono okSched_okWin cfg acts _ hok) hp hset hst,
    obs_shutdown_bounded p cfg n acts s hr hok hp hfin, obs_shutdown_prompt p cfg n acts s hr hok hp]
  rfl

/-- non-vacuity: a request in flight across a shutdown with a hook, the clock advancing while the
handler runs / while the winner waits for its first tick / between the calls, a second call, a late dial;
the run respects `okSched`, ends `Settled` with all callers returned and all hooks started, and its
projection has 14 events -/
def specDemo : List Act := [.init, .markRunning, .listen, .accept, .reqArrive 0 false, .advance 5, .shutCall, .shutLoad 0, .shutCas 0,
  .shutSpawn, .hookStart 0, .shutCloseLn, .handlerRet 0 false, .exitCheck 0, .writeResp 0, .clientRead 0 true, .connGone 0,
  .clientEof 0, .hookEnd 0, .advance 10, .shutTick1, .shutFinish, .callerRet 0 .nil, .advance 3, .shutCall, .shutLoad 1,
  .callerRet 1 .notRunning, .dialStart, .dialProbe 0, .dialEnd 0 false]

def specDemoParams : Params := { exitWait := 50, tick := 10, slack := 0, nHooks := 1, maxWait := 30000 }

example : allOk okSched { exitWait := 50 } (init 1) specDemo = true ∧
    (run { exitWait := 50 } (init 1) specDemo).map (fun s => decide (∀ cn ∈ s.conns, cn.acked = cn.started)) = some true ∧
    (run { exitWait := 50 } (init 1) specDemo).map (fun s => (s.callers, s.hooks)) = some ([.finished .nil, .finished .notRunning], [.done]) ∧
    (obsRun { exitWait := 50 } (init 1) specDemo).length = 14 ∧
    ((obsRun { exitWait := 50 } (init 1) specDemo).map (·.t)).getLast? = some 18 := by
  decide +kernel
example : ParamsOk specDemoParams { exitWait := 50 } 1 := ⟨rfl, by decide, rfl, by decide⟩
example : violations specDemoParams (obsRun { exitWait := 50 } (init 1) specDemo).toArray = [] := by decide +kernel

/-- non-vacuity for a call that `okListen` excludes and `okWin` admits: `Shutdown` on an engine that has not been
started (returns `errStatusNotRunning`), then `Run`, a keep-alive exchange, and a real shutdown; and a call made
before `Run` whose status check is delayed until the engine listens (it wins) -/
def earlyDemo : List Act := [.shutCall, .shutLoad 0, .callerRet 0 .notRunning, .advance 2, .init, .markRunning, .listen, .accept,
  .reqArrive 0 false, .advance 3, .handlerRet 0 false, .exitCheck 0, .writeResp 0, .clientRead 0 false, .advance 4,
  .shutCall, .shutLoad 1, .shutCas 1, .shutSpawn, .shutCloseLn, .peerClose 0, .connDrop 0, .connGone 0, .advance 10,
  .shutTick1, .shutFinish, .callerRet 1 .nil]

example : allOk okSched { exitWait := 50 } (init 0) earlyDemo = true ∧
    (run { exitWait := 50 } (init 0) earlyDemo).map (fun s => decide (∀ cn ∈ s.conns, cn.acked = cn.started)) = some true ∧
    (run { exitWait := 50 } (init 0) earlyDemo).map (fun s => (s.callers, s.hooks)) = some ([.finished .notRunning, .finished .nil], []) ∧
    violations { exitWait := 50, tick := 10, slack := 0, nHooks := 0 } (obsRun { exitWait := 50 } (init 0) earlyDemo).toArray = [] := by
  decide +kernel

example : allOk okSched { exitWait := 50 } (init 0) [.shutCall, .init, .markRunning, .listen, .shutLoad 0, .shutCas 0, .shutSpawn,
      .shutCloseLn, .advance 10, .shutTick1, .shutFinish, .callerRet 0 .nil] = true ∧
    violations { exitWait := 50, tick := 10, slack := 0, nHooks := 0 } (obsRun { exitWait := 50 } (init 0) [.shutCall, .init,
      .markRunning, .listen, .shutLoad 0, .shutCas 0, .shutSpawn, .shutCloseLn, .advance 10, .shutTick1, .shutFinish,
      .callerRet 0 .nil]).toArray = [] := by
  decide +kernel

/-! ### legitimate behaviours the spec predicate has to accept, and what it rejects next to each
(a fourth, a call made before `Run` whose status load lands after `Listen`, is the example above) -/

/-- `retFlipAt` / `flipAt`: a `Shutdown` on an engine that has not started returns `errStatusNotRunning`; that `T`
event is not proof that the status has left `running`.  The run (early call, then `Run`, then a keep-alive
response) is accepted by the whole predicate; so is the same run followed by a real shutdown. -/
theorem spec_accepts_early_shutdown :
    violations { exitWait := 5, tick := 10, slack := 0, nHooks := 0 }
      (obsRun { exitWait := 5 } (init 0) [.shutCall, .shutLoad 0, .callerRet 0 .notRunning, .init, .markRunning,
        .listen, .accept, .reqArrive 0 false, .handlerRet 0 false, .exitCheck 0, .writeResp 0, .clientRead 0 false]).toArray = [] ∧
    violations { exitWait := 5, tick := 10, slack := 0, nHooks := 0 }
      (obsRun { exitWait := 5 } (init 0) [.shutCall, .shutLoad 0, .callerRet 0 .notRunning, .init, .markRunning,
        .listen, .accept, .reqArrive 0 false, .handlerRet 0 false, .exitCheck 0, .writeResp 0, .clientRead 0 false,
        .shutCall, .shutLoad 1, .shutCas 1, .shutSpawn, .shutCloseLn, .peerClose 0, .connDrop 0, .connGone 0, .advance 10,
        .shutTick1, .shutFinish, .callerRet 1 .nil]).toArray = [] := by
  decide +kernel

/-- … and it rejects what the clauses are meant to catch, also after an early `errStatusNotRunning`:
a keep-alive response without `Connection: close` whose handler returned after a call returned `nil`, after
a hook started, or after a call made on the listening engine got `errStatusNotRunning`; a second `nil`; a `nil`
from an engine whose listener had not answered when the call returned. -/
theorem spec_still_rejects_keepalive_after_flip :
    closeAfterShutdown #[⟨.S 0, 0⟩, ⟨.T 0 "notrunning", 1⟩, ⟨.L, 2⟩, ⟨.A 0, 3⟩, ⟨.Q 0 0 false, 4⟩, ⟨.S 1, 5⟩, ⟨.T 1 "nil", 6⟩,
      ⟨.X 0 0 false, 7⟩, ⟨.R 0 0 false true, 8⟩] ≠ [] ∧
    closeAfterShutdown #[⟨.L, 2⟩, ⟨.A 0, 3⟩, ⟨.Q 0 0 false, 4⟩, ⟨.S 0, 5⟩, ⟨.HS 0, 6⟩, ⟨.X 0 0 false, 7⟩, ⟨.R 0 0 false true, 8⟩] ≠ [] ∧
    closeAfterShutdown #[⟨.L, 2⟩, ⟨.A 0, 3⟩, ⟨.Q 0 0 false, 4⟩, ⟨.S 0, 5⟩, ⟨.S 1, 5⟩, ⟨.T 1 "notrunning", 6⟩, ⟨.X 0 0 false, 7⟩,
      ⟨.R 0 0 false true, 8⟩] ≠ [] ∧
    errorsReported { exitWait := 5, tick := 10, slack := 0, nHooks := 0 }
      #[⟨.S 0, 0⟩, ⟨.T 0 "notrunning", 1⟩, ⟨.L, 2⟩, ⟨.S 1, 5⟩, ⟨.T 1 "nil", 6⟩, ⟨.S 2, 7⟩, ⟨.T 2 "nil", 8⟩] ≠ [] ∧
    errorsReported { exitWait := 5, tick := 10, slack := 0, nHooks := 0 }
      #[⟨.L, 2⟩, ⟨.S 0, 5⟩, ⟨.T 0 "nil", 6⟩, ⟨.S 1, 7⟩, ⟨.T 1 "nil", 8⟩] ≠ [] ∧
    errorsReported { exitWait := 5, tick := 10, slack := 0, nHooks := 0 } #[⟨.S 0, 5⟩, ⟨.T 0 "nil", 6⟩] ≠ [] ∧
    errorsReported { exitWait := 5, tick := 10, slack := 0, nHooks := 0 } #[⟨.S 0, 5⟩, ⟨.T 0 "nil", 6⟩, ⟨.L, 7⟩] ≠ [] := by
  decide +kernel

/-- `errorsReported`: the first `Shutdown` of a running server may return `errShutdownTimeout` when it has
lasted longer than the transport's cap (`ExitWaitTimeout` > 30 s and a connection that stays busy; here
`maxWait := 30`, `exitWait := 100` clock units).  Such a run is accepted … -/
theorem spec_accepts_cap_timeout :
    errorsReported { exitWait := 100, tick := 10, slack := 0, nHooks := 0, maxWait := 30 }
      (obsRun { exitWait := 100, maxWait := 30 } (init 0) [.init, .markRunning, .listen, .accept, .reqArrive 0 false,
        .shutCall, .shutLoad 0, .shutCas 0, .shutSpawn, .shutCloseLn, .advance 10, .shutTick1, .advance 40, .shutTickLoop,
        .shutFinish, .callerRet 0 .timeout]).toArray = [] := by
  decide +kernel

/-- … while a timeout (or any other error) from a first call that did not last that long is rejected -/
theorem spec_still_rejects_early_timeout :
    errorsReported { exitWait := 100000000, tick := 10000, slack := 0, nHooks := 0 }
      #[⟨.L, 0⟩, ⟨.S 0, 1000⟩, ⟨.T 0 "timeout", 5000000⟩] ≠ [] ∧
    errorsReported { exitWait := 100000000, tick := 10000, slack := 0, nHooks := 0 }
      #[⟨.L, 0⟩, ⟨.S 0, 1000⟩, ⟨.T 0 "other", 40000000⟩] ≠ [] := by
  decide +kernel

/-- `prompt`, `idleClose`: a client that hangs up while its request is in the handler does not end the connection
for the server; `Shutdown` rightly waits for the handler (here: to the deadline).  Such a run is accepted … -/
theorem spec_accepts_close_while_handling :
    prompt { exitWait := 1000, tick := 10, slack := 0, nHooks := 0 }
      (obsRun { exitWait := 1000 } (init 0) [.init, .markRunning, .listen, .accept, .reqArrive 0 false, .peerClose 0,
        .shutCall, .shutLoad 0, .shutCas 0, .shutSpawn, .shutCloseLn, .advance 10, .shutTick1, .advance 990, .shutCtxDone,
        .shutFinish, .callerRet 0 .nil]).toArray = [] := by
  decide +kernel

/-- … while a `Shutdown` that sits out the exit wait although the only connection was idle and had been closed by
its client long before (or had been closed by the server, `E`) is rejected -/
theorem spec_still_rejects_idle_wait :
    prompt { exitWait := 1000000, tick := 10000, slack := 1000, nHooks := 0 }
      #[⟨.L, 0⟩, ⟨.A 0, 10⟩, ⟨.Q 0 0 false, 20⟩, ⟨.X 0 0 false, 30⟩, ⟨.R 0 0 false true, 40⟩, ⟨.S 0, 1000⟩, ⟨.C 0, 2000⟩,
        ⟨.T 0 "nil", 1001000⟩] ≠ [] ∧
    prompt { exitWait := 1000000, tick := 10000, slack := 1000, nHooks := 0 }
      #[⟨.L, 0⟩, ⟨.A 0, 10⟩, ⟨.S 0, 1000⟩, ⟨.E 0, 2000⟩, ⟨.T 0 "nil", 1001000⟩] ≠ [] := by
  decide +kernel

/-- the other clauses: an accept after `Shutdown` returned, a truncated response to an in-flight request, a spurious
close, a hook that never started, a return that is too late, a request served after an early return are rejected -/
theorem spec_still_rejects_others :
    noAcceptAfter #[⟨.L, 0⟩, ⟨.S 0, 1⟩, ⟨.T 0 "nil", 2⟩, ⟨.A 0, 3⟩] ≠ [] ∧
    inflightComplete #[⟨.L, 0⟩, ⟨.A 0, 1⟩, ⟨.Q 0 0 false, 2⟩, ⟨.S 0, 3⟩, ⟨.X 0 0 false, 4⟩, ⟨.R 0 0 true false, 5⟩, ⟨.T 0 "nil", 6⟩] ≠ [] ∧
    noSpuriousClose #[⟨.L, 0⟩, ⟨.A 0, 1⟩, ⟨.Q 0 0 false, 2⟩, ⟨.X 0 0 false, 4⟩, ⟨.R 0 0 true true, 5⟩] ≠ [] ∧
    hooksRun { exitWait := 1000000, tick := 10000, slack := 1000, nHooks := 1 } #[⟨.L, 0⟩, ⟨.S 0, 1⟩, ⟨.T 0 "nil", 20000⟩] ≠ [] ∧
    bounded { exitWait := 1000000, tick := 10000, slack := 1000, nHooks := 0 } #[⟨.L, 0⟩, ⟨.S 0, 1⟩, ⟨.T 0 "nil", 2000000⟩] ≠ [] ∧
    connsWaited { exitWait := 1000000, tick := 10000, slack := 1000, nHooks := 0 }
      #[⟨.L, 0⟩, ⟨.A 0, 1⟩, ⟨.S 0, 10⟩, ⟨.T 0 "nil", 20000⟩, ⟨.Q 0 0 false, 30000⟩] ≠ [] := by
  decide +kernel

end spec

/-! ## The caller's side (`Hertz.Spin`) and requests that are still arriving (`Hertz.Arrive`) -/

section CallerAndArriving
open Hertz.ShutdownSpec

/-- What the two models of `Model/ShutdownSpin.lean` assume about the source is what the source says (regenerated on
every run): `Spin` does nothing after the `h.Shutdown(...)` statement and contains no channel receive of its own
(`Spin.Code.current.waitsRun = false`); the early returns of `Engine.Shutdown` that leave the transport untouched are the
two `errStatusNotRunning` and the `Deregister` error; `standard.transport.Shutdown` calls no method of the transport but
`Listener` and `updateActive`, and nothing in `standard/transport.go` sets a deadline or timeout on a connection
(`Arrive.Code.current.wakeAll = false`); the netpoll transporter hands over to the event loop's `Shutdown`. -/
theorem spin_model_matches_gen :
    Hertz.Gen.ShutdownSpin.spinCalls = ["make", "h.initOnRunHooks", "func", "h.Run", "signalWaiter", "h.Engine.Close",
      "h.Shutdown", "context.Background"] ∧
    Hertz.Gen.ShutdownSpin.spinReceives = [] ∧
    Hertz.Gen.ShutdownSpin.spinAfterShutdown = [] ∧
    Hertz.Spin.Code.current.waitsRun = !Hertz.Gen.ShutdownSpin.spinAfterShutdown.isEmpty ∧
    Hertz.Gen.ShutdownSpin.spinShutdownStmt = ["if err := h.Shutdown(context.Background()); err != nil",
      "hlog.SystemLogger().Errorf", "hlog.SystemLogger"] ∧
    Hertz.Gen.ShutdownSpin.engineShutdownEarlyReturns = [
      "return errStatusNotRunning @ atomic.LoadUint32(&engine.status) != statusRunning",
      "return errStatusNotRunning @ !atomic.CompareAndSwapUint32(&engine.status, statusRunning, statusShutdown)",
      "return err @ err = opt.Registry.Deregister(opt.RegistryInfo); err != nil"] ∧
    Hertz.Gen.ShutdownSpin.stdShutdownOwnMethods = ["t.Listener", "t.updateActive", "t.updateActive"] ∧
    Hertz.Gen.ShutdownSpin.stdShutdownConnCalls = [] ∧
    Hertz.Arrive.Code.current.wakeAll = !Hertz.Gen.ShutdownSpin.stdShutdownConnCalls.isEmpty ∧
    Hertz.Gen.ShutdownSpin.stdTransportFields = ["readBufferSize", "network", "addr", "keepAliveTimeout",
      "senseClientDisconnection", "readTimeout", "handler", "tls", "listenConfig", "OnAccept", "OnConnect", "active", "mu", "ln"] ∧
    Hertz.Gen.ShutdownSpin.npShutdownCalls = ["func", "t.mu.RUnlock", "t.mu.RLock", "t.el.Shutdown"] :=
  ⟨rfl, rfl, rfl, rfl, rfl, rfl, rfl, rfl, rfl, rfl, rfl⟩

/-- **spin_returns_bounded.** Every prompt run of `Hertz.Spin` (the main goroutine is not delayed when it can move; the
`Run` goroutine, its `OnRun` hooks, connections and shutdown hooks are scheduled arbitrarily): once the stop signal has been
delivered at `sigAt`, `Spin` returns - and the process ends - no later than `sigAt + ExitWaitTimeout`, in EVERY outcome of
`Shutdown`: nil after the drain, nil at the deadline, the registry's `Deregister` error (returned early, transport not
closed), `errStatusNotRunning` (signal before `MarkAsRunning`, e.g. during a slow `OnRun` hook).  (The ticker period of
`transport.Shutdown` is added by `shutdown_bounded`.) -/
theorem spin_returns_bounded (cfg : Hertz.Spin.Cfg) (acts : List Hertz.Spin.Act) (s : Hertz.Spin.State)
    (hr : Hertz.Spin.runPrompt .current cfg {} acts = some s) :
    (∀ t, s.spin = .returned t → t ≤ s.sigAt + cfg.exitWait) ∧ (∀ t, s.spin = .exited t → t ≤ s.sigAt + cfg.exitWait) := by
  have h := Hertz.Spin.runPrompt_inv acts (Hertz.Spin.inv_init (W := cfg.exitWait)) hr
  constructor <;> intro t ht <;> simp only [Hertz.Spin.TInv, ht] at h <;> omega

/-- non-vacuity: drain of one connection; failing registry with a connection still in its handler (Spin returns at once,
listener still open, one connection in its handler: the known finding); signal during the `OnRun` hooks -/
example : (Hertz.Spin.runPrompt .current { exitWait := 50 } {} [.runInit, .markRunning, .listen, .accept, .advance 7, .signal,
    .shutEnter, .hooksEnd, .advance 20, .connDone, .drainDone, .shutReturn, .spinPost, .procExit]).map
    (fun s => (s.spin, s.sigAt, s.lnOpen)) = some (.exited 27, 7, false) := by decide +kernel
example : (Hertz.Spin.runPrompt .current { exitWait := 50, deregFails := true } {} [.runInit, .markRunning, .listen, .accept,
    .advance 7, .signal, .shutEnter, .hooksEnd, .shutReturn, .spinPost, .procExit]).map
    (fun s => (s.spin, s.lnOpen, s.active)) = some (.exited 7, true, 1) := by decide +kernel
example : (Hertz.Spin.runPrompt .current { exitWait := 50 } {} [.runInit, .advance 3, .signal, .shutEnter, .spinPost,
    .procExit, .advance 100]).map (fun s => (s.spin, s.status)) = some (.exited 3, 1) := by decide +kernel

/-- … and no phase of `Spin` after the signal can block for ever: each has an enabled step once its timer has fired. -/
theorem spin_never_stuck (cfg : Hertz.Spin.Cfg) (s : Hertz.Spin.State) :
    (s.spin = .signalled → (Hertz.Spin.step .current cfg s .shutEnter).isSome) ∧
    (s.spin = .draining → s.dl ≤ s.now → (Hertz.Spin.step .current cfg s .drainDeadline).isSome) ∧
    (∀ e, s.spin = .deferred e → s.dl ≤ s.now → (Hertz.Spin.step .current cfg s .shutReturn).isSome) ∧
    (∀ e, s.spin = .after e → (Hertz.Spin.step .current cfg s .spinPost).isSome) ∧
    (∀ t, s.spin = .returned t → (Hertz.Spin.step .current cfg s .procExit).isSome) := by
  refine ⟨?_, ?_, ?_, ?_, ?_⟩
  · intro h; simp only [Hertz.Spin.step, h, if_true]; split <;> (try split) <;> rfl
  · intro h hd; simp [Hertz.Spin.step, h, hd]
  · intro e h hd; simp [Hertz.Spin.step, h, hd]
  · intro e h; simp [Hertz.Spin.step, h, Hertz.Spin.Code.current]
  · intro t h; simp [Hertz.Spin.step, h]

/-- The statement is about the source as it stands: a `Spin` that waits for the result of `Run` after `Shutdown` returned
(`waitsRun`) is stuck for ever when `Shutdown` returned early without closing the transport - `Run` never returns, the clock
may run on, the listener stays open and connections are accepted long after the signal (failing registry); after a signal
during the `OnRun` hooks the server even STARTS to listen and to serve. -/
theorem spin_waiting_for_run_hangs :
    (Hertz.Spin.runPrompt { waitsRun := true } { exitWait := 50, deregFails := true } {} [.runInit, .markRunning, .listen,
      .advance 7, .signal, .shutEnter, .hooksEnd, .shutReturn, .advance 1000000, .accept]).map
      (fun s => (s.spin, s.lateAccept, (Hertz.Spin.step { waitsRun := true } { exitWait := 50, deregFails := true } s .spinPost).isSome))
      = some (.after .dereg, some 1000007, false) ∧
    (Hertz.Spin.runPrompt { waitsRun := true } { exitWait := 50 } {} [.runInit, .advance 3, .signal, .shutEnter,
      .advance 500, .markRunning, .listen, .advance 1000000, .accept]).map
      (fun s => (s.spin, s.lateAccept, (Hertz.Spin.step { waitsRun := true } { exitWait := 50 } s .spinPost).isSome))
      = some (.after .notRunning, some 1000503, false) := by decide +kernel

/-- **spin_never_serves_after_signal.** In every prompt run, a connection can be accepted after the stop signal only within
the exit wait (`now ≤ sigAt + ExitWaitTimeout`: while `Shutdown` drains, or - failing registry - until `Spin` has returned);
when `Shutdown` found the engine not running (signal before `MarkAsRunning`) no time passes at all between the signal and
the end of the process, so a server that was not serving at the signal never starts to.  Once the process has exited no
step but the clock is enabled. -/
theorem spin_never_serves_after_signal (cfg : Hertz.Spin.Cfg) (acts : List Hertz.Spin.Act) (s : Hertz.Spin.State)
    (hr : Hertz.Spin.runPrompt .current cfg {} acts = some s) (hsig : s.spin ≠ .waiting)
    (hacc : (Hertz.Spin.step .current cfg s .accept).isSome = true) :
    s.now ≤ s.sigAt + cfg.exitWait ∧ (s.ranAtShut = false → s.now = s.sigAt) :=
  Hertz.Spin.alive_bounded hr hsig (Hertz.Spin.accept_alive hacc)

theorem spin_exit_is_final (code : Hertz.Spin.Code) (cfg : Hertz.Spin.Cfg) (s : Hertz.Spin.State) (t : Nat)
    (h : s.spin = .exited t) (a : Hertz.Spin.Act) : (∃ d, a = .advance d) ∨ Hertz.Spin.step code cfg s a = none := by
  cases a <;> simp [Hertz.Spin.step, Hertz.Spin.alive, h]

/-- non-vacuity: an accept during the drain is possible for the Run goroutine only before the listener is closed: here the
signal is delivered, and the accept loop takes one more connection before `Shutdown` is entered -/
example : (Hertz.Spin.runPrompt .current { exitWait := 50 } {} [.runInit, .markRunning, .listen, .advance 7, .signal, .accept]).map
    (fun s => (s.spin, s.lateAccept, (Hertz.Spin.step .current { exitWait := 50 } s .accept).isSome)) =
    some (.signalled, some 7, true) := by decide +kernel

/-- **partly_received_request_completes.** Every run of `Hertz.Arrive` for the source as it stands, either transport, any
number of connections, any interleaving of arrivals, handlers, the shutdown and (netpoll) the closing of idle connections:
no connection ever has a read deadline set by the shutdown, no request is answered by an error response and none is cut by
such a deadline (`Good`; the ghost `cut` does not record the end of the process); and for a connection that has received `k` of the `n` bytes of a request (`reading k n`), as long as
the process lives (i.e. until the deadline), the rest can arrive, the handler runs and exactly one more complete response is
written, carrying `Connection: close` iff shutdown has begun, with no error response - whatever the shutdown did before.  If
the peer never sends the rest, the connection ends with the process (`procExit`, enabled only at the deadline or when every
connection is closed). -/
theorem partly_received_request_completes (np : Bool) (W : Nat) (acts : List Hertz.Arrive.Act) (s : Hertz.Arrive.State)
    (hr : Hertz.Arrive.run .current np W {} acts = some s) (c : Nat) (cn : Hertz.Arrive.Conn) (hc : s.conns[c]? = some cn) :
    (cn.deadline = none ∧ cn.errs = 0 ∧ cn.cut = false) ∧
    (∀ k n, cn.ph = .reading k n → k < n → s.exited = false →
      ∃ s', Hertz.Arrive.run .current np W s [.arrive c (n - k) n, .handlerRet c] = some s' ∧
        (s'.conns[c]?).map (·.resps) = some (cn.resps ++ [s.shut]) ∧ (s'.conns[c]?).map (·.errs) = some cn.errs) :=
  ⟨Hertz.Arrive.run_good acts (by simp) hr cn (List.mem_of_getElem? hc),
   fun k n hp hkn hx => Hertz.Arrive.reading_completes .current np W s c k n cn hc hp hkn hx⟩

/-- non-vacuity: 100 of 4196 bytes received, shutdown begins, the rest arrives, the response is complete and carries close;
netpoll closes the idle neighbour and leaves the arriving request alone; a peer that never sends the rest is closed with the
process at the deadline -/
example : (Hertz.Arrive.run .current true 400 {} [.accept, .accept, .arrive 0 100 4196, .advance 30, .shutBegin, .npCloseIdle 1,
    .advance 50, .arrive 0 4096 4196, .handlerRet 0]).map (fun s => s.conns) =
    some [{ ph := .closed, resps := [true] }, { ph := .closed }] := by decide +kernel
example : (Hertz.Arrive.run .current false 400 {} [.accept, .arrive 0 100 4196, .shutBegin, .advance 400, .procExit]).map
    (fun s => (s.exited, s.conns)) = some (true, [{ ph := .closed }]) := by decide +kernel
example : Hertz.Arrive.run .current false 400 {} [.accept, .arrive 0 100 4196, .shutBegin, .advance 399, .procExit] = none := by decide +kernel

/-- The statement is about the source as it stands: a `transport.Shutdown` that sets a read deadline "now" on every tracked
connection (to wake the idle ones) makes the blocked read of a partly received request fail - 408 instead of the response. -/
theorem wake_all_breaks_arriving_request :
    (Hertz.Arrive.run { wakeAll := true } false 400 {} [.accept, .arrive 0 100 4196, .advance 30, .shutBegin, .readTimeout 0]).map
      (fun s => s.conns) = some [{ ph := .closed, deadline := some 30, errs := 1, cut := true }] := by decide +kernel

/-! ### clause ten of the trace specification and the clauses for the process under `Spin` -/

/-- accepted: the rest arrives during the wait and the complete response (with close) is read; the peer never sends the
rest and the connection stays open until the deadline; a request sent in two parts long before the call -/
theorem spec_accepts_arriving_request :
    partlyReceived { exitWait := 400000, tick := 10000, slack := 0, nHooks := 0 }
      #[⟨.base .L, 0⟩, ⟨.base (.A 0), 5000⟩, ⟨.P 0 0 196 4096, 40000⟩, ⟨.base (.S 0), 70000⟩, ⟨.PZ 0 0, 120000⟩,
        ⟨.base (.Q 0 0 false), 120100⟩, ⟨.base (.X 0 0 false), 125000⟩, ⟨.base (.R 0 0 true true), 126000⟩, ⟨.base (.E 0), 126100⟩,
        ⟨.base (.T 0 "nil"), 131000⟩] = [] ∧
    partlyReceived { exitWait := 250000, tick := 10000, slack := 0, nHooks := 0 }
      #[⟨.base .L, 0⟩, ⟨.base (.A 0), 5000⟩, ⟨.P 0 0 104 594, 40000⟩, ⟨.base (.S 0), 70000⟩, ⟨.base (.T 0 "nil"), 320000⟩,
        ⟨.base (.C 0), 372000⟩] = [] ∧
    partlyReceived { exitWait := 250000, tick := 10000, slack := 0, nHooks := 0 }
      #[⟨.base .L, 0⟩, ⟨.base (.A 0), 5000⟩, ⟨.P 0 0 104 594, 10000⟩, ⟨.PZ 0 0, 15000⟩, ⟨.base (.Q 0 0 false), 15100⟩,
        ⟨.base (.X 0 0 false), 15200⟩, ⟨.base (.R 0 0 false true), 15300⟩, ⟨.base (.S 0), 70000⟩, ⟨.base (.T 0 "nil"), 320000⟩] = [] := by
  decide +kernel

/-- rejected: a 408 / truncated response to the partly received request; no response although the peer completed it
in time; the server closing the connection before the deadline -/
theorem spec_still_rejects_cut_arriving_request :
    partlyReceived { exitWait := 400000, tick := 10000, slack := 0, nHooks := 0 }
      #[⟨.base .L, 0⟩, ⟨.base (.A 0), 5000⟩, ⟨.P 0 0 196 4096, 40000⟩, ⟨.base (.S 0), 70000⟩, ⟨.base (.T 0 "nil"), 81000⟩,
        ⟨.PZ 0 0, 120000⟩, ⟨.base (.R 0 0 true false), 120100⟩, ⟨.base (.E 0), 120200⟩] ≠ [] ∧
    partlyReceived { exitWait := 400000, tick := 10000, slack := 0, nHooks := 0 }
      #[⟨.base .L, 0⟩, ⟨.base (.A 0), 5000⟩, ⟨.P 0 0 196 4096, 40000⟩, ⟨.base (.S 0), 70000⟩, ⟨.PZ 0 0, 120000⟩,
        ⟨.base (.F 0 0), 121000⟩] ≠ [] ∧
    partlyReceived { exitWait := 400000, tick := 10000, slack := 0, nHooks := 0 }
      #[⟨.base .L, 0⟩, ⟨.base (.A 0), 5000⟩, ⟨.P 0 0 196 4096, 40000⟩, ⟨.base (.S 0), 70000⟩, ⟨.base (.E 0), 71000⟩] ≠ [] := by
  decide +kernel

/-- accepted: drain, failing registry (no request in progress), signal before the engine runs -/
theorem spec_accepts_spin_outcomes :
    spinViolations { exitWait := 600000, running := true } [⟨.SIG, 150000⟩, ⟨.R 0 "full", 273000⟩, ⟨.R 1 "full", 274000⟩, ⟨.EXIT "0", 275000⟩] = [] ∧
    spinViolations { exitWait := 500000, running := true } [⟨.SIG, 120000⟩, ⟨.EXIT "0", 121000⟩] = [] ∧
    spinViolations { exitWait := 300000, running := false } [⟨.SIG, 80000⟩, ⟨.EXIT "0", 81000⟩] = [] := by
  decide +kernel

/-- rejected: `Spin` does not return; the process ends late; it is killed by the signal; a request in progress is
lost; something is served after a signal that came before the engine ran -/
theorem spec_still_rejects_spin_hang :
    spinViolations { exitWait := 500000, running := true } [⟨.SIG, 120000⟩, ⟨.LS, 241000⟩, ⟨.EXIT "timeout", 4620000⟩] ≠ [] ∧
    spinViolations { exitWait := 500000, running := true } [⟨.SIG, 120000⟩, ⟨.EXIT "0", 1700000⟩] ≠ [] ∧
    spinViolations { exitWait := 500000, running := true } [⟨.SIG, 120000⟩, ⟨.EXIT "signal:terminated", 121000⟩] ≠ [] ∧
    spinViolations { exitWait := 500000, running := true } [⟨.SIG, 120000⟩, ⟨.EXIT "0", 121000⟩, ⟨.R 0 "none", 121100⟩] ≠ [] ∧
    spinViolations { exitWait := 300000, running := false } [⟨.SIG, 80000⟩, ⟨.LS, 726000⟩, ⟨.EXIT "0", 900000⟩] ≠ [] := by
  decide +kernel

end CallerAndArriving

/-
What is proved and what is open.
 * `run_satisfies_spec` (Proofs/ShutdownSpecBase, …Inv, …Log, …Refine, …Sched, …Full, …Prompt):
   `Hertz.ShutdownSpec.violations p (obsRun …) = []`, all nine clauses (`inflightComplete`, `closeAfterShutdown`,
   `noSpuriousClose`, `noAcceptAfter`, `bounded`, `errorsReported`, `hooksRun`, `connsWaited`, `prompt`), for the
   observable projection of every run of the model, under these explicit hypotheses (all satisfied by `specDemo`
   and `earlyDemo`):
     - `allOk okSched`: (a) `okWin` — no CAS of a `Shutdown` caller succeeds between `MarkAsRunning` and `Listen`
       (the known finding; what it gives, `lnSkipped = false`, is used for `noAcceptAfter`, `hooksRun`, `connsWaited`,
       `errorsReported`; `closeAfterShutdown` and `noSpuriousClose` hold without it, and the two wall-clock clauses
       read the bundle `JW`, which holds of every run);
       (b) `canTick` — the clock advances only while the winner is blocked and not beyond its wake-up, no caller is
       between call and return, no connection goroutine has an internal step pending (needed ONLY by the two
       wall-clock clauses `bounded` and `prompt`; `run_satisfies_spec_partial` is the statement without (b));
     - completeness of the run: `Settled` (clients have read their responses; `inflightComplete`), `HooksStarted`
       (no hook goroutine left unscheduled; `hooksRun`), `CallersDone` (every call has returned; `bounded`);
     - `ParamsOk p cfg n` (the spec's parameters are the model's).
 * Legitimate behaviours the spec predicate in Spec/Shutdown.lean has to accept (`retFlipAt`/`flipAt`; the
   `errShutdownTimeout` exception of `errorsReported` with `runningAtRet`; `idleClose` in `prompt`):
   `spec_accepts_*` / `spec_still_rejects_*` show acceptance of a witness and rejection of bad traces of each kind.
   A call made before `Run` whose status load lands after `Listen` (it wins) is accepted too: the example after
   `earlyDemo`.
 * TODO-OPEN
   - the gap between the driver's acceptance and the theorem: the projection never contains `F`, `FN`, truncated
     `R`, `RR` (the driver maps them to no model step), and stamps events with the model clock, whereas the driver
     only forces `now ≥ e.t` when it replays a real trace; "driver accepts the trace ⇒ some run has exactly this
     projection (with these time stamps)" is not a theorem.  The time-free clauses do not depend on stamps.
   - real schedules do not satisfy `canTick` literally (goroutines are delayed by the Go scheduler); the 1 s `slack`
     of the driver's `Params` stands for that and is not modelled (`bounded`/`prompt` are proved with slack 0).
   - remaining imprecision of the spec predicate, harmless for the harness: `errorsReported` gives no verdict on a
     call that overlaps another call (`otherCalled`); `prompt` gives no verdict when a client hung up on a
     connection with an unanswered request (`idleClose`), or when some connection never ended.
   - liveness under fairness: `shutdown_never_stuck` + `caller_never_blocks` say every phase of every `Shutdown`
     call has an enabled step once its timer has fired; `CallersDone`/`HooksStarted`/`Settled` are hypotheses here.
     Not proved: "every maximal finite run (whose clock passes `dl`) ends with all callers finished", which needs a
     maximality predicate over `run`.

The caller's side (`Hertz.Spin`) and arriving requests (`Hertz.Arrive`).
 * Proved: `spin_returns_bounded`, `spin_never_stuck`, `spin_never_serves_after_signal`, `spin_exit_is_final`
   (model `Hertz.Spin`, every prompt run, every outcome of `Shutdown`), `partly_received_request_completes` (model
   `Hertz.Arrive`, every run, both transports), the two witnesses for the changed code (`spin_waiting_for_run_hangs`,
   `wake_all_breaks_arriving_request`), `spin_model_matches_gen`, and accept/reject examples for clause ten
   (`partlyReceived`) and for `spinViolations`.
 * TODO-OPEN
   - `Hertz.Spin` takes `Engine.Shutdown` at the granularity of its outcomes; it is not proved to be an abstraction of
     `Hertz.Shutdown.step` (the two models share no state); in particular the bound here is `ExitWaitTimeout`, the
     ticker period comes from `shutdown_bounded`.
   - `Hertz.Arrive` is a separate small model too (phases of ONE request per connection by bytes received); the
     keep-alive loop of `Hertz.Shutdown` is not refined by it.  netpoll's `isIdle` window (bytes in the kernel, poller
     not yet dispatched) is not modelled: clause ten only judges requests written 10 ms before the call.
   - "model run of `Hertz.Arrive` / `Hertz.Spin` => clause ten / `spinViolations` empty" is not a theorem (the
     clauses are evaluated per case on the real server and process).
   - in-flight requests are LOST when `Deregister` fails (Spin returns with connections in their handlers, see the
     second non-vacuity example of `spin_returns_bounded`): known finding `dereg-error-skips-drain`.
-/

end Hertz.Props.C18
