import Hertz.Proofs.Tie
import Hertz.Proofs.TieP1
import Hertz.Proofs.TieP2
import Hertz.Proofs.TieP3
import Hertz.Proofs.TieP4
import Hertz.Model.Http1.RespRead
/-!
# Tie by translation + proof

`Hertz.Gen.Funcs` is regenerated from the Go source on every run by `gen/funcs.go` (a mechanical Go → Lean translation of
small leaf functions, scheme in `gen/FUNCS.md`, target language `Hertz/GoSem.lean`).  Each theorem below says that the
translation of the function AS IT IS IN THE TREE NOW is equal, on all inputs, to the hand model the property proofs are
about.  A change of the Go function changes `Gen/Funcs.lean`, and the theorem stops building (or, if the function leaves
the translated subset, becomes ill-typed: `untranslated "<reason>"`).

Hypotheses `….length < 2^63` say that a Go slice is never longer than `maxInt` (loop counters are 64-bit `int`s in the
translation and would wrap otherwise).  `Fault.fuel` never appears on a right-hand side: the theorems also prove that
the loop fuel chosen by the translator suffices.
-/
open Hertz

namespace Hertz.Props.Tie

/-- `bytesconv.AppendQuotedArg(dst, src)` (translated) = `dst ++ quoteArg src` (model of C17/C11) -/
theorem gen_appendQuotedArg_eq_model (dst src : Bytes) :
    Gen.Funcs.appendQuotedArg dst src = .ok (dst ++ quoteArg src) := Tie.appendQuotedArg_eq dst src
example : Gen.Funcs.appendQuotedArg [120] [97, 32, 38] = .ok [120, 97, 43, 37, 50, 54] := by decide +kernel

/-- `utils.CaseInsensitiveCompare(a, b)` (translated) = `H1.ciEq a b` (model of C01/C03/C05) -/
theorem gen_caseInsensitiveCompare_eq_model (a b : Bytes) (hlen : a.length < 2^63) :
    Gen.Funcs.caseInsensitiveCompare a b = .ok (H1.ciEq a b) := Tie.caseInsensitiveCompare_eq a b hlen
example : Gen.Funcs.caseInsensitiveCompare [72, 111] [104, 79] = .ok true := by decide +kernel

/-! ### `internal/bytesconv` integers (C08, C01, C03) -/

/-- `bytesconv.ParseUintBuf(b)` (translated, with its overflow test and 64-bit arithmetic) = `FS.parseUintBuf b`;
the Go triple `(v, n, err)` is the model triple with `err` named (`Tie.viewBuf`, `Tie.errName`) -/
theorem gen_parseUintBuf_eq_model (b : Bytes) (hlen : b.length < 2^63) :
    Gen.Funcs.parseUintBuf b = .ok (Tie.viewBuf (FS.parseUintBuf b)) := Tie.parseUintBuf_eq b hlen
example : Gen.Funcs.parseUintBuf [49, 50, 120] = .ok (12, 2, none) := by decide +kernel
example : Gen.Funcs.parseUintBuf (List.replicate 19 57) = .ok (-1, 18, some "errTooLongInt") := by decide +kernel

/-- `bytesconv.ParseUint(b)` (translated) = `FS.parseUint b` (`.ok v ↦ (v, nil)`, `.error e ↦ (-1, e)`) -/
theorem gen_parseUint_eq_model (b : Bytes) (hlen : b.length < 2^63) :
    Gen.Funcs.parseUint b = .ok (Tie.viewU (FS.parseUint b)) := Tie.parseUint_eq b hlen
example : Gen.Funcs.parseUint [52, 50] = .ok (42, none) := by decide +kernel
example : Gen.Funcs.parseUint [52, 50, 32] = .ok (-1, some "errUnexpectedTrailingChar") := by decide +kernel

/-- the same Go function against the SECOND hand model (`H1.parseUint`, natural numbers, used by the HTTP/1 reader of
C01/C03 for `Content-Length`): accepted value or rejected (`Tie.viewOpt`) -/
theorem gen_parseUint_eq_model_h1 (b : Bytes) (hlen : b.length < 2^63) :
    (Gen.Funcs.parseUint b).map Tie.viewOpt = .ok (H1.parseUint b) := Tie.parseUint_eq_h1 b hlen
example : (Gen.Funcs.parseUint [52, 50]).map Tie.viewOpt = .ok (some 42) := by decide +kernel

/-! ### `app.ParseByteRange` (C08) -/

/-- `app.ParseByteRange(byteRange, contentLength)` (translated from `pkg/app/fs.go`, calling the translated `ParseUint`)
never panics and, read through `Tie.BR.viewBR` (`err = nil ↦ .ok (start, end)`, otherwise `.error .bad`), is
`FS.parseByteRange`.  `0 ≤ contentLength` (a file size) is a genuine restriction, see `…_fails_at`. -/
theorem gen_parseByteRange_eq_model (byteRange : Bytes) (contentLength : Int) (hlen : byteRange.length < 2^63)
    (hcl : 0 ≤ contentLength ∧ contentLength < 2^63) :
    (Gen.Funcs.parseByteRange byteRange contentLength).map Tie.BR.viewBR =
      .ok (FS.parseByteRange byteRange contentLength) :=
  Tie.parseByteRange_eq_of byteRange contentLength hlen hcl
example : Gen.Funcs.parseByteRange [98, 121, 116, 101, 115, 61, 45, 51] 10 = .ok (7, 9, none)
    ∧ FS.parseByteRange [98, 121, 116, 101, 115, 61, 45, 51] 10 = .ok (7, 9) := by decide +kernel

/-- on an error the Go function returns `(0, 0, err)` -/
theorem gen_parseByteRange_err_zero (byteRange : Bytes) (contentLength : Int) (hlen : byteRange.length < 2^63)
    (hcl : 0 ≤ contentLength ∧ contentLength < 2^63) :
    ∃ s e err, Gen.Funcs.parseByteRange byteRange contentLength = .ok (s, e, err) ∧ (err ≠ none → s = 0 ∧ e = 0) :=
  Tie.parseByteRange_err_zero byteRange contentLength hlen hcl
example : Gen.Funcs.parseByteRange [98, 121, 116, 101, 115, 61, 53, 45, 120] 10 = .ok (0, 0, some "errUnexpectedTrailingChar") := by
  decide +kernel

/-- MODEL DISCREPANCY (idealisation, harmless): for a NEGATIVE `contentLength` the model's `contentLength - v` /
`contentLength - 1` are computed in unbounded `Int` while Go (and the translation) wrap at 64 bits.
Witness `bytes=-1`, `contentLength = minInt`. -/
theorem gen_parseByteRange_eq_model_fails_at :
    (Gen.Funcs.parseByteRange [98, 121, 116, 101, 115, 61, 45, 49] (-9223372036854775808)).map Tie.BR.viewBR
        = .ok (.ok (9223372036854775807, 9223372036854775807)) ∧
      FS.parseByteRange [98, 121, 116, 101, 115, 61, 45, 49] (-9223372036854775808)
        = .ok (0, -9223372036854775809) := Tie.parseByteRange_fails_at

/-! ### `pkg/common/utils`, `pkg/protocol` header helpers (C01, C03, C05) -/

/-- `protocol.IsBadTrailer(key)` (translated switch on `key[0]|0x20`, guarded slices) = `H1.isBadTrailer key` -/
theorem gen_isBadTrailer_eq_model (key : Bytes) (hlen : key.length < 2^63) :
    Gen.Funcs.isBadTrailer key = .ok (H1.isBadTrailer key) := Tie.isBadTrailer_eq key hlen
example : Gen.Funcs.isBadTrailer (str "content-LENGTH") = .ok true := by decide +kernel
example : Gen.Funcs.isBadTrailer (str "Proxy-Foo") = .ok false := by decide +kernel

/-- `utils.NextLine(b)` (translated) = `H1.nextLine b` (`none` = `errNeedMore`) -/
theorem gen_nextLine_eq_model (b : Bytes) (hlen : b.length < 2^63) :
    Gen.Funcs.nextLine b = .ok (match H1.nextLine b with
      | some (line, rest) => (line, rest, none)
      | none => ([], [], some "errNeedMore")) := Tie.nextLine_eq b hlen
example : Gen.Funcs.nextLine [97, 98, 13, 10, 99] = .ok ([97, 98], [99], none) := by decide +kernel

/-- `newlineToSpace(val)` of `pkg/protocol/header.go` (translated: make, copy, in-place table loop) = `HW.newlineToSpace` -/
theorem gen_newlineToSpace_eq_model (val : Bytes) (hlen : val.length < 2^63) :
    Gen.Funcs.newlineToSpace val = .ok (HW.newlineToSpace val) := Tie.newlineToSpace_eq val hlen
example : Gen.Funcs.newlineToSpace [97, 13, 10, 98] = .ok [97, 32, 32, 98] := by decide +kernel

/-- `appendHeaderLine(dst, key, value)` (translated) = `dst ++ HW.headerLine (key, value)` (model of C05/C04) -/
theorem gen_appendHeaderLine_eq_model (dst key value : Bytes) (hlen : value.length < 2^63) :
    Gen.Funcs.appendHeaderLine dst key value = .ok (dst ++ HW.headerLine (key, value)) :=
  Tie.appendHeaderLine_eq dst key value hlen
example : Gen.Funcs.appendHeaderLine [1] [72, 111] [97, 10, 98] = .ok [1, 72, 111, 58, 32, 97, 32, 98, 13, 10] := by
  decide +kernel
example : Gen.Funcs.appendHeaderLine [1] [72, 32] [97, 10, 98] = .ok [1] := by decide +kernel

/-- `bytesconv.LowercaseBytes(b)` (translated, in place through `p := &b[i]`) leaves `b.map toLower` in `b` -/
theorem gen_lowercaseBytes_eq_model (b : Bytes) (hlen : b.length < 2^63) :
    Gen.Funcs.lowercaseBytes b = .ok (b.map toLower) := Tie.lowercaseBytes_eq b hlen
example : Gen.Funcs.lowercaseBytes [72, 111, 83, 84, 45, 90, 64, 91] = .ok [104, 111, 115, 116, 45, 122, 64, 91] := by
  decide +kernel

/-- `utils.NormalizeHeaderKey(b, disable)` (translated: in place, `p := &b[i]`, `i++` inside the loop after a `-`)
leaves `H1.normalizeKey disable b` in `b`.  `b.length + 1 < 2^63`: at `len(b) = maxInt` with a final `-` the Go counter
itself wraps (`i++` twice). -/
theorem gen_normalizeHeaderKey_eq_model (b : Bytes) (disable : Bool) (hlen : b.length + 1 < 2^63) :
    Gen.Funcs.normalizeHeaderKey b disable = .ok (H1.normalizeKey disable b) := Tie.normalizeHeaderKey_eq b disable hlen
example : Gen.Funcs.normalizeHeaderKey (str "cONTENT--tYPE-x-") false = .ok (str "Content--type-X-") := by decide +kernel

/-! ### quoting and decoding (C17, C11) -/

/-- `bytesconv.AppendQuotedPath(dst, src)` (translated) = `dst ++ quotePath src` -/
theorem gen_appendQuotedPath_eq_model (dst src : Bytes) :
    Gen.Funcs.appendQuotedPath dst src = .ok (dst ++ quotePath src) := Tie.appendQuotedPath_eq dst src
example : Gen.Funcs.appendQuotedPath [1] [47, 97, 32, 98, 37, 255] = .ok [1, 47, 97, 37, 50, 48, 98, 37, 50, 53, 37, 70, 70] := by
  decide +kernel
example : Gen.Funcs.appendQuotedPath [1] [42] = .ok [1, 42] := by decide +kernel

/-- `decodeArgAppend(dst, src)` of `pkg/protocol/args.go` (translated: fast path, `i += 2` inside the loop, early return
of the unfinished escape) = `dst ++ decodeArg src` -/
theorem gen_decodeArgAppend_eq_model (dst src : Bytes) (hlen : src.length + 1 < 2^63) :
    Gen.Funcs.decodeArgAppend dst src = .ok (dst ++ decodeArg src) := Tie.decodeArgAppend_eq dst src hlen
example : Gen.Funcs.decodeArgAppend [1] (str "a+b%41%4g%") = .ok (1 :: str "a bA%4g%") := by decide +kernel

/-- `decodeArgAppendNoPlus(dst, src)` (translated) = `dst ++ decodeArgNoPlus src` -/
theorem gen_decodeArgAppendNoPlus_eq_model (dst src : Bytes) (hlen : src.length + 1 < 2^63) :
    Gen.Funcs.decodeArgAppendNoPlus dst src = .ok (dst ++ decodeArgNoPlus src) := Tie.decodeArgAppendNoPlus_eq dst src hlen
example : Gen.Funcs.decodeArgAppendNoPlus [1] (str "a+b%41%4g%") = .ok (1 :: str "a+bA%4g%") := by decide +kernel

/-
TODO-OPEN
* `bytesconv.AppendUint`: translated (`Gen.Funcs.appendUint`, executable), equality with `FS.appendUint`
  (`n ≤ Go.maxInt → Gen.Funcs.appendUint dst n = match FS.appendUint n with | .ok d => .ok (dst ++ d) | .error _ => .error .panic`)
  not proved yet.
* `addLeadingSlash` (uri_unix.go): translated, no separate model function to compare with.
* `normalizePath`, `ReadHexInt`: not in the translated subset / not attempted.
-/
example : Gen.Funcs.appendUint [120] 1203 = .ok [120, 49, 50, 48, 51] := by decide +kernel
example : Gen.Funcs.appendUint [] (-1) = .error .panic := by decide +kernel

/-- `resp.isInterim` (the interim status codes `ReadHeaders` skips, `/repo` 8ec4dd8) as written in the source = the model's
`RespRead.isInterim` the theorems `interim_skipped` / `interims_skipped` of C11 speak about, for every status code a
response head can carry (`status` is a `Nat` in the model) -/
theorem gen_isInterim_eq_model (code : Nat) :
    Gen.Funcs.isInterim (code : Int) = .ok (H1.RespRead.isInterim code) := by
  unfold Gen.Funcs.isInterim H1.RespRead.isInterim
  congr 1
  have hk : ∀ k : Nat, (((code : Int) == (OfNat.ofNat k : Int)) : Bool) = (code == k) := fun k => by
    rw [Bool.eq_iff_iff, beq_iff_eq, beq_iff_eq]; exact Int.natCast_inj
  rw [hk 100, hk 102, hk 103]

example : Gen.Funcs.isInterim 103 = .ok true ∧ Gen.Funcs.isInterim 101 = .ok false := by decide

end Hertz.Props.Tie
