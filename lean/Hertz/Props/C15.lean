import Hertz.Proofs.Bind
import Hertz.Proofs.BindRefine
import Hertz.Proofs.BindNested
import Hertz.Spec.Bind
/-!
# C15 — Binding fills each field from the highest-priority source that carries it

Statements are about the model `Hertz.Bind` (Model/Bind.lean), which mirrors
`decoder/{tag,getter,slice_getter,base_type_decoder,slice_type_decoder,text_decoder,decoder}.go` and
`binding/default.go` and is compared with the real `binding.Bind` on run-time generated struct types on
every run of the check.  The decoder-level theorems quantify over ALL tag lists (not only those
`lookupFieldTags` can produce), all requests, all field types; no size bounds.

Vocabulary (Proofs/Bind.lean): `t.isText` = the tag is consulted as a text source (not named `-`, not
json); `textPresent r t` / `textsPresent r t` = the getter of its source finds the key (single value /
at least one value for a slice); `jsonCarries r t` = JSON content type (case-insensitive) and the body has
the tag's name (`Spec.Bind.jsonCarries r n` is the specification's notion, on a name and with a non-empty body);
`NoneCarries r tis` / `NoneCarriesS r tis` = no consulted tag of `tis` finds anything (scalars / slices);
`t.effective` = the tag takes part in the loop (json, or not named `-`).

Known deviations of the code from the property as stated are kept as `…_fails_at` witnesses (checked
by `decide` here and replayed against the Go code by the harness) next to the `…_partial` theorem:
* `default_kept_fails_at`   — all source tags named `-`: the declared default is dropped;
* `bind_refines_spec_fails_at` — a source key repeated in the struct tag (`dup_tag_witness`): the refinement needs
  `FieldWF` besides `fieldClass = ""`;
* `nested_bind_refines_spec_fails_at` — a `required` json leaf inside a struct whose object is absent: bound to a silent zero.
`shared_cache_breaks_bind` shows that the cache hypothesis of `entry_point_keeps_caches_wf` cannot be dropped.
Regression theorems for repaired defects: `f12_regression` (/repo c05e9fa), `ct_case_regression` (ee1271c),
`slice_header_regression` (c70acfd), `embedded_default_repaired` (1242bf1).
-/
namespace Hertz.Props.C15
open Hertz Hertz.Bind

/-! ## the priority list is the documented one (regenerated from decoder/tag.go on every run) -/

/-- `lookupFieldTags` and `getDefaultFieldTags` enumerate the sources in the documented order
path, form, query, cookie, header, json (then raw_body / file_name, outside this property). -/
theorem priority_matches_documented :
    Gen.Bind.lookupFieldTagsOrder = ["path", "form", "query", "cookie", "header", "json", "raw_body", "file_name"] ∧
    Gen.Bind.defaultFieldTagsOrder = ["path", "form", "query", "cookie", "header", "json", "file_name"] ∧
    lookupOrder = Spec.Bind.priority ∧ defaultOrder = Spec.Bind.priority :=
  ⟨rfl, rfl, lookupOrder_eq, defaultOrder_eq⟩

def allBases : List Base :=
  [.bool, .str, .int 0, .int 8, .int 16, .int 32, .int 64, .uint 0, .uint 8, .uint 16, .uint 32, .uint 64, .float 32, .float 64]

/-- the hand-written facts of the model agree with the regenerated Go source (`Gen.Bind`): decoder and `bitSize`
per kind (`SelectTextDecoder`), base 10 in `ParseInt`/`ParseUint`, the getter installed per tag, and the
same getter table in both field decoders -/
theorem model_matches_gen :
    (∀ b ∈ allBases, Gen.Bind.selectTextDecoder.lookup b.kindName = some b.decoder) ∧
    Gen.Bind.strconvCalls = [("boolDecoder", "ParseBool", 0), ("floatDecoder", "ParseFloat", 0),
                             ("intDecoder", "ParseInt", 10), ("uintDecoder", "ParseUint", 10)] ∧
    Gen.Bind.baseGetters.take 6 = [("path", "path", "pathSlice"), ("form", "postForm", "postFormSlice"),
      ("query", "query", "querySlice"), ("cookie", "cookie", "cookieSlice"), ("header", "header", "headerSlice"), ("json", "", "")] ∧
    Gen.Bind.sliceGetters = Gen.Bind.baseGetters := by decide +kernel

/-- whatever the order of the tags inside the struct tag, the decoder sees them in priority order -/
theorem tags_in_priority_order (f : Field) :
    ((fieldTagInfos f).map (·.key)).Sublist [.path, .form, .query, .cookie, .header, .json] := by
  have h := fieldTagInfos_sorted f
  rwa [lookupOrder_eq] at h

/-- all tags of a field carry the field's declared default -/
theorem tags_share_default (f : Field) : ∀ t ∈ fieldTagInfos f, t.dflt = f.dflt.getD [] :=
  fieldTagInfos_dflt f

/-! ## picks_first_present -/

/-- **Scalars.** If `ti` is the first consulted text tag of the list whose source carries its key, the
field is decoded from exactly that text (the declared default standing in for an empty text), by Go's
text rules for the field's kind; `required` errors of earlier tags are cleared, later tags (json
included) are not consulted. -/
theorem picks_first_present (r : Req) (ty : Ty) (pre : List TagInfo) (ti : TagInfo) (post : List TagInfo)
    (prev : FieldVal) (hpre : ∀ t ∈ pre, t.isText → textPresent r t = false)
    (hti : ti.isText) (hg : textPresent r ti = true) :
    decodeBase r ty (pre ++ ti :: post) prev = textOutcome ty (effText ty (getter r ti.key ti.value).1 ti.dflt) := by
  rw [decodeBase_eq, tagLoop_first hpre hti hg]
  rfl

/-- **Slices.** Same, with all values of the key; if element-wise conversion fails the first text is
tried as a JSON array. -/
theorem picks_first_present_slice (r : Req) (ty : Ty) (pre : List TagInfo) (ti : TagInfo) (post : List TagInfo)
    (prev : FieldVal) (t0 : Bytes) (ts : List Bytes)
    (hpre : ∀ t ∈ pre, t.isText → textsPresent r t = false)
    (hti : ti.isText) (hg : sliceGetter r ti.key ti.value = t0 :: ts) :
    decodeSlice r ty (pre ++ ti :: post) prev = textsOutcome ty prev t0 ts := by
  rw [decodeSlice_eq, tagLoop_first hpre hti (by simp [textsPresent, hg])]
  simp only [sliceOut, hg]

/-- **JSON is last.**  If no text tag finds anything and the json tag (last in the list, see
`tags_in_priority_order`) names a key the JSON body carries (JSON content type in any letter case), the
field keeps what the JSON pre-bind stored in it — even if an earlier tag was `required`, even if a
default is declared (`keyExist` folds the case of the content type as the pre-bind does). -/
theorem json_value_kept (r : Req) (ty : Ty) (pre : List TagInfo) (tj : TagInfo) (prev : FieldVal)
    (hpre : ∀ t ∈ pre, t.isText → textPresent r t = false) (hprej : ∀ t ∈ pre, t.key ≠ .json)
    (hk : tj.key = .json) (he : jsonCarries r tj = true) :
    decodeBase r ty (pre ++ [tj]) prev = .ok prev := by
  -- `hprej` is not needed: a json tag before `tj` touches only `err` and the default, and `tj` clears both
  rw [decodeBase_eq, tagLoop_json_last hpre rfl hk he]
  rfl

def tyInt : Ty := { base := .int 0 }
def kA : Bytes := [97]
def kB : Bytes := [98]
/-- `Application/JSON` -/
def ctMixed : Bytes := [65, 112, 112, 108, 105, 99, 97, 116, 105, 111, 110, 47, 74, 83, 79, 78]

/-- regression for /repo ee1271c: field `A int` tagged `query:"a" json:"a" default:"7"`, request with
`Content-Type: Application/JSON` and body `{"a":5}`: the hypotheses of `json_value_kept` hold and the field
is 5, not the default 7. -/
theorem ct_case_regression :
    let f : Field := { name := [65], ty := tyInt, tags := [(.query, kA), (.json, kA)], dflt := some [55] }
    let r : Req := { ct := ctMixed, body := .json [(kA, .atom (.int 5))] }
    (∀ t ∈ fieldTagInfos f, t.isText → textPresent r t = false) ∧
    (∃ t ∈ fieldTagInfos f, t.key = .json ∧ jsonCarries r t = true) ∧
    preField r f = .ok (.one (.i 5)) ∧ bindField f r = .ok (.one (.i 5)) := by decide +kernel

/-- regression for /repo c70acfd: `A []string` tagged `header:"x-a"`, request header `x-a: v` (stored as `X-A`):
bound to `["v"]` (the stored key and the tag are compared ignoring case). -/
theorem slice_header_regression :
    let f : Field := { name := [65], ty := { base := .str, slice := true }, tags := [(.header, [120, 45, 97])] }
    let r : Req := { headers := [([120, 45, 97], [118])] }
    sliceGetter r .header [120, 45, 97] = [[118]] ∧ bindField f r = .ok (.many [some (.s [118])]) := by decide +kernel

/-! ## required_is_error -/

/-- **A missing required value is an error, never a silent zero** (any tag list, any position of the
required tag, optional json tags included). -/
theorem required_is_error (r : Req) (ty : Ty) (tis : List TagInfo) (prev : FieldVal)
    (hn : NoneCarries r tis) (hreq : ∃ t ∈ tis, t.effective ∧ t.required = true) :
    decodeBase r ty tis prev = .err .required := by
  rw [decodeBase_eq, baseOut, tagLoop_required hn rfl hreq]

theorem required_is_error_slice (r : Req) (ty : Ty) (tis : List TagInfo) (prev : FieldVal)
    (hn : NoneCarriesS r tis) (hreq : ∃ t ∈ tis, t.effective ∧ t.required = true) :
    decodeSlice r ty tis prev = .err .required := by
  rw [decodeSlice_eq, sliceOut, tagLoop_required hn rfl hreq]

/-- regression for /repo c05e9fa: `A int` tagged `query:"a,required" json:"b"`, empty request: an error, not a silent 0 -/
theorem f12_regression :
    Hertz.Bind.bind [{ name := [65], ty := tyInt, tags := [(.query, kA ++ [44] ++ requiredOpt), (.json, kB)] }] {} = .err .required := by
  decide +kernel

/-! ## default_kept -/

/-- **No source carries the field, nothing is required: the field keeps what it had (zero value) or gets
its declared default**, provided at least one tag takes part in the loop. -/
theorem default_kept_partial (r : Req) (ty : Ty) (tis : List TagInfo) (prev : FieldVal) (d : Bytes)
    (hty : ty.slice = false)
    (hn : NoneCarries r tis) (hr : ∀ t ∈ tis, t.effective → t.required = false)
    (hd : ∀ t ∈ tis, t.dflt = d) (he : ∃ t ∈ tis, t.effective) :
    decodeBase r ty tis prev = defaultOutcome ty d prev := by
  rw [decodeBase_eq, tagLoop_default hn hr hd rfl rfl (Or.inr he)]
  simp only [baseOut, defaultOutcome, toDefaultValue_scalar ty d hty, or_self]

/-- slices: the default is read as JSON -/
theorem default_kept_slice_partial (r : Req) (ty : Ty) (tis : List TagInfo) (prev : FieldVal) (d : Bytes)
    (hn : NoneCarriesS r tis) (hr : ∀ t ∈ tis, t.effective → t.required = false)
    (hd : ∀ t ∈ tis, t.dflt = d) (he : ∃ t ∈ tis, t.effective) :
    decodeSlice r ty tis prev = defaultOutcomeS ty d prev := by
  rw [decodeSlice_eq, tagLoop_default hn hr hd rfl rfl (Or.inr he)]
  rfl

/-- Without the last hypothesis the statement is FALSE of the code: `A int` tagged `query:"-" default:"7"`:
every tag is skipped, `defaultValue` is never assigned, the field stays 0.  (class `dash-only-default`) -/
theorem default_kept_fails_at :
    let f : Field := { name := [65], ty := tyInt, tags := [(.query, dash)], dflt := some [55] }
    NoneCarries {} (fieldTagInfos f) ∧ (∀ t ∈ fieldTagInfos f, t.effective → t.required = false) ∧
    (∀ t ∈ fieldTagInfos f, t.dflt = [55]) ∧
    decodeBase {} tyInt (fieldTagInfos f) .unset ≠ defaultOutcome tyInt [55] .unset := by decide +kernel

/-! ## pure_function -/

/-- **The result depends only on the type description and the request**: through any binder whose cache
was filled by `bindTag` itself, any sequence of binds of any types gives, step by step, the result of
the cache-free function `bind`. -/
theorem pure_function (b : Binder) (hb : b.WF) (ops : List (List Field × Req)) :
    b.run ops = ops.map (fun (o : List Field × Req) => Hertz.Bind.bind o.1 o.2) := by
  induction ops generalizing b with
  | nil => rfl
  | cons o ops ih =>
    obtain ⟨t, r⟩ := o
    simp only [Binder.run, List.map_cons]
    rw [(Binder.bind_pure b hb t r).1, ih _ (Binder.bind_pure b hb t r).2]

/-- a fresh binder is well-formed and every bind keeps it so: first use and later uses agree -/
theorem cache_transparent (ops : List (List Field × Req)) (t : List Field) (r : Req) :
    ((Binder.mk []).run (ops ++ [(t, r)])).getLast? = some (Hertz.Bind.bind t r) := by
  rw [pure_function _ Binder.empty_wf]; simp

theorem bind_keeps_cache_wf (b : Binder) (hb : b.WF) (t : List Field) (r : Req) :
    (b.bind t r).1 = Hertz.Bind.bind t r ∧ (b.bind t r).2.WF :=
  Binder.bind_pure b hb t r

/-! ## non-vacuity -/

def tq (req : Bool) : TagInfo := { key := .query, value := kA, jsonName := [65], required := req }
def th : TagInfo := { key := .header, value := kA, jsonName := [65] }
def tj : TagInfo := { key := .json, value := kA, jsonName := kA }
def rqH : Req := { headers := [(kA, [51])] }                                   -- header a: 3
def rqJ : Req := { ct := mimeJSON, body := .json [(kA, .atom (.int 5))] }     -- {"a":5}

set_option maxRecDepth 100000 in
/-- picks_first_present: query required but absent, header present → 3 from the header, no error -/
example : (∀ t ∈ [tq true], t.isText → textPresent rqH t = false) ∧ th.isText ∧ textPresent rqH th = true ∧
    decodeBase rqH tyInt ([tq true] ++ th :: [tj]) .unset = .ok (.one (.i 3)) := by decide +kernel

set_option maxRecDepth 100000 in
/-- picks_first_present_slice: two query values -/
example : sliceGetter { query := [(kA, [49]), (kB, [50]), (kA, [51])] } .query kA = [[49], [51]] ∧
    decodeSlice { query := [(kA, [49]), (kB, [50]), (kA, [51])] } { base := .int 8, slice := true } ([] ++ tq false :: []) .unset
      = .ok (.many [some (.i 1), some (.i 3)]) := by decide +kernel

set_option maxRecDepth 100000 in
/-- json_value_kept: required query absent, json key present → pre-bound 5 kept -/
example : jsonCarries rqJ tj = true ∧ decodeBase rqJ tyInt ([tq true] ++ [tj]) (.one (.i 5)) = .ok (.one (.i 5)) := by decide +kernel

set_option maxRecDepth 100000 in
/-- required_is_error: hypotheses hold for the F12 shape -/
example : NoneCarries {} [tq true, { tj with jsonName := kB }] ∧
    (∃ t ∈ [tq true, { tj with jsonName := kB }], t.effective ∧ t.required = true) := by decide +kernel

set_option maxRecDepth 100000 in
/-- default_kept_partial: default 7 applied -/
example : NoneCarries {} [{ tq false with dflt := [55] }] ∧
    decodeBase {} tyInt [{ tq false with dflt := [55] }] .unset = .ok (.one (.i 7)) := by decide +kernel

set_option maxRecDepth 100000 in
/-- pure_function: A, B, A through one binder -/
example :
    let a : List Field := [{ name := [65], ty := tyInt, tags := [(.header, kA)] }]
    let b : List Field := [{ name := [66], ty := { base := .str }, tags := [(.query, kA)] }]
    (Binder.mk []).run [(a, rqH), (b, rqH), (a, rqH)] = [.ok [.one (.i 3)], .ok [.unset], .ok [.one (.i 3)]] := by decide +kernel

set_option maxRecDepth 100000 in
/-- tags_in_priority_order: tags written in reverse order -/
example : (fieldTagInfos { name := [65], ty := tyInt, tags := [(.json, kA), (.header, kA), (.path, kA)] }).map (·.key)
    = [.path, .header, .json] := by decide +kernel

/-! ## bind_refines_spec: the model of `Bind` against the declarative specification -/

/-- **Header keys.** `RequestHeader.Peek` compares normalised keys; that is ASCII-case-insensitive
comparison (`utils.CaseInsensitiveCompare`), for all keys (table facts about `ToLowerTable`/`ToUpperTable`). -/
theorem header_key_normalisation (a b : Bytes) :
    H1.normalizeKey false a = H1.normalizeKey false b ↔ H1.ciEq a b = true :=
  normalizeKey_eq_iff a b

/-- **Getters.** The five getters of `getter.go` / `slice_getter.go` return what the specification calls
`present` / `presentAll` (form: post arguments, else non-empty multipart value, else query; header keys
case-insensitive; a path parameter carries a slice only when non-empty). -/
theorem getters_are_documented_sources (r : Req) (s : Src) (k : Bytes) :
    getter r s k = asPair (Spec.Bind.present r s k) ∧ sliceGetter r s k = Spec.Bind.presentAll r s k :=
  ⟨getter_eq r s k, sliceGetter_eq r s k⟩

/-- **Struct tags.** The specification reads a struct tag (`named`: split at commas, empty name = Go name,
`-` = not named, option `required`) exactly as `lookupFieldTags` / `getDefaultFieldTags` do, and the
decoder's tag list is the documented priority list filtered by it. -/
theorem tags_read_as_documented (f : Field) (s : Src) :
    fieldTagInfos f = Spec.Bind.priority.filterMap (tagOf f) ∧
    Spec.Bind.named f s = (tagOf f s).bind (fun t => if t.skip then none else some (t.value, t.required)) :=
  ⟨fieldTagInfos_eq f, named_eq f s⟩

/-- **Priority.** The first source, in documented order, that is named by the field and carries a value is
the first tag of the decoder's list at which the tag loop stops. -/
theorem first_source_is_first_hit (f : Field) (r : Req) :
    Spec.Bind.firstText f r = ((fieldTagInfos f).find? (hitB r)).map (fun t => (t.key, (getter r t.key t.value).1)) ∧
    Spec.Bind.firstTexts f r = ((fieldTagInfos f).find? (hitS r)).map (fun t => (t.key, sliceGetter r t.key t.value)) :=
  ⟨firstText_eq f r, firstTexts_eq f r⟩

/-- **JSON pre-bind.** For a field outside the class `json-prebind-extra` whose json tag names `n`, a
successful pre-bind (folding over the case-insensitively matching members) leaves exactly what the
specification computes from the members whose key is `n`, and leaves the field untouched when the body
does not carry `n`. -/
theorem prebind_is_json_value (f : Field) (r : Req) (pre : FieldVal) (n : Bytes) (q : Bool)
    (hx : Spec.Bind.clsPrebindExtra f r = false) (hn : Spec.Bind.named f .json = some (n, q))
    (hfn : jsonFieldName f = some n) (hp : preFieldS false r f = .ok pre) :
    (Spec.Bind.jsonCarries r n = true → Spec.Bind.jsonValue f.ty r n = .ok pre) ∧
    (Spec.Bind.jsonCarries r n = false → pre = .unset) :=
  prebind_some hx hn hfn hp

/-- sonic and `encoding/json` give the same verdict on the body outside the class `sonic-uint32-wrap` -/
theorem prebind_decoder_independent (r : Req) (fields : List Field)
    (hc : ∀ f ∈ fields, Spec.Bind.clsSonicU32 f r = false) : preBind true r fields = preBind false r fields := by
  unfold preBind
  cases hj : hasBody r && ctFold r
  · simp only [Bool.false_eq_true, if_false]
  · simp only [List.map_congr_left fun f hf => preBindField_sonic r f hj (hc f hf)]

/-- **One field.**  `FieldWF f`: the field is not called `-` and no source key occurs twice in its struct tag. -/
theorem field_refines_spec (f : Field) (r : Req) (pre : FieldVal) (hwf : FieldWF f)
    (hc : Spec.Bind.fieldClass f r = "") (hp : preFieldS false r f = .ok pre) :
    (compileField f).run r pre = Spec.Bind.specField f r :=
  field_refines f r pre hwf hc hp

/-- **Refinement.**  For every list of well-formed field descriptions and every request, outside the four
classes of known findings, `Bind` (pre-bind, compiled decoders, tag loops) computes exactly what the
declarative specification says: each field takes the value of the first of path, form, query, cookie,
header, JSON body that is named in its tags and present; otherwise its default or zero value; unless
`required`. -/
theorem bind_refines_spec_partial (fields : List Field) (r : Req) (hwf : ∀ f ∈ fields, FieldWF f)
    (h : ∀ f ∈ fields, Spec.Bind.fieldClass f r = "") :
    Hertz.Bind.bind fields r = Spec.Bind.specBind fields r := by
  unfold Hertz.Bind.bind bindWith Spec.Bind.specBind
  rw [prebind_decoder_independent r fields (fun f hf => (fieldClass_empty.1 (h f hf)).1)]
  cases hp : preBind false r fields with
  | err => rfl
  | unk => rfl
  | ok pres => exact runDecoders_refines r fields pres hwf h (preBind_ok false r fields pres hp)

/-- `A int` with the struct tag `query:"-" query:"a" default:"7"` -/
def dupTagField : Field := { name := [65], ty := tyInt, tags := [(.query, dash), (.query, kA)], dflt := some [55] }

/-- a field called `-` (not a Go identifier) tagged `json:",required"` -/
def dashNameField : Field := { name := dash, ty := tyInt, tags := [(.json, [44] ++ requiredOpt)] }

/-- Without `FieldWF` the refinement is FALSE of the model.  Witness: the source key `query` occurs twice in
the struct tag; `reflect.StructTag.Lookup` returns the first (`-`), so every tag is skipped and the
default is dropped (the known finding `dash-only-default`), but the classifier `clsDashOnly` looks at all
tags and does not put the field in that class. -/
theorem dup_tag_witness :
    Spec.Bind.clsSonicU32 dupTagField {} = false ∧ Spec.Bind.clsDashOnly dupTagField = false ∧
    Spec.Bind.clsJsonDash dupTagField = false ∧ Spec.Bind.clsPrebindExtra dupTagField {} = false ∧
    Hertz.Bind.bind [dupTagField] {} = .ok [.unset] ∧
    Spec.Bind.specBind [dupTagField] {} = .ok [.one (.i 7)] := by decide +kernel

/-- second witness (a modelling artefact: no Go field is called `-`): the decoder treats the json tag with
an empty name as named `-`, i.e. skipped, yet runs its `required` check under the Go name -/
theorem dash_name_witness :
    Spec.Bind.clsSonicU32 dashNameField {} = false ∧ Spec.Bind.clsDashOnly dashNameField = false ∧
    Spec.Bind.clsJsonDash dashNameField = false ∧ Spec.Bind.clsPrebindExtra dashNameField {} = false ∧
    Hertz.Bind.bind [dashNameField] {} = .err .required ∧
    Spec.Bind.specBind [dashNameField] {} = .ok [.unset] := by decide +kernel

/-- with the hypothesis `fieldClass = ""` alone the refinement does not hold -/
theorem bind_refines_spec_fails_at :
    ¬ ∀ (fields : List Field) (r : Req), (∀ f ∈ fields, Spec.Bind.fieldClass f r = "") →
        Hertz.Bind.bind fields r = Spec.Bind.specBind fields r := by
  intro h
  obtain ⟨h1, h2, h3, h4, hb, hs⟩ := dup_tag_witness
  have := h [dupTagField] {} (by
    intro f hf
    rw [List.mem_singleton] at hf
    subst hf
    exact fieldClass_empty.2 ⟨h1, h2, h3, h4⟩)
  rw [hb, hs] at this
  cases this

/-- fields of the non-vacuity example: `A int` tagged `query:"a,required" json:"a"`, `B []string` tagged
`header:"X-B" default:"['z']"`, `C uint32` untagged with default 9 -/
def exFields : List Field :=
  [{ name := [65], ty := tyInt, tags := [(.json, kA), (.query, kA ++ [44] ++ requiredOpt)] },
   { name := [66], ty := { base := .str, slice := true }, tags := [(.header, [88, 45, 66])], dflt := some [91, 39, 122, 39, 93] },
   { name := [67], ty := { base := .uint 32 }, dflt := some [57] }]

/-- request: header `x-b: v`, `x-b: w`, body `{"a":5,"d":1}` with `Content-Type: Application/JSON` -/
def exReq : Req :=
  { headers := [([120, 45, 98], [118]), ([120, 45, 98], [119])], ct := ctMixed,
    body := .json [(kA, .atom (.int 5)), ([100], .atom (.int 1))] }

set_option maxRecDepth 100000 in
/-- bind_refines_spec_partial: hypotheses hold on a three-field struct and a request with headers and a
JSON body; A comes from the body (required query absent), B from the two header values, C from its default -/
example : (∀ f ∈ exFields, FieldWF f) ∧
    (∀ f ∈ exFields, Spec.Bind.clsSonicU32 f exReq = false ∧ Spec.Bind.clsDashOnly f = false ∧
      Spec.Bind.clsJsonDash f = false ∧ Spec.Bind.clsPrebindExtra f exReq = false) ∧
    Hertz.Bind.bind exFields exReq = .ok [.one (.i 5), .many [some (.s [118]), some (.s [119])], .one (.u 9)] := by decide +kernel

set_option maxRecDepth 100000 in
/-- … and therefore `fieldClass = ""` for each of them -/
example : ∀ f ∈ exFields, Spec.Bind.fieldClass f exReq = "" := by
  have h : ∀ f ∈ exFields, Spec.Bind.clsSonicU32 f exReq = false ∧ Spec.Bind.clsDashOnly f = false ∧
      Spec.Bind.clsJsonDash f = false ∧ Spec.Bind.clsPrebindExtra f exReq = false := by decide +kernel
  exact fun f hf => fieldClass_empty.2 (h f hf)

set_option maxRecDepth 100000 in
/-- header_key_normalisation / getters_are_documented_sources: `x-b` is found under `X-B` -/
example : H1.normalizeKey false [120, 45, 98] = H1.normalizeKey false [88, 45, 66] ∧
    getter exReq .header [88, 45, 66] = ([118], true) ∧ sliceGetter exReq .header [88, 45, 66] = [[118], [119]] := by decide +kernel

set_option maxRecDepth 100000 in
/-- prebind_is_json_value / field_refines_spec: hypotheses hold for field A of the example -/
example : Spec.Bind.named (exFields.headD dupTagField) .json = some (kA, false) ∧
    jsonFieldName (exFields.headD dupTagField) = some kA ∧
    preFieldS false exReq (exFields.headD dupTagField) = .ok (.one (.i 5)) ∧
    Spec.Bind.jsonCarries exReq kA = true := by decide +kernel

/-! ## entry points and their decoder caches: state carried across calls on one binder

`defaultBinder` has six entry points that reach the field decoders (`Bind`, `BindAndValidate`, `BindPath`,
`BindForm`, `BindQuery`, `BindHeader`) and five caches keyed by the struct type alone.  The model
(`TagBinder`, Model/Bind.lean) keeps the five caches apart and is run, sequence by sequence, against the real
binder (`bindseq` cases of the harness). -/

def apiGoName : Api → String
  | .bind => "Bind" | .validate => "BindAndValidate" | .path => "BindPath" | .form => "BindForm"
  | .query => "BindQuery" | .header => "BindHeader"

def slotGoField : Slot → String
  | .all => "decoderCache" | .query => "queryDecoderCache" | .header => "headerDecoderCache"
  | .form => "formDecoderCache" | .path => "pathDecoderCache"

/-- the Go string of a `tag` argument -/
def tagText : Option Src → String
  | none => ""
  | some s => s.name

/-- `BindAndValidate` goes through `bindTagWithValidate`, the rest through `bindTag` -/
def apiHelper : Api → String
  | .validate => "bindTagWithValidate"
  | _ => "bindTag"

def allApis : List Api := [.bind, .validate, .path, .form, .query, .header]

/-- the entry-point part of the model agrees with the regenerated `binding/default.go`: the tag each exported
method passes on, the cache `tagCache` selects for it, and the cache discipline of `bindTag` /
`bindTagWithValidate` — the cache comes from `tagCache(tag)`, the decoder is loaded from and stored into
that same cache and nothing else mutates a cache, `GetReqDecoder` gets the same tag, and only `bindTag`
makes the body pre-bind depend on the tag (`len(tag) == 0`). -/
theorem entry_points_match_gen :
    Gen.Bind.entryPoints = allApis.map (fun a => (apiGoName a, apiHelper a, tagText a.byTag)) ∧
    (∀ a ∈ allApis, ((Gen.Bind.tagCacheTable.lookup (tagText a.byTag)).orElse
        (fun _ => Gen.Bind.tagCacheTable.lookup "*")) = some (slotGoField (tagCache a.byTag))) ∧
    Gen.Bind.cacheUse = [("bindTag", "b.tagCache(tag)", ["cache"], ["Store:cache"], "tag", "len(tag) == 0"),
                         ("bindTagWithValidate", "b.tagCache(tag)", ["cache"], ["Store:cache"], "tag", "")] := by decide +kernel

/-- **Every entry point is a function of the type and the request alone**: through a fresh binder, any
sequence of calls of any entry points on any types gives, call by call, the result of the cache-free
function `bindBy` — in particular a `BindQuery`/`BindHeader`/`BindForm`/`BindPath` of a type never changes
what a later `Bind` of that type returns, and vice versa. -/
theorem entry_points_pure (ops : List (Api × List Field × Req)) :
    ({} : TagBinder).run ops = ops.map (fun (o : Api × List Field × Req) => bindBy o.1.byTag o.2.1 o.2.2) :=
  TagBinder.run_pure _ TagBinder.empty_wf ops

/-- the same from any binder state reachable by calls: each cached decoder was built with the tag of the
cache it sits in (`TagBinder.WF`), and every call keeps it so -/
theorem entry_point_keeps_caches_wf (b : TagBinder) (hb : b.WF) (a : Api) (t : List Field) (r : Req) :
    (b.call a t r).1 = bindBy a.byTag t r ∧ (b.call a t r).2.WF :=
  TagBinder.call_pure b hb a t r

/-- **`Bind` after anything.**  Whatever was called before on the binder, `Bind` and `BindAndValidate`
(types without validation tags) return what `bind` computes: the function the theorems above
(`picks_first_present`, `required_is_error`, `bind_refines_spec_partial`, …) are about. -/
theorem bind_unaffected_by_earlier_calls (ops : List (Api × List Field × Req)) (a : Api) (ha : a.byTag = none)
    (t : List Field) (r : Req) :
    (({} : TagBinder).run (ops ++ [(a, t, r)])).getLast? = some (Hertz.Bind.bind t r) := by
  rw [entry_points_pure]; simp [ha, bindBy_none]

/-- … and therefore the declared priority, outside the known-finding classes -/
theorem bind_after_any_calls_refines_spec_partial (ops : List (Api × List Field × Req)) (a : Api) (ha : a.byTag = none)
    (t : List Field) (r : Req) (hwf : ∀ f ∈ t, FieldWF f) (h : ∀ f ∈ t, Spec.Bind.fieldClass f r = "") :
    (({} : TagBinder).run (ops ++ [(a, t, r)])).getLast? = some (Spec.Bind.specBind t r) := by
  rw [bind_unaffected_by_earlier_calls ops a ha, bind_refines_spec_partial t r hwf h]

/-- **The tag-restricted entry points** bind every field from their one source, under the name its tag of
that source gives (Go name if there is none), `required` being an error, everything else left zero —
for all field lists and requests, no exclusions (`Spec.Bind.specFieldsBy`). -/
theorem tag_entry_points_refine_spec (a : Api) (s : Src) (ha : a.byTag = some s) (fields : List Field) (r : Req) :
    bindBy a.byTag fields r = Spec.Bind.specBindBy (some s) fields r := by
  rw [ha]
  exact bindBy_refines s (by cases a <;> simp [Api.byTag] at ha <;> (subst ha; decide)) fields r

/-- `P string path:"p"`, `Q int query:"q,required"`, `H string header:"X-H"` -/
def seqType : List Field :=
  [{ name := [80], ty := { base := .str }, tags := [(.path, [112])] },
   { name := [81], ty := tyInt, tags := [(.query, [113] ++ [44] ++ requiredOpt)] },
   { name := [72], ty := { base := .str }, tags := [(.header, [88, 45, 72])] }]

/-- path `p=p7`, query `q=11`, header `X-H: hv` -/
def seqReq : Req := { params := [([112], [112, 55])], query := [([113], [49, 49])], headers := [([88, 45, 72], [104, 118])] }

set_option maxRecDepth 100000 in
/-- entry_points_pure (non-vacuity): BindQuery, Bind, BindHeader, Bind of ONE type on one binder; then a
Bind without the required query value -/
example :
    ({} : TagBinder).run [(.query, seqType, seqReq), (.bind, seqType, seqReq), (.header, seqType, seqReq),
                           (.validate, seqType, seqReq), (.bind, seqType, { seqReq with query := [] })] =
      [.ok [.unset, .one (.i 11), .unset],
       .ok [.one (.s [112, 55]), .one (.i 11), .one (.s [104, 118])],
       .ok [.unset, .unset, .one (.s [104, 118])],
       .ok [.one (.s [112, 55]), .one (.i 11), .one (.s [104, 118])],
       .err .required] := by decide +kernel

/-- The hypothesis `WF` of `entry_point_keeps_caches_wf` cannot be dropped: a binder whose `Bind` cache holds,
for `seqType`, the decoder built for `BindQuery` (one cache shared by two entry points) answers `Bind`
from the query alone and does not see the missing required value. -/
theorem shared_cache_breaks_bind :
    let b := ({} : TagBinder).store .all seqType (compileBy (some .query) seqType)
    ¬ b.WF ∧
    (b.call .bind seqType seqReq).1 = .ok [.unset, .one (.i 11), .unset] ∧
    Hertz.Bind.bind seqType seqReq = .ok [.one (.s [112, 55]), .one (.i 11), .one (.s [104, 118])] ∧
    Hertz.Bind.bind seqType {} = .err .required ∧
    (({} : TagBinder).store .all seqType (compileBy (some .header) seqType) |>.call .bind seqType {}).1 = .ok [.unset, .unset, .unset] := by
  refine ⟨?_, by decide +kernel, by decide +kernel, by decide +kernel, by decide +kernel⟩
  intro h
  have := h .all seqType (compileBy (some .query) seqType) (by simp [TagBinder.store])
  revert this
  decide +kernel

set_option maxRecDepth 100000 in
/-- tag_entry_points_refine_spec (non-vacuity): BindHeader on the example type -/
example : Api.header.byTag = some .header ∧
    Spec.Bind.specBindBy (some .header) seqType seqReq = .ok [.unset, .unset, .one (.s [104, 118])] ∧
    Spec.Bind.specBindBy (some .query) seqType {} = .err .required := by decide +kernel


/-! ## nested struct types and streamed bodies

Model: `Model/BindNested.lean` — a struct type is a `Forest` (field tree of any depth and width; struct-typed fields by
value, behind pointers, embedded); `compileN` is `getFieldDecoder` with its `parentIdx` / `parentJSONName` built per
child; `runN` runs the decoders on a store addressed by full index paths (`fault` = Go would panic); `bindN` threads
the state of the request body (buffered / unread stream / drained stream).  Spec: the nested section of
`Spec/Bind.lean` (`specBindN`: every leaf is bound as a top-level field of the request focused on its enclosing JSON
object).  Run against the real binder on `reflect.StructOf` types by the `nbind` cases of the harness. -/

/-- **Two different leaves never get the same index path**: the leaf decoders `getFieldDecoder` builds for a type of
any depth and width address pairwise different `parentIndex ++ [index]` paths (the statement a shared backing array
between sibling paths breaks). -/
theorem index_paths_distinct (t : Forest) :
    (((compileN [] [] 0 t).filter (fun d => !d.isStruct)).map (fun d => d.parentIdx ++ [d.index])).Nodup := by
  rw [compileN_paths]; exact leafPaths_nodup t [] 0

/-- … and they are exactly the leaves of the type, in field order (depth first) -/
theorem index_paths_are_the_leaves (t : Forest) :
    ((compileN [] [] 0 t).filter (fun d => !d.isStruct)).map (fun d => d.parentIdx ++ [d.index]) = leafPaths [] 0 t :=
  compileN_paths t [] [] 0

/-- **A leaf decoder of a nested type is the decoder of a top-level field** run on the request whose JSON body is the
object enclosing the leaf (dotted path of the parents' JSON names), unless a `required` json tag is waived because that
object is absent (class `nested-required-waived`): position, siblings and depth play no role. -/
theorem nested_leaf_is_top_level_field (q : NReq) (P : List Bytes) (f : Field) (pre : FieldVal) (pidx : Path) (i : Nat)
    (hw : Spec.Bind.clsWaived q P f = false) :
    ({ parentIdx := pidx, index := i, jparent := P, dec := compileField f } : NDec).run q pre =
      (compileField f).run (Spec.Bind.focus q P) pre :=
  leaf_run_focus q P f pre pidx i hw

/-- the JSON name a struct-typed field hands down (`newParentJSONName`) is the one the specification uses -/
theorem parent_json_name_as_documented (hdr : Field) : newParentName hdr = Spec.Bind.specName hdr :=
  newParentName_eq hdr

/-- **Refinement for nested types.**  For every field tree of any depth and width (`ForestWF`: every field well-formed
as in `bind_refines_spec_partial`; struct-typed fields without `required` and without a default) and every request in
any body state, outside the known-finding classes (`NoClass`: the four flat classes per leaf on its focused request,
`nested-required-waived`, and the JSON path of the unmarshaller = the JSON path of the tags), `Bind` computes exactly
the specification: every leaf receives exactly its own value — the first present source named by its own tags. -/
theorem nested_bind_refines_spec_partial (t : Forest) (q : NReq) (hwf : ForestWF t) (hc : NoClass q.seen t) :
    (bindN t q).1 = Spec.Bind.specBindN t q := by
  unfold bindN Spec.Bind.specBindN
  simp only
  rw [bindNWith_refines t q.seen hwf hc]
  cases preBindN false q.seen t <;> rfl

/-- **No panic while addressing fields**: for EVERY field tree and EVERY request and body state (no exclusions), the
decoders `getFieldDecoder` builds never address an index path that is not a leaf of the bound value (`fault` = the
`reflect` panic in `GetFieldValue(…).Field(index)`) — what a path shared between siblings destroys. -/
theorem nested_bind_never_faults (t : Forest) (q : NReq) : (bindN t q).1 ≠ .fault := by
  unfold bindN bindNWith
  simp only
  cases hp : preBindN true q.seen t with
  | err => simp
  | unk => simp
  | ok pres =>
    simp only
    rw [runN_compileN _ t pres (preBindN_length true q.seen t pres hp)]
    exact runSeq_ne_fault _ _ _

/-- `A struct { X int json:"x,required" }` -/
def waivedType : Forest :=
  .strct { name := [65], ty := { base := .str } } false
    (.leaf { name := [88], ty := tyInt, tags := [(.json, [120] ++ [44] ++ requiredOpt)] } .nil) .nil

/-- `Content-Type: application/json`, body `{}` -/
def waivedReq : NReq := { r := { ct := mimeJSON, body := .json [] } }

/-- Without `NoClass` the refinement is FALSE of the code: a `required` json leaf inside a struct whose object is
absent from a JSON body is bound to a silent zero (`checkRequireJSON`: "there should be a superior"), while the
property demands an error.  (class `nested-required-waived`; replayed against the Go code by the harness) -/
theorem nested_bind_refines_spec_fails_at :
    ForestWF waivedType ∧ (bindN waivedType waivedReq).1 = .ok [.unset] ∧
    Spec.Bind.specBindN waivedType waivedReq = .err .required ∧
    Spec.Bind.clsWaived waivedReq.seen [[65]] { name := [88], ty := tyInt, tags := [(.json, [120] ++ [44] ++ requiredOpt)] } = true := by
  decide +kernel

/-- `struct { Common; … }` with `type Common struct { Page int json:"page" default:"1" }` (embedded) -/
def embeddedType : Forest :=
  .strct { name := [67], ty := { base := .str } } true
    (.leaf { name := [80], ty := tyInt, tags := [(.json, [112])], dflt := some [49] } .nil) .nil

/-- `Content-Type: application/json`, body `{"p":5}` -/
def embeddedReq : NReq := { r := { ct := mimeJSON, body := .json [([112], .atom (.int 5))] } }

/-- regression for /repo 1242bf1: the unmarshaller promotes the fields of an embedded struct into the enclosing object
and stores 5, and `keyExist` looks for `page` in that object too (not for `Common.page`), so the declared default 1 does
not overwrite the value the body carries. -/
theorem embedded_default_repaired :
    Spec.Bind.promoted { name := [67], ty := { base := .str } } true = true ∧
    (bindN embeddedType embeddedReq).1 = .ok [.one (.i 5)] ∧
    Spec.Bind.specBindN embeddedType embeddedReq = .ok [.one (.i 5)] := by
  decide +kernel

/-- … and types with promoted embedded structs are inside `nested_bind_refines_spec_partial`: the embedded example is
well-formed and outside every known-finding class (`noClass_of` turns `NoClassB` into the hypothesis `NoClass` of the
refinement theorem), and the two sides agree on it. -/
theorem embedded_types_inside_refinement :
    ForestWF embeddedType ∧ NoClassB embeddedReq.seen embeddedType ∧
    (bindN embeddedType embeddedReq).1 = Spec.Bind.specBindN embeddedType embeddedReq := by
  decide +kernel

/-- **Binding the same request twice gives the same result**, whatever the state of its body: the second bind sees
the request as the first one left it (`preBindBody` calls `Request.Body()`, which copies a body stream into the
request buffer). -/
theorem bind_idempotent_on_request (t : Forest) (q : NReq) : (bindN t (bindN t q).2).1 = (bindN t q).1 := by
  unfold bindN
  simp only
  split
  · rw [seen_afterBody]
  · rfl

/-- … and a body delivered as a stream is bound as the same body delivered in the buffer -/
theorem bind_independent_of_body_delivery (t : Forest) (q : NReq) :
    (bindN t { q with st := .stream }).1 = (bindN t { q with st := .buffered }).1 :=
  bindN_delivery t q .stream .buffered (by decide) (by decide)

/-- both binds of a request meet the specification -/
theorem both_binds_refine_spec_partial (t : Forest) (q : NReq) (hwf : ForestWF t) (hc : NoClass q.seen t) :
    bindTwice t q = (Spec.Bind.specBindN t q, Spec.Bind.specBindN t q) := by
  unfold bindTwice
  rw [bind_idempotent_on_request, nested_bind_refines_spec_partial t q hwf hc]

def leafQ (n : UInt8) (k : Bytes) : Field := { name := [n], ty := tyInt, tags := [(.query, k)] }
def hdrS (n : Bytes) (p : Nat) : Field := { name := n, ty := { base := .str, ptr := p } }

/-- `Root { A { B *{ C { D1 {X,Y int query x1,y1}; D2 *{X,Y int query x2,y2} } } } }`: two sibling structs at depth 4 -/
def deepType : Forest :=
  .strct (hdrS [65] 0) false (.strct (hdrS [66] 1) false (.strct (hdrS [67] 0) false
    (.strct (hdrS [68, 49] 0) false (.leaf (leafQ 88 [120, 49]) (.leaf (leafQ 89 [121, 49]) .nil))
      (.strct (hdrS [68, 50] 1) false (.leaf (leafQ 88 [120, 50]) (.leaf (leafQ 89 [121, 50]) .nil)) .nil)) .nil) .nil) .nil

/-- query `x1=10&y1=20&y2=40` -/
def deepReq : NReq := { r := { query := [([120, 49], [49, 48]), ([121, 49], [50, 48]), ([121, 50], [52, 48])] } }

set_option maxRecDepth 100000 in
/-- index_paths_distinct / nested_bind_refines_spec_partial (non-vacuity): the four leaves sit at
`[0,0,0,0,0] [0,0,0,0,1] [0,0,0,1,0] [0,0,0,1,1]`; D1 gets 10 and 20, D2 gets 0 and 40 -/
example : leafPaths [] 0 deepType = [[0, 0, 0, 0, 0], [0, 0, 0, 0, 1], [0, 0, 0, 1, 0], [0, 0, 0, 1, 1]] ∧
    ForestWF deepType ∧ NoClassB deepReq.seen deepType ∧
    (bindN deepType deepReq).1 = .ok [.one (.i 10), .one (.i 20), .unset, .one (.i 40)] := by decide +kernel

/-- `Item string json:"item,required"`, `Qty int json:"qty" default:"1"`, `Meta { Cur string json:"cur,required" default:"USD" }` -/
def orderType : Forest :=
  .leaf { name := [73], ty := { base := .str }, tags := [(.json, [105] ++ [44] ++ requiredOpt)] }
    (.leaf { name := [81], ty := tyInt, tags := [(.json, [113])], dflt := some [49] }
      (.strct (hdrS [77] 0) false
        (.leaf { name := [67], ty := { base := .str }, tags := [(.json, [99] ++ [44] ++ requiredOpt)], dflt := some [85] } .nil) .nil))

/-- `{"i":"p","q":25,"M":{"c":"E"}}` delivered as a body stream -/
def orderReq : NReq :=
  { r := { ct := mimeJSON, body := .json [([105], .atom (.str [112])), ([113], .atom (.int 25)), ([77], .atom .obj)] },
    deep := [{ parents := [[77]], key := [99], val := .atom (.str [69]) }], st := .stream }

set_option maxRecDepth 100000 in
/-- bind_idempotent_on_request / both_binds_refine_spec_partial (non-vacuity): streamed JSON body, `required` and
`default` on json fields at two levels; both binds give item "p", qty 25, cur "E"; the stream is buffered afterwards -/
example : ForestWF orderType ∧ NoClassB orderReq.seen orderType ∧
    bindTwice orderType orderReq = (.ok [.one (.s [112]), .one (.i 25), .one (.s [69])], .ok [.one (.s [112]), .one (.i 25), .one (.s [69])]) ∧
    (bindN orderType orderReq).2.st = .buffered ∧
    (bindN orderType { orderReq with st := .drained }).1 = .err .body := by decide +kernel

set_option maxRecDepth 100000 in
/-- nested_bind_never_faults: the fault outcome is real — the decoders of the depth-4 type with the index path of
sibling D1 redirected to D2's struct (what the shared backing array does) and D2 given one field only: fault -/
example :
    runN deepReq [{ parentIdx := [0, 0, 0, 1], index := 1, jparent := [], dec := compileField (leafQ 89 [121, 49]) }]
      [([0, 0, 0, 0, 0], .unset), ([0, 0, 0, 0, 1], .unset), ([0, 0, 0, 1, 0], .unset)] = .fault := by decide +kernel

set_option maxRecDepth 100000 in
/-- nested_leaf_is_top_level_field (non-vacuity): the hypothesis holds for leaf `Cur` inside `M` -/
example : Spec.Bind.clsWaived orderReq.seen [[77]]
    { name := [67], ty := { base := .str }, tags := [(.json, [99] ++ [44] ++ requiredOpt)], dflt := some [85] } = false := by decide +kernel

/-
TODO-OPEN
  `bind_refines_spec` without hypotheses is false of the model (`bind_refines_spec_fails_at`, `dash_name_witness`); it is
  proved as `bind_refines_spec_partial`.
  What remains open (not proved; sampled by the driver on the implementation's output):
  * the per-type decoder caches of the real code (five `sync.Map`s; the Lean caches are lists, kept apart per entry
    point as `tagCache` does: `entry_points_pure`, tied to the source by `entry_points_match_gen`) and concurrent binds;
  * outcomes `unk` are equal on both sides by the theorem, but what the real code does there (floats outside
    the canonical grammar, JSON texts outside the small grammar) is only copied from the implementation;
  * nested structs (`index_paths_distinct`, `nested_bind_refines_spec_partial`,
    `bind_idempotent_on_request`): (a) struct-typed fields that themselves carry `required` or a default,
    and a text addressed to a struct-typed field (decoded as JSON into the struct): excluded by `ForestWF` / `unk` in the
    model, checked per case by the driver (`Spec.Bind.specStruct` on the implementation's output); (b) allocation of
    pointer-to-struct parents is not observed (a nil pointer is rendered as a struct of zero leaves); (c) embedded structs
    whose promoted names clash with names of the enclosing struct, repeated object-valued keys, names containing `.`:
    assumptions of the generator; (d) tag-restricted entry points (`BindQuery` …) on nested types are not modelled;
  * arrays, maps, `raw_body`, `file_name`, custom decoders: outside the model.
-/

end Hertz.Props.C15
