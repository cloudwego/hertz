import Hertz.Proofs.Tagexpr
import Hertz.Proofs.TagexprEval
import Hertz.Proofs.TagexprNoPanic
import Hertz.Model.Tagexpr
import Hertz.Model.TagexprShared
import Hertz.Proofs.TagexprShared
import Hertz.Gen.Prio
/-!
# C20 — validation expressions follow the documented operator precedence

The tables are those of `Hertz/Gen/Prio.lean`, regenerated from the Go source on every run.  The rotation theorems are about the
tree algebra of `Hertz/Model/TagexprTree.lean` with the operand type `α` and the operator semantics abstract: they hold whatever
the lexer delivers and whatever `Run` does (the tree the real `parseExpr` builds is compared node by node with the model's on
every generated expression by `bin/check C20`).  From "evaluation never panics" on, the statements are about the lexer, parser
and evaluator of `Hertz/Model/Tagexpr.lean` (`parseExpr`, `evalTree`, `validate`) on every input string, then about one compiled
expression evaluated many times (`Hertz/Model/TagexprShared.lean`).  float64 arithmetic and `regexp` are compared with the real
code, not proved (`Float` is opaque to the kernel).
-/
namespace Hertz.Props.C20
open Hertz Hertz.Tagexpr Hertz.Tagexpr.Tree

/-! ## the tables are those of the source -/

/-- `Op.prio`/`operandPrio` are `getPriority` as `expr.go` writes it (`Gen.Prio`): every operator's node
type is a label of the type switch with the model's priority, there is no further label, and the
`default:` branch gives the operand priority. -/
theorem prio_matches_gen :
    (∀ op : Op, Gen.Prio.prioCases.lookup op.goType = some op.prio) ∧
    Gen.Prio.prioCases.length = Op.all.length ∧ Gen.Prio.prioDefault = operandPrio := by
  refine ⟨fun op => ?_, by decide, by decide⟩
  cases op <;> decide

/-- The documented table (high → low): operands, `* / %`, `+ -`, `< <= > >=`, `== !=`, `&&`, `||`. -/
theorem prio_matches_documented :
    Op.all.map (fun op => (op.sym, op.prio)) =
      [("*", 6), ("/", 6), ("%", 6), ("+", 5), ("-", 5), ("<", 4), ("<=", 4), (">", 4), (">=", 4),
       ("==", 3), ("!=", 3), ("&&", 2), ("||", 1)] ∧
    (∀ op : Op, op.prio < operandPrio) :=
  ⟨by decide, Op.prio_lt_operand⟩

/-- The model's operator reader agrees with both `switch` statements of `parseOperator`. -/
theorem lexer_matches_gen :
    (Gen.Prio.twoCharOps ++ Gen.Prio.oneCharOps).all (fun e =>
      match parseOperator (e.1.toList ++ ['1']) with
      | some (op, rest) => op.goType == e.2 && op.sym == e.1 && rest == ['1']
      | none => false) = true ∧
    (Gen.Prio.twoCharOps ++ Gen.Prio.oneCharOps).length = Op.all.length := by
  constructor <;> decide +kernel

/-- The source text of the three small functions the tree model transcribes, extracted from the Go source on
every run, is the text recorded here: the rotation test of `subSortPriority`, the loop of `sortPriority`, and
`leftOperandToParent`. -/
theorem sort_source_matches_gen :
    Gen.Prio.rotateCond = "getPriority(e) > getPriority(e.LeftOperand())" ∧
    Gen.Prio.sortBody = "{ for subSortPriority(e.RightOperand(), false) { } }" ∧
    Gen.Prio.rotateBody = "{ le := e.LeftOperand() if le == nil { return } p := e.Parent() le.SetParent(p) if p != nil { if isLeft { p.SetLeftOperand(le) } else { p.SetRightOperand(le) } } e.SetParent(le) e.SetLeftOperand(le.RightOperand()) le.RightOperand().SetParent(e) le.SetRightOperand(e) }" :=
  ⟨rfl, rfl, rfl⟩

/-! ## the rotation -/

variable {α : Type}

/-- One pass of `subSortPriority` keeps the in-order token sequence, for every tree. -/
theorem rotation_preserves_inorder (t t' : Tree α) (c : Bool) (h : subSort t = .ok (t', c)) :
    inorder t' = inorder t :=
  inorder_of_flat_eq (subSort_pass t t' c h).flat_eq

example : subSort (chain 1 [(.add, 2), (.mul, 3)]) = .ok (node .add (leaf 1) (node .mul (leaf 2) (leaf 3)), true) := rfl

/-- Invariant: if every operator in a right subtree binds strictly tighter than the node above it
(true of the chain `parseExprNode` builds), the same holds after a pass. -/
theorem right_subtree_strictly_tighter (t t' : Tree α) (c : Bool) (h : subSort t = .ok (t', c))
    (hR : RightAll t) : RightAll t' :=
  (subSort_pass t t' c h).right hR

example : RightAll (chain 1 [(.or, 2), (.and, 3), (.mul, 4)]) := chainAux_right _ _ trivial

/-- A pass that reports "nothing changed" changed nothing, and then no node binds tighter than its
left child; together with the invariant the tree is a precedence tree. -/
theorem fixpoint_is_precedence_tree (t t' : Tree α) (h : subSort t = .ok (t', false)) (hR : RightAll t) :
    t' = t ∧ IsPrecTree t :=
  ⟨((subSort_pass t t' false h).fix rfl).1, isPrec_of_heap ((subSort_pass t t' false h).fix rfl).2 hR⟩

example : subSort (node .add (leaf 1) (node .mul (leaf 2) (leaf 3))) = .ok (node .add (leaf 1) (node .mul (leaf 2) (leaf 3)), false) := rfl

/-- `sortPriority` terminates on every tree: the loop never needs more than `mu t + 1` passes
(each pass that rotates lowers `mu`, the sum over nodes of the number of operators to their left
below them). -/
theorem sort_terminates (t : Tree α) : sortPriority t ≠ .ok none :=
  sortLoop_fuel _ t (Nat.lt_succ_self _)

/-- Whatever tree it is given, the result of `sortPriority` has the same token sequence. -/
theorem sort_preserves_tokens (t t' : Tree α) (h : sortPriority t = .ok (some t')) :
    inorder t' = inorder t ∧ flat t' = flat t :=
  ⟨inorder_of_flat_eq (sortLoop_sound _ t t' h).flat_eq, (sortLoop_sound _ t t' h).flat_eq⟩

/-- No panic and no missing rotation on any operand/operator sequence: for every first operand and
every list of (operator, operand) pairs, `sortPriority` applied to the chain built by
`parseExprNode` returns exactly the tree of the precedence parser. -/
theorem parse_eq_spec (a : α) (rest : List (Op × α)) :
    sortPriority (chain a rest) = .ok (some (specParse (some a) (toks rest))) :=
  sort_chain a rest

/-- non-vacuity, and the two documented behaviours on concrete inputs: `1 - 2 - 3` nests to the left,
`1 || 2 && 3 * 4 + 5` nests by priority. -/
example : sortPriority (chain 1 [(.sub, 2), (.sub, 3)]) =
    .ok (some (node .sub (node .sub (leaf 1) (leaf 2)) (leaf 3))) := rfl
example : sortPriority (chain 1 [(.or, 2), (.and, 3), (.mul, 4), (.add, 5)]) =
    .ok (some (node .or (leaf 1) (node .and (leaf 2) (node .add (node .mul (leaf 3) (leaf 4)) (leaf 5))))) := rfl

/-- The same when the expression ends with an operator (`1 + 2 *`, accepted by `parseExprNode`):
still no panic in `leftOperandToParent`, and the nil operand stays last. -/
theorem parse_eq_spec_trailing (a : α) (rest : List (Op × α)) (o : Op) :
    sortPriority (node o (chain a rest) nil) = .ok (some (specParse (some a) (toks rest ++ [(o, none)]))) :=
  sort_chain_trailing a rest o

example : sortPriority (node .mul (chain 1 [(.add, 2)]) nil) =
    .ok (some (node .add (leaf 1) (node .mul (leaf 2) nil))) := rfl

/-- Hence any value computed by recursion over the compiled tree (`Tree.fold`, for every operator semantics `sem` and
every meaning of operands) is the one computed over the precedence parser's tree.  `evalTree` is not mentioned. -/
theorem eval_eq_spec {β : Type} (sem : Op → β → β → β) (leafV : α → β) (nilV : β) (a : α) (rest : List (Op × α)) :
    (sortPriority (chain a rest)).map (Option.map (fold sem leafV nilV)) =
      .ok (some (fold sem leafV nilV (specParse (some a) (toks rest)))) := by
  rw [parse_eq_spec]; rfl

example : (sortPriority (chain 10 [(.sub, 2), (.sub, 3)])).map
    (Option.map (fold (fun op x y => if op = .sub then x - y else 0) (fun n : Int => n) 0)) = .ok (some 5) := rfl

/-! ## the spec side -/

/-- The precedence parser yields a tree over exactly the given tokens in which every operator's
left subtree holds only operators binding at least as tightly and its right subtree only operators
binding strictly tighter (documented precedence and left-to-right associativity). -/
theorem spec_is_precedence_tree (a : Option α) (ts : List (Op × Option α)) :
    flat (specParse a ts) = (a, ts) ∧ IsPrecTree (specParse a ts) :=
  ⟨specParse_tokens a ts, specParse_prec a ts⟩

example : specParse (some 1) [(Op.add, some 2), (Op.mul, some 3), (Op.sub, some 4)] =
    node .sub (node .add (leaf 1) (node .mul (leaf 2) (leaf 3))) (leaf 4) := rfl

/-- … and it is the only such tree: two precedence trees over the same tokens are equal. -/
theorem precedence_tree_unique (t₁ t₂ : Tree α) (h₁ : IsPrecTree t₁) (h₂ : IsPrecTree t₂)
    (h : flat t₁ = flat t₂) : t₁ = t₂ := by
  rw [← specParse_flat t₁ h₁.leftOK h₁.rightAll, ← specParse_flat t₂ h₂.leftOK h₂.rightAll, h]

example : IsPrecTree (node Op.add (leaf 1) (node .mul (leaf 2) (leaf 3))) := by
  simp [IsPrecTree, allOps, Op.prio]

/-! ## evaluation never panics

`%` with a divisor that truncates to zero yields NaN, and `==`, `!=` and `in` go through `interfaceEqual`,
which answers false for slices: no `Run` method of an operator or of a built-in function raises a panic.  The only fault left in the model is the method call on
a missing right operand (`1+ ` at top level, in a group or in an argument; an empty group `()` evaluates to nil), which is outside the grammar of the property.
-/

/-- no Go panic, whatever the site -/
def NoPanic {β : Type} (m : EvalM β) : Prop := ∀ site, m ≠ .error (.fault (.panic site))

theorem noPanic_of_safe {β : Type} {m : EvalM β} (h : Safe (fun _ => False) m) : NoPanic m :=
  fun site hm => h.h site hm

/-- Full statement for the operators: for every environment (= whatever the field values are:
nil pointers, empty strings and slices, NaN, mixed types) and every tree in which no operator lacks
an operand, evaluation does not panic provided the operand nodes' own `Run` methods do not. -/
theorem eval_no_panic (env : Env) (t : Node) (hne : t.isNil = false) (hnn : NoNilOperand t)
    (hl : LeavesSafe (fun _ => False) env t) : NoPanic (evalTree env t) :=
  noPanic_of_safe (evalTree_safe_noNil env t hne hnn hl)

/-- … and the operand nodes the parser builds do not: literals, field references, groups, function calls,
`regexp`, given (for the last three) well-formed sub-expressions. -/
theorem operand_nodes_no_panic (env : Env) :
    (∀ sh v, NoPanic ((constNode sh v).run env)) ∧
    (∀ f bo so, NoPanic ((selectorNode f bo so).run env)) ∧
    (∀ t bo so, (t.isNil = true ∨ WellFormed (fun _ => False) env t) → NoPanic ((groupNode t bo so).run env)) ∧
    (∀ name args bo so, (∀ a ∈ args, Safe (fun _ => False) (a.run env)) → NoPanic ((funcNode name args bo so).run env)) ∧
    (∀ re neg arg, Safe (fun _ => False) (arg.run env) → NoPanic ((regexpNode re neg arg).run env)) :=
  ⟨fun sh v => noPanic_of_safe (constNode_safe env sh v),
   fun f bo so => noPanic_of_safe (selectorNode_safe env f bo so),
   fun t bo so h => noPanic_of_safe (groupNode_safe env t bo so h),
   fun name args bo so h => noPanic_of_safe (funcNode_safe env name args bo so h),
   fun re neg arg h => noPanic_of_safe (regexpNode_safe env re neg arg h)⟩

/-- regression example 1 (was `panic: comparing uncomparable type []int`): `$==$` on a field of type
`[]int` now evaluates, to false. -/
example : (match evalTree { cur := "A", fields := [("A", .ints [])] }
      (.node .eq (.leaf (selectorNode "" none none)) (.leaf (selectorNode "" none none))) with
    | .ok (.bool false) => true
    | _ => false) = true := rfl

/-- … and `in($,$)` on it. -/
example : (match (funcNode "in" [selectorNode "" none none, selectorNode "" none none] none none).run
      { cur := "A", fields := [("A", .ints [1])] } with
    | .ok (.bool false) => true
    | _ => false) = true := rfl

/-- regression example 2 (was `panic: integer divide by zero`): `$ % 0.5 == 0` does not panic, for
every value of the field (`Float` is opaque to the kernel, so this is an instance of the theorem,
not a computation). -/
example (env : Env) : NoPanic (evalTree env
    (.node .eq (.node .rem (.leaf (selectorNode "" none none)) (.leaf (constNode "n" (.num 0.5))))
      (.leaf (constNode "n" (.num 0))))) :=
  eval_no_panic env _ rfl ⟨rfl, rfl, ⟨rfl, rfl, trivial, trivial⟩, trivial⟩
    ⟨⟨Safe.pure _, Safe.pure _⟩, Safe.pure _⟩

/-- The remaining fault: an operator without a right operand (malformed input, e.g. `(1+ )`). -/
theorem eval_panics_on_missing_operand (env : Env) :
    evalTree env (.node .add (.leaf (constNode "n" (.num 1))) .nil) = .error (.fault (.panic "nil.Run")) := rfl

/-! ## the whole expression language: groups, `len(…)`, `in(…)`, `regexp(…)`

The statements above are about one operator sequence over atoms.  The parser is mutually recursive
(`parseExprNode` / `readOperand` / `parseArgs`: an operand may be a parenthesised group or a function
call whose arguments are expressions again).  The following theorems are proved by induction over
its fuel, for every input string.

`Built full o` (Proofs/TagexprNoPanic.lean) is the inductive description of the operand nodes of the
language: a literal, a field reference, `groupNode (specParse first ts) …`,
`funcNode name [groupNode (specParse firstᵢ tsᵢ) none none, …] …` or
`regexpNode re neg (groupNode (specParse first ts) none none)`, where every `(first, ts)` is a token
sequence the parser can read (`SeqOK`: empty, `a op x …`, or the same with one trailing operator;
`full = true` allows the middle form only) and every operand in it is `Built full` again.
`Compiled full t` says the same of a tree: `t = specParse first ts` for such a sequence. -/

/-- `parse_eq_spec` without the restriction to atoms, one level: whatever `parseExprNode` returns for
an input string (top level, inside a group, as a function argument), `sortPriority` neither panics
nor runs out of passes on it and yields the precedence parser's tree of the token sequence that was
read from left to right. -/
theorem parse_eq_spec_expr (n : Nat) (s r : List Char) (t : Node) (h : parseExprNode n s none = .ok (t, r)) :
    liftSort t = .ok (specParse (flat t).1 (flat t).2) :=
  liftSort_parsed_flat (parseExprNode_parsed n s h)

example : (match parseExprNode 40 ['(', '1', '+', '$', ')', '*', '2', '-', '3', ' '] none with
    | .ok (.node .sub (.node .mul (.leaf _) (.leaf _)) (.leaf _), []) => true | _ => false) = true := by decide +kernel

/-- … and at every depth: the tree `parseExpr` returns is the precedence tree of a token sequence
whose operands are literals, field references, or groups / function calls / `regexp` calls holding
precedence trees of the same kind.  ("The tree built is the precedence tree", for the whole language
the parser accepts.) -/
theorem parse_builds_precedence_trees (expr : List Char) (t : Node) (h : parseExpr expr = .ok t) :
    Compiled false t :=
  (parseExpr_ok expr).ok_of h

/-- what `Compiled` gives at the top: the documented precedence and associativity, over exactly the
token sequence -/
theorem compiled_is_precedence_tree {full : Bool} (t : Node) (h : Compiled full t) :
    IsPrecTree t ∧ ∃ first ts, flat t = (first, ts) ∧ SeqOK full first ts := by
  obtain ⟨first, ts, rfl, hs, _⟩ := h
  exact ⟨specParse_prec first ts, first, ts, specParse_tokens first ts, hs⟩

/-- `(1+$)*len('ab')>2 && in($,1,2) || regexp('^a')` compiles (non-vacuity of the two theorems above) -/
example : (match parseExpr ['(', '1', '+', '$', ')', '*', 'l', 'e', 'n', '(', '\'', 'a', 'b', '\'', ')', '>', '2',
      ' ', '&', '&', ' ', 'i', 'n', '(', '$', ',', '1', ',', '2', ')', ' ', '|', '|', ' ',
      'r', 'e', 'g', 'e', 'x', 'p', '(', '\'', '^', 'a', '\'', ')'] with
    | .ok (.node .or (.node .and (.node .gt (.node .mul _ _) _) _) _) => true | _ => false) = true := by decide +kernel

/-- The parser never panics, on any input: `sortPriority` is only ever applied to trees in which
`leftOperandToParent` finds the right operand it dereferences. -/
theorem parser_never_panics (expr : List Char) (f : Fault) : parseExpr expr ≠ .error (.fault f) :=
  parseExpr_no_fault expr f

/-- the `Run` method of every operand node of the language, for every environment: a panic can only
be the method call on a missing operand; with `full = true` (no operand missing anywhere) there is none -/
theorem built_operand_no_panic (env : Env) (o : Operand) :
    (Built false o → ∀ site, o.run env = .error (.fault (.panic site)) → site = "nil.Run") ∧
    (Built true o → NoPanic (o.run env)) :=
  ⟨fun h site hs => (built_run_safe (P := (· = "nil.Run")) (fun _ => rfl) env h).h site hs,
   fun h => noPanic_of_safe (built_run_safe (full := true) (fun h => by cases h) env h)⟩

example : Built true (groupNode (specParse (some (constNode "n" (.num 1))) (toks [(.add, selectorNode "" none none)])) none none) :=
  .group _ _ _ _ (.chain _ _) (by
    intro o ho
    rcases mem_seqOperands_toks.mp ho with rfl | ⟨p, hp, rfl⟩
    · exact .const _ _
    · cases List.mem_singleton.1 hp
      exact .selector _ _ _)

/-- **validate_no_panic.**  For every expression string and every environment (whatever the field
values are), if `Validator.Validate` panics, the site is the method call on a missing operand
(`Run` on a nil `ExprNode`): neither the parser, nor `sortPriority`, nor an operator, nor a function
call, nor `regexp` panics. -/
theorem validate_no_panic (env : Env) (expr : List Char) (site : String)
    (h : (validate expr env).1 = .panic site) : site = "nil.Run" := by
  obtain ⟨t, he, hr⟩ := validate_panic h
  exact (compiled_safe (P := (· = "nil.Run")) (fun _ => rfl) env (parse_builds_precedence_trees expr t he)).h _ hr

/-- the hypothesis is satisfiable: `(1+ )*2` does panic there -/
example : (match (validate ['(', '1', '+', ' ', ')', '*', '2'] { cur := "A", fields := [] }).1 with
    | .panic "nil.Run" => true | _ => false) = true := by decide +kernel

/-- … and no panic at all when no operand is missing: no trailing operator, no empty group, no empty
argument.  The hypothesis is stated on the rendering of the compiled tree (the string the
correspondence check compares with the tree the real `parseExpr` built, where a missing operand is
printed `~` at every depth). -/
theorem validate_no_panic_complete (env : Env) (expr : List Char) (t : Node) (h : parseExpr expr = .ok t)
    (hc : ¬ ShowsMissing (shapeOf t)) (site : String) : (validate expr env).1 ≠ .panic site :=
  validate_no_panic_of_compiled expr env t h (compiled_complete (parse_builds_precedence_trees expr t h) hc) site

/-- non-vacuity: `(1+$)*len('ab')>2 && in($,1,2)` has no missing operand … -/
example : (match parseExpr ['(', '1', '+', '$', ')', '*', 'l', 'e', 'n', '(', '\'', 'a', 'b', '\'', ')', '>', '2',
      ' ', '&', '&', ' ', 'i', 'n', '(', '$', ',', '1', ',', '2', ')'] with
    | .ok t => decide (¬ ShowsMissing (shapeOf t)) | _ => false) = true := by decide +kernel

/-- … and the excluded inputs are the three kinds named: `(1+ )*2`, `()`, `len(1, )` -/
example : [['(', '1', '+', ' ', ')', '*', '2'], ['(', ')'], ['l', 'e', 'n', '(', '1', ',', ' ', ')']].all
    (fun e => match parseExpr e with | .ok t => decide (ShowsMissing (shapeOf t)) | _ => false) = true := by decide +kernel

/-- the same with the hypothesis in structural form -/
theorem validate_no_panic_compiled (env : Env) (expr : List Char) (t : Node) (h : parseExpr expr = .ok t)
    (hc : Compiled true t) (site : String) : (validate expr env).1 ≠ .panic site :=
  validate_no_panic_of_compiled expr env t h hc site

/-- a rendering without `~` is sufficient for the structural form (the step inside `validate_no_panic_complete`) -/
theorem complete_of_rendering (t : Node) (h : Compiled false t) (hc : ¬ ShowsMissing (shapeOf t)) : Compiled true t :=
  compiled_complete h hc

/-- The fuel is an artefact of the model (Go recurses on the stack); it is never the reason for an
answer: `4·|expr| + 8` steps are enough for the three mutually recursive functions on every input. -/
theorem parser_fuel_suffices (expr : List Char) : parseExpr expr ≠ .error .fuel := by
  unfold parseExpr
  have hp := (fuelOK (4 * expr.length + 8)).expr expr none (by omega)
  intro h
  split at h
  · next e he => rw [he] at hp; cases h; exact hp
  · next t r he =>
    have := liftSort_noFuel t
    rw [h] at this; exact this

/-- So the model's parser has exactly three outcomes on any string: a compiled tree as described
above, a syntax error (`parseExpr` returns an error), or a construct outside the modelled subset
(named; the driver then has no opinion).  No panic, no exhausted fuel. -/
theorem parser_outcomes (expr : List Char) :
    (∃ t, parseExpr expr = .ok t ∧ Compiled false t) ∨ parseExpr expr = .error .syntax ∨
    (∃ w, parseExpr expr = .error (.unsupported w)) := by
  cases h : parseExpr expr with
  | ok t => exact .inl ⟨t, rfl, parse_builds_precedence_trees expr t h⟩
  | error e =>
    match e, h with
    | .syntax, _ => exact .inr (.inl rfl)
    | .unsupported w, _ => exact .inr (.inr ⟨w, rfl⟩)
    | .fuel, h => exact absurd h (parser_fuel_suffices expr)
    | .fault f, h => exact absurd h (parseExpr_no_fault expr f)

/-- all three occur: `1 + 2`, `1 + )`, `$[0]` -/
example : (match parseExpr ['1', ' ', '+', ' ', '2'], parseExpr ['1', ' ', '+', ' ', ')'], parseExpr ['$', '[', '0', ']'] with
    | .ok _, .error .syntax, .error (.unsupported _) => true | _, _, _ => false) = true := by decide +kernel

/-! ## one compiled expression, many values: sequences, caches, concurrent evaluations

The binder compiles the expression of a struct type once (`tagexpr.VM`, keyed by the type) and every
later validation of that type, from whichever request goroutine, evaluates the same compiled tree.
The property speaks of one value and one expression; these theorems say that nothing else enters. -/

/-- **verdict_independent_of_batch.**  Compiling once and evaluating for many values gives every
value the verdict it gets alone: no value's verdict depends on which other values of the type are
validated, or in which order. -/
theorem verdict_independent_of_batch (expr : List Char) (envs : List Env) :
    validateShared expr envs = envs.map (validate expr) :=
  List.map_congr_left fun e _ => (validate_eq_runCompiled expr e).symm

/-- non-vacuity: `in($,'a','b')` on `"a"`, `"z"`, `"b"` - accepted, rejected, accepted -/
example : (validateShared ['i', 'n', '(', '$', ',', '\'', 'a', '\'', ',', '\'', 'b', '\'', ')']
      [{ cur := "A", fields := [("A", .str "a")] }, { cur := "A", fields := [("A", .str "z")] },
       { cur := "A", fields := [("A", .str "b")] }]).map
    (fun r => match r.1 with | .accept => 1 | .reject => 2 | _ => 0) = [1, 2, 1] := by decide +kernel

/-- **verdict_independent_of_history.**  Through the validator's per-type cache: whatever sequence of
values of whatever struct types has been validated before on the same validator, each `Validate`
answers what a fresh compilation of that type's expression answers for that value. -/
theorem verdict_independent_of_history (exprOf : Nat → List Char) (steps : List (Nat × Env)) :
    session exprOf [] steps = steps.map (fun s => validate (exprOf s.1) s.2) :=
  session_eq exprOf steps [] (Cache.sound_nil exprOf)

/-- non-vacuity: two types (`$=='a'`, `$==''`), four validations, hits and misses -/
example : (session (fun ty => if ty == 0 then ['$', '=', '=', '\'', 'a', '\''] else ['$', '=', '=', '\'', '\''])
      [] [(0, { cur := "A", fields := [("A", .str "a")] }), (1, { cur := "A", fields := [("A", .str "a")] }),
          (0, { cur := "A", fields := [("A", .str "")] }), (1, { cur := "A", fields := [("A", .str "")] })]).map
    (fun r => match r.1 with | .accept => 1 | .reject => 2 | _ => 0) = [1, 2, 2, 1] := by decide +kernel

/-- `Func.step` follows `(*funcExprNode).Run` as `spec_func.go` writes it: the argument buffer is a local of
`Run`, allocated by that call (`make` inside the body), filled argument by argument, then handed to
the function body; and the compiled node, which all evaluations of the struct type share, has no
field other than the parsed arguments, the function and the two prefix flags - nothing an
evaluation could leave behind in it. -/
theorem func_run_source_matches_gen :
    Gen.Prio.funcNodeFields = ["exprBackground", "args []ExprNode", "fn func(...interface{}) interface{}",
      "boolOpposite *bool", "signOpposite *bool"] ∧
    Gen.Prio.funcRunBody = "{ var args []interface{} if n := len(f.args); n > 0 { args = make([]interface{}, n) for k, v := range f.args { args[k] = v.Run(ctx, currField, tagExpr) } } return realValue(f.fn(args...), f.boolOpposite, f.signOpposite) }" :=
  ⟨rfl, rfl⟩

/-- **func_eval_schedule_independent.**  `funcExprNode.Run` (behind `len`, `in` and every registered
function) taken in the steps the Go code takes - a fresh argument buffer, one argument per step, then
the function body - and executed for several values at once on the same node under ANY schedule:
an evaluation that has a result has the result of the undisturbed evaluation of its own value. -/
theorem func_eval_schedule_independent (name : String) (args : List Operand) (bo so : Option Bool)
    (envs : List Env) (sched : List Nat) (i : Nat) (env : Env) (t : Func.Thread (EvalM Val) (EvalM Val)) (r : EvalM Val)
    (h : (Func.run (args.map (fun (a : Operand) => a.run)) (funcBody name bo so) (Func.start envs) sched)[i]? = some (env, t))
    (hr : t.res = some r) :
    envs[i]? = some env ∧ r = (funcNode name args bo so).run env := by
  have := Func.run_private _ _ envs sched i env t r h hr
  exact ⟨this.1, by rw [funcNode_run_eq_seq]; exact this.2⟩

/-- … and every evaluation gets there once it has been given one step per argument and one more. -/
theorem func_eval_completes (name : String) (args : List Operand) (bo so : Option Bool)
    (envs : List Env) (sched : List Nat) (i : Nat) (env : Env) (he : envs[i]? = some env)
    (hc : args.length < sched.count i) :
    ((Func.run (args.map (fun (a : Operand) => a.run)) (funcBody name bo so) (Func.start envs) sched)[i]?).bind (fun p => p.2.res)
      = some ((funcNode name args bo so).run env) := by
  have := Func.run_completes (args.map (fun (a : Operand) => a.run)) (funcBody name bo so) envs sched i env he
    (by simpa using hc)
  rw [this, funcNode_run_eq_seq]
  rfl

/-- non-vacuity: `in($,'a','b')` for `"a"` and `"z"`, the second evaluation running entirely inside
the first one: both finish with their own answer -/
example : ((Func.run ([selectorNode "" none none, constNode "s" (.str "a"), constNode "s" (.str "b")].map (fun (a : Operand) => a.run))
      (funcBody "in" none none)
      (Func.start [{ cur := "A", fields := [("A", .str "a")] }, { cur := "A", fields := [("A", .str "z")] }])
      [0, 0, 1, 1, 1, 1, 0, 0]).map
    (fun p => match p.2.res with | some (.ok (.bool true)) => 1 | some (.ok (.bool false)) => 2 | _ => 0)) = [1, 2] := by decide +kernel

/-- The hypothesis that matters is that the argument buffer belongs to the evaluation.  With one
buffer owned by the node (allocated when the expression is compiled, i.e. shared by all
evaluations of the cached tree) the statement is false: on the same schedule the evaluation of
`in(x,1,2)` for `x = 1` answers for the other evaluation's `x = 9`. -/
theorem node_owned_buffer_fails_at :
    ¬ (∀ sched : List Nat,
        ∀ p ∈ (Func.runShared Func.demoArgs Func.demoIn { buf := [0, 0, 0], ts := [(1, {}), (9, {})] } sched).ts,
          ∀ r, p.2.res = some r → r = Func.seq Func.demoArgs Func.demoIn p.1) := by
  intro h
  have h1 := Func.runShared_fails_at
  have hm : (1, ({ pc := 3, res := some false } : Func.SThread Bool)) ∈
      (Func.runShared Func.demoArgs Func.demoIn { buf := [0, 0, 0], ts := [(1, {}), (9, {})] } Func.demoSched).ts := by decide
  have := h Func.demoSched _ hm false rfl
  rw [h1.2] at this
  cases this

/-
TODO-OPEN
  What remains open:
  * `ShowsMissing` (hypothesis of `validate_no_panic_complete`) is stated on the rendering of the
    compiled tree, i.e. on the parser's output, not on the input string: a purely lexical
    characterisation of "no trailing operator, no empty group, no empty argument" that does not
    mention the parser is not given (it would have to re-do the bracket/quote matching of
    `readPairedSymbol`).
  * The token sequence in `parse_eq_spec_expr` is the one `parseExprNode` itself read (`flat` of the
    chain it returned); that the lexer's cut points are the documented ones (delimiter sets of the
    operand regexps) is compared with the real code on every case, not specified independently.
  * Concurrent evaluation of the shared compiled tree is modelled in steps for function-call nodes only
    (`Func.run`); operator, group, selector and regexp nodes are atomic and stateless in the model, and
    `tagexpr.VM`'s locking around the per-type cache is not modelled (`session` is sequential).  That those
    nodes keep no per-evaluation state is checked by the interleaved (`vdm step`, scheduling points
    `vdpt()`/`vdid(…)`) and parallel (`vdm par`/`cold`) runs against the real code, not proved; only
    `funcExprNode` is tied to the source (`func_run_source_matches_gen`).
  * float64 arithmetic, `strconv`/`fmt` conversions and `regexp` stay compared, not proved (`Float` is
    opaque to the kernel); constructs outside the modelled subset (`$[…]` sub-selectors, `#` range
    keys, `sprintf`/`range`/`mblen`) answer `unsupported` and are not covered by any theorem here.
-/

end Hertz.Props.C20
