import Hertz.Model.Conn
/-!
The abstract specification of C13: a plain byte queue.

It shares the *vocabulary* (`Op`, `Out`, `Wire`, the error classes) and the pass-through threshold `block4k` of
`Conn.Read` with the model; nothing here knows about nodes, capacities, read/write positions or `maxSize`.

* `acceptsBytes` — the queue proper: the state is the sequence of bytes sent by the peer and not
  yet consumed; every returned slice must be a prefix of it, every consuming operation removes
  exactly what it returned.  This is "nothing lost, duplicated, altered or reordered".
* `acceptsCtl` — sizes, `Len()` and errors: `Len()` behaves as the count of buffered-but-unconsumed
  bytes (an operation that is satisfiable from the buffer must not change it or fail, `Skip`
  succeeds iff `n ≤ Len`, …) and a wire error may be reported only by an operation that asked for
  more bytes than the peer sent before that error (errors are neither invented nor premature).
Both are *acceptors* of observation traces, so they can be run on the outputs of the real
implementation as well as on the model's (the driver does the former, `Props/C13` the latter).
`α` is the observation of a byte string: the bytes themselves in the theorems, a 64-bit FNV-1a
digest in the correspondence check.
-/
namespace Hertz.Spec.Fifo
open Hertz Hertz.Conn

/-- what is observed of one operation -/
structure Obs (α : Type) where
  /-- number of bytes returned -/
  n : Nat
  /-- observation of the returned bytes -/
  dg : α
  err : Option Err
  /-- `Len()` after the operation -/
  len : Nat

def Obs.ofOut {α : Type} (obs : Bytes → α) (o : Out) : Obs α :=
  { n := o.bytes.length, dg := obs o.bytes, err := o.err, len := o.len }

/-- number of bytes an operation removed from the queue, read off its report -/
def consumed {α : Type} : Op → Obs α → Nat
  | .peek _, _ => 0
  | .skip n, o => if o.err.isNone then n else 0
  | .readByte, o => if o.err.isNone then 1 else 0
  | .readBinary n, o => if o.err.isNone then n else 0
  | .read _, o => o.n
  | .release, _ => 0
  | .len, _ => 0

/-- shape of the report: how many bytes come back -/
def shapeOK {α : Type} : Op → Obs α → Bool
  | .peek n, o => decide (o.n ≤ n) && (o.err.isSome || decide (o.n = n))
  | .skip _, o => decide (o.n = 0)
  | .readByte, o => if o.err.isNone then decide (o.n = 1) else decide (o.n = 0)
  | .readBinary n, o => if o.err.isNone then decide (o.n = n) else decide (o.n = 0)
  | .read k, o => decide (o.n ≤ k)
  | .release, o => decide (o.n = 0) && o.err.isNone
  | .len, o => decide (o.n = 0) && o.err.isNone

/-- one step of the byte queue: `q` is everything sent and not yet consumed -/
def stepBytes {α : Type} [DecidableEq α] (obs : Bytes → α) (q : Bytes) (op : Op) (o : Obs α) : Option Bytes :=
  -- `(q.take k).length = k` says `k ≤ q.length` (and costs `k`, not `q.length`, steps)
  let p := q.take o.n
  if shapeOK op o && decide (p.length = o.n) && decide (o.dg = obs p) && decide ((q.take (consumed op o)).length = consumed op o)
  then some (q.drop (consumed op o)) else none

def acceptsBytes {α : Type} [DecidableEq α] (obs : Bytes → α) : Bytes → List (Op × Obs α) → Bool
  | _, [] => true
  | q, (op, o) :: t =>
    match stepBytes obs q op o with
    | some q' => acceptsBytes obs q' t
    | none => false

/-! ## sizes, `Len()` and errors -/

/-- state of the control acceptor: `r` bytes sent and not yet consumed, last reported `Len()`,
unreported wire errors as (bytes of the queue in front of the error, class) -/
structure Ctl where
  r : Nat
  len : Nat
  marks : List (Nat × Err)
  deriving Repr, DecidableEq

/-- the errors of a wire script with their byte positions -/
def marksOf : Wire → Nat → List (Nat × Err)
  | [], _ => []
  | .data d (some e) :: t, pos => (pos + d.length, e) :: marksOf t (pos + d.length)
  | .data d none :: t, pos => marksOf t (pos + d.length)

def Ctl.init (w : Wire) : Ctl := { r := (wireBytes w).length, len := 0, marks := marksOf w 0 }

/-- bytes in front of the first unreported error -/
def Ctl.avail (c : Ctl) : Nat :=
  match c.marks with
  | [] => c.r
  | (p, _) :: _ => min p c.r

/-- a wire error `e` reported by an operation that demanded `n` bytes is justified -/
def Ctl.justified (c : Ctl) (e : Err) (n : Nat) : Bool :=
  match c.marks with
  | (p, e') :: _ => decide (e = e') && decide (p < n)
  | [] => decide (e = errEOF) && decide (c.r < n)

def Ctl.pop (c : Ctl) : Ctl := { c with marks := c.marks.drop 1 }

def Ctl.consume (c : Ctl) (k len' : Nat) : Ctl :=
  { r := c.r - k, len := len', marks := c.marks.map (fun (p, e) => (p - k, e)) }

/-- remove the first mark of class `e` lying within the first `n` bytes -/
def removeMark (e : Err) (n : Nat) : List (Nat × Err) → Option (List (Nat × Err))
  | [] => none
  | (p, e') :: t => if e = e' ∧ p ≤ n then some t else (removeMark e n t).map ((p, e') :: ·)

/-- the demand of an operation that had to go to the wire, with its outcome -/
def pullOK {α : Type} (c : Ctl) (n : Nat) (o : Obs α) (consumes : Bool) : Option Ctl :=
  match o.err with
  | none =>
    -- got everything: at least `n` were buffered afterwards, none beyond an unreported error
    let total := if consumes then o.len + n else o.len
    if decide (n ≤ total) && decide (total ≤ c.avail) then some (c.consume (if consumes then n else 0) o.len) else none
  | some e =>
    if c.justified e n && decide (c.len ≤ o.len) && decide (o.len ≤ c.avail) && (decide (o.n = o.len) || decide (o.n = 0))
    then some { c.pop with len := o.len } else none

def stepCtl {α : Type} (c : Ctl) : Op → Obs α → Option Ctl
  | .peek n, o =>
    if n ≤ c.len then (if o.err.isNone && decide (o.len = c.len) then some c else none)
    else pullOK c n o false
  | .skip n, o =>
    if n ≤ c.len then (if o.err.isNone && decide (o.len = c.len - n) then some (c.consume n o.len) else none)
    else (if decide (o.err = some errSkip) && decide (o.len = c.len) then some c else none)
  | .readByte, o =>
    if 1 ≤ c.len then (if o.err.isNone && decide (o.len = c.len - 1) then some (c.consume 1 o.len) else none)
    else pullOK c 1 o true
  | .readBinary n, o =>
    if n ≤ c.len then (if o.err.isNone && decide (o.len = c.len - n) then some (c.consume n o.len) else none)
    else pullOK c n o true
  | .read k, o =>
    if c.len > 0 then
      (if o.err.isNone && decide (o.n = min c.len k) && decide (o.len = c.len - o.n) then some (c.consume o.n o.len) else none)
    else if k ≤ block4k then
      match o.err with
      | none =>
        if decide (1 ≤ o.n + o.len) && decide (o.n + o.len ≤ c.avail) && (decide (o.len = 0) || decide (o.n = k))
        then some (c.consume o.n o.len) else none
      | some e => if c.justified e 1 && decide (o.n = 0) && decide (o.len = 0) then some c.pop else none
    else
      -- pass-through of one wire read
      if decide (o.len = 0) && decide (o.n ≤ c.r) then
        match o.err with
        | none => some (c.consume o.n 0)
        | some e =>
          match removeMark e o.n c.marks with
          | some m => some ({ c with marks := m }.consume o.n 0)
          | none => if decide (e = errEOF) && decide (o.n = 0) && decide (c.r = 0) then some c else none
      else none
  | .release, o => if decide (o.len = c.len) then some c else none
  | .len, o => if decide (o.len = c.len) then some c else none

def acceptsCtl {α : Type} : Ctl → List (Op × Obs α) → Bool
  | _, [] => true
  | c, (op, o) :: t =>
    match stepCtl c op o with
    | some c' => acceptsCtl c' t
    | none => false

/-- index of the first rejected step (for diagnostics), `none` = accepted -/
def firstRejectCtl {α : Type} : Ctl → List (Op × Obs α) → Nat → Option Nat
  | _, [], _ => none
  | c, (op, o) :: t, i =>
    match stepCtl c op o with
    | some c' => firstRejectCtl c' t (i + 1)
    | none => some i

def firstRejectBytes {α : Type} [DecidableEq α] (obs : Bytes → α) : Bytes → List (Op × Obs α) → Nat → Option Nat
  | _, [], _ => none
  | q, (op, o) :: t, i =>
    match stepBytes obs q op o with
    | some q' => firstRejectBytes obs q' t (i + 1)
    | none => some i

/-! ## writer: the peer receives exactly what was written, in order -/

/-- observation of one writer operation: for `flush`, whether it failed and what the peer got during it -/
structure WObs (α : Type) where
  failed : Bool
  n : Nat
  dg : α

/-- `keep` = a failed flush keeps what was not sent (`standard.Conn`); otherwise it is dropped
(`networkWriter` releases everything) -/
def wstepSpec {α : Type} [DecidableEq α] (obs : Bytes → α) (keep : Bool) (pending : Bytes) : WOp → WObs α → Option Bytes
  | .malloc bs, o => if !o.failed && decide (o.n = bs.length) then some (pending ++ bs) else none
  | .writeBinary bs, o => if !o.failed && decide (o.n = bs.length) then some (pending ++ bs) else none
  | .flush, o =>
    if o.failed then
      if decide (o.n ≤ pending.length) && decide (o.dg = obs (pending.take o.n)) then some (if keep then pending.drop o.n else []) else none
    else
      if decide (o.n = pending.length) && decide (o.dg = obs pending) then some [] else none

def acceptsW {α : Type} [DecidableEq α] (obs : Bytes → α) (keep : Bool) : Bytes → List (WOp × WObs α) → Bool
  | _, [] => true
  | p, (op, o) :: t =>
    match wstepSpec obs keep p op o with
    | some p' => acceptsW obs keep p' t
    | none => false

end Hertz.Spec.Fifo
