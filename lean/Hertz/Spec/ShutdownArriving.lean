import Hertz.Spec.Shutdown
/-!
Extension X18 of the C18 trace specification, beside the nine clauses of `Hertz.Spec.Shutdown` (the driver evaluates
`violations` on the base events and `partlyReceived` on the extended ones, as `violationsX` puts them together):

* clause ten, `partlyReceived`: a request of which the client had written the request line (and more) some time before
  `Shutdown` was called - head and part of the body received, the rest still arriving - is never answered by an error or
  truncated response; once the peer has sent the rest it gets its complete response; if the peer never sends the rest, the
  connection is not closed by the server before the deadline;
* `spinViolations`: the server as a process under `Hertz.Spin()`: after the stop signal the process ends by itself, with
  status 0, within exit wait + tick + slack - whatever `Shutdown` returned (nil, the registry's error, "not running");
  the requests that were inside a handler get their complete responses; nothing is served later than that bound after the
  signal, and nothing at all (beyond the grace period of the probe) when the engine was not yet running at signal time.
-/
namespace Hertz.ShutdownSpec

inductive XEv
  | base (e : Ev)
  /-- the client has written `got` of the `total` bytes of request `k` on connection `c` (request line, header block,
  part of the body); the rest is pending -/
  | P (c k got total : Nat)
  /-- the client has written the rest of request `k` -/
  | PZ (c k : Nat)
  deriving Repr, BEq, DecidableEq

structure XTEv where
  ev : XEv
  t : Nat
  deriving Repr, BEq

abbrev XTrace := Array XTEv

/-- the events of the original alphabet -/
def baseOf (tr : XTrace) : Trace :=
  tr.filterMap fun e => match e.ev with | .base b => some ⟨b, e.t⟩ | _ => none

def xAny (tr : XTrace) (p : XTEv → Bool) : Bool := tr.toList.any p

def xFirstT (tr : XTrace) (p : XEv → Bool) : Option Nat :=
  (tr.toList.find? fun e => p e.ev).map (·.t)

/-- time by which a client-side write is taken to have reached the server (loopback), µs -/
def arriveMargin : Nat := 10000

def partlyReceived (p : Params) (tr : XTrace) : List String :=
  match xFirstT tr (fun e => match e with | .base (.S _) => true | _ => false) with
  | none => []
  | some tS =>
    let deadline := tS + p.exitWait
    tr.toList.filterMap fun e =>
      match e.ev with
      | .P c k _ _ =>
        let accepted := xAny tr fun a => a.ev == .base (.A c) && a.t + arriveMargin ≤ tS
        if !(e.t + arriveMargin ≤ tS && accepted) then none
        else if xAny tr (fun r => r.ev == .base (.R c k true false) || r.ev == .base (.R c k false false)) then
          some s!"partly_received: request {k} on connection {c} was partly received when shutdown began and was answered by an error / truncated response"
        else
          match xFirstT tr (· == .PZ c k) with
          | some tz =>
            if tz + arriveMargin < deadline &&
                !xAny tr (fun r => r.ev == .base (.R c k true true) || r.ev == .base (.R c k false true)) then
              some s!"partly_received: request {k} on connection {c} was completed by the peer before the deadline but got no complete response"
            else none
          | none =>
            if xAny tr (fun r => r.ev == .base (.E c) && r.t + arriveMargin < deadline) then
              some s!"partly_received: connection {c} with a partly received request {k} was closed by the server before the deadline"
            else none
      | _ => none

def violationsX (p : Params) (tr : XTrace) : List String :=
  violations p (baseOf tr) ++ partlyReceived p tr

/-! ### the process under `Spin` -/

inductive SEv
  | SIG
  /-- the client of in-progress request `i`: `full` / `short` / `none` -/
  | R (i : Nat) (res : String)
  /-- a connection dialled later than the probe's grace period after the signal was served a complete response -/
  | LS
  /-- `0`, another exit status, `signal:<name>`, `timeout` (still alive `W + 4 s` after the signal) -/
  | EXIT (code : String)
  deriving Repr, BEq, DecidableEq

structure STEv where
  ev : SEv
  t : Nat
  deriving Repr, BEq

structure SParams where
  /-- ExitWaitTimeout, µs -/
  exitWait : Nat
  tick : Nat := 10000
  slack : Nat := 1000000
  /-- the engine was running when the signal was sent (false: signal during a slow `OnRun` hook) -/
  running : Bool

def spinViolations (p : SParams) (tr : List STEv) : List String :=
  match (tr.find? fun e => e.ev == .SIG).map (·.t) with
  | none => ["spin: no signal was sent"]
  | some ts =>
    let bound := ts + p.exitWait + p.tick + p.slack
    let ex := match tr.find? (fun e => match e.ev with | .EXIT _ => true | _ => false) with
      | none => ["spin_returns_bounded: the process never ended"]
      | some ⟨.EXIT code, te⟩ =>
        if code == "timeout" then ["spin_returns_bounded: Spin has not returned (process still alive) 4 s after the exit wait"]
        else if code != "0" then [s!"spin: process ended with {code}"]
        else if te > bound then [s!"spin_returns_bounded: process ended {te - ts} us after the stop signal > exit wait {p.exitWait} + tick + slack"]
        else []
      | some _ => []
    let infl := tr.filterMap fun e => match e.ev with
      | .R i res => if res != "full" then some s!"inflight_complete: request {i} was in progress (inside its handler, or still arriving) when the stop signal came and got response '{res}'" else none
      | _ => none
    let late := tr.filterMap fun e => match e.ev with
      | .LS =>
        if !p.running then some s!"spin_never_serves_after_signal: the engine was not running at the stop signal, yet a request was served {e.t - ts} us after it"
        else if e.t > bound then some s!"spin_never_serves_after_signal: a request was served {e.t - ts} us after the stop signal"
        else none
      | _ => none
    ex ++ infl ++ late.take 1

end Hertz.ShutdownSpec
