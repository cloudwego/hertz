import Hertz.Spec.Resp
/-!
The client's view of a connection: responses are read one after the other with the strict reader
`decodeOne`, each starting exactly where the previous one ended, until a response announces
`Connection: close`, the outstanding requests run out, or the connection ends between two messages.
-/
namespace Hertz.Spec.Resp
open Hertz

/-- `connection` -/
def sConnection : Bytes := [99, 111, 110, 110, 101, 99, 116, 105, 111, 110]
/-- `close` -/
def sClose : Bytes := [99, 108, 111, 115, 101]
/-- `keep-alive` -/
def sKeepAlive : Bytes := [107, 101, 101, 112, 45, 97, 108, 105, 118, 101]

def isConnClose (kv : Bytes × Bytes) : Bool := lowerAll kv.1 == sConnection && lowerAll kv.2 == sClose
def isConnKeepAlive (kv : Bytes × Bytes) : Bool := lowerAll kv.1 == sConnection && lowerAll kv.2 == sKeepAlive

/-- the response announces that the connection ends after it -/
def saysClose (m : Msg) : Bool := m.fields.any isConnClose
def saysKeepAlive (m : Msg) : Bool := m.fields.any isConnKeepAlive

/-- `heads` = for every outstanding request, whether it was a HEAD request.  `none` = some response is not a
well-formed complete message (cut short, or bytes that are no response); otherwise the responses read and
the bytes left over. -/
def decodeSeq : List Bool → Bytes → Option (List Msg × Bytes)
  | [], s => some ([], s)
  | h :: hs, s =>
    if s.isEmpty then some ([], []) else
    match decodeOne h s with
    | none => none
    | some (m, rest) =>
      if saysClose m then some ([m], rest)
      else (decodeSeq hs rest).map (fun r => (m :: r.1, r.2))

end Hertz.Spec.Resp
