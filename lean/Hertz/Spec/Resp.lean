import Hertz.Spec.Head
/-!
Strict reader of an HTTP/1.1 response (RFC 7230 §3.3.3), the specification side of C04: one status
line, header fields, then a body framed by `Content-Length` xor `Transfer-Encoding: chunked`, and no
body at all for HEAD, 1xx, 204, 304.
-/
namespace Hertz.Spec.Resp
open Hertz Hertz.Spec.Head

inductive Framing where
  | none | cl (n : Nat) | chunked
deriving Repr, DecidableEq

structure Msg where
  status : Nat
  fields : List (Bytes × Bytes)
  framing : Framing
  /-- the raw bytes between the header block and the end of the message -/
  raw : Bytes
  body : Bytes
  trailers : List (Bytes × Bytes)
deriving Repr, DecidableEq

def lower (c : UInt8) : UInt8 := if 65 ≤ c && c ≤ 90 then c + 32 else c
def lowerAll (b : Bytes) : Bytes := b.map lower

def parseDec (b : Bytes) : Option Nat :=
  if b.isEmpty || !b.all (fun c => 48 ≤ c && c ≤ 57) then none
  else some (b.foldl (fun n c => n * 10 + (c - 48).toNat) 0)

def hexVal (c : UInt8) : Option Nat :=
  if 48 ≤ c && c ≤ 57 then some (c - 48).toNat
  else if 97 ≤ c && c ≤ 102 then some (c - 87).toNat
  else if 65 ≤ c && c ≤ 70 then some (c - 55).toNat
  else none

def parseHex (b : Bytes) : Option Nat :=
  if b.isEmpty then none else b.foldlM (fun n c => (hexVal c).map (fun d => n * 16 + d)) 0

/-- `HTTP/1.1 NNN reason` -/
def statusOf (line : Bytes) : Option Nat :=
  if line.take 9 != [72, 84, 84, 80, 47, 49, 46, 49, 32] then none
  else match parseDec ((line.drop 9).take 3) with
    | some n => if (line.drop 12).head? == some 32 || (line.drop 12).isEmpty then some n else none
    | none => none

/-- chunked body: returns (decoded body, trailers, rest) -/
def chunks : Nat → Bytes → Bytes → Option (Bytes × List (Bytes × Bytes) × Bytes)
  | 0, _, _ => none
  | fuel + 1, s, acc =>
    match crlfLine s with
    | none => none
    | some (line, rest) =>
      match parseHex line with
      | none => none
      | some 0 =>
        (fields (rest.length + 1) rest).map (fun r => (acc, r.1, r.2))
      | some n =>
        if rest.length < n + 2 then none
        else if (rest.drop n).take 2 != [13, 10] then none
        else chunks fuel (rest.drop (n + 2)) (acc ++ rest.take n)

def noBodyStatus (st : Nat) : Bool := (100 ≤ st && st < 200) || st == 204 || st == 304

def sCL : Bytes := "content-length".toUTF8.toList
def sTE : Bytes := "transfer-encoding".toUTF8.toList
def sChunked : Bytes := "chunked".toUTF8.toList

/-- one response from the front of `s`; `isHead` = it answers a HEAD request -/
def decodeOne (isHead : Bool) (s : Bytes) : Option (Msg × Bytes) := do
  let (start, fs, rest) ← parseHead s
  let status ← statusOf start
  let cls := (fs.filter (fun kv => lowerAll kv.1 == sCL)).map (·.2)
  let tes := (fs.filter (fun kv => lowerAll kv.1 == sTE)).map (·.2)
  let framing ← match cls, tes with
    | [], [] => some Framing.none
    | [c], [] => (parseDec c).map Framing.cl
    | [], [t] => if lowerAll t == sChunked then some Framing.chunked else none
    | _, _ => none
  if isHead || noBodyStatus status then
    pure ({ status, fields := fs, framing, raw := [], body := [], trailers := [] }, rest)
  else match framing with
    | .none => pure ({ status, fields := fs, framing, raw := [], body := [], trailers := [] }, rest)
    | .cl n =>
      if rest.length < n then none
      else pure ({ status, fields := fs, framing, raw := rest.take n, body := rest.take n, trailers := [] }, rest.drop n)
    | .chunked =>
      let (body, tr, rest') ← chunks (rest.length + 1) rest []
      pure ({ status, fields := fs, framing, raw := rest.take (rest.length - rest'.length), body, trailers := tr }, rest')

end Hertz.Spec.Resp
