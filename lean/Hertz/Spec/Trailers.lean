import Hertz.Spec.Http
/-!
Specification of what a handler is handed as the trailers of a chunked request (C01), written independently
of the reader's algorithm.

`pkg/protocol/trailer.go`: the `Trailer` header field announces names (`SetTrailers`); after the body
`ext.ReadTrailer` / `parseTrailer` goes through the trailer section and `UpdateArgBytes` lets every field fill the
first announced entry of its name that has no value yet.  Seen from the announced names (this file): the entries
come in announcement order; the i-th entry takes the first not yet taken field of its name; an entry for which
no field is left is reported with the empty value; fields that are not announced are dropped.

The `Trailer` field value is a comma separated list `#field-name` (RFC 7230 §7): elements are separated by commas,
optional whitespace (SP / HTAB) around an element is not part of it, empty elements are ignored.
-/
namespace Hertz.Spec.Trailers
open Hertz Hertz.Spec.Http

/-- first field named `k`: its value, and the section without that field -/
def takeFirst (k : Bytes) : List (Bytes × Bytes) → Option (Bytes × List (Bytes × Bytes))
  | [] => none
  | (n, v) :: t => if n = k then some (v, t) else (takeFirst k t).map (fun r => (r.1, (n, v) :: r.2))

/-- the trailers handed to the handler: announced names in announcement order, each with the value of the first
field of that name not taken by an earlier announcement (empty if none is left); fields not announced: dropped -/
def specTrailerView : List Bytes → List (Bytes × Bytes) → List (Bytes × Bytes)
  | [], _ => []
  | d :: ds, sec =>
    match takeFirst d sec with
    | some (v, sec') => (d, v) :: specTrailerView ds sec'
    | none => (d, []) :: specTrailerView ds sec

/-- RFC 7230 §7 `#element`: split at commas, strip optional whitespace, ignore empty elements -/
def listElems (v : Bytes) : List Bytes := ((splitOnComma v).map trimOWS).filter (fun e => !e.isEmpty)

end Hertz.Spec.Trailers
