import Hertz.Gen.Resets
/-!
# C09 — specification side: what can be observed, what a fresh object is, what may survive

Hand-written and independent of the reset bodies (those are generated into `Hertz/Gen/Resets.lean`).

* `obs…` : the observable part of a state.  Scratch buffers (written before every read: `bufKV`, `buf`,
  `fullURI`, `requestURI` of `URI`), lock words, the `noCopy` marker and the body-writer back pointer are erased;
  a nil `*Trailer` is identified with an empty trailer (every getter goes through the allocating
  accessor `Trailer()`), a nil body buffer with an empty one (`Body()`/`BodyBytes()` return no bytes for both).
  Every other field — in particular every field added to the Go structs later — counts as observable.
* `fresh…` : a newly allocated object that carries the connection- or configuration-scoped fields of `s`
  (these are re-established per connection by `Server.Serve`, per request by `Engine.ServeHTTP`, or
  once per object by `Engine.allocateContext`, and are not request state).
* `connScoped`/`scratch` : the same two allow-lists as tables, for `every_field_accounted`.
-/
namespace Hertz.Recycle
open Hertz Hertz.ResetBase Hertz.Gen.Resets

/-- fields that legitimately survive a reset: (type, field) -/
def connScoped : List (String × String) := [
  ("RequestContext", "conn"),          -- set by Serve per connection; cleared by Reset before pooling
  ("RequestContext", "HTMLRender"),    -- ctx.HTMLRender = s.HTMLRender in Serve
  ("RequestContext", "traceInfo"),     -- trace-info object, reset in place when tracing is on
  ("RequestContext", "enableTrace"),   -- ctx.SetEnableTrace(s.EnableTrace) in Serve
  ("RequestContext", "clientIPFunc"),  -- Engine.allocateContext
  ("RequestContext", "formValueFunc"), -- Engine.allocateContext
  ("RequestContext", "binder"),        -- Engine.ServeHTTP, every request
  ("RequestContext", "validator"),     -- Engine.ServeHTTP, every request
  ("Request", "isTLS"),                -- ctx.Request.SetIsTLS in Serve (cleared by Request.Reset)
  ("Request", "maxKeepBodySize"),      -- Engine.allocateContext
  ("Response", "maxKeepBodySize")]     -- Engine.allocateContext

/-- fields no getter can see: (type, field) -/
def scratch : List (String × String) := [
  ("Args", "noCopy"), ("Args", "buf"),
  ("Trailer", "bufKV"),
  ("Cookie", "noCopy"), ("Cookie", "bufKV"), ("Cookie", "buf"),
  ("URI", "noCopy"), ("URI", "fullURI"), ("URI", "requestURI"),
  ("RequestHeader", "noCopy"), ("RequestHeader", "bufKV"),
  ("ResponseHeader", "noCopy"), ("ResponseHeader", "bufKV"),
  ("Request", "noCopy"), ("Request", "w"),
  ("Response", "noCopy"), ("Response", "w"),
  ("RequestContext", "mu"), ("RequestContext", "finishedMu")]

def allow : List (String × String) := connScoped ++ scratch

/-! ## observation -/

def obsArgs (a : Args) : Args := { a with noCopy := 0, buf := [] }
def obsTrailer (t : Trailer) : Trailer := { t with bufKV := zero_ArgsKV }
def obsCookie (c : Cookie) : Cookie := { c with noCopy := 0, bufKV := zero_ArgsKV, buf := [] }
def obsURI (u : URI) : URI :=
  { u with noCopy := 0, queryArgs := obsArgs u.queryArgs, fullURI := [], requestURI := [] }
def obsRequestHeader (h : RequestHeader) : RequestHeader :=
  { h with noCopy := 0, bufKV := zero_ArgsKV, trailer := some (obsTrailer (h.trailer.getD zero_Trailer)) }
def obsResponseHeader (h : ResponseHeader) : ResponseHeader :=
  { h with noCopy := 0, bufKV := zero_ArgsKV, trailer := some (obsTrailer (h.trailer.getD zero_Trailer)) }
def obsRequest (r : Request) : Request :=
  { r with noCopy := 0, Header := obsRequestHeader r.Header, uri := obsURI r.uri, postArgs := obsArgs r.postArgs,
           w := 0, body := some (r.body.getD []) }
def obsResponse (r : Response) : Response :=
  { r with noCopy := 0, Header := obsResponseHeader r.Header, w := 0, body := some (r.body.getD []) }
def obsContext (c : RequestContext) : RequestContext :=
  { c with Request := obsRequest c.Request, Response := obsResponse c.Response, mu := 0, finishedMu := 0 }

/-! ## fresh objects -/

/-- `new(Request)` with the configured body-retention limit (after `ReleaseRequest`/`AcquireRequest`). -/
def freshRequest (s : Request) : Request := { zero_Request with maxKeepBodySize := s.maxKeepBodySize }
def freshResponse (s : Response) : Response := { zero_Response with maxKeepBodySize := s.maxKeepBodySize }

/-- What `Engine.ctxPool.New` + the set-up in `Server.Serve` / `Engine.ServeHTTP` produce for the connection
and engine that `s` belongs to (`index` is the literal of `app.NewContext`, regenerated from the source). -/
def freshContext (s : RequestContext) : RequestContext :=
  { zero_RequestContext with
    index := newContextIndex
    conn := s.conn, HTMLRender := s.HTMLRender, traceInfo := s.traceInfo, enableTrace := s.enableTrace,
    clientIPFunc := s.clientIPFunc, formValueFunc := s.formValueFunc, binder := s.binder, validator := s.validator,
    Request := { freshRequest s.Request with isTLS := s.Request.isTLS },
    Response := freshResponse s.Response }

/-- the same after `putRequestContext` (no connection attached yet) -/
def freshPooledContext (s : RequestContext) : RequestContext := { freshContext s with conn := 0 }

/-! ## accounting over the generated tables -/

def fieldsOf (ty : String) : List (String × String × String) := (fieldTable.lookup ty).getD []

def writesRaw (ty m : String) : List Wr :=
  match writeTable.find? (fun e => e.1 == ty && e.2.1 == m) with
  | some e => e.2.2
  | none => [.unknown ("no such method " ++ ty ++ "." ++ m)]

/-- writes of a method with sibling calls expanded -/
def writesOf : Nat → String → String → List Wr
  | 0, ty, m => [.unknown ("call depth exceeded at " ++ ty ++ "." ++ m)]
  | n + 1, ty, m => (writesRaw ty m).flatMap (fun w => match w with
      | .self m' => writesOf n ty m'
      | w => [w])

def nestedType (kind : String) : Option String :=
  if kind.startsWith "struct:" then some (kind.drop 7).toString
  else if kind.startsWith "opt:" then some (kind.drop 4).toString
  else none

/-- The fields reachable from a `ty` value (prefixed with the access path) that the write list `ws` leaves neither
written nor allow-listed.  A nested pooled value is accounted field by field through the methods called on it
and the writes made through its accessor. -/
def unaccountedIn : Nat → String → String → List Wr → List String
  | 0, path, ty, _ => [path ++ ty ++ ": depth exceeded"]
  | n + 1, path, ty, ws =>
    (ws.filterMap (fun w => match w with | .unknown s => some (path ++ ty ++ ": untranslated " ++ s) | _ => none)) ++
    (fieldsOf ty).flatMap (fun (f, _, kind) =>
      if allow.contains (ty, f) || ws.contains (.set f) then [] else
      match nestedType kind with
      | none => [path ++ ty ++ "." ++ f]
      | some sub =>
        let nested := ws.flatMap (fun w => match w with
          | .sub f' ty' m' => if f' == f && ty' == sub then writesOf 8 sub m' else []
          | .part f' ty' g => if f' == f && ty' == sub then [.set g] else []
          | _ => [])
        if nested.isEmpty then [path ++ ty ++ "." ++ f]
        else unaccountedIn n (path ++ ty ++ "." ++ f ++ " > ") sub nested)

def unaccounted (ty m : String) : List String := unaccountedIn 6 "" ty (writesOf 8 ty m)

/-- allow-list entries that name no field of the current source (stale entries) -/
def staleAllow : List (String × String) :=
  allow.filter (fun (ty, f) => !((fieldsOf ty).any (fun e => e.1 == f)))

end Hertz.Recycle
