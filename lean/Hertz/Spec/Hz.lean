import Hertz.Model.Hz
/-!
Specification side of C16, independent of the tree algorithm of the generator.

`interp` gives the meaning of the body of a generated `Register` function (a list of abstract statements):
which routes it registers on which full path, with which chain of middleware functions in front of the
handler.  Paths are joined as hertz's `RouterGroup` does for clean operands.

`exactRoutes`, `chainsWeak`, `chainsStrong` are the three parts of the property, stated on the
*registered routes* only:
  * the registered (verb, path, handler name) list is a permutation of the declared one;
  * every route is wrapped by one group middleware per proper prefix of its path, then its own;
  * every group declared anywhere in `Register` whose path is a proper prefix of the route's path is in
    the route's chain.
-/
namespace Hertz.HzSpec
open Hertz Hertz.Hz

structure Route where
  verb : Bytes
  path : Bytes
  handler : Bytes
  chain : List Bytes
  deriving DecidableEq, Repr

structure GroupVal where
  base : Bytes
  chain : List Bytes
  deriving DecidableEq, Repr

abbrev Scopes := List (List (Bytes × GroupVal))

/-- hertz `joinPaths(base, rel)` for operands that `path.Join` leaves alone -/
def joinPath (base rel : Bytes) : Bytes :=
  if rel = [sl] then (if base.getLast? = some sl then base else base ++ [sl])
  else if base.getLast? = some sl then base ++ rel.drop 1
  else base ++ rel

def lookupVar : Scopes → Bytes → Option GroupVal
  | [], _ => none
  | s :: r, v => match s.lookup v with
    | some g => some g
    | none => lookupVar r v

/-- routes registered and groups declared (full path, middleware function) by a statement list;
`none`: a variable is used that is not in scope, or the blocks are unbalanced -/
def interp : List Stmt → Scopes → Option (List Route × List (Bytes × Bytes))
  | [], _ => some ([], [])
  | .open_ :: r, sc => interp r ([] :: sc)
  | .close :: r, sc =>
    match sc with
    | _ :: s :: sc' => interp r (s :: sc')
    | _ => none
  | .group v g p mw :: r, sc =>
    match sc, lookupVar sc g with
    | top :: sc', some gv =>
      let nv : GroupVal := { base := joinPath gv.base p, chain := gv.chain ++ [mw] }
      match interp r (((v, nv) :: top) :: sc') with
      | some (rs, gs) => some (rs, (nv.base, mw) :: gs)
      | none => none
    | _, _ => none
  | .route g verb p mw h :: r, sc =>
    match lookupVar sc g with
    | some gv =>
      match interp r sc with
      | some (rs, gs) => some ({ verb := verb, path := joinPath gv.base p, handler := h, chain := gv.chain ++ [mw] } :: rs, gs)
      | none => none
    | none => none

/-- the scope `Register(r *server.Hertz)` starts in -/
def scope0 : Scopes := [[([114], { base := [sl], chain := [] })]]

/-- a path of the property's quantifier: leading slash, no empty inner segment, no `.`/`..` segment,
printable ASCII without space, `"` and `\` (the templates put the path into a Go string literal unescaped) -/
def cleanPath (p : Bytes) : Bool :=
  match splitSlash p with
  | [] :: segs =>
    !segs.isEmpty
    && (segs.dropLast).all (fun s => !s.isEmpty)
    && segs.all (fun s => s != [46] && s != [46, 46])
    && p.all (fun c => 33 ≤ c && c ≤ 126 && c != 34 && c != 92)
  | _ => false

def declaredKey (m : Method) : Bytes × Bytes × Bytes := (getHttpMethod m.verb, m.path, m.name)
def routeKey (r : Route) : Bytes × Bytes × Bytes := (r.verb, r.path, afterLastDot r.handler)

/-- the registered (verb, path, handler name) list is a permutation of the declared one -/
def exactRoutes (ms : List Method) (rs : List Route) : Bool := (rs.map routeKey).isPerm (ms.map declaredKey)

/-- number of path elements of a clean path: `/` ↦ 1, `/a/b` ↦ 2, `/a/` ↦ 2 -/
def depth (p : Bytes) : Nat := (splitSlash p).length - 1

/-- one middleware per proper prefix (root included) plus the route's own -/
def chainsWeak (rs : List Route) : Bool := rs.all (fun r => r.chain.length = depth r.path + 1)

def properPrefix (g p : Bytes) : Bool := g = [sl] || (g ++ [sl]).isPrefixOf p

/-- every declared group lying on the route's path wraps the route -/
def chainsStrong (rs : List Route) (gs : List (Bytes × Bytes)) : Bool :=
  rs.all (fun r => gs.all (fun g => !properPrefix g.1 r.path || r.chain.contains g.2))

/-- the methods `RouterGroup.Any` registers, sorted (the harness sorts what `Engine.Routes()` reports) -/
def anyVerbsSorted : List String := ["CONNECT", "DELETE", "GET", "HEAD", "OPTIONS", "PATCH", "POST", "PUT", "TRACE"]

/-- the local variables a statement list declares (one per `.group`) -/
def declaredVars : List Stmt → List Bytes
  | [] => []
  | .group v _ _ _ :: r => v :: declaredVars r
  | _ :: r => declaredVars r

def nodupB (l : List Bytes) : Bool :=
  match l with
  | [] => true
  | a :: r => !r.contains a && nodupB r

end Hertz.HzSpec
