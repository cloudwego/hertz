import Hertz.Model.Bind
import Hertz.Model.BindNested
/-!
Declarative specification of `Bind` (property C15), written without the tag loop of the decoders:

  *each field takes the value found in the first of path, form, query, cookie, header, JSON body that
  is both named in the field's tags and present in the request, converted by Go's text rules; a field
  no source carries keeps its declared default or its zero value, unless one of its tags says
  `required`, which is an error.*

It shares with the model the data types, the request accessors (`peek`, `peekAll`, `ctFold`, `bodyMembers`, …), the
primitive conversions (`convText`, `jsonStep`, `jsonFromText`, `toDefaultValue`) and the JSON decoder's verdict on the
body as a whole (`preBind false`); which source is consulted, in which order, when the default applies and when
`required` fires are stated here independently (as a `findSome?` over the documented priority list).

Conventions fixed by the spec (documented behaviour of hertz, not deviations):
* a field without any source tag is named in every source under its Go name;
* a tag whose name is `-` does not name the source;
* `form` means: post arguments, else the first multipart value if non-empty, else (single values only)
  the query string;
* header names are case-insensitive; every other key is compared exactly;
* an empty text counts as no text when a default is declared;
* the JSON body counts only with a JSON content type (compared case-insensitively) and carries a field
  iff it has a member whose key equals the json tag name exactly;
* slices collect all values of the key; a path parameter carries a slice only when non-empty; if the
  element-wise conversion fails the first text is tried as a JSON array; slice defaults are JSON.
-/
namespace Hertz.Spec.Bind
open Hertz Hertz.Bind

/-- the documented priority -/
def priority : List Src := [.path, .form, .query, .cookie, .header, .json]

def textSources : List Src := [.path, .form, .query, .cookie, .header]

/-- name and `required` flag under which `f` is bound from source `s`; `none` = not named -/
def named (f : Field) (s : Src) : Option (Bytes × Bool) :=
  if f.tags.isEmpty then some (f.name, false)
  else match f.tags.lookup s with
    | none => none
    | some c =>
      match splitComma [] c with
      | [] => none
      | n :: opts =>
        let n := if n.isEmpty then f.name else n
        if n == dash then none else some (n, opts.contains requiredOpt)

def headerGet (r : Req) (k : Bytes) : List Bytes :=
  (r.headers.filter (fun e => H1.ciEq e.1 k)).map (·.2)

/-- the single text source `s` carries under key `k` -/
def present (r : Req) (s : Src) (k : Bytes) : Option Bytes :=
  match s with
  | .path => peek r.params k
  | .form =>
    (peek r.form k).orElse fun _ =>
      ((peek r.mform k).filter (· ≠ [])).orElse fun _ => peek r.query k
  | .query => peek r.query k
  | .cookie => peek r.cookies k
  | .header => (headerGet r k).head?
  | .json => none

/-- all texts source `s` carries under key `k` (for slices) -/
def presentAll (r : Req) (s : Src) (k : Bytes) : List Bytes :=
  match s with
  | .path => ((peek r.params k).filter (· ≠ [])).toList
  | .form => if peekAll r.form k ≠ [] then peekAll r.form k else peekAll r.mform k
  | .query => peekAll r.query k
  | .cookie => peekAll r.cookies k
  | .header => headerGet r k
  | .json => []

def isJSONRequest (r : Req) : Bool := hasBody r && ctFold r

/-- the JSON body carries name `n` -/
def jsonCarries (r : Req) (n : Bytes) : Bool :=
  isJSONRequest r && (bodyMembers r).any (fun m => m.1 == n)

/-- value the JSON decoder leaves for key `n` (members in order; duplicate keys: later ones overwrite) -/
def jsonValue (ty : Ty) (r : Req) (n : Bytes) : Conv FieldVal :=
  ((bodyMembers r).filter (fun m => m.1 == n)).foldl
    (fun acc m => match acc with
      | .ok prev => jsonStep false ty prev m.2
      | o => o) (.ok .unset)

def anyRequired (f : Field) : Bool :=
  priority.any (fun s => match named f s with
    | some (_, req) => req
    | none => false)

/-- first text source, in documented order, that is named and carries a single value -/
def firstText (f : Field) (r : Req) : Option (Src × Bytes) :=
  textSources.findSome? (fun s => match named f s with
    | some (n, _) => (present r s n).map (fun v => (s, v))
    | none => none)

def firstTexts (f : Field) (r : Req) : Option (Src × List Bytes) :=
  textSources.findSome? (fun s => match named f s with
    | some (n, _) => if presentAll r s n ≠ [] then some (s, presentAll r s n) else none
    | none => none)

def ofConv : Conv FieldVal → FOut
  | .ok v => .ok v
  | .err => .err .body
  | .unk => .unk

def dfltOf (f : Field) : Bytes := f.dflt.getD []

/-- what happens when no text source carries the field -/
def noText (f : Field) (r : Req) (dflt : FOut) : FOut :=
  match named f .json with
  | some (n, _) =>
    if jsonCarries r n then ofConv (jsonValue f.ty r n)
    else if anyRequired f then .err .required else dflt
  | none => if anyRequired f then .err .required else dflt

def specScalar (f : Field) (r : Req) : FOut :=
  match firstText f r with
  | some (_, v) =>
    let text := if v = [] then dfltOf f else v
    (match convText f.ty.base text with
      | .ok s => .ok (.one s)
      | .err => .err .conv
      | .unk => .unk)
  | none =>
    noText f r (if dfltOf f = [] then .ok .unset
      else match convText f.ty.base (dfltOf f) with
        | .ok s => .ok (.one s)
        | .err => .err .conv
        | .unk => .unk)

def specSlice (f : Field) (r : Req) : FOut :=
  match firstTexts f r with
  | some (_, t0 :: ts) =>
    (match convAll f.ty.base (t0 :: ts) with
      | .ok l => .ok (.many (l.map some))
      | .err => jsonFromText f.ty .unset t0
      | .unk => .unk)
  | _ =>
    noText f r (if dfltOf f = [] then .ok .unset else jsonFromText f.ty .unset (toDefaultValue f.ty (dfltOf f)))

def specField (f : Field) (r : Req) : FOut := if f.ty.slice then specSlice f r else specScalar f r

def specFields (r : Req) : List Field → Outcome
  | [] => .ok []
  | f :: fs =>
    match specField f r with
    | .err e => .err e
    | .unk => .unk
    | .ok v => match specFields r fs with
      | .ok vs => .ok (v :: vs)
      | .err e => .err e
      | .unk => .unk

/-- **The specification of Bind.**  The JSON decoder's verdict on the body as a whole
(`bind body failed`) is taken from `preBind`. -/
def specBind (fields : List Field) (r : Req) : Outcome :=
  match preBind false r fields with
  | .err => .err .body
  | .unk => .unk
  | .ok _ => specFields r fields

/-- which source decides field `f` (branch tag of the driver) -/
def decidedBy (f : Field) (r : Req) : String :=
  let t := if f.ty.slice then (firstTexts f r).map (·.1) else (firstText f r).map (·.1)
  match t with
  | some s => s.name
  | none =>
    match named f .json with
    | some (n, _) => if jsonCarries r n then "json" else if anyRequired f then "required" else if dfltOf f = [] then "zero" else "default"
    | none => if anyRequired f then "required" else if dfltOf f = [] then "zero" else "default"

/-! ## Classes of known deviations (mirrors known_findings.json) -/

/-- the field has `json:"-…"`: the decoders still consult the body under the Go field name -/
def clsJsonDash (f : Field) : Bool :=
  match f.tags.lookup .json with
  | some c => (headComma c).1 == dash
  | none => false

/-- the JSON pre-bind filled the field from a member the tags do not name (untagged field matched by
its Go name, or a key differing in case from the json tag) -/
def clsPrebindExtra (f : Field) (r : Req) : Bool :=
  isJSONRequest r && (bodyMembers r).any (fun m => jsonMatches f m.1 &&
    (match named f .json with
      | some (n, _) => m.1 != n
      | none => true))

/-- a JSON integer of 2^32 or more is assigned to a `uint32`: sonic truncates instead of failing -/
def clsSonicU32 (f : Field) (r : Req) : Bool :=
  isJSONRequest r && f.ty.base == .uint 32 && (bodyMembers r).any (fun m => jsonMatches f m.1 &&
    (match m.2 with
      | .atom (.int i) => decide (i ≥ 2 ^ 32)
      | .arr l => l.any (fun a => match a with
        | .int i => decide (i ≥ 2 ^ 32)
        | _ => false)
      | _ => false))

/-- every source tag of the field is named `-` (and none is json): the decoders never reach the
assignment `defaultValue = tagInfo.Default`, so the declared default is dropped -/
def clsDashOnly (f : Field) : Bool :=
  !f.tags.isEmpty && f.dflt.getD [] != [] && f.tags.lookup .json == none &&
  f.tags.all (fun t => (headComma t.2).1 == dash)

def fieldClass (f : Field) (r : Req) : String :=
  if clsSonicU32 f r then "sonic-uint32-wrap"
  else if clsDashOnly f then "dash-only-default"
  else if clsJsonDash f then "json-dash"
  else if clsPrebindExtra f r then "json-prebind-extra"
  else ""

/-! ## The tag-restricted entry points (`BindPath`, `BindForm`, `BindQuery`, `BindHeader`)

  *`BindXxx` uses only the `xxx` tag: each field takes the value source `xxx` carries under the name its
  `xxx` tag gives (the Go name when the field has no such tag or the tag has an empty name; a tag named `-`
  takes the field out), converted by Go's text rules; every other source, the body and the declared
  default are not consulted; a field the source does not carry stays zero unless its `xxx` tag says
  `required`.*

And, for every entry point: **the outcome of a call is a function of the type and the request alone** —
whatever other entry points were called before on the same binder, for the same or other types. -/

/-- name and `required` flag under which `f` is bound by the entry point restricted to `s` -/
def namedBy (f : Field) (s : Src) : Option (Bytes × Bool) :=
  match f.tags.lookup s with
  | none => some (f.name, false)
  | some c =>
    match splitComma [] c with
    | [] => none
    | n :: opts =>
      let n := if n.isEmpty then f.name else n
      if n == dash then none else some (n, opts.contains requiredOpt)

def specFieldBy (s : Src) (f : Field) (r : Req) : FOut :=
  match namedBy f s with
  | none => .ok .unset
  | some (n, req) =>
    if f.ty.slice then
      match presentAll r s n with
      | t0 :: ts =>
        (match convAll f.ty.base (t0 :: ts) with
          | .ok l => .ok (.many (l.map some))
          | .err => jsonFromText f.ty .unset t0
          | .unk => .unk)
      | [] => if req then .err .required else .ok .unset
    else
      match present r s n with
      | some v =>
        (match convText f.ty.base v with
          | .ok x => .ok (.one x)
          | .err => .err .conv
          | .unk => .unk)
      | none => if req then .err .required else .ok .unset

def specFieldsBy (s : Src) (r : Req) : List Field → Outcome
  | [] => .ok []
  | f :: fs =>
    match specFieldBy s f r with
    | .err e => .err e
    | .unk => .unk
    | .ok v => match specFieldsBy s r fs with
      | .ok vs => .ok (v :: vs)
      | .err e => .err e
      | .unk => .unk

/-- **The specification of every entry point**: `none` = `Bind` / `BindAndValidate` (types without
validation tags), `some s` = the entry point restricted to source `s`.  No binder state appears. -/
def specBindBy (tg : Option Src) (fields : List Field) (r : Req) : Outcome :=
  match tg with
  | none => specBind fields r
  | some s => specFieldsBy s r fields

/-! ## Nested struct types

  *every LEAF of a struct type of any depth is bound as a top-level field would be: from the first of path, form,
  query, cookie, header that its OWN tags name and that is present, else from the JSON body, where the body that counts
  for the leaf is the object found under the dotted path of the JSON names of the enclosing struct fields (json tag
  name, else Go name); siblings, cousins and the position in the tree play no role.  A struct-typed field may itself
  be `required`.  Binding a request twice gives the same result, however the body is delivered.*  -/

/-- the request as a leaf inside the object with key path `P` sees it: same text sources, the JSON members of that
object (none when the object is absent) -/
def focus (q : NReq) (P : List Bytes) : Req :=
  { q.r with body := match q.r.body with
      | .json _ => .json (exactMembers q P)
      | b => b }

/-- the JSON name a struct-typed field contributes to the path of its fields -/
def specName (hdr : Field) : Bytes :=
  match named hdr .json with
  | some (n, _) => n
  | none => hdr.name

/-- a struct-typed field itself: `required` is an error when nothing carries it; a text addressed to it is decoded as
JSON (no opinion) -/
def specStruct (hdr : Field) (r : Req) : FOut :=
  match firstText hdr r with
  | some _ => .unk
  | none =>
    let dflt : FOut := if dfltOf hdr = [] then .ok .unset else .unk
    match named hdr .json with
    | some (n, _) => if jsonCarries r n then .ok .unset else if anyRequired hdr then .err .required else dflt
    | none => if anyRequired hdr then .err .required else dflt

/-- an embedded struct without a JSON name of its own: the unmarshaller promotes its fields into the enclosing object,
so the body that counts for them is the enclosing object -/
def promoted (hdr : Field) (anon : Bool) : Bool := structJSONName hdr anon == some none

def consOut : FOut → NOutcome → NOutcome
  | .err e, _ => .err e
  | .unk, _ => .unk
  | .ok v, .ok vs => .ok (v :: vs)
  | .ok _, o => o

def appendOut : NOutcome → NOutcome → NOutcome
  | .ok a, .ok b => .ok (a ++ b)
  | .ok _, o => o
  | o, _ => o

/-- leaves in field order, depth first; `P` = JSON key path of the enclosing object -/
def specForest (q : NReq) (P : List Bytes) : Forest → NOutcome
  | .nil => .ok []
  | .leaf f rest => consOut (specField f (focus q P)) (specForest q P rest)
  | .strct hdr anon kids rest =>
    match specStruct hdr (focus q P) with
    | .err e => .err e
    | .unk => .unk
    | .ok _ => appendOut (specForest q (if promoted hdr anon then P else P ++ [specName hdr]) kids) (specForest q P rest)

/-- **The specification of Bind for nested types.**  The unmarshaller's verdict on the document as a whole is taken
from `preBindN`; the state of the body (buffered / stream) does not occur. -/
def specBindN (t : Forest) (q : NReq) : NOutcome :=
  match preBindN false q.seen t with
  | .err => .err .body
  | .unk => .unk
  | .ok _ => specForest q.seen [] t

/-- every field of the tree with the key path of its enclosing object as the specification sees it (`P`) and as the
unmarshaller sees it (`D`; `none` = under a struct the unmarshaller ignores: class `json-dash`; under a promoted embedded
struct both are the enclosing object's path);
`true` marks struct-typed fields -/
def fieldCtx (P : List Bytes) (D : Option (List Bytes)) : Forest → List (Field × Bool × List Bytes × Option (List Bytes))
  | .nil => []
  | .leaf f rest => (f, false, P, D) :: fieldCtx P D rest
  | .strct hdr anon kids rest =>
    (hdr, true, P, D) ::
      (fieldCtx (if promoted hdr anon then P else P ++ [specName hdr])
          (stepD D hdr anon) kids ++
        fieldCtx P D rest)

/-! ### classes of known deviations for nested fields -/

/-- a `required` json tag whose enclosing object is absent from a JSON body: `checkRequireJSON` reports the key as
found ("there should be a superior"), the missing value is a silent zero (and earlier `required` errors are cleared) -/
def clsWaived (q : NReq) (P : List Bytes) (f : Field) : Bool :=
  (fieldTagInfos f).any (fun ti => ti.key == .json && ti.required && ctFold q.r && !nodeExists q P ti.jsonName && superiorAbsent q P)

/-- the unmarshaller fills the field from another object than the one the tags name: an enclosing struct is `json:"-"`
or tagged `json:"-,…"`, or a key on the way differs in letter case from the JSON name -/
def clsPathExtra (q : NReq) (P : List Bytes) (D : Option (List Bytes)) : Bool :=
  D != some P || (isJSONReq q && q.deep.any (fun e => ciPathEq e.parents P && e.parents != P))

def nestedClass (q : NReq) (x : Field × Bool × List Bytes × Option (List Bytes)) : String :=
  if clsWaived q x.2.2.1 x.1 then "nested-required-waived"
  else if clsPathExtra q x.2.2.1 x.2.2.2 then
    -- an enclosing struct is `json:"-"`, or tagged `json:"-,…"` (the unmarshaller's key is `-`, the decoders look under the
    -- Go name); otherwise a key on the way differs in letter case
    (if x.2.2.2 == none then "json-dash" else if x.2.2.2 != some x.2.2.1 then "embedded-json-path" else "json-prebind-extra")
  else fieldClass x.1 (focus q x.2.2.1)

end Hertz.Spec.Bind
