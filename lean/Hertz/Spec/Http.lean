import Hertz.Basic
/-!
Independent strict HTTP/1.1 request-stream decoder (RFC 7230 §3), used as the *specification* of C01:
what framing assigns to each request of a well-formed, unambiguously framed pipelined stream.
Written without reference to hertz's scanner (the limits of `chunksAux` apart, which keep hertz's safe refusals outside the
comparison): line oriented, CRLF only, token names, Content-Length xor `chunked`.  Returns `none` when the stream is
not of that shape (then C01 says nothing).
-/
namespace Hertz.Spec.Http
open Hertz

structure Req where
  method : Bytes
  target : Bytes
  fields : List (Bytes × Bytes)      -- wire order, names as sent, values OWS-trimmed, obs-fold unfolded
  body : Bytes
  trailers : List (Bytes × Bytes)
  /-- some obs-fold continuation line contains a colon (a server may reject obs-fold; hertz does for these) -/
  foldedColon : Bool := false
deriving Repr, DecidableEq

def isTchar (c : UInt8) : Bool :=
  (48 ≤ c && c ≤ 57) || (65 ≤ c && c ≤ 90) || (97 ≤ c && c ≤ 122) ||
  c == 33 || c == 35 || c == 36 || c == 37 || c == 38 || c == 39 || c == 42 || c == 43 || c == 45 || c == 46 ||
  c == 94 || c == 95 || c == 96 || c == 124 || c == 126

def isToken (b : Bytes) : Bool := !b.isEmpty && b.all isTchar
def isFieldVchar (c : UInt8) : Bool := c == 9 || (32 ≤ c && c != 127)
def lower (c : UInt8) : UInt8 := if 65 ≤ c && c ≤ 90 then c + 32 else c
def lowerAll (b : Bytes) : Bytes := b.map lower

/-- first CRLF: `(line, rest)` -/
def crlfLine : Bytes → Option (Bytes × Bytes)
  | [] => none
  | [_] => none
  | c :: d :: t =>
    if c = 13 ∧ d = 10 then some ([], t)
    else if c = 10 ∨ (c = 13) then none      -- bare LF / bare CR are not allowed in a strict line
    else (crlfLine (d :: t)).map (fun r => (c :: r.1, r.2))
termination_by structural x => x

def trimOWS (b : Bytes) : Bytes :=
  ((b.dropWhile (fun c => c == 32 || c == 9)).reverse.dropWhile (fun c => c == 32 || c == 9)).reverse

def splitAt1 (sep : UInt8) : Bytes → Option (Bytes × Bytes)
  | [] => none
  | c :: t => if c = sep then some ([], t) else (splitAt1 sep t).map (fun r => (c :: r.1, r.2))

/-- header section up to the empty line: fields with obs-fold unfolded (continuation text joined by one space) -/
def fieldsAux : Nat → Bytes → List (Bytes × Bytes) → Option (List (Bytes × Bytes) × Bytes)
  | 0, _, _ => none
  | fuel + 1, s, acc =>
    match crlfLine s with
    | none => none
    | some (line, rest) =>
      if line.isEmpty then some (acc.reverse, rest)
      else match line with
        | c :: _ =>
          if c = 32 ∨ c = 9 then
            -- obs-fold: continuation of the previous field
            match acc with
            | [] => none
            | (k, v) :: acc' =>
              if !line.all isFieldVchar then none
              else fieldsAux fuel rest ((k, trimOWS (v ++ 32 :: trimOWS line)) :: acc')
          else match splitAt1 58 line with
            | none => none
            | some (name, value) =>
              if !isToken name || !value.all isFieldVchar then none
              else fieldsAux fuel rest ((name, trimOWS value) :: acc)
        | [] => none

/-- does the header section contain an obs-fold line with a colon? -/
def hasFoldedColon : Nat → Bytes → Bool
  | 0, _ => false
  | fuel + 1, s =>
    match crlfLine s with
    | none => false
    | some (line, rest) =>
      if line.isEmpty then false
      else ((line.head? == some 32 || line.head? == some 9) && line.contains 58) || hasFoldedColon fuel rest

def splitOnComma : Bytes → List Bytes
  | [] => [[]]
  | c :: t =>
    if c = 44 then [] :: splitOnComma t
    else match splitOnComma t with
      | [] => [[c]]
      | s :: r => (c :: s) :: r

def parseDec (b : Bytes) : Option Nat :=
  if b.isEmpty || !b.all (fun c => 48 ≤ c && c ≤ 57) then none
  else some (b.foldl (fun n c => n * 10 + (c - 48).toNat) 0)

def hexDigitVal (c : UInt8) : Option Nat :=
  if 48 ≤ c && c ≤ 57 then some (c - 48).toNat
  else if 97 ≤ c && c ≤ 102 then some (c - 87).toNat
  else if 65 ≤ c && c ≤ 70 then some (c - 55).toNat
  else none

def parseHex (b : Bytes) : Option Nat :=
  if b.isEmpty then none else b.foldlM (fun n c => (hexDigitVal c).map (fun d => n * 16 + d)) 0

def chunksAux : Nat → Bytes → Bytes → Option (Bytes × Bytes)
  | 0, _, _ => none
  | fuel + 1, s, acc =>
    match crlfLine s with
    | none => none
    | some (line, rest) =>
      -- BWS after the size is tolerated; hertz reads at most 15 hex digits (maxHexIntChars) and answers 400
      -- to longer size lines, which is a safe refusal: such streams are outside the comparison
      -- blanks IN FRONT of the size are not part of any reading of the grammar (chunk-size = 1*HEXDIG): no claim
      if line.head?.any (fun c => c == 32 || c == 9) then none else
      -- HTAB after the size (hertz skips SP only and answers 400: a safe refusal) and chunk extensions are not claimed either
      if line.any (fun c => c == 9) then none else
      if (trimOWS line).length > 15 then none else
      match parseHex (trimOWS line) with
      | none => none
      | some 0 => some (acc, rest)
      | some n =>
        if rest.length < n + 2 then none
        else if rest.drop n |>.take 2 |> (· != [13, 10]) then none
        else chunksAux fuel (rest.drop (n + 2)) (acc ++ rest.take n)

def lookupAll (fs : List (Bytes × Bytes)) (name : Bytes) : List Bytes :=
  (fs.filter (fun kv => lowerAll kv.1 == name)).map (·.2)

def sContentLength : Bytes := [99,111,110,116,101,110,116,45,108,101,110,103,116,104]
def sTransferEncoding : Bytes := [116,114,97,110,115,102,101,114,45,101,110,99,111,100,105,110,103]
def sChunked : Bytes := [99,104,117,110,107,101,100]
def sHTTP11 : Bytes := [72,84,84,80,47,49,46,49]

/-- one request from the front of the stream -/
def decodeOne (s : Bytes) : Option (Req × Bytes) := do
  let (line, rest) ← crlfLine s
  let (method, r1) ← splitAt1 32 line
  let (target, version) ← splitAt1 32 r1
  if !isToken method || target.isEmpty || !target.all (fun c => 33 ≤ c && c != 127) || version != sHTTP11 then none
  let fc := hasFoldedColon (rest.length + 1) rest
  let (fields, rest) ← fieldsAux (rest.length + 1) rest []
  let cls := lookupAll fields sContentLength
  let tes := lookupAll fields sTransferEncoding
  match cls, tes with
  | [], [] => pure ({ method, target, fields, body := [], trailers := [], foldedColon := fc }, rest)
  | cl :: more, [] =>
    if !more.all (· == cl) then none
    let n ← parseDec cl
    if rest.length < n then none
    pure ({ method, target, fields, body := rest.take n, trailers := [], foldedColon := fc }, rest.drop n)
  | [], [te] =>
    if lowerAll te != sChunked then none
    let (body, rest) ← chunksAux (rest.length + 1) rest []
    let (trailers, rest) ← fieldsAux (rest.length + 1) rest []
    pure ({ method, target, fields, body, trailers, foldedColon := fc }, rest)
  | _, _ => none      -- both, or several Transfer-Encoding fields: not unambiguous

def decodeAllAux : Nat → Bytes → List Req → Option (List Req)
  | 0, _, _ => none
  | fuel + 1, s, acc =>
    if s.isEmpty then some acc.reverse
    else match decodeOne s with
      | none => none
      | some (r, rest) => decodeAllAux fuel rest (r :: acc)

/-- the whole stream as a list of requests, or `none` if it is not a well-formed pipelined stream -/
def decodeAll (s : Bytes) : Option (List Req) := decodeAllAux (s.length + 1) s []

end Hertz.Spec.Http
