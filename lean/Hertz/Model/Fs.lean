import Hertz.Basic
/-!
Model of the byte-range machinery of the static file handler (property C08).

Mirrors, function by function:
* `internal/bytesconv/bytesconv.go`: `ParseUintBuf`, `ParseUint`, `AppendUint`
* `pkg/app/fs.go`: `ParseByteRange`, `fsSmallFileReader.UpdateByteRange/Read`,
  `bigFileReader.UpdateByteRange`, the range part of `fsHandler.handleRequest`
* `pkg/protocol/header.go`: `ResponseHeader.SetContentRange`
* `pkg/protocol/http1/ext/common.go`: `WriteBodyFixedSize` (body = first `Content-Length` bytes of the
  reader, short delivery is an error)

Go `int` is `Int`; the only place where 64-bit wrap-around could matter (`10*v + k` in `ParseUintBuf`)
is modelled with `wrap64`.  Every Go slice/index expression goes through a checked operation that fails
with `Fault.panic site` exactly where Go would panic; deliberate panics (`AppendUint` of a negative
number) are modelled the same way.  Open/stat/compression and the caches are modelled in
`Model/FsTree.lean` and `Model/FsCache.lean`.
-/
namespace Hertz.FS

/-- Ways a Go call can fail other than by returning its normal result. -/
inductive Fault where
  /-- Go `err != nil` from `ParseByteRange` / `ParseUint` (the handler answers 416). -/
  | bad
  /-- run-time panic (index/slice out of range, or an explicit `panic`) -/
  | panic (site : String)
  /-- an I/O level error: `Seek`/`ReadAt` with a negative offset, body stream shorter than announced -/
  | io (site : String)
deriving DecidableEq, Repr

instance instDecEqExcept {ε α : Type} [DecidableEq ε] [DecidableEq α] : DecidableEq (Except ε α)
  | .ok a, .ok b => if h : a = b then isTrue (by rw [h]) else isFalse (fun h' => h (Except.ok.inj h'))
  | .error a, .error b => if h : a = b then isTrue (by rw [h]) else isFalse (fun h' => h (Except.error.inj h'))
  | .ok _, .error _ => isFalse (fun h => by cases h)
  | .error _, .ok _ => isFalse (fun h => by cases h)

def two63 : Int := 9223372036854775808
def two64 : Int := 18446744073709551616

/-- Two's-complement wrap of a mathematical integer into Go's 64-bit `int`. -/
def wrap64 (x : Int) : Int := (x + 9223372036854775808) % 18446744073709551616 - 9223372036854775808

/-- `b[i:]` -/
def sliceFrom (site : String) (b : Bytes) (i : Nat) : Except Fault Bytes :=
  if i ≤ b.length then .ok (b.drop i) else .error (.panic site)

/-- `b[:i]` -/
def sliceTo (site : String) (b : Bytes) (i : Nat) : Except Fault Bytes :=
  if i ≤ b.length then .ok (b.take i) else .error (.panic site)

/-- `b[i]` -/
def idx (site : String) (b : Bytes) (i : Nat) : Except Fault UInt8 :=
  match b[i]? with
  | some c => .ok c
  | none => .error (.panic site)

/-! ### `bytesconv.ParseUintBuf` / `ParseUint` -/

inductive UErr where
  | empty | firstChar | tooLong | trailing
deriving DecidableEq, Repr

/-- `maxInt = int(^uint(0) >> 1)` on a 64-bit platform -/
def maxInt : Int := 9223372036854775807

/-- The `for i := 0; i < n; i++` loop of `ParseUintBuf` from position `i` with accumulator `v`:
returns `(v, n, err)` as the Go function does.  `k := c - '0'` is a `uint8` subtraction (wraps);
the overflow test `v > (maxInt-int(k))/10` comes before `v = 10*v + int(k)` (which is still modelled
with its 64-bit wrap; `loop_exact` shows the wrap is never taken). -/
def parseUintLoop : Bytes → Int → Nat → Int × Nat × Option UErr
  | [], v, i => (v, i, none)
  | c :: t, v, i =>
    let k : UInt8 := c - 48
    if k > 9 then
      if i = 0 then (-1, i, some .firstChar) else (v, i, none)
    else if v > (maxInt - (k.toNat : Int)) / 10 then (-1, i, some .tooLong)
    else parseUintLoop t (wrap64 (10 * v + (k.toNat : Int))) (i + 1)

/-- `bytesconv.ParseUintBuf` -/
def parseUintBuf (b : Bytes) : Int × Nat × Option UErr :=
  if b.length = 0 then (-1, 0, some .empty) else parseUintLoop b 0 0

/-- `bytesconv.ParseUint` -/
def parseUint (b : Bytes) : Except UErr Int :=
  match parseUintBuf b with
  | (v, n, err) =>
    if n ≠ b.length then .error .trailing
    else match err with
      | some e => .error e
      | none => .ok v

/-! ### `bytesconv.AppendUint` -/

/-- The digit loop of `AppendUint`, most significant digit first.  `fuel` is the room left in the
`[20]byte` scratch buffer; running out of it is the index `buf[-1]`. -/
def decDigits : Nat → Nat → Option Bytes
  | 0, _ => none
  | f + 1, n =>
    if n < 10 then some [(48 + n).toUInt8]
    else (decDigits f (n / 10)).map (· ++ [(48 + n % 10).toUInt8])

/-- `bytesconv.AppendUint(nil, n)`: panics on a negative number. -/
def appendUint (n : Int) : Except Fault Bytes :=
  if n < 0 then .error (.panic "bytesconv.AppendUint: int must be positive")
  else match decDigits 20 n.toNat with
    | some d => .ok d
    | none => .error (.panic "bytesconv.AppendUint: buf index")

/-! ### `app.ParseByteRange` -/

/-- `bytestr.StrBytes` (pinned to the generated constant by `model_matches_gen`) -/
def strBytes : Bytes := [98, 121, 116, 101, 115]

/-- `bytes.IndexByte` -/
def indexByte (c : UInt8) : Bytes → Option Nat
  | [] => none
  | x :: t => if x = c then some 0 else (indexByte c t).map (· + 1)

/-- the suffix form `bytes=-N` once `v ≠ 0` and `contentLength ≠ 0` are known -/
def suffixRange (contentLength v : Int) : Int × Int :=
  let startPos := contentLength - v
  let startPos := if startPos < 0 then 0 else startPos
  (startPos, contentLength - 1)

/-- the `first-last` form of `ParseByteRange` once `b[:n]` and `b[n+1:]` are cut out -/
def fromToRange (contentLength : Int) (first last : Bytes) : Except Fault (Int × Int) :=
  match parseUint first with
  | .error _ => .error .bad
  | .ok startPos =>
    if startPos ≥ contentLength then .error .bad
    else if last.length = 0 then .ok (startPos, contentLength - 1)
    else match parseUint last with
      | .error _ => .error .bad
      | .ok endPos =>
        let endPos := if endPos ≥ contentLength then contentLength - 1 else endPos
        if endPos < startPos then .error .bad
        else .ok (startPos, endPos)

/-- `app.ParseByteRange(byteRange, contentLength)` -/
def parseByteRange (byteRange : Bytes) (contentLength : Int) : Except Fault (Int × Int) :=
  if !(strBytes.isPrefixOf byteRange) then .error .bad else
  (sliceFrom "fs.go:1103" byteRange strBytes.length).bind fun b =>
  if b.length = 0 then .error .bad else
  (idx "fs.go:1104" b 0).bind fun c0 =>
  if c0 ≠ 61 then .error .bad else
  (sliceFrom "fs.go:1107" b 1).bind fun b =>
  match indexByte 45 b with
  | none => .error .bad
  | some n =>
    if n = 0 then
      (sliceFrom "fs.go:1115" b (n + 1)).bind fun t =>
      match parseUint t with
      | .error _ => .error .bad
      | .ok v =>
        -- a suffix of zero bytes, or any suffix of an empty file, selects nothing
        if v == 0 || contentLength == 0 then .error .bad
        else .ok (suffixRange contentLength v)
    else
      (sliceTo "fs.go:1126" b n).bind fun first =>
      (sliceFrom "fs.go:1133" b (n + 1)).bind fun last =>
      fromToRange contentLength first last

/-! ### `ResponseHeader.SetContentRange` -/

/-- the header value `bytes <start>-<end>/<len>`; three `AppendUint` calls, each may panic -/
def contentRange (startPos endPos contentLength : Int) : Except Fault Bytes :=
  (appendUint startPos).bind fun a =>
  (appendUint endPos).bind fun b =>
  (appendUint contentLength).bind fun c =>
  .ok (strBytes ++ [32] ++ a ++ [45] ++ b ++ [47] ++ c)

/-! ### readers -/

/-- which reader `fsFile.NewReader` hands out -/
inductive ReaderKind where
  /-- `fsSmallFileReader` over an `*os.File` (`ReadAt`) -/
  | small
  /-- `bigFileReader` (`Seek` + `io.LimitedReader`), files above `MaxSmallFileSize` -/
  | big
  /-- `fsSmallFileReader` over an in-memory directory index (`ff.f == nil`, slicing `ff.dirIndex`) -/
  | dirIndex
deriving DecidableEq, Repr

/-- Everything a reader delivers until EOF.  `range = none`: no `UpdateByteRange` call.
small / dirIndex: `startPos, endPos := s, e+1` (`UpdateByteRange`), `Read` stops when
`endPos - startPos ≤ 0`; `ReadAt` fails on a negative offset, `dirIndex[startPos:]` panics (the panic
is recovered by `writeBodyStream` and becomes a write error).  big: `lr.N = e - s + 1`. -/
def readerOutput (kind : ReaderKind) (content : Bytes) (range : Option (Int × Int)) : Except Fault Bytes :=
  match range with
  | none => .ok content
  | some (s, e) =>
    match kind with
    | .small =>
      let startPos := s; let endPos := e + 1
      if endPos - startPos ≤ 0 then .ok []
      else if startPos < 0 then .error (.io "ReadAt negative offset")
      else .ok ((content.drop startPos.toNat).take (endPos - startPos).toNat)
    | .dirIndex =>
      let startPos := s; let endPos := e + 1
      if endPos - startPos ≤ 0 then .ok []
      else if startPos < 0 ∨ startPos > content.length then .error (.io "dirIndex[startPos:] panic recovered")
      else .ok ((content.drop startPos.toNat).take (endPos - startPos).toNat)
    | .big =>
      -- the Seek error is handled in `serveDecision` (it is reported by `UpdateByteRange`)
      .ok ((content.drop s.toNat).take (e - s + 1).toNat)

/-! ### the range part of `fsHandler.handleRequest` -/

structure Resp where
  status : Nat
  /-- `Content-Length` header -/
  contentLength : Int
  /-- `Content-Range` header -/
  contentRange : Option Bytes
  /-- `Accept-Ranges: bytes` present -/
  acceptRanges : Bool
  body : Bytes
deriving DecidableEq, Repr

def msg416 : Bytes := [82, 97, 110, 103, 101, 32, 78, 111, 116, 32, 83, 97, 116, 105, 115, 102, 105, 97, 98, 108, 101]
def msg500 : Bytes := [73, 110, 116, 101, 114, 110, 97, 108, 32, 83, 101, 114, 118, 101, 114, 32, 69, 114, 114, 111, 114]
def msg404 : Bytes := [67, 97, 110, 110, 111, 116, 32, 111, 112, 101, 110, 32, 114, 101, 113, 117, 101, 115, 116, 101, 100, 32, 112, 97, 116, 104]

/-- `ctx.AbortWithMsg(msg, code)`: the response is reset first, so no `Accept-Ranges`; a HEAD
response carries the length of the message but no body. -/
def abortResp (head : Bool) (code : Nat) (msg : Bytes) : Resp :=
  { status := code, contentLength := msg.length, contentRange := none, acceptRanges := false,
    body := if head then [] else msg }

/-- `ctx.SetBodyStream(r, contentLength)` followed by `WriteBodyFixedSize`: exactly `contentLength`
bytes of the reader are sent; fewer available is an error (the connection is dropped mid-body). -/
def sendBody (head : Bool) (out : Except Fault Bytes) (contentLength : Int) : Except Fault Bytes :=
  if head then .ok []
  else if contentLength < 0 then .error (.io "negative content length: chunked")
  else out.bind fun o =>
    if (o.length : Int) < contentLength then .error (.io "body stream shorter than Content-Length")
    else .ok (o.take contentLength.toNat)

/-- `fsHandler.handleRequest` from `r, err := ff.NewReader()` on, for a file (or directory index)
with the given content.  `byteRange` is `ctx.Request.Header.PeekRange()` (empty = no header). -/
def serveDecision (kind : ReaderKind) (content : Bytes) (head : Bool) (byteRange : Bytes)
    (acceptByteRange : Bool) : Except Fault Resp :=
  let n : Int := content.length
  if acceptByteRange && byteRange.length > 0 then
    match parseByteRange byteRange n with
    | .error .bad => .ok (abortResp head 416 msg416)
    | .error f => .error f
    | .ok (startPos, endPos) =>
      -- r.(byteRangeUpdater).UpdateByteRange(startPos, endPos)
      if kind = .big ∧ startPos < 0 then .ok (abortResp head 500 msg500) else
      -- hdr.SetContentRange(startPos, endPos, contentLength)
      (contentRange startPos endPos n).bind fun cr =>
      let contentLength := endPos - startPos + 1
      (sendBody head (readerOutput kind content (some (startPos, endPos))) contentLength).bind fun body =>
      .ok { status := 206, contentLength := contentLength, contentRange := some cr, acceptRanges := true, body := body }
  else
    (sendBody head (readerOutput kind content none) n).bind fun body =>
    .ok { status := 200, contentLength := n, contentRange := none, acceptRanges := acceptByteRange, body := body }

end Hertz.FS
