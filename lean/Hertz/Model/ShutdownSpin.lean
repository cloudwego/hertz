import Hertz.Basic
/-!
Extension X18 of the graceful-shutdown model (property C18): the CALLER's side and requests that are still ARRIVING.

* `Hertz.Spin` — `Hertz.Spin()` of `pkg/app/server/hertz.go` on top of `Engine.Run` / `Engine.Shutdown`
  (`pkg/route/engine.go`), one `step` per blocking point or atomic operation:
  - the `Run` goroutine (`go func() { errCh <- h.Run() }()`): `Init`, the `OnRun` start hooks (may take arbitrarily long:
    the clock may advance in phase `hooks`), `MarkAsRunning`, listen, accept, the return of `Run` once the listener is closed,
    the send on the unbuffered `errCh`;
  - the main goroutine: `signalWaiter` (stop signal, or an error from `errCh`), then `Engine.Shutdown(ctx)` taken at the
    granularity of its OUTCOMES: status ≠ running → `errStatusNotRunning` at once; CAS; `Registry.Deregister` fails → the error
    is returned EARLY, without `transport.Shutdown` (listener stays open; the deferred `select` still waits for the hooks or
    the deadline); otherwise the listener is closed and the call waits for `active = 0` or the deadline; then whatever
    `Spin` does after `Shutdown` returned (`Code.waitsRun`: a receive from `errCh`; regenerated from the source, see
    `Hertz.Gen.ShutdownSpin.spinAfterShutdown`), the return of `Spin` and the exit of the process (`main` returns).
  The polling granularity of `transport.Shutdown` (+ one ticker period) is the business of `Hertz.Shutdown`
  (`shutdown_bounded`); here the call returns when `active = 0` or at the deadline.

* `Hertz.Arrive` — connections by how much of the next request has been received (`reading k n`: `k` of `n` bytes, the
  request line is among them) and what the transport's `Shutdown` does to a connection in each state
  (`Code.wakeAll`: `standard.transport.Shutdown` sets a read deadline on every tracked connection - it does not, see
  `Hertz.Gen.ShutdownSpin.stdShutdownConnCalls`; netpoll closes the connections it finds idle).
-/
namespace Hertz.Spin

/-- facts about the source the model is parametrised with (pinned by `Hertz.Props.C18.spin_model_matches_gen`) -/
structure Code where
  /-- after `h.Shutdown(...)` returned, `Spin` receives from `errCh` (waits for the result of `Run`) -/
  waitsRun : Bool
  deriving Repr, BEq, DecidableEq

/-- the source as it stands: `Spin` returns right after `Shutdown` -/
def Code.current : Code := { waitsRun := false }

structure Cfg where
  /-- `ExitWaitTimeout` -/
  exitWait : Nat
  /-- the configured registry's `Deregister` returns an error -/
  deregFails : Bool := false
  deriving Repr, BEq, DecidableEq

inductive Err | nil | notRunning | dereg
  deriving Repr, BEq, DecidableEq

inductive RunPh
  | fresh
  /-- `Init` done, `OnRun` hooks running -/
  | hooks
  | marked | serving
  /-- `Run` has returned (accept failed on the closed listener, or an early error); `errCh <- err` blocks -/
  | stopped
  /-- the send on `errCh` has been received -/
  | sent
  deriving Repr, BEq, DecidableEq

inductive SpinPh
  /-- inside `signalWaiter` -/
  | waiting
  /-- `signalWaiter` returned nil (graceful); `h.Shutdown` not yet entered -/
  | signalled
  /-- `Engine.Shutdown`: listener closed, waiting for `active = 0` or the deadline -/
  | draining
  /-- `Engine.Shutdown`: the deferred `select` (hooks finished, or deadline) before returning `e` -/
  | deferred (e : Err)
  /-- `h.Shutdown` returned `e` -/
  | after (e : Err)
  /-- `Spin` returned at time `t` -/
  | returned (t : Nat)
  /-- the process is gone (`main` returned at time `t`) -/
  | exited (t : Nat)
  deriving Repr, BEq, DecidableEq

structure State where
  now : Nat := 0
  status : Nat := 0
  runPh : RunPh := .fresh
  lnOpen : Bool := false
  active : Nat := 0
  spin : SpinPh := .waiting
  sigAt : Nat := 0
  dl : Nat := 0
  hooksDone : Bool := false
  /-- ghost: the engine was running when `Shutdown` loaded the status -/
  ranAtShut : Bool := false
  /-- ghost: time of the last accept after the stop signal -/
  lateAccept : Option Nat := none
  deriving Repr, BEq, DecidableEq

inductive Act
  | advance (d : Nat)
  | runInit | markRunning | listen | accept | connDone | acceptFail | runFail
  | signal | recvErr
  | shutEnter | hooksEnd | drainDone | drainDeadline | shutReturn | spinPost | procExit
  deriving Repr, BEq, DecidableEq

def alive (s : State) : Bool := match s.spin with | .exited _ => false | _ => true

def step (code : Code) (cfg : Cfg) (s : State) : Act → Option State
  | .advance d => some { s with now := s.now + d }
  -- Engine.Init: CAS(status, 0, initialized); then the OnRun hooks
  | .runInit => if alive s ∧ s.runPh = .fresh then some { s with status := 1, runPh := .hooks } else none
  -- the hooks are done; Engine.MarkAsRunning: CAS(status, initialized, running)
  | .markRunning =>
    if alive s ∧ s.runPh = .hooks then
      if s.status = 1 then some { s with status := 2, runPh := .marked } else some { s with runPh := .stopped }
    else none
  | .listen => if alive s ∧ s.runPh = .marked then some { s with runPh := .serving, lnOpen := true } else none
  | .accept =>
    if alive s ∧ s.runPh = .serving ∧ s.lnOpen = true then
      some { s with active := s.active + 1, lateAccept := if s.spin = .waiting then s.lateAccept else some s.now }
    else none
  | .connDone => if alive s ∧ 0 < s.active then some { s with active := s.active - 1 } else none
  -- Accept fails on the closed listener: Run returns, deferred Store(status, closed)
  | .acceptFail =>
    if alive s ∧ s.runPh = .serving ∧ s.lnOpen = false then some { s with runPh := .stopped, status := 4 } else none
  -- Run fails early (an OnRun hook returns an error, the address is in use)
  | .runFail => if alive s ∧ (s.runPh = .hooks ∨ s.runPh = .marked) then some { s with runPh := .stopped } else none
  -- the stop signal is delivered to signalWaiter
  | .signal => if s.spin = .waiting then some { s with spin := .signalled, sigAt := s.now } else none
  -- signalWaiter: `case err := <-errCh` → Engine.Close, Spin returns
  | .recvErr =>
    if s.spin = .waiting ∧ s.runPh = .stopped then some { s with spin := .returned s.now, runPh := .sent, sigAt := s.now } else none
  -- Engine.Shutdown: load, CAS, WithTimeout, go hooks, Deregister, (transport.Shutdown: close the listener)
  | .shutEnter =>
    if s.spin = .signalled then
      if s.status = 2 then
        if cfg.deregFails then
          some { s with status := 3, ranAtShut := true, dl := s.now + cfg.exitWait, spin := .deferred .dereg }
        else
          some { s with status := 3, ranAtShut := true, dl := s.now + cfg.exitWait, lnOpen := false, spin := .draining }
      else some { s with spin := .after .notRunning }
    else none
  | .hooksEnd => if alive s ∧ s.status = 3 then some { s with hooksDone := true } else none
  | .drainDone => if s.spin = .draining ∧ s.active = 0 then some { s with spin := .deferred .nil } else none
  | .drainDeadline => if s.spin = .draining ∧ s.dl ≤ s.now then some { s with spin := .deferred .nil } else none
  | .shutReturn =>
    match s.spin with
    | .deferred e => if s.hooksDone = true ∨ s.dl ≤ s.now then some { s with spin := .after e } else none
    | _ => none
  -- what Spin does after Shutdown returned
  | .spinPost =>
    match s.spin with
    | .after _ =>
      if code.waitsRun then
        if s.runPh = .stopped then some { s with spin := .returned s.now, runPh := .sent } else none
      else some { s with spin := .returned s.now }
    | _ => none
  | .procExit =>
    match s.spin with
    | .returned t => some { s with spin := .exited t }
    | _ => none

def run (code : Code) (cfg : Cfg) : State → List Act → Option State
  | s, [] => some s
  | s, a :: t =>
    match step code cfg s a with
    | none => none
    | some s' => run code cfg s' t

/-- the main goroutine is never delayed when it can move: the clock advances only while it is blocked and not beyond the
instant that wakes it (cf. `Hertz.Shutdown.canAdvance`) -/
def canAdvance (code : Code) (s : State) (d : Nat) : Bool :=
  match s.spin with
  | .waiting | .exited _ => true
  | .signalled | .returned _ => d == 0
  | .draining => d == 0 || (s.active != 0 && s.now + d ≤ s.dl)
  | .deferred _ => d == 0 || (!s.hooksDone && s.now + d ≤ s.dl)
  | .after _ => d == 0 || (code.waitsRun && s.runPh != .stopped)

def actOk (code : Code) (s : State) : Act → Bool
  | .advance d => canAdvance code s d
  | _ => true

def runPrompt (code : Code) (cfg : Cfg) : State → List Act → Option State
  | s, [] => some s
  | s, a :: t =>
    if actOk code s a then
      match step code cfg s a with
      | none => none
      | some s' => runPrompt code cfg s' t
    else none

end Hertz.Spin

namespace Hertz.Arrive

/-- facts about the source (pinned by `Hertz.Props.C18.spin_model_matches_gen`) -/
structure Code where
  /-- `standard.transport.Shutdown` sets a read deadline "now" on every tracked connection -/
  wakeAll : Bool
  deriving Repr, BEq, DecidableEq

def Code.current : Code := { wakeAll := false }

inductive Ph
  /-- nothing of the next request received -/
  | idle
  /-- `k` of the `n` bytes of the request received (`0 < k < n`; the request line is among them) -/
  | reading (k n : Nat)
  /-- request complete, `ServeHTTP` running -/
  | handling
  | closed
  deriving Repr, BEq, DecidableEq

structure Conn where
  ph : Ph := .idle
  /-- read deadline set on the connection by the transport's `Shutdown` -/
  deadline : Option Nat := none
  /-- complete responses written (`true`: carried `Connection: close`) -/
  resps : List Bool := []
  /-- error responses (408 Request timeout) written because a read ran into a deadline -/
  errs : Nat := 0
  /-- ghost: a read deadline ran out while a request was partly received (`cReadTimeout` only; `procExit` does not set it) -/
  cut : Bool := false
  deriving Repr, BEq, DecidableEq

structure State where
  now : Nat := 0
  shut : Bool := false
  dl : Nat := 0
  exited : Bool := false
  conns : List Conn := []
  deriving Repr, BEq, DecidableEq

inductive Act
  | advance (d : Nat)
  | accept
  /-- `d` more bytes of a request of `n` bytes arrive on connection `c` -/
  | arrive (c d n : Nat)
  | handlerRet (c : Nat)
  /-- the blocked read of connection `c` runs into the connection's read deadline -/
  | readTimeout (c : Nat)
  | peerClose (c : Nat)
  | shutBegin
  /-- netpoll's shutdown loop finds connection `c` idle and closes it -/
  | npCloseIdle (c : Nat)
  /-- the deadline has come (or nothing is left): `Shutdown` returns, `Spin` returns, the process exits -/
  | procExit
  deriving Repr, BEq, DecidableEq

def updConn (s : State) (c : Nat) (f : Conn → Option Conn) : Option State :=
  match s.conns[c]? with
  | none => none
  | some cn =>
    match f cn with
    | none => none
    | some cn' => some { s with conns := s.conns.set c cn' }

def cArrive (d n : Nat) (cn : Conn) : Option Conn :=
  if d = 0 then none else
  match cn.ph with
  | .idle => if d < n then some { cn with ph := .reading d n } else if d = n then some { cn with ph := .handling } else none
  | .reading k m =>
    if m ≠ n then none
    else if k + d < n then some { cn with ph := .reading (k + d) n }
    else if k + d = n then some { cn with ph := .handling } else none
  | _ => none

/-- `ServeHTTP` returned; exit check; complete response; the connection is closed when shutdown has begun -/
def cHandlerRet (shut : Bool) (cn : Conn) : Option Conn :=
  match cn.ph with
  | .handling => some { cn with ph := if shut then .closed else .idle, resps := cn.resps ++ [shut] }
  | _ => none

/-- a read that is blocked (idle: waiting for the next request; reading: waiting for the rest) fails with `i/o timeout`:
an idle connection is closed silently, a partly received request is answered 408 and the connection closed -/
def cReadTimeout (now : Nat) (cn : Conn) : Option Conn :=
  match cn.deadline with
  | none => none
  | some t =>
    if t ≤ now then
      match cn.ph with
      | .idle => some { cn with ph := .closed }
      | .reading _ _ => some { cn with ph := .closed, errs := cn.errs + 1, cut := true }
      | _ => none
    else none

def cPeerClose (cn : Conn) : Option Conn :=
  match cn.ph with
  | .idle | .reading _ _ => some { cn with ph := .closed }
  | _ => none

def cNpClose (cn : Conn) : Option Conn :=
  match cn.ph with
  | .idle => some { cn with ph := .closed }
  | _ => none

/-- what the transport's `Shutdown` does to one connection when it begins.  netpoll: nothing at that instant - its loop
scans the connections (at once, then every 50 ms … 1 s) and closes those it finds idle (`npCloseIdle`, one step per
connection: a request may arrive on an idle keep-alive connection between the begin of the shutdown and the scan) -/
def touch (code : Code) (np : Bool) (now : Nat) (cn : Conn) : Conn :=
  if np then cn
  else if code.wakeAll then { cn with deadline := some now } else cn

def allClosed (s : State) : Bool := s.conns.all fun cn => cn.ph == .closed

def step (code : Code) (np : Bool) (exitWait : Nat) (s : State) : Act → Option State
  | .advance d => some { s with now := s.now + d }
  | .accept => if !s.exited && !s.shut then some { s with conns := s.conns ++ [{}] } else none
  | .arrive c d n => if s.exited then none else updConn s c (cArrive d n)
  | .handlerRet c => if s.exited then none else updConn s c (cHandlerRet s.shut)
  | .readTimeout c => if s.exited then none else updConn s c (cReadTimeout s.now)
  | .peerClose c => if s.exited then none else updConn s c cPeerClose
  | .shutBegin =>
    if !s.exited && !s.shut then
      some { s with shut := true, dl := s.now + exitWait, conns := s.conns.map (touch code np s.now) }
    else none
  | .npCloseIdle c => if np && s.shut && !s.exited then updConn s c cNpClose else none
  | .procExit =>
    if s.shut && !s.exited && (decide (s.dl ≤ s.now) || allClosed s) then
      some { s with exited := true, conns := s.conns.map fun cn => { cn with ph := .closed } }
    else none

def run (code : Code) (np : Bool) (exitWait : Nat) : State → List Act → Option State
  | s, [] => some s
  | s, a :: t =>
    match step code np exitWait s a with
    | none => none
    | some s' => run code np exitWait s' t

end Hertz.Arrive
