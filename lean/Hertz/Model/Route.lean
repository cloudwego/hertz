import Hertz.Basic
/-!
Model of the router of `pkg/route`: `tree.go` (`checkPathValid`, `router.addRoute`, `router.insert`,
`router.find`, `findChild`, `findChildWithLabel`, `newNode`, `countParams`), `engine.go`
(`Engine.addRoute`, the dispatch part of `Engine.ServeHTTP`) and `param/param.go` (`Params.Get`).

Conventions
* strings are `Bytes`; a handler chain is identified by a number (`Option Nat`, `none` = Go `nil`);
* a Go pointer that is mutated in place is modelled by returning the new node and putting it
  back at the same position of its parent (children keep their order);
* `node.parent` and `node.isLeaf` are not modelled: `parent` only serves the iterative formulation
  of the search, `isLeaf` is never read by `addRoute`/`find`;
* `router.find` is an explicit-stack depth-first search (`cn`, `parent`, `backtrackToNextNodeKind`);
  the model is the same search written recursively (`visit`): returning `miss` from a callee is
  "backtrack to the parent and go on with the next node kind".  The loop as written is
  `Model/RouteIter.lean`; `Proofs/RouteIterTop.lean` proves that the two compute the same function;
* everything that can panic in Go is an explicit outcome: `Fault.panic site` for run-time errors
  (slice bounds / index out of range), `Fault.invalid`, `Fault.conflict`, `Fault.assert` for the
  panics the code raises on purpose at registration;
* trailing-slash recommendation (`res.tsr`) and `unescape` of parameter values are modelled in
  `Model/RouteIter.lean`, not here; `RedirectFixedPath` is not modelled.
-/
namespace Hertz.Route

inductive Kind where
  | skind | pkind | akind
  deriving DecidableEq, Repr, Inhabited

/-- places where the Go code indexes or slices without a preceding length check -/
inductive Site where
  | emptySearch   -- `search[0]` in `insert`
  | paramsCap     -- `(*paramsPointer)[:(paramIndex + 1)]` beyond `cap`
  | anyIndex      -- `(*paramsPointer)[index]` in the catch-all block
  | keyIndex      -- `(*paramsPointer)[i].Key = name` after the loop
  | pathIndex     -- `path[0]` on an empty path
  deriving DecidableEq, Repr

inductive Fault where
  | panic (site : Site)
  | invalid       -- `checkPathValid` panics
  | conflict      -- "handlers are already registered for path"
  | assert        -- `utils.Assert` / explicit panics of `Engine.addRoute`
  deriving DecidableEq, Repr

def paramLabel : UInt8 := 58  -- ':'
def anyLabel : UInt8 := 42    -- '*'
def slash : UInt8 := 47       -- '/'

/-- `type node struct` of tree.go (without `parent`, `isLeaf`). -/
inductive Node where
  | mk (kind : Kind) (label : UInt8) (pfx : Bytes) (children : List Node)
       (ppath : Bytes) (pnames : List Bytes) (handlers : Option Nat)
       (paramChild : Option Node) (anyChild : Option Node)
  deriving Repr, Inhabited

namespace Node
def kind : Node → Kind | .mk k _ _ _ _ _ _ _ _ => k
def label : Node → UInt8 | .mk _ l _ _ _ _ _ _ _ => l
def pfx : Node → Bytes | .mk _ _ p _ _ _ _ _ _ => p
def children : Node → List Node | .mk _ _ _ c _ _ _ _ _ => c
def ppath : Node → Bytes | .mk _ _ _ _ p _ _ _ _ => p
def pnames : Node → List Bytes | .mk _ _ _ _ _ p _ _ _ => p
def handlers : Node → Option Nat | .mk _ _ _ _ _ _ h _ _ => h
def paramChild : Node → Option Node | .mk _ _ _ _ _ _ _ p _ => p
def anyChild : Node → Option Node | .mk _ _ _ _ _ _ _ _ a => a
/-- `&node{}` -/
def empty : Node := .mk .skind 0 [] [] [] [] none none none
end Node

/-! ## checkPathValid -/

/-- the inner loop of the `':'` case: no second wildcard before the next `/` -/
def segNoWildcard : Bytes → Bool
  | [] => true
  | c :: r => if c = slash then true else if c = paramLabel || c = anyLabel then false else segNoWildcard r

/-- loop body of `checkPathValid` at a position whose predecessor is `prev` (`none` at index 0) -/
def checkFrom : Option UInt8 → Bytes → Bool
  | _, [] => true
  | prev, c :: rest =>
    (if c = paramLabel then
        (match rest with | [] => false | d :: _ => d != slash) && segNoWildcard rest
      else if c = anyLabel then
        !rest.isEmpty && (match prev with | none => true | some p => p == slash) && !rest.contains slash
      else true) && checkFrom (some c) rest

/-- `checkPathValid(path)`: `true` iff it does not panic. -/
def checkPathValid (path : Bytes) : Bool :=
  match path with
  | [] => false
  | c :: _ => c == slash && checkFrom none path

/-! ## insert -/

def lcpLen : Bytes → Bytes → Nat
  | a :: s, b :: p => if a = b then lcpLen s p + 1 else 0
  | _, _ => 0

mutual
/-- `router.insert`, one iteration of its loop with `currentNode = n`; "go deeper" is the recursive call. -/
def insert : Node → Bytes → Option Nat → Kind → Bytes → List Bytes → Except Fault Node
  | .mk kind label pfx cs ppath pnames hs pc ac, search, h, t, pp, pn =>
    let l := lcpLen search pfx
    if l = 0 then
      -- "At root node"
      match search with
      | [] => .error (.panic .emptySearch)
      | c0 :: _ =>
        match h with
        | some _ => .ok (.mk t c0 search cs pp pn h pc ac)
        | none => .ok (.mk kind c0 search cs ppath pnames hs pc ac)
    else if l < pfx.length then
      -- "Split node" (`pfx[l]`, `pfx[0]` exist because 0 < l < len(pfx))
      let n := Node.mk kind ((pfx.drop l).headD 0) (pfx.drop l) cs ppath pnames hs pc ac
      if l = search.length then
        -- "At parent node"
        .ok (.mk t (pfx.headD 0) (pfx.take l) [n] pp pn h none none)
      else
        -- "Create child node" (`search[l]` exists because l < len(search))
        let n2 := Node.mk t ((search.drop l).headD 0) (search.drop l) [] pp pn h none none
        .ok (.mk .skind (pfx.headD 0) (pfx.take l) [n, n2] [] [] none none none)
    else if l < search.length then
      match search.drop l with
      | [] => .error (.panic .emptySearch)
      | c0 :: s' =>
        match insertL cs c0 (c0 :: s') h t pp pn with
        | .error e => .error e
        | .ok (some cs') => .ok (.mk kind label pfx cs' ppath pnames hs pc ac)
        | .ok none =>
          -- tail of `findChildWithLabel`
          if c0 = paramLabel && pc.isSome then
            match insertO pc (c0 :: s') h t pp pn with
            | .error e => .error e
            | .ok pc' => .ok (.mk kind label pfx cs ppath pnames hs pc' ac)
          else if c0 ≠ paramLabel && c0 = anyLabel && ac.isSome then
            match insertO ac (c0 :: s') h t pp pn with
            | .error e => .error e
            | .ok ac' => .ok (.mk kind label pfx cs ppath pnames hs pc ac')
          else
            -- "Create child node"
            let n := Node.mk t c0 (c0 :: s') [] pp pn h none none
            match t with
            | .skind => .ok (.mk kind label pfx (cs ++ [n]) ppath pnames hs pc ac)
            | .pkind => .ok (.mk kind label pfx cs ppath pnames hs (some n) ac)
            | .akind => .ok (.mk kind label pfx cs ppath pnames hs pc (some n))
    else
      -- "Node already exists"
      if hs.isSome && h.isSome then .error .conflict
      else match h with
        | some _ => .ok (.mk kind label pfx cs pp pn h pc ac)
        | none => .ok (.mk kind label pfx cs ppath pnames hs pc ac)
/-- the loop of `findChildWithLabel` over `children`, continued by `insert` into the child found;
`none` = no static child carries the label -/
def insertL : List Node → UInt8 → Bytes → Option Nat → Kind → Bytes → List Bytes →
    Except Fault (Option (List Node))
  | [], _, _, _, _, _, _ => .ok none
  | c :: r, l, search, h, t, pp, pn =>
    if c.label = l then
      match insert c search h t pp pn with
      | .error e => .error e
      | .ok c' => .ok (some (c' :: r))
    else
      match insertL r l search h t pp pn with
      | .error e => .error e
      | .ok none => .ok none
      | .ok (some r') => .ok (some (c :: r'))
def insertO : Option Node → Bytes → Option Nat → Kind → Bytes → List Bytes → Except Fault (Option Node)
  | none, _, _, _, _, _ => .ok none
  | some c, search, h, t, pp, pn =>
    match insert c search h t pp pn with
    | .error e => .error e
    | .ok c' => .ok (some c')
end

/-! ## router.addRoute -/

/-- The loop of `router.addRoute` after `checkPathValid`.  `rest` is `path[i:]`, `pre` is the
already rewritten `path[:i]` (parameter names removed), `nm = some s` means that control is in the
inner `for` that skips a parameter name, `s` being the part of the name read so far. -/
def addRouteLoop : (rest : Bytes) → Node → (pre : Bytes) → (pnames : List Bytes) → (nm : Option Bytes) →
    (h : Nat) → (ppath : Bytes) → Except Fault Node
  | [], root, pre, pnames, some name, h, ppath =>
    -- "path node is last fragment of route path"
    insert root pre (some h) .pkind ppath (pnames ++ [name])
  | c :: rest, root, pre, pnames, some name, h, ppath =>
    if c = slash then
      match insert root pre none .pkind [] (pnames ++ [name]) with
      | .error e => .error e
      | .ok r => addRouteLoop rest r (pre ++ [c]) (pnames ++ [name]) none h ppath
    else addRouteLoop rest root pre pnames (some (name ++ [c])) h ppath
  | [], root, pre, pnames, none, h, ppath => insert root pre (some h) .skind ppath pnames
  | c :: rest, root, pre, pnames, none, h, ppath =>
    if c = paramLabel then
      match insert root pre none .skind [] [] with
      | .error e => .error e
      | .ok r => addRouteLoop rest r (pre ++ [c]) pnames (some []) h ppath
    else if c = anyLabel then
      match insert root pre none .skind [] [] with
      | .error e => .error e
      | .ok r => insert r (pre ++ [c]) (some h) .akind ppath (pnames ++ [rest])
    else addRouteLoop rest root (pre ++ [c]) pnames none h ppath

/-- `(*router).addRoute(path, h)` on the tree rooted at `root` -/
def routerAddRoute (root : Node) (path : Bytes) (h : Nat) : Except Fault Node :=
  if checkPathValid path then addRouteLoop path root [] [] none h path else .error .invalid

/-! ## find -/

structure Found where
  handlers : Nat
  fullPath : Bytes
  params : List (Bytes × Bytes)
  deriving DecidableEq, Repr

/-- outcome of the search below one node -/
inductive Res where
  | miss                 -- nothing below this node: Go backtracks to the parent
  | hit (f : Found)      -- `res.handlers` set, loop left
  | stop                 -- loop left by `break` with `res.handlers == nil` (no backtracking)
  | panic (site : Site)
  deriving DecidableEq, Repr

@[inline] def Res.orElse : Res → (Unit → Res) → Res
  | .miss, k => k ()
  | r, _ => r

/-- the `Key` loop after the search: `(*paramsPointer)[i].Key = name` for the names of the node
found; the values were stored during the search.  Slots beyond `pnames` (none on a tree built by
`addRoute`) get the empty key. -/
def zipKeys : List Bytes → List Bytes → List (Bytes × Bytes)
  | _, [] => []
  | [], v :: vs => ([], v) :: zipKeys [] vs
  | n :: ns, v :: vs => (n, v) :: zipKeys ns vs

def finish (h : Nat) (ppath : Bytes) (pnames : List Bytes) (vals : List Bytes) : Res :=
  if pnames.length > vals.length then .panic .keyIndex
  else .hit { handlers := h, fullPath := ppath, params := zipKeys pnames vals }

/-- `search[:i]` with `i = strings.Index(search, "/")` or `len(search)` -/
def segValue (s : Bytes) : Bytes := s.takeWhile (· != slash)
/-- `search[i:]` -/
def segRest (s : Bytes) : Bytes := s.dropWhile (· != slash)

mutual
/-- The body of the `for` loop of `router.find` entered with `cn = n`, remaining path `search`,
`ps` = the values stored in `(*paramsPointer)[:paramIndex]`, `cap` = `cap(*paramsPointer)`. -/
def visit : Node → Bytes → List Bytes → Nat → Res
  | .mk kind _ pfx cs ppath pnames hs pc ac, search, ps, cap =>
    match (if kind = .skind then (if pfx.isPrefixOf search then some (search.drop pfx.length) else none)
           else some search) with
    | none => .miss            -- "No matching prefix, let's backtrack"
    | some s =>
      match (match s, hs with | [], some h => some h | _, _ => none) with
      | some h => finish h ppath pnames ps
      | none =>
        (match s with
          | [] => Res.miss
          | c :: _ => visitChild cs c s ps cap).orElse fun _ =>
        (match s with
          | [] => Res.miss
          | _ :: _ => visitParam pc s ps cap).orElse fun _ =>
        visitAny ac s ps cap
/-- `cn.findChild(search[0])` followed by `continue` -/
def visitChild : List Node → UInt8 → Bytes → List Bytes → Nat → Res
  | [], _, _, _, _ => .miss
  | c :: r, l, s, ps, cap => if c.label = l then visit c s ps cap else visitChild r l s ps cap
/-- the `Param:` block -/
def visitParam : Option Node → Bytes → List Bytes → Nat → Res
  | none, _, _, _ => .miss
  | some c, s, ps, cap =>
    if ps.length + 1 > cap then .panic .paramsCap
    else visit c (segRest s) (ps ++ [segValue s]) cap
/-- the `Any:` block -/
def visitAny : Option Node → Bytes → List Bytes → Nat → Res
  | none, _, _, _ => .miss
  | some (.mk _ _ _ _ ppath pnames hs _ _), s, ps, cap =>
    if ps.length + 1 > cap then .panic .paramsCap
    else if pnames.length = 0 || pnames.length - 1 ≥ ps.length + 1 then .panic .anyIndex
    else
      let vals := (ps ++ [[]]).set (pnames.length - 1) s
      match hs with
      | none => .stop
      | some h => finish h ppath pnames vals
end

/-- `(*router).find(path, &params, false)` with `len(params) = 0`, `cap(params) = cap` -/
def find (root : Node) (path : Bytes) (cap : Nat) : Res := visit root path [] cap

/-! ## Engine -/

structure Router where
  method : Bytes
  root : Node
  deriving Repr

structure Engine where
  trees : List Router := []
  maxParams : Nat := 0
  deriving Repr

/-- `countParams` (a `uint16`) -/
def countParams (path : Bytes) : Nat := (path.count paramLabel + path.count anyLabel) % 65536

def treesGet : List Router → Bytes → Option Router
  | [], _ => none
  | t :: r, m => if t.method = m then some t else treesGet r m

/-- put the new root back into the tree of `method` (the Go code mutates through the pointer) -/
def treesSet : List Router → Bytes → Node → List Router
  | [], _, _ => []
  | t :: r, m, n => if t.method = m then { t with root := n } :: r else t :: treesSet r m n

/-- `Engine.addRoute(method, path, handlers)` with a one-element chain `h` -/
def Engine.addRoute (e : Engine) (method path : Bytes) (h : Nat) : Except Fault Engine :=
  match path with
  | [] => .error .assert
  | c :: _ =>
    if c != slash then .error .assert
    else if method.isEmpty then .error .assert
    else
      let (trees, root) := match treesGet e.trees method with
        | some t => (e.trees, t.root)
        | none => (e.trees ++ [{ method := method, root := Node.empty }], Node.empty)
      match routerAddRoute root path h with
      | .error f => .error f
      | .ok root' =>
        .ok { trees := treesSet trees method root', maxParams := max e.maxParams (countParams path) }

/-- what `Engine.ServeHTTP` does for a request whose method is `method` and whose normalised path
is `rPath` (non-empty, first byte `/`; the caller answers 400 otherwise) -/
inductive Served where
  | handler (f : Found)   -- `ctx.SetHandlers(value.handlers); ctx.SetFullPath(...); ctx.Next`
  | noRoute               -- redirect or 404: no route handler runs
  | panic (site : Site)
  deriving DecidableEq, Repr

def Engine.serve (e : Engine) (method rPath : Bytes) : Served :=
  match treesGet e.trees method with
  | none => .noRoute
  | some t =>
    match find t.root rPath e.maxParams with
    | .hit f => .handler f
    | .miss => .noRoute
    | .stop => .noRoute
    | .panic s => .panic s

/-- `Params.Get` -/
def paramsGet : List (Bytes × Bytes) → Bytes → Option Bytes
  | [], _ => none
  | (k, v) :: r, name => if k = name then some v else paramsGet r name

/-- register a list of (method, path, handler) in order -/
def Engine.addRoutes : Engine → List (Bytes × Bytes × Nat) → Except Fault Engine
  | e, [] => .ok e
  | e, (m, p, h) :: r =>
    match e.addRoute m p h with
    | .error f => .error f
    | .ok e' => Engine.addRoutes e' r

end Hertz.Route
