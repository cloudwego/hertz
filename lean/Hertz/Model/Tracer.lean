import Hertz.Spec.Tracer
/-!
C19 — model of the tracer-relevant part of `pkg/protocol/http1/server.go:Server.Serve`
(`traceCtl.DoStart/DoFinish`, `eventStack`, `traceStarted`, every `return`, the deferred epilogue),
of `internal/stats/tracer.go` (`Controller.DoStart/DoFinish`), `internal/stats/stats_util.go`
(`Record`) and `pkg/common/tracer/traceinfo/httpstats.go` (`httpStats.Record/GetEvent/Reset`).

Two layers:
* `serve` runs the loop over a *history* — one `Iter` per loop iteration, saying how every question
  the code asks the outside world in that iteration is answered — and emits the sequence of
  tracer-relevant actions (`Act`);
* `observe` executes such an action sequence against the per-context stats and a recording tracer and
  yields the call log (`Spec.Tracer.Call`).
-/
namespace Hertz.Tracer

/-! ### events (`pkg/common/tracer/stats/event.go`) -/

/-- exported Go name -/
def Ev.goName : Ev → String
  | .httpStart => "HTTPStart" | .httpFinish => "HTTPFinish"
  | .readHeaderStart => "ReadHeaderStart" | .readHeaderFinish => "ReadHeaderFinish"
  | .readBodyStart => "ReadBodyStart" | .readBodyFinish => "ReadBodyFinish"
  | .handleStart => "ServerHandleStart" | .handleFinish => "ServerHandleFinish"
  | .writeStart => "WriteStart" | .writeFinish => "WriteFinish"

/-- `Event.Index()`: position in `httpStats.eventMap` -/
def Ev.index : Ev → Nat
  | .handleStart => 1 | .handleFinish => 2 | .httpStart => 3 | .httpFinish => 4
  | .readHeaderStart => 5 | .readHeaderFinish => 6 | .readBodyStart => 7 | .readBodyFinish => 8
  | .writeStart => 9 | .writeFinish => 10

/-- `Event.Level()`: 1 = `LevelBase`, 2 = `LevelDetailed` -/
def Ev.level : Ev → Nat
  | .httpStart | .httpFinish => 1
  | _ => 2

/-- `stats.MaxEventNum()` without user-defined events = `predefinedEventNum` -/
def maxEventNum : Nat := 11

/-! ### actions -/

inductive Act where
  /-- `Serve` is entered: fresh `RequestContext` from the pool, `cc = c` -/
  | enter
  /-- `internalStats.Record(ti, e, err)`; `isErr` = `err != nil` -/
  | record (e : Ev) (isErr : Bool)
  /-- the registered tracers' `Start` (inside `DoStart`); `cc` becomes the context they return -/
  | start
  /-- `Stats().SetError(err)` (inside `DoFinish`) -/
  | setError
  /-- the registered tracers' `Finish(cc, ctx)` (inside `DoFinish`) -/
  | finish
  /-- `s.Core.ServeHTTP(cc, ctx)` -/
  | handle
  /-- `ctx.ResetWithoutConn()` / `ctx.Reset()`: request data gone, `traceInfo.Reset()` -/
  | reset
deriving DecidableEq, Repr

/-! ### `Server.Serve` -/

structure Cfg where
  /-- `s.EnableTrace` (a tracer is registered) -/
  enableTrace : Bool := true
  /-- `s.IdleTimeout == 0`: return to the poller after every request -/
  idleZero : Bool := false
deriving DecidableEq, Repr

/-- the values of `err` that `Serve` and `shouldRecordInTraceError` tell apart -/
inductive ErrK where
  | none | nothingRead | ioEOF | unexpectedEOF | idle | hijacked | short | other
deriving DecidableEq, Repr

/-- `shouldRecordInTraceError` -/
def shouldRecordInTraceError : ErrK → Bool
  | .none | .idle | .hijacked | .short => false
  | _ => true

/-- a failed read, as classified by `Serve` -/
inductive RdErr where
  | nothingRead   -- errors.Is(err, errs.ErrNothingRead)
  | eof           -- err == io.EOF
  | other         -- anything else: answered by writeErrorResponse
deriving DecidableEq, Repr

def RdErr.toErrK : RdErr → ErrK
  | .nothingRead => .nothingRead
  | .eof => .ioEOF
  | .other => .other

/-- what happens from `ServeHTTP` on -/
inductive Tail where
  | panic             -- the handler panics and nobody recovers: `Serve` unwinds, its deferred function runs
  | writeErr          -- writeResponse fails
  | flushErr          -- zw.Flush fails
  | releaseErr        -- ext.ReleaseBodyStream fails
  | hijackTimeoutErr  -- SetReadTimeout(0) before the hijack handler fails
  | hijacked
  | close             -- connectionClose: errShortConnection
  | next              -- keep-alive: on to the next request
deriving DecidableEq, Repr

/-- the path one loop iteration takes after the idle wait -/
inductive Outcome where
  | headerErr (e : RdErr)   -- req.ReadHeader fails
  | bodyErr (e : RdErr)     -- ReadLimitBody / ReadBodyStream fails
  | contWriteErr            -- `Expect: 100-continue`: writing or flushing the interim response fails
  | contBodyErr             -- … reading the body after it fails
  | handled (t : Tail)      -- the request reaches `ServeHTTP` (a recovered handler panic included)
deriving DecidableEq, Repr

structure Iter where
  /-- `zr.Peek(4)` of the idle wait fails (asked only when `connRequestNum > 1`) -/
  peekFails : Bool := false
  outcome : Outcome
deriving DecidableEq, Repr

/-- tracer-relevant locals of `Serve` -/
structure Loc where
  /-- `eventsToTrigger` (top first); a closure is represented by the event it records -/
  stack : List Ev := []
  /-- `traceStarted` -/
  started : Bool := false
  /-- `err` (the named result) -/
  err : ErrK := .none
deriving DecidableEq, Repr

/-- locals + actions emitted so far in this iteration -/
structure W where
  loc : Loc
  acts : List Act
deriving DecidableEq, Repr

def W.emit (w : W) (a : List Act) : W := { w with acts := w.acts ++ a }
def W.setErr (w : W) (e : ErrK) : W := { w with loc := { w.loc with err := e } }
def W.setStarted (w : W) (b : Bool) : W := { w with loc := { w.loc with started := b } }

/-- `internalStats.Record(ctx.GetTraceInfo(), e, err)` with the current `err` -/
def W.record (w : W) (e : Ev) : W := w.emit [.record e (w.loc.err != .none)]

/-- `eventsToTrigger.push(func(ti, err) { Record(ti, e, err) })` -/
def W.push (w : W) (e : Ev) : W := { w with loc := { w.loc with stack := e :: w.loc.stack } }

/-- `if last := eventsToTrigger.pop(); last != nil { last(ti, err) }` -/
def W.pop (w : W) : W :=
  match w.loc.stack with
  | [] => w
  | e :: t => W.record { w with loc := { w.loc with stack := t } } e

/-- `for last := pop(); last != nil; last = pop() { last(ti, err) }` -/
def popAllAux : List Ev → W → W
  | [], w => w
  | e :: t, w => popAllAux t (w.record e)

def W.popAll (w : W) : W :=
  let w' := popAllAux w.loc.stack w
  { w' with loc := { w'.loc with stack := [] } }

/-- `Controller.DoStart`: `Record(HTTPStart, nil)`, then every tracer's `Start` -/
def W.doStart (w : W) : W := w.emit [.record .httpStart false, .start]

/-- `Controller.DoFinish(cc, ctx, err)` -/
def W.doFinish (w : W) (e : ErrK) : W :=
  w.emit ([.record .httpFinish (e != .none)] ++ (if e != .none then [.setError] else []) ++ [.finish])

/-- `if shouldRecordInTraceError(err) { DoFinish(cc, ctx, err) } else { DoFinish(cc, ctx, nil) }` -/
def W.finishFiltered (w : W) : W :=
  if shouldRecordInTraceError w.loc.err then w.doFinish w.loc.err else w.doFinish .none

/-- from `ServeHTTP` to the end of the loop body; `.error` = `return` (or unwinding panic) -/
def afterRead (cfg : Cfg) (t : Tail) (w : W) : Except W W :=
  -- if s.EnableTrace { Record(ServerHandleStart, err); push(ServerHandleFinish) }
  let w := if cfg.enableTrace then (w.record .handleStart).push .handleFinish else w
  -- s.Core.ServeHTTP(cc, ctx)
  let w := w.emit [.handle]
  if t = .panic then .error w else
  -- if s.EnableTrace { pop }
  let w := if cfg.enableTrace then w.pop else w
  -- if s.EnableTrace { Record(WriteStart, err); push(WriteFinish) }
  let w := if cfg.enableTrace then (w.record .writeStart).push .writeFinish else w
  -- if err = writeResponse(ctx, zw); err != nil { return }
  if t = .writeErr then .error (w.setErr .other) else
  -- if err = zw.Flush(); err != nil { return }
  if t = .flushErr then .error (w.setErr .other) else
  -- if s.EnableTrace { pop }
  let w := if cfg.enableTrace then w.pop else w
  -- if reqBodyStream != nil { err = ext.ReleaseBodyStream(reqBodyStream); if err != nil { return } }
  if t = .releaseErr then .error (w.setErr .other) else
  -- if hijackHandler != nil { err = SetReadTimeout(0); if err != nil { return }; …; err = errHijacked; return }
  if t = .hijackTimeoutErr then .error (w.setErr .other) else
  if t = .hijacked then .error (w.setErr .hijacked) else
  -- if connectionClose { return errShortConnection }
  if t = .close then .error (w.setErr .short) else
  -- if s.IdleTimeout == 0 { return }
  if cfg.idleZero then .error w else
  -- if s.EnableTrace { DoFinish(…); traceStarted = false }
  let w := if cfg.enableTrace then w.finishFiltered.setStarted false else w
  -- ctx.ResetWithoutConn()
  .ok (w.emit [.reset])

/-- one pass through the body of the `for` loop; `first` ⇔ `connRequestNum == 1` -/
def iter (cfg : Cfg) (first : Bool) (it : Iter) (l : Loc) : Except W W :=
  let w : W := ⟨l, []⟩
  -- if connRequestNum > 1 { _, err = zr.Peek(4); if err != nil { err = errIdleTimeout; return } }
  if !first && it.peekFails then .error (w.setErr .idle) else
  let w := if first then w else w.setErr .none
  -- if s.EnableTrace { cc = DoStart(c, ctx); traceStarted = true; Record(ReadHeaderStart, err); push(ReadHeaderFinish) }
  let w := if cfg.enableTrace then
      (((w.doStart).setStarted true).record .readHeaderStart).push .readHeaderFinish else w
  -- if err = req.ReadHeader(…); err == nil { if s.EnableTrace { pop; Record(ReadBodyStart, err); push(ReadBodyFinish) }; err = ReadBody… }
  let w := match it.outcome with
    | .headerErr e => w.setErr e.toErrK
    | o =>
      let w := w.setErr .none
      let w := if cfg.enableTrace then ((w.pop).record .readBodyStart).push .readBodyFinish else w
      match o with
      | .bodyErr e => w.setErr e.toErrK
      | _ => w
  -- if s.EnableTrace { SetRecvSize(…); pop }
  let w := if cfg.enableTrace then w.pop else w
  -- if err != nil { ErrNothingRead ⇒ return nil; io.EOF ⇒ return errUnexpectedEOF; writeErrorResponse; return }
  match w.loc.err with
  | .nothingRead => .error (w.setErr .none)
  | .ioEOF => .error (w.setErr .unexpectedEOF)
  | .none =>
    match it.outcome with
    -- if ctx.Request.MayContinue() { … WriteBinary / Flush: if err != nil { return } … ContinueReadBody: if err != nil { writeErrorResponse; return } }
    | .contWriteErr => .error (w.setErr .other)
    | .contBodyErr => .error (w.setErr .other)
    | .handled t => afterRead cfg t w
    | _ => .error w      -- not reachable: a read error leaves `err` set
  | _ => .error w

/-- the deferred function of `Serve` -/
def epilogue (cfg : Cfg) (w : W) : W :=
  let w := if cfg.enableTrace then
      -- if eventsToTrigger != nil { for last := pop(); … { last(ti, err) } }
      let w := w.popAll
      -- if traceStarted { DoFinish(…) }
      if w.loc.started then w.finishFiltered else w
    else w
  -- s.putRequestContext(ctx) ⇒ ctx.Reset()  (an exiled context is abandoned instead; either way the
  -- next `Serve` starts from a context without request data and with empty stats)
  w.emit [.reset]

/-- the `for` loop over a history; a history that runs out leaves the loop blocked in a read -/
def serveLoop (cfg : Cfg) : Bool → List Iter → Loc → List Act
  | _, [], _ => []
  | first, it :: rest, l =>
    match iter cfg first it l with
    | .error w => (epilogue cfg w).acts
    | .ok w => w.acts ++ serveLoop cfg false rest w.loc

/-- one call of `Server.Serve` -/
def serve (cfg : Cfg) (hist : List Iter) : List Act := .enter :: serveLoop cfg true hist {}

/-- one connection: `Serve` is entered once (in-loop idle handling) or once per batch of input
(return-to-poller transports) -/
def connection (cfg : Cfg) (hists : List (List Iter)) : List Act := hists.flatMap (serve cfg)

/-! ### stats and the recording tracer -/

/-- `httpStats` + what else the callees can see -/
structure Obs where
  /-- `httpStats.level` -/
  level : Level
  /-- `time.Now()`: advances with every `Record` -/
  clock : Nat := 0
  /-- `httpStats.eventMap`, indexed by `Event.Index()` -/
  eventMap : List (Option Rec) := List.replicate maxEventNum none
  /-- `httpStats.err != nil` -/
  hasErr : Bool := false
  /-- running number of the handled request whose data the `RequestContext` holds -/
  data : Option Nat := none
  handled : Nat := 0
  starts : Nat := 0
  /-- the id carried by `cc` -/
  cc : Option Nat := none
deriving DecidableEq, Repr

/-- `Stats().GetEvent(e)` for the ten events in causal order -/
def Obs.snap (o : Obs) : Snap := Ev.all.map (fun e => (o.eventMap.getD e.index none))

/-- `httpStats.Record`: events above the configured level are dropped; `eventMap[idx] = eve` -/
def Obs.record (o : Obs) (e : Ev) (isErr : Bool) : Obs :=
  if e.level > o.level then { o with clock := o.clock + 1 }
  else { o with clock := o.clock + 1, eventMap := o.eventMap.set e.index (some ⟨o.clock, isErr⟩) }

def Obs.step (o : Obs) : Act → Obs × List Call
  | .enter => ({ o with cc := none }, [])
  | .record e isErr => (o.record e isErr, [])
  | .start => ({ o with starts := o.starts + 1, cc := some (o.starts + 1) }, [.start (o.starts + 1) o.snap])
  | .setError => ({ o with hasErr := true }, [])
  | .finish => (o, [.finish o.cc o.data o.hasErr o.snap])
  | .handle => ({ o with handled := o.handled + 1, data := some (o.handled + 1) }, [.handle o.cc (o.handled + 1)])
  | .reset => ({ o with eventMap := List.replicate maxEventNum none, hasErr := false, data := none }, [])

def Obs.run (o : Obs) : List Act → Obs × List Call
  | [] => (o, [])
  | a :: t =>
    let r := o.step a
    let r' := Obs.run r.1 t
    (r'.1, r.2 ++ r'.2)

/-- the call log of an action sequence at trace level `lv` -/
def observe (lv : Level) (acts : List Act) : List Call := (Obs.run { level := lv } acts).2

end Hertz.Tracer
