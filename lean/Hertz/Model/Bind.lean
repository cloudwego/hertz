import Hertz.Model.Http1.Scan
import Hertz.Gen.BindTags
/-!
Model of request binding (property C15), mirroring function by function

* `decoder/tag.go`            `head`, `lookupFieldTags`, `getDefaultFieldTags`
* `decoder/getter.go`         `path`, `postForm`, `query`, `cookie`, `header`
* `decoder/slice_getter.go`   `pathSlice`, `postFormSlice`, `querySlice`, `cookieSlice`, `headerSlice`
* `decoder/sonic_required.go` `checkRequireJSON`, `keyExist`
* `decoder/text_decoder.go`   `SelectTextDecoder`, the `UnmarshalString` methods (strconv rules)
* `decoder/util.go`           `toDefaultValue`, `stringToValue`
* `decoder/base_type_decoder.go`  `baseTypeFieldTextDecoder.Decode`
* `decoder/slice_type_decoder.go` `sliceTypeFieldTextDecoder.Decode`
* `decoder/decoder.go`        `GetReqDecoder` (one field decoder per field, run in order, first error wins)
* `binding/default.go`        `preBindBody`, `bindTag` with its per-type decoder cache

for struct types whose fields have the kinds bool, intN, uintN, floatN, string, pointers to and
slices of those, tagged with any of the six source tags and `default`.

What is external (parameters of the model, see `assumptions` in bin/props.py): the JSON parser
(the body arrives as a list of members), `strconv.ParseFloat` (three-valued: canonical text /
certainly invalid / no opinion), multipart parsing, the request containers (`Args`, header list,
cookie list are lists of pairs; header keys are normalised as `RequestHeader.Add` does).
The source priority is not written down here: it is read from the regenerated
`Gen.Bind.lookupFieldTagsOrder`.
-/
namespace Hertz.Bind
open Hertz

/-! ## Type descriptions -/

inductive Src | path | form | query | cookie | header | json
  deriving DecidableEq, Repr

def Src.name : Src → String
  | .path => "path" | .form => "form" | .query => "query"
  | .cookie => "cookie" | .header => "header" | .json => "json"

def Src.ofName (s : String) : Option Src :=
  if s = "path" then some .path else if s = "form" then some .form
  else if s = "query" then some .query else if s = "cookie" then some .cookie
  else if s = "header" then some .header else if s = "json" then some .json else none

/-- The order in which `lookupFieldTags` collects the tags of a field = the source priority.
Taken from the Go source on every run (`raw_body` and `file_name` are outside this model). -/
def lookupOrder : List Src := Gen.Bind.lookupFieldTagsOrder.filterMap Src.ofName

/-- The order of `getDefaultFieldTags` (field without any source tag). -/
def defaultOrder : List Src := Gen.Bind.defaultFieldTagsOrder.filterMap Src.ofName

/-- Base kinds; `bits = 0` is Go's `int` / `uint` (`bitSize` 0 = platform size, 64 here). -/
inductive Base | bool | int (bits : Nat) | uint (bits : Nat) | float (bits : Nat) | str
  deriving DecidableEq, Repr

/-- `reflect.Kind` name of a base kind -/
def Base.kindName : Base → String
  | .bool => "Bool" | .str => "String"
  | .int 0 => "Int" | .int n => "Int" ++ toString n
  | .uint 0 => "Uint" | .uint n => "Uint" ++ toString n
  | .float n => "Float" ++ toString n

/-- decoder type and `bitSize` chosen by `SelectTextDecoder` -/
def Base.decoder : Base → String × Nat
  | .bool => ("boolDecoder", 0) | .str => ("stringDecoder", 0)
  | .int n => ("intDecoder", n) | .uint n => ("uintDecoder", n) | .float n => ("floatDecoder", n)

/-- strconv: `bitSize == 0` means `strconv.IntSize` (64-bit platform assumed) -/
def effBits (bits : Nat) : Nat := if bits = 0 then 64 else bits

/-- `ptr` stars in front, then (if `slice`) `[]`, then `elemPtr` stars, then the base kind:
`**[]*int8` is `{base := .int 8, ptr := 2, slice := true, elemPtr := 1}`. -/
structure Ty where
  base : Base
  ptr : Nat := 0
  slice : Bool := false
  elemPtr : Nat := 0
  deriving DecidableEq, Repr

/-- One struct field: Go name, type, the source tags present in its struct tag (raw contents,
e.g. `a,required`), and the `default:"…"` tag if present. -/
structure Field where
  name : Bytes
  ty : Ty
  tags : List (Src × Bytes) := []
  dflt : Option Bytes := none
  deriving DecidableEq, Repr

/-! ## Requests -/

abbrev KV := Bytes × Bytes

inductive JAtom
  | null | bool (b : Bool) | int (i : Int) | num (text : Bytes) | str (s : Bytes) | obj
  deriving DecidableEq, Repr

inductive JVal | atom (a : JAtom) | arr (l : List JAtom)
  deriving DecidableEq, Repr

/-- `none`: empty body (`ContentLength() <= 0`); `notJson`: a non-empty body that is not a JSON
object (form data, multipart, garbage, truncated JSON); `json`: a JSON object, members in wire order. -/
inductive Body | none | notJson | json (members : List (Bytes × JVal))
  deriving DecidableEq, Repr

structure Req where
  params : List KV := []
  form : List KV := []      -- PostArgs
  mform : List KV := []     -- multipart form values, in wire order
  query : List KV := []
  cookies : List KV := []
  headers : List KV := []   -- as passed to RequestHeader.Add (keys not yet normalised)
  ct : Bytes := []          -- Content-Type value
  body : Body := .none
  deriving DecidableEq, Repr

def asciiLower (c : UInt8) : UInt8 := if 65 ≤ c ∧ c ≤ 90 then c + 32 else c

/-- `utils.FilterContentType`: cut at the first space or semicolon -/
def filterCT : Bytes → Bytes
  | [] => []
  | c :: t => if c = 32 ∨ c = 59 then [] else c :: filterCT t

/-- `consts.MIMEApplicationJSON` = "application/json" -/
def mimeJSON : Bytes := [97, 112, 112, 108, 105, 99, 97, 116, 105, 111, 110, 47, 106, 115, 111, 110]

/-- `strings.ToLower(FilterContentType(ct)) == MIMEApplicationJSON` (preBindBody),
equivalently `strings.EqualFold` (checkRequireJSON and keyExist);
ASCII content types assumed -/
def ctFold (r : Req) : Bool := (filterCT r.ct).map asciiLower == mimeJSON

def hasBody (r : Req) : Bool := r.body != .none

def bodyMembers (r : Req) : List (Bytes × JVal) :=
  match r.body with
  | .json m => m
  | _ => []

/-- `sonic.Get(req.Body(), name).Exists()` for a top-level name without dots -/
def bodyHasKey (r : Req) (k : Bytes) : Bool := (bodyMembers r).any (fun m => m.1 == k)

/-! ## tag.go -/

structure TagInfo where
  key : Src
  value : Bytes
  jsonName : Bytes
  required : Bool := false
  skip : Bool := false
  dflt : Bytes := []
  deriving DecidableEq, Repr

/-- `head(str, ",")` -/
def headComma : Bytes → Bytes × Bytes
  | [] => ([], [])
  | c :: t => if c = 44 then ([], t) else ((c :: (headComma t).1), (headComma t).2)

/-- "required" -/
def requiredOpt : Bytes := [114, 101, 113, 117, 105, 114, 101, 100]

/-- the `for len(opts) > 0 { opt, opts = head(opts, ","); … opt == requiredTagOpt }` loop;
`cur` is the option being read, reversed -/
def optsRequired (cur : Bytes) : Bytes → Bool
  | [] => cur.reverse == requiredOpt
  | c :: t => if c = 44 then (cur.reverse == requiredOpt || optsRequired [] t) else optsRequired (c :: cur) t

def dash : Bytes := [45]

/-- body of the `for _, tag := range ret` loop of `lookupFieldTags` for one tag (top-level field:
`parentJSONName` is empty) -/
def mkTagInfo (f : Field) (s : Src) (content : Bytes) : TagInfo :=
  let hv := headComma content
  let tv := if hv.1 = [] then f.name else hv.1
  let skip := tv == dash
  { key := s, value := tv,
    jsonName := if s = .json ∧ ¬ skip then tv else f.name,
    required := optsRequired [] hv.2, skip := skip, dflt := f.dflt.getD [] }

def lookupFieldTags (f : Field) : List TagInfo :=
  lookupOrder.filterMap (fun s => (f.tags.lookup s).map (mkTagInfo f s))

def getDefaultFieldTags (f : Field) : List TagInfo :=
  defaultOrder.map (fun s => { key := s, value := f.name, jsonName := f.name, dflt := f.dflt.getD [] })

/-- `getFieldDecoder`: `lookupFieldTags`, and `getDefaultFieldTags` when that is empty
(`DisableDefaultTag` is off) -/
def fieldTagInfos (f : Field) : List TagInfo :=
  let l := lookupFieldTags f
  if l.isEmpty then getDefaultFieldTags f else l

/-! ## getter.go / slice_getter.go -/

/-- `Args.PeekExists`, `Params.Get`, `peekArgStr`: first entry with that key -/
def peek (l : List KV) (k : Bytes) : Option Bytes := (l.find? (fun e => e.1 == k)).map (·.2)

def peekAll (l : List KV) (k : Bytes) : List Bytes := (l.filter (fun e => e.1 == k)).map (·.2)

/-- header list as stored by `RequestHeader.Add`: keys normalised -/
def normHeaders (r : Req) : List KV := r.headers.map (fun e => (H1.normalizeKey false e.1, e.2))

/-- the five getters; result `(ret, exist)` -/
def getter (r : Req) : Src → Bytes → Bytes × Bool
  | .path, k => match peek r.params k with
    | some v => (v, true)
    | none => ([], false)
  | .form, k => match peek r.form k with
    | some v => (v, true)
    | none =>
      -- multipart: `ret = v[0]`, only used when non-empty
      let ret := (peek r.mform k).getD []
      if ret ≠ [] then (ret, true)
      else match peek r.query k with
        | some v => (v, true)
        | none => ([], false)
  | .query, k => match peek r.query k with
    | some v => (v, true)
    | none => ([], false)
  | .cookie, k => match peek r.cookies k with
    | some v => (v, true)
    | none => ([], false)
  | .header, k => match peek (normHeaders r) (H1.normalizeKey false k) with   -- RequestHeader.Peek
    | some v => (v, true)
    | none => ([], false)
  | .json, _ => ([], false)   -- no getter is installed for json; never called

def sliceGetter (r : Req) : Src → Bytes → List Bytes
  | .path, k => match peek r.params k with
    | some v => if v ≠ [] then [v] else []
    | none => []
  | .form, k =>
    let a := peekAll r.form k
    if a ≠ [] then a else peekAll r.mform k     -- no fall-back to the query here
  | .query, k => peekAll r.query k
  | .cookie, k => peekAll r.cookies k
  | .header, k => ((normHeaders r).filter (fun e => H1.ciEq e.1 k)).map (·.2)   -- VisitAll + strings.EqualFold
  | .json, _ => []

/-! ## sonic_required.go -/

/-- `checkRequireJSON` (names without dots) -/
def checkRequireJSON (r : Req) (ti : TagInfo) : Bool :=
  if !ti.required then true
  else if !ctFold r then false
  else bodyHasKey r ti.jsonName

/-- `keyExist` (content type compared with `strings.EqualFold`) -/
def keyExist (r : Req) (ti : TagInfo) : Bool :=
  if !ctFold r then false else bodyHasKey r ti.jsonName

/-! ## text_decoder.go: strconv rules -/

/-- three-valued results: `unk` = the model has no opinion (only produced by the float classifier
and the JSON-text classifier) -/
inductive Conv (α : Type) | ok (a : α) | err | unk
  deriving DecidableEq, Repr

inductive Scalar | b (v : Bool) | i (v : Int) | u (v : Nat) | f (text : Bytes) | s (v : Bytes)
  deriving DecidableEq, Repr

/-- `strconv.ParseBool` -/
def parseBool (s : Bytes) : Option Bool :=
  if s = [49] ∨ s = [116] ∨ s = [84] ∨ s = [84, 82, 85, 69] ∨ s = [116, 114, 117, 101] ∨ s = [84, 114, 117, 101] then some true
  else if s = [48] ∨ s = [102] ∨ s = [70] ∨ s = [70, 65, 76, 83, 69] ∨ s = [102, 97, 108, 115, 101] ∨ s = [70, 97, 108, 115, 101] then some false
  else none

def isDigit (c : UInt8) : Bool := 48 ≤ c && c ≤ 57

def digitsVal : Bytes → Nat → Option Nat
  | [], acc => some acc
  | c :: t, acc => if isDigit c then digitsVal t (acc * 10 + (c.toNat - 48)) else none

/-- unsigned decimal, at least one digit, nothing else (base 10 given explicitly: no underscores) -/
def parseNat (s : Bytes) : Option Nat := if s = [] then none else digitsVal s 0

/-- the syntax of `strconv.ParseInt(s, 10, _)` before the range check -/
def parseIntText : Bytes → Option Int
  | [] => none
  | 43 :: t => (parseNat t).map Int.ofNat
  | 45 :: t => (parseNat t).map (fun n => - Int.ofNat n)
  | c :: t => (parseNat (c :: t)).map Int.ofNat

def intInRange (bits : Nat) (v : Int) : Bool :=
  decide (- (2 ^ (effBits bits - 1) : Int) ≤ v) && decide (v < (2 ^ (effBits bits - 1) : Int))

def uintInRange (bits : Nat) (n : Nat) : Bool := decide (n < 2 ^ effBits bits)

/-- bytes that can occur in a string `strconv.ParseFloat` accepts (decimal and hex floats,
underscores, inf/infinity/nan in any case) -/
def floatByte (c : UInt8) : Bool :=
  isDigit c || (97 ≤ c && c ≤ 102) || (65 ≤ c && c ≤ 70) || c == 43 || c == 45 || c == 46 || c == 95 ||
  c == 120 || c == 88 || c == 112 || c == 80 || c == 105 || c == 73 || c == 110 || c == 78 ||
  c == 116 || c == 84 || c == 121 || c == 89

def noLeadZero : Bytes → Bool
  | [] => false
  | [_] => true
  | c :: _ => c != 48

/-- `-?int(.frac)?` with no redundant zeros and at most six digits: `FormatFloat(ParseFloat(s), 'f', -1, bits)`
gives back `s` for both float sizes (`-0` is left out: the decoders disagree on its sign) -/
def canonFloat (s : Bytes) : Bool :=
  s != [45, 48] &&
  let t := match s with
    | 45 :: r => r
    | r => r
  let ip := t.takeWhile isDigit
  let rest := t.dropWhile isDigit
  noLeadZero ip && (match rest with
    | [] => ip.length ≤ 6
    | 46 :: fr => fr != [] && fr.all isDigit && fr.getLast? != some 48 && ip.length + fr.length ≤ 6
    | _ => false)

/-- `strconv.ParseFloat` as far as the model states it -/
def parseFloatText (s : Bytes) : Conv Bytes :=
  if canonFloat s then .ok s
  else if s = [] ∨ s.any (fun c => !floatByte c) then .err
  else .unk

/-- `TextDecoder.UnmarshalString` (LooseZeroMode off) -/
def convText (b : Base) (s : Bytes) : Conv Scalar :=
  match b with
  | .bool => match parseBool s with
    | some v => .ok (.b v)
    | none => .err
  | .int bits => match parseIntText s with
    | some v => if intInRange bits v then .ok (.i v) else .err
    | none => .err
  | .uint bits => match parseNat s with
    | some n => if uintInRange bits n then .ok (.u n) else .err
    | none => .err
  | .float _ => match parseFloatText s with
    | .ok t => .ok (.f t)
    | .err => .err
    | .unk => .unk
  | .str => .ok (.s s)

/-- decode texts in order; the first one that is not `ok` decides (the Go loop breaks there) -/
def convAll (b : Base) : List Bytes → Conv (List Scalar)
  | [] => .ok []
  | s :: t => match convText b s with
    | .ok v => match convAll b t with
      | .ok l => .ok (v :: l)
      | .err => .err
      | .unk => .unk
    | .err => .err
    | .unk => .unk

/-! ## Field values -/

/-- value of a field after binding: `unset` = untouched zero value (0, "", false, nil pointer, nil slice);
`one s` = the scalar behind `ptr` freshly allocated pointers; `many l` = a slice (behind `ptr` pointers),
element `none` = JSON `null` (zero element, or nil pointer element). -/
inductive FieldVal | unset | one (s : Scalar) | many (l : List (Option Scalar))
  deriving DecidableEq, Repr

/-! ## JSON pre-bind (`preBindBody` → `hJson.Unmarshal(req.Body(), v)`) -/

def natDigits (n : Nat) : Bytes := (Nat.toDigits 10 n).map (fun c => c.toNat.toUInt8)

def intText (i : Int) : Bytes :=
  match i with
  | .ofNat n => natDigits n
  | .negSucc n => 45 :: natDigits (n + 1)

/-- one JSON atom into a base kind; `ok none` = `null`.
`sonic = true` is the decoder hertz uses (sonic v1.13.2, amd64): it performs NO range check when the
target is `uint32` and the literal is below 2^63: the value is truncated to 32 bits.
`sonic = false` is what `encoding/json` does (range error); the spec uses that. -/
def jsonAtomConv (sonic : Bool) (b : Base) : JAtom → Conv (Option Scalar)
  | .null => .ok none
  | .obj => .err
  | .bool v => if b = .bool then .ok (some (.b v)) else .err
  | .int i => match b with
    | .int bits => if intInRange bits i then .ok (some (.i i)) else .err
    | .uint bits =>
      if sonic ∧ bits = 32 then
        (if 0 ≤ i ∧ uintInRange 63 i.toNat then .ok (some (.u (i.toNat % 2 ^ 32))) else .err)
      else if 0 ≤ i ∧ uintInRange bits i.toNat then .ok (some (.u i.toNat)) else .err
    | .float _ => if canonFloat (intText i) then .ok (some (.f (intText i))) else .unk
    | _ => .err
  | .num text => match b with
    | .float _ => if canonFloat text then .ok (some (.f text)) else .unk
    | _ => .err
  | .str s => if b = .str then .ok (some (.s s)) else .err

def jsonAtomsConv (sonic : Bool) (b : Base) : List JAtom → Conv (List (Option Scalar))
  | [] => .ok []
  | a :: t => match jsonAtomConv sonic b a, jsonAtomsConv sonic b t with
    | .err, _ => .err
    | _, .err => .err
    | .unk, _ => .unk
    | _, .unk => .unk
    | .ok v, .ok l => .ok (v :: l)

/-- assign one JSON value to a field holding `prev` -/
def jsonStep (sonic : Bool) (ty : Ty) (prev : FieldVal) (v : JVal) : Conv FieldVal :=
  if ty.slice then
    match v with
    | .atom .null => .ok .unset
    | .atom (.str _) => if ty.base = .uint 8 ∧ ty.elemPtr = 0 then .unk else .err   -- []byte takes base64
    | .atom _ => .err
    | .arr l => match jsonAtomsConv sonic ty.base l with
      | .ok l' => .ok (.many l')
      | .err => .err
      | .unk => .unk
  else
    match v with
    | .arr _ => .err
    | .atom a => match jsonAtomConv sonic ty.base a with
      | .ok none => .ok (if ty.ptr > 0 then .unset else prev)
      | .ok (some s) => .ok (.one s)
      | .err => .err
      | .unk => .unk

/-- the name `encoding/json` / sonic know the field by; `none` = ignored (`json:"-"`) -/
def jsonFieldName (f : Field) : Option Bytes :=
  match f.tags.lookup .json with
  | none => some f.name
  | some content =>
    if content = dash then none
    else some (if (headComma content).1 = [] then f.name else (headComma content).1)

/-- a member key selects the field: case-insensitive match (field names are assumed pairwise
distinct up to case, so exact-match preference never matters) -/
def jsonMatches (f : Field) (k : Bytes) : Bool :=
  match jsonFieldName f with
  | some n => H1.ciEq k n
  | none => false

/-- fold over the members; an error anywhere makes `Unmarshal` fail (it keeps going and reports it
at the end), `unk` = error status not known to the model -/
def preBindMembers (sonic : Bool) (f : Field) : List (Bytes × JVal) → Conv FieldVal → Conv FieldVal
  | [], acc => acc
  | m :: t, acc =>
    if jsonMatches f m.1 then
      match acc with
      | .err => .err
      | .unk => (match jsonStep sonic f.ty .unset m.2 with
        | .err => .err
        | _ => preBindMembers sonic f t .unk)
      | .ok prev => preBindMembers sonic f t (jsonStep sonic f.ty prev m.2)
    else preBindMembers sonic f t acc

def preBindField (sonic : Bool) (r : Req) (f : Field) : Conv FieldVal :=
  preBindMembers sonic f (bodyMembers r) (.ok .unset)

def collect : List (Conv FieldVal) → Conv (List FieldVal)
  | [] => .ok []
  | c :: t => match c, collect t with
    | .err, _ => .err
    | _, .err => .err
    | .unk, _ => .unk
    | _, .unk => .unk
    | .ok v, .ok l => .ok (v :: l)

/-- `preBindBody`: only with a body and a JSON content type -/
def preBind (sonic : Bool) (r : Req) (fields : List Field) : Conv (List FieldVal) :=
  if hasBody r && ctFold r then
    match r.body with
    | .json _ => collect (fields.map (preBindField sonic r))
    | _ => .err
  else .ok (fields.map (fun _ => .unset))

/-! ## JSON from a text (slice default values and the slice fall-back) -/

def splitComma (cur : Bytes) : Bytes → List Bytes
  | [] => [cur.reverse]
  | c :: t => if c = 44 then cur.reverse :: splitComma [] t else splitComma (c :: cur) t

def plainStrByte (c : UInt8) : Bool := 32 ≤ c && c ≤ 126 && c != 34 && c != 92 && c != 44 && c != 91 && c != 93

/-- one array element in the small grammar the model reads itself -/
def parseAtomText (s : Bytes) : Option JAtom :=
  if s = [110, 117, 108, 108] then some .null
  else if s = [116, 114, 117, 101] then some (.bool true)
  else if s = [102, 97, 108, 115, 101] then some (.bool false)
  else match s with
    | 34 :: r =>
      if r.getLast? = some 34 ∧ r.dropLast.all plainStrByte then some (.str r.dropLast) else none
    | _ =>
      let t := match s with
        | 45 :: r => r
        | r => r
      if s = [45, 48] then none
      else if t.all isDigit ∧ noLeadZero t then (parseIntText s).map .int
      else if canonFloat s then some (.num s) else none

/-- the JSON value of a text: flat arrays of simple atoms and `null` are read by the model; a text
that starts like neither an array nor `null` cannot be assigned to a slice whatever it is (`err`);
everything else: no opinion -/
def parseSliceJSON (s : Bytes) : Conv JVal :=
  match s with
  | [] => .err
  | 91 :: r =>
    if r = [93] then .ok (.arr [])
    else if r.getLast? = some 93 then
      match (splitComma [] r.dropLast).mapM parseAtomText with
      | some l => .ok (.arr l)
      | none => .unk
    else .unk
  | c :: _ =>
    if s = [110, 117, 108, 108] then .ok (.atom .null)
    else if c = 110 ∨ c = 32 ∨ c = 9 ∨ c = 10 ∨ c = 13 then .unk
    else .err

/-- `strings.Replace(s, old, new, -1)` for a one-byte pattern -/
def replace1 (old : UInt8) (new : Bytes) : Bytes → Bytes
  | [] => []
  | c :: t => if c = old then new ++ replace1 old new t else c :: replace1 old new t

/-- `strings.Replace(s, "\\'", "\x07", -1)` -/
def replaceEscQuote : Bytes → Bytes
  | [] => []
  | [c] => [c]
  | a :: b :: t => if a = 92 ∧ b = 39 then 7 :: replaceEscQuote t else a :: replaceEscQuote (b :: t)
termination_by structural x => x

/-- `toDefaultValue`: for slices quotes are rewritten (single quotes become double quotes) -/
def toDefaultValue (ty : Ty) (d : Bytes) : Bytes :=
  if ty.slice then
    replace1 7 [39] (replace1 39 [34] (replaceEscQuote (replace1 34 [92, 34] d)))
  else d

/-! ## base_type_decoder.go -/

inductive ErrKind | required | conv | body
  deriving DecidableEq, Repr

/-- the local variables `err`, `text`, `exist`, `defaultValue` of `Decode` -/
structure LoopSt where
  err : Option ErrKind := none
  text : Bytes := []
  exist : Bool := false
  dflt : Bytes := []
  deriving DecidableEq, Repr

/-- the json branch of the tag loop (identical in both decoders); works on `err` and `defaultValue` -/
def jsonBranch (r : Req) (ti : TagInfo) (err : Option ErrKind) : Option ErrKind × Bytes :=
  let err :=
    if checkRequireJSON r ti then
      (if ti.required || keyExist r ti then none else err)
    else some .required
  (err, if ti.dflt ≠ [] ∧ keyExist r ti then [] else ti.dflt)

/-- `for _, tagInfo := range d.tagInfos { … }` of `baseTypeFieldTextDecoder.Decode` -/
def baseLoop (r : Req) : List TagInfo → LoopSt → LoopSt
  | [], st => st
  | ti :: rest, st =>
    if ti.skip ∨ ti.key = .json then
      if ti.key = .json then
        let e := jsonBranch r ti st.err
        baseLoop r rest { st with err := e.1, dflt := e.2 }
      else baseLoop r rest st
    else
      let g := getter r ti.key ti.value
      if g.2 then { err := none, text := g.1, exist := true, dflt := ti.dflt }      -- break
      else baseLoop r rest { err := if ti.required then some .required else st.err, text := g.1, exist := false, dflt := ti.dflt }

/-- outcome of one field decoder -/
inductive FOut | ok (v : FieldVal) | err (e : ErrKind) | unk
  deriving DecidableEq, Repr

/-- `UnmarshalString` / `stringToValue` on the chosen text, and what `Decode` returns for it -/
def textOutcome (ty : Ty) (text : Bytes) : FOut :=
  match convText ty.base text with
  | .ok s => .ok (.one s)
  | .err => .err .conv
  | .unk => .unk

/-- `baseTypeFieldTextDecoder.Decode`; `pre` is what the JSON pre-bind left in the field -/
def decodeBase (r : Req) (ty : Ty) (tis : List TagInfo) (pre : FieldVal) : FOut :=
  let st := baseLoop r tis {}
  match st.err with
  | some e => .err e
  | none =>
    let text := if st.text = [] ∧ st.dflt ≠ [] then toDefaultValue ty st.dflt else st.text
    if !st.exist ∧ text = [] then .ok pre
    else textOutcome ty text

/-! ## slice_type_decoder.go -/

structure SLoopSt where
  err : Option ErrKind := none
  texts : List Bytes := []
  dflt : Bytes := []
  deriving DecidableEq, Repr

def sliceLoop (r : Req) : List TagInfo → SLoopSt → SLoopSt
  | [], st => st
  | ti :: rest, st =>
    if ti.skip ∨ ti.key = .json then
      if ti.key = .json then
        let e := jsonBranch r ti st.err
        sliceLoop r rest { st with err := e.1, dflt := e.2 }
      else sliceLoop r rest st
    else
      let ts := sliceGetter r ti.key ti.value
      if ts ≠ [] then { err := none, texts := ts, dflt := ti.dflt }
      else sliceLoop r rest { err := if ti.required then some .required else st.err, texts := ts, dflt := ti.dflt }

/-- `hJson.Unmarshal(texts[0], &field)` -/
def jsonFromText (ty : Ty) (pre : FieldVal) (text : Bytes) : FOut :=
  match parseSliceJSON text with
  | .err => .err .conv
  | .unk => .unk
  | .ok v => match jsonStep true ty pre v with
    | .ok fv => .ok fv
    | .err => .err .conv
    | .unk => .unk

/-- the element loop of the slice decoder with its JSON fall-back on the first text -/
def textsOutcome (ty : Ty) (pre : FieldVal) (t0 : Bytes) (ts : List Bytes) : FOut :=
  match convAll ty.base (t0 :: ts) with
  | .ok l => .ok (.many (l.map some))
  | .err => jsonFromText ty pre t0                        -- "text[0] can be a complete json content"
  | .unk => .unk

/-- `sliceTypeFieldTextDecoder.Decode` (slices; arrays are outside the model) -/
def decodeSlice (r : Req) (ty : Ty) (tis : List TagInfo) (pre : FieldVal) : FOut :=
  let st := sliceLoop r tis {}
  match st.err with
  | some e => .err e
  | none =>
    if st.texts = [] ∧ st.dflt ≠ [] then
      jsonFromText ty pre (toDefaultValue ty st.dflt)         -- isDefault
    else match st.texts with
      | [] => .ok pre
      | t0 :: ts => textsOutcome ty pre t0 ts

/-! ## decoder.go / default.go -/

/-- what `getFieldDecoder` builds once per field and `bindTag` caches per type -/
structure FieldDec where
  ty : Ty
  tis : List TagInfo
  deriving DecidableEq, Repr

def compileField (f : Field) : FieldDec := { ty := f.ty, tis := fieldTagInfos f }

/-- `GetReqDecoder`: one decoder per field, in field order -/
def compile (fields : List Field) : List FieldDec := fields.map compileField

def FieldDec.run (r : Req) (d : FieldDec) (pre : FieldVal) : FOut :=
  if d.ty.slice then decodeSlice r d.ty d.tis pre else decodeBase r d.ty d.tis pre

inductive Outcome | ok (vals : List FieldVal) | err (e : ErrKind) | unk
  deriving DecidableEq, Repr

/-- the closure returned by `GetReqDecoder`: run the field decoders in order, stop at the first error.
(`unk` followed by anything is `unk`: the model does not know whether the unknown field failed.) -/
def runDecoders (r : Req) : List FieldDec → List FieldVal → Outcome
  | [], _ => .ok []
  | d :: ds, pres =>
    match d.run r (pres.headD .unset) with
    | .err e => .err e
    | .unk => .unk
    | .ok v => match runDecoders r ds pres.tail with
      | .ok vs => .ok (v :: vs)
      | .err e => .err e
      | .unk => .unk

/-- `binding.Bind` on a fresh struct value, with a decoder list `decs` (fresh or cached) -/
def bindWith (decs : List FieldDec) (fields : List Field) (r : Req) : Outcome :=
  match preBind true r fields with
  | .err => .err .body
  | .unk => .unk
  | .ok pres => runDecoders r decs pres

/-- **Bind as a function of the type description and the request.** -/
def bind (fields : List Field) (r : Req) : Outcome := bindWith (compile fields) fields r

/-- pre-bind as seen by one field -/
def preField (r : Req) (f : Field) : Conv FieldVal :=
  if hasBody r && ctFold r then
    match r.body with
    | .json _ => preBindField true r f
    | _ => .err
  else .ok .unset

/-- result for one field alone (what `bind` computes for it when no other field fails first) -/
def bindField (f : Field) (r : Req) : FOut :=
  match preField r f with
  | .err => .err .body
  | .unk => .unk
  | .ok pre => (compileField f).run r pre

/-! ### the per-type decoder cache of `defaultBinder.bindTag` -/

/-- `decoderCache`: type → compiled decoders (the type description stands for the `typeID`) -/
structure Binder where
  cache : List (List Field × List FieldDec) := []

/-- `bindTag`: pre-bind the body, then use the cached decoder or build and store one -/
def Binder.bind (b : Binder) (fields : List Field) (r : Req) : Outcome × Binder :=
  match b.cache.lookup fields with
  | some decs => (bindWith decs fields r, b)
  | none => (bindWith (compile fields) fields r, { cache := (fields, compile fields) :: b.cache })

/-- a sequence of binds through one binder -/
def Binder.run (b : Binder) : List (List Field × Req) → List Outcome
  | [] => []
  | (t, r) :: rest => (b.bind t r).1 :: Binder.run (b.bind t r).2 rest

/-! ### the entry points of `defaultBinder` and its five decoder caches

`Bind` / `BindAndValidate` call `bindTag` / `bindTagWithValidate` with `tag = ""`; `BindPath`, `BindForm`,
`BindQuery`, `BindHeader` call `bindTag` with their tag.  A non-empty tag (i) skips `preBindBody`,
(ii) makes `getFieldDecoder` replace the tag list of every field by `getFieldTagInfoByTag(field, tag)`,
(iii) selects another decoder cache (`tagCache`).  All caches are keyed by the type alone, so which cache
a decoder is loaded from and stored into is part of the behaviour. -/

inductive Api | bind | validate | path | form | query | header
  deriving DecidableEq, Repr

/-- the `tag` argument the entry point passes on (`none` = the empty string) -/
def Api.byTag : Api → Option Src
  | .bind => none | .validate => none
  | .path => some .path | .form => some .form | .query => some .query | .header => some .header

/-- the five `sync.Map`s of `defaultBinder` -/
inductive Slot | all | query | header | form | path
  deriving DecidableEq, Repr

/-- `defaultBinder.tagCache` -/
def tagCache : Option Src → Slot
  | some .query => .query | some .header => .header | some .form => .form | some .path => .path
  | _ => .all

/-- `getFieldTagInfoByTag`: exactly one tag, named by the struct tag of that source if the field has one
(empty name = Go name, `-` = skipped, option `required`), else by the Go name; no default, no JSON name -/
def tagInfoByTag (f : Field) (s : Src) : List TagInfo :=
  match f.tags.lookup s with
  | some content =>
    let hv := headComma content
    let tv := if hv.1 = [] then f.name else hv.1
    [{ key := s, value := tv, jsonName := [], required := optsRequired [] hv.2, skip := tv == dash }]
  | none => [{ key := s, value := f.name, jsonName := [] }]

/-- `getFieldDecoder(…, byTag, …)` for one top-level field -/
def compileFieldBy (tg : Option Src) (f : Field) : FieldDec :=
  match tg with
  | none => compileField f
  | some s => { ty := f.ty, tis := tagInfoByTag f s }

/-- `GetReqDecoder(rt, byTag, config)` -/
def compileBy (tg : Option Src) (fields : List Field) : List FieldDec := fields.map (compileFieldBy tg)

/-- `bindTag` once the decoder `decs` is in hand: `preBindBody` only when `len(tag) == 0`; a tag-restricted
bind runs the decoders on the untouched fresh value -/
def bindWithBy (tg : Option Src) (decs : List FieldDec) (fields : List Field) (r : Req) : Outcome :=
  match tg with
  | none => bindWith decs fields r
  | some _ => runDecoders r decs (fields.map (fun _ => .unset))

/-- **An entry point as a function of the type description and the request** (no cache) -/
def bindBy (tg : Option Src) (fields : List Field) (r : Req) : Outcome :=
  bindWithBy tg (compileBy tg fields) fields r

/-- `defaultBinder`: one cache per `Slot`, each type → compiled decoders -/
structure TagBinder where
  caches : Slot → List (List Field × List FieldDec) := fun _ => []

/-- `cache.Store(typeID, …)` on the cache `s` -/
def TagBinder.store (b : TagBinder) (s : Slot) (t : List Field) (d : List FieldDec) : TagBinder :=
  { caches := fun s' => if s' = s then (t, d) :: b.caches s' else b.caches s' }

/-- `bindTag` (and `bindTagWithValidate` for types without a validation tag: `needValidate` is false):
`cache := b.tagCache(tag)`; load → fast path; else build with `byTag = tag`, store into THE SAME cache, run -/
def TagBinder.bindTag (b : TagBinder) (tg : Option Src) (fields : List Field) (r : Req) : Outcome × TagBinder :=
  match (b.caches (tagCache tg)).lookup fields with
  | some decs => (bindWithBy tg decs fields r, b)
  | none => (bindWithBy tg (compileBy tg fields) fields r, b.store (tagCache tg) fields (compileBy tg fields))

def TagBinder.call (b : TagBinder) (a : Api) (fields : List Field) (r : Req) : Outcome × TagBinder :=
  b.bindTag a.byTag fields r

/-- a sequence of calls of any entry points through one binder -/
def TagBinder.run (b : TagBinder) : List (Api × List Field × Req) → List Outcome
  | [] => []
  | (a, t, r) :: rest => (b.call a t r).1 :: TagBinder.run (b.call a t r).2 rest

end Hertz.Bind
