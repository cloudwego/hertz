import Hertz.Model.TagexprTree
/-!
# internal/tagexpr — lexer, operands, evaluation, validation verdict (C20)

Executable model of the rest of the expression engine, mirroring the Go code function by function:
`tagparser.go` (`trimLeftSpace`, `readPairedSymbol`), `spec_operand.go` (operand readers,
`getBoolAndSignOpposite`, `realValue`, `toFloat64`, `toString`), `spec_selector.go`
(`findSelector`), `spec_func.go` (`parseFuncSign`, `len`, `in`, `regexp`), `expr.go`
(`parseExprNode`, `parseOperand`, `parseOperator`, `parseExpr`), `spec_operator.go` (the `Run`
methods), `tagexpr.go` (`FakeBool`, value getters) and `validator.go` (the accept/reject rule).

Not proved, only compared with the real code by the correspondence check: float64 arithmetic
(`Float` is opaque to the kernel), `strconv.ParseFloat`/`fmt.Sprint` on the small values the
generator uses, and `regexp` on a small pattern subset (`Rx`).  Anything outside the modelled
subset is reported as `unsupported`, never guessed.
-/
namespace Hertz.Tagexpr

/-- Run-time values of the engine: `float64`, `string`, `bool`, `nil`, and slice-typed field values
(kept as the printed elements; only `len`, truthiness and comparability are observable). -/
inductive Val where
  | num (f : Float)
  | str (s : String)
  | bool (b : Bool)
  | nil
  | ints (l : List Int)
  | strs (l : List String)

structure Env where
  /-- name of the field carrying the tag (`$` without a field name) -/
  cur : String
  fields : List (String × Val)

inductive PErr where
  | syntax                 -- parseExpr returns an error
  | unsupported (what : String)
  | fuel
  | fault (f : Fault)

inductive EvalErr where
  | fault (f : Fault)
  | unsupported (what : String)

abbrev EvalM := Except EvalErr

/-- An operand node: its rendering for the shape comparison and its `Run` method. -/
structure Operand where
  shape : String
  run : Env → EvalM Val

abbrev Node := Tree Operand

/-! ## values -/

/-- `FakeBool` -/
def fakeBool : Val → Bool
  | .num f => f != 0
  | .str s => s != ""
  | .bool b => b
  | .nil => false
  | .ints _ => false     -- default branch: `vv.IsValid() || vv.IsZero()` ⇒ false for every valid value
  | .strs _ => false

/-- `realValue(v, boolOpposite, signOpposite)` (values are already normalised to float64/string) -/
def realValue (v : Val) (bo so : Option Bool) : Val :=
  match bo with
  | some b => .bool (if b then !fakeBool v else fakeBool v)
  | none =>
    match so, v with
    | some true, .num f => .num (-f)
    | _, v => v

def natToFloat (n : Nat) : Float := Float.ofNat n
def intToFloat (i : Int) : Float := if i < 0 then -(Float.ofNat i.natAbs) else Float.ofNat i.natAbs

def digitsVal (ds : List Char) : Nat := ds.foldl (fun n c => n * 10 + (c.toNat - 48)) 0

/-- decimal literal `[+-]?d*(.d*)?` (at least one digit) to float64, correctly rounded -/
def decToFloat (neg : Bool) (ip fp : List Char) : Float :=
  let f := Float.ofScientific (digitsVal (ip ++ fp)) true fp.length
  if neg then -f else f

/-- `strconv.ParseFloat(s, 64)`: decimal with optional fraction and exponent, `inf`/`infinity`
(signed) and `nan` (unsigned), case-insensitive; an underscore is a syntax error outside hex.
`none` = hexadecimal float (not modelled); `some none` = syntax error. -/
def parseFloat (s : String) : Option (Option Float) :=
  let cs := s.toList
  let (neg, signed, r) : Bool × Bool × List Char := match cs with
    | '-' :: r => (true, true, r)
    | '+' :: r => (false, true, r)
    | r => (false, false, r)
  let lw := r.map Char.toLower
  if lw == "inf".toList || lw == "infinity".toList then
    some (some (if neg then -(1.0 / 0.0) else (1.0 / 0.0)))
  else if !signed && lw == "nan".toList then some (some (0.0 / 0.0))
  else if lw.take 2 == ['0', 'x'] then none
  else
    let ip := r.takeWhile Char.isDigit
    let r1 := r.dropWhile Char.isDigit
    let (fp, r2) : List Char × List Char := match r1 with
      | '.' :: t => (t.takeWhile Char.isDigit, t.dropWhile Char.isDigit)
      | t => ([], t)
    if ip.isEmpty && fp.isEmpty then some none
    else
      match r2 with
      | [] => some (some (decToFloat neg ip fp))
      | e :: t =>
        if e == 'e' || e == 'E' then
          let (eneg, t) : Bool × List Char := match t with
            | '-' :: t => (true, t)
            | '+' :: t => (false, t)
            | t => (false, t)
          let ed := t.takeWhile Char.isDigit
          if ed.isEmpty || !(t.dropWhile Char.isDigit).isEmpty then some none
          else if ed.length > 3 then none        -- range errors: not modelled
          else
            let m := digitsVal (ip ++ fp)
            let ex : Int := (if eneg then -(digitsVal ed : Int) else digitsVal ed) - fp.length
            let f := if ex < 0 then Float.ofScientific m true ex.natAbs else Float.ofScientific m false ex.natAbs
            if f.isInf then none else some (some (if neg then -f else f))
        else some none

def trimZeros (ds : List Char) : List Char := (ds.reverse.dropWhile (· == '0')).reverse

def pad4 (n : Nat) : List Char :=
  let ds := (toString n).toList
  List.replicate (4 - ds.length) '0' ++ ds

/-- `fmt.Sprint(float64)` (`%v` = shortest `%g`) on NaN, ±Inf and the values `k/10000`, `|v| < 1e6`,
for which the shortest representation is the plain decimal.  `none` = outside that subset. -/
def fmtFloat (f : Float) : Option String :=
  if f.isNaN then some "NaN"
  else if f.isInf then some (if f > 0 then "+Inf" else "-Inf")
  else
    let a := f.abs
    if a >= 1000000 then none
    else
      let k := (a * 10000).round.toUInt64.toNat
      if Float.ofScientific k true 4 != a then none
      else if k != 0 && k < 1 then none
      else
        let neg := f < 0 || (f == 0 && (1 / f) < 0)
        let ip := k / 10000
        let fp := trimZeros (pad4 (k % 10000))
        let body := toString ip ++ (if fp.isEmpty then "" else "." ++ String.ofList fp)
        some ((if neg then "-" else "") ++ body)

/-- `fmt.Sprint` of a value (for `toString(v, true)`) -/
def sprint : Val → Option String
  | .num f => fmtFloat f
  | .str s => some s
  | .bool b => some (if b then "true" else "false")
  | .nil => some "<nil>"
  | .ints l => some ("[" ++ " ".intercalate (l.map toString) ++ "]")
  | .strs l => some ("[" ++ " ".intercalate l ++ "]")

inductive Coerce (α : Type) where
  | ok (a : α)
  | no
  | unsupported

/-- `toString(i, enforce)` -/
def toStr (v : Val) (enforce : Bool) : Coerce String :=
  match v with
  | .str s => .ok s
  | .nil => .no
  | v => if enforce then (match sprint v with | some s => .ok s | none => .unsupported) else .no

/-- `toFloat64(i, tryParse)`; `no` is Go's `ok = false` -/
def toF (v : Val) (tryParse : Bool) : Coerce Float :=
  match v with
  | .num f => .ok f
  | .nil => .no
  | .str s => if tryParse then (match parseFloat s with
      | none => .unsupported | some none => .no | some (some f) => .ok f) else .no
  | _ => .no

/-- amd64 `int64(float64)`: truncation; NaN and out-of-range give `math.MinInt64` -/
def toInt64 (f : Float) : Int :=
  if f.isNaN || f >= 9223372036854775808.0 || f < -9223372036854775808.0 then -9223372036854775808
  else
    let a := f.abs.floor.toUInt64.toNat
    if f < 0 then -(a : Int) else a

def coerceF (c : Coerce Float) (dflt : Float) : EvalM (Option Float) :=
  match c with
  | .ok f => pure (some f)
  | .no => pure none
  | .unsupported => let _ := dflt; throw (.unsupported "ParseFloat")

def coerceS (c : Coerce String) : EvalM (Option String) :=
  match c with
  | .ok f => pure (some f)
  | .no => pure none
  | .unsupported => throw (.unsupported "Sprint(float)")

/-- `interfaceEqual(a, b)` (utils.go): `a == b` on interfaces, except that two values of an
uncomparable dynamic type (the slice-typed field values) are reported as not equal; values of
different dynamic types are not equal. -/
def ifaceEq (a b : Val) : Bool :=
  match a, b with
  | .num x, .num y => x == y
  | .str x, .str y => x == y
  | .bool x, .bool y => x == y
  | .nil, .nil => true
  | _, _ => false

/-- `equalExprNode.Run` after both operands are evaluated -/
def opEq (v0 v1 : Val) : EvalM Bool := do
  if ifaceEq v0 v1 then return true
  match ← coerceF (toF v0 false) 0 with
  | some s0 =>
    match ← coerceF (toF v1 true) 0 with
    | some s1 => return s0 == s1
    | none => pure ()
  | none => pure ()
  match ← coerceS (toStr v0 false) with
  | some s0 =>
    match ← coerceS (toStr v1 true) with
    | some s1 => return s0 == s1
    | none => return false
  | none => pure ()
  return false   -- bool/bool and nil/nil were settled by `v0 == v1`

/-- the four ordering operators share one shape -/
def opCmp (fcmp : Float → Float → Bool) (scmp : String → String → Bool) (v0 v1 : Val) : EvalM Bool := do
  match ← coerceF (toF v0 false) 0 with
  | some s0 =>
    match ← coerceF (toF v1 true) 0 with
    | some s1 => return fcmp s0 s1
    | none => pure ()
  | none => pure ()
  match ← coerceS (toStr v0 false) with
  | some s0 =>
    match ← coerceS (toStr v1 true) with
    | some s1 => return scmp s0 s1
    | none => return false
  | none => pure ()
  return false

def numOr0 (c : Coerce Float) : EvalM Float :=
  match c with
  | .ok f => pure f
  | .no => pure 0
  | .unsupported => throw (.unsupported "ParseFloat")

/-- `Run` on an `ExprNode`.  Operand nodes carry their own `run`; a nil node is a method call on a
nil interface. -/
def evalTree (env : Env) : Node → EvalM Val
  | .nil => throw (.fault (.panic "nil.Run"))
  | .leaf o => o.run env
  | .node op l r =>
    match op with
    | .add => do
      let v0 ← evalTree env l
      let v1 ← evalTree env r
      match ← coerceF (toF v0 false) 0 with
      | some s0 => return .num (s0 + (← numOr0 (toF v1 true)))
      | none =>
        match ← coerceS (toStr v0 false) with
        | some s0 =>
          let s1 ← coerceS (toStr v1 true)
          return .str (s0 ++ s1.getD "")
        | none => return v0
    | .mul => do
      let v0 ← numOr0 (toF (← evalTree env l) true)
      let v1 ← numOr0 (toF (← evalTree env r) true)
      return .num (v0 * v1)
    | .sub => do
      let v0 ← numOr0 (toF (← evalTree env l) true)
      let v1 ← numOr0 (toF (← evalTree env r) true)
      return .num (v0 - v1)
    | .div => do
      let v1 ← numOr0 (toF (← evalTree env r) true)
      if v1 == 0 then return .num (0.0 / 0.0)
      let v0 ← numOr0 (toF (← evalTree env l) true)
      return .num (v0 / v1)
    | .rem => do
      let v1 ← numOr0 (toF (← evalTree env r) true)
      -- `if v1 == 0 || int64(v1) == 0 { return math.NaN() }`
      if v1 == 0 || toInt64 v1 == 0 then return .num (0.0 / 0.0)
      let v0 ← numOr0 (toF (← evalTree env l) true)
      return .num (intToFloat (Int.tmod (toInt64 v0) (toInt64 v1)))
    | .eq => do
      let v0 ← evalTree env l
      let v1 ← evalTree env r
      return .bool (← opEq v0 v1)
    | .ne => do
      let v0 ← evalTree env l
      let v1 ← evalTree env r
      return .bool (!(← opEq v0 v1))
    | .gt => do
      let v0 ← evalTree env l
      let v1 ← evalTree env r
      return .bool (← opCmp (· > ·) (· > ·) v0 v1)
    | .ge => do
      let v0 ← evalTree env l
      let v1 ← evalTree env r
      return .bool (← opCmp (· >= ·) (· >= ·) v0 v1)
    | .lt => do
      let v0 ← evalTree env l
      let v1 ← evalTree env r
      return .bool (← opCmp (· < ·) (· < ·) v0 v1)
    | .le => do
      let v0 ← evalTree env l
      let v1 ← evalTree env r
      return .bool (← opCmp (· <= ·) (· <= ·) v0 v1)
    | .and => do
      if !fakeBool (← evalTree env l) then return .bool false
      if !fakeBool (← evalTree env r) then return .bool false
      return .bool true
    | .or => do
      if fakeBool (← evalTree env l) then return .bool true
      if fakeBool (← evalTree env r) then return .bool true
      return .bool false


/-! ## lexer -/

/-- `unicode.IsSpace` on ASCII -/
def isSpace (c : Char) : Bool := c == ' ' || (9 ≤ c.toNat && c.toNat ≤ 13)

def trimLeft (s : List Char) : List Char := s.dropWhile isSpace

/-- loop of `readPairedSymbol`: `acc` is the text kept so far (reversed); an escaped delimiter
drops the backslash before it (`escapeIndexes[i-1]`) -/
def pairedLoop (left right : Char) : List Char → Char → Char → Nat → Nat → List Char → Option (List Char × List Char)
  | [], _, _, _, _, _ => none
  | r :: t, last1, last2, ll, rl, acc =>
    let real := last1 != '\\' || last2 == '\\'
    if r == right then
      if real then
        if ll == rl then some (acc.reverse, t)
        else pairedLoop left right t r last1 ll (rl + 1) (r :: acc)
      else pairedLoop left right t r last1 ll rl (r :: acc.tail)
    else if r == left then
      if real then pairedLoop left right t r last1 (ll + 1) rl (r :: acc)
      else pairedLoop left right t r last1 ll rl (r :: acc.tail)
    else pairedLoop left right t r last1 ll rl (r :: acc)

/-- `readPairedSymbol(p, left, right)`: the text between the delimiters and the rest -/
def readPaired (s : List Char) (left right : Char) : Option (List Char × List Char) :=
  match s with
  | c :: t => if c == left then pairedLoop left right t left (Char.ofNat 0) 0 0 [] else none
  | [] => none

/-- `getOpposite(expr, cutset)` for a one-character cutset -/
def getOpposite (s : List Char) (cut : Char) : List Char × Option Bool :=
  let last := s.dropWhile (· == cut)
  let n := s.length - last.length
  (last, if n == 0 then none else some (n % 2 == 1))

/-- `getBoolAndSignOpposite` -/
def getBoolSign (s : List Char) : List Char × Option Bool × Option Bool :=
  let (last, bo) := getOpposite s '!'
  let last := last.dropWhile (· == '+')
  let (last, so) := getOpposite last '-'
  (last.dropWhile (· == '+'), bo, so)

def inSet (set : String) (c : Char) : Bool := set.toList.contains c

def selDelims : String := ")[],+-*/%><|&!=^ \t\\"
def digDelims : String := ")],+-*/%><|&!=^ \t\\"
def wordDelims : String := ")],|&!= \t"

/-- `(delim|$)` at the head of the rest of the input -/
def atDelim (set : String) (s : List Char) : Bool :=
  match s with
  | [] => true
  | c :: _ => inSet set c

def isNameStart (c : Char) : Bool := c.isAlpha || c == '_'
def isNameChar (c : Char) : Bool := c.isAlphanum || c == '_' || c == '.'
def isIdentChar (c : Char) : Bool := c.isAlphanum || c == '_'

def startsWith (s : List Char) (p : String) : Bool := p.toList.isPrefixOf s

/-- `parseOperator` -/
def parseOperator (s : List Char) : Option (Op × List Char) :=
  match s with
  | a :: b :: t =>
    if a == '|' && b == '|' then some (.or, t)
    else if a == '&' && b == '&' then some (.and, t)
    else if a == '=' && b == '=' then some (.eq, t)
    else if a == '>' && b == '=' then some (.ge, t)
    else if a == '<' && b == '=' then some (.le, t)
    else if a == '!' && b == '=' then some (.ne, t)
    else if a == '+' then some (.add, b :: t)
    else if a == '-' then some (.sub, b :: t)
    else if a == '*' then some (.mul, b :: t)
    else if a == '/' then some (.div, b :: t)
    else if a == '%' then some (.rem, b :: t)
    else if a == '<' then some (.lt, b :: t)
    else if a == '>' then some (.gt, b :: t)
    else none
  | _ => none

/-! ### a small regular-expression subset for `regexp('…')` -/

inductive RxAtom where
  | any
  | set (neg : Bool) (ranges : List (Char × Char))

inductive RxQ where
  | one | star | plus | opt

structure Rx where
  bol : Bool
  items : List (RxAtom × RxQ)
  eol : Bool

def RxAtom.test (a : RxAtom) (c : Char) : Bool :=
  match a with
  | .any => c != '\n'
  | .set neg rs => (rs.any (fun r => r.1 ≤ c && c ≤ r.2)) != neg

def rxPlain (c : Char) : Bool := c.isAlphanum || c == ' ' || c == '_' || c == '-' || c == ',' || c == '@' || c == ':' || c == '/' || c == '#' || c == '=' || c == '!' || c == '<' || c == '>' || c == '%' || c == '&' || c == ';' || c == '~'

def rxClassBody : List Char → List (Char × Char) → Option (List (Char × Char) × List Char)
  | [], _ => none
  | ']' :: t, acc => some (acc.reverse, t)
  | a :: '-' :: b :: t, acc =>
    if b == ']' then (if rxPlain a || a == '.' then rxClassBody ('-' :: b :: t) ((a, a) :: acc) else none)
    else if (a.isAlphanum) && (b.isAlphanum) && a ≤ b then rxClassBody t ((a, b) :: acc) else none
  | a :: t, acc => if (rxPlain a || a == '.') && a != '-' || (a == '-' ) then rxClassBody t ((a, a) :: acc) else none

def rxQuant (s : List Char) : RxQ × List Char :=
  match s with
  | '*' :: t => (.star, t)
  | '+' :: t => (.plus, t)
  | '?' :: t => (.opt, t)
  | t => (.one, t)

/-- items up to the end; `none` = syntax outside the subset -/
def rxItems : Nat → List Char → List (RxAtom × RxQ) → Option (List (RxAtom × RxQ) × Bool)
  | 0, _, _ => none
  | _ + 1, [], acc => some (acc.reverse, false)
  | _ + 1, ['$'], acc => some (acc.reverse, true)
  | n + 1, c :: t, acc =>
    let atom : Option (RxAtom × List Char) :=
      if c == '.' then some (.any, t)
      else if c == '[' then
        (match t with
         | '^' :: t2 => (rxClassBody t2 []).bind (fun (rs, r) => if rs.isEmpty then none else some (.set true rs, r))
         | _ => (rxClassBody t []).bind (fun (rs, r) => if rs.isEmpty then none else some (.set false rs, r)))
      else if c == '\\' then
        (match t with
         | 'd' :: t2 => some (.set false [('0', '9')], t2)
         | 'w' :: t2 => some (.set false [('0', '9'), ('A', 'Z'), ('_', '_'), ('a', 'z')], t2)
         | '.' :: t2 => some (.set false [('.', '.')], t2)
         | _ => none)
      else if rxPlain c then some (.set false [(c, c)], t)
      else none
    match atom with
    | none => none
    | some (a, r) =>
      let (q, r2) := rxQuant r
      match r2 with
      | '*' :: _ | '+' :: _ | '?' :: _ => none     -- stacked / lazy quantifiers: outside the subset
      | _ => rxItems n r2 ((a, q) :: acc)

def rxParse (p : List Char) : Option Rx :=
  let (bol, r) := match p with
    | '^' :: r => (true, r)
    | r => (false, r)
  (rxItems (p.length + 1) r []).map (fun (items, eol) => { bol, items, eol })

def rxStar (p : Char → Bool) (k : List Char → Bool) : List Char → Bool
  | [] => k []
  | c :: cs => k (c :: cs) || (p c && rxStar p k cs)

def rxMatchItems : List (RxAtom × RxQ) → (List Char → Bool) → List Char → Bool
  | [], k, s => k s
  | (a, q) :: items, k, s =>
    let rest := rxMatchItems items k
    match q with
    | .one => (match s with | c :: cs => a.test c && rest cs | [] => false)
    | .opt => (match s with | c :: cs => (a.test c && rest cs) || rest s | [] => rest s)
    | .star => rxStar a.test rest s
    | .plus => (match s with | c :: cs => a.test c && rxStar a.test rest cs | [] => false)

def rxSearch (f : List Char → Bool) : List Char → Bool
  | [] => f []
  | c :: cs => f (c :: cs) || rxSearch f cs

/-- `re.MatchString(s)` -/
def Rx.matches (re : Rx) (s : String) : Bool :=
  let k : List Char → Bool := fun r => if re.eol then r.isEmpty else true
  if re.bol then rxMatchItems re.items k s.toList else rxSearch (rxMatchItems re.items k) s.toList

/-! ### operands -/

def shapeOf : Node → String
  | .nil => "~"
  | .leaf o => o.shape
  | .node op l r => "(" ++ shapeOf l ++ op.sym ++ shapeOf r ++ ")"

/-- `groupExprNode.Run`: a group with no right operand is nil whatever its prefix -/
def groupRun (sub : Node) (bo so : Option Bool) (env : Env) : EvalM Val :=
  match sub with
  | .nil => pure .nil
  | t => do return realValue (← evalTree env t) bo so

def groupNode (sub : Node) (bo so : Option Bool) : Operand :=
  { shape := "G[" ++ shapeOf sub ++ "]", run := groupRun sub bo so }

def lookupField (env : Env) (field : String) : Val :=
  match env.fields.find? (fun kv => kv.1 == (if field.isEmpty then env.cur else field)) with
  | some kv => kv.2
  | none => .nil

def selectorNode (field : String) (bo so : Option Bool) : Operand :=
  { shape := "$", run := fun env => pure (realValue (lookupField env field) bo so) }

inductive Sel where
  | found (field : String) (bo so : Option Bool) (rest : List Char)
  | notFound
  | unsupported

/-- `findSelector` (sub-selectors `$[…]` are outside the modelled subset) -/
def findSelector (s : List Char) : Sel :=
  let prefix_ := s.takeWhile (inSet "!+-")
  let r := s.dropWhile (inSet "!+-")
  let named : Option (String × List Char) :=
    match r with
    | '$' :: _ => some ("", r)
    | '(' :: r1 =>
      let r2 := r1.dropWhile (inSet " \t")
      (match r2 with
       | c :: _ =>
         if isNameStart c then
           let nm := r2.takeWhile isNameChar
           -- `[A-Za-z_]+[A-Za-z0-9_\.]*`: the whole run of name characters
           let r3 := (r2.dropWhile isNameChar).dropWhile (inSet " \t")
           (match r3 with
            | ')' :: r4 => some (String.ofList nm, r4)
            | _ => none)
         else none
       | [] => none)
    | _ => none
  match named with
  | none => .notFound
  | some (field, r) =>
    match r with
    | '$' :: rest =>
      if !atDelim selDelims rest then .notFound
      else
        match rest with
        | '[' :: _ => if (readPaired rest '[' ']').isSome then .unsupported else
            (let (_, bo, so) := getBoolSign prefix_; .found field (if prefix_.isEmpty then none else bo) (if prefix_.isEmpty then none else so) rest)
        | _ =>
          let (_, bo, so) := getBoolSign prefix_
          .found field (if prefix_.isEmpty then none else bo) (if prefix_.isEmpty then none else so) rest
    | _ => .notFound

/-- `digitalRegexp`: `^[\+\-]?\d+(\.\d+)?(delim|$)`; returns sign, digits, fraction digits, rest -/
def readDigits (s : List Char) : Option (Bool × List Char × List Char × List Char) :=
  let (neg, r) := match s with
    | '-' :: r => (true, r)
    | '+' :: r => (false, r)
    | r => (false, r)
  let ip := r.takeWhile Char.isDigit
  let r1 := r.dropWhile Char.isDigit
  if ip.isEmpty then none
  else
    match r1 with
    | '.' :: r2 =>
      let fp := r2.takeWhile Char.isDigit
      let r3 := r2.dropWhile Char.isDigit
      if !fp.isEmpty && atDelim digDelims r3 then some (neg, ip, fp, r3)
      else none     -- `1.` / `1.5x`: without the fraction the next character is `.`, not a delimiter
    | _ => if atDelim digDelims r1 then some (neg, ip, [], r1) else none

def constNode (shape : String) (v : Val) : Operand := { shape, run := fun _ => pure v }

def lenFn (args : List Val) : Val :=
  match args with
  | [.str s] => .num (natToFloat s.utf8ByteSize)
  | [.ints l] => .num (natToFloat l.length)
  | [.strs l] => .num (natToFloat l.length)
  | _ => .num 0

def inFn : List Val → Val
  | [] => .bool true
  | [_] => .bool false
  | elem :: set => .bool (set.any (fun e => ifaceEq elem e))

/-- the function body behind a `funcExprNode`: the built-ins `len` and `in`, and the two functions
the harness registers as scheduling points: `vdpt`, a validator function registered through
`ValidateConfig.MustRegValidateFunc` (it reports no error whatever its arguments are, which
`validator.RegFunc` turns into `true`), and `vdid`, registered with `tagexpr.RegFunc`, which returns
its first argument (nil without one). -/
def applyFn (name : String) (vs : List Val) : Val :=
  if name == "len" then lenFn vs else if name == "in" then inFn vs
  else if name == "vdid" then (match vs with | v :: _ => v | [] => .nil)
  else .bool true

def funcNode (name : String) (args : List Operand) (bo so : Option Bool) : Operand :=
  { shape := "F[" ++ ";".intercalate (args.map (·.shape)) ++ "]",
    run := fun env => do
      let vs ← args.mapM (fun a => a.run env)
      let r := applyFn name vs
      return realValue r bo so }

def regexpNode (re : Rx) (neg : Bool) (arg : Operand) : Operand :=
  { shape := "R[" ++ arg.shape ++ "]",
    run := fun env => do
      match ← arg.run env with
      | .str s => return .bool (re.matches s != neg)
      | _ => return .bool false }

def liftSort (t : Node) : Except PErr Node :=
  match Tree.sortPriority t with
  | .ok (some t') => .ok t'
  | .ok none => .error .fuel
  | .error f => .error (.fault f)

mutual
/-- `parseExprNode(expr, e)`; `cur` is the operator node `e` with its left operand (none: `e` is
the group holding the expression).  Returns the tree hanging under the holder and the unread rest. -/
def parseExprNode : Nat → List Char → Option (Op × Node) → Except PErr (Node × List Char)
  | 0, _, _ => .error .fuel
  | n + 1, s, cur =>
    let s := trimLeft s
    if s.isEmpty then
      .ok ((match cur with | none => .nil | some (op, l) => .node op l .nil), [])
    else
      match readOperand n s with
      | .error e => .error e
      | .ok (operand, s1) =>
        let s2 := trimLeft s1
        match parseOperator s2 with
        | none => .ok (Tree.close cur (.leaf operand), s2)
        | some (op, s3) => parseExprNode n s3 (some (op, Tree.close cur (.leaf operand)))

/-- the operand alternatives of `parseExprNode` and `parseOperand`, in source order -/
def readOperand : Nat → List Char → Except PErr (Operand × List Char)
  | 0, _ => .error .fuel
  | n + 1, s =>
    match findSelector s with
    | .unsupported => .error (.unsupported "sub-selector")
    | .found field bo so rest => .ok (selectorNode field bo so, rest)
    | .notFound =>
    if (s.dropWhile (inSet "!+-")).head? == some '#' then .error (.unsupported "range-kv") else
    let (last, bo, so) := getBoolSign s
    match readPaired last '(' ')' with
    | some (sub, rest) =>
      -- readGroupExprNode
      (match parseExprNode n sub none with
       | .error e => .error e
       | .ok (t, _) =>
         match liftSort t with
         | .error e => .error e
         | .ok t' => .ok (groupNode t' bo so, rest))
    | none =>
    -- parseOperand: registered functions first
    if startsWith s "sprintf(" || startsWith last "range(" || startsWith last "mblen(" then
      .error (.unsupported "func")
    else if startsWith last "regexp(" then
      (match readPaired (last.drop 6) '(' ')' with
       | none => .error (.unsupported "regexp-unbalanced")
       | some (sub, rest) =>
         match readPaired (trimLeft sub) '\'' '\'' with
         | none => .error (.unsupported "regexp-pattern")
         | some (pat, sub2) =>
           match rxParse pat with
           | none => .error (.unsupported "regexp-syntax")
           | some re =>
             let sub2 := trimLeft sub2
             let parsed : Except PErr (Node × List Char) :=
               match sub2 with
               | ',' :: sub3 => parseExprNode n (trimLeft sub3) none
               | _ => .ok (.leaf (selectorNode "" none none), sub2)
             match parsed with
             | .error .syntax => .error (.unsupported "regexp-arg")
             | .error e => .error e
             | .ok (t, sub4) =>
               if !(trimLeft sub4).isEmpty then .error (.unsupported "regexp-trailing")
               else
                 match liftSort t with
                 | .error e => .error e
                 | .ok t' => .ok (regexpNode re (bo == some true) (groupNode t' none none), rest))
    else if startsWith last "len(" || startsWith last "in(" || startsWith last "vdpt(" || startsWith last "vdid(" then
      let name := if startsWith last "len(" then "len" else if startsWith last "in(" then "in"
        else if startsWith last "vdpt(" then "vdpt" else "vdid"
      (match readPaired (last.drop name.length) '(' ')' with
       | none => .error (.unsupported "func-unbalanced")
       | some (sub, rest) =>
         match parseArgs n (',' :: sub) [] with
         | .error .syntax => .error (.unsupported "func-arg")
         | .error e => .error e
         | .ok args => .ok (funcNode name args bo so, rest))
    else
    -- readStringExprNode
    match readPaired last '\'' '\'' with
    | some (str, rest) => .ok (constNode "s" (realValue (.str (String.ofList str)) bo none), rest)
    | none =>
    -- readDigitalExprNode
    let (lastB, boB) := getOpposite s '!'
    match readDigits lastB with
    | some (neg, ip, fp, rest) => .ok (constNode "n" (realValue (.num (decToFloat neg ip fp)) boB none), rest)
    | none =>
    -- readBoolExprNode: `^!*(true|false)(delim|$)`
    if startsWith lastB "true" && atDelim wordDelims (lastB.drop 4) then
      .ok (constNode "b" (.bool ((s.length - lastB.length) % 2 == 0)), lastB.drop 4)
    else if startsWith lastB "false" && atDelim wordDelims (lastB.drop 5) then
      .ok (constNode "b" (.bool ((s.length - lastB.length) % 2 == 1)), lastB.drop 5)
    -- readNilExprNode
    else if startsWith lastB "nil" && atDelim wordDelims (lastB.drop 3) then
      .ok (constNode "z" (realValue .nil boB none), lastB.drop 3)
    -- readVariableExprNode: no environment is ever supplied by the validator, so the value is nil
    else
      match lastB with
      | c :: _ =>
        if isNameStart c && c != '.' then .ok (constNode "v" .nil, lastB.dropWhile isIdentChar)
        else .error .syntax
      | [] => .error .syntax

/-- the argument loop of `parseFuncSign`; the input starts with the `,` Go prepends -/
def parseArgs : Nat → List Char → List Operand → Except PErr (List Operand)
  | 0, _, _ => .error .fuel
  | n + 1, s, acc =>
    match s with
    | ',' :: s1 =>
      (match parseExprNode n (trimLeft s1) none with
       | .error e => .error e
       | .ok (t, s2) =>
         match liftSort t with
         | .error e => .error e
         | .ok t' =>
           let acc := groupNode t' none none :: acc
           let s3 := trimLeft s2
           if s3.isEmpty then .ok acc.reverse else parseArgs n s3 acc)
    | _ => .error (.unsupported "func-args")
end

/-- `parseExpr`: the sorted tree under the root group -/
def parseExpr (s : List Char) : Except PErr Node :=
  match parseExprNode (4 * s.length + 8) s none with
  | .error e => .error e
  | .ok (t, _) => liftSort t

inductive Verdict where
  | accept | reject | compileError | panic (site : String) | unsupported (what : String)

/-- what `Validator.Validate` makes of one `vd` expression: nil result or truthy ⇒ accepted -/
def validate (expr : List Char) (env : Env) : Verdict × Option Val :=
  match parseExpr expr with
  | .error .syntax => (.compileError, none)
  | .error (.unsupported w) => (.unsupported w, none)
  | .error .fuel => (.unsupported "fuel", none)
  | .error (.fault (.panic s)) => (.panic s, none)
  | .ok t =>
    match groupRun t none none env with
    | .error (.fault (.panic s)) => (.panic s, none)
    | .error (.unsupported w) => (.unsupported w, none)
    | .ok .nil => (.accept, some .nil)
    | .ok v => (if fakeBool v then .accept else .reject, some v)

end Hertz.Tagexpr
