import Hertz.Model.Uri
import Hertz.Model.ArgsProg
/-!
The remaining mutators of `pkg/protocol/uri.go` as programs over ONE `URI` object: `Parse`, `SetScheme/SetHost/SetPath/SetHash`,
`SetQueryString`, `SetUsername/SetPassword`, mutation through `QueryArgs()`, `Update/UpdateBytes`, `Reset`.
Extends `Model/Uri.lean` (`parse` is used as it is; `FullURI()` of a state is `URI.fullURIp` with the state's flag and list).

State of the object = the `URI` record + the two fields behind `QueryArgs()`: the visible entries of `queryArgs` and the flag
`parsedQueryArgs`.

What the Go code does (uri.go), stated exactly:
* user-info: `parse` cuts `user[:password]@` off the front of the host (first `@`, then first `:` inside) into
  `username`/`password`; the setters only store bytes; NOTHING writes them: `appendSchemeHost` is `Scheme() :// Host()`.
  So user-info never reaches `FullURI()` and a re-parse has none.
* `RequestURI()` chooses by `parsedQueryArgs`: flag set → `?` + `queryArgs.AppendBytes` when
  `queryArgs.Len() > 0`, and NO query when the list is empty; flag clear → `?` + `queryString` when that is non-empty.
  `SetQueryString` / `Update("?…")` store the string and clear only the flag (the old entries stay in `queryArgs`, unseen);
  a mutation through `QueryArgs()` never touches `queryString` (it may be out of date, unseen while the flag is set).  So
  the query written is always the query `QueryArgs()` reports, also in the two situations `UState.staleQuery`
  (`uri_stale_query_repaired` in `Props/C17.lean`: regression for /repo 97b0e80).
* `updateBytes(newURI)`: empty → nothing; contains `//` ANYWHERE → `Parse(nil, newURI)` (with `scheme ":"` prefixed - the raw
  field, possibly empty - when `//` is at position 0), the old scheme kept if the new one is empty; starts with `/` →
  `Parse(nil, Scheme()://Host() + newURI)`; `?…` → `SetQueryStringBytes` (everything after `?`, a `#` included); `#…` →
  `SetHashBytes`; else → `Parse(nil, Scheme()://Host() + quotePath(Path() up to its last '/') + newURI)`, panicking if
  `Path()` has no `/`.
-/
namespace Hertz.Uri
open Hertz Hertz.Gen.Str

structure UState where
  u : URI := {}
  /-- visible entries of `u.queryArgs` -/
  args : List ArgKV := []
  /-- `u.parsedQueryArgs` -/
  parsed : Bool := false
deriving Repr, DecidableEq

/-- `URI.FullURI()`: the flag decides between the argument list and the raw query string -/
def UState.fullURI (st : UState) : Bytes := st.u.fullURIp st.parsed st.args

/-- `URI.parseQueryArgs()` (what `QueryArgs()` does first) -/
def UState.parseQA (st : UState) : UState :=
  if st.parsed then st else { st with args := parseArgs st.u.query, parsed := true }

/-- what `QueryArgs()` reports (without changing the object) -/
def UState.queryView (st : UState) : List ArgKV := st.parseQA.args

/-- `URI.Parse(host, uri)`: `Reset` clears the argument list and the flag -/
def UState.ofParse (host uri : Bytes) : UState := { u := parse host uri }

/-- `bytes.LastIndexByte(b, c)` -/
def lastIndexOf (c : UInt8) (b : Bytes) : Option Nat :=
  (indexOf c b.reverse).map (fun i => b.length - 1 - i)

/-- `URI.updateBytes`; `none` = panic ("BUG: path must contain at least one slash") -/
def UState.update (st : UState) (newURI : Bytes) : Option UState :=
  match newURI with
  | [] => some st
  | c0 :: _ =>
    if containsSub strSlashSlash newURI then
      let text := if strSlashSlash.isPrefixOf newURI then st.u.scheme ++ strColon ++ newURI else newURI
      let p := parse [] text
      some { u := if !st.u.scheme.isEmpty && p.scheme.isEmpty then { p with scheme := st.u.scheme } else p }
    else if c0 = 47 then
      some (UState.ofParse [] (st.u.schemeOrHTTP ++ strColonSlashSlash ++ st.u.host ++ newURI))
    else if c0 = 63 then
      some { st with u := { st.u with query := newURI.drop 1 }, parsed := false }
    else if c0 = 35 then
      some { st with u := { st.u with hash := newURI.drop 1 } }
    else
      match lastIndexOf 47 st.u.pathOrSlash with
      | none => none
      | some n =>
        some (UState.ofParse [] (st.u.schemeOrHTTP ++ strColonSlashSlash ++ st.u.host ++
          quotePath (st.u.pathOrSlash.take (n + 1)) ++ newURI))

inductive UriOp where
  | parse (host uri : Bytes)
  | setScheme (b : Bytes)
  | setHost (b : Bytes)
  | setPath (b : Bytes)
  | setHash (b : Bytes)
  | setQueryString (b : Bytes)
  | setUsername (b : Bytes)
  | setPassword (b : Bytes)
  | args (op : ArgOp)          -- `u.QueryArgs().Add/Set/Del/ParseBytes/Reset`
  | update (b : Bytes)
  | reset
deriving Repr, DecidableEq

def UState.step (st : UState) : UriOp → Option UState
  | .parse host uri => some (UState.ofParse host uri)
  | .setScheme b => some { st with u := { st.u with scheme := b.map toLower } }
  | .setHost b => some { st with u := { st.u with host := b.map toLower } }
  | .setPath b => some { st with u := { st.u with pathOriginal := b, path := normalizePath b } }
  | .setHash b => some { st with u := { st.u with hash := b } }
  | .setQueryString b => some { st with u := { st.u with query := b }, parsed := false }
  | .setUsername b => some { st with u := { st.u with username := b } }
  | .setPassword b => some { st with u := { st.u with password := b } }
  | .args op => some { st.parseQA with args := argStep st.parseQA.args op }
  | .update b => st.update b
  | .reset => some {}

/-- run a program on a reset URI; `none` = a panic on the way -/
def runUriOps (ops : List UriOp) : Option UState := ops.foldlM UState.step {}

/-- The two situations in which flag and list disagree with the other field: the arguments were used and then a new query
string was set (`SetQueryString`, `Update("?…")`) - old arguments are still in the list, flag clear; or the arguments were
parsed and all deleted - the old query string is still there, flag set.  `FullURI()` writes what `QueryArgs()` reports
here too (`uri_program_roundtrip`, `uri_stale_query_repaired`); the driver tags the cases that reach these states. -/
def UState.staleQuery (st : UState) : Bool :=
  (!st.parsed && !st.args.isEmpty) || (st.parsed && st.args.isEmpty && !st.u.query.isEmpty)

/-- `URI.LastPathSegment()` -/
def URI.lastPathSegment (u : URI) : Bytes :=
  match lastIndexOf 47 u.pathOrSlash with
  | none => u.pathOrSlash
  | some n => u.pathOrSlash.drop (n + 1)

end Hertz.Uri
