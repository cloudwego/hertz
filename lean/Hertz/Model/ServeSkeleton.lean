import Hertz.Model.Tracer
/-!
C19 — the tracer-relevant control-flow skeleton of `Server.Serve`, written out by hand as a tree
(`serveSk`) and pinned to the token list the translator `/verif/gen/c19.go` extracts from the Go source
(`Hertz.Gen.ServeSkeleton.tokens`) by `Props.C19.model_matches_gen`.  `iterPaths` enumerates every
control-flow path through one loop iteration (deferred function included when the path returns), with
the bookkeeping needed to say "every push has its pop" and "Start and Finish alternate".
-/
namespace Hertz.Tracer

inductive Cond where
  | enableTrace    -- `s.EnableTrace`
  | traceStarted   -- `traceStarted`
  | hasStack       -- `eventsToTrigger != nil`
  | other          -- anything else (opaque)
deriving DecidableEq, Repr

inductive RetK where
  | bare | nil | unexpectedEOF | shortConnection
deriving DecidableEq, Repr

inductive Atom where
  | doStart | doFinishErr | doFinishNil
  | record (e : Ev) | push (e : Ev) | pop | popAll
  | setStarted (b : Bool) | getStack
  | serveHTTP | reset | putCtx
  | ret (k : RetK)
deriving DecidableEq, Repr

/-- statement lists: `next` is the rest of the enclosing block -/
inductive Sk where
  | nil
  | atom (a : Atom) (next : Sk)
  | iff (c : Cond) (thn els : Sk) (next : Sk)
  | loop (body : Sk) (next : Sk)
  | defer (body : Sk) (next : Sk)
deriving Repr

def Cond.tok : Cond → String
  | .enableTrace => "if EnableTrace{"
  | .traceStarted => "if traceStarted{"
  | .hasStack => "if hasStack{"
  | .other => "if ?{"

def recordTok : Ev → String
  | .httpStart => "Record HTTPStart" | .httpFinish => "Record HTTPFinish"
  | .readHeaderStart => "Record ReadHeaderStart" | .readHeaderFinish => "Record ReadHeaderFinish"
  | .readBodyStart => "Record ReadBodyStart" | .readBodyFinish => "Record ReadBodyFinish"
  | .handleStart => "Record ServerHandleStart" | .handleFinish => "Record ServerHandleFinish"
  | .writeStart => "Record WriteStart" | .writeFinish => "Record WriteFinish"

def pushTok : Ev → String
  | .httpStart => "push HTTPStart" | .httpFinish => "push HTTPFinish"
  | .readHeaderStart => "push ReadHeaderStart" | .readHeaderFinish => "push ReadHeaderFinish"
  | .readBodyStart => "push ReadBodyStart" | .readBodyFinish => "push ReadBodyFinish"
  | .handleStart => "push ServerHandleStart" | .handleFinish => "push ServerHandleFinish"
  | .writeStart => "push WriteStart" | .writeFinish => "push WriteFinish"

def Atom.tok : Atom → String
  | .doStart => "DoStart" | .doFinishErr => "DoFinish err" | .doFinishNil => "DoFinish nil"
  | .record e => recordTok e | .push e => pushTok e | .pop => "pop" | .popAll => "popAll"
  | .setStarted true => "traceStarted=true" | .setStarted false => "traceStarted=false"
  | .getStack => "getStack"
  | .serveHTTP => "ServeHTTP" | .reset => "reset" | .putCtx => "putCtx"
  | .ret .bare => "return" | .ret .nil => "return nil"
  | .ret .unexpectedEOF => "return errUnexpectedEOF" | .ret .shortConnection => "return errShortConnection"

/-- the token list the translator prints for this tree -/
def Sk.flatten : Sk → List String
  | .nil => []
  | .atom a n => a.tok :: n.flatten
  | .iff c t e n => c.tok :: (t.flatten ++ "}else{" :: (e.flatten ++ "}" :: n.flatten))
  | .loop b n => "for{" :: (b.flatten ++ "}" :: n.flatten)
  | .defer b n => "defer{" :: (b.flatten ++ "}" :: n.flatten)

/-! ### the skeleton of `Server.Serve` -/

private abbrev ret (k : RetK) : Sk := .atom (.ret k) .nil
/-- `if cond { return }` -/
private abbrev ifRet (n : Sk) : Sk := .iff .other (ret .bare) .nil n
private abbrev ifTrace (t : Sk) (n : Sk) : Sk := .iff .enableTrace t .nil n
/-- `if shouldRecordInTraceError(err) { DoFinish(cc, ctx, err) } else { DoFinish(cc, ctx, nil) }` -/
private abbrev finishFiltered (n : Sk) : Sk := .iff .other (.atom .doFinishErr .nil) (.atom .doFinishNil .nil) n

/-- the deferred function -/
def deferSk : Sk :=
  ifTrace
    (.iff .hasStack (.atom .popAll .nil) .nil <|
     .iff .traceStarted (finishFiltered .nil) .nil .nil) <|
  ifRet <|                      -- if ctx.IsExiled() { return }
  .atom .putCtx .nil

/-- the body of the `for` loop -/
def bodySk : Sk :=
  -- if connRequestNum > 1 { …; if err != nil { err = errIdleTimeout; return } … }
  .iff .other (ifRet .nil) .nil <|
  ifTrace (.atom .doStart <| .atom (.setStarted true) <| .atom (.record .readHeaderStart) <|
           .atom (.push .readHeaderFinish) .nil) <|
  -- if err = req.ReadHeader(…); err == nil { if s.EnableTrace { … } … }
  .iff .other (ifTrace (.atom .pop <| .atom (.record .readBodyStart) <| .atom (.push .readBodyFinish) .nil) .nil) .nil <|
  ifTrace (.atom .pop .nil) <|
  -- if err != nil { if ErrNothingRead { return nil }; if io.EOF { return errUnexpectedEOF }; …; return }
  .iff .other (.iff .other (ret .nil) .nil <| .iff .other (ret .unexpectedEOF) .nil <| ret .bare) .nil <|
  -- if ctx.Request.MayContinue() { if continueReadingRequest { three error returns } }
  .iff .other (.iff .other (ifRet <| ifRet <| ifRet .nil) .nil .nil) .nil <|
  ifTrace (.atom (.record .handleStart) <| .atom (.push .handleFinish) .nil) <|
  .atom .serveHTTP <|
  ifTrace (.atom .pop .nil) <|
  ifTrace (.atom (.record .writeStart) <| .atom (.push .writeFinish) .nil) <|
  ifRet <|                      -- writeResponse fails
  ifRet <|                      -- Flush fails
  ifTrace (.atom .pop .nil) <|
  .iff .other (ifRet .nil) .nil <|          -- body stream release fails
  .iff .other (ifRet <| ret .bare) .nil <|  -- hijack
  .iff .other (ret .shortConnection) .nil <|
  ifRet <|                      -- s.IdleTimeout == 0
  ifTrace (finishFiltered <| .atom (.setStarted false) .nil) <|
  .atom .reset .nil

def serveSk : Sk :=
  ifTrace (.atom .getStack .nil) <| .defer deferSk <| .loop bodySk .nil

/-! ### paths -/

/-- bookkeeping along a path -/
structure PSt where
  /-- `eventsToTrigger` -/
  stack : List Ev := []
  /-- the variable `traceStarted` -/
  started : Bool := false
  hasStack : Bool := false
  /-- a `Start` has been delivered and its `Finish` not yet -/
  opened : Bool := false
  /-- discipline so far: no `Start` while one is open, no `Finish` without an open `Start`, push/pop only on
  an allocated stack, no pop from an empty stack -/
  ok : Bool := true
  /-- tracer-relevant actions so far (statuses erased) -/
  acts : List Act := []
deriving DecidableEq, Repr

def PSt.emit (s : PSt) (a : List Act) : PSt := { s with acts := s.acts ++ a }

def PSt.step (s : PSt) : Atom → PSt
  | .doStart => { s.emit [.record .httpStart false, .start] with ok := s.ok && !s.opened, opened := true }
  | .doFinishErr | .doFinishNil =>
    { s.emit [.record .httpFinish false, .finish] with ok := s.ok && s.opened, opened := false }
  | .record e => s.emit [.record e false]
  | .push e => { s with stack := e :: s.stack, ok := s.ok && s.hasStack }
  | .pop =>
    match s.stack with
    | [] => { s with ok := false }
    | e :: t => { s.emit [.record e false] with stack := t, ok := s.ok && s.hasStack }
  | .popAll => { s.emit (s.stack.map (fun e => .record e false)) with stack := [] }
  | .setStarted b => { s with started := b }
  | .getStack => { s with hasStack := true }
  | .serveHTTP => s.emit [.handle]
  | .reset | .putCtx => s.emit [.reset]
  | .ret _ => s

/-- all paths through a statement list; the flag says the path left through `return` (or, at `ServeHTTP`,
through an unwinding panic).  `en` fixes `s.EnableTrace` for the whole run; `traceStarted` and
`eventsToTrigger != nil` are read from the bookkeeping; opaque conditions fork. -/
def Sk.exec (en : Bool) : Sk → PSt → List (PSt × Bool)
  | .nil, s => [(s, false)]
  | .atom a n, s =>
    match a with
    | .ret _ => [(s, true)]
    | .serveHTTP => (s.step a, true) :: n.exec en (s.step a)
    | _ => n.exec en (s.step a)
  | .iff c t e n, s =>
    let bs := match c with
      | .enableTrace => if en then t.exec en s else e.exec en s
      | .traceStarted => if s.started then t.exec en s else e.exec en s
      | .hasStack => if s.hasStack then t.exec en s else e.exec en s
      | .other => t.exec en s ++ e.exec en s
    bs.flatMap (fun r => if r.2 then [r] else n.exec en r.1)
  | .loop b _, s => b.exec en s          -- one iteration; the caller closes the loop
  | .defer _ n, s => n.exec en s         -- registration only; the caller runs the body at exit

/-- state at the loop head (what the statements before the loop leave behind) -/
def headState (en : Bool) : PSt := { hasStack := en }

/-- every path from the entry of `Serve` through one loop iteration: those that fall through to the
loop end (`false`) and those that leave `Serve`, continued through the deferred function (`true`) -/
def iterPaths (en : Bool) : List (PSt × Bool) :=
  (serveSk.exec en {}).flatMap (fun r =>
    if r.2 then (deferSk.exec en r.1).map (fun d => (d.1, true)) else [r])

/-- what the functional model's action lists are compared with: statuses and `SetError` dropped -/
def eraseActs : List Act → List Act
  | [] => []
  | .record e _ :: t => .record e false :: eraseActs t
  | .setError :: t => eraseActs t
  | a :: t => a :: eraseActs t

end Hertz.Tracer
