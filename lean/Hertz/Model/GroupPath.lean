import Hertz.Model.Route
/-!
`RouterGroup` path assembly (`pkg/route/routergroup.go`: `Group`, `handle`, `calculateAbsolutePath`,
`joinPaths`, `lastChar`) and the standard-library functions it calls, `path.Join` and `path.Clean`
(NOT hertz's `utils.CleanPath`, which is `Model/Path.lean:cleanPath`).

`path.Clean` is modelled on the elements of the path (maximal runs of non-`/` bytes): the Go loop is at the
start of an element whenever it inspects `path[r]`, its first case skips `/`, its second the element `.`,
its third handles `..`, the default case copies an element.  `out` is kept reversed (`rout`, head = last
byte written), `dd` is `dotdot`.  Held to the real `path.Clean` / `path.Join` by ops `pclean` / `pjoin`.
-/
namespace Hertz.Route.GroupPath
open Hertz.Route

/-- the non-empty elements between slashes -/
def elemsGo : Bytes → Bytes → List Bytes
  | cur, [] => if cur.isEmpty then [] else [cur]
  | cur, c :: r => if c = 47 then (if cur.isEmpty then elemsGo [] r else cur :: elemsGo [] r) else elemsGo (cur ++ [c]) r

def elems (p : Bytes) : List Bytes := elemsGo [] p

structure CS where
  rout : Bytes
  dd : Nat
  deriving Repr, DecidableEq

/-- `out.w--; for out.w > dotdot && out.index(out.w) != '/' { out.w-- }` continued: `last` = `out.index(out.w)` -/
def popGo : Bytes → Nat → UInt8 → Bytes
  | [], _, _ => []
  | c :: r, dd, last => if (c :: r).length > dd && last != 47 then popGo r dd c else c :: r

def pop (rout : Bytes) (dd : Nat) : Bytes :=
  match rout with
  | [] => []
  | c :: r => popGo r dd c

/-- one element of the `for r < n` loop of `path.Clean` -/
def cleanStep (rooted : Bool) (st : CS) (e : Bytes) : CS :=
  if e = [46] then st
  else if e = [46, 46] then
    if st.rout.length > st.dd then { st with rout := pop st.rout st.dd }
    else if !rooted then
      let r2 : Bytes := 46 :: 46 :: (if st.rout.length > 0 then 47 :: st.rout else st.rout)
      { rout := r2, dd := r2.length }
    else st
  else
    { st with rout := e.reverse ++
        (if (rooted && st.rout.length != 1) || (!rooted && st.rout.length != 0) then 47 :: st.rout else st.rout) }

/-- `path.Clean` -/
def pathClean (p : Bytes) : Bytes :=
  match p with
  | [] => [46]
  | c :: _ =>
    let rooted := c == 47
    let st0 : CS := if rooted then ⟨[47], 1⟩ else ⟨[], 0⟩
    let st := (elems p).foldl (cleanStep rooted) st0
    if st.rout.isEmpty then [46] else st.rout.reverse

/-- `path.Join(a, b)` -/
def pathJoin2 (a b : Bytes) : Bytes :=
  if a.length + b.length = 0 then []
  else
    let buf1 : Bytes := if a ≠ [] then a else []
    let buf2 : Bytes := if buf1.length > 0 || b ≠ [] then (if buf1.length > 0 then buf1 ++ [47] else buf1) ++ b else buf1
    pathClean buf2

/-- `lastChar` (panics on the empty string) -/
def lastChar (s : Bytes) : Except Fault UInt8 :=
  match s.getLast? with
  | none => .error .assert
  | some c => .ok c

/-- `joinPaths(absolutePath, relativePath)` -/
def joinPaths (abs rel : Bytes) : Except Fault Bytes :=
  if rel = [] then .ok abs
  else
    let final := pathJoin2 abs rel
    match lastChar rel, lastChar final with
    | .ok a, .ok b => .ok (if a = 47 && b != 47 then final ++ [47] else final)
    | .error f, _ => .error f
    | _, .error f => .error f

/-- `basePath` of `engine.Group(p1).Group(p2)…`; the engine's own group has the default `opt.BasePath` = "/" -/
def groupBase : Bytes → List Bytes → Except Fault Bytes
  | base, [] => .ok base
  | base, p :: r =>
    match joinPaths base p with
    | .error f => .error f
    | .ok b => groupBase b r

/-- the path `RouterGroup.handle` passes to `engine.addRoute` -/
def absPattern (prefixes : List Bytes) (rel : Bytes) : Except Fault Bytes :=
  match groupBase [47] prefixes with
  | .error f => .error f
  | .ok b => joinPaths b rel

/-- registrations through groups: (prefixes of the nested groups, method, relative path, handler) -/
def addGroupRoutes : Engine → List (List Bytes × Bytes × Bytes × Nat) → Except Fault Engine
  | e, [] => .ok e
  | e, (pre, m, rel, h) :: r =>
    match absPattern pre rel with
    | .error f => .error f
    | .ok p =>
      match e.addRoute m p h with
      | .error f => .error f
      | .ok e' => addGroupRoutes e' r

/-- the flat list of absolute registrations (`none` when a path computation faults) -/
def flatten : List (List Bytes × Bytes × Bytes × Nat) → Option (List (Bytes × Bytes × Nat))
  | [] => some []
  | (pre, m, rel, h) :: r =>
    match absPattern pre rel, flatten r with
    | .ok p, some l => some ((m, p, h) :: l)
    | _, _ => none

end Hertz.Route.GroupPath
