import Hertz.Basic
import Hertz.Gen.Tables
/-!
Model of `internal/bytesconv` (quoting) and of the two percent-decoders of
`pkg/protocol/args.go`.  Tables come from `Hertz.Gen.Tables`, regenerated from the Go source.
-/
namespace Hertz

def hex2int (c : UInt8) : UInt8 := tget Gen.hex2intTable c
def toLower (c : UInt8) : UInt8 := tget Gen.toLowerTable c
def toUpper (c : UInt8) : UInt8 := tget Gen.toUpperTable c
def upperhex (n : UInt8) : UInt8 := tget Gen.upperhex n
def lowerhex (n : UInt8) : UInt8 := tget Gen.lowerhex n
def argShouldEscape (c : UInt8) : Bool := tget Gen.quotedArgShouldEscapeTable c != 0
def pathShouldEscape (c : UInt8) : Bool := tget Gen.quotedPathShouldEscapeTable c != 0

/-- The three bytes `%XY` (upper-case hex) that both quoting functions emit for an escaped byte. -/
def pctEnc (c : UInt8) : Bytes := [37, upperhex (c >>> 4), upperhex (c &&& 15)]

/-- `bytesconv.AppendQuotedArg(nil, src)` -/
def quoteArg : Bytes → Bytes
  | [] => []
  | c :: t =>
    (if c = 32 then [43] else if argShouldEscape c then pctEnc c else [c]) ++ quoteArg t

def quotePathBody : Bytes → Bytes
  | [] => []
  | c :: t => (if pathShouldEscape c then pctEnc c else [c]) ++ quotePathBody t

/-- `bytesconv.AppendQuotedPath(nil, src)` -/
def quotePath (src : Bytes) : Bytes :=
  if src = [42] then [42] else quotePathBody src

/-- Slow path of `decodeArgAppend` (`plus = true`) / `decodeArgAppendNoPlus` (`plus = false`). -/
def decodeSlow (plus : Bool) : Bytes → Bytes
  | [] => []
  | [c] => if plus && c == 43 then [32] else [c]
  | c :: d :: [] => if c = 37 then [c, d] else (if plus && c == 43 then 32 else c) :: decodeSlow plus (d :: [])
  | c :: a :: b :: rest =>
    if c = 37 then
      if hex2int a = 16 ∨ hex2int b = 16 then 37 :: decodeSlow plus (a :: b :: rest)
      else (hex2int a <<< 4 ||| hex2int b) :: decodeSlow plus rest
    else (if plus && c == 43 then 32 else c) :: decodeSlow plus (a :: b :: rest)
termination_by structural x => x

/-- `decodeArgAppend(nil, src)`: fast path when there is neither `%` nor `+`. -/
def decodeArg (src : Bytes) : Bytes :=
  if !src.contains 37 && !src.contains 43 then src else decodeSlow true src

/-- `decodeArgAppendNoPlus(nil, src)` -/
def decodeArgNoPlus (src : Bytes) : Bytes :=
  if !src.contains 37 then src else decodeSlow false src

end Hertz
