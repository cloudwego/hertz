import Hertz.Model.Bytesconv
/-!
C11 — hertz's own part of the multipart/form-data writer, first stage of `req.handleMultipart`
(`pkg/protocol/multipart.go`, `pkg/protocol/request.go`):

* `protocol.CreateMultipartHeader(param, fileName, contentType)`: `Content-Disposition: form-data; name="<param>"`, with
  `; filename="<fileName>"` iff `strings.TrimSpace(fileName)` is not empty — the two values are put between the quotes
  ESCAPED by hertz's own `escapeQuotes` (`\` → `\\`, `"` → `\"` as `mime/multipart`'s `CreateFormFile` does; CR → `%0D`,
  LF → `%0A`; `/repo` 865e699) — and `Content-Type: <contentType>` iff it is not empty;
* `AddMultipartFormField` / `WriteMultipartFormFile` (content type sniffed by `http.DetectContentType`, an input here):
  `multipart.Writer.CreatePart(header)` + the content;
* what `mime/multipart.Writer` adds: the delimiter line `--boundary CRLF` (from the second part on preceded by CRLF), the
  header lines sorted by name, an empty line, and at `Close` `CRLF --boundary-- CRLF`; `FormDataContentType`.

(Second stage: `handleMultipart` parses these bytes back with `multipart.Reader.ReadForm` and `MarshalMultipartForm`
writes the parsed form again, fields first in map order — what the parser made of the first stage decides what is sent.)
-/
namespace Hertz.Multipart
open Hertz

structure Part where
  name : Bytes
  fileName : Bytes := []
  ctype : Bytes := []
  content : Bytes := []
deriving Repr, DecidableEq

def crlf : Bytes := [13, 10]
def dashes : Bytes := [45, 45]

/-- `strings.TrimSpace(s) == ""` for ASCII white space (`\t \n \v \f \r` and SP; multi-byte Unicode spaces are not modelled) -/
def blank (s : Bytes) : Bool := s.all (fun c => c == 32 || (9 ≤ c && c ≤ 13))

/-- `form-data; name="` -/
def sDisp : Bytes := [102, 111, 114, 109, 45, 100, 97, 116, 97, 59, 32, 110, 97, 109, 101, 61, 34]
/-- `"; filename="` -/
def sFile : Bytes := [34, 59, 32, 102, 105, 108, 101, 110, 97, 109, 101, 61, 34]
/-- `Content-Disposition: ` -/
def sCD : Bytes := [67, 111, 110, 116, 101, 110, 116, 45, 68, 105, 115, 112, 111, 115, 105, 116, 105, 111, 110, 58, 32]
/-- `Content-Type: ` -/
def sCT : Bytes := [67, 111, 110, 116, 101, 110, 116, 45, 84, 121, 112, 101, 58, 32]
/-- `multipart/form-data; boundary=` -/
def sFDCT : Bytes := [109, 117, 108, 116, 105, 112, 97, 114, 116, 47, 102, 111, 114, 109, 45, 100, 97, 116, 97, 59, 32, 98, 111, 117, 110, 100, 97, 114, 121, 61]

/-- `escapeQuotes` (`quoteEscaper.Replace`): `\` → `\\`, `"` → `\"`, CR → `%0D`, LF → `%0A` -/
def escapeQ : Bytes → Bytes
  | [] => []
  | c :: t =>
    (if c = 92 then [92, 92] else if c = 34 then [92, 34] else if c = 13 then [37, 48, 68]
     else if c = 10 then [37, 48, 65] else [c]) ++ escapeQ t

/-- `strings.NewReplacer("\r", " ", "\n", " ")` on the content type -/
def cleanCT (v : Bytes) : Bytes := v.map (fun c => if c = 13 ∨ c = 10 then 32 else c)

/-- the `Content-Disposition` value of `CreateMultipartHeader` -/
def disposition (p : Part) : Bytes :=
  sDisp ++ escapeQ p.name ++ (if blank p.fileName then [34] else sFile ++ escapeQ p.fileName ++ [34])

/-- the header block `CreatePart` writes for the header of `CreateMultipartHeader` (keys sorted) -/
def partHead (p : Part) : Bytes :=
  sCD ++ disposition p ++ crlf ++ (if p.ctype.isEmpty then [] else sCT ++ cleanCT p.ctype ++ crlf) ++ crlf

def partsWire (b : Bytes) : Bool → List Part → Bytes
  | _, [] => []
  | first, p :: t => (if first then [] else crlf) ++ dashes ++ b ++ crlf ++ partHead p ++ p.content ++ partsWire b false t

/-- the whole body: parts, then `Writer.Close` -/
def wire (b : Bytes) (ps : List Part) : Bytes :=
  partsWire b true ps ++ crlf ++ dashes ++ b ++ dashes ++ crlf

/-- `Writer.FormDataContentType()` for a boundary without tspecials (the random boundary is 60 hex digits) -/
def formDataContentType (b : Bytes) : Bytes := sFDCT ++ b

end Hertz.Multipart
