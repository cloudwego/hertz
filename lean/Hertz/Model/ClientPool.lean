/-
C10 — the client connection pool of `pkg/protocol/http1/client.go`, modelled at lock-region
granularity: one event per critical section of `connsLock` / `wantConn.mu`
(`acquireConn`, `queueForIdle`, `releaseConn`, `closeConn`+`decConnsCount`, `dialConnFor`,
`wantConn.tryDeliver`, `wantConn.cancel`, `connsCleaner`), plus the dialer and the entry/exit of
`HostClient.Do`.  `step` is the transition relation (as a partial function: `none` = the event is
not possible in that state); a *schedule* is any list of events, `run` folds `step`.

Identities.  Connections, waiters (`*wantConn`) and actors are natural numbers.  Actors below
`auxBase` are callers of `Do`; actors from `auxBase` upwards are the goroutines the pool starts
itself (`go c.dialConnFor(w)`, `go c.connsCleaner()`) and callers of `CloseIdleConnections`.

The Go fields are `count` (`connsCount`), `idle` (`conns`, last element = top of the LIFO),
`queue` (`connsWait`, head first) and `pending` (`pendingRequests`).  Everything else is ghost
state that records who owns what:
  `live`   waiters whose `ready` channel is still open (`w.conn == nil && w.err == nil`)
  `boxed`  connections sitting in `w.conn` of a waiter whose caller has not picked them up yet
  `held`   connections in the hands of an actor (between acquire/dial/wake and release/close)
  `slots`  callers that incremented `connsCount` and are dialling
  `helperSlots` number of started `dialConnFor` goroutines that have not dialled yet
  `owed`   actors that are between `closeConn`/failed dial and the `decConnsCount` region
-/
import Hertz.Basic
namespace Hertz.Pool

structure Cfg where
  /-- effective maximum (`MaxConns`, or `DefaultMaxConnsPerHost` when `MaxConns <= 0`) -/
  maxConns : Nat
  /-- `MaxConnWaitTimeout > 0` -/
  wait : Bool
deriving Repr, DecidableEq

def auxBase : Nat := 100

/-- `consts.DefaultMaxConnsPerHost` (tied to the source by `consts_match_gen`, Proofs/ClientPool.lean) -/
def defaultMaxConnsPerHost : Nat := 512

/-- `maxConns := c.MaxConns; if maxConns <= 0 { maxConns = consts.DefaultMaxConnsPerHost }` -/
def effMax (maxConns : Int) : Nat := if maxConns ≤ 0 then defaultMaxConnsPerHost else maxConns.toNat

/-- the methods `isIdempotent` (pkg/protocol/client/client.go) accepts -/
def idempotentMethods : List String := ["GET", "HEAD", "PUT", "DELETE", "OPTIONS", "TRACE"]

def isIdem (method : String) : Bool := idempotentMethods.contains method

def upd (f : Nat → Nat) (k v : Nat) : Nat → Nat := fun x => if x = k then v else f x

structure State where
  count : Int := 0
  idle : List Nat := []
  queue : List Nat := []
  live : List Nat := []
  wowner : Nat → Nat := fun _ => 0
  boxed : List Nat := []
  boxOf : Nat → Nat := fun _ => 0
  held : List Nat := []
  holder : Nat → Nat := fun _ => 0
  slots : List Nat := []
  helperSlots : Nat := 0
  owed : List Nat := []
  closed : List Nat := []
  seenW : List Nat := []
  inDo : List Nat := []
  pending : Int := 0

def init : State := {}

inductive Ev where
  | begin (a id : Nat)
  | endd (a id : Nat) (ctxEarly : Bool)
  | acqIdle (a c : Nat)
  | acqCreate (a : Nat)
  | acqFull (a : Nat)
  | dialOk (a c : Nat)
  | dialFail (a : Nat)
  | enq (a w popped : Nat)
  | tryd (a w : Nat) (c : Option Nat) (ok : Bool)
  | wake (a w : Nat) (c : Option Nat)
  | cancel (a w : Nat) (c : Option Nat)
  | rel (a c popped : Nat) (target : Option Nat) (delivered : Bool)
  | close (a c : Nat)
  | dec (a popped : Nat) (target : Option Nat)
  | reap (a n : Nat)
  | reapChk (a : Nat) (stop : Bool)
deriving Repr, DecidableEq

/-- The first `k` waiters of the queue are popped.  `wantConn.waiting()` is read without
`w.mu`, so a waiter the loop stopped at (`target`) may already be dead in the linearised order;
a waiter the loop skipped is certainly dead.  With no target the loop ran the queue empty. -/
def popOk (s : State) (k : Nat) (target : Option Nat) : Bool :=
  decide (k ≤ s.queue.length) &&
  match target with
  | none => decide (k = s.queue.length) && (s.queue.take k).all (fun w => !s.live.contains w)
  | some w => (s.queue.take k).getLast? == some w &&
      ((s.queue.take k).dropLast).all (fun w => !s.live.contains w)

/-- nothing is delivered to waiter `w` and not yet picked up -/
def noBox (s : State) (w : Nat) : Bool := s.boxed.all (fun c => s.boxOf c != w)

/-- actor `a` owns nothing: the guard of returning from `Do` -/
def ownsNothing (s : State) (a : Nat) : Bool :=
  s.held.all (fun c => s.holder c != a) && !s.slots.contains a && !s.owed.contains a &&
  s.live.all (fun w => s.wowner w != a) && s.boxed.all (fun c => s.wowner (s.boxOf c) != a)

def fresh (s : State) (c : Nat) : Bool :=
  !s.idle.contains c && !s.held.contains c && !s.boxed.contains c && !s.closed.contains c

def step (cfg : Cfg) (s : State) : Ev → Option State
  -- HostClient.Do: atomic.AddInt32(&c.pendingRequests, 1)
  | .begin a _ =>
    if a < auxBase ∧ a ∉ s.inDo then some { s with inDo := a :: s.inDo, pending := s.pending + 1 } else none
  -- HostClient.Do returning, through the `case <-ctx.Done()` arm at the loop head (`early`) or at
  -- the end: both do atomic.AddInt32(&c.pendingRequests, -1)  (pinned by `doReturnsDecrement`)
  | .endd a _ _early =>
    if a ∈ s.inDo ∧ ownsNothing s a = true then
      some { s with inDo := s.inDo.erase a, pending := s.pending - 1 }
    else none
  -- acquireConn, first region: n > 0, pop the top of the LIFO
  | .acqIdle a c =>
    if a ∈ s.inDo ∧ s.idle.getLast? = some c then
      some { s with idle := s.idle.dropLast, held := c :: s.held, holder := upd s.holder c a }
    else none
  -- acquireConn, first region: n == 0 && connsCount < maxConns
  | .acqCreate a =>
    if a ∈ s.inDo ∧ s.idle = [] ∧ s.count < cfg.maxConns then
      some { s with count := s.count + 1, slots := a :: s.slots }
    else none
  -- acquireConn, first region: n == 0 && connsCount >= maxConns
  | .acqFull a =>
    if a ∈ s.inDo ∧ s.idle = [] ∧ ¬ s.count < cfg.maxConns then some s else none
  -- dialHostHard succeeded (in acquireConn for a caller, in dialConnFor for a helper)
  | .dialOk a c =>
    if fresh s c = true ∧ a < auxBase ∧ a ∈ s.slots then
      some { s with slots := s.slots.erase a, held := c :: s.held, holder := upd s.holder c a }
    else if fresh s c = true ∧ auxBase ≤ a ∧ 0 < s.helperSlots then
      some { s with helperSlots := s.helperSlots - 1, held := c :: s.held, holder := upd s.holder c a }
    else none
  -- dialHostHard failed: decConnsCount follows
  | .dialFail a =>
    if a < auxBase ∧ a ∈ s.slots then
      some { s with slots := s.slots.erase a, owed := a :: s.owed }
    else if auxBase ≤ a ∧ 0 < s.helperSlots then
      some { s with helperSlots := s.helperSlots - 1, owed := a :: s.owed }
    else none
  -- queueForIdle: clearFront, pushBack
  | .enq a w popped =>
    if cfg.wait = true ∧ a ∈ s.inDo ∧ w ∉ s.seenW ∧ popped ≤ s.queue.length ∧
        (s.queue.take popped).all (fun w => !s.live.contains w) = true then
      some { s with queue := s.queue.drop popped ++ [w], live := w :: s.live,
                    wowner := upd s.wowner w a, seenW := w :: s.seenW }
    else none
  -- wantConn.tryDeliver (from releaseConn under connsLock, or from dialConnFor)
  | .tryd a w (some c) true =>
    if w ∈ s.live ∧ c ∈ s.held ∧ s.holder c = a then
      some { s with live := s.live.erase w, held := s.held.erase c, boxed := c :: s.boxed,
                    boxOf := upd s.boxOf c w }
    else none
  | .tryd a w none true =>       -- dialConnFor delivering the dial error
    if w ∈ s.live ∧ a ∈ s.owed then some { s with live := s.live.erase w } else none
  | .tryd _ w _ false =>
    if w ∉ s.live then some s else none
  -- acquireConn: `case <-w.ready`
  | .wake a w (some c) =>
    if s.wowner w = a ∧ w ∉ s.live ∧ c ∈ s.boxed ∧ s.boxOf c = w then
      some { s with boxed := s.boxed.erase c, held := c :: s.held, holder := upd s.holder c a }
    else none
  | .wake a w none =>
    if s.wowner w = a ∧ w ∉ s.live ∧ noBox s w = true then some s else none
  -- wantConn.cancel (deferred in acquireConn when it returns an error)
  | .cancel a w (some c) =>
    if s.wowner w = a ∧ w ∉ s.live ∧ c ∈ s.boxed ∧ s.boxOf c = w then
      some { s with boxed := s.boxed.erase c, held := c :: s.held, holder := upd s.holder c a }
    else none
  | .cancel a w none =>
    if s.wowner w = a ∧ noBox s w = true then some { s with live := s.live.erase w } else none
  -- releaseConn
  | .rel a c popped target delivered =>
    if cfg.wait = false then
      if c ∈ s.held ∧ s.holder c = a ∧ popped = 0 ∧ target = none ∧ delivered = false then
        some { s with held := s.held.erase c, idle := s.idle ++ [c] }
      else none
    else if popOk s popped target = true then
      if delivered then
        -- the hand-over itself is the `tryd … true` event inside this region
        match target with
        | some w => if w ∉ s.live ∧ ¬ (c ∈ s.held ∧ s.holder c = a) then
            some { s with queue := s.queue.drop popped } else none
        | none => none
      else
        if c ∈ s.held ∧ s.holder c = a ∧ (∀ w, target = some w → w ∉ s.live) then
          some { s with queue := s.queue.drop popped, held := s.held.erase c, idle := s.idle ++ [c] }
        else none
    else none
  -- closeConn: the connection leaves the pool's books, decConnsCount follows
  | .close a c =>
    if c ∈ s.held ∧ s.holder c = a then
      some { s with held := s.held.erase c, closed := c :: s.closed, owed := a :: s.owed }
    else none
  -- decConnsCount
  | .dec a popped target =>
    if a ∈ s.owed then
      if cfg.wait = false then
        if popped = 0 ∧ target = none then
          some { s with owed := s.owed.erase a, count := s.count - 1 } else none
      else if popOk s popped target = true then
        match target with
        | some _ => some { s with owed := s.owed.erase a, queue := s.queue.drop popped,
                                  helperSlots := s.helperSlots + 1 }      -- go c.dialConnFor(w)
        | none => some { s with owed := s.owed.erase a, queue := s.queue.drop popped,
                                count := s.count - 1 }
      else none
    else none
  -- connsCleaner, first region: the n oldest idle connections are taken out
  | .reap a n =>
    if auxBase ≤ a ∧ n ≤ s.idle.length then
      some { s with idle := s.idle.drop n, held := s.idle.take n ++ s.held,
                    holder := fun c => if c ∈ s.idle.take n then a else s.holder c }
    else none
  -- connsCleaner, second region
  | .reapChk a stop =>
    if auxBase ≤ a ∧ (stop = true ↔ s.count = 0) then some s else none

def run (cfg : Cfg) : State → List Ev → Option State
  | s, [] => some s
  | s, e :: es => match step cfg s e with
    | some s' => run cfg s' es
    | none => none

/-- what `ConnPoolState()` shows: `TotalConnNum`, `PoolConnNum`, `WaitConnNum` -/
def triple (s : State) : Int × Nat × Nat := (s.count, s.idle.length, s.queue.length)

/-- All calls have returned and the goroutines started by the pool own nothing any more. -/
def Quiet (s : State) : Prop :=
  s.inDo = [] ∧ s.helperSlots = 0 ∧ (∀ c ∈ s.held, s.holder c < auxBase) ∧ (∀ a ∈ s.owed, a < auxBase)

instance (s : State) : Decidable (Quiet s) := by unfold Quiet; exact inferInstance

/-! ## The caller's program: `doNonNilReqResp` after a successful `acquireConn`, and `Do` -/

/-- What happened on the wire during one attempt, as far as the decision logic can see. -/
inductive Exch where
  | writeTimeoutElapsed      -- updateReqTimeout said the request timeout is already over
  | setTimeoutErr            -- SetWriteTimeout / SetReadTimeout failed
  | writeErrOther            -- write failed, not ErrConnectionClosed
  | writeClosedRespOk        -- write hit a closed connection but a full response could be read
  | writeClosedNoResp        -- write hit a closed connection, no response
  | peekEOF                  -- first response byte: io.EOF / ECONNRESET
  | peekErr                  -- first response byte: another error (timeout …)
  | headerErr                -- ReadHeaders failed
  | bodyErr (tooLarge : Bool)
  | upgrade                  -- 101 + Connection: Upgrade
  | streamOpen               -- stream mode with body still on the wire
  | done (reqClose respClose resetConn : Bool)   -- full response read
deriving Repr, DecidableEq

inductive ConnAct where | close | release | keep
deriving Repr, DecidableEq

inductive ErrK where
  | none | timeout | badPool | eof | other
deriving Repr, DecidableEq

structure Verdict where
  act : ConnAct
  canRetry : Bool
  err : ErrK
deriving Repr, DecidableEq

/-- `doNonNilReqResp` from the point where it owns `cc`: what becomes of the connection, the
`canIdempotentRetry` result and the error class.  `inPool` is the flag returned by
`acquireConn`. -/
def verdict (inPool : Bool) : Exch → Verdict
  | .writeTimeoutElapsed => ⟨.close, false, .timeout⟩
  | .setTimeoutErr => ⟨.close, true, .other⟩
  | .writeErrOther => ⟨.close, true, .other⟩
  | .writeClosedRespOk => ⟨.close, false, .none⟩
  | .writeClosedNoResp => ⟨.close, true, if inPool then .badPool else .other⟩
  | .peekEOF => if inPool then ⟨.close, true, .badPool⟩ else ⟨.close, false, .eof⟩
  | .peekErr => ⟨.close, false, .other⟩
  | .headerErr => ⟨.close, true, .other⟩
  | .bodyErr tooLarge => ⟨.close, !tooLarge, .other⟩
  | .upgrade => ⟨.keep, false, .none⟩
  | .streamOpen => ⟨.keep, false, .none⟩
  | .done reqClose respClose resetConn =>
    ⟨if resetConn || reqClose || respClose then .close else .release, false, .none⟩

/-- The exchange ended with the connection in a reusable state. -/
def Exch.clean : Exch → Bool
  | .done reqClose respClose resetConn => !reqClose && !respClose && !resetConn
  | _ => false

/-- One attempt as `Do` sees it. -/
structure Attempt where
  /-- the request reached the wire (a connection was obtained and the write started) -/
  sent : Bool
  canRetry : Bool
  err : ErrK
deriving Repr, DecidableEq

/-- The loop of `HostClient.Do` with the default retry policy (`RetryIfFunc == nil`): given the
outcomes the successive attempts would have, how many attempts are made.  `idem` is
`client.DefaultRetryIf` (rewindable body and GET/HEAD/PUT/DELETE/OPTIONS/TRACE). -/
def doLoop (idem : Bool) : List Attempt → List Attempt
  | [] => []
  | t :: rest =>
    if t.err = .none then [t]
    else if t.canRetry && idem && t.err == .badPool then t :: doLoop idem rest
    else [t]

/-! The return statements of `doNonNilReqResp` after `acquireConn`, in source order, as the model
sees them: (`canIdempotentRetry`, error is nil, fate of the connection).  Compared with the table
extracted from the Go source (`Gen/ClientPaths.lean`) by `model_matches_gen`. -/

def retryTok (b : Bool) : String := if b then "true" else "false"

def actTok : ConnAct → String
  | .close => "close"
  | .release => "release"
  | .keep => ""

def row (inPool : Bool) (ex : Exch) : String × Bool × String :=
  let v := verdict inPool ex
  (retryTok v.canRetry, v.err == .none, actTok v.act)

def modelPaths : List (String × Bool × String) := [
  ("false", false, ""),                        -- acquireConn failed: nothing to give back
  row true .writeTimeoutElapsed,               -- request timeout over before the write
  row true .setTimeoutErr,                     -- SetWriteTimeout failed
  row true .writeErrOther,                     -- write failed (defer closeConn)
  row true .setTimeoutErr,                     --   protection read timeout could not be set
  row true .writeClosedRespOk,                 --   a complete response was there all the same
  row true .writeClosedNoResp,                 --   no response
  row true .writeTimeoutElapsed,               -- request timeout over before the read
  row true .setTimeoutErr,                     -- SetReadTimeout failed
  row true .peekEOF,                           -- first byte: EOF on a pooled connection
  row false .peekEOF,                          -- first byte: any other failure
  row true .headerErr,
  (if (verdict true (.bodyErr true)).canRetry = false ∧ (verdict true (.bodyErr false)).canRetry = true
    then "retry" else "?", false, actTok (verdict true (.bodyErr false)).act),
  row true .upgrade,
  row true .streamOpen,
  ("false", true, actTok (verdict true (.done true false false)).act ++ "|" ++
                  actTok (verdict true (.done false false false)).act)]

/-- the conjuncts under which `Do` goes round again.  `!bodyIsStream` (/repo 3183d35: whether the body is a stream is
noted before the first attempt, which drops the stream from the request) is constantly true for the requests of this
property - their bodies are byte bodies (`SetBodyString`), so `idem` in `doLoop`/`Sim` stays "idempotent method"; the
stream case is modelled and checked under C11 (`Http1/Exchange`, `Req.retryable`). -/
def doRetryCond : List String :=
  ["canIdempotentRetry", "!bodyIsStream", "client.DefaultRetryIf(req, resp, err)", "errors.Is(err, errs.ErrBadPoolConn)"]

/-- for every `return` of `HostClient.Do`, in source order (the `ctx.Done()` arm, the end): is it
preceded by `atomic.AddInt32(&c.pendingRequests, -1)` -/
def doReturnsDecrement : List Bool := [true, true]

def sentCount (l : List Attempt) : Nat := (l.filter (·.sent)).length

end Hertz.Pool
