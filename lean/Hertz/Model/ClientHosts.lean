/-
C10, Client level — `pkg/app/client.Client` on top of the per-host pools of `ClientPool.lean`:

  * `Client.do`: the host-client map (`c.m`), a `HostClient` created on the first request to a host
    (and again after the janitor dropped the previous one),
  * `Client.cleaner` / `cleanHostClients`: every 10 s each `HostClient` with
    `ShouldRemove() = (connsCount == 0)` is deleted from the map,
  * `MaxConnDuration`: a connection older than the limit gets `Connection: close` added to the
    request it is picked for (`resetConnection`) and is closed after that exchange,
  * requests that themselves ask for `Connection: close`,
  * calls that stay in flight (their connection in use) while other steps run.

Part 1 is the abstract layer the theorems of `Props/C10.lean` are about (a host entry = the
HostClient in the map plus the ones the janitor has dropped).  Part 2 is the executable script
simulator the driver compares with the real `Client` (`harness/c10cli.go`).
-/
import Hertz.Model.ClientSim
namespace Hertz.Pool

/-! ## Part 1: the host-client map and its janitor -/

/-- `HostClient.ShouldRemove`: `c.connsCount == 0` under `connsLock` -/
def shouldRemove (s : State) : Bool := s.count == 0

/-- One host as the `Client` sees it: the `HostClient` currently in the map (if any) and the
HostClients the janitor has deleted from the map (they still exist as long as somebody uses them). -/
structure HostEntry where
  cur : Option State := none
  dropped : List State := []

inductive CEv where
  /-- `Client.do` finds no HostClient for the host and creates one -/
  | create
  /-- one lock region of the HostClient in the map -/
  | pool (e : Ev)
  /-- `cleanHostClients` visits the host -/
  | tick
deriving Repr, DecidableEq

/-- one step of a host entry; `evict` is the predicate the janitor uses (the code: `ShouldRemove`) -/
def cstepWith (evict : State → Bool) (cfg : Cfg) (h : HostEntry) : CEv → Option HostEntry
  | .create => match h.cur with
    | none => some { h with cur := some init }
    | some _ => none
  | .pool e => match h.cur with
    | some s => (step cfg s e).map (fun s' => { h with cur := some s' })
    | none => none
  | .tick => match h.cur with
    | some s => if evict s then some { cur := none, dropped := s :: h.dropped } else some h
    | none => some h

def crunWith (evict : State → Bool) (cfg : Cfg) : HostEntry → List CEv → Option HostEntry
  | h, [] => some h
  | h, e :: es => match cstepWith evict cfg h e with
    | some h' => crunWith evict cfg h' es
    | none => none

def cstep := cstepWith shouldRemove
def crun := crunWith shouldRemove

def sumCounts : List State → Int
  | [] => 0
  | s :: l => s.count + sumCounts l

/-- connections counted against the host by all its HostClients, in the map or not -/
def hostCounted (h : HostEntry) : Int :=
  (match h.cur with | some s => s.count | none => 0) + sumCounts h.dropped

/-- the model's reading of the source facts regenerated into `Gen/ClientPaths.lean`
(the `*_matches_gen` theorems of Proofs/ClientHosts.lean): `ShouldRemove` is `connsCount == 0` under the lock, the
janitor deletes exactly the entries for which `ShouldRemove()` holds, `verdict (.done …)` closes on
`resetConnection || req.ConnectionClose() || resp.ConnectionClose()`, and a connection older than
`MaxConnDuration` is retired by adding `Connection: close` to a request that does not carry it -/
def shouldRemoveSrc : List String := ["c.connsLock.Lock()", "defer c.connsLock.Unlock()", "return c.connsCount == 0"]
def janitorDeleteSrc : List String := ["v.ShouldRemove()", "delete(m, k)"]
def closeDecisionSrc : List String := ["resetConnection", "req.ConnectionClose()", "resp.ConnectionClose()"]
def retireOldConnSrc : List String :=
  ["c.MaxConnDuration > 0 && time.Since(cc.createdTime) > c.MaxConnDuration && !req.ConnectionClose()",
   "req.SetConnectionClose()", "resetConnection = true"]

/-! ## Part 2: executable simulator of a Client-level script -/

structure MCfg where
  pool : Cfg
  /-- MaxConnDuration: 0 off, 1 every picked connection is too old, 2 too old after an `A`/`T` step -/
  mcd : Nat
  /-- peer policy on a normally answered request that carried `Connection: close` -/
  ppol : Nat

structure CReq where
  post : Bool
  close : Bool
  fault : Nat
  ctxm : Nat
  dialFail : Bool

def CReq.toReq (q : CReq) : Req := { post := q.post, fault := q.fault, ctxm := q.ctxm, dialFail := q.dialFail }

/-- one host of the simulated Client -/
structure HSim where
  sim : Sim := {}
  /-- epoch in which connection `c` of the current HostClient was dialled -/
  born : Nat → Nat := fun _ => 0
  inMap : Bool := false
  /-- HostClients created for this host so far -/
  nhc : Nat := 0
  /-- dials / still open connections of HostClients dropped earlier -/
  dialsBase : Nat := 0
  openBase : Nat := 0

def HSim.dials (h : HSim) : Nat := h.dialsBase + h.sim.nextConn
def HSim.opens (h : HSim) : Nat := h.openBase + (h.sim.nextConn - h.sim.st.closed.length)

/-- `Client.do`: look the host up, create the HostClient when the map has none -/
def HSim.ensure (h : HSim) : HSim :=
  if h.inMap then h else
    { sim := {}, born := fun _ => 0, inMap := true, nhc := h.nhc + 1,
      dialsBase := h.dials, openBase := h.opens }

/-- `cleanHostClients` on one map entry -/
def HSim.tick (h : HSim) : HSim :=
  if h.inMap && shouldRemove h.sim.st then { h with inMap := false } else h

/-- a call whose answer the peer withholds -/
structure HeldK where
  host : Nat
  a : Nat
  id : Nat
  q : CReq
  c : Nat
  inPool : Bool
  resetConn : Bool
  fuel : Nat
  sends : Nat
  cancelled : Bool
  gone : Bool

inductive LoopRes where
  | fin (h : HSim) (cls : String)
  | held (h : HSim) (c : Nat) (inPool resetConn : Bool) (fuel sends : Nat) (cancelled : Bool)

/-- the scripted peer's answer seen by the client: `peerFault` plus the treatment of a request that
carried `Connection: close` (sent because the request asked for it or because the connection was
too old) -/
def peerAnswer (ppol : Nat) (q : CReq) (resetConn : Bool) : Exch × Nat × String :=
  let r := peerFault q.fault
  let sawClose := q.close || resetConn
  match r.1 with
  | .done _ respClose _ =>
    let echo := q.fault == 0 && sawClose && ppol == 2
    let shut := q.fault == 0 && sawClose && (ppol == 1 || ppol == 2)
    (.done q.close (respClose || echo) resetConn, if shut then 1 else r.2.1, r.2.2)
  | ex => (ex, r.2.1, r.2.2)

structure ExchOut where
  h : HSim
  canRetry : Bool
  cls : String

/-- `doNonNilReqResp` from the moment the outcome of the exchange is known -/
def conclude (cfg : MCfg) (h : HSim) (a c : Nat) (inPool : Bool) (ex : Exch) (ps' : Nat) (failTok : String) : ExchOut :=
  let v := verdict inPool ex
  let sim := { h.sim with peer := upd h.sim.peer c ps' }
  let sim := match v.act with
    | .close => simClose cfg.pool sim a c
    | .release => simRelease cfg.pool sim a c
    | .keep => sim
  let cls := if v.err = .none then "ok" else if v.err = .badPool then "badpool" else failTok
  { h := { h with sim }, canRetry := v.canRetry, cls }

def finishLive (cfg : MCfg) (h : HSim) (a c : Nat) (inPool : Bool) (q : CReq) (resetConn : Bool) : ExchOut :=
  let r := peerAnswer cfg.ppol q resetConn
  conclude cfg h a c inPool r.1 r.2.1 r.2.2

def tooOld (cfg : MCfg) (epoch : Nat) (h : HSim) (c : Nat) : Bool :=
  cfg.mcd == 1 || (cfg.mcd == 2 && decide (h.born c < epoch))

/-- `HostClient.Do` (default retry policy) for caller `a`; with `hold` the first arrival of the
request at an open peer suspends the call; `resume` continues a suspended call. -/
def cloop (cfg : MCfg) (epoch a id : Nat) (q : CReq) :
    Nat → HSim → Bool → Nat → Bool → Option (Nat × Bool × Bool) → LoopRes
  | 0, h, _, _, _, _ => .fin { h with sim := { h.sim with ok := false } } "fuel"
  | fuel + 1, h, cancelled, sends, hold, resume =>
    let after := fun (r : ExchOut) (cancelled : Bool) (sends : Nat) (hold : Bool) =>
      if r.cls == "ok" then LoopRes.fin { r.h with sim := emit cfg.pool r.h.sim (.endd a id false) } "ok"
      else if r.canRetry && isIdem (if q.post then "POST" else "GET") && r.cls == "badpool" then
        cloop cfg epoch a id q fuel r.h cancelled sends hold none
      else LoopRes.fin { r.h with sim := emit cfg.pool r.h.sim (.endd a id false) } r.cls
    match resume with
    | some (c, inPool, rc) => after (finishLive cfg h a c inPool q rc) cancelled sends false
    | none =>
      if cancelled then .fin { h with sim := emit cfg.pool h.sim (.endd a id true) } "ctx"
      else
        match simAcquire cfg.pool h.sim a with
        | (sim, .error e) => .fin { h with sim := emit cfg.pool sim (.endd a id false) } e
        | (sim, .ok (c, inPool)) =>
          let h := { h with sim, born := if inPool then h.born else upd h.born c epoch }
          let ps := sim.peer c
          if ps = 2 then after (conclude cfg h a c inPool .writeClosedNoResp ps "other") cancelled sends hold
          else if ps = 1 then after (conclude cfg h a c inPool .peekEOF ps "closed") cancelled sends hold
          else
            let rc := tooOld cfg epoch h c && !q.close
            let cancelled' := cancelled || q.ctxm == 2
            if hold then .held h c inPool rc fuel (sends + 1) cancelled'
            else after (finishLive cfg h a c inPool q rc) cancelled' (sends + 1) false

def nHosts : Nat := 3

structure CSim where
  hosts : Nat → HSim := fun _ => {}
  epoch : Nat := 0
  helds : List HeldK := []
  dialTok : Nat := 0
  anyHC : Bool := false

def CSim.setHost (cs : CSim) (k : Nat) (h : HSim) : CSim :=
  { cs with hosts := fun x => if x = k then h else cs.hosts x }

inductive CStep where
  | req (host : Nat) (q : CReq)
  | hold (host : Nat) (q : CReq)
  | unhold (k : Nat)
  | tick
  | age

def gaugeRow (cs : CSim) : List String :=
  (List.range nHosts).flatMap fun k =>
    let h := cs.hosts k
    [toString h.sim.st.count, toString h.sim.st.idle.length, toString h.sim.st.queue.length,
     toString h.sim.st.pending, bTok (shouldRemove h.sim.st), toString h.nhc, toString h.dials, toString h.opens]

def setGone (l : List HeldK) (k : Nat) : List HeldK :=
  l.zipIdx.map (fun (x, i) => if i == k then { x with gone := true } else x)

/-- one step of the script: the new state and the class token -/
def CSim.step (cfg : MCfg) (cs : CSim) (id : Nat) : CStep → CSim × String
  | .req k q =>
    let h := (cs.hosts k).ensure
    let tokens := if q.dialFail then cs.dialTok + 1 else cs.dialTok
    let h := { h with sim := emit cfg.pool { h.sim with dialTok := tokens } (.begin 0 id) }
    match cloop cfg cs.epoch 0 id q (h.sim.st.idle.length + 3) h (q.ctxm == 1) 0 false none with
    | .fin h cls => ({ (cs.setHost k h) with dialTok := h.sim.dialTok, anyHC := true }, cls)
    | .held h .. => ({ (cs.setHost k { h with sim := { h.sim with ok := false } }) with anyHC := true }, "?")
  | .hold k q =>
    let a := cs.helds.length + 1
    let h := (cs.hosts k).ensure
    let tokens := if q.dialFail then cs.dialTok + 1 else cs.dialTok
    let h := { h with sim := emit cfg.pool { h.sim with dialTok := tokens } (.begin a id) }
    let blank : HeldK := { host := k, a, id, q, c := 0, inPool := false, resetConn := false, fuel := 0,
                           sends := 0, cancelled := false, gone := true }
    match cloop cfg cs.epoch a id q (h.sim.st.idle.length + 3) h (q.ctxm == 1) 0 true none with
    | .fin h cls =>
      ({ (cs.setHost k h) with dialTok := h.sim.dialTok, anyHC := true, helds := cs.helds ++ [blank] }, cls)
    | .held h c inPool rc fuel sends cancelled =>
      let x : HeldK := { blank with c := c, inPool := inPool, resetConn := rc, fuel := fuel, sends := sends, cancelled := cancelled, gone := false }
      ({ (cs.setHost k h) with dialTok := h.sim.dialTok, anyHC := true, helds := cs.helds ++ [x] }, "held")
  | .unhold k =>
    match cs.helds[k]? with
    | none => (cs, "none")
    | some x =>
      if x.gone then (cs, "none") else
      let h := cs.hosts x.host
      let h := { h with sim := { h.sim with dialTok := cs.dialTok } }
      match cloop cfg cs.epoch x.a x.id x.q (x.fuel + 1) h x.cancelled x.sends false (some (x.c, x.inPool, x.resetConn)) with
      | .fin h cls => ({ (cs.setHost x.host h) with dialTok := h.sim.dialTok, helds := setGone cs.helds k }, cls)
      | .held h .. => (cs.setHost x.host { h with sim := { h.sim with ok := false } }, "?")
  | .tick =>
    if cs.anyHC then
      ({ cs with hosts := fun k => (cs.hosts k).tick, epoch := cs.epoch + 1 }, "-")
    else (cs, "-")
  | .age => ({ cs with epoch := cs.epoch + 1 }, "-")

def CSim.ok (cs : CSim) : Bool := (List.range nHosts).all (fun k => (cs.hosts k).sim.ok)

/-- the script, then everything still withheld is answered in order; output rows as the harness writes them -/
def simScript (cfg : MCfg) : CSim → Nat → List CStep → List String → CSim × List String
  | cs, _, [], acc => (cs, acc)
  | cs, id, s :: rest, acc =>
    let (cs, cls) := cs.step cfg id s
    simScript cfg cs (id + 1) rest (acc ++ cls :: gaugeRow cs)

def releaseAll (cfg : MCfg) (cs : CSim) : CSim :=
  (List.range cs.helds.length).foldl (fun cs k => (cs.step cfg 0 (.unhold k)).1) cs

end Hertz.Pool
