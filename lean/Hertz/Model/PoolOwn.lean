/-!
# C09 — ownership of pooled objects along the paths of `http1.Server.Serve`

`Model/Recycle.lean` says what a recycled object LOOKS like.  This file says who OWNS it.

* A `sync.Pool` is a multiset of object identities (`List Nat`); `Put x` adds `x` **unconditionally** (the real
  pool does not look at what it is given: putting an object twice gives a pool that hands it out twice),
  `Get` removes *some* stored identity (`i` arbitrary) or, when there is none at `i`, allocates a new one.
* Three pools: `Engine.ctxPool` (`*app.RequestContext`), `ext.bodyStreamPool` (`*bodyStream`),
  `Engine.hijackConnPool` (`*hijackConn`).
* One connection is a small state machine over the acquire/release sites of `Server.Serve`
  (`getRequestContext` … the loop … the deferred function).  The connection keeps the REFERENCES the Go code keeps
  (`ctx`, `ctx.Request.bodyStream`, the `hjc` local of `hijackConnHandler`): in particular
  `ctx.Request.bodyStream` still points to the stream after "Release request body stream" until
  `ResetWithoutConn()` / `Reset()` clears it — a dangling reference (phase `released` and the `ret` phases after it).
  Whether a reference is OWNED is a function of the control point (`Phase`), not extra state.
* Connections interleave arbitrarily: a run is any list of events, each naming its connection; an event that does
  not fit the control point of its connection is a no-op (`step` is total).

The acquire / release sites these steps were written against are regenerated from the Go source
(`Gen/PoolSites.lean`) and pinned by `Props.C09.release_sites_match_gen`.
-/
namespace Hertz.PoolOwn

inductive Kind where
  | ctx | stream | hjconn
  deriving DecidableEq, Repr

/-- which `return` of `Serve` was taken (the deferred function has not run yet) -/
inductive RetSite where
  | readErr      -- ReadHeader/ReadBodyStream/ContinueReadBodyStream failed, nothing read, idle timeout, 100-continue write failed
  | writeFail    -- writeResponse or zw.Flush failed: BEFORE "Release request body stream"
  | panicked     -- the handler panicked and nothing recovered: the deferred function runs while unwinding
  | releaseErr   -- ext.ReleaseBodyStream returned the error of skipRest (the Put has happened)
  | hijacked     -- errHijacked, after HijackConnHandle returned
  | shortConn    -- connectionClose (Connection: close, DisableKeepalive, engine not running)
  | idle0        -- IdleTimeout == 0
  deriving DecidableEq, Repr

inductive Phase where
  | idle                 -- top of the loop / reading the next request; `Request.bodyStream == nil`
  | handling             -- request read (stream acquired if the body is streamed); the handler chain runs here
  | released             -- response written, flushed, body stream released; the reference dangles
  | hijacking            -- inside `hijackConnHandler`, `hjc` acquired, the user's hijack handler runs here
  | ret (r : RetSite)
  deriving DecidableEq, Repr

structure Conn where
  phase : Phase
  ctx : Nat
  /-- `ctx.Request.bodyStream` when it is a `*bodyStream` -/
  stream : Option Nat := none
  /-- `hjc` of `hijackConnHandler`, the object the user's hijack handler was given; the user's variable keeps
  pointing to it after it was released -/
  hj : Option Nat := none
  /-- control point of the holder of `hj`: true from `acquireHijackConn` until its first effective release -/
  hjLive : Bool := false
  exiled : Bool := false
  deriving DecidableEq, Repr

def Conn.ref (cn : Conn) : Kind → Option Nat
  | .ctx => some cn.ctx
  | .stream => cn.stream
  | .hjconn => cn.hj

/-- On the paths that return before the release site the stream is still the request's. -/
def RetSite.streamLive : RetSite → Bool
  | .writeFail | .panicked => true
  | _ => false

/-- Is the reference of kind `k` an owning one at this control point? -/
def Conn.owns (cn : Conn) : Kind → Bool
  | .ctx => true
  | .stream => match cn.phase with
    | .handling => true
    | .ret r => r.streamLive
    | _ => false
  | .hjconn => cn.hjLive

structure State where
  pool : Kind → List Nat := fun _ => []
  conns : Nat → Option Conn := fun _ => none
  next : Nat := 0
  /-- per object: `hjc.Conn != nil` (set by `acquireHijackConn`, cleared by `releaseHijackConn`) -/
  hjSet : Nat → Bool := fun _ => false
  /-- `Engine.KeepHijackedConns` (constant) -/
  keepHj : Bool := false

/-- `sync.Pool.Get`: the identity handed out, the remaining pool, the allocation counter -/
def take (l : List Nat) (i next : Nat) : Nat × List Nat × Nat :=
  match l[i]? with
  | some x => (x, l.eraseIdx i, next)
  | none => (next, l, next + 1)

def State.setPool (s : State) (k : Kind) (l : List Nat) : State :=
  { s with pool := fun k' => if k' = k then l else s.pool k' }

def State.setConn (s : State) (c : Nat) (cn : Option Conn) : State :=
  { s with conns := fun c' => if c' = c then cn else s.conns c' }

/-- `sync.Pool.Put` -/
def State.put (s : State) (k : Kind) (x : Nat) : State := s.setPool k (x :: s.pool k)

/-- `hjc.Conn = c` / `hjc.Conn = nil` -/
def State.setHj (s : State) (x : Nat) (b : Bool) : State :=
  { s with hjSet := fun y => if y = x then b else s.hjSet y }

/-- how the handler chain ended -/
inductive HandlerEnd where
  | returned | panicked
  deriving DecidableEq, Repr

/-- what follows the release site -/
inductive Ending where
  | keepAlive | hijack | close | idle0
  deriving DecidableEq, Repr

inductive Ev where
  /-- `ctx = s.getRequestContext()` on a new connection `c` -/
  | accept (c i : Nat)
  /-- the request is read; `streamed`: `AcquireBodyStream` is called (choice `i`) -/
  | read (c : Nat) (streamed : Bool) (i : Nat)
  /-- any `return` between the top of the loop and the handler -/
  | readFail (c : Nat)
  /-- `s.Core.ServeHTTP(cc, ctx)`; `exile`: the handler called `ctx.Exile()` -/
  | handle (c : Nat) (exile : Bool) (e : HandlerEnd)
  /-- `writeResponse`, `zw.Flush` (`ok = false`: one of them failed), then "Release request body stream"
  (`skipErr`: `skipRest` failed) -/
  | respond (c : Nat) (ok skipErr : Bool)
  /-- hijack (acquireHijackConn, choice `i`) / short connection / IdleTimeout 0 / `ctx.ResetWithoutConn()` -/
  | after (c : Nat) (e : Ending) (i : Nat)
  /-- the user's code calls `Close()` on the hijack conn it was given — any number of times, while its hijack
  handler runs or (a kept conn) while `Serve` returns.  `hijackConn.Close`: nothing unless `KeepHijackedConns`;
  nothing if `c.Conn == nil` (4f1f5ed); else `releaseHijackConn` (`Conn = nil`, `Put`) -/
  | userClose (c : Nat)
  /-- the hijack handler returned: `if !KeepHijackedConns { c.Close(); releaseHijackConn(hjc) }` -/
  | hijackEnd (c : Nat)
  /-- the deferred function of `Serve`: `if ctx.IsExiled() { return }; s.putRequestContext(ctx)` -/
  | finish (c : Nat)
  deriving DecidableEq, Repr

def step (s : State) : Ev → State
  | .accept c i =>
    match s.conns c with
    | some _ => s
    | none =>
      let (x, l, n) := take (s.pool .ctx) i s.next
      { (s.setPool .ctx l).setConn c (some { phase := .idle, ctx := x }) with next := n }
  | .read c streamed i =>
    match s.conns c with
    | some cn =>
      if cn.phase = .idle then
        if streamed then
          let (x, l, n) := take (s.pool .stream) i s.next
          { (s.setPool .stream l).setConn c (some { cn with phase := .handling, stream := some x }) with next := n }
        else s.setConn c (some { cn with phase := .handling })
      else s
    | none => s
  | .readFail c =>
    match s.conns c with
    | some cn => if cn.phase = .idle then s.setConn c (some { cn with phase := .ret .readErr }) else s
    | none => s
  | .handle c exile e =>
    match s.conns c with
    | some cn =>
      if cn.phase = .handling then
        let cn := { cn with exiled := cn.exiled || exile }
        match e with
        | .returned => s.setConn c (some cn)
        | .panicked => s.setConn c (some { cn with phase := .ret .panicked })
      else s
    | none => s
  | .respond c ok skipErr =>
    match s.conns c with
    | some cn =>
      if cn.phase = .handling then
        if ok then
          -- if reqBodyStream != nil { err = ext.ReleaseBodyStream(reqBodyStream); if err != nil { return } }   (the local taken
          -- before the handler ran: what the handler does to `Request.bodyStream` does not matter here)
          match cn.stream with
          | some x =>
            (s.put .stream x).setConn c (some { cn with phase := if skipErr then .ret .releaseErr else .released })
          | none => s.setConn c (some { cn with phase := .released })
        else s.setConn c (some { cn with phase := .ret .writeFail })
      else s
    | none => s
  | .after c e i =>
    match s.conns c with
    | some cn =>
      if cn.phase = .released then
        match e with
        | .hijack =>
          let (x, l, n) := take (s.pool .hjconn) i s.next
          { ((s.setPool .hjconn l).setConn c (some { cn with phase := .hijacking, hj := some x, hjLive := true })).setHj x true
            with next := n }
        | .close => s.setConn c (some { cn with phase := .ret .shortConn })
        | .idle0 => s.setConn c (some { cn with phase := .ret .idle0 })
        | .keepAlive => s.setConn c (some { cn with phase := .idle, stream := none })   -- ctx.ResetWithoutConn()
      else s
    | none => s
  | .userClose c =>
    match s.conns c with
    | some cn =>
      if cn.phase = .hijacking ∨ cn.phase = .ret .hijacked then
        match cn.hj with
        | some x =>
          if s.keepHj && s.hjSet x then
            ((s.put .hjconn x).setHj x false).setConn c (some { cn with hjLive := false })
          else s
        | none => s
      else s
    | none => s
  | .hijackEnd c =>
    match s.conns c with
    | some cn =>
      if cn.phase = .hijacking then
        match cn.hj with
        | some x =>
          if s.keepHj then s.setConn c (some { cn with phase := .ret .hijacked })
          else ((s.put .hjconn x).setHj x false).setConn c (some { cn with phase := .ret .hijacked, hj := none, hjLive := false })
        | none => s.setConn c (some { cn with phase := .ret .hijacked })
      else s
    | none => s
  | .finish c =>
    match s.conns c with
    | some cn =>
      match cn.phase with
      | .ret _ => if cn.exiled then s.setConn c none else (s.put .ctx cn.ctx).setConn c none
      | _ => s
    | none => s

def run (s : State) : List Ev → State
  | [] => s
  | e :: es => run (step s e) es

def init : State := {}
/-- an engine with `KeepHijackedConns = keep` -/
def initK (keep : Bool) : State := { keepHj := keep }

/-! ## statements -/

def Conn.holds (cn : Conn) (k : Kind) (x : Nat) : Prop := cn.ref k = some x ∧ cn.owns k = true

instance (cn : Conn) (k : Kind) (x : Nat) : Decidable (cn.holds k x) := by unfold Conn.holds; exact inferInstance

/-- the ownership discipline -/
structure Inv (s : State) : Prop where
  nodup : ∀ k, (s.pool k).Nodup
  poolLt : ∀ k x, x ∈ s.pool k → x < s.next
  refLt : ∀ c cn k x, s.conns c = some cn → cn.ref k = some x → x < s.next
  notPooled : ∀ c cn k x, s.conns c = some cn → cn.holds k x → x ∉ s.pool k
  distinct : ∀ c d cn dn k x, s.conns c = some cn → s.conns d = some dn → cn.holds k x → dn.holds k x → c = d
  idleClean : ∀ c cn, s.conns c = some cn → cn.phase = .idle → cn.stream = none
  hjOnly : ∀ c cn x, s.conns c = some cn → cn.hj = some x → cn.phase = .hijacking ∨ cn.phase = .ret .hijacked
  /-- only a user `Close` under `KeepHijackedConns` ends the holder's ownership while the reference stays -/
  liveUnlessKeep : ∀ c cn x, s.conns c = some cn → cn.hj = some x → cn.hjLive = false → s.keepHj = true

/-- an object is accounted for: in its pool, or owned by a live connection -/
def tracked (s : State) (k : Kind) (x : Nat) : Prop :=
  x ∈ s.pool k ∨ ∃ c cn, s.conns c = some cn ∧ cn.holds k x

/-- The places where `Serve` lets go of an object without putting it back (the garbage collector gets it):
an exiled context; a body stream on the early returns (write/flush failure, unrecovered panic); a hijack conn
the user keeps (`KeepHijackedConns`) and has not closed when `Serve` returns. -/
def deliberate (s : State) (e : Ev) (k : Kind) (x : Nat) : Prop :=
  match e with
  | .finish c => ∃ cn, s.conns c = some cn ∧ cn.holds k x ∧
      ((k = .ctx ∧ cn.exiled = true) ∨
       (k = .stream ∧ (cn.phase = .ret .writeFail ∨ cn.phase = .ret .panicked)) ∨
       k = .hjconn)
  | _ => False

/-- The case the `conn == nil` guard of `hijackConn.Close` does NOT protect: a holder that has already released its hijack
conn calls `Close` again after the object was handed to another connection (`Conn` is set again, so the guard
does not fire): it closes the other connection and puts the object while the other one uses it. -/
def staleClose (s : State) : Ev → Prop
  | .userClose c => ∃ cn x, s.conns c = some cn ∧ cn.hj = some x ∧ cn.hjLive = false ∧ s.hjSet x = true ∧
      s.keepHj = true ∧ (cn.phase = .hijacking ∨ cn.phase = .ret .hijacked)
  | _ => False

/-- a run without such a call -/
def NoStale (s : State) : List Ev → Prop
  | [] => True
  | e :: es => ¬ staleClose s e ∧ NoStale (step s e) es

/-! ## from a script (what the harness drives) to events -/

/-- one request of a scripted connection -/
structure Req where
  /-- the request reaches the handler (false: malformed / truncated / end of input) -/
  readable : Bool
  /-- `AcquireBodyStream` is called for it (StreamRequestBody and a body framing) -/
  streamed : Bool
  /-- `skipRest` fails (broken chunked body not consumed by the handler) -/
  skipErr : Bool := false
  exile : Bool := false
  panics : Bool := false      -- and nothing recovers
  failWrite : Bool := false
  hijack : Bool := false
  /-- how often the hijack handler calls `Close()` on the conn it was given -/
  closes : Nat := 0
  close : Bool := false
  deriving DecidableEq, Repr

/-- events of connection `c` for the rest of its script; every `Get` takes index 0.
Guards in the order of the Go code: write failure, release error, hijack, close, IdleTimeout 0. -/
def connEvents (c : Nat) (idle0 : Bool) : List Req → List Ev
  | [] => [.readFail c, .finish c]
  | r :: rs =>
    if !r.readable then [.readFail c, .finish c] else
    [.read c r.streamed 0, .handle c r.exile (if r.panics then .panicked else .returned)] ++
    (if r.panics then [.finish c] else
     if r.failWrite then [.respond c false false, .finish c] else
     if r.streamed && r.skipErr then [.respond c true true, .finish c] else
     [.respond c true false] ++
     (if r.hijack then [.after c .hijack 0] ++ List.replicate r.closes (.userClose c) ++ [.hijackEnd c, .finish c] else
      if r.close then [.after c .close 0, .finish c] else
      if idle0 then [.after c .idle0 0, .finish c] else
      .after c .keepAlive 0 :: connEvents c idle0 rs))

/-! ## the acquire / release sites the steps above were written against

(function, enclosing guards, call), in source order, of `http1/server.go`, `http1/ext/stream.go`,
`http1/req/request.go` (stream acquisition), `route/engine.go` (hijack conn) and `protocol/request.go` (body buffer).
Regenerated from the Go source into `Gen/PoolSites.lean`; `Props.C09.release_sites_match_gen` pins the two lists. -/
def expectedSites : List (String × String × String) := [
  ("Server.getRequestContext", "disabaleRequestContextPool", "return"),
  ("Server.getRequestContext", "", "s.Core.GetCtxPool().Get()"),
  ("Server.getRequestContext", "", "return"),
  ("Server.putRequestContext", "disabaleRequestContextPool", "return"),
  ("Server.putRequestContext", "", "ctx.Reset()"),
  ("Server.putRequestContext", "", "s.Core.GetCtxPool().Put(ctx)"),
  ("Server.Serve", "", "s.getRequestContext()"),
  ("Server.Serve", "s.EnableTrace", "s.eventStackPool.Get()"),
  ("Server.Serve", "defer && s.EnableTrace && eventsToTrigger != nil", "s.eventStackPool.Put(eventsToTrigger)"),
  ("Server.Serve", "defer && ctx.IsExiled()", "return"),
  ("Server.Serve", "defer", "s.putRequestContext(ctx)"),
  ("Server.Serve", "ctx.Request.MayContinue() && continueReadingRequest", "zw.Flush()"),
  ("Server.Serve", "", "s.Core.ServeHTTP(cc, ctx)"),
  ("Server.Serve", "", "writeResponse(ctx, zw)"),
  ("Server.Serve", "", "zw.Flush()"),
  ("Server.Serve", "reqBodyStream != nil", "ext.ReleaseBodyStream(reqBodyStream)"),
  ("Server.Serve", "hijackHandler != nil", "s.HijackConnHandle(ctx.GetConn(), hijackHandler)"),
  ("Server.Serve", "", "ctx.ResetWithoutConn()"),
  ("AcquireBodyStream", "", "bodyStreamPool.Get()"),
  ("AcquireBodyStream", "", "return"),
  ("ReleaseBodyStream", "ok", "rs.skipRest()"),
  ("ReleaseBodyStream", "ok", "rs.reset()"),
  ("ReleaseBodyStream", "ok", "bodyStreamPool.Put(rs)"),
  ("ReleaseBodyStream", "", "return"),
  ("ContinueReadBodyStream", "err != nil && errors.Is(err, errs.ErrBodyTooLarge)", "ext.AcquireBodyStream(bodyBuf, zr, req.Header.Trailer(), contentLength)"),
  ("ContinueReadBodyStream", "err != nil && errors.Is(err, errs.ErrBodyTooLarge)", "req.ConstructBodyStream(bodyBuf, ext.AcquireBodyStream(bodyBuf, zr, req.Header.Trailer(), contentLength))"),
  ("ContinueReadBodyStream", "err != nil && errors.Is(err, errs.ErrChunkedStream)", "ext.AcquireBodyStream(bodyBuf, zr, req.Header.Trailer(), contentLength)"),
  ("ContinueReadBodyStream", "err != nil && errors.Is(err, errs.ErrChunkedStream)", "req.ConstructBodyStream(bodyBuf, ext.AcquireBodyStream(bodyBuf, zr, req.Header.Trailer(), contentLength))"),
  ("ContinueReadBodyStream", "", "ext.AcquireBodyStream(bodyBuf, zr, req.Header.Trailer(), contentLength)"),
  ("ContinueReadBodyStream", "", "req.ConstructBodyStream(bodyBuf, ext.AcquireBodyStream(bodyBuf, zr, req.Header.Trailer(), contentLength))"),
  ("Engine.acquireHijackConn", "engine.NoHijackConnPool", "return"),
  ("Engine.acquireHijackConn", "", "engine.hijackConnPool.Get()"),
  ("Engine.acquireHijackConn", "v == nil", "return"),
  ("Engine.acquireHijackConn", "", "return"),
  ("Engine.releaseHijackConn", "engine.NoHijackConnPool", "return"),
  ("Engine.releaseHijackConn", "", "engine.hijackConnPool.Put(hjc)"),
  ("Engine.hijackConnHandler", "", "engine.acquireHijackConn(c)"),
  ("Engine.hijackConnHandler", "", "h(hjc)"),
  ("Engine.hijackConnHandler", "!engine.KeepHijackedConns", "c.Close()"),
  ("Engine.hijackConnHandler", "!engine.KeepHijackedConns", "engine.releaseHijackConn(hjc)"),
  ("hijackConn.Close", "!c.e.KeepHijackedConns", "return"),
  ("hijackConn.Close", "conn == nil", "return"),
  ("hijackConn.Close", "", "c.e.releaseHijackConn(c)"),
  ("hijackConn.Close", "", "conn.Close()"),
  ("hijackConn.Close", "", "return"),
  ("Request.BodyBuffer", "req.body == nil", "requestBodyPool.Get()"),
  ("Request.BodyBuffer", "", "return"),
  ("Request.ResetBody", "", "req.CloseBodyStream()"),
  ("Request.ResetBody", "req.body != nil && req.body.Cap() <= req.maxKeepBodySize", "return"),
  ("Request.ResetBody", "req.body != nil", "requestBodyPool.Put(req.body)"),
  ("Request.CloseBodyStream", "req.bodyStream == nil", "return"),
  ("Request.CloseBodyStream", "", "return")]

end Hertz.PoolOwn
