import Hertz.Model.Fs
import Hertz.Gen.Fs
/-!
# The file handler's cache and reader reference counts (`pkg/app/fs.go`, open path) as a state machine

State of one `fsHandler`: every `*fsFile` it ever created (`Obj`: reference count, pooled big-file
readers, is its OS file still open, is it in `h.cache`, is it in the cleaner's `pendingFiles`, is it
older than `CacheDuration`), the readers that were handed to a response and not yet closed (`Reader`),
and the directory tree below the root (`Disk`).

Operations (`Op`): one request through `fsHandler.handleRequest` (sequentially: `cacheLock` makes the
count updates atomic, the rest of a request runs without another request in between), closing the
body stream of an earlier response (`fsSmallFileReader.Close` / `bigFileReader.Close`), a change of the
tree, the passing of `CacheDuration`, one round of `fsHandler.cleanCache`.

The functions mirror the Go code statement by statement wherever it touches `readersCount`
(`incRc` = `ff.readersCount++` under the lock, `decReadersCount` with its `panic("BUG: negative
fsFile.readersCount!")` as the fault `Fault.negativeCount`).  The list of those sites per Go function
is regenerated from the source (`Gen/Fs.lean`, `rcSites`) and compared in `Props/C08.lean`.

Not modelled: the compressed variant (`compressedCache`), generated index pages (`ff.f == nil`),
two requests inside `handleRequest` at once (the `ff1` branch that releases a file opened twice).
-/
namespace Hertz.FsCache
open Hertz

/-- a file OBJECT on disk: its identity `ino` (what `os.SameFile` compares; every write-to-temp + rename makes a new one,
and a file object is never rewritten in place) and its bytes, which are named, not stored: pattern `cid`, length `len`
(the driver expands them) -/
structure Content where
  ino : Nat
  cid : Nat
  len : Nat
deriving DecidableEq, Repr

/-- what is at `root/<key>` -/
inductive Node where
  | absent
  | file (c : Content) (mt : Nat)
  /-- a directory, with or without an `index.html` (`FS.IndexNames = ["index.html"]`, no generated pages) -/
  | dir (idx : Option (Content × Nat))
deriving DecidableEq, Repr

abbrev Disk := Nat → Node

def Disk.set (d : Disk) (k : Nat) (n : Node) : Disk := fun j => if j = k then n else d j

/-- what an open descriptor reads -/
inductive Src where
  | content (c : Content)
deriving DecidableEq, Repr

/-- a `*bigFileReader` sitting in `ff.bigFiles` (it owns a descriptor) -/
structure Pooled where
  rid : Nat
  src : Src
deriving DecidableEq, Repr

/-- a `*fsFile` -/
structure Obj where
  id : Nat
  key : Nat
  /-- opened through `openIndexFile`: the path of `ff.f` is `<key>/index.html` -/
  viaIndex : Bool
  c : Content
  mt : Nat
  /-- `ff.readersCount` -/
  rc : Int
  /-- `ff.bigFiles`, last element first -/
  pool : List Pooled
  /-- `ff.f` not yet closed by `Release` -/
  fileOpen : Bool
  /-- still the value of `h.cache[key]` -/
  cached : Bool
  /-- in the cleaner's `pendingFiles` -/
  pending : Bool
  /-- `time.Now().Sub(ff.t) > cacheDuration` -/
  expired : Bool
deriving Repr

/-- a reader handed out by `ff.NewReader()` -/
structure Reader where
  rid : Nat
  /-- `r.ff` -/
  fid : Nat
  big : Bool
  src : Src
  /-- first byte delivered -/
  lo : Nat
  /-- number of bytes announced (`Content-Length`; the server copies at most that many) -/
  cl : Nat
deriving DecidableEq, Repr

structure State where
  objs : List Obj := []
  live : List Reader := []
  /-- allocation counter: identities of `fsFile` and reader objects -/
  next : Nat := 0
  disk : Disk := fun _ => .absent

inductive Fault where
  /-- `panic("BUG: negative fsFile.readersCount!")` -/
  | negativeCount
  /-- any other panic (nil `fsFile`, slice bounds in `ParseByteRange`, …) -/
  | bug (site : String)
deriving DecidableEq, Repr

/-- what the client sees of one request -/
structure Ans where
  status : Nat
  cl : Nat := 0
  /-- `Content-Range: bytes first-last/len` -/
  cr : Option (Nat × Nat × Nat) := none
  /-- the body stream the response holds (closed by the server after the body is written) -/
  rid : Option Nat := none
deriving DecidableEq, Repr

/-! ## primitives -/

def modObj (id : Nat) (f : Obj → Obj) (s : State) : State :=
  { s with objs := s.objs.map fun o => if o.id = id then f o else o }

def findObj (s : State) (id : Nat) : Option Obj := s.objs.find? fun o => decide (o.id = id)

/-- `fileCache[string(path)]` -/
def lookup (s : State) (key : Nat) : Option Obj := s.objs.find? fun o => o.cached && decide (o.key = key)

/-- `ff.readersCount++` (under `cacheLock`) -/
def incRc (id : Nat) (s : State) : State := modObj id (fun o => { o with rc := o.rc + 1 }) s

/-- `fsFile.decReadersCount` -/
def decReadersCount (id : Nat) (s : State) : Except Fault State :=
  match findObj s id with
  | none => .error (.bug "nil fsFile")
  | some o =>
    if o.rc - 1 < 0 then .error .negativeCount
    else .ok (modObj id (fun o => { o with rc := o.rc - 1 }) s)

def Obj.isBig (o : Obj) : Bool := decide (o.c.len > Gen.Fs.maxSmallFileSize)

inductive OpenRes where
  | ok (viaIndex : Bool) (c : Content) (mt : Nat)
  | notFound
  | forbidden

/-- `openFSFile(root+path)`, then `openIndexFile` on `errDirIndexRequired` -/
def openPath (d : Disk) (key : Nat) : OpenRes :=
  match d key with
  | .absent => .notFound
  | .file c mt => .ok false c mt
  | .dir (some (c, mt)) => .ok true c mt
  | .dir none => .forbidden

/-- `os.Open(ff.f.Name())` in `fsFile.bigFileReader` — by NAME, whatever is there now — followed by the check
`os.SameFile(ff.f.Stat(), f.Stat())`: when the name denotes another file object (or a directory) by now, the fresh
descriptor is closed and the error is returned. -/
def reopen (d : Disk) (o : Obj) : Option Src :=
  if o.viaIndex then
    match d o.key with
    | .dir (some (c, _)) => if c = o.c then some (.content c) else none
    | _ => none
  else
    match d o.key with
    | .file c _ => if c = o.c then some (.content c) else none
    | .dir _ => none
    | .absent => none

/-- `Close()` of a reader that is not (or no longer) in `live`:
`bigFileReader.Close` (seek to 0, back into `ff.bigFiles`, `decReadersCount`) or
`fsSmallFileReader.Close` (`decReadersCount`, reader object back into the `sync.Pool`) -/
def closeReader (r : Reader) (s : State) : Except Fault State :=
  if r.big then
    decReadersCount r.fid (modObj r.fid (fun o => { o with pool := { rid := r.rid, src := r.src } :: o.pool }) s)
  else
    decReadersCount r.fid s

/-- the tail of `handleRequest`: `ctx.SetBodyStream(r, contentLength)`, or for HEAD `r.Close()` -/
def finish (head : Bool) (s : State) (status : Nat) (r : Reader) (cr : Option (Nat × Nat × Nat)) : Except Fault (State × Ans) :=
  if head then
    (closeReader r s).map fun s' => (s', { status := status, cl := r.cl, cr := cr })
  else
    .ok ({ s with live := r :: s.live }, { status := status, cl := r.cl, cr := cr, rid := some r.rid })

/-- the range part of `handleRequest`, once `NewReader` has succeeded -/
def withReader (accept head : Bool) (range : Bytes) (o : Obj) (r : Reader) (s : State) : Except Fault (State × Ans) :=
  if accept && !range.isEmpty then
    match FS.parseByteRange range o.c.len with
    | .error .bad => (closeReader r s).map fun s' => (s', { status := 416 })
    | .error (.panic site) => .error (.bug site)
    | .error (.io site) => .error (.bug site)
    | .ok (a, b) =>
      finish head s 206 { r with lo := a.toNat, cl := (b - a + 1).toNat } (some (a.toNat, b.toNat, o.c.len))
  else finish head s 200 r none

/-- `ctx.IfModifiedSince(ff.lastModified)` is false -/
def notModified (ims : Option Nat) (o : Obj) : Bool :=
  match ims with
  | none => false
  | some t => !decide (t < o.mt)

/-- `handleRequest` from `if !ctx.IfModifiedSince(...)` on; `ff.readersCount` has been incremented for this request -/
def serve (accept head : Bool) (ims : Option Nat) (range : Bytes) (id : Nat) (s : State) : Except Fault (State × Ans) :=
  match findObj s id with
  | none => .error (.bug "nil fsFile")
  | some o =>
    if notModified ims o then
      (decReadersCount id s).map fun s' => (s', { status := 304 })
    else if o.isBig then
      -- ff.NewReader → ff.bigFileReader
      match o.pool with
      | p :: rest =>
        withReader accept head range o { rid := p.rid, fid := id, big := true, src := p.src, lo := 0, cl := o.c.len }
          (modObj id (fun o => { o with pool := rest }) s)
      | [] =>
        match reopen s.disk o with
        | none =>
          -- bigFileReader returns the error; NewReader: `ff.decReadersCount()`; 500
          (decReadersCount id s).map fun s' => (s', { status := 500 })
        | some src =>
          withReader accept head range o { rid := s.next, fid := id, big := true, src := src, lo := 0, cl := o.c.len }
            { s with next := s.next + 1 }
    else
      -- ff.smallFileReader: reads through ff.f
      withReader accept head range o { rid := s.next, fid := id, big := false, src := .content o.c, lo := 0, cl := o.c.len }
        { s with next := s.next + 1 }

/-- `fsHandler.handleRequest` -/
def handleRequest (accept : Bool) (key : Nat) (head : Bool) (ims : Option Nat) (range : Bytes) (s : State) :
    Except Fault (State × Ans) :=
  match lookup s key with
  | some o => serve accept head ims range o.id (incRc o.id s)
  | none =>
    match openPath s.disk key with
    | .notFound => .ok (s, { status := 404 })
    | .forbidden => .ok (s, { status := 403 })
    | .ok vi c mt =>
      let o : Obj := { id := s.next, key := key, viaIndex := vi, c := c, mt := mt, rc := 0, pool := [],
                       fileOpen := true, cached := true, pending := false, expired := false }
      serve accept head ims range o.id (incRc o.id { s with objs := o :: s.objs, next := s.next + 1 })

/-- remove the first reader with this identity -/
def takeReader (rid : Nat) : List Reader → Option (Reader × List Reader)
  | [] => none
  | r :: rest =>
    if r.rid = rid then some (r, rest)
    else (takeReader rid rest).map fun (x, l) => (x, r :: l)

/-- the server closes the body stream of an earlier response -/
def closeOp (rid : Nat) (s : State) : Except Fault (State × Ans) :=
  match takeReader rid s.live with
  | none => .ok (s, { status := 0 })
  | some (r, rest) => (closeReader r { s with live := rest }).map fun s' => (s', { status := 1 })

/-- `fsFile.Release` -/
def Obj.release (o : Obj) : Obj := { o with fileOpen := false, pool := [] }

/-- `fsHandler.cleanCache` (both loops; every `fsFile` is in at most one of `pendingFiles`, `h.cache`) -/
def tickObj (o : Obj) : Obj :=
  if o.pending then
    if o.rc > 0 then o else { o with pending := false }.release
  else if o.cached && o.expired then
    if o.rc > 0 then { o with cached := false, pending := true }
    else { o with cached := false }.release
  else o

def tick (s : State) : State := { s with objs := s.objs.map tickObj }

/-- `CacheDuration` passes -/
def expireAll (s : State) : State := { s with objs := s.objs.map fun o => { o with expired := true } }

inductive Op where
  | req (key : Nat) (head : Bool) (ims : Option Nat) (range : Bytes)
  | close (rid : Nat)
  | setNode (key : Nat) (n : Node)
  | expire
  | tick
deriving Repr

def step (accept : Bool) (s : State) : Op → Except Fault (State × Ans)
  | .req key head ims range => handleRequest accept key head ims range s
  | .close rid => closeOp rid s
  | .setNode key n => .ok ({ s with disk := s.disk.set key n }, { status := 0 })
  | .expire => .ok (expireAll s, { status := 0 })
  | .tick => .ok (tick s, { status := 0 })

def run (accept : Bool) : State → List Op → Except Fault State
  | s, [] => .ok s
  | s, op :: ops =>
    match step accept s op with
    | .error f => .error f
    | .ok (s', _) => run accept s' ops

/-! ## observables -/

/-- live readers of one `fsFile` -/
def countFid (fid : Nat) : List Reader → Nat
  | [] => 0
  | r :: rest => (if r.fid = fid then 1 else 0) + countFid fid rest

/-- descriptors the handler holds: `ff.f` of every unreleased file, pooled and live big-file readers -/
def fds (s : State) : Nat :=
  (s.objs.map fun o => (if o.fileOpen then 1 else 0) + o.pool.length).sum + (s.live.filter (·.big)).length

def findReader (s : State) (rid : Nat) : Option Reader := s.live.find? fun r => decide (r.rid = rid)

end Hertz.FsCache
