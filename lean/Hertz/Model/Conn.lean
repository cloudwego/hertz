import Hertz.Basic
/-!
Model of the buffered connection `pkg/network/standard` (`connection.go`, `buffer.go`) and of
`pkg/network/writer.go` (`networkWriter`), function by function (`Conn.Write` and `Conn.ReadFrom` are not modelled).

* A `linkBufferNode` is a `Node`: `data` is `buf[0:malloc]` (so `malloc = data.length`), `cap` is
  `cap(buf)`, `off` the read offset.  `id` is the identity of the memory block (ghost, used for the
  peek-stability theorem only).
* The input `linkBuffer` is a zipper over the node chain `head … read … write`:
  `done` = nodes strictly before `read`, `mid` = nodes from `read` up to but excluding `write`,
  `w` = the tail node `write`.  `read` is the first node of `mid ++ [w]`.
* The wire (`net.Conn.Read`) is a script of events; `Conn.Read(p)` semantics is `connRead`.
* Whatever would panic in Go (nil node dereference when a walk runs off the chain, slicing beyond
  capacity) or spin forever (`fill` calling `Read` with an empty buffer while still needing bytes)
  is an explicit `Fault`, never totalised away.
Sizes are `Nat`: every public entry point is modelled for `n ≥ 0` only.
-/
namespace Hertz.Conn

/-- error classes: `0` = the reader's own "skip not enough" error, `1` = `io.EOF`, others = scripted wire errors -/
abbrev Err := Nat
def errSkip : Err := 0
def errEOF : Err := 1

inductive Fault
  | nilDeref (site : String)
  | sliceBounds (site : String)
  | hang (site : String)
  deriving Repr, DecidableEq

/-! ## constants of `connection.go` / `writer.go` (pinned to the source by `Proofs/Conn.lean:model_matches_gen`) -/
def block1k : Nat := 1024
def block4k : Nat := 4096
def block8k : Nat := 8192
def mallocMax : Nat := 524288
def defaultMallocSize : Nat := 4096
def size4K : Nat := 4096

/-! ## `mcache.Malloc`: capacity is the next power of two (`calcIndex`), 1 for size 0 -/
def pow2ceilAux : Nat → Nat → Nat → Nat
  | 0, p, _ => p
  | f + 1, p, n => if n ≤ p then p else pow2ceilAux f (2 * p) n

def pow2ceil (n : Nat) : Nat := pow2ceilAux 64 1 n

/-- `cap(malloc(size, size))` of `buffer.go` -/
def capOf (size : Nat) : Nat := if size > mallocMax then size else pow2ceil size

structure Node where
  id : Nat
  cap : Nat
  data : Bytes := []
  off : Nat := 0
  readOnly : Bool := false
  deriving Repr, DecidableEq

/-- `linkBufferNode.Len` -/
def Node.len (b : Node) : Nat := b.data.length - b.off
/-- the bytes `buf[off:malloc]` -/
def Node.unread (b : Node) : Bytes := b.data.drop b.off
/-- `linkBufferNode.Reset` -/
def Node.reset (b : Node) : Node := { b with data := [], off := 0, readOnly := false }
/-- `linkBufferNode.recyclable` -/
def Node.recyclable (b : Node) : Bool := decide (b.cap ≤ block8k) && !b.readOnly
/-- `newBufferNode(size)` -/
def newNode (size id : Nat) : Node := { id := id, cap := capOf size }

/-! ## the wire -/

/-- one scripted behaviour of `net.Conn.Read`: deliver `d` (in pieces if the caller's buffer is
smaller), the error `e` (if any) comes together with the last piece; `d = []` is a read returning
`(0, e)` (or `(0, nil)`).  After the script: `(0, io.EOF)` forever. -/
inductive Ev
  | data (d : Bytes) (e : Option Err)
  deriving Repr, DecidableEq

abbrev Wire := List Ev

/-- `c.c.Read(p)` with `len(p) = room` -/
def connRead : Wire → Nat → (Bytes × Option Err) × Wire
  | [], _ => (([], some errEOF), [])
  | .data d e :: t, room =>
    if d.length ≤ room then ((d, e), t) else ((d.take room, none), .data (d.drop room) e :: t)

/-- all bytes still on the wire -/
def wireBytes : Wire → Bytes
  | [] => []
  | .data d _ :: t => d ++ wireBytes t

/-! ## reader -/

structure Reader where
  done : List Node := []
  mid : List Node := []
  w : Node
  len : Nat := 0
  maxSize : Nat
  err : Option Err := none
  /-- block ids of the copies handed out by cross-node `Peek` (`c.caches`) -/
  caches : List Nat := []
  nextId : Nat
  deriving Repr, DecidableEq

/-- `newConn(c, size)`, input side -/
def Reader.new (size : Nat) : Reader :=
  let maxSize := if size > defaultMallocSize then size else defaultMallocSize
  { w := newNode maxSize 0, maxSize := maxSize, nextId := 1 }

/-- the chain from `read` to `write` -/
def Reader.cur (s : Reader) : List Node := s.mid ++ [s.w]
def Reader.nodes (s : Reader) : List Node := s.done ++ s.mid ++ [s.w]
/-- the node `read` points to (never nil in this representation) -/
def Reader.readNode (s : Reader) : Node :=
  match s.mid with
  | [] => s.w
  | nd :: _ => nd
/-- buffered but unconsumed bytes -/
def Reader.unread (s : Reader) : Bytes := s.cur.flatMap Node.unread

inductive FillEnd
  | ok
  | stash (e : Err)
  | fail (e : Err)
  | hang
  deriving Repr, DecidableEq

/-- `d` was appended to the write node before the rest of the loop ran -/
def prependBytes {α : Type} (d : Bytes) (r : Bytes × α) : Bytes × α := (d ++ r.1, r.2)

/-- the `for i > 0 { n, err := c.c.Read(buf[malloc:]) … }` loop of `fill`; `need` is `i`,
`room` is `len(buf[malloc:])`.  Returns the bytes appended to the write node. -/
def fillLoop : Wire → Nat → Nat → Bytes × FillEnd × Wire
  | w, 0, _ => ([], .ok, w)
  | [], _ + 1, _ => ([], .fail errEOF, [])
  | .data d e :: t, need + 1, room =>
    if d.length ≤ room then
      if d.length > 0 then
        match e with
        | some e => (d, .stash e, t)
        | none => prependBytes d (fillLoop t (need + 1 - d.length) (room - d.length))
      else
        match e with
        | some e => ([], .fail e, t)
        | none => fillLoop t (need + 1) room
    else if room = 0 then
      -- Read(empty buffer) returns (0, nil) and the loop condition still holds: spins forever
      ([], .hang, .data d e :: t)
    else if need + 1 ≤ room then
      (d.take room, .ok, .data (d.drop room) e :: t)
    else
      -- buffer full, still `i > 0`: the next iteration calls Read with an empty buffer
      (d.take room, .hang, .data (d.drop room) e :: t)

/-- `Conn.fill(i)`; the first component is the returned error -/
def fill (s : Reader) (wire : Wire) (i : Nat) : Except Fault (Option Err × Reader × Wire) :=
  if s.len ≥ i then pure (none, s, wire)
  else
    match s.err with
    | some e =>
      -- readErr() cleared c.err
      if s.len > 0 then pure (none, { s with err := some e }, wire)
      else pure (some e, { s with err := none }, wire)
    | none =>
      let node := s.w
      let left := node.cap - node.data.length
      let s1 : Reader :=
        if left < i - s.len || node.readOnly then
          let malloc := if i < s.maxSize then s.maxSize else i
          { s with mid := s.mid ++ [{ node with readOnly := false }], w := newNode malloc s.nextId,
                   nextId := s.nextId + 1 }
        else s
      let need := i - s1.len
      let room := s1.w.cap - s1.w.data.length
      let r := fillLoop wire need room
      let s2 : Reader := { s1 with w := { s1.w with data := s1.w.data ++ r.1 }, len := s1.len + r.1.length }
      match r.2.1 with
      | .ok => pure (none, s2, r.2.2)
      | .stash e => pure (none, { s2 with err := some e }, r.2.2)
      | .fail e => pure (some e, s2, r.2.2)
      | .hang => throw (.hang "fill: Read with empty buffer while i > 0")

/-- `Conn.peekBuffer(i, buf)`: the bytes copied into `buf[0:i]`, walking from `read` -/
def peekWalk : List Node → Nat → Except Fault Bytes
  | _, 0 => pure []
  | [], _ + 1 => throw (.nilDeref "peekBuffer: node.next is nil")
  | nd :: rest, ack + 1 =>
    if nd.len ≥ ack + 1 then pure (nd.unread.take (ack + 1))
    else do
      let r ← peekWalk rest (ack + 1 - nd.len)
      pure (nd.unread ++ r)

/-- `Conn.Peek(i)`: returned slice, returned error, new state -/
def peek (s : Reader) (wire : Wire) (i : Nat) : Except Fault (Bytes × Option Err × Reader × Wire) := do
  let (e, s1, w1) ← fill s wire i
  match e with
  | some e => pure ([], some e, s1, w1)
  | none =>
    let short := s1.len < i
    let i' := if short then s1.len else i
    let err := if short then s1.err else none
    let s2 : Reader := if short then { s1 with err := none } else s1
    let node := s2.readNode
    if node.len ≥ i' then pure (node.unread.take i', err, s2, w1)
    else
      let s3 : Reader :=
        if block1k < i' && i' ≤ mallocMax then
          { s2 with caches := s2.caches ++ [s2.nextId], nextId := s2.nextId + 1 }
        else s2
      let p ← peekWalk s3.cur i'
      pure (p, err, s3, w1)

/-- the loop of `Conn.Skip`, moving `read` along the chain -/
def skipWalk : List Node → List Node → Node → Nat → Except Fault (List Node × List Node × Node)
  | done, mid, w, 0 => pure (done, mid, w)
  | done, [], w, ack + 1 =>
    if w.len ≥ ack + 1 then pure (done, [], { w with off := w.off + (ack + 1) })
    else throw (.nilDeref "Skip: read.next is nil")
  | done, nd :: mid, w, ack + 1 =>
    if nd.len ≥ ack + 1 then pure (done, { nd with off := nd.off + (ack + 1) } :: mid, w)
    else skipWalk (done ++ [nd]) mid w (ack + 1 - nd.len)

/-- `Conn.Skip(n)`: `some errSkip` when not enough is buffered -/
def skip (s : Reader) (n : Nat) : Except Fault (Option Err × Reader) :=
  if s.len < n then pure (some errSkip, s)
  else do
    let (done, mid, w) ← skipWalk s.done s.mid s.w n
    pure (none, { s with done := done, mid := mid, w := w, len := s.len - n })

def clampMax (maxSize size : Nat) : Nat :=
  let size := if size > mallocMax then mallocMax else size
  if size > maxSize then size else maxSize

/-- the general path of `Release` (data left, or more than two nodes) -/
def releaseGeneral (s : Reader) : Reader :=
  let size :=
    match s.done with
    | _ :: rest => ((rest ++ [s.readNode]).map (fun nd => nd.data.length)).sum
    | [] => 0
  { s with done := [], w := { s.w with readOnly := true }, maxSize := clampMax s.maxSize size, caches := [] }

/-- `Release` when `head.next == write` and nothing is buffered (with `handleTail`) -/
def releaseTwo (s : Reader) (h : Node) : Reader :=
  let maxSize := clampMax s.maxSize (h.data.length + s.w.data.length)
  if s.w.cap > mallocMax then
    { s with done := [], mid := [], w := newNode maxSize s.nextId, nextId := s.nextId + 1,
             maxSize := maxSize, caches := [] }
  else
    { s with done := [], mid := [], w := s.w.reset, maxSize := maxSize, caches := [] }

/-- `Conn.Release()` (always returns nil) -/
def release (s : Reader) : Reader :=
  if s.len = 0 then
    match s.done, s.mid with
    | [], [] => { s with w := s.w.reset }
    | [h], [] => releaseTwo s h
    | [], [h] => releaseTwo s h
    | _, _ => releaseGeneral s
  else releaseGeneral s

/-- `Conn.next(length, b)`: bytes copied to `b[0:length]`, error -/
def next (s : Reader) (l : Nat) : Except Fault (Bytes × Option Err × Reader) := do
  let p ← peekWalk s.cur l
  let (e, s1) ← skip s l
  match e with
  | some e => pure (p, some e, s1)
  | none => pure (p, none, release s1)

inductive Op
  | peek (n : Nat)
  | skip (n : Nat)
  | readByte
  | readBinary (n : Nat)
  /-- `Read(b)` with `len(b) = n` -/
  | read (n : Nat)
  | release
  | len
  deriving Repr, DecidableEq

structure Out where
  bytes : Bytes := []
  err : Option Err := none
  /-- `Len()` right after the operation -/
  len : Nat
  deriving Repr, DecidableEq

def step (s : Reader) (wire : Wire) : Op → Except Fault (Out × Reader × Wire)
  | .peek n => do
    let (p, e, s1, w1) ← peek s wire n
    pure ({ bytes := p, err := e, len := s1.len }, s1, w1)
  | .skip n => do
    let (e, s1) ← skip s n
    pure ({ err := e, len := s1.len }, s1, wire)
  | .readByte => do
    let (p, e, s1, w1) ← peek s wire 1
    match e with
    | some e => pure ({ err := some e, len := s1.len }, s1, w1)
    | none =>
      let (e2, s2) ← skip s1 1
      match e2 with
      | some e2 => pure ({ err := some e2, len := s2.len }, s2, w1)
      | none =>
        match p with
        | [] => throw (.sliceBounds "ReadByte: b[0]")
        | b :: _ => pure ({ bytes := [b], len := s2.len }, s2, w1)
  | .readBinary n => do
    let (p, e, s1, w1) ← peek s wire n
    match e with
    | some e => pure ({ err := some e, len := s1.len }, s1, w1)
    | none =>
      let (e2, s2) ← skip s1 n
      -- out := make([]byte, n); copy(out, p)
      pure ({ bytes := p ++ List.replicate (n - p.length) 0, err := e2, len := s2.len }, s2, w1)
  | .read k =>
    if s.len > 0 then do
      let l := min s.len k
      let (p, e, s1) ← next s l
      pure ({ bytes := p, err := e, len := s1.len }, s1, wire)
    else if k ≤ block4k then do
      let (e, s1, w1) ← fill s wire 1
      match e with
      | some e => pure ({ err := some e, len := s1.len }, s1, w1)
      | none =>
        let l := min s1.len k
        let (p, e, s2) ← next s1 l
        pure ({ bytes := p, err := e, len := s2.len }, s2, w1)
    else
      let r := connRead wire k
      pure ({ bytes := r.1.1, err := r.1.2, len := s.len }, s, r.2)
  | .release => pure ({ len := (release s).len }, release s, wire)
  | .len => pure ({ len := s.len }, s, wire)

/-- run a whole operation sequence -/
def run (s : Reader) (wire : Wire) : List Op → Except Fault (List Out × Reader × Wire)
  | [] => pure ([], s, wire)
  | op :: ops => do
    let (o, s1, w1) ← step s wire op
    let (os, s2, w2) ← run s1 w1 ops
    pure (o :: os, s2, w2)

/-! ## writer side of `standard.Conn` -/

structure Writer where
  /-- nodes from `head` up to but excluding `write` -/
  pre : List Node := []
  w : Node
  /-- `outputBuffer.len`: room left in the write node -/
  len : Nat := 0
  nextId : Nat
  deriving Repr, DecidableEq

/-- `newConn`, output side: `newBufferNode(0)` -/
def Writer.new : Writer := { w := newNode 0 0, nextId := 1 }

/-- bytes accepted but not yet sent -/
def Writer.pending (s : Writer) : Bytes := (s.pre ++ [s.w]).flatMap Node.unread

/-- `Malloc(len(bs))` followed by the caller filling the returned slice with `bs` -/
def wmalloc (s : Writer) (bs : Bytes) : Except Fault Writer :=
  let n := bs.length
  if n = 0 then pure s
  else if s.len > n then
    if s.w.data.length + n > s.w.cap then throw (.sliceBounds "Malloc: node.buf[:node.malloc]")
    else pure { s with w := { s.w with data := s.w.data ++ bs }, len := s.len - n }
  else
    let mallocSize := if n < defaultMallocSize then defaultMallocSize else n
    let node : Node := { newNode mallocSize s.nextId with data := bs }
    pure { s with pre := s.pre ++ [s.w], w := node, len := node.cap - n, nextId := s.nextId + 1 }

/-- `WriteBinary(bs)`; returns the byte count -/
def wwriteBinary (s : Writer) (bs : Bytes) : Except Fault (Nat × Writer) :=
  if bs.length < block4k then do
    let s1 ← wmalloc s bs
    pure (bs.length, s1)
  else
    let node : Node := { id := s.nextId, cap := bs.length, data := bs, readOnly := true }
    pure (bs.length, { s with pre := s.pre ++ [s.w], w := node, len := 0, nextId := s.nextId + 1 })

/-- the script of `net.Conn.Write`: one entry per call, `true` = fails with `(0, err)`;
exhausted = succeeds -/
abbrev WScript := List Bool

def wscriptNext : WScript → Bool × WScript
  | [] => (false, [])
  | b :: t => (b, t)

/-- `d` went to the peer before the rest of the loop ran -/
def prependSent {α : Type} (d : Bytes) (r : Bool × Bytes × α) : Bool × Bytes × α := (r.1, d ++ r.2.1, r.2.2)

/-- the `for { … }` loop of `Flush` from `head`; returns (failed?, bytes sent, new pre, new w, new len, script) -/
def flushLoop : List Node → Node → Nat → WScript → Bool × Bytes × List Node × Node × Nat × WScript
  | [], w, len, sc =>
    let (f, sc') := wscriptNext sc
    if f then (true, [], [], w, len, sc')
    else
      let w1 := { w with off := w.off + w.unread.length }
      if w1.recyclable then (false, w.unread, [], w1.reset, w1.cap, sc')
      else (false, w.unread, [], w1, len, sc')
  | h :: pre, w, len, sc =>
    let (f, sc') := wscriptNext sc
    if f then (true, [], h :: pre, w, len, sc')
    else prependSent h.unread (flushLoop pre w len sc')

/-- `Flush()`: (failed?, bytes handed to the peer, state, script) -/
def wflush (s : Writer) (sc : WScript) : Bool × Bytes × Writer × WScript :=
  match s.pre with
  | [] =>
    if s.w.len = 0 then (false, [], s, sc)
    else
      let r := flushLoop [] s.w s.len sc
      (r.1, r.2.1, { s with pre := r.2.2.1, w := r.2.2.2.1, len := r.2.2.2.2.1 }, r.2.2.2.2.2)
  | h :: pre =>
    -- `if head.Len() == 0 { head = head.next }`
    let pre' := if h.len = 0 then pre else h :: pre
    let r := flushLoop pre' s.w s.len sc
    (r.1, r.2.1, { s with pre := r.2.2.1, w := r.2.2.2.1, len := r.2.2.2.2.1 }, r.2.2.2.2.2)

inductive WOp
  | malloc (bs : Bytes)
  | writeBinary (bs : Bytes)
  | flush
  deriving Repr, DecidableEq

/-- what a write op reports: `n` (bytes accepted, or failure flag for flush), and the bytes the peer got -/
structure WOut where
  n : Nat := 0
  failed : Bool := false
  sent : Bytes := []
  deriving Repr, DecidableEq

def wstep (s : Writer) (sc : WScript) : WOp → Except Fault (WOut × Writer × WScript)
  | .malloc bs => do
    let s1 ← wmalloc s bs
    pure ({ n := bs.length }, s1, sc)
  | .writeBinary bs => do
    let (n, s1) ← wwriteBinary s bs
    pure ({ n := n }, s1, sc)
  | .flush =>
    let r := wflush s sc
    pure ({ failed := r.1, sent := r.2.1 }, r.2.2.1, r.2.2.2)

def wrun (s : Writer) (sc : WScript) : List WOp → Except Fault (List WOut × Writer × WScript)
  | [] => pure ([], s, sc)
  | op :: ops => do
    let (o, s1, sc1) ← wstep s sc op
    let (os, s2, sc2) ← wrun s1 sc1 ops
    pure (o :: os, s2, sc2)

/-! ## `network.networkWriter` (`pkg/network/writer.go`) -/

structure NwNode where
  data : Bytes
  cap : Nat
  readOnly : Bool := false
  deriving Repr, DecidableEq

structure NetWriter where
  caches : List NwNode := []
  deriving Repr, DecidableEq

def nwAppendLast : List NwNode → Bytes → Option (List NwNode)
  | [], _ => none
  | [n], bs => if !n.readOnly && n.cap - n.data.length ≥ bs.length then some [{ n with data := n.data ++ bs }] else none
  | n :: m :: t, bs => (nwAppendLast (m :: t) bs).map (n :: ·)

/-- `networkWriter.Malloc(len(bs))` + fill -/
def nwMalloc (s : NetWriter) (bs : Bytes) : NetWriter :=
  match nwAppendLast s.caches bs with
  | some c => { caches := c }
  | none => { caches := s.caches ++ [{ data := bs, cap := pow2ceil bs.length }] }

def nwWriteBinary (s : NetWriter) (bs : Bytes) : NetWriter :=
  if bs.length < size4K then nwMalloc s bs
  else { caches := s.caches ++ [{ data := bs, cap := bs.length, readOnly := true }] }

def nwFlushLoop : List NwNode → WScript → Bool × Bytes × WScript
  | [], sc => (false, [], sc)
  | n :: t, sc =>
    let (f, sc') := wscriptNext sc
    if f then (true, [], sc')
    else prependSent n.data (nwFlushLoop t sc')

/-- `networkWriter.Flush()`: everything is released whatever the outcome -/
def nwFlush (s : NetWriter) (sc : WScript) : Bool × Bytes × NetWriter × WScript :=
  let r := nwFlushLoop s.caches sc
  (r.1, r.2.1, {}, r.2.2)

def nwStep (s : NetWriter) (sc : WScript) : WOp → WOut × NetWriter × WScript
  | .malloc bs => ({ n := bs.length }, nwMalloc s bs, sc)
  | .writeBinary bs => ({ n := bs.length }, nwWriteBinary s bs, sc)
  | .flush =>
    let r := nwFlush s sc
    ({ failed := r.1, sent := r.2.1 }, r.2.2.1, r.2.2.2)

def nwRun (s : NetWriter) (sc : WScript) : List WOp → List WOut × NetWriter × WScript
  | [] => ([], s, sc)
  | op :: ops =>
    let r := nwStep s sc op
    let r2 := nwRun r.2.1 r.2.2 ops
    (r.1 :: r2.1, r2.2)

end Hertz.Conn
