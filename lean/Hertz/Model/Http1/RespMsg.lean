import Hertz.Model.Http1.Resp
import Hertz.Model.Fs
import Hertz.Spec.Resp
/-!
The whole response as `Server.Serve` + `resp.Write` (or the hijacked writer) put it on the wire: the
header block of the C05 model (`HW.RespHdr.bytes`) in the state `ResponseHeader.SetContentLength`
leaves behind, followed by the body bytes of `H1.Resp.frame`.

A model file, not a proof file, so that the driver, which must not import `Proofs/`, can compare `message`
with the bytes the real server writes: `decimal`, `strHTTP11Sp`, `statusLineOf`, `setArgKV`, `withFraming`,
`toSpec`, `effFraming`, `message`.

`setLengthHeader` is the model of `ResponseHeader.setSpecialHeader` for the key `Content-Length`
(`Header.Set("Content-Length", v)`).
-/
namespace Hertz.H1.Resp
open Hertz Hertz.Gen.Str Hertz.HW

/-- the digits `bytesconv.AppendUint(nil, n)` writes (`FS.decDigits` with the 20-byte scratch buffer) -/
def decimal (n : Nat) : Bytes := (FS.decDigits 20 n).getD []

/-- `HTTP/1.1 ` -/
def strHTTP11Sp : Bytes := [72, 84, 84, 80, 47, 49, 46, 49, 32]

/-- `consts.StatusLine(code)` without the final CRLF: `fmt.Sprintf("HTTP/1.1 %d %s", code, reason)` -/
def statusLineOf (code : Nat) (reason : Bytes) : Bytes := strHTTP11Sp ++ decimal code ++ 32 :: reason

/-- `setArgBytes(h, key, value, ArgsHasValue)`: overwrite the first entry with that key, else append -/
def setArgKV : List (Bytes × Bytes) → Bytes → Bytes → List (Bytes × Bytes)
  | [], k, v => [(k, v)]
  | (k', v') :: t, k, v => if k' = k then (k, v) :: t else (k', v') :: setArgKV t k v

/-- `ResponseHeader.SetContentLength` as `resp.Write`, `writeBodyStream` and the hijacked writer call it,
for the framing `frame` decides: `n ≥ 0` writes the decimal number and deletes `Transfer-Encoding`,
`-1` clears it and sets `Transfer-Encoding: chunked`; no call (or the no-op for 1xx/204/304) leaves
the header as it is. -/
def withFraming (r : RespHdr) : Framing → RespHdr
  | .none => r
  | .cl n => { r with contentLength := n, clBytes := decimal n,
                      h := r.h.filter (fun kv => kv.1 != strTransferEncoding) }
  | .chunked => { r with contentLength := -1, clBytes := [],
                         h := setArgKV r.h strTransferEncoding strChunked }

def toSpec : Framing → Spec.Resp.Framing
  | .none => .none
  | .cl n => .cl n
  | .chunked => .chunked

/-- the framing the reader sees: the writer's if it set one, else what the header declared -/
def effFraming (d : Spec.Resp.Framing) : Framing → Spec.Resp.Framing
  | .none => d
  | .cl n => .cl n
  | .chunked => .chunked

/-- everything `resp.Write` (or the hijacked writer) puts on the wire for one response -/
def message (r : RespHdr) (p : Prog) (isHead : Bool) : Bytes :=
  (withFraming r (frame p isHead).framing).bytes ++ (frame p isHead).wire

/-- `ResponseHeader.setSpecialHeader` for the key `Content-Length` (reached from `Header.Set`, `Add`,
`SetCanonical`, …): a value `protocol.ParseContentLength` accepts is stored as it is
(`contentLength`, `contentLengthBytes`) and the generic `Transfer-Encoding` field is deleted
(`delAllArgsBytes`), exactly as `SetContentLength(n ≥ 0)` does; any other value is ignored.
Unlike `SetContentLength` there is no `MustSkipContentLength` test. -/
def setLengthHeader (r : RespHdr) (v : Bytes) : RespHdr :=
  match FS.parseUint v with
  | .ok n => { r with contentLength := n, clBytes := v,
                      h := r.h.filter (fun kv => kv.1 != strTransferEncoding) }
  | .error _ => r

end Hertz.H1.Resp
