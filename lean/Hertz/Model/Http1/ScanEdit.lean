import Hertz.Model.Http1.RespRead
/-!
# The header scanner with its in-place edits (C02)

`ext.HeaderScanner.Next` works on a slice of the connection's read buffer and WRITES into it:

* `utils.NormalizeHeaderKey(s.Key, …)` canonicalises the key bytes where they lie;
* `normalizeHeaderValue(s.Value)` (obs-folded value only) compacts the value inside its region: CR/LF removed,
  a tab at the start of a continuation line → space, blanks in front and at the end dropped, then the compacted
  value is **right aligned** in the region and the gap in front of it is filled with spaces.  The bytes the scanner
  had trimmed from the end of the region before (blanks, one `\r`) and everything after the value stay as they are.

The callers (`resp.tryRead`, `ext.tryReadTrailer`, `req.tryRead`) parse the peeked buffer; on "need more" the
SAME buffer — edited — plus the bytes read since is parsed again from its start.  `Scan.lean`/`RespRead.lean` model
the reading as a pure function of the bytes; this file adds the buffer: `scanNextE : buffer → (answer, buffer')`,
`scanBlockE` for a header block, and `retryScanE` for "scan buf₀; on need-more scan (edit buf₀ ++ more)".

The answer component of `scanNextE` is `scanNext` (`scanNextE_fst`, Proofs/ScanEdit).  `scanNextE` lacks the need-more
answer of `Next` for a folded value that reaches the end of the buffer; `scanNextN` … in the second half are the code.
-/
namespace Hertz.H1.ScanEdit
open Hertz Hertz.H1

/-- what `normalizeHeaderValue(ov)` leaves in the bytes of `ov`: `gap` spaces, then the compacted value
(which is the slice it returns) -/
def normValueEdit (ov : Bytes) : Bytes :=
  let nv := foldedValue ov
  List.replicate (ov.length - nv.length) 32 ++ nv

/-- `Next` from the colon at `n` on: the key is canonicalised where it lies, blanks are skipped, the value's end is
found (obs-fold look-ahead), the value is trimmed and — if it spans several lines — compacted in place. -/
def scanValueE (dn : Bool) (B : Bytes) (n : Nat) : Scan × Bytes :=
  let key := normalizeKey dn (B.take n)
  let afterColon := B.drop (n + 1)
  let sp := (afterColon.takeWhile isOWS).length
  let B1 := afterColon.drop sp
  match indexByte 10 B1 with
  | none => (.needMore, key ++ B.drop n)   -- not reachable (the line feed lies behind the colon); the key is written by then
  | some n1 =>
    let extra := contExtra (B1.drop (n1 + 1))
    let nEnd := n1 + extra
    let raw := B1.take nEnd
    let region := trimValue raw
    let value := if extra > 0 then foldedValue region else region
    let region' := if extra > 0 then normValueEdit region else region
    (.kv key value (B1.drop (nEnd + 1)) (n + 1 + sp + nEnd + 1),
     key ++ 58 :: (afterColon.take sp ++ (region' ++ (raw.drop region.length ++ B1.drop nEnd))))

/-- `Next` on a buffer that does not start with an empty line.  A call that answers `needMore` or `invalidName`
returns before the first write. -/
def scanLineE (dn : Bool) (B : Bytes) : Scan × Bytes :=
  match indexByte 10 B, indexByte 58 B with
  | none, _ => (.needMore, B)
  | some _, none => (.needMore, B)
  | some x, some n => if x < n then (.invalidName, B) else scanValueE dn B n

/-- One call of `HeaderScanner.Next` on the buffer `B`: the answer and the buffer afterwards (same length). -/
def scanNextE (dn : Bool) (B : Bytes) : Scan × Bytes :=
  match B with
  | 13 :: 10 :: _ => (.fin 2, B)
  | 10 :: _ => (.fin 1, B)
  | _ => scanLineE dn B

/-- how a scan of a header block stopped -/
inductive Stop where
  | fin (hlen : Nat)     -- blank line reached; `HLen`
  | needMore
  | invalidName
deriving Repr, DecidableEq

/-- a scanned header block: the `(key, value)` pairs handed out by `Next`, how the scan stopped, the bytes the `kv`
calls consumed, and the buffer afterwards -/
structure Block where
  fields : List (Bytes × Bytes)
  stop : Stop
  consumed : Nat
  buf : Bytes
deriving Repr, DecidableEq

/-- `for s.Next() { … }` over the buffer `B` (fuel: `B.length + 1` suffices, every `kv` consumes a byte) -/
def scanBlockE (dn : Bool) : Nat → Bytes → Block
  | 0, B => ⟨[], .needMore, 0, B⟩
  | fuel + 1, B =>
    match scanNextE dn B with
    | (.fin n, _) => ⟨[], .fin n, 0, B⟩
    | (.needMore, B') => ⟨[], .needMore, 0, B'⟩
    | (.invalidName, _) => ⟨[], .invalidName, 0, B⟩
    | (.kv k v rest n, B') =>
      let r := scanBlockE dn fuel rest
      ⟨(k, v) :: r.fields, (match r.stop with | .fin h => .fin (n + h) | s => s), n + r.consumed, B'.take n ++ r.buf⟩

def scanBlock (dn : Bool) (B : Bytes) : Block := scanBlockE dn (B.length + 1) B

/-- the reading of a header block by the pure scanner of `Scan.lean` (no buffer): the fields `Next` hands out and how
the scan stops -/
def readBlock (dn : Bool) : Nat → Bytes → List (Bytes × Bytes) × Stop
  | 0, _ => ([], .needMore)
  | fuel + 1, B =>
    match scanNext dn B with
    | .fin n => ([], .fin n)
    | .needMore => ([], .needMore)
    | .invalidName => ([], .invalidName)
    | .kv k v rest n =>
      let r := readBlock dn fuel rest
      ((k, v) :: r.1, match r.2 with | .fin h => .fin (n + h) | s => s)

/-- the buffer after a scan -/
def editBlock (dn : Bool) (B : Bytes) : Bytes := (scanBlock dn B).buf

/-- what a caller can see of a scan besides the buffer -/
def Block.reading (r : Block) : List (Bytes × Bytes) × Stop := (r.fields, r.stop)

/-- **The retry scheme of the real readers, with the edits**: scan what is buffered; on need-more take the next
segment behind the EDITED buffer and scan again from the start. -/
def retryScanE (dn : Bool) : Bytes → List Bytes → Block
  | buf, [] => scanBlock dn buf
  | buf, seg :: segs =>
    let r := scanBlock dn buf
    match r.stop with
    | .needMore => retryScanE dn (r.buf ++ seg) segs
    | _ => r

/-- A `kv` answer whose value was compacted in place although its obs-fold look-ahead ended at the end of the
buffer (so the value may still grow): the situation in which the compaction is premature. -/
def dryFold (dn : Bool) (B : Bytes) : Bool :=
  match scanNext dn B with
  | .kv _ _ rest _ =>
    -- the value region was edited (multi-line) …
    (match indexByte 58 B with
     | some n =>
       let A := B.drop (n + 1)
       let B1 := A.drop (A.takeWhile isOWS).length
       (match indexByte 10 B1 with
        | some n1 => contExtra (B1.drop (n1 + 1)) > 0
        | none => false)
     | none => false)
    -- … and nothing behind it tells that it is over
    && (indexByte 10 rest).isNone
  | _ => false

/-- some `Next` call of the scan of `B` compacted a value prematurely -/
def anyDryFold (dn : Bool) : Nat → Bytes → Bool
  | 0, _ => false
  | fuel + 1, B =>
    match scanNext dn B with
    | .kv _ _ rest _ => dryFold dn B || anyDryFold dn fuel rest
    | _ => false

/-- no stage of the retry scheme that ended in need-more had compacted a value prematurely -/
def retryClean (dn : Bool) : Bytes → List Bytes → Bool
  | _, [] => true
  | buf, seg :: segs =>
    match (scanBlock dn buf).stop with
    | .needMore => !anyDryFold dn (buf.length + 1) buf && retryClean dn ((scanBlock dn buf).buf ++ seg) segs
    | _ => true

/-! ## the three callers, with the buffer -/

/-- `resp.parse` on the peeked buffer: the answer of `parseRespHead` and the buffer afterwards
(`parseFirstLine` writes nothing) -/
def respParseE (dn : Bool) (buf : Bytes) : Except HeadErr (RespRead.RespHead × Nat) × Bytes :=
  match RespRead.parseFirstLine buf with
  | .error e => (.error e, buf)
  | .ok (_, m) => (RespRead.parseRespHead dn buf, buf.take m ++ editBlock dn (buf.drop m))

/-- the writes of `req.parseHeaders`, which leaves the loop at the first field it rejects (blank in the key, bad
byte in the value) -/
def editReq (dn : Bool) : Nat → Bytes → Bytes
  | 0, B => B
  | fuel + 1, B =>
    match scanNextE dn B with
    | (.kv k v rest n, B') =>
      if !k.isEmpty && (k.contains 32 || k.contains 9 || !validHeaderFieldValue v) then B'
      else B'.take n ++ editReq dn fuel rest
    | (_, B') => B'

/-- `req.parse`: nothing is scanned (hence written) before the completeness pre-check has passed -/
def reqParseE (dn : Bool) (buf : Bytes) : Except HeadErr (ReqHead × Nat) × Bytes :=
  match parseFirstLine buf with
  | .error e => (.error e, buf)
  | .ok (_, m) =>
    match rawHeadersLen (buf.drop m) with
    | none => (.error .needMore, buf)
    | some _ => (parseReqHead dn buf, buf.take m ++ editReq dn (buf.length + 1) (buf.drop m))

/-- the writes of `ext.parseTrailer`'s two passes over the section: the `pre` pass scans all of it, the second
pass (only when the first reached the blank line) scans the edited bytes again -/
def editTrailer (dn : Bool) (B : Bytes) : Bytes :=
  let r := scanBlock dn B
  match r.stop with
  | .fin _ => editBlock dn r.buf
  | _ => r.buf

/-- `ext.parseTrailer` on the peeked buffer (non-empty) -/
def trailerParseE (dn : Bool) (tr : List (Bytes × Option Bytes)) (buf : Bytes) :
    Except TrErr (List (Bytes × Option Bytes) × Nat) × Bytes :=
  match buf with
  | 48 :: rest =>
    if buf.length < 3 then (.error .needMore, buf)
    else if rest.take 2 = Gen.Str.strCRLF then (parseTrailer dn tr buf, buf.take 3 ++ editTrailer dn (buf.drop 3))
    else (parseTrailer dn tr buf, editTrailer dn buf)
  | _ => (parseTrailer dn tr buf, editTrailer dn buf)

/-- **`resp.ReadHeader` with the edits**: parse what is buffered; on need-more take the next read behind the EDITED
buffer and parse again from the start (without the buffer: `RespRead.retryParse`, Proofs/PrefixStableResp) -/
def respRetryE (dn : Bool) : Bytes → List Bytes → Except HeadErr (RespRead.RespHead × Nat)
  | buf, [] => (respParseE dn buf).1
  | buf, seg :: segs =>
    match (respParseE dn buf).1 with
    | .error .needMore => respRetryE dn ((respParseE dn buf).2 ++ seg) segs
    | r => r

/-- the scan of the header block of `buf` compacted no value prematurely -/
def respStageClean (dn : Bool) (buf : Bytes) : Bool :=
  match RespRead.parseFirstLine buf with
  | .ok (_, m) => !anyDryFold dn ((buf.drop m).length + 1) (buf.drop m)
  | .error _ => true

def respRetryClean (dn : Bool) : Bytes → List Bytes → Bool
  | _, [] => true
  | buf, seg :: segs =>
    match (respParseE dn buf).1 with
    | .error .needMore => respStageClean dn buf && respRetryClean dn ((respParseE dn buf).2 ++ seg) segs
    | _ => true

/-- the part of the peeked buffer `ext.parseTrailer` scans: behind a repeated `0\r\n` line if there is one -/
def trailerSection (buf : Bytes) : Bytes :=
  match buf with
  | 48 :: rest => if buf.length < 3 then buf else if rest.take 2 = Gen.Str.strCRLF then buf.drop 3 else buf
  | _ => buf

/-! ## a folded value whose next line has not arrived is not compacted — `Next` asks for more

`scanNextE`/`scanBlock` above are `Next` WITHOUT that rule (the rule is stated on top of them and their theorems are
used).  `scanNextN`/`scanBlockN` are the code, and what the driver compares with it. -/

/-- what is buffered behind a multi-line value does not tell whether the value goes on: nothing (`n+1 >= len(s.B)`), or a
line that starts with a blank and has no line feed yet (`d < 0`) -/
def foldOpen (rest : Bytes) : Bool :=
  match rest with
  | [] => true
  | c :: _ => isOWS c && (indexByte 10 rest).isNone

/-- `isMultiLineValue` at the end of the look-ahead loop -/
def isMulti (B : Bytes) : Bool :=
  match indexByte 58 B with
  | some n =>
    let A := B.drop (n + 1)
    let B1 := A.drop (A.takeWhile isOWS).length
    (match indexByte 10 B1 with
     | some n1 => contExtra (B1.drop (n1 + 1)) > 0
     | none => false)
  | none => false

/-- the early return of `Next` -/
def openFold (dn : Bool) (B : Bytes) : Bool :=
  match scanNext dn B with
  | .kv _ _ rest _ => isMulti B && foldOpen rest
  | _ => false

/-- by that return the key has been canonicalised where it lies -/
def keyEdit (dn : Bool) (B : Bytes) : Bytes :=
  match indexByte 58 B with
  | some n => normalizeKey dn (B.take n) ++ B.drop n
  | none => B

/-- … and `HLen` has been advanced over key, colon and blanks -/
def pendingLen (B : Bytes) : Nat :=
  match indexByte 58 B with
  | some n => n + 1 + ((B.drop (n + 1)).takeWhile isOWS).length
  | none => 0

/-- **One call of `HeaderScanner.Next` as it stands** -/
def scanNextN (dn : Bool) (B : Bytes) : Scan × Bytes :=
  if openFold dn B then (.needMore, keyEdit dn B) else scanNextE dn B

/-- a scanned block; `touched` = `HLen` when the scan stops without reaching the blank line -/
structure BlockN where
  fields : List (Bytes × Bytes)
  stop : Stop
  consumed : Nat
  touched : Nat
  buf : Bytes
deriving Repr, DecidableEq

def scanBlockNE (dn : Bool) : Nat → Bytes → BlockN
  | 0, B => ⟨[], .needMore, 0, 0, B⟩
  | fuel + 1, B =>
    match scanNextN dn B with
    | (.fin n, _) => ⟨[], .fin n, 0, 0, B⟩
    | (.needMore, B') => ⟨[], .needMore, 0, (if openFold dn B then pendingLen B else 0), B'⟩
    | (.invalidName, _) => ⟨[], .invalidName, 0, 0, B⟩
    | (.kv k v rest n, B') =>
      let r := scanBlockNE dn fuel rest
      ⟨(k, v) :: r.fields, (match r.stop with | .fin h => .fin (n + h) | s => s), n + r.consumed, n + r.touched,
        B'.take n ++ r.buf⟩

def scanBlockN (dn : Bool) (B : Bytes) : BlockN := scanBlockNE dn (B.length + 1) B
def editBlockN (dn : Bool) (B : Bytes) : Bytes := (scanBlockN dn B).buf
def BlockN.reading (r : BlockN) : List (Bytes × Bytes) × Stop := (r.fields, r.stop)

/-- the retry scheme of the real readers with the edits, as it stands -/
def retryScanN (dn : Bool) : Bytes → List Bytes → BlockN
  | buf, [] => scanBlockN dn buf
  | buf, seg :: segs =>
    match (scanBlockN dn buf).stop with
    | .needMore => retryScanN dn ((scanBlockN dn buf).buf ++ seg) segs
    | _ => scanBlockN dn buf

/-- `resp.parse` with the buffer, as it stands (the answer is the pure parser's: a block that ends inside a fold is
need-more either way) -/
def respParseN (dn : Bool) (buf : Bytes) : Except HeadErr (RespRead.RespHead × Nat) × Bytes :=
  match RespRead.parseFirstLine buf with
  | .error e => (.error e, buf)
  | .ok (_, m) => (RespRead.parseRespHead dn buf, buf.take m ++ editBlockN dn (buf.drop m))

/-- the two passes of `ext.parseTrailer`, as it stands -/
def editTrailerN (dn : Bool) (B : Bytes) : Bytes :=
  match (scanBlockN dn B).stop with
  | .fin _ => editBlockN dn (scanBlockN dn B).buf
  | _ => (scanBlockN dn B).buf

def trailerParseN (dn : Bool) (tr : List (Bytes × Option Bytes)) (buf : Bytes) :
    Except TrErr (List (Bytes × Option Bytes) × Nat) × Bytes :=
  match buf with
  | 48 :: rest =>
    if buf.length < 3 then (.error .needMore, buf)
    else if rest.take 2 = Gen.Str.strCRLF then (parseTrailer dn tr buf, buf.take 3 ++ editTrailerN dn (buf.drop 3))
    else (parseTrailer dn tr buf, editTrailerN dn buf)
  | _ => (parseTrailer dn tr buf, editTrailerN dn buf)

def respRetryN (dn : Bool) : Bytes → List Bytes → Except HeadErr (RespRead.RespHead × Nat)
  | buf, [] => (respParseN dn buf).1
  | buf, seg :: segs =>
    match (respParseN dn buf).1 with
    | .error .needMore => respRetryN dn ((respParseN dn buf).2 ++ seg) segs
    | r => r

/-- the retry scheme over any number of reads, in terms of the pure reading of each buffer: read what is buffered; on
need-more the next read goes behind the buffer AS THE SCANNER LEFT IT -/
def retryReadN (dn : Bool) : Bytes → List Bytes → List (Bytes × Bytes) × Stop
  | buf, [] => readBlock dn (buf.length + 1) buf
  | buf, seg :: segs =>
    match (readBlock dn (buf.length + 1) buf).2 with
    | .needMore => retryReadN dn (editBlockN dn buf ++ seg) segs
    | _ => readBlock dn (buf.length + 1) buf

end Hertz.H1.ScanEdit
