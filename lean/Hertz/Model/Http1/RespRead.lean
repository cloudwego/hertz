import Hertz.Model.Http1.Serve
/-!
Model of the client's response reader: `resp.parseFirstLine`, `resp.parseHeaders`, `resp.ReadHeader`
(retry loop), `resp.ReadHeaders` (interim responses skipped), `resp.ReadRespBody`,
`ext.ReadBody` incl. `readBodyIdentity`.
-/
namespace Hertz.H1.RespRead
open Hertz Hertz.H1 Hertz.Gen.Str

structure RespHead where
  status : Nat := 0
  http11 : Bool := true
  contentType : Bytes := []
  contentEncoding : Bytes := []
  server : Bytes := []
  cl : Int := -2
  clBytes : Bytes := []
  connClose : Bool := false
  h : List (Bytes × Bytes) := []
  cookies : List Bytes := []
  trailer : List Bytes := []
deriving Repr, DecidableEq

def parseFirstLine (buf : Bytes) : Except HeadErr (RespHead × Nat) := do
  let (line, consumed) ← parseFirstLineAux (buf.length + 1) buf 0
  match indexByte 32 line with
  | none => .error .bad
  | some n =>
    let http11 := line.take n == strHTTP11
    let b := line.drop (n + 1)
    match parseUintBuf b with
    | .error _ => .error .bad
    | .ok (code, k) =>
      if b.length > k ∧ (b.drop k).head? ≠ some 32 then .error .bad
      else .ok ({ status := code, http11 := http11 }, consumed)

/-- `ResponseHeader.MustSkipContentLength` -/
def mustSkipCL (status : Nat) : Bool :=
  if status < 100 || status == 200 then false else status == 304 || status == 204 || status < 200

structure HState where
  head : RespHead
  err : Bool := false

def applyHeader (disableNorm : Bool) (st : HState) (key value : Bytes) : HState :=
  let hd := st.head
  match key with
  | [] => st            -- `if len(s.Key) > 0` : an empty key is skipped entirely
  | k0 :: _ =>
    let c := k0 ||| 0x20
    let add : HState := { st with head := { hd with h := hd.h ++ [(key, value)] } }
    if c = 99 ∧ ciEq key strContentType then { st with head := { hd with contentType := value } }
    else if c = 99 ∧ ciEq key strContentEncoding then { st with head := { hd with contentEncoding := value } }
    else if c = 99 ∧ ciEq key strContentLength then
      if hd.cl != -1 then
        match parseUint value with
        | none => { err := true, head := { hd with cl := -2 } }
        | some v => { err := false, head := { hd with cl := v, clBytes := value } }
      else st
    else if c = 99 ∧ ciEq key strConnection then
      if ciEq value strClose then { st with head := { hd with connClose := true } }   -- any letter case
      else { st with head := { hd with connClose := false, h := hd.h ++ [(key, value)] } }
    else if c = 115 ∧ ciEq key strServer then { st with head := { hd with server := value } }
    else if c = 115 ∧ ciEq key strSetCookie then { st with head := { hd with cookies := hd.cookies ++ [value] } }
    else if c = 116 ∧ ciEq key strTransferEncoding then
      if value != strIdentity then
        { st with head := { hd with cl := -1, h := setArg hd.h strTransferEncoding strChunked } }
      else st
    else if c = 116 ∧ ciEq key strTrailer then
      let (names, bad) := setTrailers disableNorm value
      { err := bad, head := { hd with trailer := hd.trailer ++ names } }   -- fields combine (117944e)
    else add

def headersLoop (disableNorm : Bool) : Nat → Bytes → HState → Nat → Except HeadErr (HState × Nat)
  | 0, _, _, _ => .error .needMore
  | fuel + 1, B, st, hlen =>
    match scanNext disableNorm B with
    | .fin n => .ok (st, hlen + n)
    | .needMore => .error .needMore
    | .invalidName => .error .bad
    | .kv key value rest n => headersLoop disableNorm fuel rest (applyHeader disableNorm st key value) (hlen + n)

def connectionUpgrade (hd : RespHead) : Bool :=
  hasHeaderValue (if hd.connClose then strClose else peekArg hd.h strConnection) strKeepAlive

def parseHeaders (disableNorm : Bool) (hd : RespHead) (buf : Bytes) : Except HeadErr (RespHead × Nat) := do
  let (st, n) ← headersLoop disableNorm (buf.length + 1) buf { head := { hd with cl := -2 } } 0
  let hd := st.head
  let hd := if hd.cl < 0 then { hd with clBytes := [] } else hd
  let hd := if hd.cl = -2 ∧ !connectionUpgrade hd ∧ !mustSkipCL hd.status then
      { hd with h := setArg hd.h strTransferEncoding strIdentity, connClose := true }
    else hd
  let hd := if !hd.http11 && !hd.connClose then
      { hd with connClose := !hasHeaderValue (peekArg hd.h strConnection) strKeepAlive }
    else hd
  -- the last `err` (bad Content-Length / bad Trailer declaration) is returned together with n
  if st.err then .error .bad else .ok (hd, n)

def parseRespHead (disableNorm : Bool) (buf : Bytes) : Except HeadErr (RespHead × Nat) := do
  let (hd, m) ← parseFirstLine buf
  let (hd, n) ← parseHeaders disableNorm hd (buf.drop m)
  .ok (hd, m + n)

inductive Err where
  | eof | timeout | bad | tooLarge | unexpectedEOF
deriving Repr, DecidableEq

def ofRd : RdErr → Err
  | .eof => .eof | .timeout => .timeout | .hzTimeout => .timeout | .unexpectedEOF => .unexpectedEOF
  | .bad => .bad | .tooLarge => .tooLarge | .unmodelled => .bad

/-- `resp.ReadHeader`: the retry loop over the received prefix (see C02) -/
def readHeader (disableNorm : Bool) (e : End) (s : Bytes) : Except Err (RespHead × Bytes) :=
  match parseRespHead disableNorm s with
  | .ok (hd, n) => .ok (hd, s.drop n)
  | .error .bad => .error .bad
  | .error .needMore =>
    match e with
    | .eof => .error .eof
    | .stall => .error .timeout

structure Result where
  head : RespHead
  body : Bytes
  trailers : List (Bytes × Bytes)
  rest : Bytes
deriving Repr, DecidableEq

/-- `readBodyIdentity`: everything until the wire ends -/
def readIdentity (maxBody : Nat) (s : Bytes) : Except Err (Bytes × Bytes) :=
  if maxBody > 0 ∧ s.length > maxBody then .error .tooLarge else .ok (s, [])

/-- `ResponseHeader.SetContentLength(n)` for `n ≥ 0` -/
def setContentLength (hd : RespHead) (n : Nat) : RespHead :=
  if mustSkipCL hd.status then hd else
  { hd with cl := n, clBytes := appendUintDec n, h := hd.h.filter (fun kv => kv.1 != strTransferEncoding) }

/-- `resp.isInterim`: the registered interim status codes (`101` is final for the connection) -/
def isInterim (status : Nat) : Bool := status == 100 || status == 102 || status == 103

/-- the loop of `resp.ReadHeaders` (8ec4dd8): `for isInterim(StatusCode()) { ReadHeader again }`; every head takes at
least one byte, so `fuel = length + 1` never runs out (`Proofs/PrefixStableResp.lean: readHeadersLoop_fuel`) -/
def readHeadersLoop (disableNorm : Bool) (e : End) : Nat → Bytes → Except Err (RespHead × Bytes)
  | 0, _ => .error .bad
  | fuel + 1, s =>
    match readHeader disableNorm e s with
    | .error x => .error x
    | .ok (hd0, s0) => if isInterim hd0.status then readHeadersLoop disableNorm e fuel s0 else .ok (hd0, s0)

/-- `resp.ReadHeaders`: every interim response (`100 Continue`, `102 Processing`, `103 Early Hints`) in front of the
final one is skipped, any number of them -/
def readHeaders (disableNorm : Bool) (e : End) (s : Bytes) : Except Err (RespHead × Bytes) :=
  readHeadersLoop disableNorm e (s.length + 1) s

/-- `resp.ReadRespBody` -/
def readBodyPart (disableNorm : Bool) (maxBody : Nat) (e : End) (hd : RespHead) (s1 : Bytes) : Except Err Result :=
  let names := hd.trailer
  let noTr := names.map (fun k => (k, ([] : Bytes)))
  if mustSkipCL hd.status then .ok { head := hd, body := [], trailers := noTr, rest := s1 }
  else if hd.cl ≥ 0 then
    let n := hd.cl.toNat
    if maxBody > 0 ∧ n > maxBody then .error .tooLarge
    else match takeBody e n s1 with
      | .ok (b, rest) => .ok { head := setContentLength hd b.length, body := b, trailers := noTr, rest }
      | .error x => .error (ofRd x)
  else if hd.cl = -1 then
    match readBodyChunked e maxBody (s1.length + 1) [] s1 with
    | .error x => .error (ofRd x)
    | .ok (body, rest) =>
      match readTrailerReq { disableNorm := disableNorm, maxBody := maxBody } e names rest with
      | .error x => .error (ofRd x)
      | .ok (some tr, rest') => .ok { head := setContentLength hd body.length, body, trailers := tr, rest := rest' }
      | .ok (none, rest') => .ok { head := setContentLength { hd with trailer := [] } body.length, body, trailers := [], rest := rest' }
  else
    match readIdentity maxBody s1 with
    | .error x => .error x
    | .ok (b, rest) => .ok { head := setContentLength hd b.length, body := b, trailers := noTr, rest }

/-- `resp.ReadHeaderAndLimitBody` -/
def readResponse (disableNorm : Bool) (maxBody : Nat) (e : End) (s : Bytes) : Except Err Result :=
  match readHeaders disableNorm e s with
  | .error x => .error x
  | .ok (hd, s1) => readBodyPart disableNorm maxBody e hd s1

/-- `resp.ReadHeaderAndLimitBody` on a `Response` whose `SkipBody` flag is set (the client sets it for a
HEAD request): `ReadRespBody` returns at once when `resp.MustSkipBody()` (= `SkipBody ||
MustSkipContentLength`).  With the flag off this is `readResponse`. -/
def readResponseSkip (skipBody : Bool) (disableNorm : Bool) (maxBody : Nat) (e : End) (s : Bytes) : Except Err Result :=
  match readHeaders disableNorm e s with
  | .error x => .error x
  | .ok (hd, s1) =>
    if skipBody then .ok { head := hd, body := [], trailers := hd.trailer.map (fun k => (k, ([] : Bytes))), rest := s1 }
    else readBodyPart disableNorm maxBody e hd s1

end Hertz.H1.RespRead
