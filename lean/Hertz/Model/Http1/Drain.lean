import Hertz.Basic
/-!
`bodyStream.skipChunkLeft` (pkg/protocol/http1/ext/stream.go): the payload of an unread chunk is
skipped piece by piece, as it arrives.  The connection reader is what is buffered plus the segments still to come
(`standard.Conn`: `Len()` = buffered bytes, `Peek(1)` on an empty buffer waits for the next non-empty read, `Skip(k)`
needs `k ≤ Len()` and never waits).
-/
namespace Hertz.H1.Drain
open Hertz

structure Rd where
  buf : Bytes
  segs : List Bytes
deriving Repr, DecidableEq

/-- everything the reader will ever deliver -/
def Rd.all (r : Rd) : Bytes := r.buf ++ r.segs.flatten

/-- `Peek(1)` on an empty buffer: the next non-empty read, `none` when the peer is gone -/
def fill : List Bytes → Option (Bytes × List Bytes)
  | [] => none
  | s :: t => if s.isEmpty then fill t else some (s, t)

/-- `skipChunkLeft` with `left` bytes to go (fuel: every round skips at least one byte) -/
def skipLeft : Nat → Rd → Nat → Option Rd
  | _, rd, 0 => some rd
  | 0, _, _ + 1 => none
  | fuel + 1, rd, left + 1 =>
    match (if rd.buf.isEmpty then fill rd.segs else some (rd.buf, rd.segs)) with
    | none => none
    | some (b, segs) =>
      let k := min b.length (left + 1)
      skipLeft fuel ⟨b.drop k, segs⟩ (left + 1 - k)

/-- not the code: one `reader.Skip(chunkSize)` for a whole unread chunk, which fails unless the chunk is buffered whole -/
def skipWhole (rd : Rd) (n : Nat) : Option Rd :=
  if n ≤ rd.buf.length then some ⟨rd.buf.drop n, rd.segs⟩ else none

end Hertz.H1.Drain
