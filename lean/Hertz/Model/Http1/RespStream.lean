import Hertz.Model.Http1.Exchange
import Hertz.Model.Http1.Stream
/-!
C11 — the client's STREAMING mode (`client.WithResponseBodyStream(true)`).

`HostClient.doNonNilReqResp` with `c.ResponseBodyStream`: `ReadHeaders` as in buffered mode, then
`resp.ReadRespBodyStream` = `ext.ReadBodyWithStreaming` (prefetch) + `ext.AcquireBodyStream` wrapped in a
`clientRespStream` whose `Close` runs `ext.ReleaseBodyStream` (`bodyStream.skipRest`) and then the callback that
closes or releases the connection.  The `bodyStream` is the one of the server side (C14): the fixed-length and
chunked paths ARE `Stream.streamBody` (same Go functions `bodyStream.Read` / `skipRest`), called with the framing
of the response head.  What is the client's own:

* the prefetch.  `maxEff` = `MaxResponseBodySize`, 8192 when unset.
  - `Content-Length: n`, `n ≤ maxEff`: `appendBodyFixedSize(min n 8192)` — blocks, fails with the wire;
  - `n > maxEff`: `readBodyIdentity(min maxEff 8192)` takes what has ARRIVED (never fails, never waits for more
    than one byte) until it has more than that bound; `errBodyTooLarge` is swallowed by `ReadRespBodyStream`, the
    stream is built all the same: **the size limit is not enforced in streaming mode**, it only bounds the prefetch.
    How much is prefetched depends on segmentation and on the capacity of the pooled body buffer: the prefetched
    length `p` is a parameter (`prefetchOk`), the bytes the caller reads do not depend on it — unless the peer sent
    bytes beyond the declared length, which land in the prefetch buffer: `p > n`.  That region is marked (`fault`)
    and the reads are not predicted there: `bodyStream.read` cuts a read from the prefetch buffer at the declared
    length and `skipRest` then refuses the connection;
  - chunked: nothing is prefetched;
  - no framing (until close): `readBodyIdentity` with a negative bound = no bound: the WHOLE body is read before
    `Do` returns, whatever `MaxResponseBodySize` says; a time-out ends it like EOF does.
* no stream at all (`NoResponseBody`) when the body must be skipped (HEAD, `resp.SkipBody`, 1xx/204/304): `Do`
  closes or releases the connection itself, as in buffered mode.
* the connection: held while the stream is open; `CloseBodyStream` → `skipRest` error or `Connection: close` on
  either side → closed, else released with what follows the message.

The caller is the consumer of C14 (`Stream.Consume`) plus what it does with the stream afterwards.
-/
namespace Hertz.H1.RespStream
open Hertz Hertz.H1 Hertz.H1.RespRead Hertz.H1.Stream

/-- what the caller does with the stream once it stopped reading -/
inductive Fin where
  | close      -- `resp.CloseBodyStream()`
  | never      -- the Response object is kept, the stream stays open
  | reuse      -- the same Response object goes into the next `Do`, whose `resp.Reset()` closes the stream first
deriving Repr, DecidableEq

def maxEff (maxBody : Nat) : Nat := if maxBody > 0 then maxBody else Gen.maxContentLengthInStream.toNat

/-- the framing of the response head as the `bodyStream` sees it -/
def asReq (hd : RespHead) : ReqHead := { cl := hd.cl, trailer := hd.trailer, method := [80] }

/-- the configuration under which the server-side `streamBody` is the client's fixed-length stream: the blocking
prefetch of `min n 8192` bytes exists only when the declared length is within the limit -/
def bodyCfg (dn : Bool) (maxBody : Nat) (cl : Int) : Cfg :=
  { disableNorm := dn, maxBody := if cl ≤ (maxEff maxBody : Int) then maxEff maxBody else 0 }

/-- the prefetched length the implementation reports is one the code can produce -/
def prefetchOk (maxBody : Nat) (hd : RespHead) (s1 : Bytes) (p : Nat) : Bool :=
  if hd.cl = -1 then p == 0
  else if hd.cl = -2 then p == s1.length
  else
    let n := hd.cl.toNat
    if n ≤ maxEff maxBody then p == min n Gen.maxContentLengthInStream.toNat
    else p ≤ s1.length && (min (maxEff maxBody) Gen.maxContentLengthInStream.toNat < p || p == s1.length)

structure SOut where
  head : RespHead
  /-- `resp.BodyStream() != NoResponseBody` -/
  stream : Bool
  got : Got
  /-- more than the declared length was prefetched (`pSize > contentLength`): the reads are not predicted -/
  fault : Bool := false
  /-- `resp.Header.Trailer()` after the reads -/
  trailers : List (Bytes × Bytes)
  /-- where the connection stands once the stream is closed (`ReleaseBodyStream`), `Connection: close` aside -/
  after : After
deriving Repr

/-- the trailer section as `bodyStream.read` stores it when the caller reached the end of a chunked body: the
same `ReadTrailer` at the same place (behind the last-chunk line) as the buffered reader -/
def trailersAtEOF (dn : Bool) (e : End) (names : List Bytes) (s1 : Bytes) : List (Bytes × Bytes) :=
  match readBodyChunked e 0 (s1.length + 1) [] s1 with
  | .ok (_, rest) =>
    (match readTrailerReq { disableNorm := dn } e names rest with
     | .ok (some tr, _) => tr
     | _ => [])
  | .error _ => names.map (fun k => (k, []))

/-- a body framed by the end of the connection: everything was prefetched -/
def identityGot (e : End) (s1 : Bytes) (c : Consume) : Got :=
  if c.stopAfter ≤ s1.length then { bytes := s1.take c.stopAfter }
  else match e with
    | .eof => { bytes := s1, eof := true }
    | .stall => { bytes := s1, err := true }

/-- `resp.ReadRespBodyStream` + the caller's reads + `ReleaseBodyStream`, after `ReadHeaders` returned `hd` and
left `s1`; `skip` = `resp.SkipBody` (HEAD or set by the application); `p` = prefetched length -/
def streamPart (dn : Bool) (maxBody : Nat) (e : End) (skip : Bool) (hd : RespHead) (s1 : Bytes) (p : Nat) (c : Consume) :
    Except Err SOut :=
  let noTr := hd.trailer.map (fun k => (k, ([] : Bytes)))
  if skip || mustSkipCL hd.status then
    -- `NoResponseBody.Read` is EOF at once
    .ok { head := hd, stream := false, got := { bytes := [], eof := decide (c.stopAfter > 0) }, trailers := noTr, after := .resync s1 }
  else if hd.cl = -2 then
    -- a failed `Read` is remembered (`readErr`): `skipRest` reports it and the connection is closed
    .ok { head := hd, stream := true, got := identityGot e s1 c, trailers := noTr,
          after := if (identityGot e s1 c).err then .closed else .resync [] }
  else if 0 ≤ hd.cl ∧ hd.cl.toNat < p then
    -- bytes beyond the declared length were prefetched (a peer that sends more than it declared): what the caller
    -- reads is not modelled; `skipRest` finds `pSize > contentLength` and reports an error, so the connection is
    -- closed (the `drained = false` reading of `.either` in `attemptS`)
    .ok { head := hd, stream := true, got := { bytes := [], err := true }, fault := true, trailers := noTr, after := .either (s1.drop p) }
  else
    match streamBody (bodyCfg dn maxBody hd.cl) e (asReq hd) s1 c with
    | .error x => .error (ofRd x)
    | .ok (r, a) =>
      .ok { head := hd, stream := true, got := r.got,
            trailers := if hd.cl = -1 ∧ r.got.eof then trailersAtEOF dn e hd.trailer s1 else noTr,
            after := a }

/-- `ReadHeaders` + `ReadRespBodyStream` + caller -/
def streamResponse (dn : Bool) (maxBody : Nat) (e : End) (skip : Bool) (s : Bytes) (p : Nat) (c : Consume) : Except Err SOut :=
  match readHeaders dn e s with
  | .error x => .error x
  | .ok (hd, s1) => streamPart dn maxBody e skip hd s1 p c

/-! ### the connection -/

inductive SOutcome where
  | ok (r : SOut)
  | err (e : Err)
  | badPool
deriving Repr

/-- the connection after one pass of `doNonNilReqResp` in streaming mode and the caller's handling of the stream.
`drained` resolves `After.either` (a well-formed rest of a chunked message is skipped only as far as it is buffered:
`Skip` does not wait): what the implementation did.  Result: the connection that went back to the pool (if any),
and whether a connection stays HELD by an open stream (`Fin.never`; for `Fin.reuse` the caller of `exchangeS`
gets the connection back through `St.idle` at once: the next `Do` resets the Response before it acquires). -/
def attemptS (cfg : Exchange.Cfg) (rq : Exchange.Req) (sv : Exchange.Srv) (c : Exchange.Conn) (inPool : Bool)
    (p : Nat) (cs : Consume) (fin : Fin) (drained : Bool) : Option Exchange.Conn × SOutcome :=
  let c1 := Exchange.serve c sv
  match c1.pending with
  | [] =>
    if c1.peerClosed then (none, if inPool then .badPool else .err .eof)
    else (none, .err .timeout)
  | b :: s =>
    match streamResponse cfg.disableNorm cfg.maxBody (Exchange.endOf c1) (rq.skipBody || rq.appSkip) (b :: s) p cs with
    | .error x => (none, .err x)
    | .ok r =>
      let shouldClose := rq.connClose || r.head.connClose || Exchange.bodyUnread rq r.head
      if fin = .never ∧ r.stream then (none, .ok r)          -- held: neither pooled nor closed
      else
        match r.after with
        | .closed => (none, .ok r)
        | .resync rest => if shouldClose then (none, .ok r) else (some { c1 with pending := rest }, .ok r)
        | .either rest => if shouldClose || !drained then (none, .ok r) else (some { c1 with pending := rest }, .ok r)

/-- `HostClient.Do` in streaming mode for one request (retry after `ErrBadPoolConn` as in buffered mode) -/
def exchangeS (cfg : Exchange.Cfg) (st : Exchange.St) (rq : Exchange.Req) (sv : Exchange.Srv)
    (p : Nat) (cs : Consume) (fin : Fin) (drained : Bool) : Exchange.St × SOutcome :=
  match st.idle with
  | none =>
    let (c, o) := attemptS cfg rq sv {} false p cs fin drained
    ({ idle := c, dials := st.dials + 1 }, o)
  | some c0 =>
    match attemptS cfg rq sv c0 true p cs fin drained with
    | (_, .badPool) =>
      if rq.retryable then
        let (c, o) := attemptS cfg rq sv {} false p cs fin drained
        ({ idle := c, dials := st.dials + 1 }, o)
      else ({ idle := none, dials := st.dials }, .badPool)
    | (c, o) => ({ idle := c, dials := st.dials }, o)

end Hertz.H1.RespStream
