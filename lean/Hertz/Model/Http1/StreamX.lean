import Hertz.Model.Http1.Stream
/-!
Extension of the streaming serve-loop model (`Stream.lean`) by two things the plain model has no
notion of:

* **the idle style of the transport** (`poll`).  With `Server.IdleTimeout == 0` on a transport that
  is not the standard one (netpoll), `Server.Serve` returns to the network layer after every
  keep-alive request (`if s.IdleTimeout == 0 { return }`) and is entered again for the next request
  on the same connection while unread input remains.  Every entry is a first iteration
  (`connRequestNum == 1`): no idle `Peek(4)`, a head cut short is answered, not dropped.  What has
  to hold before `Serve` hands the connection back is the same as before the next loop iteration:
  the streamed body has been released (`ext.ReleaseBodyStream`), i.e. the connection stands behind
  the body or is closed.

* **read time-outs in the middle of the stream** (`segs`).  The inbound stream is given as the list
  of segments between time-out events: while reading the segment `v` of `v :: more` a read that
  needs a byte beyond `v` fails once with a time-out when `more ≠ []` (afterwards the bytes of
  `more` would be readable), and ends as `e` says when `more = []`.  Every reader of the plain
  model already has this behaviour for a wire that stalls for good (`End.stall`), so the head and a
  fixed-length body are read by the plain readers on the view `(v, .stall)`.  What the code does
  *after* such an error is the point: the header reader answers 408 and `Serve` returns; the prefetch
  fails and `Serve` returns; `bodyStream.Read` remembers the error (`readErr`), `skipRest` reports it
  and `Serve` returns; `skipRest`'s own reads fail and `Serve` returns; the idle `Peek(4)` fails and
  `Serve` returns.  Two places go on into a later segment: a chunk-size line whose number ends at
  the time-out (`parseChunkSizeX`), and, in poll style, a time-out exactly on a message boundary
  (nothing is being read then: the poller calls `Serve` again when the next bytes arrive).
-/
namespace Hertz.H1.Stream
open Hertz Hertz.H1 Hertz.Gen.Str

/-- how reads of the current segment end: a later segment means a time-out -/
def viewEnd (e : End) : List Bytes → End
  | [] => e
  | _ :: _ => .stall

/-- `utils.ParseChunkSize` on a wire with time-out segments.  `bytesconv.ReadHexInt` takes a failed
`Peek(1)` after at least one digit for the end of the number and drops the error
(`if i > 0 { return n, nil }`): a time-out that strikes right there is used up without anybody
noticing, and the rest of the size line is read from the next segment.  It is the one place where a
read error does not end the connection.  Harmless as the code stands: if the number was cut the next
byte is a hex digit, which `ParseChunkSize` refuses behind the number (only blanks and CR may follow). -/
def parseChunkSizeX (e : End) (v : Bytes) (more : List Bytes) : Except RdErr (Nat × Bytes × List Bytes) :=
  match readHexInt (viewEnd e more) v with
  | .error .eof => .error .unexpectedEOF
  | .error x => .error x
  | .ok (n, []) =>
    (match more with
     | [] => (match chunkSizeTail e [] with
              | .error x => .error x
              | .ok r => .ok (n, r, []))
     | w :: ms => (match chunkSizeTail (viewEnd e ms) w with
                   | .error x => .error x
                   | .ok r => .ok (n, r, ms)))
  | .ok (n, c :: t) =>
    match chunkSizeTail (viewEnd e more) (c :: t) with
    | .error x => .error x
    | .ok r => .ok (n, r, more)

/-- `consumeChunked` with time-out segments: `st.s` is what is left of the current segment -/
def consumeChunkedX (cfg : Cfg) (e : End) (names : List Bytes) (c : Consume) :
    Nat → ChunkSt → List Bytes → Bytes → Got × ChunkSt × List Bytes
  | 0, st, more, acc => ({ bytes := acc, err := true }, st, more)
  | fuel + 1, st, more, acc =>
    if acc.length ≥ c.stopAfter then ({ bytes := acc }, st, more) else
    let p := min c.readSize (c.stopAfter - acc.length)
    if st.chunkEOF then ({ bytes := acc, eof := true }, st, more) else
    let hdr : Except RdErr (ChunkSt × List Bytes × Bool) :=
      if st.chunkLeft = 0 then
        match parseChunkSizeX e st.s more with
        | .error x => .error x
        | .ok (0, rest, more') =>
          match readTrailerReq cfg (viewEnd e more') names rest with
          | .ok (some _, rest') => .ok ({ s := rest', chunkLeft := 0, chunkEOF := true }, more', true)
          | .ok (none, rest') => .ok ({ s := rest', chunkLeft := 0, chunkEOF := false }, more', true)
          | .error x => .error x
        | .ok (n, rest, more') => .ok ({ s := rest, chunkLeft := n }, more', false)
      else .ok (st, more, false)
    match hdr with
    | .error _ => ({ bytes := acc, err := true }, st, more)
    | .ok (st1, more1, eofNow) =>
      if eofNow then ({ bytes := acc, eof := true }, st1, more1) else
      let b := min p st1.chunkLeft
      if st1.s.length < b then ({ bytes := acc, err := true }, st1, more1)
      else
        let acc' := acc ++ st1.s.take b
        let st2 : ChunkSt := { s := st1.s.drop b, chunkLeft := st1.chunkLeft - b }
        if st2.chunkLeft = 0 then
          if st2.s.take 2 = strCRLF then consumeChunkedX cfg e names c fuel { st2 with s := st2.s.drop 2 } more1 acc'
          else ({ bytes := acc', err := true }, st2, more1)
        else consumeChunkedX cfg e names c fuel st2 more1 acc'

/-- `SkipTrailer`: lines up to and including the empty line -/
def skipTrX : Nat → Bytes → Option Bytes
  | 0, _ => none
  | f + 1, s =>
    match Hertz.H1.indexByte 10 s with
    | none => none
    | some i =>
      if i = 0 then none
      else if s.take (i + 1) = strCRLF then some (s.drop (i + 1))
      else if (s.take i).getLast? = some 13 then skipTrX f (s.drop (i + 1)) else none

/-- `drainChunked` (`skipRest`) with time-out segments -/
def drainChunkedX (e : End) : Nat → ChunkSt → List Bytes → Option (Bytes × List Bytes)
  | 0, _, _ => none
  | fuel + 1, st, more =>
    if st.chunkEOF then some (st.s, more) else
    if st.chunkLeft > 0 then
      if st.s.length < st.chunkLeft + 2 then none
      else if (st.s.drop st.chunkLeft).take 2 ≠ strCRLF then none
      else drainChunkedX e fuel { s := st.s.drop (st.chunkLeft + 2), chunkLeft := 0 } more
    else
      match parseChunkSizeX e st.s more with
      | .error _ => none
      | .ok (0, rest, more') =>
        (match skipTrX (rest.length + 1) rest with
         | none => none
         | some r => some (r, more'))
      | .ok (n, rest, more') =>
        if rest.length < n + 2 then none
        else if (rest.drop n).take 2 ≠ strCRLF then none
        else drainChunkedX e fuel { s := rest.drop (n + 2), chunkLeft := 0 } more'

/-- one request in streaming mode on a wire with time-out segments: the request, where the
connection stands, and the segments not yet begun -/
def streamBodyX (cfg : Cfg) (e : End) (hd : ReqHead) (v : Bytes) (more : List Bytes) (c : Consume) :
    Except RdErr (ReqOut × After × List Bytes) :=
  if hd.cl = -1 then
    let total := v.length + (more.map List.length).sum
    let (got, st, more1) := consumeChunkedX cfg e hd.trailer c (c.stopAfter + total + 2) { s := v } more []
    if got.err then .ok ({ head := hd, got, streamed := true }, .closed, more1) else
      match drainChunkedX e (total + 2) st more1 with
      | none => .ok ({ head := hd, got, streamed := true }, .closed, more1)
      | some (rest, more2) =>
        .ok ({ head := hd, got, streamed := true }, (if st.chunkEOF then After.resync rest else After.either rest), more2)
  else
    match streamBody cfg (viewEnd e more) hd v c with
    | .error x => .error x
    | .ok (r, a) => .ok (r, a, more)

/-- where `Serve` goes on after a kept-alive request that left `rest` of the current segment:
`none` = it is not entered again (return-to-poller style with nothing left to read) -/
def nextState (poll : Bool) (rest : Bytes) (more : List Bytes) : Option (Bool × List Bytes) :=
  if poll then
    match rest, more with
    | [], more =>
      -- the time-outs never fire: nobody is reading until the bytes of the next segment arrive
      (match more.dropWhile List.isEmpty with
       | [] => none
       | m :: ms => some (true, m :: ms))
    | r :: rs, more => some (true, (r :: rs) :: more)
  else some (false, rest :: more)

/-- the keep-alive loop with idle style and time-out segments.  `fuel` bounds the number of
requests (`serveStreamX` passes total length + number of segments). -/
def streamLoopX (cfg : Cfg) (poll : Bool) (e : End) (c : Consume) : Nat → Bool → List Bytes → List SEv
  | 0, _, _ => []
  | _ + 1, _, [] => []
  | fuel + 1, first, v :: more =>
    let ve := viewEnd e more
    if !first && v.length < 4 then [] else
    match parseReqHead cfg.disableNorm v with
    | .error .bad => [.resp 400 true]
    | .error .needMore =>
      if v.isEmpty then (match ve with | .eof => [] | .stall => [.resp 408 true])
      else (match ve with | .eof => [.resp 400 true] | .stall => [.resp 408 true])
    | .ok (hd, n) =>
      let v1 := v.drop n
      let cont := mayContinue hd
      let pre : List SEv := if cont then [.continue100] else []
      match streamBodyX cfg e hd v1 more c with
      | .error x =>
        pre ++ (match errStatus x with
                | some st => [.resp st true]
                | none => if cont then [.resp 400 true] else [])
      | .ok (r, after, more') =>
        let close := cfg.disableKeepalive || r.head.connClose
        pre ++ [.req r, .resp 200 close] ++
          (if close then [] else
            match after with
            | .resync rest =>
              (match nextState poll rest more' with
               | none => []
               | some (f, segs) => streamLoopX cfg poll e c fuel f segs)
            | .closed => []
            | .either rest =>
              .maybeClosed ::
              (match nextState poll rest more' with
               | none => []
               | some (f, segs) => streamLoopX cfg poll e c fuel f segs))

/-- cut `s` at the (ascending, absolute) offsets `tmos`; offsets outside `0 < t < length` are
ignored; an offset given `k` times stands for `k` time-outs in a row (the peer pauses for more than
`k` read time-outs): `k - 1` empty segments (the scripted connection of the harness does the same) -/
def splitAt (s : Bytes) : Nat → List Nat → List Bytes
  | _, [] => [s]
  | pos, t :: ts =>
    if t = 0 ∨ t < pos ∨ t - pos ≥ s.length then splitAt s pos ts
    else s.take (t - pos) :: splitAt (s.drop (t - pos)) t ts

def serveStreamX (cfg : Cfg) (poll : Bool) (e : End) (c : Consume) (tmos : List Nat) (s : Bytes) : List SEv :=
  let segs := splitAt s 0 tmos
  streamLoopX cfg poll e c (s.length + segs.length) true segs

end Hertz.H1.Stream
