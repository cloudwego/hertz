import Hertz.Model.Http1.Serve
/-!
Model of request-body streaming: `ext.ReadBodyWithStreaming` (prefetch), `ext.bodyStream.Read`
(fixed length and chunked), `ext.bodyStream.skipRest` / `ReleaseBodyStream`,
`req.ContinueReadBodyStream`, and the keep-alive loop of `Server.Serve` with `StreamRequestBody`.

The handler is the harness's consumer: it calls `Read` with a buffer of
`min(readSize, stopAfter - total)` bytes until it has `stopAfter` bytes, sees EOF, or gets an error.
-/
namespace Hertz.H1.Stream
open Hertz Hertz.H1 Hertz.Gen.Str

structure Consume where
  readSize : Nat
  stopAfter : Nat
deriving Repr

structure Got where
  bytes : Bytes
  eof : Bool := false
  err : Bool := false
deriving Repr, DecidableEq

/-- state of a chunked `bodyStream` -/
structure ChunkSt where
  s : Bytes            -- unread wire
  chunkLeft : Nat := 0
  chunkEOF : Bool := false

/-- the consumer loop over a chunked stream (`bodyStream.Read`, `contentLength == -1`) -/
def consumeChunked (cfg : Cfg) (e : End) (names : List Bytes) (c : Consume) :
    Nat → ChunkSt → Bytes → Got × ChunkSt
  | 0, st, acc => ({ bytes := acc, err := true }, st)
  | fuel + 1, st, acc =>
    if acc.length ≥ c.stopAfter then ({ bytes := acc }, st) else
    let p := min c.readSize (c.stopAfter - acc.length)
    if st.chunkEOF then ({ bytes := acc, eof := true }, st) else
    -- a new chunk header when the previous chunk is finished
    -- result: the state to read from, and whether this `Read` call already returned io.EOF
    let hdr : Except RdErr (ChunkSt × Bool) :=
      if st.chunkLeft = 0 then
        match parseChunkSize e st.s with
        | .error x => .error x
        | .ok (0, rest) =>
          match readTrailerReq cfg e names rest with
          | .ok (some _, rest') => .ok ({ s := rest', chunkLeft := 0, chunkEOF := true }, true)
          | .ok (none, rest') => .ok ({ s := rest', chunkLeft := 0, chunkEOF := false }, true)   -- io.EOF from ReadTrailer
          | .error x => .error x
        | .ok (n, rest) => .ok ({ s := rest, chunkLeft := n }, false)
      else .ok (st, false)
    match hdr with
    | .error _ => ({ bytes := acc, err := true }, st)
    | .ok (st1, eofNow) =>
      if eofNow then ({ bytes := acc, eof := true }, st1) else
      let b := min p st1.chunkLeft
      if st1.s.length < b then ({ bytes := acc, err := true }, st1)
      else
        let acc' := acc ++ st1.s.take b
        let st2 : ChunkSt := { s := st1.s.drop b, chunkLeft := st1.chunkLeft - b }
        if st2.chunkLeft = 0 then
          -- `SkipCRLF`
          if st2.s.take 2 = strCRLF then consumeChunked cfg e names c fuel { st2 with s := st2.s.drop 2 } acc'
          else ({ bytes := acc', err := true }, st2)
        else consumeChunked cfg e names c fuel st2 acc'

/-- `skipRest` for a chunked stream: position after the whole message if it can be drained.
`none` = the drain failed (malformed framing or the wire ended): the connection is closed.
After a drain that had work to do `streamBody` allows both, drained and closed (`After.either`). -/
def drainChunked (cfg : Cfg) (e : End) : Nat → ChunkSt → Option Bytes
  | 0, _ => none
  | fuel + 1, st =>
    if st.chunkEOF then some st.s else
    if st.chunkLeft > 0 then
      if st.s.length < st.chunkLeft + 2 then none
      else if (st.s.drop st.chunkLeft).take 2 ≠ strCRLF then none
      else drainChunked cfg e fuel { s := st.s.drop (st.chunkLeft + 2), chunkLeft := 0 }
    else
      match parseChunkSize e st.s with
      | .error _ => none
      | .ok (0, rest) =>
        -- `SkipTrailer`: lines up to and including the empty line
        let rec skipTr : Nat → Bytes → Option Bytes
          | 0, _ => none
          | f + 1, s =>
            match Hertz.H1.indexByte 10 s with
            | none => none
            | some i =>
              if i = 0 then none
              else if s.take (i + 1) = strCRLF then some (s.drop (i + 1))
              else if (s.take i).getLast? = some 13 then skipTr f (s.drop (i + 1)) else none
        skipTr (rest.length + 1) rest
      | .ok (n, rest) =>
        if rest.length < n + 2 then none
        else if (rest.drop n).take 2 ≠ strCRLF then none
        else drainChunked cfg e fuel { s := rest.drop (n + 2), chunkLeft := 0 }

inductive After where
  | resync (rest : Bytes)      -- the next request is parsed from `rest`
  | closed
  | either (rest : Bytes)      -- drained or closed, depending on buffering
deriving Repr

structure ReqOut where
  head : ReqHead
  got : Got
  streamed : Bool
deriving Repr

inductive SEv where
  | continue100
  | req (r : ReqOut)
  | resp (status : Nat) (close : Bool)
  | maybeClosed            -- from here on the connection may have been closed instead
deriving Repr

/-- one request in streaming mode: `ContinueReadBodyStream` + handler + `ReleaseBodyStream` -/
def streamBody (cfg : Cfg) (e : End) (hd : ReqHead) (s : Bytes) (c : Consume) :
    Except RdErr (ReqOut × After) :=
  if hd.cl = -2 then
    .ok ({ head := if isGetOrHead hd then hd else setContentLength hd 0, got := { bytes := [] }, streamed := false }, .resync s)
  else if hd.cl = -1 then
    let (got, st) := consumeChunked cfg e hd.trailer c (c.stopAfter + s.length + 2) { s := s } []
    -- a failed `Read` is remembered (`readErr`): `ReleaseBodyStream` reports it and the connection closes
    let after := if got.err then After.closed else
      match drainChunked cfg e (s.length + 2) st with
      | none => After.closed
      | some rest => if st.chunkEOF then After.resync rest else After.either rest
    .ok ({ head := hd, got, streamed := true }, after)
  else
    let cl := hd.cl.toNat
    let pre := min cl (min cfg.maxBody Gen.maxContentLengthInStream.toNat)
    if s.length < pre then .error (match e with | .eof => .unexpectedEOF | .stall => .timeout)
    else
      let avail := min cl s.length
      let want := min c.stopAfter cl
      let got : Got :=
        if c.stopAfter = 0 then { bytes := [] }
        else if want ≤ avail then { bytes := s.take want, eof := c.stopAfter ≥ cl }
        else { bytes := s.take avail, err := true }
      .ok ({ head := hd, got, streamed := true }, if s.length ≥ cl then .resync (s.drop cl) else .closed)

def streamLoop (cfg : Cfg) (e : End) (c : Consume) : Nat → Bool → Bytes → List SEv
  | 0, _, _ => []
  | fuel + 1, first, s =>
    if !first && s.length < 4 then [] else
    match parseReqHead cfg.disableNorm s with
    | .error .bad => [.resp 400 true]
    | .error .needMore =>
      if s.isEmpty then (match e with | .eof => [] | .stall => [.resp 408 true])
      else (match e with | .eof => [.resp 400 true] | .stall => [.resp 408 true])
    | .ok (hd, n) =>
      let s1 := s.drop n
      let cont := mayContinue hd
      let pre : List SEv := if cont then [.continue100] else []
      match streamBody cfg e hd s1 c with
      | .error x =>
        pre ++ (match errStatus x with
                | some st => [.resp st true]
                | none => if cont then [.resp 400 true] else [])
      | .ok (r, after) =>
        let close := cfg.disableKeepalive || r.head.connClose
        pre ++ [.req r, .resp 200 close] ++
          (if close then [] else
            match after with
            | .resync rest => streamLoop cfg e c fuel false rest
            | .closed => []
            | .either rest => .maybeClosed :: streamLoop cfg e c fuel false rest)

def serveStream (cfg : Cfg) (e : End) (c : Consume) (s : Bytes) : List SEv :=
  streamLoop cfg e c (s.length + 1) true s

end Hertz.H1.Stream
