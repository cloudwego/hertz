import Hertz.Model.Http1.ReqHead
/-!
Model of the body readers: `bytesconv.ReadHexInt`, `utils.ParseChunkSize`, `ext.ReadBody`
(fixed / chunked), `ext.parseTrailer` (`ext.ReadTrailer` and `req.ContinueReadBody` are in `Serve.lean`).

The reader is the remaining inbound byte stream `s` (the C13 refinement theorem justifies treating the
buffered connection as a FIFO) together with how the stream ends once `s` is exhausted.
-/
namespace Hertz.H1
open Hertz Hertz.Gen.Str

/-- what a read beyond the available bytes returns -/
inductive End where
  | eof      -- peer closed
  | stall    -- read times out
deriving Repr, DecidableEq

inductive RdErr where
  | eof | timeout   -- wire ends (raw io.EOF / net timeout)
  | hzTimeout       -- hertz's own ErrTimeout (trailer/header read timed out): not a net.Error
  | unexpectedEOF   -- io.ErrUnexpectedEOF
  | bad             -- malformed
  | tooLarge
  | unmodelled      -- no answer: pre-parse on and a `multipart/form-data` content type (the code may hand over to mime/multipart)
deriving Repr, DecidableEq

def endErr : End → RdErr
  | .eof => .eof
  | .stall => .timeout

/-- `bytesconv.ReadHexInt`: `(n, rest)`; on error the bytes consumed are irrelevant (connection closes) -/
def readHexIntAux (e : End) : Nat → Nat → Bytes → Except RdErr (Nat × Bytes)
  | n, i, [] => if i > 0 then .ok (n, []) else .error (endErr e)
  | n, i, c :: t =>
    let k := hex2int c
    if k = 16 then (if i = 0 then .error .bad else .ok (n, c :: t))
    else if i ≥ Gen.maxHexIntChars.toNat then .error .bad
    else readHexIntAux e (n * 16 + k.toNat) (i + 1) t

def readHexInt (e : End) (s : Bytes) : Except RdErr (Nat × Bytes) := readHexIntAux e 0 0 s

/-- after the hex number: any number of spaces, then `\r`, then `\n` -/
def chunkSizeTail (e : End) : Bytes → Except RdErr Bytes
  | [] => .error .bad      -- "cannot read '\r' char …" is a public (400) error whatever the cause
  | c :: t =>
    if c = 32 then chunkSizeTail e t
    else if c = 13 then
      match t with
      | [] => .error .bad
      | d :: t' => if d = 10 then .ok t' else .error .bad
    else .error .bad

/-- `utils.ParseChunkSize` -/
def parseChunkSize (e : End) (s : Bytes) : Except RdErr (Nat × Bytes) :=
  match readHexInt e s with
  | .error .eof => .error .unexpectedEOF
  | .error x => .error x
  | .ok (n, rest) =>
    match chunkSizeTail e rest with
    | .error x => .error x
    | .ok rest' => .ok (n, rest')

/-- `Peek(n)` + `Skip(n)` -/
def takeN (e : End) (n : Nat) (s : Bytes) : Except RdErr (Bytes × Bytes) :=
  if s.length ≥ n then .ok (s.take n, s.drop n) else .error (endErr e)

/-- `appendBodyFixedSize`: raw EOF becomes unexpected EOF -/
def takeBody (e : End) (n : Nat) (s : Bytes) : Except RdErr (Bytes × Bytes) :=
  match takeN e n s with
  | .error .eof => .error .unexpectedEOF
  | r => r

/-- `readBodyChunked`; `fuel` bounds the number of chunks (`s.length + 1` suffices: every chunk
consumes at least three bytes) -/
def readBodyChunked (e : End) (maxBody : Nat) : Nat → Bytes → Bytes → Except RdErr (Bytes × Bytes)
  | 0, _, _ => .error .bad
  | fuel + 1, dst, s => do
    let (size, rest) ← parseChunkSize e s
    if size = 0 then .ok (dst, rest)
    else if maxBody > 0 ∧ dst.length + size > maxBody then .error .tooLarge
    else
      let (chunk, rest') ← takeBody e (size + 2) rest
      if chunk.drop size ≠ strCRLF then .error .bad
      else readBodyChunked e maxBody fuel (dst ++ chunk.take size) rest'

/-- `updateArgBytes`: fill the first still-unfilled declared trailer of that name -/
def updateTrailer : List (Bytes × Option Bytes) → Bytes → Bytes → List (Bytes × Option Bytes)
  | [], _, _ => []
  | (k, v) :: t, key, value =>
    if v.isNone ∧ k = key then (k, some value) :: t else (k, v) :: updateTrailer t key value

inductive TrErr where | needMore | bad
deriving Repr, DecidableEq

/-- scanning loop of `parseTrailer`: `err` is overwritten by every field (as in the Go code) -/
def parseTrailerLoop (disableNorm : Bool) : Nat → Bytes → List (Bytes × Option Bytes) → Bool → Nat →
    Except TrErr (List (Bytes × Option Bytes) × Nat)
  | 0, _, _, _, _ => .error .needMore
  | fuel + 1, B, tr, err, hlen =>
    match scanNext disableNorm B with
    | .fin n => if err then .error .bad else .ok (tr, hlen + n)
    | .needMore => .error .needMore
    | .invalidName => .error .bad
    | .kv key value rest n =>
      if key.isEmpty then parseTrailerLoop disableNorm fuel rest tr err (hlen + n)
      else if key.contains 32 || key.contains 9 then parseTrailerLoop disableNorm fuel rest tr true (hlen + n)
      else if isBadTrailer key then parseTrailerLoop disableNorm fuel rest tr true (hlen + n)
      else parseTrailerLoop disableNorm fuel rest (updateTrailer tr key value) false (hlen + n)

/-- `parseTrailer(t, buf)` for a non-empty `buf`.  A repeated zero-length chunk line `0\r\n` in front of the
trailer section is skipped and counted; anything else starting with `0` is a trailer field. -/
def parseTrailer (disableNorm : Bool) (tr : List (Bytes × Option Bytes)) (buf : Bytes) :
    Except TrErr (List (Bytes × Option Bytes) × Nat) :=
  match buf with
  | 48 :: rest =>
    if buf.length < 3 then .error .needMore   -- too short to tell a `0\r\n` line from a field name starting with `0`
    else if rest.take 2 = strCRLF then
      match parseTrailerLoop disableNorm (buf.length + 1) (rest.drop 2) tr false 0 with
      | .ok (t, n) => .ok (t, n + 3)
      | .error x => .error x
    else parseTrailerLoop disableNorm (buf.length + 1) buf tr false 0
  | _ => parseTrailerLoop disableNorm (buf.length + 1) buf tr false 0

end Hertz.H1
