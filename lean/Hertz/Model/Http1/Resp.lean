import Hertz.Model.HeaderWrite
/-!
Model of the response writer: `resp.Write`, `resp.writeBodyStream`,
`ResponseHeader.SetContentLength/MustSkipContentLength`, `Response.MustSkipBody`,
`ext.WriteBodyFixedSize`, `ext.WriteBodyChunked`, `ext.WriteChunk`, `bytesconv.WriteHexInt`,
`resp.chunkedBodyWriter` (Write / Flush / Finalize; an empty Write writes nothing), and the
HEAD / Connection decisions of `Server.Serve`.

The result is the *framing* of the message and the exact bytes that follow the header block.
-/
namespace Hertz.H1.Resp
open Hertz Hertz.Gen.Str

/-- `bytesconv.WriteHexInt`: lower-case hex, no leading zeros (`0` for zero) -/
def hexDigits : Nat → Nat → Bytes
  | 0, _ => []
  | fuel + 1, n => if n < 16 then [lowerhex n.toUInt8] else hexDigits fuel (n / 16) ++ [lowerhex (n % 16).toUInt8]

def writeHexInt (n : Nat) : Bytes := hexDigits 16 n

/-- `ext.WriteChunk(w, b, _)` -/
def writeChunk (b : Bytes) : Bytes :=
  writeHexInt b.length ++ strCRLF ++ b ++ (if b.isEmpty then [] else strCRLF)

def encodeChunks (cs : List Bytes) : Bytes := cs.flatMap writeChunk

inductive WOp where
  | write (b : Bytes)
  | flush
deriving Repr, DecidableEq

inductive BodyMode where
  | bytes (b : Bytes)                                   -- SetBody / AppendBody / Write
  | stream (declared : Int) (reads : List Bytes)        -- SetBodyStream(r, declared); `reads` = results of r.Read
  | limited (limit : Nat) (reads : List Bytes)          -- SetBodyStream(io.LimitReader(r, limit), -1)
  | writer (script : List WOp)                          -- hijacked chunked body writer
deriving Repr, DecidableEq

structure Prog where
  status : Nat
  body : BodyMode
  trailers : List (Bytes × Bytes) := []
deriving Repr, DecidableEq

/-- `ResponseHeader.MustSkipContentLength` -/
def mustSkipCL (status : Nat) : Bool :=
  if status < 100 || status == 200 then false else status == 304 || status == 204 || status < 200

inductive Framing where
  | none                 -- neither Content-Length nor chunked
  | cl (n : Nat)
  | chunked
deriving Repr, DecidableEq

structure Frame where
  framing : Framing
  /-- the bytes after the header block -/
  wire : Bytes
  /-- the writer reported an error (stream shorter than declared): the connection is closed -/
  failed : Bool := false
deriving Repr, DecidableEq

def trailerBlock (t : List (Bytes × Bytes)) : Bytes := HW.block t

/-- `io.LimitReader` + `CopyZeroAlloc`: the first `n` bytes of the stream -/
def takeStream (n : Nat) (reads : List Bytes) : Bytes := (reads.flatten).take n

/-- chunks produced by `WriteBodyChunked` when the reader returns `reads` (each at most 4096 bytes) -/
def chunkedWire (reads : List Bytes) (tr : List (Bytes × Bytes)) : Bytes :=
  encodeChunks (reads.filter (fun r => !r.isEmpty)) ++ writeChunk [] ++ trailerBlock tr

/-- what the hijacked writer puts after the header block -/
def writerWire (script : List WOp) (tr : List (Bytes × Bytes)) : Bytes :=
  encodeChunks (script.filterMap (fun o => match o with | .write b => if b.isEmpty then none else some b | .flush => none))
    ++ writeChunk [] ++ trailerBlock tr

/-- `resp.Write` for a response produced by `p` when the request was (not) a HEAD request -/
def frame (p : Prog) (isHead : Bool) : Frame :=
  let skipCL := mustSkipCL p.status
  let sendBody := !(isHead || skipCL)
  match p.body with
  | .bytes b =>
    { framing := if (sendBody || b.length > 0) && !skipCL then .cl b.length else .none,
      wire := if sendBody then b else [] }
  | .stream declared reads =>
    if skipCL then { framing := .none, wire := [] }        -- SetContentLength is a no-op: length stays 0, nothing is sent
    else if declared ≥ 0 then
      let n := declared.toNat
      let sent := takeStream n reads
      { framing := .cl n, wire := if sendBody then sent else [], failed := sendBody && sent.length != n }
    else { framing := .chunked, wire := if sendBody then chunkedWire reads p.trailers else [] }
  | .limited limit reads =>
    if skipCL then { framing := .none, wire := [] }
    else
      let sent := takeStream limit reads
      { framing := .cl limit, wire := if sendBody then sent else [], failed := sendBody && sent.length != limit }
  | .writer script =>
    -- documented exclusion: the hijacked writer on a response that may not have a body
    { framing := if skipCL then .none else .chunked, wire := writerWire script p.trailers }

/-- `Connection` header of the response as decided in `Server.Serve` -/
inductive ConnHdr where | close | keepAlive | absent
deriving Repr, DecidableEq

def connHeader (reqClose respClose http11 : Bool) : ConnHdr :=
  if reqClose || respClose then .close else if !http11 then .keepAlive else .absent

end Hertz.H1.Resp
