import Hertz.Model.Http1.Scan
/-!
Model of `pkg/protocol/http1/req/header.go`: `parseFirstLine`, `parseHeaders`, `parse`.
-/
namespace Hertz.H1
open Hertz Hertz.Gen.Str

structure ReqHead where
  method : Bytes := []
  uri : Bytes := []
  http11 : Bool := true
  host : Bytes := []
  userAgent : Bytes := []
  contentType : Bytes := []
  /-- `-2` no framing header, `-1` chunked, otherwise Content-Length -/
  cl : Int := -2
  clBytes : Bytes := []
  connClose : Bool := false
  /-- the generic header list `h.h`, wire order -/
  h : List (Bytes × Bytes) := []
  /-- declared trailer names -/
  trailer : List Bytes := []
deriving Repr, DecidableEq

inductive HeadErr where
  | needMore
  | bad        -- any parse error that is answered with 400
deriving Repr, DecidableEq

/-- the line loop of `parseFirstLine`: skips leading empty lines. Returns the first non-empty line and the bytes consumed. -/
def parseFirstLineAux : Nat → Bytes → Nat → Except HeadErr (Bytes × Nat)
  | 0, _, _ => .error .needMore
  | fuel + 1, b, consumed =>
    match nextLine b with
    | none => .error .needMore
    | some (line, rest) =>
      let consumed := consumed + (b.length - rest.length)
      if line.isEmpty then parseFirstLineAux fuel rest consumed else .ok (line, consumed)

def parseFirstLine (buf : Bytes) : Except HeadErr (ReqHead × Nat) := do
  let (line, consumed) ← parseFirstLineAux (buf.length + 1) buf 0
  match indexByte 32 line with
  | none => .error .bad
  | some 0 => .error .bad
  | some n =>
    let method := line.take n
    let b := line.drop (n + 1)
    match lastIndexByte 32 b with
    | none => .ok ({ method := method, uri := b, http11 := false }, consumed)
    | some 0 => .error .bad
    | some m =>
      .ok ({ method := method, uri := b.take m, http11 := (b.drop (m + 1)) == strHTTP11 }, consumed)

def validHeaderFieldValue (v : Bytes) : Bool := v.all (fun c => tget Gen.validHeaderFieldValueTable c != 0)

/-- `setArgBytes(h, key, value)`: overwrite the first entry with that key, else append -/
def setArg : List (Bytes × Bytes) → Bytes → Bytes → List (Bytes × Bytes)
  | [], k, v => [(k, v)]
  | (k', v') :: t, k, v => if k' = k then (k, v) :: t else (k', v') :: setArg t k v

def peekArg (h : List (Bytes × Bytes)) (k : Bytes) : Bytes :=
  match h.find? (fun kv => kv.1 == k) with
  | some kv => kv.2
  | none => []

structure HdrState where
  head : ReqHead
  err : Bool := false   -- first non-fatal error recorded (`err` variable of parseHeaders)

/-- effect of one scanned `(key, value)` pair; `none` = immediate `return 0, err` -/
def applyHeader (disableNorm : Bool) (st : HdrState) (key value : Bytes) : Option HdrState :=
  let hd := st.head
  let add : HdrState := { st with head := { hd with h := hd.h ++ [(key, value)] } }
  match key with
  | [] => some add
  | k0 :: _ =>
    if key.contains 32 || key.contains 9 then none
    else if !validHeaderFieldValue value then none
    else
      let c := k0 ||| 0x20
      if c = 104 ∧ ciEq key strHost then some { st with head := { hd with host := value } }
      else if c = 117 ∧ ciEq key strUserAgent then some { st with head := { hd with userAgent := value } }
      else if c = 99 ∧ ciEq key strContentType then some { st with head := { hd with contentType := value } }
      else if c = 99 ∧ ciEq key strContentLength then
        if hd.cl != -1 then
          match parseUint value with
          | none => some { st with err := true, head := { hd with cl := -2 } }
          | some v => some { st with head := { hd with cl := v, clBytes := value } }
        else some st
      else if c = 99 ∧ ciEq key strConnection then
        if ciEq value strClose then some { st with head := { hd with connClose := true } }   -- any letter case
        else some { st with head := { hd with connClose := false, h := hd.h ++ [(key, value)] } }
      else if c = 116 ∧ ciEq key strTransferEncoding then
        if value != strIdentity then
          some { st with head := { hd with cl := -1, h := setArg hd.h strTransferEncoding strChunked } }
        else some st
      else if c = 116 ∧ ciEq key strTrailer then
        let (names, bad) := setTrailers disableNorm value
        some { st with err := st.err || bad, head := { hd with trailer := hd.trailer ++ names } }   -- fields combine
      else some add

/-- the scanning loop of `parseHeaders`; returns the final state and `HLen` -/
def parseHeadersLoop (disableNorm : Bool) : Nat → Bytes → HdrState → Nat → Except HeadErr (HdrState × Nat)
  | 0, _, _, _ => .error .needMore
  | fuel + 1, B, st, hlen =>
    match scanNext disableNorm B with
    | .fin n => if st.err then .error .bad else .ok (st, hlen + n)
    | .needMore => if st.err then .error .bad else .error .needMore
    | .invalidName => .error .bad
    | .kv key value rest n =>
      match applyHeader disableNorm st key value with
      | none => .error .bad
      | some st' => parseHeadersLoop disableNorm fuel rest st' (hlen + n)

def parseHeaders (disableNorm : Bool) (hd : ReqHead) (buf : Bytes) : Except HeadErr (ReqHead × Nat) := do
  let (st, hlen) ← parseHeadersLoop disableNorm (buf.length + 1) buf { head := { hd with cl := -2 } } 0
  let hd := st.head
  let hd := if hd.cl < 0 then { hd with clBytes := [] } else hd
  let hd := if !hd.http11 && !hd.connClose then
      { hd with connClose := !hasHeaderValue (peekArg hd.h strConnection) strKeepAlive }
    else hd
  .ok (hd, hlen)

/-- `req.parse(h, buf)`: first line, completeness pre-check of the header block, header fields. -/
def parseReqHead (disableNorm : Bool) (buf : Bytes) : Except HeadErr (ReqHead × Nat) := do
  let (hd, m) ← parseFirstLine buf
  match rawHeadersLen (buf.drop m) with
  | none => .error .needMore
  | some _ =>
    let (hd, n) ← parseHeaders disableNorm hd (buf.drop m)
    .ok (hd, m + n)

end Hertz.H1
