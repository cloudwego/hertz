import Hertz.Model.Http1.Stream
/-!
Handlers that consume a streamed request body through hertz's OWN request API, and what `Server.Serve`
does with the stream after the handler returned.

Go code modelled (pkg/protocol/request.go, pkg/protocol/http1/server.go, pkg/protocol/http1/ext/stream.go):

* `Request.MultipartForm` (and `FormFile`, `FormValue`, `PostForm` on a multipart request): `mime/multipart` reads
  the body stream through a 4096-byte `bufio.Reader` until it has seen the closing delimiter line.  How many body
  bytes that takes depends on the chunking and on bufio's read-ahead, so it is a PARAMETER here (`formParse upTo`:
  the library's reads go on until `upTo` bytes were obtained or the stream reports its end); the request keeps
  referencing the stream.
* `Request.Body()/BodyE()`, `BodyWriteTo`, `PostArgs()` on a url-encoded request: `CopyZeroAlloc` reads until the
  stream reports its end or fails, then `CloseBodyStream()`.  `*bodyStream` is not an `io.Closer`, so all that
  happens is `req.bodyStream = nil`: the request no longer references the stream (`Fin.detached`); a read error is
  returned to the caller (dropped by `Body()`), nothing else remembers it.
* `Request.CloseBodyStream()`, `ResetBody()` (also inside `SetBody*`): detach without reading.
* `Request.SetBodyStream(r, n)`: `ResetBody()` and then the request references `r` (`Fin.replaced`) - e.g. a
  middleware that wraps the stream to count or limit it; reads through the wrapper reach the stream.
* After the handler (`server.go`): `if reqBodyStream != nil { err = ext.ReleaseBodyStream(reqBodyStream) … }`
  with `reqBodyStream` taken from the request BEFORE the handler ran.  So `skipRest` runs (and a remembered read error
  closes the connection) whatever the request references afterwards.  `Fin` is information about the program
  (the driver reports it); it does not change the loop.
-/
namespace Hertz.H1.Stream
open Hertz Hertz.H1 Hertz.Gen.Str

/-- what `ctx.Request` references when the handler returns -/
inductive Fin where
  | attached   -- the `*bodyStream` built by `ContinueReadBodyStream`
  | detached   -- nothing (`bodyStream = nil`)
  | replaced   -- another reader (not a `*bodyStream`)
deriving DecidableEq, Repr

/-- the consumption alphabet -/
inductive Api where
  | none
  | read (readSize stopAfter : Nat)            -- the handler calls `Read` itself
  | formParse (upTo : Nat)                     -- `MultipartForm()` & co.: ANY amount `upTo` (see above)
  | bodyAll                                    -- `Body()`, `PostArgs()` of a url-encoded form
  | writeTo                                    -- `BodyWriteTo`
  | closeStream                                -- `CloseBodyStream()`, `ResetBody()`
  | replaceStream (readSize stopAfter : Nat)   -- `SetBodyStream(wrapper(stream), n)`, then reads through the wrapper
  | readThenBody (readSize stopAfter : Nat)    -- own reads that stop before the end, then `Body()` for the remainder
deriving Repr

/-- a consumption program as the stream and the loop see it: the `Read` calls that reach the stream, and what the
request references afterwards -/
structure Prog where
  c : Consume
  fin : Fin
deriving Repr

/-- `wire` = number of bytes behind the request head; "to the end" is a stop point no body in them can reach -/
def Api.prog (wire : Nat) : Api → Prog
  | .none => ⟨⟨1, 0⟩, .attached⟩
  | .read r k => ⟨⟨r, k⟩, .attached⟩
  | .formParse k => ⟨⟨4096, k⟩, .attached⟩
  | .bodyAll => ⟨⟨4096, wire + 1⟩, .detached⟩
  | .writeTo => ⟨⟨4096, wire + 1⟩, .detached⟩
  | .closeStream => ⟨⟨1, 0⟩, .detached⟩
  | .replaceStream r k => ⟨⟨r, k⟩, .replaced⟩
  | .readThenBody r _ => ⟨⟨r, wire + 1⟩, .detached⟩

/-- the prefetch of `ReadBodyWithStreaming` for a fixed-length body that is within the limit -/
def prefetchLen (cfg : Cfg) (cl : Nat) : Nat := min cl (min cfg.maxBody Gen.maxContentLengthInStream.toNat)

/-- one request in streaming mode with a program.  `Serve` releases the stream IT built (a local taken before the
handler runs), whatever the request references when the handler returns: the post-handler step is `streamBody`'s for
every `Fin` — the unread rest is skipped, a remembered read error closes the connection. -/
def streamBodyP (cfg : Cfg) (e : End) (hd : ReqHead) (s : Bytes) (p : Prog) : Except RdErr (ReqOut × After) :=
  streamBody cfg e hd s p.c

inductive PEv where
  | continue100
  | req (r : ReqOut) (fin : Fin)
  | resp (status : Nat) (close : Bool)
  | maybeClosed
deriving Repr

def PEv.toSEv : PEv → SEv
  | .continue100 => .continue100
  | .req r _ => .req r
  | .resp st cl => .resp st cl
  | .maybeClosed => .maybeClosed

/-- the keep-alive loop of `Server.Serve` with `StreamRequestBody`; the handler's program may depend on the request
(`prog head bytesBehindTheHead`) -/
def streamLoopP (cfg : Cfg) (e : End) (prog : ReqHead → Bytes → Prog) : Nat → Bool → Bytes → List PEv
  | 0, _, _ => []
  | fuel + 1, first, s =>
    if !first && s.length < 4 then [] else
    match parseReqHead cfg.disableNorm s with
    | .error .bad => [.resp 400 true]
    | .error .needMore =>
      if s.isEmpty then (match e with | .eof => [] | .stall => [.resp 408 true])
      else (match e with | .eof => [.resp 400 true] | .stall => [.resp 408 true])
    | .ok (hd, n) =>
      let s1 := s.drop n
      let cont := mayContinue hd
      let pre : List PEv := if cont then [.continue100] else []
      let p := prog hd s1
      match streamBodyP cfg e hd s1 p with
      | .error x =>
        pre ++ (match errStatus x with
                | some st => [.resp st true]
                | none => if cont then [.resp 400 true] else [])
      | .ok (r, after) =>
        let close := cfg.disableKeepalive || r.head.connClose
        pre ++ [.req r (if r.streamed then p.fin else .attached), .resp 200 close] ++
          (if close then [] else
            match after with
            | .resync rest => streamLoopP cfg e prog fuel false rest
            | .closed => []
            | .either rest => .maybeClosed :: streamLoopP cfg e prog fuel false rest)

def serveStreamP (cfg : Cfg) (e : End) (prog : ReqHead → Bytes → Prog) (s : Bytes) : List PEv :=
  streamLoopP cfg e prog (s.length + 1) true s

/-- the connection is where the property wants it after a request whose message is followed by `rest` -/
def After.InSync (a : After) (rest : Bytes) : Prop :=
  a = .closed ∨ a = .resync rest ∨ a = .either rest

instance (a : After) (rest : Bytes) : Decidable (After.InSync a rest) := by
  unfold After.InSync
  cases a <;> simp <;> infer_instance

end Hertz.H1.Stream
