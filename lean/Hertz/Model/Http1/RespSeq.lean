import Hertz.Model.Http1.RespMsg
/-!
The write side of the keep-alive loop of `Server.Serve` (`pkg/protocol/http1/server.go`) for a LIST of
exchanges on one connection: per exchange the message (`H1.Resp.message`), the `Connection` decision
(`connectionClose = s.DisableKeepalive || ctx.Request.Header.ConnectionClose()`, `!s.Core.IsRunning()`,
`|| ctx.Response.ConnectionClose()`, then `SetCanonical(Connection, close)` / `(Connection, keep-alive)` for
HTTP/1.0), the error path of `writeResponse` (`if err = writeResponse(ctx, zw); err != nil { return }` — no
`zw.Flush()`), the hijack exit, and the bytes that reach the connection: the concatenation of the messages up to
and including the first exchange after which `Serve` leaves its loop.

What reaches the wire of a response whose body writer fails (`ext.WriteBodyFixedSize` → `utils.CopyZeroAlloc` →
`copyBuffer`: `standard.Conn` is an `io.ReaderFrom`, so `Conn.ReadFrom` runs): `ReadFrom` first flushes what
is buffered (the header block, written by `WriteHeader` just before), then (unless the underlying `net.Conn` is itself
an `io.ReaderFrom`, as `*net.TCPConn` is: it gets the stream and sends every byte delivered, the case `cap = 1`) reads
the stream into the output buffer and flushes only when the buffer is full (`bufNode.Cap() == 0`); `WriteBodyFixedSize` then returns the
"copied %d bytes … instead of %d" error, `Serve` returns without flushing, and the bytes still in the buffer
are never sent.  Hence: header block + the largest whole number of buffers (`cap` bytes each, 4096 here) of
the bytes the stream delivered.  The same for a stream that ends with a read error instead of `io.EOF`, and
for a reader that returns its last bytes together with `io.EOF` (both followed through `ReadFrom`: a non-EOF
error is returned as it is, `(n, io.EOF)` leaves the loop like `(0, io.EOF)`; the flush of a full buffer
happens at the top of the next iteration, before the read that reports the end).
-/
namespace Hertz.H1.RespSeq
open Hertz Hertz.Gen.Str Hertz.HW Hertz.H1.Resp

/-- the `Connection` field of the request as `RequestHeader.parseHeaders` treats it: the option `close`
in any letter case (`utils.CaseInsensitiveCompare`), a value with the element `keep-alive` (`ext.HasHeaderValue`,
case-insensitive), any other value, or no field -/
inductive ReqConn where
  | absent | close | keepAlive | other
deriving Repr, DecidableEq

/-- `RequestHeader.ConnectionClose()` after `parseHeaders`: `Connection: close`, or an HTTP/1.0 request
without `Connection: keep-alive` -/
def reqClose (http11 : Bool) (c : ReqConn) : Bool :=
  c == .close || (!http11 && c != .keepAlive)

/-- one request/response exchange as `Serve` sees it when the handler has returned -/
structure Exch where
  http11 : Bool
  reqConn : ReqConn
  isHead : Bool
  /-- the response header the header block is built from, before `Serve`'s `Connection` edit -/
  r : RespHdr
  p : Prog
  /-- `ctx.Response.ConnectionClose()` when the handler has returned (`ctx.SetConnectionClose()`; always
  true on the error path `writeErrorResponse`) -/
  respClose : Bool
  /-- `s.DisableKeepalive`, or `!s.Core.IsRunning()` after the handler (engine shutting down) -/
  srvClose : Bool := false
  /-- the hijacked chunked writer has sent the header block inside the handler, before `Serve` decides -/
  early : Bool := false
  /-- the handler installed a hijack handler (`ctx.Hijack`): `Serve` hands the connection over after the
  response and returns `errHijacked` -/
  hijack : Bool := false


/-- `connectionClose` of `Serve` when it reaches `writeResponse` -/
def closes (e : Exch) : Bool := e.srvClose || reqClose e.http11 e.reqConn || e.respClose

/-- the response header after `Serve`'s `Connection` edit (`ResponseHeader.setSpecialHeader` for the key
`Connection`: the value `close` sets the flag, any other value clears it and is stored as a generic field);
no edit reaches the wire when the hijacked writer has already sent the header block -/
def serveHdr (e : Exch) : RespHdr :=
  if e.early then e.r
  else if closes e then { e.r with connClose := true }
  else if !e.http11 then { e.r with connClose := false, h := setArgKV e.r.h strConnection strKeepAlive }
  else e.r

/-- `writeResponse` returned an error (body stream shorter than its declared length) -/
def failed (e : Exch) : Bool := (frame e.p e.isHead).failed

/-- the complete message of the exchange -/
def msg (e : Exch) : Bytes := message (serveHdr e) e.p e.isHead

/-- `standard.Conn.ReadFrom` followed by no `Flush`: the whole buffers of what the stream delivered -/
def flushedBody (cap : Nat) (sent : Bytes) : Bytes := sent.take (sent.length / cap * cap)

/-- what reaches the connection of a message whose body writer failed -/
def partialMsg (cap : Nat) (e : Exch) : Bytes :=
  (withFraming (serveHdr e) (frame e.p e.isHead).framing).bytes ++ flushedBody cap (frame e.p e.isHead).wire

/-- `Serve` leaves its loop after this exchange -/
def stops (e : Exch) : Bool := failed e || closes e || e.hijack

/-- every byte `Serve` puts on the connection for the pipelined exchanges `xs` (`cap` = size of the
connection's output buffer) -/
def wire (cap : Nat) : List Exch → Bytes
  | [] => []
  | e :: es =>
    if failed e then partialMsg cap e
    else if closes e || e.hijack then msg e
    else msg e ++ wire cap es

/-- the exchanges answered completely: up to and including the first one that ends the loop, without the
one whose writer failed -/
def answered : List Exch → List Exch
  | [] => []
  | e :: es =>
    if failed e then []
    else if closes e || e.hijack then [e]
    else e :: answered es

/-- the body the handler produced, as the peer must see it (`Proofs/RespMessage.lean` `payload` is this) -/
def payloadOf (p : Prog) (isHead : Bool) : Bytes :=
  if isHead || Spec.Resp.noBodyStatus p.status then [] else
  match p.body with
  | .bytes b => b
  | .stream d reads => if d ≥ 0 then takeStream d.toNat reads else reads.flatten
  | .limited l reads => takeStream l reads
  | .writer s => (s.filterMap (fun o => match o with | .write b => some b | .flush => none)).flatten

end Hertz.H1.RespSeq
