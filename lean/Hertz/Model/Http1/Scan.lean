import Hertz.Model.Bytesconv
import Hertz.Gen.Consts
/-!
Model of the byte-level helpers of the HTTP/1 reader:
`utils.NextLine`, `utils.CaseInsensitiveCompare`, `utils.NormalizeHeaderKey`, `ext.ReadRawHeaders`,
`ext.HeaderScanner.Next` (+ `normalizeHeaderValue`), `bytesconv.ParseUintBuf`,
`protocol.ParseContentLength`, `ext.HasHeaderValue`, `protocol.IsBadTrailer`, `Trailer.SetTrailers`.
-/
namespace Hertz.H1
open Hertz

def indexByte (c : UInt8) : Bytes → Option Nat
  | [] => none
  | x :: t => if x = c then some 0 else (indexByte c t).map (· + 1)

def lastIndexByte (c : UInt8) (b : Bytes) : Option Nat :=
  (indexByte c b.reverse).map (fun i => b.length - 1 - i)

/-- `utils.CaseInsensitiveCompare` (comparison through `ToLowerTable`) -/
def ciEq : Bytes → Bytes → Bool
  | [], [] => true
  | a :: s, b :: t => toLower a == toLower b && ciEq s t
  | _, _ => false

/-- `utils.NormalizeHeaderKey(b, false)`; `up` = the next byte is upper-cased -/
def normKeyAux : Bool → Bytes → Bytes
  | _, [] => []
  | true, c :: t => toUpper c :: normKeyAux false t
  | false, c :: t => if c = 45 then c :: normKeyAux true t else toLower c :: normKeyAux false t

def normalizeKey (disable : Bool) (k : Bytes) : Bytes := if disable then k else normKeyAux true k

/-- `utils.NextLine`: `(line, rest)` or `none` = need more -/
def nextLine (b : Bytes) : Option (Bytes × Bytes) :=
  match indexByte 10 b with
  | none => none
  | some nNext =>
    let line := b.take nNext
    let line := if line.getLast? = some 13 then line.dropLast else line
    some (line, b.drop (nNext + 1))

/-- `ext.ReadRawHeaders`: number of bytes up to and including the blank line, `none` = need more.
`lineLen` bytes of the current line seen so far, `onlyCR` = they are exactly one `\r`. -/
def rawHeadersAux : Nat → Bool → Bytes → Option Nat
  | _, _, [] => none
  | lineLen, onlyCR, c :: t =>
    if c = 10 then
      if lineLen = 0 ∨ (lineLen = 1 ∧ onlyCR) then some 1 else (rawHeadersAux 0 false t).map (· + 1)
    else (rawHeadersAux (lineLen + 1) (lineLen == 0 && c == 13) t).map (· + 1)

def rawHeadersLen (b : Bytes) : Option Nat := rawHeadersAux 0 false b

/-- compaction loop of `normalizeHeaderValue`: drop CR/LF, a tab at the start of a continuation line
becomes a space -/
def normValAux : Bool → Bytes → Bytes
  | _, [] => []
  | ls, c :: t =>
    if c = 13 then normValAux ls t
    else if c = 10 then normValAux true t
    else if ls ∧ c = 9 then 32 :: normValAux true t
    else c :: normValAux false t

/-- the compacted value LEFT-aligned in its region, blanks behind it.  Not what `normalizeHeaderValue` leaves: it
right-aligns (`ScanEdit.normValueEdit`) -/
def normValRegion (ov : Bytes) : Bytes :=
  let nv := normValAux false ov
  nv ++ List.replicate (ov.length - nv.length) 32

/-- obs-fold look-ahead of `HeaderScanner.Next`: number of extra bytes (beyond the first line end)
that belong to the value.  `s` is the text after the line's `\n`. -/
def contAux : Nat → Nat → Bool → Bytes → Nat
  | committed, _, _, [] => committed
  | committed, cur, inLine, c :: t =>
    if !inLine then
      if c = 32 ∨ c = 9 then contAux committed 1 true t else committed
    else if c = 58 then committed
    else if c = 10 then contAux (committed + cur + 1) 0 false t
    else contAux committed (cur + 1) true t

def contExtra (s : Bytes) : Nat := contAux 0 0 false s

/-- optional whitespace around a field value: SP / HTAB -/
def isOWS (c : UInt8) : Bool := c == 32 || c == 9

/-- trailing `\r` (one) and then trailing blanks (SP / HTAB) removed -/
def trimValue (r : Bytes) : Bytes :=
  let r1 := if r.getLast? = some 13 then r.dropLast else r
  (r1.reverse.dropWhile isOWS).reverse

/-- `normalizeHeaderValue` on a multi-line region: CR/LF removed, HTAB at a line start → SP, then blanks (SP / HTAB)
in front and at the end dropped -/
def foldedValue (region : Bytes) : Bytes :=
  (((normValAux false region).dropWhile isOWS).reverse.dropWhile isOWS).reverse

inductive Scan where
  | fin (consumed : Nat)
  | needMore
  | invalidName
  | kv (key value rest : Bytes) (consumed : Nat)
deriving Repr, DecidableEq

/-- one call of `HeaderScanner.Next` on buffer `B`, without its need-more answer for a folded value that reaches the end of
the buffer (with it: `ScanEdit.scanNextN`); there `scanNext` hands out the value so far and its next call says need-more -/
def scanNext (disableNorm : Bool) (B : Bytes) : Scan :=
  match B with
  | 13 :: 10 :: _ => .fin 2
  | 10 :: _ => .fin 1
  | _ =>
    match indexByte 10 B, indexByte 58 B with
    | none, _ => .needMore
    | some _, none => .needMore
    | some x, some n =>
      if x < n then .invalidName else
      let key := normalizeKey disableNorm (B.take n)
      let afterColon := B.drop (n + 1)
      let sp := (afterColon.takeWhile isOWS).length
      let B1 := afterColon.drop sp
      match indexByte 10 B1 with
      | none => .needMore
      | some n1 =>
        let extra := contExtra (B1.drop (n1 + 1))
        let nEnd := n1 + extra
        let region := trimValue (B1.take nEnd)
        -- multi-line value: CR/LF removed, tab at a line start → space, blanks in front and at the end dropped
        let value := if extra > 0 then foldedValue region else region
        .kv key value (B1.drop (nEnd + 1)) (n + 1 + sp + nEnd + 1)

/-- `bytesconv.ParseUintBuf` with Go's 64-bit `int`: `(value, consumed)` or an error -/
inductive UintErr where | empty | firstChar | tooLong
deriving Repr, DecidableEq

def parseUintAux : Nat → Nat → Bytes → Except UintErr (Nat × Nat)
  | v, i, [] => .ok (v, i)
  | v, i, c :: t =>
    let k := c - 48
    if k > 9 then (if i = 0 then .error .firstChar else .ok (v, i))
    else
      -- overflow test: `v > (maxInt - k) / 10`
      if v > (2^63 - 1 - k.toNat) / 10 then .error .tooLong else parseUintAux (10 * v + k.toNat) (i + 1) t

def parseUintBuf (b : Bytes) : Except UintErr (Nat × Nat) :=
  if b.isEmpty then .error .empty else parseUintAux 0 0 b

/-- `protocol.ParseContentLength` / `bytesconv.ParseUint` : value or error -/
def parseUint (b : Bytes) : Option Nat :=
  match parseUintBuf b with
  | .ok (v, n) => if n = b.length then some v else none
  | .error _ => none

def stripSpace (b : Bytes) : Bytes :=
  ((b.dropWhile (· == 32)).reverse.dropWhile (· == 32)).reverse

/-- split on a byte (like `bytes.Split`) -/
def splitOn (sep : UInt8) : Bytes → List Bytes
  | [] => [[]]
  | c :: t =>
    if c = sep then [] :: splitOn sep t
    else match splitOn sep t with
      | [] => [[c]]
      | s :: r => (c :: s) :: r

/-- `ext.HasHeaderValue(s, value)`: comma separated, space-trimmed elements; an empty `s` has none -/
def hasHeaderValue (s value : Bytes) : Bool :=
  if s.isEmpty then false else
  -- the scanner stops when the remaining text is empty, so a trailing comma adds no element
  let elems := splitOn 44 s
  let elems := if s.getLast? = some 44 then elems.dropLast else elems
  elems.any (fun e => ciEq (stripSpace e) value)

open Gen.Str in
/-- `protocol.IsBadTrailer` (the empty name is bad) -/
def isBadTrailer (key : Bytes) : Bool :=
  match key with
  | [] => true
  | k0 :: _ =>
    let c := k0 ||| 0x20
    if c = 97 then ciEq key strAuthorization
    else if c = 99 then
      if key.length ≥ 12 ∧ ciEq (key.take 8) (strContentType.take 8) then
        ciEq (key.drop 8) (strContentEncoding.drop 8) || ciEq (key.drop 8) (strContentLength.drop 8) ||
        ciEq (key.drop 8) (strContentType.drop 8) || ciEq (key.drop 8) (strContentRange.drop 8)
      else ciEq key strConnection
    else if c = 101 then ciEq key strExpect
    else if c = 104 then ciEq key strHost
    else if c = 107 then ciEq key strKeepAlive
    else if c = 109 then ciEq key strMaxForwards
    else if c = 112 then
      if key.length ≥ 16 ∧ ciEq (key.take 6) (strProxyConnection.take 6) then
        ciEq (key.drop 6) (strProxyConnection.drop 6) || ciEq (key.drop 6) (strProxyAuthenticate.drop 6) ||
        ciEq (key.drop 6) (strProxyAuthorization.drop 6)
      else false
    else if c = 114 then ciEq key strRange
    else if c = 116 then ciEq key strTE || ciEq key strTrailer || ciEq key strTransferEncoding
    else if c = 119 then ciEq key strWWWAuthenticate
    else false

/-- optional whitespace around a list element is SP / HTAB (`Trailer.AddTrailers`) -/
def stripOWS (b : Bytes) : Bytes :=
  ((b.dropWhile (fun c => c == 32 || c == 9)).reverse.dropWhile (fun c => c == 32 || c == 9)).reverse

/-- `Trailer.AddTrailers(value)` on an empty list (= `SetTrailers(value)`): the declared names (normalised, bad ones
dropped) and whether the LAST non-empty element was rejected (the Go loop overwrites `err` on every element).  Several
`Trailer` fields of one message combine: the callers append. -/
def setTrailers (disableNorm : Bool) (v : Bytes) : List Bytes × Bool :=
  if v.isEmpty then ([], false) else
  let elems := splitOn 44 v
  let elems := if v.getLast? = some 44 then elems.dropLast else elems
  let keys := (elems.map stripOWS).filter (fun e => !e.isEmpty) |>.map (normalizeKey disableNorm)
  (keys.filter (fun k => !isBadTrailer k), match keys.getLast? with | some k => isBadTrailer k | none => false)

end Hertz.H1
