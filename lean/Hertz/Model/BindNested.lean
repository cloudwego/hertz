import Hertz.Model.Bind
/-!
Nested struct types and streamed request bodies inside the binding model (property C15).

Mirrors, function by function,

* `decoder/decoder.go`   `GetReqDecoder`, `getFieldDecoder` with `parentInfos{Indexes, JSONName}`: the struct branch
  (one `structTypeFieldTextDecoder` for the struct field itself, then the loop over the fields of the struct, each
  child getting `idxes = copy(pIdx) ++ [index]` and `JSONName = newParentJSONName`)
* `decoder/tag.go`       `lookupFieldTags` / `getDefaultFieldTags`: `JSONName = parent + "." + name`, `newParentJSONName`
* `decoder/sonic_required.go`  `checkRequireJSON` / `keyExist` with a dotted name (`sonic.Get(body, "a", "b", "c")`),
  including the waiver "the superior object is absent: report true"
* `decoder/reflect.go`   `GetFieldValue(reqValue, parentIndex)` then `.Field(index)`: the leaf addressed by its full path
* `decoder/struct_type_decoder.go` `structTypeFieldTextDecoder.Decode` (tag loop, `required` error; a text that is found is
  decoded as JSON into the struct: outside the model, `unk`)
* `binding/default.go`   `preBindBody` with a nested JSON document; `protocol.Request.Body()` on a body stream

A struct type is a `Forest` (first child / next sibling encoding of the field tree: no nested inductive type, so all
functions below are structurally recursive and reduce in the kernel).

Values: only the leaves are observed (a nil pointer-to-struct is rendered by the harness as a struct of zero leaves);
the store maps the full index path of a leaf to its value.  Addressing a path that is not a leaf is a `fault`
(Go: `reflect` panics on `Field` of a non-struct / index out of range / `SetInt` on a struct).

Assumptions: names contain no `.`; keys whose value is an object are not repeated inside one
object; the nested members of the body are given as a flat list of `(parent path, key, value)` in wire order.
-/
namespace Hertz.Bind
open Hertz

/-- the fields of a struct type, in order: `leaf f rest` = a field of a supported leaf kind followed by the remaining
fields; `strct hdr anon kids rest` = a field whose type is (`hdr.ty.ptr` stars in front of) a struct with fields `kids`
(`hdr.name`, `hdr.tags`, `hdr.dflt` describe the field itself, `anon` = embedded), followed by the remaining fields -/
inductive Forest
  | nil
  | leaf (f : Field) (rest : Forest)
  | strct (hdr : Field) (anon : Bool) (kids : Forest) (rest : Forest)
  deriving DecidableEq, Repr

abbrev Path := List Nat

/-- one member of a nested object of the JSON body: the keys of the enclosing objects (outermost first, not empty),
its own key and its value; an object value is written `.atom .obj` (its members follow as entries of their own) -/
structure JEntry where
  parents : List Bytes
  key : Bytes
  val : JVal
  deriving DecidableEq, Repr

/-- where the body bytes are: in the request buffer, in an unread body stream (`SetBodyStream`, known length), or in a
stream somebody has read to the end without buffering it -/
inductive BodySt | buffered | stream | drained
  deriving DecidableEq, Repr

/-- a request: `r` as before (its JSON members are the TOP-LEVEL members of the body), `deep` the members of nested
objects in wire order, `st` the state of the body -/
structure NReq where
  r : Req
  deep : List JEntry := []
  st : BodySt := .buffered
  deriving DecidableEq, Repr

/-- what `Request.Body()` returns, as a (buffered) request: a drained stream yields the empty byte string (not JSON) -/
def NReq.seen (q : NReq) : NReq :=
  match q.st with
  | .drained => { r := { q.r with body := if q.r.body = .none then .none else .notJson }, deep := [], st := .buffered }
  | _ => { q with st := .buffered }

/-- `Request.Body()` / `BodyE()` as a state change: an unread stream is copied into the body buffer and closed -/
def NReq.afterBody (q : NReq) : NReq :=
  match q.st with
  | .stream => { q with st := .buffered }
  | _ => q

/-! ## the JSON document as seen by `sonic.Get` (exact keys) and by the unmarshaller (case-insensitive keys) -/

/-- members of the object reached by the exact key path `P` (`[]` = the document itself) -/
def exactMembers (q : NReq) (P : List Bytes) : List (Bytes × JVal) :=
  match q.r.body with
  | .json top => if P = [] then top else (q.deep.filter (fun e => e.parents == P)).map (fun e => (e.key, e.val))
  | _ => []

/-- `sonic.Get(body, init…, last).Exists()` -/
def nodeExists (q : NReq) (init : List Bytes) (last : Bytes) : Bool :=
  (exactMembers q init).any (fun m => m.1 == last)

def ciPathEq : List Bytes → List Bytes → Bool
  | [], [] => true
  | a :: as, b :: bs => H1.ciEq a b && ciPathEq as bs
  | _, _ => false

/-- members the unmarshaller feeds into the struct whose chain of JSON names is `P`: at every level a key selects a
field case-insensitively -/
def membersUnder (q : NReq) (P : List Bytes) : List (Bytes × JVal) :=
  match q.r.body with
  | .json top => if P = [] then top else (q.deep.filter (fun e => ciPathEq e.parents P)).map (fun e => (e.key, e.val))
  | _ => []

/-! ## sonic_required.go with a dotted name (the name is kept as the list of its components) -/

/-- `keyExist` for `tagInfo.JSONName = P.join(".") + "." + ti.jsonName` -/
def keyExistAt (q : NReq) (P : List Bytes) (ti : TagInfo) : Bool :=
  if !ctFold q.r then false else nodeExists q P ti.jsonName

/-- the superior of `P ++ [name]` does not exist (`idx > 0 && !Get(JSONName[:idx]).Exists()`) -/
def superiorAbsent (q : NReq) (P : List Bytes) : Bool :=
  match P.reverse with
  | [] => false
  | l :: ri => !nodeExists q ri.reverse l

/-- `checkRequireJSON`: a required name that is absent is reported as found when its superior is absent too -/
def checkRequireJSONAt (q : NReq) (P : List Bytes) (ti : TagInfo) : Bool :=
  if !ti.required then true
  else if !ctFold q.r then false
  else if nodeExists q P ti.jsonName then true
  else superiorAbsent q P

/-! ## the tag loops, with the two JSON predicates as parameters

`baseLoop r = baseLoopG r (checkRequireJSON r) (keyExist r)` (`baseLoop_G`, Proofs/Bind.lean): the loops of
`base_type_decoder.go` / `slice_type_decoder.go` / `struct_type_decoder.go` are the same text; only the JSON name the
predicates look up differs between a top-level and a nested field. -/

def jsonBranchG (chk ke : TagInfo → Bool) (ti : TagInfo) (err : Option ErrKind) : Option ErrKind × Bytes :=
  let err :=
    if chk ti then
      (if ti.required || ke ti then none else err)
    else some .required
  (err, if ti.dflt ≠ [] ∧ ke ti then [] else ti.dflt)

def baseLoopG (r : Req) (chk ke : TagInfo → Bool) : List TagInfo → LoopSt → LoopSt
  | [], st => st
  | ti :: rest, st =>
    if ti.skip ∨ ti.key = .json then
      if ti.key = .json then
        let e := jsonBranchG chk ke ti st.err
        baseLoopG r chk ke rest { st with err := e.1, dflt := e.2 }
      else baseLoopG r chk ke rest st
    else
      let g := getter r ti.key ti.value
      if g.2 then { err := none, text := g.1, exist := true, dflt := ti.dflt }
      else baseLoopG r chk ke rest { err := if ti.required then some .required else st.err, text := g.1, exist := false, dflt := ti.dflt }

def decodeBaseG (r : Req) (chk ke : TagInfo → Bool) (ty : Ty) (tis : List TagInfo) (pre : FieldVal) : FOut :=
  let st := baseLoopG r chk ke tis {}
  match st.err with
  | some e => .err e
  | none =>
    let text := if st.text = [] ∧ st.dflt ≠ [] then toDefaultValue ty st.dflt else st.text
    if !st.exist ∧ text = [] then .ok pre
    else textOutcome ty text

def sliceLoopG (r : Req) (chk ke : TagInfo → Bool) : List TagInfo → SLoopSt → SLoopSt
  | [], st => st
  | ti :: rest, st =>
    if ti.skip ∨ ti.key = .json then
      if ti.key = .json then
        let e := jsonBranchG chk ke ti st.err
        sliceLoopG r chk ke rest { st with err := e.1, dflt := e.2 }
      else sliceLoopG r chk ke rest st
    else
      let ts := sliceGetter r ti.key ti.value
      if ts ≠ [] then { err := none, texts := ts, dflt := ti.dflt }
      else sliceLoopG r chk ke rest { err := if ti.required then some .required else st.err, texts := ts, dflt := ti.dflt }

def decodeSliceG (r : Req) (chk ke : TagInfo → Bool) (ty : Ty) (tis : List TagInfo) (pre : FieldVal) : FOut :=
  let st := sliceLoopG r chk ke tis {}
  match st.err with
  | some e => .err e
  | none =>
    if st.texts = [] ∧ st.dflt ≠ [] then
      jsonFromText ty pre (toDefaultValue ty st.dflt)
    else match st.texts with
      | [] => .ok pre
      | t0 :: ts => textsOutcome ty pre t0 ts

/-- `structTypeFieldTextDecoder.Decode`: the same loop; an error is returned; when a text (or a default) is found it
is unmarshalled as JSON into the struct, errors being logged and dropped — the model has no opinion there -/
def decodeStructG (r : Req) (chk ke : TagInfo → Bool) (ty : Ty) (tis : List TagInfo) : FOut :=
  let st := baseLoopG r chk ke tis {}
  match st.err with
  | some e => .err e
  | none =>
    let text := if st.text = [] ∧ st.dflt ≠ [] then toDefaultValue ty st.dflt else st.text
    if !st.exist ∧ text = [] then .ok .unset
    else .unk

/-! ## decoder.go: building the decoders -/

/-- a field decoder as built by `getFieldDecoder`: `fieldInfo.parentIndex`, `fieldInfo.index`, the parent JSON name the
tag infos were built with, the compiled field; `isStruct` = a `structTypeFieldTextDecoder` -/
structure NDec where
  parentIdx : Path
  index : Nat
  jparent : List Bytes
  dec : FieldDec
  isStruct : Bool := false
  deriving DecidableEq, Repr

/-- `newParentJSONName` (last component): the JSON name of the last tag `lookupFieldTags` went through, the Go name
when the field has no source tag -/
def newParentName (hdr : Field) : Bytes :=
  match (lookupFieldTags hdr).getLast? with
  | some t => t.jsonName
  | none => hdr.name

/-- `/repo` 1242bf1: an embedded struct without a JSON name of its own keeps the parent's JSON name for its fields (the
JSON decoder promotes them into the enclosing object): `if field.Anonymous { if name, _ := head(json tag, ","); name == "" … }` -/
def keepsParentJSON (hdr : Field) (anon : Bool) : Bool :=
  anon && (match hdr.tags.lookup .json with
           | none => true
           | some content => (headComma content).1 == [])

/-- the loop `for i := 0; i < el.NumField(); i++ { … getFieldDecoder(pInfo, el.Field(i), i, …) }` over the fields
`i, i+1, …` of a struct whose own index path is `pidx` and whose JSON name is `pj`.
For a struct field: its own decoder, then (`hasSameType` is false for a finite type) the decoders of its fields built
with `idxes = pidx ++ [i]` (a fresh copy per child in the Go code) and `JSONName = newParentJSONName`. -/
def compileN (pidx : Path) (pj : List Bytes) (i : Nat) : Forest → List NDec
  | .nil => []
  | .leaf f rest =>
    { parentIdx := pidx, index := i, jparent := pj, dec := compileField f } :: compileN pidx pj (i + 1) rest
  | .strct hdr anon kids rest =>
    { parentIdx := pidx, index := i, jparent := pj, dec := compileField hdr, isStruct := true } ::
      (compileN (pidx ++ [i]) (if keepsParentJSON hdr anon then pj else pj ++ [newParentName hdr]) 0 kids ++
        compileN pidx pj (i + 1) rest)

/-- full index paths of the leaves, in field order (depth first) -/
def leafPaths (pidx : Path) (i : Nat) : Forest → List Path
  | .nil => []
  | .leaf _ rest => (pidx ++ [i]) :: leafPaths pidx (i + 1) rest
  | .strct _ _ kids rest => leafPaths (pidx ++ [i]) 0 kids ++ leafPaths pidx (i + 1) rest

def leaves : Forest → List Field
  | .nil => []
  | .leaf f rest => f :: leaves rest
  | .strct _ _ kids rest => leaves kids ++ leaves rest

/-! ## the JSON pre-bind on a nested document -/

/-- how the unmarshaller knows a struct-typed field: `none` = ignored (`json:"-"`), `some none` = embedded without a
JSON name: its fields are promoted into the enclosing object, `some (some n)` = under the key `n` -/
def structJSONName (hdr : Field) (anon : Bool) : Option (Option Bytes) :=
  match hdr.tags.lookup .json with
  | none => if anon then some none else some (some hdr.name)
  | some content =>
    if content = dash then none
    else if (headComma content).1 = [] then (if anon then some none else some (some hdr.name))
    else some (some (headComma content).1)

/-- the chain of JSON names, as the unmarshaller sees it, for the fields of the struct-typed field `hdr` inside `P` -/
def stepD (P : Option (List Bytes)) (hdr : Field) (anon : Bool) : Option (List Bytes) :=
  match P, structJSONName hdr anon with
  | some P, some (some n) => some (P ++ [n])
  | some P, some none => some P
  | _, _ => none

/-- the value a struct-typed field receives must be an object or `null` -/
def structMemberOK : JVal → Bool
  | .atom .obj => true
  | .atom .null => true
  | _ => false

def isJSONReq (q : NReq) : Bool := hasBody q.r && ctFold q.r

/-- verdict of the unmarshaller on the members addressed to a struct-typed field named `n` inside the object `P` -/
def preStruct (q : NReq) (P : List Bytes) (n : Bytes) : Conv FieldVal :=
  let ms := (membersUnder q P).filter (fun m => H1.ciEq m.1 n)
  if ms.all (fun m => structMemberOK m.2) then
    (if ms.length > 1 ∧ ms.any (fun m => m.2 == .atom .null) then .unk else .ok .unset)
  else .err

/-- what the unmarshaller leaves in a leaf inside the object `P` (`none` = under an ignored struct: nothing) -/
def preLeaf (sonic : Bool) (q : NReq) (P : Option (List Bytes)) (f : Field) : Conv FieldVal :=
  match P with
  | none => .ok .unset
  | some P => preBindMembers sonic f (membersUnder q P) (.ok .unset)

/-- per leaf (in field order) what the pre-bind leaves in it; `P` = chain of JSON names of the enclosing structs as
the unmarshaller sees them -/
def preLeaves (sonic : Bool) (q : NReq) (P : Option (List Bytes)) : Forest → List (Conv FieldVal)
  | .nil => []
  | .leaf f rest => preLeaf sonic q P f :: preLeaves sonic q P rest
  | .strct hdr anon kids rest =>
    let P' := stepD P hdr anon
    preLeaves sonic q P' kids ++ preLeaves sonic q P rest

/-- per struct-typed field the verdict on the members addressed to it -/
def preStructs (q : NReq) (P : Option (List Bytes)) : Forest → List (Conv FieldVal)
  | .nil => []
  | .leaf _ rest => preStructs q P rest
  | .strct hdr anon kids rest =>
    let P' := stepD P hdr anon
    let own := match P, structJSONName hdr anon with
      | some P, some (some n) => preStruct q P n
      | _, _ => .ok .unset
    own :: (preStructs q P' kids ++ preStructs q P rest)

/-- `preBindBody`: only with a body and a JSON content type; the values of the leaves when the document is accepted -/
def preBindN (sonic : Bool) (q : NReq) (t : Forest) : Conv (List FieldVal) :=
  if isJSONReq q then
    match q.r.body with
    | .json _ =>
      (match collect (preStructs q (some []) t) with
        | .err => .err
        | c => match collect (preLeaves sonic q (some []) t), c with
          | .err, _ => .err
          | .unk, _ => .unk
          | .ok _, .unk => .unk
          | .ok vs, _ => .ok vs)
    | _ => .err
  else .ok ((leaves t).map (fun _ => .unset))

/-! ## running the decoders on the bound value -/

abbrev Store := List (Path × FieldVal)

def Store.set (s : Store) (p : Path) (v : FieldVal) : Store :=
  s.map (fun e => if e.1 = p then (e.1, v) else e)

inductive NOutcome | ok (vals : List FieldVal) | err (e : ErrKind) | unk | fault
  deriving DecidableEq, Repr

def NDec.run (q : NReq) (d : NDec) (pre : FieldVal) : FOut :=
  let chk := checkRequireJSONAt q d.jparent
  let ke := keyExistAt q d.jparent
  if d.isStruct then decodeStructG q.r chk ke d.dec.ty d.dec.tis
  else if d.dec.ty.slice then decodeSliceG q.r chk ke d.dec.ty d.dec.tis pre
  else decodeBaseG q.r chk ke d.dec.ty d.dec.tis pre

/-- the closure returned by `GetReqDecoder`: the decoders in order, the first error wins; a leaf decoder reads and writes
`GetFieldValue(rv, parentIndex).Field(index)`: a path that is not a leaf of the value is a fault -/
def runN (q : NReq) : List NDec → Store → NOutcome
  | [], s => .ok (s.map (·.2))
  | d :: ds, s =>
    if d.isStruct then
      match d.run q .unset with
      | .err e => .err e
      | .unk => .unk
      | .ok _ => runN q ds s
    else
      match s.lookup (d.parentIdx ++ [d.index]) with
      | none => .fault
      | some pre =>
        match d.run q pre with
        | .err e => .err e
        | .unk => .unk
        | .ok v => runN q ds (s.set (d.parentIdx ++ [d.index]) v)

/-- `Bind` once the decoders are in hand -/
def bindNWith (decs : List NDec) (t : Forest) (q : NReq) : NOutcome :=
  match preBindN true q t with
  | .err => .err .body
  | .unk => .unk
  | .ok pres => runN q decs ((leafPaths [] 0 t).zip pres)

/-- **`Bind` / `BindAndValidate` of a nested type, as a function of the type, the request and the state of its body**;
the second component is the request afterwards (`preBindBody` calls `Request.Body()`, which buffers a body stream) -/
def bindN (t : Forest) (q : NReq) : NOutcome × NReq :=
  (bindNWith (compileN [] [] 0 t) t q.seen, if isJSONReq q then q.afterBody else q)

/-- two binds of the same request, one after the other -/
def bindTwice (t : Forest) (q : NReq) : NOutcome × NOutcome :=
  ((bindN t q).1, (bindN t (bindN t q).2).1)

end Hertz.Bind
