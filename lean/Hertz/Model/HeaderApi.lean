import Hertz.Model.HeaderWrite
import Hertz.Model.Http1.Scan
import Hertz.Model.CookieExp
/-!
# The public header mutators as programs (C05)

`Model/HeaderWrite.lean` models the three serialisers over an arbitrary STATE of the header objects.  This file models
the step from what the application CALLS to that state: the public mutators of `pkg/protocol/header.go`, `trailer.go`,
`cookie.go` and the `RequestContext` helpers of `pkg/app/context.go`, statement by statement, as functions on the fields
the serialisers read (`ReqSt`, `RespSt`).  A program is a list of calls; `runReq` / `runResp` fold it over the zero
object; `ReqSt.toHdr` / `RespSt.toHdr` give the state records of `HeaderWrite`, so everything proved there for ALL states
applies to every reachable one.

Helpers reused: `H1.ciEq` (`utils.CaseInsensitiveCompare`), `H1.normalizeKey` (`utils.NormalizeHeaderKey`),
`H1.isBadTrailer`, `H1.setTrailers`, `H1.parseUint` (`ParseContentLength`), `Uri.cookieSegs/cookieKV/decodeCookieArg`
(`cookieScanner`), `Uri.appendCookieE` (`Cookie.AppendBytes`, all ten attributes), `normalizePath`, `quotePath`, `appendArgs`.

Not modelled: `SetContentRange`/`SetByteRange` (C08; `AppendUint` panics on a negative argument - never reached by a call of
this file: `setContentLength` guards it), `Reset`/`CopyTo`, `DelClientCookie` (fixed date), peek/visit (read only).
-/
namespace Hertz.HA
open Hertz Hertz.Gen.Str Hertz.HW

abbrev KV := Bytes × Bytes

/-! ### `args.go` helpers on `[]argsKV` -/

/-- `setArg` / `setArgBytes`: the FIRST entry with the key gets the value, else append -/
def setArg : List KV → Bytes → Bytes → List KV
  | [], k, v => [(k, v)]
  | (k', v') :: t, k, v => if k' = k then (k', v) :: t else (k', v') :: setArg t k v

/-- `appendArg` / `appendArgBytes` -/
def appendArg (h : List KV) (k v : Bytes) : List KV := h ++ [(k, v)]

/-- `delAllArgs` / `delAllArgsBytes` (order of the others kept) -/
def delAll (h : List KV) (k : Bytes) : List KV := h.filter (fun kv => kv.1 != k)

/-- `bytesconv.AppendUint(nil, n)` for `n ≥ 0` -/
def appendUint (n : Nat) : Bytes := Uri.appendUintDec n

/-- `parseRequestCookies(cookies, src)`: every scanned pair that is not empty-empty is appended -/
def parseRequestCookies (cookies : List KV) (src : Bytes) : List KV :=
  cookies ++ ((Uri.cookieSegs src).map Uri.cookieKV).filter (fun kv => !kv.1.isEmpty || !kv.2.isEmpty)

/-- `getCookieKey(nil, src)` -/
def getCookieKey (src : Bytes) : Bytes :=
  Uri.decodeCookieArg (match Uri.indexOf 61 src with | some n => src.take n | none => src) false

/-- `ParseContentLength(value)`: `none` = error -/
def parseContentLength (v : Bytes) : Option Nat := H1.parseUint v

/-! ### `Trailer` (the object behind `Header.Trailer()`) -/

/-- `Trailer.Set(key, value)`; an error (forbidden name) changes nothing -/
def trailerSet (dn : Bool) (t : List KV) (k v : Bytes) : List KV :=
  let k' := H1.normalizeKey dn k
  if H1.isBadTrailer k' then t else setArg t k' v

/-- `Trailer.Add(key, value)` -/
def trailerAdd (dn : Bool) (t : List KV) (k v : Bytes) : List KV :=
  let k' := H1.normalizeKey dn k
  if H1.isBadTrailer k' then t else appendArg t k' v

/-- `Trailer.SetTrailers(value)`: reset, then one value-less entry per accepted name -/
def setTrailers (dn : Bool) (v : Bytes) : List KV := (H1.setTrailers dn v).1.map (fun k => (k, []))

/-! ### request header -/

structure ReqSt where
  disableNorm : Bool := false
  connClose : Bool := false
  noDefaultCT : Bool := false
  cookiesCollected : Bool := false
  contentLength : Int := 0
  clBytes : Bytes := []
  method : Bytes := []
  uri : Bytes := []
  host : Bytes := []
  contentType : Bytes := []
  userAgent : Bytes := []
  protocol : Bytes := []
  h : List KV := []
  trailer : List KV := []
  cookies : List KV := []
deriving Repr, DecidableEq

inductive ReqCall where
  /-- `Set(key, value)`, `SetBytesKV`, `SetBytesV…` (normalise the key, then `SetCanonical`) -/
  | set (k v : Bytes)
  /-- `Add(key, value)` -/
  | add (k v : Bytes)
  /-- `SetCanonical(key, value)` -/
  | setCanonical (k v : Bytes)
  /-- `Del(key)` / `DelBytes` -/
  | del (k : Bytes)
  | setHost (v : Bytes)
  | setUserAgent (v : Bytes)
  | setContentType (v : Bytes)
  | setContentLength (n : Int)
  | setContentLengthBytes (v : Bytes)
  | setCookie (k v : Bytes)
  | delCookie (k : Bytes)
  | delAllCookies
  | setMethod (v : Bytes)
  | setRequestURI (v : Bytes)
  | setProtocol (v : Bytes)
  /-- `SetArgBytes(key, value, noValue)` -/
  | setArgBytes (k v : Bytes) (nv : Bool)
  /-- `AddArgBytes(key, value, noValue)` -/
  | addArgBytes (k v : Bytes) (nv : Bool)
  | setConnClose (b : Bool)
  | resetConnClose
  | setNoDefaultCT (b : Bool)
  | disableNormalizing
  /-- `Trailer().Set(key, value)` -/
  | trailerSet (k v : Bytes)
  /-- `Trailer().Add(key, value)` -/
  | trailerAdd (k v : Bytes)
  /-- `SetMultipartFormBoundary(boundary)` -/
  | setMultipartBoundary (b : Bytes)
deriving Repr, DecidableEq

/-- `RequestHeader.collectCookies` -/
def ReqSt.collectCookies (s : ReqSt) : ReqSt :=
  if s.cookiesCollected then s else
  { s with cookies := (s.h.filter (fun kv => kv.1 == strCookie)).foldl (fun c kv => parseRequestCookies c kv.2) s.cookies,
           h := s.h.filter (fun kv => !(kv.1 == strCookie)),
           cookiesCollected := true }

/-- `RequestHeader.ResetConnectionClose` -/
def ReqSt.resetConnClose (s : ReqSt) : ReqSt :=
  if s.connClose then { s with connClose := false, h := delAll s.h strConnection } else s

/-- `RequestHeader.setSpecialHeader(key, value)`: `none` = not a special header (returns false) -/
def ReqSt.setSpecial (s : ReqSt) (key value : Bytes) : Option ReqSt :=
  match key with
  | [] => none
  | k0 :: _ =>
    let d := k0 ||| 0x20
    if d = 99 then
      if H1.ciEq strContentType key then some { s with contentType := value }
      else if H1.ciEq strContentLength key then
        match parseContentLength value with
        | some n => some { s with contentLength := n, clBytes := value, h := delAll s.h strTransferEncoding }
        | none => some s
      else if H1.ciEq strConnection key then
        if H1.ciEq strClose value then some { s with connClose := true }   -- any letter case (9dcdbe5)
        else let s := s.resetConnClose; some { s with h := setArg s.h key value }
      else if H1.ciEq strCookie key then
        let s := s.collectCookies; some { s with cookies := parseRequestCookies s.cookies value }
      else none
    else if d = 116 then
      if H1.ciEq strTransferEncoding key then some s
      else if H1.ciEq strTrailer key then some { s with trailer := setTrailers s.disableNorm value }
      else none
    else if d = 104 then
      if H1.ciEq strHost key then some { s with host := value } else none
    else if d = 117 then
      if H1.ciEq strUserAgent key then some { s with userAgent := value } else none
    else none

/-- `RequestHeader.SetCanonical(key, value)` -/
def ReqSt.setCanonical (s : ReqSt) (k v : Bytes) : ReqSt :=
  match s.setSpecial k v with
  | some s' => s'
  | none => { s with h := setArg s.h k v }

/-- `RequestHeader.del(key)` (key already normalised) -/
def ReqSt.del (s : ReqSt) (k : Bytes) : ReqSt :=
  let s :=
    if k = strHost then { s with host := [] }
    else if k = strContentType then { s with contentType := [] }
    else if k = strUserAgent then { s with userAgent := [] }
    else if k = strCookie then { s with cookies := [] }
    else if k = strContentLength then { s with contentLength := 0, clBytes := [] }
    else if k = strConnection then { s with connClose := false }
    else if k = strTrailer then { s with trailer := [] }
    else s
  { s with h := delAll s.h k }

def mimeFormData : Bytes := [109, 117, 108, 116, 105, 112, 97, 114, 116, 47, 102, 111, 114, 109, 45, 100, 97, 116, 97]
def strBoundary : Bytes := [98, 111, 117, 110, 100, 97, 114, 121]

def stepReq (s : ReqSt) : ReqCall → ReqSt
  | .set k v => s.setCanonical (H1.normalizeKey s.disableNorm k) v
  | .add k v =>
    match s.setSpecial k v with
    | some s' => s'
    | none => { s with h := appendArg s.h (H1.normalizeKey s.disableNorm k) v }
  | .setCanonical k v => s.setCanonical k v
  | .del k => s.del (H1.normalizeKey s.disableNorm k)
  | .setHost v => { s with host := v }
  | .setUserAgent v => { s with userAgent := v }
  | .setContentType v => { s with contentType := v }
  | .setContentLength n =>
    if n ≥ 0 then { s with contentLength := n, clBytes := appendUint n.toNat, h := delAll s.h strTransferEncoding }
    else { s with contentLength := n, clBytes := [], h := setArg s.h strTransferEncoding strChunked }
  | .setContentLengthBytes v => { s with clBytes := v }
  | .setCookie k v => let s := s.collectCookies; { s with cookies := setArg s.cookies k v }
  | .delCookie k => let s := s.collectCookies; { s with cookies := delAll s.cookies k }
  | .delAllCookies => let s := s.collectCookies; { s with cookies := [] }
  | .setMethod v => { s with method := v }
  | .setRequestURI v => { s with uri := v }
  | .setProtocol v => { s with protocol := v }
  | .setArgBytes k v nv => { s with h := setArg s.h k (if nv then [] else v) }
  | .addArgBytes k v nv => { s with h := appendArg s.h k (if nv then [] else v) }
  | .setConnClose b => { s with connClose := b }
  | .resetConnClose => s.resetConnClose
  | .setNoDefaultCT b => { s with noDefaultCT := b }
  | .disableNormalizing => { s with disableNorm := true }
  | .trailerSet k v => { s with trailer := trailerSet s.disableNorm s.trailer k v }
  | .trailerAdd k v => { s with trailer := trailerAdd s.disableNorm s.trailer k v }
  | .setMultipartBoundary b => { s with contentType := mimeFormData ++ [59, 32] ++ strBoundary ++ [61] ++ b }

def runReqFrom (s : ReqSt) (p : List ReqCall) : ReqSt := p.foldl stepReq s
/-- the program on a zero `RequestHeader` -/
def runReq (p : List ReqCall) : ReqSt := runReqFrom {} p

/-- what `RequestHeader.AppendBytes` reads -/
def ReqSt.toHdr (s : ReqSt) : ReqHdr :=
  { method := s.method, uri := s.uri, userAgent := s.userAgent, host := s.host, contentType := s.contentType,
    noDefaultContentType := s.noDefaultCT, clBytes := s.clBytes, h := s.h, trailer := s.trailer.map (·.1),
    cookies := s.cookies, connClose := s.connClose }

/-- `RequestHeader.Header()` after the program -/
def reqWire (p : List ReqCall) : Bytes := (runReq p).toHdr.bytes
/-- the request line (without CRLF) after the program -/
def reqStartLine (p : List ReqCall) : Bytes := (runReq p).toHdr.startLine
/-- the fields a strict reader must find after the request line: defined from the program alone -/
def expectedReqFields (p : List ReqCall) : List KV := kept (runReq p).toHdr.fields

/-! ### response header and the `RequestContext` helpers -/

structure RespSt where
  disableNorm : Bool := false
  connClose : Bool := false
  noDefaultCT : Bool := false
  noDefaultDate : Bool := false
  statusCode : Int := 0
  contentLength : Int := 0
  clBytes : Bytes := []
  contentEncoding : Bytes := []
  contentType : Bytes := []
  server : Bytes := []
  protocol : Bytes := []
  h : List KV := []
  trailer : List KV := []
  /-- `(cookie key, full Set-Cookie value)` -/
  cookies : List KV := []
deriving Repr, DecidableEq

inductive RespCall where
  /-- `Set(key, value)`, `SetBytesV` -/
  | set (k v : Bytes)
  | add (k v : Bytes)
  | setCanonical (k v : Bytes)
  | del (k : Bytes)
  | setContentType (v : Bytes)
  | setContentLength (n : Int)
  | setContentLengthBytes (v : Bytes)
  | setServer (v : Bytes)
  | setContentEncoding (v : Bytes)
  /-- `SetCookie(&cookie)` for a cookie object in the given state -/
  | setCookie (c : Uri.CookieE)
  | delCookie (k : Bytes)
  | delAllCookies
  | setStatusCode (n : Int)
  | setProtocol (v : Bytes)
  | setNoDefaultCT (b : Bool)
  | setNoDefaultDate (b : Bool)
  | setArgBytes (k v : Bytes) (nv : Bool)
  | addArgBytes (k v : Bytes) (nv : Bool)
  | setConnClose (b : Bool)
  | resetConnClose
  | disableNormalizing
  | trailerSet (k v : Bytes)
  | trailerAdd (k v : Bytes)
  /-- `RequestContext.Header(key, value)` -/
  | ctxHeader (k v : Bytes)
  /-- `RequestContext.Redirect(statusCode, uri)` -/
  | ctxRedirect (code : Int) (uri : Bytes)
  /-- `RequestContext.SetCookie(name, value, maxAge, path, domain, sameSite, secure, httpOnly)`
  (`partitioned = true`: `SetPartitionedCookie`) -/
  | ctxSetCookie (name value : Bytes) (maxAge : Int) (path domain : Bytes) (sameSite : Uri.SameSite) (secure httpOnly partitioned : Bool)
  /-- `RequestContext.SetContentType` -/
  | ctxSetContentType (v : Bytes)
deriving Repr, DecidableEq

def RespSt.resetConnClose (s : RespSt) : RespSt :=
  if s.connClose then { s with connClose := false, h := delAll s.h strConnection } else s

/-- `ResponseHeader.setSpecialHeader(key, value)`: `none` = returns false -/
def RespSt.setSpecial (s : RespSt) (key value : Bytes) : Option RespSt :=
  match key with
  | [] => none
  | k0 :: _ =>
    let d := k0 ||| 0x20
    if d = 99 then
      if H1.ciEq strContentType key then some { s with contentType := value }
      else if H1.ciEq strContentLength key then
        match parseContentLength value with
        | some n => some { s with contentLength := n, clBytes := value, h := delAll s.h strTransferEncoding }
        | none => some s
      else if H1.ciEq strContentEncoding key then some { s with contentEncoding := value }
      else if H1.ciEq strConnection key then
        if H1.ciEq strClose value then some { s with connClose := true }   -- any letter case (9dcdbe5)
        else let s := s.resetConnClose; some { s with h := setArg s.h key value }
      else none
    else if d = 115 then
      if H1.ciEq strServer key then some { s with server := value }
      else if H1.ciEq strSetCookie key then some { s with cookies := appendArg s.cookies (getCookieKey value) value }
      else none
    else if d = 116 then
      if H1.ciEq strTransferEncoding key then some s
      else if H1.ciEq strTrailer key then some { s with trailer := setTrailers s.disableNorm value }
      else none
    else if d = 100 then
      if H1.ciEq strDate key then some s else none
    else none

def RespSt.setCanonical (s : RespSt) (k v : Bytes) : RespSt :=
  match s.setSpecial k v with
  | some s' => s'
  | none => { s with h := setArg s.h k v }

/-- `ResponseHeader.del(key)` -/
def RespSt.del (s : RespSt) (k : Bytes) : RespSt :=
  let s :=
    if k = strContentType then { s with contentType := [] }
    else if k = strContentEncoding then { s with contentEncoding := [] }
    else if k = strServer then { s with server := [] }
    else if k = strSetCookie then { s with cookies := [] }
    else if k = strContentLength then { s with contentLength := 0, clBytes := [] }
    else if k = strConnection then { s with connClose := false }
    else if k = strTrailer then { s with trailer := [] }
    else s
  { s with h := delAll s.h k }

/-- `ResponseHeader.StatusCode()` -/
def RespSt.status (s : RespSt) : Int := if s.statusCode = 0 then 200 else s.statusCode

/-- `ResponseHeader.MustSkipContentLength()` -/
def RespSt.mustSkipCL (s : RespSt) : Bool :=
  let c := s.status
  if c < 100 ∨ c = 200 then false else c = 304 ∨ c = 204 ∨ c < 200

def strIdentity : Bytes := [105, 100, 101, 110, 116, 105, 116, 121]

/-- `ResponseHeader.SetContentLength(n)` -/
def RespSt.setContentLength (s : RespSt) (n : Int) : RespSt :=
  if s.mustSkipCL then s
  else if n ≥ 0 then { s with contentLength := n, clBytes := appendUint n.toNat, h := delAll s.h strTransferEncoding }
  else
    let s := { s with contentLength := n, clBytes := [] }
    if n = -2 then { s with connClose := true, h := setArg s.h strTransferEncoding strIdentity }
    else { s with h := setArg s.h strTransferEncoding strChunked }

/-- Go's `url.QueryEscape` -/
def goQueryEscape : Bytes → Bytes
  | [] => []
  | c :: t =>
    (if (48 ≤ c && c ≤ 57) || (65 ≤ c && c ≤ 90) || (97 ≤ c && c ≤ 122) || c == 45 || c == 95 || c == 46 || c == 126 then [c]
     else if c = 32 then [43] else [37, upperhex (c >>> 4), upperhex (c &&& 15)]) ++ goQueryEscape t

/-- `getRedirectStatusCode` -/
def redirectStatus (c : Int) : Int := if c = 301 ∨ c = 302 ∨ c = 303 ∨ c = 307 ∨ c = 308 then c else 302

/-- the cookie object `RequestContext.setCookie` builds -/
def ctxCookie (name value : Bytes) (maxAge : Int) (path domain : Bytes) (sameSite : Uri.SameSite) (secure httpOnly partitioned : Bool) : Uri.CookieE :=
  { c := { key := name, value := goQueryEscape value, maxAge := maxAge.toNat,
           path := normalizePath (if path.isEmpty then strSlash else path), domain := domain,
           secure := secure || sameSite == .none || partitioned, httpOnly := httpOnly, sameSite := sameSite,
           partitioned := partitioned } }

/-- `ResponseHeader.SetCookie(cookie)` -/
def RespSt.setCookie (s : RespSt) (c : Uri.CookieE) : RespSt :=
  { s with cookies := setArg s.cookies c.c.key (Uri.appendCookieE c) }

def stepResp (s : RespSt) : RespCall → RespSt
  | .set k v => s.setCanonical (H1.normalizeKey s.disableNorm k) v
  | .add k v =>
    match s.setSpecial k v with
    | some s' => s'
    | none => { s with h := appendArg s.h (H1.normalizeKey s.disableNorm k) v }
  | .setCanonical k v => s.setCanonical k v
  | .del k => s.del (H1.normalizeKey s.disableNorm k)
  | .setContentType v => { s with contentType := v }
  | .setContentLength n => s.setContentLength n
  | .setContentLengthBytes v => { s with clBytes := v }
  | .setServer v => { s with server := v }
  | .setContentEncoding v => { s with contentEncoding := v }
  | .setCookie c => s.setCookie c
  | .delCookie k => { s with cookies := delAll s.cookies k }
  | .delAllCookies => { s with cookies := [] }
  | .setStatusCode n => { s with statusCode := n }
  | .setProtocol v => { s with protocol := v }
  | .setNoDefaultCT b => { s with noDefaultCT := b }
  | .setNoDefaultDate b => { s with noDefaultDate := b }
  | .setArgBytes k v nv => { s with h := setArg s.h k (if nv then [] else v) }
  | .addArgBytes k v nv => { s with h := appendArg s.h k (if nv then [] else v) }
  | .setConnClose b => { s with connClose := b }
  | .resetConnClose => s.resetConnClose
  | .disableNormalizing => { s with disableNorm := true }
  | .trailerSet k v => { s with trailer := trailerSet s.disableNorm s.trailer k v }
  | .trailerAdd k v => { s with trailer := trailerAdd s.disableNorm s.trailer k v }
  | .ctxHeader k v =>
    if v.isEmpty then s.del (H1.normalizeKey s.disableNorm k)
    else s.setCanonical (H1.normalizeKey s.disableNorm k) v
  | .ctxRedirect code uri =>
    let s := s.setCanonical strLocation uri
    { s with statusCode := redirectStatus code }
  | .ctxSetCookie n v ma p d ss sec ho part => s.setCookie (ctxCookie n v ma p d ss sec ho part)
  | .ctxSetContentType v => { s with contentType := v }

def runRespFrom (s : RespSt) (p : List RespCall) : RespSt := p.foldl stepResp s
def runResp (p : List RespCall) : RespSt := runRespFrom {} p

/-- `ResponseHeader.ContentType()` -/
def RespSt.contentTypeEff (s : RespSt) : Bytes :=
  if !s.noDefaultCT && s.contentType.isEmpty then Gen.Str.defaultContentType else s.contentType

/-- what `ResponseHeader.AppendBytes` reads; `statusLine` = `consts.StatusLine(code)` without CRLF, `date` = the server
date value (both are not set through a header API) -/
def RespSt.toHdr (s : RespSt) (statusLine : Int → Bytes) (date : Bytes) : RespHdr :=
  { statusLine := statusLine s.status, server := s.server,
    date := if s.noDefaultDate then none else some date,
    contentType := if s.contentLength != 0 || !s.contentType.isEmpty then s.contentTypeEff else [],
    contentLength := s.contentLength, contentEncoding := s.contentEncoding, clBytes := s.clBytes, h := s.h,
    trailer := s.trailer.map (·.1), cookies := s.cookies.map (·.2), connClose := s.connClose }

def respWire (statusLine : Int → Bytes) (date : Bytes) (p : List RespCall) : Bytes := ((runResp p).toHdr statusLine date).bytes
def expectedRespFields (statusLine : Int → Bytes) (date : Bytes) (p : List RespCall) : List KV :=
  kept ((runResp p).toHdr statusLine date).fields

/-! ### where a field name on the wire can come from -/

/-- the key arguments of a call, as given and normalised -/
def reqCallKeys : ReqCall → List Bytes
  | .set k _ | .add k _ | .setCanonical k _ | .setArgBytes k _ _ | .addArgBytes k _ _ => [k, H1.normalizeKey false k]
  | _ => []

def respCallKeys : RespCall → List Bytes
  | .set k _ | .add k _ | .setCanonical k _ | .setArgBytes k _ _ | .addArgBytes k _ _ | .ctxHeader k _ => [k, H1.normalizeKey false k]
  | _ => []

/-- the names `RequestHeader.AppendBytes` / the setters write by themselves -/
def reqFixedNames : List Bytes :=
  [strUserAgent, strHost, strContentType, strContentLength, strTrailer, strCookie, strConnection, strTransferEncoding]
def respFixedNames : List Bytes :=
  [strServer, strDate, strContentType, strContentEncoding, strContentLength, strTrailer, strSetCookie, strConnection,
   strTransferEncoding, strLocation]

/-! ### the request target written by `req.Write`: `URI.RequestURI()` -/

/-- the fields of a `URI` that `RequestURI()` reads -/
structure Target where
  disablePathNormalizing : Bool := false
  pathOriginal : Bytes := []
  path : Bytes := []
  queryString : Bytes := []
  parsedQueryArgs : Bool := false
  queryArgs : List ArgKV := []

/-- `URI.RequestURI()` -/
def Target.requestURI (u : Target) : Bytes :=
  (if u.disablePathNormalizing then (if u.pathOriginal.isEmpty then [47] else u.pathOriginal)
   else quotePath (if u.path.isEmpty then strSlash else u.path)) ++
  (if u.parsedQueryArgs then (if u.queryArgs.isEmpty then [] else 63 :: appendArgs u.queryArgs)
   else if u.queryString.isEmpty then [] else 63 :: u.queryString)

/-- `method SP target SP HTTP/1.1` as `RequestHeader.AppendBytes` writes it: both parts through `appendRequestLinePart` -/
def requestLine (method target : Bytes) : Bytes :=
  reqLinePart (if method.isEmpty then strGet else method) ++ [32] ++ reqLinePart (if target.isEmpty then strSlash else target) ++
    [32] ++ strHTTP11

/-! ### the header work of `req.Write` / `resp.Write` for a message whose body is a byte slice -/

/-- `http1/req.write(req, w, false)` for a request without user-info, multipart form or post args whose URI (not yet taken
through `req.URI()`) parses to host `uriHost` and target `target`, with a body of `bodyLen` bytes: the header state that is
serialised -/
def reqWriteState (s : ReqSt) (uriHost target : Bytes) (bodyLen : Nat) : ReqSt :=
  let s := if s.host.isEmpty then
      let s := { s with host := uriHost }
      { s with uri := if s.toHdr.methodOrGet = strConnect then uriHost else target }
    else s
  if bodyLen != 0 || !s.toHdr.ignoreBody then stepReq s (.setContentLength bodyLen) else s

/-- `http1/resp.Write(resp, w)` for a response whose body is `bodyLen` bytes of a slice (`SkipBody` not set): the header state
that is serialised and whether the body follows -/
def respWriteState (s : RespSt) (bodyLen : Nat) : RespSt × Bool :=
  let sendBody := !s.mustSkipCL
  ((if sendBody || bodyLen > 0 then s.setContentLength bodyLen else s), sendBody && bodyLen > 0)

end Hertz.HA
