import Hertz.Model.Conn
/-!
Explicit memory under the buffered connection `pkg/network/standard` (`connection.go`, `buffer.go`).

`Model/Conn.lean` keeps the bytes of a node *inside* the node (`data = buf[0:malloc]`), so two
nodes can never share memory and nobody can write behind the model's back.  Here the bytes live in a
heap of memory blocks and the nodes of the reader and writer link buffers only hold
`(blk, base, cap, malloc, off)`; slices handed to the caller are references `(blk, lo, hi)`.

* `Mem` — the heap (`blk ↦ cells`), the free list of `mcache` (blocks given back with `mcache.Free`)
  and the counter of fresh blocks.  `Mem.alloc size ch` is `malloc(size, size)` of `buffer.go`: for
  `size ≤ mallocMax` *any* previously freed block of the same capacity class may come back (the
  `ch`-th candidate of the free list; a `ch` beyond the candidates means `sync.Pool` was empty and a
  fresh block is made).  Every theorem quantifies over `ch`.  A recycled block keeps its old cells.
* reader: `mfill`, `mpeek`, `mskip`, `mrelease`, `mnext`, `mstep` mirror `fill` … `step` of
  `Model/Conn.lean` function by function, reading and writing the heap.
* writer: `mwReserve` (`Malloc`), `mwWriteBinary` (copy below `block4k`, a by-reference node holding
  the caller's `(blk, lo, hi)` from `block4k` on), `mwFlush` (every `Write` is handed the cells the node
  refers to *at that moment*).
* environment: the caller owns blocks (`caller`), may write into them and into slices it was handed at
  any time (`CStep.callerWrite`, `.fillRef`), and the allocator / other users of `mcache` may overwrite
  every block of the free list (`CStep.scribble`).
* `MNode.view` / `MReader.view` / `MWriter.view` erase the heap: they give the node / reader / writer of
  `Model/Conn.lean` (logical identities `id` are kept; that the erased run equals the list run is not proved).
-/
namespace Hertz.ConnMem
open Hertz Hertz.Conn

/-! ## heap -/

abbrev Heap := List (Nat × Bytes)

/-- the cells of block `b` (an unknown block has no cells) -/
def Heap.get : Heap → Nat → Bytes
  | [], _ => []
  | (k, v) :: t, b => if k = b then v else Heap.get t b

/-- replace the cells of block `b` -/
def Heap.set (h : Heap) (b : Nat) (v : Bytes) : Heap := (b, v) :: h.filter (fun e => e.1 != b)

/-- `copy(cells[pos:], bs)`: like Go's `copy` (and like a `Read` into `cells[pos:]`) it never writes past the end of
the block - what does not fit is not stored -/
def splice (cells : Bytes) (pos : Nat) (bs : Bytes) : Bytes :=
  cells.take pos ++ bs.take (cells.length - pos) ++ cells.drop (pos + bs.length)

/-- `cells[lo:hi]` -/
def slice (cells : Bytes) (lo hi : Nat) : Bytes := (cells.drop lo).take (hi - lo)

/-- a slice handed to / by the caller: cells `[lo, hi)` of block `blk` -/
structure Ref where
  blk : Nat
  lo : Nat
  hi : Nat
  deriving Repr, DecidableEq

def Ref.len (r : Ref) : Nat := r.hi - r.lo

/-- what the reference reads in heap `h` -/
def Heap.read (h : Heap) (r : Ref) : Bytes := slice (h.get r.blk) r.lo r.hi

/-- `copy(blk[pos:], bs)`; what does not fit the block is not stored (`splice`) -/
def Heap.write (h : Heap) (blk pos : Nat) (bs : Bytes) : Heap :=
  h.set blk (splice (h.get blk) pos bs)

structure Mem where
  heap : Heap := []
  /-- `(blk, cap)` of the blocks handed back to `mcache` and not handed out again, most recent first -/
  free : List (Nat × Nat) := []
  nextBlk : Nat := 0
  deriving Repr

/-- the `ch`-th block of capacity `cap` on the free list, and the list without it -/
def pickFree : List (Nat × Nat) → Nat → Nat → Option (Nat × List (Nat × Nat))
  | [], _, _ => none
  | (b, c) :: t, cap, ch =>
    if c = cap then
      match ch with
      | 0 => some (b, t)
      | ch + 1 => (pickFree t cap ch).map (fun r => (r.1, (b, c) :: r.2))
    else (pickFree t cap ch).map (fun r => (r.1, (b, c) :: r.2))

/-- `make([]byte, size, cap)`: a block nobody has seen before, zeroed -/
def Mem.fresh (m : Mem) (cap : Nat) : Nat × Mem :=
  (m.nextBlk, { m with heap := m.heap.set m.nextBlk (List.replicate cap 0), nextBlk := m.nextBlk + 1 })

/-- `malloc(size, size)` of `buffer.go` -/
def Mem.alloc (m : Mem) (size ch : Nat) : Nat × Mem :=
  if size > mallocMax then m.fresh size
  else
    match pickFree m.free (capOf size) ch with
    | some (b, rest) => (b, { m with free := rest })
    | none => m.fresh (capOf size)

/-- `free(buf)` of `buffer.go` for a block of capacity `cap` (powers of two below `mallocMax` only reach it) -/
def Mem.release (m : Mem) (blk cap : Nat) : Mem :=
  if cap > mallocMax then m else { m with free := (blk, cap) :: m.free }

/-- the allocator (or another user of `mcache`) overwrites free memory: every cell of every block on the
free list becomes `pat` -/
def Mem.scribble (m : Mem) (pat : UInt8) : Mem :=
  { m with heap := m.free.foldl (fun h e => h.set e.1 (List.replicate (h.get e.1).length pat)) m.heap }

/-! ## nodes -/

structure MNode where
  /-- logical identity (the `id` of `Model/Conn.lean`) -/
  id : Nat
  blk : Nat
  /-- `buf` starts at cell `base` of the block (`≠ 0` only for a by-reference node of `WriteBinary`) -/
  base : Nat := 0
  cap : Nat
  malloc : Nat := 0
  off : Nat := 0
  readOnly : Bool := false
  deriving Repr, DecidableEq

def MNode.len (b : MNode) : Nat := b.malloc - b.off
def MNode.reset (b : MNode) : MNode := { b with malloc := 0, off := 0, readOnly := false }
def MNode.recyclable (b : MNode) : Bool := decide (b.cap ≤ block8k) && !b.readOnly
/-- `buf[off:malloc]` as a reference -/
def MNode.unreadRef (b : MNode) : Ref := ⟨b.blk, b.base + b.off, b.base + b.malloc⟩
/-- erase the heap: the node of `Model/Conn.lean` -/
def MNode.view (h : Heap) (b : MNode) : Node :=
  { id := b.id, cap := b.cap, data := slice (h.get b.blk) b.base (b.base + b.malloc), off := b.off, readOnly := b.readOnly }
/-- `linkBufferNode.Release` -/
def MNode.release (m : Mem) (b : MNode) : Mem := if b.readOnly then m else m.release b.blk b.cap

/-! ## reader -/

structure MReader where
  done : List MNode := []
  mid : List MNode := []
  w : MNode
  len : Nat := 0
  maxSize : Nat
  err : Option Err := none
  /-- `c.caches`: `(id, blk, cap)` of the `mcache` copies made by cross-node `Peek` -/
  caches : List (Nat × Nat × Nat) := []
  /-- ghost: the blocks of the `make([]byte, i)` copies handed out by `Peek` (garbage collected, never reused) -/
  priv : List Nat := []
  nextId : Nat
  deriving Repr

def MReader.cur (s : MReader) : List MNode := s.mid ++ [s.w]
def MReader.nodes (s : MReader) : List MNode := s.done ++ s.mid ++ [s.w]
def MReader.readNode (s : MReader) : MNode :=
  match s.mid with
  | [] => s.w
  | nd :: _ => nd

def MReader.view (h : Heap) (s : MReader) : Reader :=
  { done := s.done.map (MNode.view h), mid := s.mid.map (MNode.view h), w := s.w.view h, len := s.len,
    maxSize := s.maxSize, err := s.err, caches := s.caches.map (·.1), nextId := s.nextId }

/-- `Conn.fill(i)` -/
def mfill (m : Mem) (s : MReader) (wire : Wire) (i ch : Nat) : Except Fault (Option Err × Mem × MReader × Wire) :=
  if s.len ≥ i then pure (none, m, s, wire)
  else
    match s.err with
    | some e =>
      if s.len > 0 then pure (none, m, { s with err := some e }, wire)
      else pure (some e, m, { s with err := none }, wire)
    | none =>
      let node := s.w
      let left := node.cap - node.malloc
      let ms1 : Mem × MReader :=
        if left < i - s.len || node.readOnly then
          let malloc := if i < s.maxSize then s.maxSize else i
          let a := m.alloc malloc ch
          (a.2, { s with mid := s.mid ++ [{ node with readOnly := false }],
                         w := { id := s.nextId, blk := a.1, cap := capOf malloc }, nextId := s.nextId + 1 })
        else (m, s)
      let m1 := ms1.1
      let s1 := ms1.2
      let need := i - s1.len
      let room := s1.w.cap - s1.w.malloc
      let r := fillLoop wire need room
      -- the `Read` calls of the loop stored `r.1` at `buf[malloc:]`
      let m2 : Mem := { m1 with heap := m1.heap.write s1.w.blk (s1.w.base + s1.w.malloc) r.1 }
      let s2 : MReader := { s1 with w := { s1.w with malloc := s1.w.malloc + r.1.length }, len := s1.len + r.1.length }
      match r.2.1 with
      | .ok => pure (none, m2, s2, r.2.2)
      | .stash e => pure (none, m2, { s2 with err := some e }, r.2.2)
      | .fail e => pure (some e, m2, s2, r.2.2)
      | .hang => throw (.hang "fill: Read with empty buffer while i > 0")

/-- `Conn.Peek(i)`: the bytes of the returned slice, where it lives (`none`: nil slice), error, new state -/
def mpeek (m : Mem) (s : MReader) (wire : Wire) (i ch1 ch2 : Nat) :
    Except Fault ((Bytes × Option Ref) × Option Err × Mem × MReader × Wire) := do
  let (e, m1, s1, w1) ← mfill m s wire i ch1
  match e with
  | some e => pure (([], none), some e, m1, s1, w1)
  | none =>
    let short := s1.len < i
    let i' := if short then s1.len else i
    let err := if short then s1.err else none
    let s2 : MReader := if short then { s1 with err := none } else s1
    let node := s2.readNode
    if node.len ≥ i' then
      let ref : Ref := ⟨node.blk, node.base + node.off, node.base + node.off + i'⟩
      pure ((m1.heap.read ref, some ref), err, m1, s2, w1)
    else
      let p ← peekWalk (s2.cur.map (MNode.view m1.heap)) i'
      if block1k < i' && i' ≤ mallocMax then
        let a := m1.alloc i' ch2
        let m3 : Mem := { a.2 with heap := a.2.heap.write a.1 0 p }
        pure ((p, some ⟨a.1, 0, i'⟩), err, m3,
              { s2 with caches := s2.caches ++ [(s2.nextId, a.1, capOf i')], nextId := s2.nextId + 1 }, w1)
      else
        let a := m1.fresh i'
        let m3 : Mem := { a.2 with heap := a.2.heap.write a.1 0 p }
        pure ((p, some ⟨a.1, 0, i'⟩), err, m3, { s2 with priv := a.1 :: s2.priv }, w1)

/-- the loop of `Conn.Skip` -/
def mskipWalk : List MNode → List MNode → MNode → Nat → Except Fault (List MNode × List MNode × MNode)
  | done, mid, w, 0 => pure (done, mid, w)
  | done, [], w, ack + 1 =>
    if w.len ≥ ack + 1 then pure (done, [], { w with off := w.off + (ack + 1) })
    else throw (.nilDeref "Skip: read.next is nil")
  | done, nd :: mid, w, ack + 1 =>
    if nd.len ≥ ack + 1 then pure (done, { nd with off := nd.off + (ack + 1) } :: mid, w)
    else mskipWalk (done ++ [nd]) mid w (ack + 1 - nd.len)

def mskip (s : MReader) (n : Nat) : Except Fault (Option Err × MReader) :=
  if s.len < n then pure (some errSkip, s)
  else do
    let (done, mid, w) ← mskipWalk s.done s.mid s.w n
    pure (none, { s with done := done, mid := mid, w := w, len := s.len - n })

/-- `Conn.releaseCaches` -/
def releaseCaches (m : Mem) (caches : List (Nat × Nat × Nat)) : Mem :=
  caches.foldl (fun m c => m.release c.2.1 c.2.2) m

/-- `node.Release()` for every node of a list, in order -/
def releaseNodes (m : Mem) (l : List MNode) : Mem := l.foldl MNode.release m

def mreleaseGeneral (m : Mem) (s : MReader) : Mem × MReader :=
  let size :=
    match s.done with
    | _ :: rest => ((rest ++ [s.readNode]).map (fun nd => nd.malloc)).sum
    | [] => 0
  (releaseCaches (releaseNodes m s.done) s.caches,
   { s with done := [], w := { s.w with readOnly := true }, maxSize := clampMax s.maxSize size, caches := [] })

def mreleaseTwo (m : Mem) (s : MReader) (h : MNode) (ch : Nat) : Mem × MReader :=
  let maxSize := clampMax s.maxSize (h.malloc + s.w.malloc)
  let m1 := h.release m
  if s.w.cap > mallocMax then
    -- handleTail: newBufferNode(c.maxSize) first, then the old tail is released
    let a := m1.alloc maxSize ch
    (releaseCaches (s.w.release a.2) s.caches,
     { s with done := [], mid := [], w := { id := s.nextId, blk := a.1, cap := capOf maxSize }, nextId := s.nextId + 1,
              maxSize := maxSize, caches := [] })
  else
    (releaseCaches m1 s.caches, { s with done := [], mid := [], w := s.w.reset, maxSize := maxSize, caches := [] })

/-- `Conn.Release()` -/
def mrelease (m : Mem) (s : MReader) (ch : Nat) : Mem × MReader :=
  if s.len = 0 then
    match s.done, s.mid with
    | [], [] => (m, { s with w := s.w.reset })
    | [h], [] => mreleaseTwo m s h ch
    | [], [h] => mreleaseTwo m s h ch
    | _, _ => mreleaseGeneral m s
  else mreleaseGeneral m s

/-- `Conn.next(length, b)` -/
def mnext (m : Mem) (s : MReader) (l ch : Nat) : Except Fault (Bytes × Option Err × Mem × MReader) := do
  let p ← peekWalk (s.cur.map (MNode.view m.heap)) l
  let (e, s1) ← mskip s l
  match e with
  | some e => pure (p, some e, m, s1)
  | none =>
    let r := mrelease m s1 ch
    pure (p, none, r.1, r.2)

/-- what an operation hands to the caller besides `Out`: the reference of a `Peek` result -/
structure MOut where
  out : Out
  ref : Option Ref := none
  deriving Repr

/-- one reader operation; `ch1`, `ch2` are the allocator's choices for (at most two) `mcache.Malloc` calls -/
def mstep (m : Mem) (s : MReader) (wire : Wire) (ch1 ch2 : Nat) : Op → Except Fault (MOut × Mem × MReader × Wire)
  | .peek n => do
    let (p, e, m1, s1, w1) ← mpeek m s wire n ch1 ch2
    pure ({ out := { bytes := p.1, err := e, len := s1.len }, ref := p.2 }, m1, s1, w1)
  | .skip n => do
    let (e, s1) ← mskip s n
    pure ({ out := { err := e, len := s1.len } }, m, s1, wire)
  | .readByte => do
    let (p, e, m1, s1, w1) ← mpeek m s wire 1 ch1 ch2
    match e with
    | some e => pure ({ out := { err := some e, len := s1.len } }, m1, s1, w1)
    | none =>
      let (e2, s2) ← mskip s1 1
      match e2 with
      | some e2 => pure ({ out := { err := some e2, len := s2.len } }, m1, s2, w1)
      | none =>
        match p.1 with
        | [] => throw (.sliceBounds "ReadByte: b[0]")
        | b :: _ => pure ({ out := { bytes := [b], len := s2.len } }, m1, s2, w1)
  | .readBinary n => do
    let (p, e, m1, s1, w1) ← mpeek m s wire n ch1 ch2
    match e with
    | some e => pure ({ out := { err := some e, len := s1.len } }, m1, s1, w1)
    | none =>
      let (e2, s2) ← mskip s1 n
      pure ({ out := { bytes := p.1 ++ List.replicate (n - p.1.length) 0, err := e2, len := s2.len } }, m1, s2, w1)
  | .read k =>
    if s.len > 0 then do
      let l := min s.len k
      let (p, e, m1, s1) ← mnext m s l ch1
      pure ({ out := { bytes := p, err := e, len := s1.len } }, m1, s1, wire)
    else if k ≤ block4k then do
      let (e, m1, s1, w1) ← mfill m s wire 1 ch1
      match e with
      | some e => pure ({ out := { err := some e, len := s1.len } }, m1, s1, w1)
      | none =>
        let l := min s1.len k
        let (p, e, m2, s2) ← mnext m1 s1 l ch2
        pure ({ out := { bytes := p, err := e, len := s2.len } }, m2, s2, w1)
    else
      let r := connRead wire k
      pure ({ out := { bytes := r.1.1, err := r.1.2, len := s.len } }, m, s, r.2)
  | .release =>
    let r := mrelease m s ch1
    pure ({ out := { len := r.2.len } }, r.1, r.2, wire)
  | .len => pure ({ out := { len := s.len } }, m, s, wire)

/-! ## writer -/

structure MWriter where
  pre : List MNode := []
  w : MNode
  len : Nat := 0
  nextId : Nat
  deriving Repr

def MWriter.view (h : Heap) (s : MWriter) : Writer :=
  { pre := s.pre.map (MNode.view h), w := s.w.view h, len := s.len, nextId := s.nextId }

/-- the references the writer still has to send, in order -/
def MWriter.pendingRefs (s : MWriter) : List Ref := (s.pre ++ [s.w]).map MNode.unreadRef

/-- `Malloc(n)`: the reserved slice (`none` for `n = 0`) -/
def mwReserve (m : Mem) (s : MWriter) (n ch : Nat) : Except Fault (Option Ref × Mem × MWriter) :=
  if n = 0 then pure (none, m, s)
  else if s.len > n then
    if s.w.malloc + n > s.w.cap then throw (.sliceBounds "Malloc: node.buf[:node.malloc]")
    else pure (some ⟨s.w.blk, s.w.base + s.w.malloc, s.w.base + s.w.malloc + n⟩, m,
               { s with w := { s.w with malloc := s.w.malloc + n }, len := s.len - n })
  else
    let mallocSize := if n < defaultMallocSize then defaultMallocSize else n
    let a := m.alloc mallocSize ch
    let node : MNode := { id := s.nextId, blk := a.1, cap := capOf mallocSize, malloc := n }
    pure (some ⟨a.1, 0, n⟩, a.2, { s with pre := s.pre ++ [s.w], w := node, len := node.cap - n, nextId := s.nextId + 1 })

/-- `WriteBinary(b)` where `b` is the caller's slice `r` -/
def mwWriteBinary (m : Mem) (s : MWriter) (r : Ref) (ch : Nat) : Except Fault (Nat × Mem × MWriter) :=
  if r.len < block4k then do
    let (dst, m1, s1) ← mwReserve m s r.len ch
    match dst with
    | none => pure (r.len, m1, s1)
    | some d => pure (r.len, { m1 with heap := m1.heap.write d.blk d.lo (m1.heap.read r) }, s1)
  else
    -- newBufferNode(0) takes a 1-byte block from mcache and drops it for `b`
    let a := m.alloc 0 ch
    let node : MNode := { id := s.nextId, blk := r.blk, base := r.lo, cap := r.len, malloc := r.len, readOnly := true }
    pure (r.len, a.2, { s with pre := s.pre ++ [s.w], w := node, len := 0, nextId := s.nextId + 1 })

/-- the `for { … }` loop of `Flush`: each `Write` gets the cells the node refers to now -/
def mflushLoop (m : Mem) : List MNode → MNode → Nat → WScript → Bool × Bytes × Mem × List MNode × MNode × Nat × WScript
  | [], w, len, sc =>
    let (f, sc') := wscriptNext sc
    if f then (true, [], m, [], w, len, sc')
    else
      let sent := m.heap.read w.unreadRef
      let w1 := { w with off := w.off + (w.malloc - w.off) }
      if w1.recyclable then (false, sent, m, [], w1.reset, w1.cap, sc')
      else (false, sent, m, [], w1, len, sc')
  | h :: pre, w, len, sc =>
    let (f, sc') := wscriptNext sc
    if f then (true, [], m, h :: pre, w, len, sc')
    else
      let sent := m.heap.read h.unreadRef
      let r := mflushLoop (h.release m) pre w len sc'
      (r.1, sent ++ r.2.1, r.2.2)

/-- `Flush()` -/
def mwFlush (m : Mem) (s : MWriter) (sc : WScript) : Bool × Bytes × Mem × MWriter × WScript :=
  match s.pre with
  | [] =>
    if s.w.len = 0 then (false, [], m, s, sc)
    else
      let r := mflushLoop m [] s.w s.len sc
      (r.1, r.2.1, r.2.2.1, { s with pre := r.2.2.2.1, w := r.2.2.2.2.1, len := r.2.2.2.2.2.1 }, r.2.2.2.2.2.2)
  | h :: pre =>
    let m1 := if h.len = 0 then h.release m else m
    let pre' := if h.len = 0 then pre else h :: pre
    let r := mflushLoop m1 pre' s.w s.len sc
    (r.1, r.2.1, r.2.2.1, { s with pre := r.2.2.2.1, w := r.2.2.2.2.1, len := r.2.2.2.2.2.1 }, r.2.2.2.2.2.2)

/-! ## the connection with its caller and its allocator -/

structure MConn where
  mem : Mem
  r : MReader
  wr : MWriter
  /-- blocks owned by the caller (buffers it passes to `WriteBinary`) -/
  caller : List Nat := []
  deriving Repr

/-- `newConn(c, size)`: block 0 is the input node, block 1 the one-byte output node -/
def MConn.new (size : Nat) : MConn :=
  let maxSize := if size > defaultMallocSize then size else defaultMallocSize
  -- `malloc(maxSize, maxSize)` and `malloc(0, 0)` with nothing on the free list yet
  let a := ({} : Mem).fresh (capOf maxSize)
  let b := a.2.fresh (capOf 0)
  { mem := b.2,
    r := { w := { id := 0, blk := a.1, cap := capOf maxSize }, maxSize := maxSize, nextId := 1 },
    wr := { w := { id := 0, blk := b.1, cap := capOf 0 }, nextId := 1 } }

/-- one step of the whole system -/
inductive CStep
  /-- a reader operation with the allocator's two choices -/
  | rd (op : Op) (ch1 ch2 : Nat)
  /-- `Malloc(n)` -/
  | reserve (n ch : Nat)
  /-- `WriteBinary` of the caller's slice `r` -/
  | writeBinary (r : Ref) (ch : Nat)
  | flush
  /-- the caller allocates a buffer with content `bs` -/
  | newBuf (bs : Bytes)
  /-- the caller writes `bs` at cell `pos` of one of its own blocks -/
  | callerWrite (blk pos : Nat) (bs : Bytes)
  /-- the caller writes `bs` into a slice it got from `Malloc` (at its start) -/
  | fillRef (r : Ref) (bs : Bytes)
  /-- the allocator overwrites every free block -/
  | scribble (pat : UInt8)
  deriving Repr

/-- what a step reports -/
structure COut where
  out : Out := { len := 0 }
  ref : Option Ref := none
  n : Nat := 0
  failed : Bool := false
  sent : Bytes := []
  deriving Repr

def cstep (c : MConn) (wire : Wire) (sc : WScript) : CStep → Except Fault (COut × MConn × Wire × WScript)
  | .rd op ch1 ch2 => do
    let (o, m1, r1, w1) ← mstep c.mem c.r wire ch1 ch2 op
    pure ({ out := o.out, ref := o.ref }, { c with mem := m1, r := r1 }, w1, sc)
  | .reserve n ch => do
    let (ref, m1, wr1) ← mwReserve c.mem c.wr n ch
    pure ({ ref := ref, n := n }, { c with mem := m1, wr := wr1 }, wire, sc)
  | .writeBinary r ch => do
    let (n, m1, wr1) ← mwWriteBinary c.mem c.wr r ch
    pure ({ n := n }, { c with mem := m1, wr := wr1 }, wire, sc)
  | .flush =>
    let r := mwFlush c.mem c.wr sc
    pure ({ failed := r.1, sent := r.2.1 }, { c with mem := r.2.2.1, wr := r.2.2.2.1 }, wire, r.2.2.2.2)
  | .newBuf bs =>
    let a := c.mem.fresh bs.length
    pure ({ ref := some ⟨a.1, 0, bs.length⟩ },
          { c with mem := { a.2 with heap := a.2.heap.write a.1 0 bs }, caller := a.1 :: c.caller }, wire, sc)
  | .callerWrite blk pos bs =>
    if blk ∈ c.caller ∧ pos + bs.length ≤ (c.mem.heap.get blk).length then
      pure ({}, { c with mem := { c.mem with heap := c.mem.heap.write blk pos bs } }, wire, sc)
    else throw (.sliceBounds "caller: write outside its own buffer")
  | .fillRef r bs =>
    if bs.length ≤ r.len ∧ r.hi ≤ (c.mem.heap.get r.blk).length then
      pure ({}, { c with mem := { c.mem with heap := c.mem.heap.write r.blk r.lo bs } }, wire, sc)
    else throw (.sliceBounds "caller: write outside the reserved slice")
  | .scribble pat => pure ({}, { c with mem := c.mem.scribble pat }, wire, sc)

def crun (c : MConn) (wire : Wire) (sc : WScript) : List CStep → Except Fault (List COut × MConn × Wire × WScript)
  | [] => pure ([], c, wire, sc)
  | st :: rest => do
    let (o, c1, w1, sc1) ← cstep c wire sc st
    let (os, c2, w2, sc2) ← crun c1 w1 sc1 rest
    pure (o :: os, c2, w2, sc2)

end Hertz.ConnMem
