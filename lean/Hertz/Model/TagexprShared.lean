import Hertz.Model.Tagexpr
/-!
# internal/tagexpr — one compiled expression, many evaluations (C20)

`tagexpr.VM` compiles the tag expressions of a struct type when the first value of that type is
run (`VM.Run` → `registerStructLocked` → `parseExpr`) and keeps the result in `structJar`, keyed by
the type; every later `Validate` of a value of that type - from whichever goroutine - evaluates the
*same* compiled tree (`structVM.exprs`).  This file models

* the cache: `validateVia` / `session` (`VM.Run` in front of `Validator.Validate`);
* what one compiled tree answers for many values: `validateShared`;
* `funcExprNode.Run` in the steps the Go code takes (`args = make([]interface{}, n)` *inside* `Run`,
  one `args[k] = v.Run(…)` per step, then the function body), executed by several evaluations at
  once under an arbitrary schedule: `Func.run`.  The buffer belongs to the evaluation.  Next to it
  stands the variant in which the buffer belongs to the node (`Func.runShared`), which is *not*
  what the code does; `Proofs/TagexprShared.lean` shows that the first is schedule independent and
  the second is not.
-/
namespace Hertz.Tagexpr

/-- what `Validator.Validate` makes of an already compiled `vd` expression (an entry of the VM's
cache): nil result or truthy ⇒ accepted -/
def runCompiled (c : Except PErr Node) (env : Env) : Verdict × Option Val :=
  match c with
  | .error .syntax => (.compileError, none)
  | .error (.unsupported w) => (.unsupported w, none)
  | .error .fuel => (.unsupported "fuel", none)
  | .error (.fault (.panic s)) => (.panic s, none)
  | .ok t =>
    match groupRun t none none env with
    | .error (.fault (.panic s)) => (.panic s, none)
    | .error (.unsupported w) => (.unsupported w, none)
    | .ok .nil => (.accept, some .nil)
    | .ok v => (if fakeBool v then .accept else .reject, some v)

/-- several values of one struct type: the expression is compiled once -/
def validateShared (expr : List Char) (envs : List Env) : List (Verdict × Option Val) :=
  let c := parseExpr expr
  envs.map (runCompiled c)

/-! ## the per-type cache of the VM -/

/-- `structJar`: struct type (an id) ↦ compiled expression of its tagged field -/
abbrev Cache := List (Nat × Except PErr Node)

def Cache.find (c : Cache) (ty : Nat) : Option (Except PErr Node) :=
  match c with
  | [] => none
  | (t, x) :: r => if t == ty then some x else Cache.find r ty

/-- one `Validate` call: look the type up, compile on a miss (and remember), evaluate -/
def validateVia (exprOf : Nat → List Char) (c : Cache) (ty : Nat) (env : Env) : Cache × (Verdict × Option Val) :=
  match c.find ty with
  | some comp => (c, runCompiled comp env)
  | none =>
    let comp := parseExpr (exprOf ty)
    ((ty, comp) :: c, runCompiled comp env)

/-- a sequence of `Validate` calls on one validator -/
def session (exprOf : Nat → List Char) : Cache → List (Nat × Env) → List (Verdict × Option Val)
  | _, [] => []
  | c, (ty, env) :: rest =>
    let (c', r) := validateVia exprOf c ty env
    r :: session exprOf c' rest

/-! ## `funcExprNode.Run`, step by step, several evaluations at once -/

namespace Func
variable {ε α β : Type}

/-- one evaluation of a function-call node in progress -/
structure Thread (α β : Type) where
  /-- the evaluated arguments so far (`args[0..buf.length)`), private to this evaluation -/
  buf : List α := []
  /-- set when the function body has run -/
  res : Option β := none

/-- one step of the evaluation for the value `e`: evaluate the next argument into the own buffer,
or, when all are there, call the function body -/
def step (args : List (ε → α)) (fn : List α → β) (e : ε) (t : Thread α β) : Thread α β :=
  match t.res with
  | some _ => t
  | none =>
    match args[t.buf.length]? with
    | some a => { t with buf := t.buf ++ [a e] }
    | none => { t with res := some (fn t.buf) }

def stepAt (args : List (ε → α)) (fn : List α → β) : List (ε × Thread α β) → Nat → List (ε × Thread α β)
  | [], _ => []
  | (e, t) :: r, 0 => (e, step args fn e t) :: r
  | p :: r, i + 1 => p :: stepAt args fn r i

/-- run the evaluations under a schedule (a list of thread numbers; a number out of range is a
step of some unrelated goroutine) -/
def run (args : List (ε → α)) (fn : List α → β) (ts : List (ε × Thread α β)) (sched : List Nat) : List (ε × Thread α β) :=
  sched.foldl (stepAt args fn) ts

def start (envs : List ε) : List (ε × Thread α β) := envs.map (fun e => (e, {}))

/-- what the evaluation answers when nobody else is running -/
def seq (args : List (ε → α)) (fn : List α → β) (e : ε) : β := fn (args.map (· e))

/-! the variant with ONE buffer, owned by the node and shared by all evaluations -/

structure SThread (β : Type) where
  pc : Nat := 0
  res : Option β := none
deriving DecidableEq

structure Shared (ε α β : Type) where
  buf : List α
  ts : List (ε × SThread β)

def sstepAt (args : List (ε → α)) (fn : List α → β) (buf : List α) : List (ε × SThread β) → Nat → List α × List (ε × SThread β)
  | [], _ => (buf, [])
  | (e, t) :: r, 0 =>
    match t.res with
    | some _ => (buf, (e, t) :: r)
    | none =>
      match args[t.pc]? with
      | some a => (buf.set t.pc (a e), (e, { t with pc := t.pc + 1 }) :: r)
      | none => (buf, (e, { t with res := some (fn buf) }) :: r)
  | p :: r, i + 1 =>
    let (b, r') := sstepAt args fn buf r i
    (b, p :: r')

def runShared (args : List (ε → α)) (fn : List α → β) (s : Shared ε α β) (sched : List Nat) : Shared ε α β :=
  sched.foldl (fun s i => let (b, ts) := sstepAt args fn s.buf s.ts i; { buf := b, ts := ts }) s

end Func

/-- the function body of a `funcNode` on the (unforced) results of its arguments: the first
argument that faults decides, as in the Go loop -/
def funcBody (name : String) (bo so : Option Bool) (rs : List (EvalM Val)) : EvalM Val := do
  let vs ← rs.mapM id
  return realValue (applyFn name vs) bo so

end Hertz.Tagexpr
