import Hertz.Model.Path
import Hertz.Model.Args
import Hertz.Gen.Consts
/-!
Model of `pkg/protocol/uri.go`: `getScheme`, `splitHostURI`, `URI.parse`, `RequestURI`,
`AppendBytes/FullURI`; and of `pkg/protocol/cookie.go`: `cookieScanner.next`, `decodeCookieArg`,
`Cookie.ParseBytes`, `Cookie.AppendBytes` (without `expires`: the full codec is `Model/CookieExp.lean`).
-/
namespace Hertz.Uri
open Hertz Hertz.Gen.Str

def indexOf (c : UInt8) : Bytes → Option Nat
  | [] => none
  | x :: t => if x = c then some 0 else (indexOf c t).map (· + 1)

/-- `bytes.Contains(b, pat)` -/
def containsSub (pat : Bytes) : Bytes → Bool
  | [] => pat.isEmpty
  | c :: t => pat.isPrefixOf (c :: t) || containsSub pat t

structure URI where
  scheme : Bytes := []
  host : Bytes := []
  pathOriginal : Bytes := []
  path : Bytes := []
  query : Bytes := []
  hash : Bytes := []
  username : Bytes := []
  password : Bytes := []
deriving Repr, DecidableEq

def isAlpha (c : UInt8) : Bool := (97 ≤ c && c ≤ 122) || (65 ≤ c && c ≤ 90)

/-- `getScheme` at position `i` with the scheme bytes read so far in `acc`: `(scheme, rest)`; `none` = no scheme -/
def getSchemeAux : Nat → Bytes → Bytes → Option (Bytes × Bytes)
  | _, _, [] => none
  | i, acc, c :: t =>
    if isAlpha c then getSchemeAux (i + 1) (acc ++ [c]) t
    else if (48 ≤ c && c ≤ 57) || c == 43 || c == 45 || c == 46 then
      (if i = 0 then none else getSchemeAux (i + 1) (acc ++ [c]) t)
    else if c = 58 then (if i = 0 then none else some (acc, t))
    else none

def getScheme (raw : Bytes) : Option (Bytes × Bytes) := getSchemeAux 0 [] raw

/-- `splitHostURI(host, uri)` → `(scheme, host, uri)` -/
def splitHostURI (host uri : Bytes) : Bytes × Bytes × Bytes :=
  match getScheme uri with
  | none => (strHTTP, host, uri)
  | some (scheme, path) =>
    if !strSlashSlash.isPrefixOf path then (strHTTP, host, uri)
    else
      let u := path.drop 2
      match indexOf 47 u with
      | some n => (scheme, u.take n, u.drop n)
      | none =>
        match indexOf 63 u with
        | some n => (scheme, u.take n, u.drop n)
        | none => (scheme, u, strSlash)

def hasCTL (s : Bytes) : Bool := s.any (fun b => b < 32 || b == 127)

/-- `URI.parse(host, uri, false)` on a reset URI -/
def parse (host uri : Bytes) : URI :=
  if hasCTL uri then {} else
  let (scheme, host, uri) :=
    if host.isEmpty || containsSub strColonSlashSlash uri then
      let (s, h, u) := splitHostURI host uri
      (s.map toLower, h, u)
    else ([], host, uri)
  let (user, pass, host) :=
    match indexOf 64 host with
    | some n =>
      let auth := host.take n
      (match indexOf 58 auth with
       | some m => (auth.take m, auth.drop (m + 1), host.drop (n + 1))
       | none => (auth, [], host.drop (n + 1)))
    | none => ([], [], host)
  let host := host.map toLower
  let q := indexOf 63 uri
  let f := indexOf 35 uri
  let q := match q, f with
    | some qi, some fi => if qi > fi then none else some qi
    | q, _ => q
  let base : URI := { scheme, host, username := user, password := pass }
  match q, f with
  | none, none => { base with pathOriginal := uri, path := normalizePath uri }
  | some qi, none =>
    { base with pathOriginal := uri.take qi, path := normalizePath (uri.take qi), query := uri.drop (qi + 1) }
  | some qi, some fi =>
    { base with pathOriginal := uri.take qi, path := normalizePath (uri.take qi),
                query := (uri.take fi).drop (qi + 1), hash := uri.drop (fi + 1) }
  | none, some fi =>
    { base with pathOriginal := uri.take fi, path := normalizePath (uri.take fi), hash := uri.drop (fi + 1) }

def URI.schemeOrHTTP (u : URI) : Bytes := if u.scheme.isEmpty then strHTTP else u.scheme
def URI.pathOrSlash (u : URI) : Bytes := if u.path.isEmpty then strSlash else u.path

/-- `URI.RequestURI()` in the two situations in which the flag `parsedQueryArgs` and the argument list agree: a non-empty
list `qa` of arguments reached through `QueryArgs()` (flag set: the arguments are written), or `qa = []` for a URI whose
`QueryArgs()` was never called (flag clear: `queryString` is written).  The general rule, with the flag, is `requestURIp`
(`requestURIp_true_cons`, `requestURIp_false` in `Proofs/UriOps.lean` relate the two). -/
def URI.requestURI (u : URI) (qa : List ArgKV) : Bytes :=
  quotePath u.pathOrSlash ++
    (if !qa.isEmpty then 63 :: appendArgs qa else if !u.query.isEmpty then 63 :: u.query else [])

/-- `URI.FullURI()` (same two situations as `requestURI`) -/
def URI.fullURI (u : URI) (qa : List ArgKV) : Bytes :=
  u.schemeOrHTTP ++ strColonSlashSlash ++ u.host ++ u.requestURI qa ++ (if u.hash.isEmpty then [] else 35 :: u.hash)

/-- `URI.RequestURI()`, `parsed` = `u.parsedQueryArgs`, `qa` = the visible entries of `u.queryArgs`:
```go
if u.parsedQueryArgs {
    if u.queryArgs.Len() > 0 { dst = append(dst, '?'); dst = u.queryArgs.AppendBytes(dst) }
} else if len(u.queryString) > 0 { dst = append(dst, '?'); dst = append(dst, u.queryString...) }
```
With the flag set the arguments ARE the query (none when all were deleted; `queryString` is not looked at); with the flag
clear `queryString` is (arguments left from an earlier query string are not looked at). -/
def URI.requestURIp (u : URI) (parsed : Bool) (qa : List ArgKV) : Bytes :=
  quotePath u.pathOrSlash ++
    (if parsed then (if !qa.isEmpty then 63 :: appendArgs qa else [])
     else if !u.query.isEmpty then 63 :: u.query else [])

/-- `URI.FullURI()` with the flag -/
def URI.fullURIp (u : URI) (parsed : Bool) (qa : List ArgKV) : Bytes :=
  u.schemeOrHTTP ++ strColonSlashSlash ++ u.host ++ u.requestURIp parsed qa ++ (if u.hash.isEmpty then [] else 35 :: u.hash)

/-! ### cookies -/

def trimSp (b : Bytes) : Bytes := ((b.dropWhile (· == 32)).reverse.dropWhile (· == 32)).reverse

/-- `decodeCookieArg(nil, src, skipQuotes)` -/
def decodeCookieArg (src : Bytes) (skipQuotes : Bool) : Bytes :=
  let s := trimSp src
  if skipQuotes && s.length > 1 && s.head? == some 34 && s.getLast? == some 34 then (s.drop 1).dropLast else s

/-- the `;`-separated pieces the scanner visits (it stops when nothing is left) -/
def cookieSegs : Bytes → List Bytes
  | [] => []
  | c :: t =>
    if c = 59 then [] :: cookieSegs t
    else match cookieSegs t with
      | [] => [[c]]
      | s :: r => (c :: s) :: r

/-- one `cookieScanner.next`: `(key, value)` -/
def cookieKV (seg : Bytes) : Bytes × Bytes :=
  match indexOf 61 seg with
  | some i => (decodeCookieArg (seg.take i) false, decodeCookieArg (seg.drop (i + 1)) true)
  | none => ([], decodeCookieArg seg true)

inductive SameSite where | disabled | default | lax | strict | none
deriving Repr, DecidableEq

structure Cookie where
  key : Bytes := []
  value : Bytes := []
  maxAge : Nat := 0
  domain : Bytes := []
  path : Bytes := []
  httpOnly : Bool := false
  secure : Bool := false
  sameSite : SameSite := .disabled
  partitioned : Bool := false
deriving Repr, DecidableEq

def ciEq' : Bytes → Bytes → Bool
  | [], [] => true
  | a :: s, b :: t => toLower a == toLower b && ciEq' s t
  | _, _ => false

def parseUintDec (b : Bytes) : Option Nat :=
  if b.isEmpty || !b.all (fun c => 48 ≤ c && c ≤ 57) then none
  else
    let v := b.foldl (fun n c => n * 10 + (c - 48).toNat) 0
    if v < 2 ^ 63 then some v else none

/-- attribute step of `Cookie.ParseBytes`; `none` = parse error (bad max-age) -/
def applyAttr (c : Cookie) (kv : Bytes × Bytes) : Option Cookie :=
  let (k, v) := kv
  match k with
  | k0 :: _ =>
    let d := k0 ||| 0x20
    if d = 109 ∧ ciEq' strCookieMaxAge k then (parseUintDec v).map (fun n => { c with maxAge := n })
    else if d = 100 ∧ ciEq' strCookieDomain k then some { c with domain := v }
    else if d = 112 ∧ ciEq' strCookiePath k then some { c with path := v }
    else if d = 115 ∧ ciEq' strCookieSameSite k ∧ !v.isEmpty then
      let e := (v.headD 0) ||| 0x20
      if e = 108 ∧ ciEq' strCookieSameSiteLax v then some { c with sameSite := .lax }
      else if e = 115 ∧ ciEq' strCookieSameSiteStrict v then some { c with sameSite := .strict }
      else if e = 110 ∧ ciEq' strCookieSameSiteNone v then some { c with sameSite := .none }
      else some c
    else some c
  | [] =>
    match v with
    | v0 :: _ =>
      let d := v0 ||| 0x20
      if d = 104 ∧ ciEq' strCookieHTTPOnly v then some { c with httpOnly := true }
      else if d = 115 ∧ ciEq' strCookieSecure v then some { c with secure := true }
      else if d = 115 ∧ ciEq' strCookieSameSite v then some { c with sameSite := .default }
      else if d = 112 ∧ ciEq' strCookiePartitioned v then some { c with partitioned := true }
      else some c
    | [] => some c

/-- `Cookie.ParseBytes` (inputs without an `expires` attribute); `none` = error -/
def parseCookie (src : Bytes) : Option Cookie :=
  match cookieSegs src with
  | [] => none                      -- errNoCookies
  | first :: rest =>
    let (k, v) := cookieKV first
    rest.foldlM (fun c seg => applyAttr c (cookieKV seg)) { key := k, value := v }

def appendUintDec (n : Nat) : Bytes := (toString n).toUTF8.toList

/-- `Cookie.AppendBytes(nil)` for a cookie without expiry -/
def appendCookie (c : Cookie) : Bytes :=
  (if c.key.isEmpty then [] else c.key ++ [61]) ++ c.value ++
  (if c.maxAge > 0 then [59, 32] ++ strCookieMaxAge ++ [61] ++ appendUintDec c.maxAge else []) ++
  (if c.domain.isEmpty then [] else [59, 32] ++ strCookieDomain ++ [61] ++ c.domain) ++
  (if c.path.isEmpty then [] else [59, 32] ++ strCookiePath ++ [61] ++ c.path) ++
  (if c.httpOnly then [59, 32] ++ strCookieHTTPOnly else []) ++
  (if c.secure then [59, 32] ++ strCookieSecure else []) ++
  (match c.sameSite with
   | .disabled => []
   | .default => [59, 32] ++ strCookieSameSite
   | .lax => [59, 32] ++ strCookieSameSite ++ [61] ++ strCookieSameSiteLax
   | .strict => [59, 32] ++ strCookieSameSite ++ [61] ++ strCookieSameSiteStrict
   | .none => [59, 32] ++ strCookieSameSite ++ [61] ++ strCookieSameSiteNone) ++
  (if c.partitioned then [59, 32] ++ strCookiePartitioned else [])

end Hertz.Uri
