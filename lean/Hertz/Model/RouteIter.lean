import Hertz.Model.Route
/-!
The ITERATIVE lookup of `pkg/route/tree.go:(*router).find`, as it is written: one loop over the
current node `cn` and the remaining path `search`, the three blocks static / `Param:` / `Any:`, the
closure `backtrackToNextNodeKind` (restore of `searchIndex`, `paramIndex` and the re-slice of
`*paramsPointer`), the `res.tsr` computation, `unescape` of parameter values, and the epilogue
(`fullPath`, the `Key` loop).  Plus the part of `Engine.ServeHTTP` behind it (trailing-slash
redirect, `HandleMethodNotAllowed`, NoRoute).

Representation
* `cn` and the chain of `parent` pointers is the list `stack = cn :: cn.parent :: …` (`[]` = `cn == nil`).
  That `node.parent` is the node whose `children`/`paramChild`/`anyChild` holds the node is the
  invariant `insert` maintains (`newNode(…, currentNode, …)`, "Update parent path for all children");
  it is assumed here and held to the code by the correspondence check.
* `*paramsPointer` is the backing array `arr` (values only, `arr.length = cap`) and its length `plen`;
  the `Key`s are written by the epilogue only.
* Go `int`s that are decremented (`searchIndex`, `paramIndex`) are `Nat` with the check that Go makes
  when the value is used: a negative `searchIndex` faults at `path[searchIndex:]` (`sliceBounds`), a
  negative `paramIndex` at `(*paramsPointer)[paramIndex]` (`backIndex`).
* The loop body is cut at the program points `top` (prefix test of a static node), `body`
  (`search == "" && handlers`, static child), `param` (label `Param:`), `any` (label `Any:`); one
  `step` runs from one program point to the next, `run` iterates it with fuel.
-/
namespace Hertz.Route.Iter
open Hertz.Route

inductive ISite where
  | nilNode      -- `cn.kind` with `cn == nil` (never: the loop is left when the parent is nil)
  | paramsCap    -- `(*paramsPointer)[:(paramIndex + 1)]` beyond `cap`
  | anyIndex     -- `(*paramsPointer)[index]` in the `Any:` block
  | keyIndex     -- `(*paramsPointer)[i].Key = name` in the epilogue
  | backIndex    -- `(*paramsPointer)[paramIndex]` in `backtrackToNextNodeKind`
  | sliceBounds  -- `path[searchIndex:]` in `backtrackToNextNodeKind`
  deriving DecidableEq, Repr

inductive Pc where
  | top | body | param | any
  deriving DecidableEq, Repr

/-- the variables of `find` -/
structure St where
  stack : List Node
  search : Bytes
  si : Nat           -- searchIndex
  arr : List Bytes   -- backing array of *paramsPointer (values)
  pi : Nat           -- paramIndex
  plen : Nat         -- len(*paramsPointer)
  tsr : Bool         -- res.tsr
  deriving Repr

/-- what `find` leaves behind: `res` (handlers, fullPath, tsr) and `*paramsPointer` -/
inductive Out where
  | value (handlers : Option Nat) (fullPath : Bytes) (params : List (Bytes × Bytes)) (tsr : Bool)
      (arr : List Bytes) (plen : Nat)
  | panic (s : ISite)
  deriving DecidableEq, Repr

inductive Step where
  | next (pc : Pc) (st : St)
  | done (o : Out)

/-- `(*node).findChild` -/
def findChild : List Node → UInt8 → Option Node
  | [], _ => none
  | c :: r, l => if c.label = l then some c else findChild r l

/-- `cd := cn.findChild('/'); cd != nil && (cd.handlers != nil || cd.anyChild != nil)` -/
def tsrChild (cn : Node) : Bool :=
  match findChild cn.children 47 with
  | some cd => cd.handlers.isSome || cd.anyChild.isSome
  | none => false

/-- "Next node type by priority" -/
def nextKind : Kind → Kind
  | .skind => .pkind
  | .pkind => .akind
  | .akind => .skind

def hexVal (c : UInt8) : Option UInt8 :=
  if 48 ≤ c ∧ c ≤ 57 then some (c - 48)
  else if 97 ≤ c ∧ c ≤ 102 then some (c - 87)
  else if 65 ≤ c ∧ c ≤ 70 then some (c - 55)
  else none

/-- `url.QueryUnescape` (`none` = `EscapeError`) -/
def queryUnescape : Bytes → Option Bytes
  | [] => some []
  | [37] => none
  | [37, _] => none
  | 37 :: a :: b :: rest =>
    match hexVal a, hexVal b, queryUnescape rest with
    | some x, some y, some r => some ((x <<< 4 ||| y) :: r)
    | _, _, _ => none
  | c :: rest =>
    match queryUnescape rest with
    | some r => some ((if c = 43 then 32 else c) :: r)
    | none => none

/-- `if unescape { if v, err := url.QueryUnescape(val); err == nil { val = v } }` -/
def unescapeVal (unesc : Bool) (raw : Bytes) : Bytes :=
  if unesc then (match queryUnescape raw with | some v => v | none => raw) else raw

/-- the loop `for i := range *paramsPointer { if cn.kind == akind && i == len(cn.pnames)-1 { continue }; unescape Value }` of the
epilogue over the first `n` slots (`n` = `len(*paramsPointer)` minus the slots already done); `skip` = the index to leave alone,
relative to the head of the list -/
def unescFirst : Nat → Option Nat → List Bytes → List Bytes
  | 0, _, arr => arr
  | _ + 1, _, [] => []
  | n + 1, none, v :: r => unescapeVal true v :: unescFirst n none r
  | n + 1, some 0, v :: r => v :: unescFirst n none r
  | n + 1, some (k + 1), v :: r => unescapeVal true v :: unescFirst n (some k) r

/-- the index the epilogue skips: `cn.kind == akind && i == len(cn.pnames)-1` (never true for an empty `pnames`) -/
def skipIdx (cn : Node) : Option Nat :=
  if cn.kind = .akind ∧ cn.pnames.length ≥ 1 then some (cn.pnames.length - 1) else none

/-- the epilogue `if cn != nil { res.fullPath = cn.ppath; for i, name := range cn.pnames { … };
if unescape && res.handlers != nil { … } }` (the values are unescaped HERE, once the route is found) -/
def post (unesc : Bool) (st : St) (h : Option Nat) : Out :=
  match st.stack with
  | [] => .value h [] (zipKeys [] (st.arr.take st.plen)) st.tsr st.arr st.plen
  | cn :: _ =>
    if cn.pnames.length > st.plen then .panic .keyIndex
    else
      let arr' := if unesc && h.isSome then unescFirst st.plen (skipIdx cn) st.arr else st.arr
      .value h cn.ppath (zipKeys cn.pnames (arr'.take st.plen)) st.tsr arr' st.plen

/-- `backtrackToNextNodeKind(fromKind)`; `fromStatic` = `fromKind == skind`.  Result: the new
variables, `nextNodeKind`, `valid`. -/
def backtrack (path : Bytes) (fromStatic : Bool) (st : St) : Except ISite (St × Kind × Bool) :=
  match st.stack with
  | [] => .error .nilNode
  | prev :: rest =>
    let nk := nextKind prev.kind
    let valid := !rest.isEmpty
    if fromStatic then .ok ({ st with stack := rest }, nk, valid)
    else if prev.kind = .skind then
      if st.si < prev.pfx.length then .error .sliceBounds
      else if st.si - prev.pfx.length > path.length then .error .sliceBounds
      else .ok ({ st with stack := rest, si := st.si - prev.pfx.length,
                          search := path.drop (st.si - prev.pfx.length) }, nk, valid)
    else
      if st.pi = 0 then .error .backIndex
      else if st.pi - 1 ≥ st.plen then .error .backIndex
      else if st.si < (st.arr.getD (st.pi - 1) []).length then .error .sliceBounds
      else if st.si - (st.arr.getD (st.pi - 1) []).length > path.length then .error .sliceBounds
      else .ok ({ st with stack := rest, si := st.si - (st.arr.getD (st.pi - 1) []).length,
                          search := path.drop (st.si - (st.arr.getD (st.pi - 1) []).length),
                          pi := st.pi - 1, plen := st.pi - 1 }, nk, valid)

/-- the `if !ok … else if nk == pkind { goto Param } else if nk == akind { goto Any } else { break }`
after a call of `backtrackToNextNodeKind` (the static block has no `goto Any`); every exit here has
`res.handlers == nil`, so the epilogue does not unescape (`post false`) -/
def afterBack (fromStatic : Bool) (r : Except ISite (St × Kind × Bool)) : Step :=
  match r with
  | .error s => .done (.panic s)
  | .ok (st', nk, valid) =>
    if !valid then .done (post false st' none)
    else match nk with
      | .pkind => .next .param st'
      | .akind => if fromStatic then .done (post false st' none) else .next .any st'
      | .skind => .done (post false st' none)

/-- `if cn.kind == skind { … }` -/
def stepTop (path : Bytes) (st : St) : Step :=
  match st.stack with
  | [] => .done (.panic .nilNode)
  | cn :: _ =>
    if cn.kind = .skind then
      if cn.pfx.isPrefixOf st.search then
        .next .body { st with search := st.search.drop cn.pfx.length, si := st.si + cn.pfx.length }
      else
        afterBack true (backtrack path true { st with tsr := st.tsr ||
          (cn.pfx.length == st.search.length + 1 && cn.pfx.getD st.search.length 0 == 47
            && cn.pfx.take st.search.length == st.search && (cn.handlers.isSome || cn.anyChild.isSome)) })
    else .next .body st

/-- `if search == nilString && len(cn.handlers) != 0 {…}`, the "Static node" block and the tsr test
in front of `Param:` -/
def stepBody (unesc : Bool) (st : St) : Step :=
  match st.stack with
  | [] => .done (.panic .nilNode)
  | cn :: rest =>
    match st.search with
    | [] =>
      if cn.handlers.isSome then .done (post unesc st cn.handlers)
      else .next .param { st with tsr := st.tsr || tsrChild cn }
    | c :: s' =>
      match findChild cn.children c with
      | some child =>
        .next .top { st with stack := child :: cn :: rest, tsr := st.tsr || (s'.isEmpty && c == 47 && cn.handlers.isSome) }
      | none => .next .param { st with tsr := st.tsr || (s'.isEmpty && c == 47 && cn.handlers.isSome) }

/-- the `Param:` block (the RAW text is stored: `backtrackToNextNodeKind` restores `searchIndex` by `len(Value)`) -/
def stepParam (st : St) : Step :=
  match st.stack with
  | [] => .done (.panic .nilNode)
  | cn :: rest =>
    match cn.paramChild, st.search with
    | some child, _ :: _ =>
      if st.pi + 1 > st.arr.length then .done (.panic .paramsCap)
      else
        .next .top { stack := child :: cn :: rest, search := segRest st.search,
                     si := st.si + (segValue st.search).length,
                     arr := st.arr.set st.pi (segValue st.search),
                     pi := st.pi + 1, plen := st.pi + 1,
                     tsr := st.tsr || ((segRest st.search).isEmpty && tsrChild child) }
    | _, _ => .next .any st

/-- the `Any:` block and the backtracking behind it -/
def stepAny (path : Bytes) (unesc : Bool) (st : St) : Step :=
  match st.stack with
  | [] => .done (.panic .nilNode)
  | cn :: rest =>
    match cn.anyChild with
    | some child =>
      if st.pi + 1 > st.arr.length then .done (.panic .paramsCap)
      else if child.pnames.length = 0 || child.pnames.length - 1 ≥ st.pi + 1 then .done (.panic .anyIndex)
      else
        .done (post unesc
          { stack := child :: cn :: rest, search := [], si := st.si + st.search.length,
            arr := st.arr.set (child.pnames.length - 1) (unescapeVal unesc st.search),
            pi := st.pi + 1, plen := st.pi + 1, tsr := st.tsr }
          child.handlers)
    | none => afterBack false (backtrack path false st)

def step (path : Bytes) (unesc : Bool) : Pc → St → Step
  | .top, st => stepTop path st
  | .body, st => stepBody unesc st
  | .param, st => stepParam st
  | .any, st => stepAny path unesc st

/-- the `for { … }` of `find`; `none` = the fuel ran out -/
def run (path : Bytes) (unesc : Bool) : Nat → Pc → St → Option Out
  | 0, _, _ => none
  | f + 1, pc, st =>
    match step path unesc pc st with
    | .done o => some o
    | .next pc' st' => run path unesc f pc' st'

mutual
/-- number of nodes -/
def size : Node → Nat
  | .mk _ _ _ cs _ _ _ pc ac => 1 + sizeL cs + sizeO pc + sizeO ac
def sizeL : List Node → Nat
  | [] => 0
  | c :: r => size c + sizeL r
def sizeO : Option Node → Nat
  | none => 0
  | some c => size c
end

/-- every node is entered at most once and left after at most four program points -/
def fuelFor (root : Node) : Nat := 4 * size root

def initSt (root : Node) (path : Bytes) (arr : List Bytes) (plen : Nat) : St :=
  { stack := [root], search := path, si := 0, arr := arr, pi := 0, plen := plen, tsr := false }

/-- `(*router).find(path, paramsPointer, unescape)` with `*paramsPointer` = `arr[:plen]` -/
def findIter (root : Node) (path : Bytes) (arr : List Bytes) (plen : Nat) (unesc : Bool) : Option Out :=
  run path unesc (fuelFor root) .top (initSt root path arr plen)

/-- the recursive `find`'s answer in the vocabulary of the iterative one (tsr not compared) -/
def agrees (r : Res) (o : Option Out) : Bool :=
  match r, o with
  | .hit f, some (.value (some h) fp ps _ _ _) => f.handlers == h && f.fullPath == fp && f.params == ps
  | .miss, some (.value none _ _ _ _ _) => true
  | .stop, some (.value none _ _ _ _ _) => true
  | .panic _, some (.panic _) => true
  | _, _ => false

/-! ## Engine.ServeHTTP behind `rPath` -/

structure Opts where
  redirectTrailingSlash : Bool := true
  handleMethodNotAllowed : Bool := false
  /-- `UseRawPath && UnescapePathValues` -/
  unescape : Bool := false
  deriving Repr

inductive ServedI where
  | handler (f : Found)
  | redirect (code : Nat)    -- `redirectTrailingSlash`: 301 for GET, 307 otherwise
  | notAllowed               -- 405, `allNoMethod`
  | notFound                 -- 404, `allNoRoute`
  | badRequest               -- 400 (`rPath == "" || rPath[0] != '/'`)
  | panic (s : ISite)
  | outOfFuel
  deriving DecidableEq, Repr

def mGET : Bytes := [71, 69, 84]
def mCONNECT : Bytes := [67, 79, 78, 78, 69, 67, 84]

/-- the `HandleMethodNotAllowed` loop: the other method trees, with the `*paramsPointer` the
previous lookups left -/
def notAllowedLoop : List Router → Bytes → Bytes → List Bytes → Nat → Bool → ServedI
  | [], _, _, _, _, _ => .notFound
  | t :: r, method, rPath, arr, plen, unesc =>
    if t.method = method then notAllowedLoop r method rPath arr plen unesc
    else match findIter t.root rPath arr plen unesc with
      | none => .outOfFuel
      | some (.panic s) => .panic s
      | some (.value (some _) _ _ _ _ _) => .notAllowed
      | some (.value none _ _ _ arr' plen') => notAllowedLoop r method rPath arr' plen' unesc

/-- `Engine.ServeHTTP` from `rPath` on (Host check, `UseRawPath`/`RemoveExtraSlash` rewriting of
`rPath` are done by the caller; `RedirectFixedPath` off), on a context whose `Params` is empty with
capacity `maxParams`. -/
def Engine.serveIter (e : Engine) (o : Opts) (method rPath : Bytes) : ServedI :=
  match rPath with
  | [] => .badRequest
  | c :: _ =>
    if c ≠ 47 then .badRequest
    else
      let arr0 : List Bytes := List.replicate e.maxParams []
      let tail := fun (arr : List Bytes) (plen : Nat) =>
        if o.handleMethodNotAllowed then notAllowedLoop e.trees method rPath arr plen o.unescape else ServedI.notFound
      match treesGet e.trees method with
      | none => tail arr0 0
      | some t =>
        match findIter t.root rPath arr0 0 o.unescape with
        | none => .outOfFuel
        | some (.panic s) => .panic s
        | some (.value (some h) fp ps _ _ _) => .handler ⟨h, fp, ps⟩
        | some (.value none _ _ tsr arr plen) =>
          if method ≠ mCONNECT && rPath ≠ [47] && tsr && o.redirectTrailingSlash then
            .redirect (if method = mGET then 301 else 307)
          else tail arr plen

end Hertz.Route.Iter
